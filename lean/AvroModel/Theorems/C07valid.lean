import AvroModel.Lemmas.ValidParsesRead
import AvroModel.Lemmas.ValidParsesReg
import AvroModel.Lemmas.ValidParsesCycle
import AvroModel.Lemmas.ValidParsesConv
import AvroModel.Lemmas.ValidParsesGas
import AvroModel.Theorems.C08spec
/-
C07, totality at the level of the specification: every schema document that is valid
(`Spec.ValidDoc`, `Spec/ValidDoc.lean`) parses, and every reference resolves to the named type
the specification designates.

The parts are `Lemmas/ValidParses*.lean` (DESIGN.md 11.1, *Schemas*).
Concrete documents — tightness, findings, non-vacuity — are in `Theorems/C07validExamples.lean`.
-/
namespace Avro.Theorems
open Avro Avro.Impl Avro.Spec Avro.Spec.Pcf Avro.PcfSpec Avro.ValidParses

theorem validDoc_parts {j : Json} (hv : ValidDoc j = true) :
    shape j = true ∧ noForwardRefs j = true ∧ namesDistinct j = true ∧ wellTyped j = true := by
  simpa [ValidDoc, and_assoc] using hv

/-- The stages before late resolution succeed on a valid document; no reference is left pending
    and the name table holds exactly the names the document defines. -/
theorem C07_valid_registers (j : Json) (n : Nat) (hv : ValidDoc j = true)
    (hn : schemaSize j ≤ n) :
    ∃ raw k st, rawOfJson (rawGas j) j = .ok raw ∧ registerNode (n + 2) raw none {} = .ok (k, st) ∧
      st.unresolved = [] ∧ st.names.map (·.1) = ((definedNames j).map keyOf).reverse := by
  obtain ⟨hshape, hnf, hdist, hwt⟩ := validDoc_parts hv
  obtain ⟨raw, hraw⟩ := rawOfJson_succeeds hwt (parseDepth_le_rawGas j)
  obtain ⟨hcanon, hscan⟩ := raw_of_json_spec hraw none
  obtain ⟨c, hc⟩ := Option.isSome_iff_exists.mp hshape
  obtain ⟨D', hD'⟩ := Option.isSome_iff_exists.mp hnf
  rw [hcanon] at hc
  rw [hscan] at hD'
  have hdefs : definedNames j = defsRaw none raw := read_defs hraw none
  have hpre : Pre {} (defsRaw none raw) [] :=
    ⟨by rw [← hdefs]; exact nodupB_nodup hdist, by simp [tkeys], by simp⟩
  have hsz := read_size hraw
  obtain ⟨k, st, hreg, hout⟩ :=
    register_succeeds (f := n + 2) (by omega) hc hD' (read_regOk hraw hwt) hpre
  refine ⟨raw, k, st, hraw, hreg, hout.unres, ?_⟩
  have := hout.keys
  simpa [tkeys, hdefs] using this

/-- Totality, with the cycle hypothesis stated on the resolved graph (as `C07_parse_succeeds`). -/
theorem C07_valid_parses_graph (j : Json) (n : Nat) (hv : ValidDoc j = true)
    (hd : jsonNesting j ≤ 127) (hn : schemaSize j ≤ n) :
    ∃ raw k st, rawOfJson (rawGas j) j = .ok raw ∧ registerNode (n + 2) raw none {} = .ok (k, st) ∧
      st.unresolved = [] ∧
      ((¬ ∃ i, Relation.TransGen (recEdge (graphOf st)) i i) →
        parseJson j n = .ok (graphOf st)) := by
  obtain ⟨raw, k, st, hraw, hreg, hun, -⟩ := C07_valid_registers j n hv hn
  refine ⟨raw, k, st, hraw, hreg, hun, fun hacyc => ?_⟩
  exact C07_parse_succeeds j n raw k st hd hraw hreg (by simp [hun]) hacyc

/-- **C07, totality**: a valid schema document, within the recursion limit of `serde_json`, in
    which no record unconditionally contains itself, is accepted — for every registration fuel
    `n ≥ schemaSize j`.  (Which graph, and what the name table holds:
    `C07_valid_parses_graph`, `C07_valid_registers`.) -/
theorem C07_valid_parses (j : Json) (n : Nat) (hv : ValidDoc j = true)
    (hd : jsonNesting j ≤ 127) (hn : schemaSize j ≤ n) (hc : NoUnconditionalCycle j) :
    ∃ S, parseJson j n = .ok S := by
  obtain ⟨raw, k, st, hraw, hreg, hun, hgraph⟩ := C07_valid_parses_graph j n hv hd hn
  obtain ⟨rank, hrank⟩ := hc
  exact ⟨_, hgraph (ranked_acyclic hreg hun (read_ranked hraw none hrank))⟩

/-- **C07**: a valid document parses, and the parsed graph denotes what the specification says
    the document denotes: its canonical form — every definition under the fullname the
    specification gives it, every reference replaced by the fullname it designates and bound to
    the node of that definition — is the specification's Parsing Canonical Form of the
    document. -/
theorem C07_valid_parses_and_resolves (j : Json) (n : Nat) (hv : ValidDoc j = true)
    (hd : jsonNesting j ≤ 127) (hn : schemaSize j ≤ n) (hc : NoUnconditionalCycle j) :
    ∃ S text, parseJson j n = .ok S ∧ parsingCanonicalForm j = some text ∧
      ∀ fuel, n + 2 ≤ fuel → canonicalForm S fuel = .ok text := by
  obtain ⟨S, hS⟩ := C07_valid_parses j n hv hd hn hc
  obtain ⟨text, h1, h2⟩ := C08_pcf_is_spec_text j n S hS (validDoc_parts hv).2.1
  exact ⟨S, text, hS, h1, h2⟩

/-- All hypotheses decidable: `ValidDoc`, the two size bounds, and the test
    `noUnconditionalCycleB` (which computes a ranking and checks it). -/
theorem C07_valid_parses_checked (j : Json) (n : Nat) (hv : ValidDoc j = true)
    (hd : jsonNesting j ≤ 127) (hn : schemaSize j ≤ n) (hc : noUnconditionalCycleB j = true) :
    ∃ S text, parseJson j n = .ok S ∧ parsingCanonicalForm j = some text ∧
      ∀ fuel, n + 2 ≤ fuel → canonicalForm S fuel = .ok text :=
  C07_valid_parses_and_resolves j n hv hd hn (noUnconditionalCycleB_sound hc)

/-! ### tightness -/

/-- A general converse for the first conjunct: an accepted document without forward reference
    has the shape of a schema. -/
theorem C07_parses_shape (j : Json) (n : Nat) (S : SchemaMut) (h : parseJson j n = .ok S)
    (hnf : noForwardRefs j = true) : shape j = true := by
  obtain ⟨c, hc, -⟩ := C08_pcf_is_spec j n S h hnf
  simp [shape, hc]

/-- A general converse for the third conjunct: an accepted document defines no fullname twice
    (by `registered_defs_nodup`: the name table of its registration is the list of the names it
    defines). -/
theorem C07_parses_names_distinct (j : Json) (n : Nat) (S : SchemaMut)
    (h : parseJson j n = .ok S) : namesDistinct j = true := by
  obtain ⟨raw, k, st, -, hraw, hreg, -, -, -⟩ := C07_parse_ok j n S h
  have := (registered_defs_nodup hreg).1
  rw [← read_defs hraw none] at this
  exact nodupB_of_nodup this

/-- the four conjuncts, the two sizes, the outcome -/
structure Verdict where
  shape : Bool
  noForwardRefs : Bool
  namesDistinct : Bool
  wellTyped : Bool
  depthOk : Bool
  sizeOk : Bool
  error : Option SchemaErr
  deriving DecidableEq, Repr

def verdict (j : Json) (n : Nat) : Verdict :=
  ⟨shape j, noForwardRefs j, namesDistinct j, wellTyped j, decide (jsonNesting j ≤ 127),
    decide (schemaSize j ≤ n),
    match parseJson j n with
    | .ok _ => none
    | .error e => some e⟩

/-- Under the hypotheses of `C07_valid_parses` the verdict is known without running the parser. -/
theorem verdict_of_valid {j : Json} {n : Nat} (hv : ValidDoc j = true) (hd : jsonNesting j ≤ 127)
    (hn : schemaSize j ≤ n) (hc : NoUnconditionalCycle j) :
    verdict j n = ⟨true, true, true, true, true, true, none⟩ := by
  obtain ⟨hs, hnf, hdist, hwt⟩ := validDoc_parts hv
  obtain ⟨S, hS⟩ := C07_valid_parses j n hv hd hn hc
  simp [verdict, hs, hnf, hdist, hwt, hd, hn, hS]

/-- Beyond the recursion limit of `serde_json` the document is rejected before it is read. -/
theorem verdict_of_deep {j : Json} {n : Nat} (hv : ValidDoc j = true) (hd : 127 < jsonNesting j)
    (hn : schemaSize j ≤ n) :
    verdict j n = ⟨true, true, true, true, false, true, some .json⟩ := by
  obtain ⟨hs, hnf, hdist, hwt⟩ := validDoc_parts hv
  simp [verdict, parseJson, hs, hnf, hdist, hwt, hd, hn, Nat.not_le.mpr hd]

/-! ### array schemas nested `n` deep, for every `n` -/

/-- the recursion limit of `serde_json`: array schemas nested 127 deep are accepted, 128 deep are
    rejected (as the crate does) -/
def nestedArrays : Nat → Json
  | 0 => .str "int"
  | n + 1 => .obj [("type", .str "array"), ("items", nestedArrays n)]

theorem nestedArrays_nesting (n : Nat) : jsonNesting (nestedArrays n) = n := by
  induction n with
  | zero => rfl
  | succ n ih => simp [nestedArrays, jsonNesting, jsonNestingMembers, ih]; omega

theorem nestedArrays_size (n : Nat) : schemaSize (nestedArrays n) = 2 * n + 2 := by
  induction n with
  | zero => rfl
  | succ n ih =>
    simp (decide := true) [nestedArrays, schemaSize, sizeAttr, sizeFieldsAttr, ih]; omega

theorem nestedArrays_shape (n : Nat) (enc : Option String) :
    (canon enc (nestedArrays n)).isSome = true := by
  induction n with
  | zero => rfl
  | succ n ih =>
    obtain ⟨c, hc⟩ := Option.isSome_iff_exists.mp ih
    simp (decide := true) [nestedArrays, canon, canonAttr, strAttr, attr, hc]

theorem nestedArrays_scan (n : Nat) (enc : Option String) (D : List Fullname) :
    scan enc (nestedArrays n) D = some D := by
  induction n with
  | zero => rfl
  | succ n ih => simp (decide := true) [nestedArrays, scan, scanAttr, strAttr, attr, ih]

theorem nestedArrays_defs (n : Nat) (enc : Option String) :
    definedNamesIn enc (nestedArrays n) = [] := by
  induction n with
  | zero => rfl
  | succ n ih => simp (decide := true) [nestedArrays, definedNamesIn, defsAttr, strAttr, attr, ih]

theorem nestedArrays_wellTyped (n : Nat) : wellTyped (nestedArrays n) = true := by
  induction n with
  | zero => decide
  | succ n ih =>
    simp (decide := true) [nestedArrays, wellTyped, scalarsOk, wtOpt, wtFieldsAttr, knownKeys,
      keyOnce, strAttr, natAttr, attr, isTypeName, isPrimitive, primitiveNames, complexNames,
      optStrAttr, optNatAttr, optSymbolsAttr, ih]

theorem nestedArrays_ranked (n : Nat) (rank : Fullname → Nat) (enc : Option String) :
    ranked rank enc (nestedArrays n) = true := by
  induction n with
  | zero => rfl
  | succ n ih => simp (decide := true) [nestedArrays, ranked, rankedAttr, strAttr, attr, ih]

theorem nestedArrays_valid (n : Nat) : ValidDoc (nestedArrays n) = true := by
  simp [ValidDoc, shape, noForwardRefs, namesDistinct, definedNames, nestedArrays_shape,
    nestedArrays_scan, nestedArrays_defs, nestedArrays_wellTyped, nodupB]

/-- The recursion limit is the only limit: array schemas nested up to 127 deep are accepted … -/
theorem nestedArrays_accepted {n m : Nat} (hn : n ≤ 127) (hm : 2 * n + 2 ≤ m) :
    verdict (nestedArrays n) m = ⟨true, true, true, true, true, true, none⟩ :=
  verdict_of_valid (nestedArrays_valid n) (by rw [nestedArrays_nesting]; exact hn)
    (by rw [nestedArrays_size]; exact hm) ⟨fun _ => 0, nestedArrays_ranked n _ _⟩

/-- … and deeper ones are rejected before they are read. -/
theorem nestedArrays_rejected {n m : Nat} (hn : 127 < n) (hm : 2 * n + 2 ≤ m) :
    verdict (nestedArrays n) m = ⟨true, true, true, true, false, true, some .json⟩ :=
  verdict_of_deep (nestedArrays_valid n) (by rw [nestedArrays_nesting]; exact hn)
    (by rw [nestedArrays_size]; exact hm)


/-- `record R { f : R }`: valid per the specification, no ranking exists, rejected. -/
def docSelfRecord : Json :=
  .obj [("type", .str "record"), ("name", .str "R"),
    ("fields", .arr [.obj [("name", .str "f"), ("type", .str "R")]])]

end Avro.Theorems
