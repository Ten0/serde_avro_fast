import AvroModel.Theorems.C20fits
import AvroModel.Theorems.C20names
/-
C20, wider, with enums that map to unions: `C20_fits_widerU` for the fragment `FitWfWU`
(`Lemmas/DeriveWiderURealizes.lean`), which extends `FitWfW` (`FitWfW_toWU`) with **enums that map to
unions**, so that one theorem covers generic records, generic forwarding newtypes, `Option<T>` of a
marked parameter AND union enums:

(a) unit variants and newtype variants whose payload is any closed type of the fragment — generic
    instantiations included (`enum E { A(Pair<i32>), B(N<String>) }`); union enums may be arguments
    of generic records (`Pair<E>`, at parameters that are not marked "plain");
(b) newtype variants whose payload is *written* `[u8; N]` (behind pointers): the variant owns a
    `fixed` node named `<enum>.<variant>` (`ownedName d (.newtypeVariant v.ident) ""`), under which
    name — short or full — serde must present the variant;
(c) **generic** such enums (`enum G<T> { A(Vec<T>), B(HashMap<String, Option<T>>) }`), instantiated
    any number of times, also nested in themselves; their parameters take part in the marks of
    `FitWfW`.  Two restrictions on the variants of a *generic* enum: no payload written `[u8; N]`
    (the crate's open defect D24: the variant-owned fixed carries no hash, two instantiations define
    it twice — `C20_generic_union_owned_collides`, `D24_program_excluded`); the lookup names of each
    payload must not depend on the instantiation — so not a bare parameter
    (`bare_param_payload_fails`), not a generic record, and (a restriction of the check only) not an
    instantiation of a generic newtype.

The naming condition is the text-level one of `C20_fits_unions_text` (`UnionNamesTextW`, decidable,
part of `FitWfWU`): each variant's serde name is a lookup name of its own branch and of no other.
A variant whose payload is an instantiation of a *generic record* never satisfies it (the record's
name ends in the hash of its lookup type): such a variant cannot be selected by name.
-/
namespace Avro.Theorems
open Avro Avro.Impl Avro.Impl.Derive Avro.Theorems.DeriveFits

/-- **C20 (fits), wider fragment with enums that map to unions.**  For a program of the fragment
    `FitWfWU` (generic records, generic forwarding newtypes, `Option<T>` of a bare parameter whose
    instantiations are all plain, union enums — generic ones too; in non-generic ones `[u8; N]`
    newtype variants included — whose variants' serde names name their own branch and no other),
    every value of the root type serializes under the schema derived for it. -/
theorem C20_fits_widerU (ext : Avro.Impl.Ext) (P : Prog) (hash : Key → String) (fuel : Nat) (root : Ty)
    (Sm : SchemaMut) (f : Nat) (sv : SV)
    (hbuild : schemaMut P hash fuel root = some Sm) (hwf : DeriveWU.FitWfWU P root = true)
    (hs : hasShape P f root sv = true) :
    (ser ext false (freezeNodes Sm) ((freezeNodes Sm)[0]!) sv {}).1 = .ok () :=
  C20_fits_of_realizes ext P _ root f sv (C20_schema_realizes_widerU P hash fuel root Sm hbuild hwf) hs

/-- Nothing is lost: the fragment of `C20_fits_wider` (hence those of `C20_fits_generic`, `C20_fits`)
    is part of `FitWfWU`.  (`DeriveWU.FitWfW_toWU`, under a name in `Avro.Theorems`.) -/
theorem FitWfW_toWU {P : Prog} {root : Ty} (h : DeriveW.FitWfW P root = true) : DeriveWU.FitWfWU P root = true :=
  DeriveWU.FitWfW_toWU h

theorem FitWfG_toWU {P : Prog} {root : Ty} (h : DeriveG.FitWfG P root = true) : DeriveWU.FitWfWU P root = true :=
  FitWfW_toWU (DeriveW.FitWfG_toW h)

/-! ### Non-vacuity (a): union enums in the generic line

`struct Pair<T> { a: T, b: Vec<T> }`, `struct N<T>(T);`, `struct R<T> { x: Option<T>, rest: Vec<T> }`,
`struct Rec { x: i32 }`,
`enum E { #[serde(rename = "Null")] Nothing, #[serde(rename = "String")] S(N<String>),
  #[serde(rename = "m.Rec")] R(Box<Rec>), #[serde(rename = "Array")] V(Vec<Pair<i64>>) }`,
`struct Root { e: E, p: Pair<E>, r: R<Pair<E>>, m: HashMap<String, E> }`. -/

def unionWideProg : Prog := #[
  { ident := "Pair", nparams := 1, modulePath := "m", body := .record [
      { name := "a", ty := .param 0 }, { name := "b", ty := .vec (.param 0) } ] },
  { ident := "N", nparams := 1, modulePath := "m", body := .newtype { name := "0", ty := .param 0 } },
  { ident := "R", nparams := 1, modulePath := "m", body := .record [
      { name := "x", ty := .option (.param 0) }, { name := "rest", ty := .vec (.param 0) } ] },
  { ident := "Rec", modulePath := "m", body := .record [{ name := "x", ty := .i32 }] },
  { ident := "E", modulePath := "m", body := .union [
      { ident := "Nothing", serdeName := "Null", field := none },
      { ident := "S", serdeName := "String", field := some { name := "0", ty := .named 1 [.string] } },
      { ident := "R", serdeName := "m.Rec", field := some { name := "0", ty := .ptr (.named 3 []) } },
      { ident := "V", serdeName := "Array", field := some { name := "0", ty := .vec (.named 0 [.i64]) } } ] },
  { ident := "Root", modulePath := "m", body := .record [
      { name := "e", ty := .named 4 [] },
      { name := "p", ty := .named 0 [.named 4 []] },
      { name := "r", ty := .named 2 [.named 0 [.named 4 []]] },
      { name := "m", ty := .hashMap (.named 4 []) } ] } ]

theorem unionWideProg_fitWfWU : DeriveWU.FitWfWU unionWideProg (.named 5 []) = true := by decide +kernel

/-- It is outside both narrower fragments: `FitWfW` has no union enums, `FitWfU` no generics. -/
example : DeriveW.FitWfW unionWideProg (.named 5 []) = false := by decide +kernel
example : FitWfU unionWideProg (.named 5 []) = false := by decide +kernel

example : ((schemaMut unionWideProg DeriveNames.hashDemo 40 (.named 5 [])).map (·.size)) = some 16 := by
  decide +kernel

example : hasShape unionWideProg 12 (.named 5 []) (.struct "Root" [
    ("e", .newtypeVariant "E" 1 "String" (.newtypeStruct "N" (.str "s"))),
    ("p", .struct "Pair" [
      ("a", .unitVariant "E" 0 "Null"),
      ("b", .seq (some 2) [
        .newtypeVariant "E" 2 "m.Rec" (.struct "Rec" [("x", .int .i32 7)]),
        .newtypeVariant "E" 3 "Array" (.seq (some 1) [
          .struct "Pair" [("a", .int .i64 1), ("b", .seq (some 0) [])]])])]),
    ("r", .struct "R" [
      ("x", .some (.struct "Pair" [("a", .unitVariant "E" 0 "Null"), ("b", .seq (some 0) [])])),
      ("rest", .seq (some 0) [])]),
    ("m", .map (some 1) [(.str "k", .unitVariant "E" 0 "Null")])]) = true := by decide +kernel

/-- Every value of `Root` serializes under the derived schema. -/
example (ext : Avro.Impl.Ext) (hash : Key → String) (fuel : Nat) (Sm : SchemaMut) (f : Nat) (sv : SV)
    (hbuild : schemaMut unionWideProg hash fuel (.named 5 []) = some Sm)
    (hs : hasShape unionWideProg f (.named 5 []) sv = true) :
    (ser ext false (freezeNodes Sm) ((freezeNodes Sm)[0]!) sv {}).1 = .ok () :=
  C20_fits_widerU ext unionWideProg hash fuel _ Sm f sv hbuild unionWideProg_fitWfWU hs

/-! ### Non-vacuity (b): newtype variants written `[u8; N]`

`enum K { #[serde(rename = "A")] A([u8; 4]), #[serde(rename = "m.K.B")] B(Box<[u8; 4]>),
  #[serde(rename = "String")] C(String), #[serde(rename = "u8_array_4")] D(N<[u8; 4]>) }`:
`A` and `B` own the fixeds `m.K.A`, `m.K.B` (short name resp. fullname as serde name); `D`'s payload
is written `N<[u8; 4]>`, goes through `find_or_build` and gets the shared `u8_array_4`. -/

def fixedVariantProg : Prog := #[
  { ident := "N", nparams := 1, modulePath := "m", body := .newtype { name := "0", ty := .param 0 } },
  { ident := "K", modulePath := "m", body := .union [
      { ident := "A", serdeName := "A", field := some { name := "0", ty := .byteArray 4 } },
      { ident := "B", serdeName := "m.K.B", field := some { name := "0", ty := .ptr (.byteArray 4) } },
      { ident := "C", serdeName := "String", field := some { name := "0", ty := .string } },
      { ident := "D", serdeName := "u8_array_4", field := some { name := "0", ty := .named 0 [.byteArray 4] } } ] } ]

theorem fixedVariantProg_fitWfWU : DeriveWU.FitWfWU fixedVariantProg (.vec (.named 1 [])) = true := by
  decide +kernel

/-- Outside the narrower fragments (`FitWfU` excludes `[u8; N]` payloads even without the generic `N`). -/
example : DeriveW.FitWfW fixedVariantProg (.vec (.named 1 [])) = false := by decide +kernel
example : FitWfU fixedVariantProg (.vec (.named 1 [])) = false := by decide +kernel
example : FitWfU (#[
  { ident := "K", modulePath := "m", body := .union [
      { ident := "A", serdeName := "A", field := some { name := "0", ty := .byteArray 4 } },
      { ident := "C", serdeName := "String", field := some { name := "0", ty := .string } } ] } ] : Prog)
    (.named 0 []) = false := by decide +kernel

/-- The names defined by the schema: the two variant-owned fixeds and the shared `u8_array_4`. -/
example : (schemaMut fixedVariantProg DeriveNames.hashDemo 40 (.vec (.named 1 []))).map definedNames =
    some ["m.K.A", "m.K.B", "u8_array_4"] := by decide +kernel

example : hasShape fixedVariantProg 8 (.vec (.named 1 [])) (.seq (some 4) [
    .newtypeVariant "K" 0 "A" (.bytes [1, 2, 3, 4]),
    .newtypeVariant "K" 1 "m.K.B" (.bytes [5, 6, 7, 8]),
    .newtypeVariant "K" 2 "String" (.str "x"),
    .newtypeVariant "K" 3 "u8_array_4" (.newtypeStruct "N" (.bytes [9, 9, 9, 9]))]) = true := by
  decide +kernel

example (ext : Avro.Impl.Ext) (hash : Key → String) (fuel : Nat) (Sm : SchemaMut) (f : Nat) (sv : SV)
    (hbuild : schemaMut fixedVariantProg hash fuel (.vec (.named 1 [])) = some Sm)
    (hs : hasShape fixedVariantProg f (.vec (.named 1 [])) sv = true) :
    (ser ext false (freezeNodes Sm) ((freezeNodes Sm)[0]!) sv {}).1 = .ok () :=
  C20_fits_widerU ext fixedVariantProg hash fuel _ Sm f sv hbuild fixedVariantProg_fitWfWU hs

/-! ### Evaluation helpers for the counterexamples -/

def extWU0 : Avro.Impl.Ext :=
  { asF32 := fun _ => 0, decFromF64 := fun _ => none, decParse := fun _ => none, decRescale := fun x _ => x }

/-- Whether the value serializes under the schema derived for `root` (`none`: no schema). -/
def fitsAtU (P : Prog) (root : Ty) (sv : SV) : Option Bool :=
  (schemaMut P DeriveNames.hashDemo 40 root).map fun Sm =>
    match (ser extWU0 false (freezeNodes Sm) ((freezeNodes Sm)[0]!) sv {}).1 with
    | .ok _ => true
    | .error _ => false

/-! ### The naming condition is necessary -/

/-- `enum K { #[serde(rename = "X")] A([u8; 4]), #[serde(rename = "Y")] B([u8; 4]) }`: the variant-owned
    fixeds are called `m.K.A`, `m.K.B`; neither `X` nor `Y` names a branch. -/
def fixedVariantBadProg : Prog := #[
  { ident := "K", modulePath := "m", body := .union [
      { ident := "A", serdeName := "X", field := some { name := "0", ty := .byteArray 4 } },
      { ident := "B", serdeName := "Y", field := some { name := "0", ty := .byteArray 4 } } ] } ]

/-- **A `[u8; N]` variant must be presented under a name of the variant-owned fixed**: the program
    passes every other check of the fragment, `K::B([1,2,3,4])` is a value of the type, and the
    serializer rejects it (by-name selection finds nothing, and selection by type is ambiguous). -/
theorem fixed_variant_wrong_name_fails :
    DeriveWU.FitWfWithU fixedVariantBadProg DeriveW.noMarks 10 (.named 0 []) = true ∧
    DeriveWU.FitWfWU fixedVariantBadProg (.named 0 []) = false ∧
    hasShape fixedVariantBadProg 4 (.named 0 []) (.newtypeVariant "K" 1 "Y" (.bytes [1, 2, 3, 4])) = true ∧
    ∃ Sm, schemaMut fixedVariantBadProg DeriveNames.hashDemo 40 (.named 0 []) = some Sm ∧
      (ser extWU0 false (freezeNodes Sm) ((freezeNodes Sm)[0]!)
        (.newtypeVariant "K" 1 "Y" (.bytes [1, 2, 3, 4])) {}).1 ≠ .ok () :=
  ⟨by decide +kernel, by decide +kernel, by decide +kernel, not_fits_of_eval (by decide +kernel)⟩

/-- The same enum with the names of the two fixeds swapped (`A` presented as `B` and vice versa). -/
def fixedVariantSwapProg : Prog := #[
  { ident := "K", modulePath := "m", body := .union [
      { ident := "A", serdeName := "B", field := some { name := "0", ty := .byteArray 4 } },
      { ident := "B", serdeName := "A", field := some { name := "0", ty := .byteArray 4 } } ] } ]

/-- "… and of no other": with swapped names the check fails; the serializer does accept
    `K::A([1,2,3,4])`, but writes it with the discriminant of `B` (zig-zag `2`), i.e. as `K::B(..)`. -/
theorem fixed_variant_swapped_names_wrong_branch :
    DeriveWU.FitWfWU fixedVariantSwapProg (.named 0 []) = false ∧
    (schemaMut fixedVariantSwapProg DeriveNames.hashDemo 40 (.named 0 [])).map (fun Sm =>
      (ser extWU0 false (freezeNodes Sm) ((freezeNodes Sm)[0]!)
        (.newtypeVariant "K" 0 "B" (.bytes [1, 2, 3, 4])) {}).2.out) = some [2, 1, 2, 3, 4] :=
  ⟨by decide +kernel, by decide +kernel⟩

/-- `enum U { A([u8; 4]), N }` with serde's default name `N` for the unit variant. -/
def unitVariantBadProg : Prog := #[
  { ident := "U", modulePath := "m", body := .union [
      { ident := "A", serdeName := "A", field := some { name := "0", ty := .byteArray 4 } },
      { ident := "N", serdeName := "N", field := none } ] } ]

/-- **A unit variant must be presented as `Null`.** -/
theorem unit_variant_wrong_name_fails :
    DeriveWU.FitWfWithU unitVariantBadProg DeriveW.noMarks 10 (.named 0 []) = true ∧
    DeriveWU.FitWfWU unitVariantBadProg (.named 0 []) = false ∧
    hasShape unitVariantBadProg 4 (.named 0 []) (.unitVariant "U" 1 "N") = true ∧
    ∃ Sm, schemaMut unitVariantBadProg DeriveNames.hashDemo 40 (.named 0 []) = some Sm ∧
      (ser extWU0 false (freezeNodes Sm) ((freezeNodes Sm)[0]!) (.unitVariant "U" 1 "N") {}).1 ≠ .ok () :=
  ⟨by decide +kernel, by decide +kernel, by decide +kernel, not_fits_of_eval (by decide +kernel)⟩

/-- `enum E { A(Pair<i32>), B(Pair<String>) }` (serde's default names): the payloads are
    instantiations of a generic record, whose names end in the hash of the lookup type. -/
def genericPayloadProg : Prog := #[
  { ident := "Pair", nparams := 1, modulePath := "m", body := .record [
      { name := "a", ty := .param 0 }, { name := "b", ty := .vec (.param 0) } ] },
  { ident := "E", modulePath := "m", body := .union [
      { ident := "A", serdeName := "A", field := some { name := "0", ty := .named 0 [.i32] } },
      { ident := "B", serdeName := "B", field := some { name := "0", ty := .named 0 [.string] } } ] } ]

/-- **A variant whose payload is a generic record cannot be named from the program text**: the naming
    check rejects it whatever the serde name (`branchNamesW` is `none`), and `E::A(Pair { a: 1, b: [] })`
    is rejected by the serializer. -/
theorem generic_record_payload_fails :
    DeriveWU.FitWfWithU genericPayloadProg DeriveW.noMarks 10 (.named 1 []) = true ∧
    DeriveWU.FitWfWU genericPayloadProg (.named 1 []) = false ∧
    (∀ n, DeriveWU.branchNamesW genericPayloadProg n (.named 0 [.i32]) = none) ∧
    hasShape genericPayloadProg 6 (.named 1 [])
      (.newtypeVariant "E" 0 "A" (.struct "Pair" [("a", .int .i32 1), ("b", .seq (some 0) [])])) = true ∧
    ∃ Sm, schemaMut genericPayloadProg DeriveNames.hashDemo 40 (.named 1 []) = some Sm ∧
      (ser extWU0 false (freezeNodes Sm) ((freezeNodes Sm)[0]!)
        (.newtypeVariant "E" 0 "A" (.struct "Pair" [("a", .int .i32 1), ("b", .seq (some 0) [])])) {}).1 ≠
        .ok () :=
  ⟨by decide +kernel, by decide +kernel, fun n => by cases n <;> rfl, by decide +kernel,
    not_fits_of_eval (by decide +kernel)⟩

/-! ### Non-vacuity (c): generic enums that map to unions

`enum G<T> { #[serde(rename = "Null")] N, #[serde(rename = "Array")] A(Vec<T>),
  #[serde(rename = "Map")] M(HashMap<String, Option<T>>), #[serde(rename = "m.Rec")] R(Box<Rec>) }`,
`struct Pair<T> { a: T, b: Vec<T> }`, `struct Rec { x: i32 }`,
`struct Root { a: G<i32>, b: G<Pair<String>>, c: Pair<G<i32>>, d: G<Vec<G<bool>>> }`: four
instantiations of `G` — `G<i32>` twice (one node), an instantiation with a generic record, one nested
in itself.  The parameter of `G` is marked (it sits under `Option`), so `G<Option<_>>` — and
`G<G<_>>` — are rejected. -/

def genericUnionProg : Prog := #[
  { ident := "G", nparams := 1, modulePath := "m", body := .union [
      { ident := "N", serdeName := "Null", field := none },
      { ident := "A", serdeName := "Array", field := some { name := "0", ty := .vec (.param 0) } },
      { ident := "M", serdeName := "Map", field := some { name := "0", ty := .hashMap (.option (.param 0)) } },
      { ident := "R", serdeName := "m.Rec", field := some { name := "0", ty := .ptr (.named 2 []) } } ] },
  { ident := "Pair", nparams := 1, modulePath := "m", body := .record [
      { name := "a", ty := .param 0 }, { name := "b", ty := .vec (.param 0) } ] },
  { ident := "Rec", modulePath := "m", body := .record [{ name := "x", ty := .i32 }] },
  { ident := "Root", modulePath := "m", body := .record [
      { name := "a", ty := .named 0 [.i32] },
      { name := "b", ty := .named 0 [.named 1 [.string]] },
      { name := "c", ty := .named 1 [.named 0 [.i32]] },
      { name := "d", ty := .named 0 [.vec (.named 0 [.bool])] } ] } ]

theorem genericUnionProg_fitWfWU : DeriveWU.FitWfWU genericUnionProg (.named 3 []) = true := by
  decide +kernel

example : DeriveW.FitWfW genericUnionProg (.named 3 []) = false := by decide +kernel
example : FitWfU genericUnionProg (.named 3 []) = false := by decide +kernel

/-- The inferred marks: the parameter of `G` (under `Option`), not that of `Pair`. -/
example : (List.range 2).map (fun id => DeriveWU.inferMarksU genericUnionProg 40 id 0) = [true, false] := by
  decide +kernel

/-- `G<Option<i32>>` is rejected (the schema would be `[.., {map of [null, [null, int]]}, ..]`). -/
example : DeriveWU.FitWfWU genericUnionProg (.named 0 [.option .i32]) = false := by decide +kernel
example : DeriveWU.FitWfWU genericUnionProg (.named 0 [.i32]) = true := by decide +kernel

example : ((schemaMut genericUnionProg DeriveNames.hashDemo 40 (.named 3 [])).map (·.size)) = some 27 := by
  decide +kernel

example : hasShape genericUnionProg 12 (.named 3 []) (.struct "Root" [
    ("a", .newtypeVariant "G" 1 "Array" (.seq (some 2) [.int .i32 1, .int .i32 2])),
    ("b", .newtypeVariant "G" 2 "Map" (.map (some 2) [
      (.str "k", .some (.struct "Pair" [("a", .str "x"), ("b", .seq (some 0) [])])), (.str "l", .none)])),
    ("c", .struct "Pair" [
      ("a", .unitVariant "G" 0 "Null"),
      ("b", .seq (some 1) [.newtypeVariant "G" 3 "m.Rec" (.struct "Rec" [("x", .int .i32 7)])])]),
    ("d", .newtypeVariant "G" 1 "Array" (.seq (some 1) [.seq (some 1) [
      .newtypeVariant "G" 1 "Array" (.seq (some 1) [.bool true])]]))]) = true := by decide +kernel

/-- Every value of `Root` serializes under the derived schema. -/
example (ext : Avro.Impl.Ext) (hash : Key → String) (fuel : Nat) (Sm : SchemaMut) (f : Nat) (sv : SV)
    (hbuild : schemaMut genericUnionProg hash fuel (.named 3 []) = some Sm)
    (hs : hasShape genericUnionProg f (.named 3 []) sv = true) :
    (ser ext false (freezeNodes Sm) ((freezeNodes Sm)[0]!) sv {}).1 = .ok () :=
  C20_fits_widerU ext genericUnionProg hash fuel _ Sm f sv hbuild genericUnionProg_fitWfWU hs

/-- `enum G<T> { #[serde(rename = "Int")] A(T), #[serde(rename = "String")] S(String) }`: the name of
    `A`'s branch depends on the instantiation. -/
def bareParamUnionProg : Prog := #[
  { ident := "G", nparams := 1, modulePath := "m", body := .union [
      { ident := "A", serdeName := "Int", field := some { name := "0", ty := .param 0 } },
      { ident := "S", serdeName := "String", field := some { name := "0", ty := .string } } ] } ]

/-- **A variant of a generic enum whose payload is a bare parameter cannot be named from the text**: the
    check rejects it; `G<i32>` happens to work with the name `Int`, but at `G<String>` both branches
    are the one `string` node and `G::A("x")` is rejected. -/
theorem bare_param_payload_fails :
    DeriveWU.FitWfWithU bareParamUnionProg DeriveW.noMarks 10 (.named 0 [.string]) = true ∧
    DeriveWU.FitWfWU bareParamUnionProg (.named 0 [.string]) = false ∧
    fitsAtU bareParamUnionProg (.named 0 [.i32]) (.newtypeVariant "G" 0 "Int" (.int .i32 5)) = some true ∧
    hasShape bareParamUnionProg 4 (.named 0 [.string]) (.newtypeVariant "G" 0 "Int" (.str "x")) = true ∧
    ∃ Sm, schemaMut bareParamUnionProg DeriveNames.hashDemo 40 (.named 0 [.string]) = some Sm ∧
      (ser extWU0 false (freezeNodes Sm) ((freezeNodes Sm)[0]!)
        (.newtypeVariant "G" 0 "Int" (.str "x")) {}).1 ≠ .ok () :=
  ⟨by decide +kernel, by decide +kernel, by decide +kernel, by decide +kernel,
    not_fits_of_eval (by decide +kernel)⟩

/-! ### `[u8; N]` payloads in generic enums are excluded (defect D24) -/

/-- A generic enum that maps to a union with a variant written `[u8; N]` is rejected by the check,
    whatever the table of marks. -/
theorem generic_union_fixed_rejected (P : Prog) (M : DeriveW.Marks) (K id : Nat) (d : Decl) (vs : List Variant)
    (hb : d.body = .union vs) (hn : d.nparams ≠ 0) (v : Variant) (hv : v ∈ vs) (fd : Field)
    (hf : v.field = some fd) (hdir : isDirect fd (.newtypeVariant v.ident) = false) :
    DeriveWU.declOkWU P M K id d = false := by
  cases h : DeriveWU.declOkWU P M K id d with
  | false => rfl
  | true =>
    rcases (DeriveWU.declOkWU_union hb h v hv).2 with h' | h'
    · exact absurd h' hn
    · simp [DeriveWU.directV, hf, hdir] at h'

/-- The program of the open defect D24 (`enum E<T> { A([u8; 4]), B(Vec<T>) }` instantiated twice:
    the schema defines `m.E.A` twice, `C20_generic_union_owned_collides`) is outside the fragment;
    without the `[u8; 4]` variant it is inside. -/
theorem D24_program_excluded :
    (schemaMut progD24 DeriveNames.hashDemo 20 (.named 1 [])).map definedNames =
      some ["m.Outer", "m.E.A", "m.E.A"] ∧
    DeriveWU.FitWfWU progD24 (.named 1 []) = false ∧
    DeriveWU.FitWfWU (progD24.modify 0 fun d => { d with body := .union [
        ⟨"A", "Bytes", some { name := "0", ty := .byteVec }⟩,
        ⟨"B", "Array", some { name := "0", ty := .vec (.param 0) }⟩] }) (.named 1 []) = true :=
  ⟨C20_generic_union_owned_collides, by decide +kernel, by decide +kernel⟩

end Avro.Theorems
