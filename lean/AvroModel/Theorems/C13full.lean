import AvroModel.Theorems.C13
import AvroModel.Theorems.C14
import AvroModel.Lemmas.RecordPresentations
import AvroModel.Lemmas.ExceptEq
/-
C13, second half: a theorem file (not a collection of imports like the other `CxxFull` modules);
it is the module the check of C13 builds because it imports the first half (`C13.lean`).
What `C13_order_independent` leaves open: omitted nullable fields are written as null, the map and
the struct-variant presentations are the struct presentation, unknown / duplicate / missing
non-nullable fields are rejected, and all of it together (`C13_presentation_independent`).
-/
namespace Avro.Theorems
open Avro Avro.Impl

/-! ### Nullable fields -/

/-- `fieldNullable S k`: the node at key `k` is `null`, or a union in which the type-directed
    lookup for null selects a branch. -/
theorem C13_fieldNullable_iff (S : Schema) (k : Nat) :
    fieldNullable S k = true ↔
      S[k]? = some .null ∨
      ∃ vs d, S[k]? = some (.union vs) ∧ unnamedLookup .null (branchNodes S vs) = some d := by
  unfold fieldNullable
  cases hk : S[k]? with
  | none => simp
  | some n =>
    constructor
    · intro h
      cases n <;> first | exact .inl rfl | cases h | skip
      obtain ⟨d, hd⟩ := Option.isSome_iff_exists.mp h
      exact .inr ⟨_, d, rfl, hd⟩
    · rintro (h | ⟨vs, d, h, hd⟩) <;> cases h
      · rfl
      · simp only [nullableNode, hd, Option.isSome_some]

/-- The null encoding of a `null` field is empty. -/
theorem C13_nullEnc_null {S : Schema} {k : Nat} (h : S[k]? = some .null) : nullEnc S k = [] := by
  simp [nullEnc, h, nullEncNode]

/-- The null encoding of a nullable union field is the discriminant of its null branch — and that
    branch is indeed a `null` node. -/
theorem C13_nullEnc_union {S : Schema} {k : Nat} {vs : List Nat} {d : Nat}
    (h : S[k]? = some (.union vs)) (hl : unnamedLookup .null (branchNodes S vs) = some d) :
    nullEnc S k = encodeVarI64 d ∧ (branchNodes S vs)[d]? = some .null := by
  simp [nullEnc, h, nullEncNode, hl, unnamedLookup_null_get hl]

/-- The value with which a partial presentation is completed: omitted fields become `None`. -/
def completeVals (vals : Nat → SV) (order : List Nat) : Nat → SV :=
  fun i => if i ∈ order then vals i else .none

/-! ### Omitted nullable fields -/

/-- C13 (omitted nullable fields, explicit bytes).  Field names pairwise distinct; `order` lists,
    without repetition and in any order, the indices of the presented fields; each presented value
    `vals i` serializes on its own to `enc i`; every field not in `order` is nullable and `enc i`
    is its null encoding.  Then the struct presentation succeeds on any unlimited writer and clean
    pool, appends exactly `enc 0 ++ … ++ enc (n-1)`, and leaves the pool clean. -/
theorem C13_partial_bytes (ext : Ext) (allowSlow : Bool) (S : Schema) (nm : Name)
    (fields : List (String × Nat)) (enc : Nat → Bytes) (vals : Nat → SV)
    (hnd : (fields.map (·.1)).Nodup)
    (hkeys : ∀ f ∈ fields, ∃ node, S[f.2]? = some node)
    (order : List Nat) (hon : order.Nodup) (hlt : ∀ i ∈ order, i < fields.length)
    (henc : ∀ i ∈ order, ∀ f node, fields[i]? = some f → S[f.2]? = some node →
      ∃ t, ser ext allowSlow S node (vals i) {} = (.ok (), t) ∧ t.out = enc i)
    (hnull : ∀ i f, fields[i]? = some f → i ∉ order →
      fieldNullable S f.2 = true ∧ enc i = nullEnc S f.2)
    (name : String) (s : SerState) (hb : s.budget = none) (hc : PoolClean s.pool) :
    ∃ s', ser ext allowSlow S (.record nm fields) (.struct name (presOf fields vals order)) s =
        (.ok (), s') ∧
      s'.out = s.out ++ (List.range fields.length).flatMap enc ∧ s'.budget = none ∧
      PoolClean s'.pool :=
  (ser_record_partial ext allowSlow S nm fields enc vals hnd hkeys order hon hlt henc hnull name s
    hb (PoolClean.iff_base.1 hc)).imp fun _ h => ⟨h.1, h.2.1, h.2.2.1, PoolClean.iff_base.2 h.2.2.2⟩

/-- The bytes of field `i` in a presentation of the fields `order` with values `vals`. -/
def fieldBytes (ext : Ext) (allowSlow : Bool) (S : Schema) (fields : List (String × Nat))
    (vals : Nat → SV) (order : List Nat) (i : Nat) : Bytes :=
  match fields[i]? with
  | some f =>
    match S[f.2]? with
    | some node =>
      if i ∈ order then (ser ext allowSlow S node (vals i) {}).2.out else nullEncNode S node
    | none => []
  | none => []

theorem fieldBytes_presented {ext : Ext} {allowSlow : Bool} {S : Schema}
    {fields : List (String × Nat)} {vals : Nat → SV} {order : List Nat} {i : Nat}
    {f : String × Nat} {node : Node} (hf : fields[i]? = some f) (hnode : S[f.2]? = some node)
    (hi : i ∈ order) :
    fieldBytes ext allowSlow S fields vals order i = (ser ext allowSlow S node (vals i) {}).2.out := by
  simp only [fieldBytes, hf, hnode, if_pos hi]

theorem fieldBytes_omitted {ext : Ext} {allowSlow : Bool} {S : Schema}
    {fields : List (String × Nat)} {vals : Nat → SV} {order : List Nat} {i : Nat}
    {f : String × Nat} (hf : fields[i]? = some f) (hi : i ∉ order) :
    fieldBytes ext allowSlow S fields vals order i = nullEnc S f.2 := by
  simp only [fieldBytes, hf, nullEnc, if_neg hi]
  cases S[f.2]? <;> rfl

theorem ser_none_nullable (ext : Ext) (allowSlow : Bool) {S : Schema} {node : Node}
    (hn : nullableNode S node = true) :
    ser ext allowSlow S node .none {} = (.ok (), { out := nullEncNode S node }) := by
  rw [ser, serUnit_nullable hn _ rfl]
  simp

/-! ### The map presentation -/

/-- C13 (map presentation).  On the record node itself, `serialize_map(len)` with the field
    names as `serialize_str` keys gives exactly the result (`Ok`/error *and* final state: bytes,
    remaining budget, pool) of `serialize_struct(name, …)` with the same fields in the same order
    — for every advertised length `len` (including `None`: `structStartAt` ignores the length on a
    record), every struct name, every state.  No hypothesis on the fields. -/
theorem C13_map_presentation (ext : Ext) (allowSlow : Bool) (S : Schema) (nm : Name)
    (fields : List (String × Nat)) (len : Option Nat) (name : String) (pres : List (String × SV))
    (s : SerState) :
    ser ext allowSlow S (.record nm fields) (.map len (strKeyEntries pres)) s =
      ser ext allowSlow S (.record nm fields) (.struct name pres) s :=
  ser_map_eq_struct ext allowSlow S nm fields len name pres s

/-- The same for `serialize_struct_variant`. -/
theorem C13_structVariant_presentation (ext : Ext) (allowSlow : Bool) (S : Schema) (nm : Name)
    (fields : List (String × Nat)) (name name' : String) (idx : Nat) (variant : String)
    (pres : List (String × SV)) (s : SerState) :
    ser ext allowSlow S (.record nm fields) (.structVariant name' idx variant pres) s =
      ser ext allowSlow S (.record nm fields) (.struct name pres) s :=
  ser_structVariant_eq_struct ext allowSlow S nm fields name name' idx variant pres s

/-- C13 (map presentation at a union).  At a union the two presentations are routed differently:
    the struct first looks its *name* up among the branches, and only if that fails uses the
    type-directed lookup (`structOrMap`), which is all the map does.  They coincide when the
    type-directed lookup selects a record branch `d` and the struct name selects the same branch
    or no branch at all.  (Otherwise they differ: see the example at the end of this file, a union
    of two records, where the struct is accepted by name and the map is rejected.) -/
theorem C13_map_presentation_union (ext : Ext) (allowSlow : Bool) (S : Schema) (vs : List Nat)
    (d k : Nat) (nm : Name) (fields : List (String × Nat))
    (hsel : unnamedLookup .structOrMap (branchNodes S vs) = some d)
    (hd : vs[d]? = some k) (hk : S[k]? = some (.record nm fields))
    (len : Option Nat) (name : String)
    (hname : namedLookup name (branchNodes S vs) = none ∨
      namedLookup name (branchNodes S vs) = some d)
    (pres : List (String × SV)) (s : SerState) :
    ser ext allowSlow S (.union vs) (.map len (strKeyEntries pres)) s =
      ser ext allowSlow S (.union vs) (.struct name pres) s := by
  -- on the record node itself both presentations run the same `structStartAt … >>= …`
  have hrec := funext (C13_map_presentation ext allowSlow S nm fields len name pres)
  rw [ser, ser] at hrec ⊢
  simp only [viaName, viaUnion] at hrec
  rw [viaUnion_sel _ hsel hd hk, hrec]
  rcases hname with hn | hn
  · rw [viaName_union_none _ hn, viaUnion_sel _ hsel hd hk]
  · rw [viaName_sel _ hn hd hk]
    simp only [viaUnion]

/-! ### Rejections -/

/-- C13 (unknown field).  A struct presentation containing a name that is not a field of the
    record fails — whatever the other presented fields, their values, their order, the writer and
    the pool. -/
theorem C13_unknown_field_err (ext : Ext) (allowSlow : Bool) (S : Schema) (nm : Name)
    (fields : List (String × Nat)) (name : String) (pres : List (String × SV)) (s : SerState)
    (bad : String) (hbad : bad ∉ fields.map (·.1)) (hmem : bad ∈ pres.map (·.1)) :
    ∃ e, (ser ext allowSlow S (.record nm fields) (.struct name pres) s).1 = .error e :=
  ser_struct_unknown_err ext allowSlow S fields nm name pres s hbad hmem

/-- C13 (duplicate field).  With pairwise distinct field names in the schema, a struct
    presentation in which some name occurs twice fails — whatever the names (a duplicated unknown
    name is rejected as unknown), the values, the order, the writer and the pool.  This covers
    both situations of the second copy: the first one already written (`C13_duplicate_written`:
    `field_idx` fails) and the first one still waiting in its buffer (`C13_duplicate_buffered`:
    the slot is found occupied). -/
theorem C13_duplicate_field_err (ext : Ext) (allowSlow : Bool) (S : Schema) (nm : Name)
    (fields : List (String × Nat)) (hnd : (fields.map (·.1)).Nodup)
    (name : String) (pres : List (String × SV)) (s : SerState)
    (hdup : ¬ (pres.map (·.1)).Nodup) :
    ∃ e, (ser ext allowSlow S (.record nm fields) (.struct name pres) s).1 = .error e :=
  ser_struct_dup_err ext allowSlow S fields hnd nm name pres s hdup

/-- Second copy of a field that was already written (`i < current`): `field_idx` returns the
    `custom` error. -/
theorem C13_duplicate_written {fields : List (String × Nat)} (hnd : (fields.map (·.1)).Nodup)
    {rs : RecordState} (hinv : SlotInv rs) {i : Nat} {f : String × Nat}
    (hf : fields[i]? = some f) (hw : i < rs.current) :
    fieldIdx fields rs f.1 = .error .custom := by
  rcases fieldIdx_done hnd hinv hf (.inl hw) with ⟨_, h⟩ | ⟨_, h, _⟩
  · exact h
  · omega

/-- Second copy of a field whose first copy is still buffered: `field_idx` finds its slot, and
    `serialize_field` rejects it with the `custom` error without touching the writer or the
    pool. -/
theorem C13_duplicate_buffered {S : Schema} {fields : List (String × Nat)}
    (hnd : (fields.map (·.1)).Nodup) {rs : RecordState} (hinv : SlotInv rs) {i : Nat}
    {f : String × Nat} {node : Node} (hf : fields[i]? = some f) (hnode : S[f.2]? = some node)
    {b : Buffer} (hb : rs.buffers.slots[i]? = some (some b)) (serv : Node → SerM Unit)
    (s : SerState) :
    fieldIdx fields rs f.1 = .ok i ∧
      ∃ rs', recordValue S fields rs i serv s = (.error (.custom, rs'), s) := by
  have hcur := hinv i b hb
  rcases fieldIdx_done hnd hinv hf (.inr ⟨b, hb⟩) with ⟨h, _⟩ | ⟨h, _, _⟩
  · omega
  · exact ⟨h, recordValue_occupied_custom hf hnode (by omega) hb⟩

/-- C13 (missing field).  A struct presentation that does not present the non-nullable field
    `i` fails — whatever is presented otherwise. -/
theorem C13_missing_required_err (ext : Ext) (allowSlow : Bool) (S : Schema) (nm : Name)
    (fields : List (String × Nat)) (name : String) (pres : List (String × SV)) (s : SerState)
    (i : Nat) (f : String × Nat) (hf : fields[i]? = some f)
    (hnn : fieldNullable S f.2 = false) (habs : f.1 ∉ pres.map (·.1)) :
    ∃ e, (ser ext allowSlow S (.record nm fields) (.struct name pres) s).1 = .error e :=
  ser_struct_missing_err ext allowSlow S fields nm name pres s hf hnn habs

/-- The three rejections for the map presentation (by `C13_map_presentation`). -/
theorem C13_map_rejections (ext : Ext) (allowSlow : Bool) (S : Schema) (nm : Name)
    (fields : List (String × Nat)) (len : Option Nat) (pres : List (String × SV)) (s : SerState)
    (h : (∃ bad, bad ∉ fields.map (·.1) ∧ bad ∈ pres.map (·.1)) ∨
      ((fields.map (·.1)).Nodup ∧ ¬ (pres.map (·.1)).Nodup) ∨
      (∃ (i : Nat) (f : String × Nat), fields[i]? = some f ∧ fieldNullable S f.2 = false ∧
        f.1 ∉ pres.map (·.1))) :
    ∃ e, (ser ext allowSlow S (.record nm fields) (.map len (strKeyEntries pres)) s).1 = .error e := by
  rw [C13_map_presentation ext allowSlow S nm fields len "" pres s]
  rcases h with ⟨bad, h1, h2⟩ | ⟨h1, h2⟩ | ⟨i, f, h1, h2, h3⟩
  · exact C13_unknown_field_err ext allowSlow S nm fields "" pres s bad h1 h2
  · exact C13_duplicate_field_err ext allowSlow S nm fields h1 "" pres s h2
  · exact C13_missing_required_err ext allowSlow S nm fields "" pres s i f h1 h2 h3

/-- Whatever is presented and whatever the outcome (in particular after each of the rejections
    above), a clean pool is handed back clean: C14.1. -/
theorem C13_pool_clean (ext : Ext) (allowSlow : Bool) (S : Schema) (node : Node) (sv : SV)
    (s : SerState) (hc : PoolClean s.pool) :
    PoolClean (ser ext allowSlow S node sv s).2.pool :=
  C14_pool_clean ext allowSlow S node sv s hc

/-! ### Presentation independence -/

/-- The three ways a record value reaches the serializer. -/
inductive RecPresKind
  | struct (name : String)
  | structVariant (name : String) (idx : Nat) (variant : String)
  | map (len : Option Nat)

def RecPresKind.sv : RecPresKind → List (String × SV) → SV
  | .struct name, pres => .struct name pres
  | .structVariant name idx variant, pres => .structVariant name idx variant pres
  | .map len, pres => .map len (strKeyEntries pres)

/-- On the record node the kind of presentation is irrelevant (result and final state). -/
theorem C13_kind_independent (ext : Ext) (allowSlow : Bool) (S : Schema) (nm : Name)
    (fields : List (String × Nat)) (k : RecPresKind) (name : String) (pres : List (String × SV))
    (s : SerState) :
    ser ext allowSlow S (.record nm fields) (k.sv pres) s =
      ser ext allowSlow S (.record nm fields) (.struct name pres) s := by
  cases k with
  | struct name' =>
    show ser ext allowSlow S (.record nm fields) (.struct name' pres) s = _
    rw [ser_struct_record_eq, ser_struct_record_eq]
  | structVariant name' idx variant =>
    exact C13_structVariant_presentation ext allowSlow S nm fields name name' idx variant pres s
  | map len => exact C13_map_presentation ext allowSlow S nm fields len name pres s

/-- A field presented as null: `serialize_none` or `serialize_unit`. -/
def presentsNull : SV → Bool
  | .none | .unit => true
  | _ => false

theorem ser_presentsNull (ext : Ext) (allowSlow : Bool) {S : Schema} {node : Node} {v : SV}
    (hv : presentsNull v = true) (hn : nullableNode S node = true) :
    ser ext allowSlow S node v {} = (.ok (), { out := nullEncNode S node }) := by
  cases v <;> simp only [presentsNull] at hv <;> try cases hv
  · exact ser_none_nullable ext allowSlow hn
  · rw [ser, serUnit_nullable hn _ rfl]; simp

section bytes
variable (ext : Ext) (allowSlow : Bool) (S : Schema) (nm : Name) (fields : List (String × Nat))

/-- Any one presentation — struct, struct variant or map, distinct fields in any order, only
    nullable fields omitted, every presented value serializing on its own — succeeds and writes
    the schema-order concatenation of its `fieldBytes`. -/
theorem presentation_bytes (hnd : (fields.map (·.1)).Nodup)
    (hkeys : ∀ f ∈ fields, ∃ node, S[f.2]? = some node) (k : RecPresKind) (vals : Nat → SV)
    (order : List Nat) (hon : order.Nodup) (hlt : ∀ i ∈ order, i < fields.length)
    (hvals : ∀ i ∈ order, ∀ f node, fields[i]? = some f → S[f.2]? = some node →
      ∃ t, ser ext allowSlow S node (vals i) {} = (.ok (), t))
    (hnull : ∀ i f, fields[i]? = some f → i ∉ order → fieldNullable S f.2 = true)
    (s : SerState) (hb : s.budget = none) (hc : PoolClean s.pool) :
    ∃ s', ser ext allowSlow S (.record nm fields) (k.sv (presOf fields vals order)) s =
        (.ok (), s') ∧
      s'.out = s.out ++
        (List.range fields.length).flatMap (fieldBytes ext allowSlow S fields vals order) ∧
      PoolClean s'.pool := by
  rw [C13_kind_independent ext allowSlow S nm fields k ""]
  obtain ⟨s', e, o, _, c⟩ := C13_partial_bytes ext allowSlow S nm fields
    (fieldBytes ext allowSlow S fields vals order) vals hnd hkeys order hon hlt
    (fun i hi f node hf hnode => by
      obtain ⟨t, ht⟩ := hvals i hi f node hf hnode
      exact ⟨t, ht, by rw [fieldBytes_presented hf hnode hi, ht]⟩)
    (fun i f hf hi => ⟨hnull i f hf hi, fieldBytes_omitted hf hi⟩) "" s hb hc
  exact ⟨s', e, o, c⟩

theorem fieldBytes_null_eq {vals vals' : Nat → SV} {order order' : List Nat} {i : Nat}
    {f : String × Nat} {node : Node} (hf : fields[i]? = some f) (hnode : S[f.2]? = some node)
    (hi : i ∈ order) (hi' : i ∉ order') (hv : presentsNull (vals i) = true)
    (hn : fieldNullable S f.2 = true) :
    fieldBytes ext allowSlow S fields vals order i =
      fieldBytes ext allowSlow S fields vals' order' i := by
  unfold fieldNullable at hn
  rw [hnode] at hn
  rw [fieldBytes_presented hf hnode hi, fieldBytes_omitted hf hi',
    ser_presentsNull ext allowSlow hv hn]
  simp only [nullEnc, hnode]

end bytes

/-- C13 (presentation independence).  Two presentations of the same record — each a struct, a
    struct variant or a map with string keys, each listing its fields `orderⱼ` without repetition
    in any order, each omitting only nullable fields, every presented value serializing on its
    own — that agree on the fields they both present, and such that a field presented by only one
    of them is presented as null (`None`/`()`) by that one: both succeed and write the same bytes
    (given explicitly), and both leave the pool clean. -/
theorem C13_presentation_independent (ext : Ext) (allowSlow : Bool) (S : Schema) (nm : Name)
    (fields : List (String × Nat)) (hnd : (fields.map (·.1)).Nodup)
    (hkeys : ∀ f ∈ fields, ∃ node, S[f.2]? = some node)
    (k1 k2 : RecPresKind) (vals1 vals2 : Nat → SV) (order1 order2 : List Nat)
    (hon1 : order1.Nodup) (hon2 : order2.Nodup)
    (hlt1 : ∀ i ∈ order1, i < fields.length) (hlt2 : ∀ i ∈ order2, i < fields.length)
    (hvals1 : ∀ i ∈ order1, ∀ f node, fields[i]? = some f → S[f.2]? = some node →
      ∃ t, ser ext allowSlow S node (vals1 i) {} = (.ok (), t))
    (hvals2 : ∀ i ∈ order2, ∀ f node, fields[i]? = some f → S[f.2]? = some node →
      ∃ t, ser ext allowSlow S node (vals2 i) {} = (.ok (), t))
    (hnull1 : ∀ i f, fields[i]? = some f → i ∉ order1 → fieldNullable S f.2 = true)
    (hnull2 : ∀ i f, fields[i]? = some f → i ∉ order2 → fieldNullable S f.2 = true)
    (hagree : ∀ i, i ∈ order1 → i ∈ order2 → vals1 i = vals2 i)
    (honly1 : ∀ i, i ∈ order1 → i ∉ order2 → presentsNull (vals1 i) = true)
    (honly2 : ∀ i, i ∈ order2 → i ∉ order1 → presentsNull (vals2 i) = true)
    (s : SerState) (hb : s.budget = none) (hc : PoolClean s.pool) :
    let r1 := ser ext allowSlow S (.record nm fields) (k1.sv (presOf fields vals1 order1)) s
    let r2 := ser ext allowSlow S (.record nm fields) (k2.sv (presOf fields vals2 order2)) s
    r1.1 = .ok () ∧ r2.1 = .ok () ∧ r1.2.out = r2.2.out ∧
      r1.2.out =
        s.out ++ (List.range fields.length).flatMap (fieldBytes ext allowSlow S fields vals1 order1) ∧
      PoolClean r1.2.pool ∧ PoolClean r2.2.pool := by
  intro r1 r2
  obtain ⟨s1, e1, o1, c1⟩ := presentation_bytes ext allowSlow S nm fields hnd hkeys k1 vals1 order1
    hon1 hlt1 hvals1 hnull1 s hb hc
  obtain ⟨s2, e2, o2, c2⟩ := presentation_bytes ext allowSlow S nm fields hnd hkeys k2 vals2 order2
    hon2 hlt2 hvals2 hnull2 s hb hc
  -- field by field the two presentations have the same bytes
  have hfb : (List.range fields.length).flatMap (fieldBytes ext allowSlow S fields vals1 order1) =
      (List.range fields.length).flatMap (fieldBytes ext allowSlow S fields vals2 order2) := by
    rw [List.flatMap_def, List.flatMap_def]
    refine congrArg _ (List.map_congr_left fun i hi => ?_)
    have hf := List.getElem?_eq_getElem (List.mem_range.mp hi)
    obtain ⟨node, hnode⟩ := hkeys _ (List.getElem_mem (List.mem_range.mp hi))
    by_cases h1 : i ∈ order1 <;> by_cases h2 : i ∈ order2
    · rw [fieldBytes_presented hf hnode h1, fieldBytes_presented hf hnode h2, hagree i h1 h2]
    · exact fieldBytes_null_eq ext allowSlow S fields hf hnode h1 h2 (honly1 i h1 h2)
        (hnull2 i _ hf h2)
    · exact (fieldBytes_null_eq ext allowSlow S fields hf hnode h2 h1 (honly2 i h2 h1)
        (hnull1 i _ hf h1)).symm
    · rw [fieldBytes_omitted hf h1, fieldBytes_omitted hf h2]
  simp only [r1, r2, e1, e2]
  exact ⟨trivial, trivial, by rw [o1, o2, hfb], o1, c1, c2⟩

/-- C13 (omitted nullable fields).  A struct presentation of the fields `order` (no repetition,
    any order) that omits only nullable fields succeeds, and writes exactly the bytes written for
    the full in-order presentation in which every omitted field is presented as `None`
    (`completeVals`).  Both outputs are given explicitly: the schema-order concatenation of
    `fieldBytes` (the field's own encoding if presented, its null encoding otherwise). -/
theorem C13_omitted_nullable (ext : Ext) (allowSlow : Bool) (S : Schema) (nm : Name)
    (fields : List (String × Nat)) (vals : Nat → SV)
    (hnd : (fields.map (·.1)).Nodup)
    (hkeys : ∀ f ∈ fields, ∃ node, S[f.2]? = some node)
    (order : List Nat) (hon : order.Nodup) (hlt : ∀ i ∈ order, i < fields.length)
    (hvals : ∀ i ∈ order, ∀ f node, fields[i]? = some f → S[f.2]? = some node →
      ∃ t, ser ext allowSlow S node (vals i) {} = (.ok (), t))
    (hnull : ∀ i f, fields[i]? = some f → i ∉ order → fieldNullable S f.2 = true)
    (name : String) (s : SerState) (hb : s.budget = none) (hc : PoolClean s.pool) :
    let partialRun := ser ext allowSlow S (.record nm fields)
      (.struct name (presOf fields vals order)) s
    let fullRun := ser ext allowSlow S (.record nm fields)
      (.struct name (presOf fields (completeVals vals order) (List.range fields.length))) s
    partialRun.1 = .ok () ∧ fullRun.1 = .ok () ∧
      partialRun.2.out =
        s.out ++ (List.range fields.length).flatMap (fieldBytes ext allowSlow S fields vals order) ∧
      fullRun.2.out = partialRun.2.out ∧
      PoolClean partialRun.2.pool ∧ PoolClean fullRun.2.pool := by
  intro partialRun fullRun
  -- the two runs are two presentations of the same record: `C13_presentation_independent`
  have h := C13_presentation_independent ext allowSlow S nm fields hnd hkeys (.struct name)
    (.struct name) vals (completeVals vals order) order (List.range fields.length) hon
    List.nodup_range hlt (fun _ hi => List.mem_range.mp hi) hvals
    (fun i _ f node hf hnode => by
      by_cases hi : i ∈ order
      · simp only [completeVals, if_pos hi]; exact hvals i hi f node hf hnode
      · have hn := hnull i f hf hi
        unfold fieldNullable at hn
        rw [hnode] at hn
        simp only [completeVals, if_neg hi]
        exact ⟨_, ser_none_nullable ext allowSlow hn⟩)
    hnull
    (fun _ _ hf hi => (hi (List.mem_range.mpr (List.getElem?_eq_some_iff.mp hf).1)).elim)
    (fun i hi _ => by simp only [completeVals, if_pos hi])
    (fun i hi hi2 => (hi2 (List.mem_range.mpr (hlt i hi))).elim)
    (fun i _ hi => by simp only [completeVals, if_neg hi]; rfl)
    s hb hc
  exact ⟨h.1, h.2.1, h.2.2.2.1, h.2.2.1.symm, h.2.2.2.2.1, h.2.2.2.2.2⟩

/-! ### Non-vacuity: a concrete 4-field record

`R { a : int, b : ["null","string"], c : null, d : boolean }` — `b` is a nullable union field,
`c` a null field, `a` and `d` are required. -/

namespace C13Demo

def extD : Ext :=
  { asF32 := fun _ => 0, decFromF64 := fun _ => none, decParse := fun _ => none,
    decRescale := fun d _ => d }
def nmR : Name := ⟨"R", "R", none⟩
def flds : List (String × Nat) := [("a", 1), ("b", 2), ("c", 3), ("d", 4)]
def Sd : Schema := #[.record nmR flds, .int, .union [3, 5], .null, .boolean, .string]

/-- first presentation: values of `a`, `b`, `d` (index 2 is never presented) -/
def valsD : Nat → SV
  | 0 => .int .i32 3
  | 1 => .str "x"
  | 3 => .bool true
  | _ => .unit

/-- second presentation: `b` explicitly `None` -/
def vals2 : Nat → SV
  | 0 => .int .i32 3
  | 1 => .none
  | 3 => .bool true
  | _ => .unit

theorem flds_nodup : (flds.map (·.1)).Nodup := by decide

theorem flds_keys : ∀ f ∈ flds, ∃ node, Sd[f.2]? = some node := by
  intro f hf
  simp only [flds, List.mem_cons, List.not_mem_nil, or_false] at hf
  rcases hf with rfl | rfl | rfl | rfl <;> exact ⟨_, rfl⟩

theorem lookup_null : unnamedLookup .null (branchNodes Sd [3, 5]) = some 0 := by decide

theorem e0 : encodeVarI64 0 = [0] := by decide +kernel
theorem e1 : encodeVarI64 1 = [2] := by decide +kernel
theorem e3 : encodeVarI64 3 = [6] := by decide +kernel

/-- The nullability hypotheses are as expected on the example: `b` (union with a null branch) and
    `c` (null) are nullable, `a` and `d` are not; the null encodings are `[0]` and `[]`. -/
example : fieldNullable Sd 2 = true ∧ fieldNullable Sd 3 = true ∧ fieldNullable Sd 1 = false ∧
    fieldNullable Sd 4 = false := by decide
example : nullEnc Sd 2 = [0] ∧ nullEnc Sd 3 = [] := by
  have h2 : Sd[2]? = some (.union [3, 5]) := by decide
  exact ⟨by rw [(C13_nullEnc_union h2 lookup_null).1]; exact e0, C13_nullEnc_null (by decide)⟩

theorem valsD_ok : ∀ i ∈ [3, 1, 0], ∀ f node, flds[i]? = some f → Sd[f.2]? = some node →
    ∃ t, ser extD false Sd node (valsD i) {} = (.ok (), t) := by
  intro i hi f node hf hnode
  simp only [List.mem_cons, List.not_mem_nil, or_false] at hi
  rcases hi with rfl | rfl | rfl <;>
  · cases hf
    cases hnode
    exact exists_of_fst_ok (by decide +kernel)

theorem vals2_ok : ∀ i ∈ [1, 0, 3], ∀ f node, flds[i]? = some f → Sd[f.2]? = some node →
    ∃ t, ser extD false Sd node (vals2 i) {} = (.ok (), t) := by
  intro i hi f node hf hnode
  simp only [List.mem_cons, List.not_mem_nil, or_false] at hi
  rcases hi with rfl | rfl | rfl <;>
  · cases hf
    cases hnode
    exact exists_of_fst_ok (by decide +kernel)

/-- Every presentation that contains `a` and `d` omits only nullable fields. -/
theorem nullable_of_not_mem (order : List Nat) (h0 : 0 ∈ order) (h3 : 3 ∈ order) :
    ∀ i f, flds[i]? = some f → i ∉ order → fieldNullable Sd f.2 = true := by
  intro i f hf hi
  rcases i with _ | _ | _ | _ | i
  · exact (hi h0).elim
  · cases hf; rfl
  · cases hf; rfl
  · exact (hi h3).elim
  · cases hf

example : presOf flds valsD [3, 0] = [("d", .bool true), ("a", .int .i32 3)] := rfl
example : presOf flds (completeVals valsD [3, 0]) (List.range flds.length) =
    [("a", .int .i32 3), ("b", .none), ("c", .none), ("d", .bool true)] := rfl

/-- `C13_omitted_nullable` applies: presenting only `d` then `a` succeeds and writes what the full
    in-order presentation with `b = None`, `c = None` writes. -/
example :
    (ser extD false Sd (.record nmR flds)
      (.struct "R" [("d", .bool true), ("a", .int .i32 3)]) {}).1 = .ok () ∧
    (ser extD false Sd (.record nmR flds)
      (.struct "R" [("d", .bool true), ("a", .int .i32 3)]) {}).2.out =
    (ser extD false Sd (.record nmR flds)
      (.struct "R" (presOf flds (completeVals valsD [3, 0]) (List.range flds.length))) {}).2.out := by
  have := C13_omitted_nullable extD false Sd nmR flds valsD flds_nodup flds_keys [3, 0] (by decide)
    (by decide) (fun i hi => valsD_ok i (by revert i; decide))
    (nullable_of_not_mem _ (by decide) (by decide)) "R" {} rfl PoolClean.empty
  exact ⟨this.1, this.2.2.2.1.symm⟩

set_option maxRecDepth 4000 in
/-- … and, evaluated directly: the bytes are `a = 3 ↦ [6]`, `b` omitted `↦ [0]` (discriminant of
    the null branch), `c` omitted `↦ []`, `d = true ↦ [1]`; the one buffer used for `d` and the
    super-buffer are handed back to the pool, emptied. -/
example :
    ser extD false Sd (.record nmR flds) (.struct "R" [("d", .bool true), ("a", .int .i32 3)]) {} =
      (.ok (), { out := [6, 0, 1], budget := none,
                 pool := { buffers := [{ cap := true, data := [] }],
                           superBuffers := [{ cap := true, slots := [] }] } }) := by
  decide +kernel

/-- `C13_presentation_independent` applies: the struct `{d, a}` and the map
    `{"b": None, "a": 3, "d": true}` of unknown length both succeed with the same bytes. -/
example :
    let r1 := ser extD false Sd (.record nmR flds)
      (.struct "R" [("d", .bool true), ("a", .int .i32 3)]) {}
    let r2 := ser extD false Sd (.record nmR flds)
      (.map none [(.str "b", .none), (.str "a", .int .i32 3), (.str "d", .bool true)]) {}
    r1.1 = .ok () ∧ r2.1 = .ok () ∧ r1.2.out = r2.2.out := by
  have := C13_presentation_independent extD false Sd nmR flds flds_nodup flds_keys
    (.struct "R") (.map none) valsD vals2 [3, 0] [1, 0, 3] (by decide) (by decide) (by decide)
    (by decide) (fun i hi => valsD_ok i (by revert i; decide)) vals2_ok
    (nullable_of_not_mem _ (by decide) (by decide)) (nullable_of_not_mem _ (by decide) (by decide))
    (by intro i h1 h2
        simp only [List.mem_cons, List.not_mem_nil, or_false] at h1
        rcases h1 with rfl | rfl <;> rfl)
    (by decide) (by decide) {} rfl PoolClean.empty
  exact ⟨this.1, this.2.1, this.2.2.1⟩

/-- Unknown field `x`, in the middle of otherwise fine fields. -/
example : ∃ e, (ser extD false Sd (.record nmR flds)
    (.struct "R" [("d", .bool true), ("x", .int .i32 3), ("a", .int .i32 3)]) {}).1 = .error e :=
  C13_unknown_field_err extD false Sd nmR flds "R" _ {} "x" (by decide) (by decide)

/-- Duplicate `a`. -/
example : ∃ e, (ser extD false Sd (.record nmR flds)
    (.struct "R" [("a", .int .i32 3), ("d", .bool true), ("a", .int .i32 3)]) {}).1 = .error e :=
  C13_duplicate_field_err extD false Sd nmR flds flds_nodup "R" _ {} (by decide)

/-- Missing required `a`. -/
example : ∃ e, (ser extD false Sd (.record nmR flds)
    (.struct "R" [("d", .bool true), ("b", .none)]) {}).1 = .error e :=
  C13_missing_required_err extD false Sd nmR flds "R" _ {} 0 ("a", 1) rfl (by decide) (by decide)

/-- The same through the map presentation. -/
example : ∃ e, (ser extD false Sd (.record nmR flds)
    (.map (some 2) [(.str "d", .bool true), (.str "b", .none)]) {}).1 = .error e :=
  C13_map_rejections extD false Sd nmR flds (some 2) [("d", .bool true), ("b", .none)] {}
    (.inr (.inr ⟨0, ("a", 1), rfl, by decide, by decide⟩))

set_option maxRecDepth 4000 in
/-- Duplicate whose first copy was already written: `custom` error, `[6]` stays in the writer,
    nothing was taken from the pool. -/
example :
    let r := ser extD false Sd (.record nmR flds)
      (.struct "R" [("a", .int .i32 3), ("a", .int .i32 3)]) {}
    r.1 = .error .custom ∧ r.2.out = [6] ∧ r.2.pool = {} := by
  decide +kernel

set_option maxRecDepth 4000 in
/-- Duplicate whose first copy is still buffered: `custom` error, nothing written, the buffer and
    the super-buffer go back to the pool emptied. -/
example :
    let r := ser extD false Sd (.record nmR flds)
      (.struct "R" [("d", .bool true), ("d", .bool true)]) {}
    r.1 = .error .custom ∧ r.2.out = [] ∧ PoolClean r.2.pool := by
  have hr : ser extD false Sd (.record nmR flds)
      (.struct "R" [("d", .bool true), ("d", .bool true)]) {} =
      (.error .custom, { pool := { buffers := [{ cap := true, data := [] }],
                                   superBuffers := [{ cap := true, slots := [] }] } }) := by
    decide +kernel
  simp only [hr]
  exact ⟨trivial, trivial, by decide, by decide⟩

/-! At a union the struct and the map presentations are routed differently. -/

def nmA : Name := ⟨"A", "A", none⟩
def nmB : Name := ⟨"B", "B", none⟩
/-- a union of two records -/
def Su : Schema := #[.union [1, 2], .record nmA [("x", 3)], .record nmB [("y", 3)], .int]
/-- a nullable record -/
def Sv : Schema := #[.union [1, 2], .null, .record nmB [("y", 3)], .int]

set_option maxRecDepth 4000 in
/-- Union of two records: the struct named `B` is routed to the branch `B` by name and accepted;
    the same fields as a map are rejected (two branches compete for `structOrMap`). -/
example :
    (ser extD false Su (.union [1, 2]) (.struct "B" [("y", .int .i32 1)]) {}).1 = .ok () ∧
    (ser extD false Su (.union [1, 2]) (.struct "B" [("y", .int .i32 1)]) {}).2.out = [2, 2] ∧
    (ser extD false Su (.union [1, 2]) (.map none (strKeyEntries [("y", .int .i32 1)])) {}).1 =
      .error .custom := by
  decide +kernel

/-- Nullable record `["null", B]`: `C13_map_presentation_union` applies, both for the struct name
    `B` (same branch by name) and for a name no branch answers to. -/
example (len : Option Nat) (pres : List (String × SV)) (s : SerState) :
    ser extD false Sv (.union [1, 2]) (.map len (strKeyEntries pres)) s =
      ser extD false Sv (.union [1, 2]) (.struct "B" pres) s ∧
    ser extD false Sv (.union [1, 2]) (.map len (strKeyEntries pres)) s =
      ser extD false Sv (.union [1, 2]) (.struct "SomethingElse" pres) s :=
  ⟨C13_map_presentation_union extD false Sv [1, 2] 1 2 nmB [("y", 3)] (by decide) rfl rfl len "B"
      (.inr (by decide)) pres s,
   C13_map_presentation_union extD false Sv [1, 2] 1 2 nmB [("y", 3)] (by decide) rfl rfl len
      "SomethingElse" (.inl (by decide)) pres s⟩

end C13Demo

end Avro.Theorems
