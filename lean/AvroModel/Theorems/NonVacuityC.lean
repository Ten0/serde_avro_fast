import AvroModel.Theorems.C06
import AvroModel.Theorems.C16
import AvroModel.Theorems.C17
import AvroModel.Theorems.C17stream
import AvroModel.Theorems.C04fuel
/-
Non-vacuity audit, area C: properties C05, C06, C15, C16, C17 (object container files).

`tagCodec` / `tagDecomp` is a NON-identity toy codec (a tag byte, then every byte xor
0x55) satisfying law L1; `drvDatum` is the real datum deserializer exactly as the driver builds it;
`rDatum` the same with the constant fuel the statements of `C17stream.lean` use.  The hypotheses
`DatumOk` / `DatumOkR` (known defect: not met by the real `de`) are only ever discharged with a toy
one-byte datum, to show that the OTHER hypotheses of those theorems are jointly satisfiable.
-/
namespace Avro.Theorems.NonVacuityC
open Avro Avro.Impl Avro.Impl.Ocf Avro.Impl.GrowLoop Avro.Theorems Avro.C06

deriving instance DecidableEq for Sink
deriving instance DecidableEq for WState
deriving instance DecidableEq for Reader
deriving instance DecidableEq for Header

/-! ## C05: grow loops -/

/-- a compressor holding a 40000-byte stream that emits ONE byte per call (40000 schedule entries
    of 1), against the real starting buffer of 32 KiB -/
def dribble : Comp := { total := List.replicate 40000 7, sched := List.replicate 40000 1 }

example (kind : Kind) : encode kind 32768 dribble = .ok dribble.total :=
  C05_growloop_complete kind dribble 32768 rfl (by decide)

example : ∃ st, encodeLoop .xz (2 * dribble.total.length + dribble.sched.length + 64)
      { cap := 32768, comp := dribble } = .ok st ∧ st.out = dribble.total ∧ 32768 ≤ st.cap ∧
      st.cap < 2 * max 32768 (dribble.total.length + 1) :=
  C05_growloop_cap_bounded_encode .xz (by decide) dribble 32768 rfl (by decide)

/-- the bound evaluates to 80002: the buffer ends at 65536 at most -/
example : 2 * max 32768 (dribble.total.length + 1) = 80002 := by
  simp only [dribble, List.length_replicate]; decide

/-- scaled down (buffer 4, stream 10, one byte per call), evaluated: bzip2/xz double twice, only
    when full -/
def dribble10 : Comp := { total := [1, 2, 3, 4, 5, 6, 7, 8, 9, 10], sched := List.replicate 10 1 }

example : ∃ st, encodeLoop .bzip2 11 { cap := 4, comp := dribble10 } = .ok st ∧
    st.out = [1, 2, 3, 4, 5, 6, 7, 8, 9, 10] ∧ st.cap = 16 ∧ st.comp.sched = [] :=
  ⟨_, rfl, rfl, rfl, rfl⟩

example (st : LoopState) (h : encodeLoop .bzip2 11 { cap := 4, comp := dribble10 } = .ok st) :
    4 ≤ st.cap ∧ st.cap < 2 * max 4 (dribble10.total.length + 1) :=
  C05_growloop_cap_bounded .bzip2 (by decide) dribble10 4 11 rfl (by decide) st h (by decide)

example (st : LoopState) (h : encodeLoop .deflate 11 { cap := 4, comp := dribble10 } = .ok st) :
    ∃ p, p ≤ dribble10.total.length ∧ st.cap = 4 * 2 ^ p :=
  C05_growloop_cap_deflate dribble10 4 11 rfl (by decide) st h (by decide)

/-- the premise of the last two is met: the loops do end `Ok` -/
example : ∃ st, encodeLoop .deflate 11 { cap := 4, comp := dribble10 } = .ok st ∧ st.cap = 4 * 2 ^ 9 :=
  ⟨_, rfl, rfl⟩

/-- MODEL ASSUMPTION (not a hypothesis): a schedule entry `0` is raised to 1 by `Comp.call`
    (`max k 1`), so "no progress although there is room" cannot be expressed by a schedule. -/
example : (({ total := [1, 2], sched := [0] } : Comp).call 5).2.1 = [1] ∧
    (({ total := [1, 2], sched := [0] } : Comp).call 5).1 = .pending := ⟨rfl, rfl⟩

/-- … `noProgress` is produced only with no room at all -/
example : (({ total := [1, 2] } : Comp).call 0).1 = .noProgress := rfl


/-! ## A non-identity toy codec -/

def tagCompress (x : Bytes) : Bytes := 0xC0 :: x.map (· ^^^ 0x55)
def tagDecompress : Bytes → Option Bytes
  | 0xC0 :: t => some (t.map (· ^^^ 0x55))
  | _ => none

def tagCodec : Codec := { name := "deflate", compress := tagCompress, isNull := false }
def tagDecomp : Decomp := { isNull := false, decompress := tagDecompress }

theorem xor55 (b : UInt8) : (b ^^^ 0x55) ^^^ 0x55 = b := by
  rw [UInt8.xor_assoc]; simp

theorem tag_L1 (x : Bytes) : tagDecomp.decompress (tagCodec.compress x) = some x := by
  show tagDecompress (tagCompress x) = some x
  simp [tagCompress, tagDecompress, List.map_map, Function.comp_def, xor55]

/-- it is not the identity, and garbage is rejected -/
example : tagCodec.compress [2, 4] = [0xC0, 0x57, 0x51] ∧ tagDecomp.decompress [2, 4] = none := by
  decide

def sync16 : Bytes := List.replicate 16 0xAB

/-- a slice reader positioned on a compressed block of 2 values (`02 04 06`), marker, then a second
    block -/
def rdC : Reader :=
  { sync := sync16,
    outer := { rest := encodeVarI64 (2 : Nat) ++ encodeVarI64 (tagCodec.compress [2, 4, 6]).length ++
        tagCodec.compress [2, 4, 6] ++ sync16 ++ [2, 4, 0xC0, 0x5F, 1, 2, 3] } }

example : ∃ r₁, enterBlock tagDecomp rdC = (.ok (), r₁) ∧ r₁.st = .inBlock 2 ∧ r₁.blk.rest = [2, 4, 6] ∧
      r₁.after = sync16 ++ [2, 4, 0xC0, 0x5F, 1, 2, 3] ∧
      ∀ blk' lim', blk'.rest = [] →
        ∃ r₂, leaveBlock tagDecomp { r₁ with st := .inBlock 0, blk := blk', blkLimit := lim' } = (.ok (), r₂) ∧
          r₂.st = .notInBlock ∧ r₂.outer.rest = [2, 4, 0xC0, 0x5F, 1, 2, 3] ∧ r₂.outer.isSlice = true ∧
          r₂.outer.limit = none ∧ r₂.sync = sync16 ∧ r₂.pretendEof = rdC.pretendEof :=
  C05_roundtrip_codec tagCodec tagDecomp rfl rfl 2 [2, 4, 6] sync16 [2, 4, 0xC0, 0x5F, 1, 2, 3] rfl
    (tag_L1 _) (by decide) (by decide) rdC rfl rfl rfl rfl



def jsonInt : Bytes := [0x22, 0x69, 0x6E, 0x74, 0x22]
def nameDeflate : Bytes := [0x64, 0x65, 0x66, 0x6C, 0x61, 0x74, 0x65]
def userMeta1 : List (Bytes × Bytes) := [([0x6B], [1, 2, 3])]
def hdrX : Bytes := headerBytes jsonInt nameDeflate userMeta1 sync16

def opsX : List WOp :=
  [.value (some [2]), .value (some [4]), .finishBlock, .value none, .push [6, 8] 2,
   .value (some [10]), .value (some [12])]
def w0 : WState := { sync := sync16, approx := 3, sink := { data := hdrX } }


/-! ### The invariant `Rep` holds for the writer's REAL initial state -/

/-- the Boolean test the driver uses (`runOcfw`, `benign`) implies `Benign` -/
theorem benign_of_all (sched : List SinkResp)
    (h : sched.all (fun r => match r with
      | .accept k => decide (k ≥ 1) | .interrupted => true | .hardError => false) = true) :
    Benign sched := by
  intro r hr
  have := List.all_eq_true.1 h r hr
  cases r with
  | accept k => exact Or.inr ⟨k, rfl, by simpa using this⟩
  | interrupted => exact Or.inl rfl
  | hardError => simp at this

/-- The driver builds the writer as `writeAllPlain (sinkFuel sink0 [hdr]) hdr sink0` on
    `sink0 = { sched }` and then `w0 = { approx, sync, sink := sink1 }`.  For every benign schedule
    that call returns `Ok` and `core w0` satisfies `Rep … {}` — the hypothesis `h0` of
    `C15_run_benign` — and with the empty schedule `w0` itself satisfies the `h0` of `C15_run`. -/
theorem driver_init_rep (c : Codec) (hdr sync : Bytes) (approx : Nat) (sched : List SinkResp)
    (hb : Benign sched) :
    ∃ s1, writeAllPlain (sinkFuel { sched := sched } [hdr]) hdr { sched := sched } = (.ok (), s1) ∧
      Benign s1.sched ∧
      Rep c hdr sync approx {} (core { approx := approx, sync := sync, sink := s1 }) := by
  obtain ⟨s1, h1, h2, h3⟩ := C16_schedule_independent_plain (sinkFuel { sched := sched } [hdr]) hdr
    { sched := sched } hb (Nat.le_refl _)
  refine ⟨s1, h1, h3, ?_⟩
  have hd : s1.data = hdr := by simpa using h2
  have : core { approx := approx, sync := sync, sink := s1 }
      = { sync := sync, approx := approx, sink := { data := hdr } } := by
    simp [core, hd]
  rw [this]
  exact C15_rep_fresh c hdr sync approx

theorem driver_init_rep_accepting (c : Codec) (hdr sync : Bytes) (approx : Nat) :
    ∃ s1, writeAllPlain (sinkFuel {} [hdr]) hdr {} = (.ok (), s1) ∧
      Rep c hdr sync approx {} { approx := approx, sync := sync, sink := s1 } := by
  obtain ⟨s1, h1, h2, h3⟩ := writeAllVectored_accepting (sinkFuel {} [hdr]) [hdr] {} rfl (Nat.le_refl _)
  refine ⟨s1, h1, ?_⟩
  have hd : s1.data = hdr := by simpa using h2
  exact ⟨⟨rfl, by simp, by simp [blocksBytes, hd]⟩, rfl, rfl, h3, rfl, rfl⟩

/-! ### C15 on a seven-call history: two values, `finish_block`, a FAILING value, a push of two
values, two more values (the first of them closes a block by size), then `Drop` -/

theorem w0_rep : Rep tagCodec hdrX sync16 3 {} w0 := C15_rep_fresh tagCodec hdrX sync16 3

theorem opsX_no_into : ∀ op ∈ opsX, op ≠ .intoInner := by
  intro op h; simp [opsX] at h; rcases h with rfl | rfl | rfl | rfl | rfl | rfl | rfl <;> simp

theorem opsX_push : ∀ b k, WOp.push b k ∈ opsX → 1 ≤ k := by
  intro b k h; simp [opsX] at h; omega

example :
    let a := arun 3 {} opsX
    (wrun tagCodec false w0 opsX).1 = opsX.map expected ∧
      Rep tagCodec hdrX sync16 3 a (wrun tagCodec false w0 opsX).2 ∧
      a.sealed.flatten ++ a.buffered = opsX.flatMap entryOf ∧ SealedPos a :=
  C15_run tagCodec false hdrX sync16 3 opsX opsX_no_into w0 w0_rep

/-- what that abstract state is: two blocks written, one value buffered -/
example : (arun 3 {} opsX).sealed = [[([2], 1), ([4], 1)], [([6, 8], 2), ([10], 1)]] ∧
    (arun 3 {} opsX).buffered = [([12], 1)] := by decide +kernel

example :
    let a := arun 3 {} opsX
    (wrun tagCodec false w0 opsX).2.sink.data = hdrX ++ blocksBytes tagCodec sync16 (a.sealed.map blockOf) ∧
      a.sealed.flatten <+: opsX.flatMap entryOf :=
  C15_run_sink tagCodec false hdrX sync16 3 opsX opsX_no_into w0 w0_rep

example :
    let a := arun 3 {} (opsX ++ [.drop])
    a.buffered = [] ∧ a.sealed.flatten = opsX.flatMap entryOf :=
  C15_run_finished 3 opsX .drop (Or.inr (Or.inr rfl)) opsX_push

/-- the real writer, evaluated: results of the eight calls … -/
example : (wrun tagCodec false w0 (opsX ++ [.drop])).1 =
    [.ok (), .ok (), .ok (), .error .custom, .ok (), .ok (), .ok (), .ok ()] := by
  decide +kernel

/-- … and the bytes after the header: three blocks (counts 2, 3, 1) of "compressed" data -/
example : (wrun tagCodec false w0 (opsX ++ [.drop])).2.sink.data.drop hdrX.length =
    [4, 6, 0xC0, 0x57, 0x51] ++ sync16 ++ [6, 8, 0xC0, 0x53, 0x5D, 0x5F] ++ sync16 ++
    [2, 4, 0xC0, 0x59] ++ sync16 := by
  decide +kernel

/-- `push_serialized(bytes, 0)`: the hypothesis `hpush` of `C15_run_finished` is needed — the bytes
    stay buffered without a count, `Drop` does not write them -/
example : (arun 100 {} [.push [6, 8] 0, .drop]).buffered = [([6, 8], 0)] ∧
    (arun 100 {} [.push [6, 8] 0, .drop]).sealed = [] := by decide +kernel

/-! ### C06 layout on the same history (covers `C15_sink_parses` + `C15_header_parses`) -/

theorem w0_rep_hdr : Rep tagCodec (headerBytes jsonInt nameDeflate userMeta1 sync16) sync16 3 {} w0 :=
  w0_rep

example : ∃ (v : Spec.Ocf.View) (sealed : List (List Entry)),
      Spec.Ocf.parse (wrun tagCodec false w0 (opsX ++ [.drop])).2.sink.data = some v ∧
      v.metadata = (schemaKey, jsonInt) :: (codecKey, nameDeflate) :: userMeta1 ∧
      v.sync = sync16 ∧ v.badSync = false ∧ v.trailing = 0 ∧
      v.blocks = sealed.map (fun b => { count := cntOf b, data := codecData tagCodec (bufOf b) }) ∧
      sealed.flatten = opsX.flatMap entryOf ∧ (∀ b ∈ sealed, 0 < cntOf b) :=
  C06_layout_closed tagCodec false jsonInt nameDeflate userMeta1 sync16 3 opsX .drop
    (Or.inr (Or.inr rfl)) opsX_no_into opsX_push w0 w0_rep_hdr rfl (by decide) (by decide)
    (by decide) (by decide +kernel)

example : ∃ v : Spec.Ocf.View, Spec.Ocf.parse (wrun tagCodec false w0 opsX).2.sink.data = some v ∧
      v.metadata = (schemaKey, jsonInt) :: (codecKey, nameDeflate) :: userMeta1 ∧
      v.sync = sync16 ∧ v.badSync = false ∧ v.trailing = 0 ∧
      v.blocks = (arun 3 {} opsX).sealed.map
        (fun b => { count := cntOf b, data := codecData tagCodec (bufOf b) }) :=
  C06_layout tagCodec false jsonInt nameDeflate userMeta1 sync16 3 opsX opsX_no_into w0 w0_rep_hdr
    rfl (by decide) (by decide) (by decide) (by decide +kernel)

/-- evaluated with the specification parser -/
example : (Spec.Ocf.parse (wrun tagCodec false w0 (opsX ++ [.drop])).2.sink.data).map (·.blocks) =
    some [{ count := 2, data := [0xC0, 0x57, 0x51] }, { count := 3, data := [0xC0, 0x53, 0x5D, 0x5F] },
          { count := 1, data := [0xC0, 0x59] }] := by decide +kernel

example (blocks : List (Nat × Bytes))
    (hb : ∀ b ∈ blocks, b.1 < 2 ^ 63 ∧ (codecData tagCodec b.2).length < 2 ^ 63) :
    Spec.Ocf.parse (headerBytes jsonInt nameDeflate userMeta1 sync16 ++ blocksBytes tagCodec sync16 blocks) =
      some { metadata := (schemaKey, jsonInt) :: (codecKey, nameDeflate) :: userMeta1,
             sync := sync16,
             blocks := blocks.map (fun b => { count := b.1, data := codecData tagCodec b.2 }),
             trailing := 0, badSync := false } :=
  C06_parse_header_blocks tagCodec jsonInt nameDeflate userMeta1 sync16 blocks rfl (by decide)
    (by decide) (by decide) hb


/-! ### C15: a failing value -/

/-- the state after the first three calls of `opsX` (one block written, nothing buffered) -/
def w3 : WState := (wrun tagCodec false w0 (opsX.take 3)).2

theorem w3_rep : Rep tagCodec hdrX sync16 3 (arun 3 {} (opsX.take 3)) w3 :=
  (C15_run tagCodec false hdrX sync16 3 (opsX.take 3)
    (fun op h => opsX_no_into op (List.mem_of_mem_take h)) w0 w0_rep).2.1

example : wstep tagCodec false w3 (.value none) = (.error .custom, w3) :=
  C15_failed_value_noop tagCodec false w3 (by decide +kernel) (by decide +kernel)

example : wstep tagCodec false w3 (.value none) =
    match preFlush tagCodec w3 with
    | (.error e, w₁) => (.error e, w₁)
    | (.ok _, w₁) => (.error .custom, w₁) :=
  C15_failed_value_invisible tagCodec false w3

example : ∃ w', wstep tagCodec false w3 (.value none) = (.error .custom, w') ∧
      Rep tagCodec hdrX sync16 3 (asealIf 3 (arun 3 {} (opsX.take 3))) w' ∧
      (asealIf 3 (arun 3 {} (opsX.take 3))).log = (arun 3 {} (opsX.take 3)).log :=
  C15_failed_value_no_count tagCodec false hdrX sync16 3 _ w3 w3_rep

/-- What `WOp.value none` abstracts.  The REAL serializer leaves the bytes of the fields written
    before the failure in its output (`ser` returns the state also on error): a record `{a: int,
    b: int}` whose second field is a string fails with `custom` having written `02`.  The driver
    (`runOcfw`) drops that state and issues `.value none`; the Rust writer truncates its buffer
    back (`WriterInner::serialize`, `truncate(buf_len_before_attempt)`), which is what
    `withValue … none` models.  So the abstraction "bytes appended or failure" is faithful only
    together with that truncation; it is NOT a property of `ser`. -/
def extN : Ext :=
  { asF32 := fun _ => 0, decFromF64 := fun _ => none, decParse := fun _ => none,
    decRescale := fun d _ => d }
def recAB : Node := .record ⟨"R", "R", none⟩ [("a", 1), ("b", 1)]
def recS : Schema := #[recAB, .int]

example :
    (ser extN false recS recAB (.struct "R" [("a", .int .i32 1), ("b", .str "x")]) { out := [9, 9] }).1
      = .error .custom ∧
    (ser extN false recS recAB (.struct "R" [("a", .int .i32 1), ("b", .str "x")]) { out := [9, 9] }).2.out
      = [9, 9, 2] := by decide +kernel

/-! ### `C15_rep_step`, `C15_inv_step`, `C15_intoInner_step` on the real initial state -/

example : ∃ w', wstep tagCodec false w0 (.push [6, 8, 10] 2) = (expected (.push [6, 8, 10] 2), w') ∧
    Rep tagCodec hdrX sync16 3 (astep 3 {} (.push [6, 8, 10] 2)) w' :=
  C15_rep_step tagCodec false hdrX sync16 3 {} w0 _ (by simp) w0_rep

example :
    let r := wstep tagCodec false w3 (.value (some [7, 7, 7]))
    let a' := astep w3.approx (arun 3 {} (opsX.take 3)) (.value (some [7, 7, 7]))
    r.1 = expected (.value (some [7, 7, 7])) ∧ r.1 ≠ .error .panic ∧
      Inv tagCodec hdrX (a'.sealed.map blockOf) r.2 ∧
      r.2.buf = bufOf a'.buffered ∧ r.2.n = cntOf a'.buffered ∧
      r.2.pending = none ∧ r.2.sink.sched = [] ∧ r.2.sync = w3.sync ∧ r.2.approx = w3.approx ∧
      a'.log = (arun 3 {} (opsX.take 3)).log ++ entryOf (.value (some [7, 7, 7])) :=
  C15_inv_step tagCodec false hdrX _ w3 _ (by simp) w3_rep.inv w3_rep.buf_eq w3_rep.n_eq
    w3_rep.sched_nil

example : ∃ w', wstep tagCodec true (wrun tagCodec true w0 opsX).2 .intoInner = (.ok (), { w' with taken := true }) ∧
      Rep tagCodec hdrX sync16 3 (aseal (arun 3 {} opsX)) w' :=
  C15_intoInner_step tagCodec true hdrX sync16 3 _ _
    (C15_run tagCodec true hdrX sync16 3 opsX opsX_no_into w0 w0_rep).2.1

/-! ### C16 -/

def schedB : List SinkResp :=
  [.accept 1, .interrupted, .accept 2, .interrupted, .interrupted, .accept 1,
   .accept 3, .accept 5, .accept 16, .accept 17, .accept 1, .accept 1, .interrupted, .accept 40,
   .accept 1000]

theorem schedB_benign : Benign schedB := benign_of_all _ (by decide)

theorem dribble_benign (n : Nat) : Benign (List.replicate n (.accept 1)) := by
  intro r hr
  rw [List.eq_of_mem_replicate hr]
  exact Or.inr ⟨1, rfl, Nat.le_refl _⟩

example (hdr data sync : Bytes) (s : Sink) (hs : s.sched = List.replicate 100000 (.accept 1)) :
    ∃ s', writeAllVectored (sinkFuel s [hdr, data, sync]) [hdr, data, sync] s = (.ok (), s') ∧
      s'.data = s.data ++ [hdr, data, sync].flatten ∧ Benign s'.sched :=
  C16_schedule_independent _ _ s (hs ▸ dribble_benign _) (Nat.le_refl _)

example : ∃ s', writeAllVectored (sinkFuel { data := hdrX, sched := schedB } [[4, 6], [0xC0, 0x57, 0x51], sync16])
      [[4, 6], [0xC0, 0x57, 0x51], sync16] { data := hdrX, sched := schedB } = (.ok (), s') ∧
      s'.data = hdrX ++ [[4, 6], [0xC0, 0x57, 0x51], sync16].flatten ∧ Benign s'.sched :=
  C16_schedule_independent _ _ _ schedB_benign (Nat.le_refl _)

/-- evaluated: 9 calls, the schedule consumed up to `accept 17` -/
example : (writeAllVectored (sinkFuel { data := [], sched := schedB } [[4, 6], [0xC0, 0x57, 0x51], sync16])
      [[4, 6], [0xC0, 0x57, 0x51], sync16] { data := [], sched := schedB }) =
    (.ok (), { data := [4, 6, 0xC0, 0x57, 0x51] ++ sync16, calls := 9,
               sched := [.accept 17, .accept 1, .accept 1, .interrupted, .accept 40, .accept 1000] }) := by
  decide +kernel

/-- the driver's construction with this schedule -/
example : ∃ s1, writeAllPlain (sinkFuel { sched := schedB } [hdrX]) hdrX { sched := schedB } = (.ok (), s1) ∧
      Benign s1.sched ∧
      Rep tagCodec hdrX sync16 3 {} (core { approx := 3, sync := sync16, sink := s1 }) :=
  driver_init_rep tagCodec hdrX sync16 3 schedB schedB_benign

def w0b : WState := { sync := sync16, approx := 3, sink := { data := hdrX, sched := schedB, calls := 3 } }

theorem w0b_core : core w0b = w0 := rfl

example :
    let a := arun 3 {} opsX
    (wrun tagCodec false w0b opsX).1 = opsX.map expected ∧
      (wrun tagCodec false w0b opsX).2.sink.data = hdrX ++ blocksBytes tagCodec sync16 (a.sealed.map blockOf) ∧
      (wrun tagCodec false w0b opsX).2.pending = none :=
  C15_run_benign tagCodec false hdrX sync16 3 opsX opsX_no_into w0b schedB_benign (w0b_core ▸ w0_rep)

example :
    (wrun tagCodec true w0b (opsX ++ [.intoInner, .drop])).1 = (wrun tagCodec true (core w0b) (opsX ++ [.intoInner, .drop])).1 ∧
      core (wrun tagCodec true w0b (opsX ++ [.intoInner, .drop])).2 = core (wrun tagCodec true (core w0b) (opsX ++ [.intoInner, .drop])).2 ∧
      Benign (wrun tagCodec true w0b (opsX ++ [.intoInner, .drop])).2.sink.sched :=
  C16_run_independent tagCodec true w0b _ schedB_benign

example : (wrun tagCodec true w0b (opsX ++ [.intoInner, .drop])).2.sink.data
    = (wrun tagCodec true (core w0b) (opsX ++ [.intoInner, .drop])).2.sink.data :=
  C16_run_sink_data tagCodec true w0b _ schedB_benign


/-- evaluated: the whole schedule was used (15 more write calls), same bytes as on the all-accepting
    sink -/
example : (wrun tagCodec true w0b (opsX ++ [.intoInner, .drop])).2.sink.calls = 18 ∧
    (wrun tagCodec true w0b (opsX ++ [.intoInner, .drop])).2.sink.sched = [] ∧
    (wrun tagCodec true w0b (opsX ++ [.intoInner, .drop])).2.sink.data
      = (wrun tagCodec true w0 (opsX ++ [.drop])).2.sink.data := by decide +kernel

/-! #### zero-length accept, hard error, arbitrary schedules -/

def bufsZ : List Bytes := [[4, 6], [0xC0, 0x57, 0x51], sync16]
def sinkZ : Sink := { data := hdrX, sched := [.interrupted, .interrupted, .accept 0, .accept 5] }
def sinkH : Sink := { data := hdrX, sched := [.interrupted, .hardError, .accept 5] }

example : writeAllVectored (sinkFuel sinkZ bufsZ) bufsZ sinkZ =
    (.error .io, { sinkZ with sched := [.accept 5], calls := sinkZ.calls + [SinkResp.interrupted, .interrupted].length + 1 }) :=
  C16_zero_is_error _ bufsZ sinkZ [.interrupted, .interrupted] [.accept 5] rfl
    (by intro r hr; simp at hr; exact hr) (by decide)
    (C16_sinkFuel_enough sinkZ bufsZ [.interrupted, .interrupted] (.accept 0) [.accept 5] rfl)

example : writeAllVectored (sinkFuel sinkH bufsZ) bufsZ sinkH =
    (.error .io, { sinkH with sched := [.accept 5], calls := sinkH.calls + [SinkResp.interrupted].length + 1 }) :=
  C16_hard_error_is_error _ bufsZ sinkH [.interrupted] [.accept 5] rfl
    (by intro r hr; simp at hr; exact hr) (by decide)
    (C16_sinkFuel_enough sinkH bufsZ [.interrupted] .hardError [.accept 5] rfl)

/-- at the level of the writer: `finish_block` on such a sink returns the I/O error -/
example : (wstep tagCodec false { sync := sync16, approx := 100, buf := [2, 4], n := 2, sink := sinkZ }
    .finishBlock).1 = .error .io := by decide +kernel

/-- an arbitrary schedule (a partial write, then a hard error): a strict prefix reached the sink -/
def sinkP : Sink := { data := hdrX, sched := [.accept 4, .hardError] }

example : ∃ m, m ≤ bufsZ.flatten.length ∧
    (writeAllVectored (sinkFuel sinkP bufsZ) bufsZ sinkP).2.data = sinkP.data ++ bufsZ.flatten.take m ∧
    ((writeAllVectored (sinkFuel sinkP bufsZ) bufsZ sinkP).1 = .ok () → m = bufsZ.flatten.length) ∧
    (writeAllVectored (sinkFuel sinkP bufsZ) bufsZ sinkP).2.sched <:+ sinkP.sched ∧
    sinkP.calls ≤ (writeAllVectored (sinkFuel sinkP bufsZ) bufsZ sinkP).2.calls :=
  C16_prefix _ bufsZ sinkP _ _ rfl

example : (writeAllVectored (sinkFuel sinkP bufsZ) bufsZ sinkP) =
    (.error .io, { data := hdrX ++ [4, 6, 0xC0, 0x57], sched := [], calls := 2 }) := by
  decide +kernel

example : (advanceSlices bufsZ 4).flatten = bufsZ.flatten.drop 4 ∧ advanceSlices bufsZ 4 = [[0x51], sync16] :=
  ⟨C16_advanceSlices_flatten bufsZ 4 (by decide), by decide⟩



/-! ### Whole-file round trips: hypotheses other than `DatumOk`/`DatumOkR`

`DatumOk` / `DatumOkR` are NOT met by the real `de` (known defect, `datumOk_needs_no_limit`); the
instances below use a TOY one-byte datum only to show that the remaining hypotheses (`Rep`, law L1
with a non-identity codec, `hok`, `BlockOk`) are jointly satisfiable. -/

def byteEnc (b : UInt8) : Bytes := [b]
def byteDatum : RState → Except DeErr UInt8 × RState := fun s =>
  match s.rest with
  | [] => (.error .custom, s)
  | b :: tl => (.ok b, { s with rest := tl })

theorem byteDatum_ok : DatumOk byteEnc byteDatum := by
  intro s v y hs hr
  exact ⟨{ s with rest := y }, by simp [byteDatum, byteEnc, hr], rfl, hs⟩

theorem byteDatum_okR : DatumOkR byteEnc byteDatum := by
  intro s v y hs hr
  exact ⟨{ s with rest := y }, by simp [byteDatum, byteEnc, hr], rfl, hs⟩

def vops : List (VOp UInt8) := [.write 2, .write 4, .finishBlock, .fail, .write 6]

theorem blockData_byteEnc (b : List UInt8) : (Theorems.blockData byteEnc b).length = b.length := by
  induction b with
  | nil => rfl
  | cons x xs ih => simpa [Theorems.blockData, byteEnc] using ih

theorem vops_hok : ∀ blocks : List (List UInt8), blocks.flatten = valuesOf vops →
    ∀ b ∈ blocks, BlockOkC byteEnc tagCodec b := by
  intro blocks hfl b hb
  have h1 := (List.sublist_flatten_of_mem hb).length_le
  rw [hfl] at h1
  have h3 : (valuesOf vops).length = 3 := rfl
  have h4 : (tagCodec.compress (Theorems.blockData byteEnc b)).length = b.length + 1 := by
    show (tagCompress _).length = _
    simp [tagCompress, blockData_byteEnc]
  constructor
  · unfold Spec.InI64; omega
  · rw [h4]; unfold Spec.InI64; omega

example :
    let run := wrun tagCodec false { sync := sync16, approx := 2, sink := { data := [1, 2, 3] } }
      (vops.map (VOp.toWOp byteEnc) ++ [WOp.drop])
    run.1 = (vops.map (VOp.toWOp byteEnc) ++ [WOp.drop]).map expected ∧
    (∃ blocks : List (List UInt8), blocks.flatten = valuesOf vops ∧ (∀ b ∈ blocks, b ≠ []) ∧
        run.2.sink.data = [1, 2, 3] ++ fileBodyC byteEnc tagCodec sync16 blocks) ∧
    Theorems.readAll tagDecomp byteDatum ((valuesOf vops).length + 1)
        (Theorems.openSlice sync16 (run.2.sink.data.drop ([1, 2, 3] : Bytes).length))
      = (valuesOf vops, .eos) :=
  C05_roundtrip_codec_file byteEnc tagCodec rfl tagDecomp rfl rfl tag_L1 byteDatum byteDatum_okR false
    [1, 2, 3] sync16 rfl 2 vops .drop (Or.inr (Or.inr rfl)) _ (C15_rep_fresh tagCodec [1, 2, 3] sync16 2)
    vops_hok

/-- the same for the null codec (`C05_roundtrip_null_slice`) -/
example :
    let c : Codec := { name := "null", compress := id, isNull := true }
    let run := wrun c false { sync := sync16, approx := 2, sink := { data := [1, 2, 3] } }
      (vops.map (VOp.toWOp byteEnc) ++ [WOp.intoInner])
    run.1 = (vops.map (VOp.toWOp byteEnc) ++ [WOp.intoInner]).map expected ∧
    (∃ blocks : List (List UInt8), blocks.flatten = valuesOf vops ∧ (∀ b ∈ blocks, b ≠ []) ∧
        run.2.sink.data = [1, 2, 3] ++ Theorems.fileBody byteEnc sync16 blocks) ∧
    Theorems.readAll { isNull := true, decompress := fun _ => none } byteDatum ((valuesOf vops).length + 1)
        (Theorems.openSlice sync16 (run.2.sink.data.drop ([1, 2, 3] : Bytes).length))
      = (valuesOf vops, .eos) :=
  C05_roundtrip_null_slice byteEnc { name := "null", compress := id, isNull := true } rfl
    { isNull := true, decompress := fun _ => none } rfl byteDatum byteDatum_ok false
    [1, 2, 3] sync16 rfl 2 vops .intoInner (Or.inr (Or.inl rfl)) _
    (C15_rep_fresh _ [1, 2, 3] sync16 2) (by decide) (by decide)

theorem byteBlockOk (b : List UInt8) (h : b.length < 1000) : BlockOk byteEnc b := by
  constructor
  · unfold Spec.InI64; omega
  · rw [blockData_byteEnc]; unfold Spec.InI64; omega

/-- `C06_reads_any_partition` / `C06_reads_single_block`: `[[1,2],[3]]` against `[[1],[],[2,3]]`
    (an empty block included) -/
example :
    Theorems.readAll { isNull := true, decompress := fun _ => none } byteDatum
        (([[1, 2], [3]] : List (List UInt8)).flatten.length + 1)
        (Theorems.openSlice sync16 (Theorems.fileBody byteEnc sync16 [[1, 2], [3]]))
      = Theorems.readAll { isNull := true, decompress := fun _ => none } byteDatum
        (([[1], [], [2, 3]] : List (List UInt8)).flatten.length + 1)
        (Theorems.openSlice sync16 (Theorems.fileBody byteEnc sync16 [[1], [], [2, 3]])) ∧
    Theorems.readAll { isNull := true, decompress := fun _ => none } byteDatum
        (([[1, 2], [3]] : List (List UInt8)).flatten.length + 1)
        (Theorems.openSlice sync16 (Theorems.fileBody byteEnc sync16 [[1, 2], [3]]))
      = (([[1, 2], [3]] : List (List UInt8)).flatten, .eos) :=
  C06_reads_any_partition byteEnc _ byteDatum sync16 rfl rfl byteDatum_ok [[1, 2], [3]]
    [[1], [], [2, 3]] rfl
    (fun b hb => byteBlockOk b (by simp at hb; rcases hb with rfl | rfl <;> decide))
    (fun b hb => byteBlockOk b (by simp at hb; rcases hb with rfl | rfl | rfl <;> decide))

example :
    Theorems.readAll { isNull := true, decompress := fun _ => none } byteDatum
        (([[1], [], [2, 3]] : List (List UInt8)).flatten.length + 1)
        (Theorems.openSlice sync16 (Theorems.fileBody byteEnc sync16 [[1], [], [2, 3]]))
      = Theorems.readAll { isNull := true, decompress := fun _ => none } byteDatum
        (([[1], [], [2, 3]] : List (List UInt8)).flatten.length + 1)
        (Theorems.openSlice sync16 (Theorems.fileBody byteEnc sync16 [([[1], [], [2, 3]] : List (List UInt8)).flatten])) :=
  C06_reads_single_block byteEnc _ byteDatum sync16 rfl rfl byteDatum_ok [[1], [], [2, 3]]
    (fun b hb => byteBlockOk b (by simp at hb; rcases hb with rfl | rfl | rfl <;> decide))
    (byteBlockOk _ (by decide))



/-! ## C06: the header reader on a header in NON-standard order

magic; a metadata block with a NEGATIVE count (-2, byte size 25) holding the user key `k ↦ 01 02 03`
and `avro.codec ↦ deflate`; a second block of one entry `avro.schema ↦ "int"`; end of map; marker;
then the first bytes of a data block. -/
def hdrPerm : Bytes :=
  [0x4F, 0x62, 0x6A, 0x01] ++
  [3, 50] ++ ([2, 0x6B, 6, 1, 2, 3] ++ [20] ++ codecKey ++ [14] ++ nameDeflate) ++
  [2] ++ ([22] ++ schemaKey ++ [10] ++ jsonInt) ++
  [0] ++ sync16 ++ [4, 6, 0xC0]

def srcP : RState := { rest := hdrPerm }
def sP4 : RState := (readExact 4 srcP).2
def sPM : RState := (metaDe sP4).2

/-- The device of `NVB.exists_ok_of_toBool` (`Lemmas/OutEq.lean`) for "the result is a map": one
    kernel run settles `isMapOk`, and the equation that follows (`eq_of_isMapOk`) names the entries and
    the final state by the run itself (`entP`, `sPM` below); what the entries are is shown separately
    (`kvOf entP = …`). -/
def mapEntries : Except DeErr Out → List (Out × Out)
  | .ok (.map e) => e
  | _ => []
def isMapOk : Except DeErr Out → Bool
  | .ok (.map _) => true
  | _ => false
theorem eq_of_isMapOk (x : Except DeErr Out × RState) (h : isMapOk x.1 = true) :
    x = (.ok (.map (mapEntries x.1)), x.2) := by
  obtain ⟨r, s⟩ := x
  cases r with
  | error e => simp [isMapOk] at h
  | ok o => cases o <;> simp [isMapOk] at h <;> rfl

def entP : List (Out × Out) := mapEntries (metaDe sP4).1


theorem hP4 : readExact 4 srcP = (.ok [0x4F, 0x62, 0x6A, 0x01], sP4) := by decide +kernel
theorem hPM : metaDe sP4 = (.ok (.map entP), sPM) := eq_of_isMapOk _ (by decide +kernel)

/-- the entries as decoded by the real map decoder: user key first, schema last -/
example : kvOf entP = [([0x6B], [1, 2, 3]), (codecKey, nameDeflate), (schemaKey, jsonInt)] := by
  decide +kernel

/-- **`C06_header_any_order`** with the real `readExact` / `metaDe` -/
theorem readHeader_srcP : readHeader srcP =
    (.ok { schemaJson := jsonInt, codec := "deflate", sync := sync16,
           userMeta := (kvOf entP).filter fun e => e.1 ≠ schemaKey ∧ e.1 ≠ codecKey },
     (readExact 16 sPM).2) :=
  C06_header_any_order srcP sP4 sPM _ entP jsonInt nameDeflate sync16 "\"int\"" "deflate" hP4 hPM
    (by decide +kernel) (by decide +kernel) (by decide +kernel) (by decide +kernel) (by decide +kernel)
    (by decide +kernel)

example : (kvOf entP).filter (fun e => e.1 ≠ schemaKey ∧ e.1 ≠ codecKey) = userMeta1 ∧
    (readExact 16 sPM).2.rest = [4, 6, 0xC0] := by decide +kernel

/-- **`C06_header_accepted`** on it -/
example : (∃ k, (kvOf entP).filter (·.1 = schemaKey) = [(k, jsonInt)]) ∧
      ((kvOf entP).filter (·.1 = codecKey)).length ≤ 1 ∧
      knownCodecs.contains "deflate" = true ∧
      (((kvOf entP).filter (·.1 = codecKey)) = [] → "deflate" = "null") ∧
      ((kvOf entP).filter fun e => e.1 ≠ schemaKey ∧ e.1 ≠ codecKey) =
        (kvOf entP).filter fun e => e.1 ≠ schemaKey ∧ e.1 ≠ codecKey :=
  C06_header_accepted srcP sP4 sPM _ entP _ hP4 hPM readHeader_srcP

/-! #### `avro.codec` absent (D15): user key, then the schema -/
def hdrNoCodec : Bytes :=
  [0x4F, 0x62, 0x6A, 0x01] ++ [2] ++ [2, 0x6B, 6, 1, 2, 3] ++
  [2] ++ ([22] ++ schemaKey ++ [10] ++ jsonInt) ++ [0] ++ sync16

def srcN : RState := { rest := hdrNoCodec }
def sN4 : RState := (readExact 4 srcN).2
def sNM : RState := (metaDe sN4).2
def entN : List (Out × Out) := mapEntries (metaDe sN4).1
theorem hN4 : readExact 4 srcN = (.ok [0x4F, 0x62, 0x6A, 0x01], sN4) := by decide +kernel
theorem hNM : metaDe sN4 = (.ok (.map entN), sNM) := eq_of_isMapOk _ (by decide +kernel)

example : readHeader srcN =
    (.ok { schemaJson := jsonInt, codec := "null", sync := sync16,
           userMeta := (kvOf entN).filter fun e => e.1 ≠ schemaKey ∧ e.1 ≠ codecKey },
     (readExact 16 sNM).2) :=
  C06_header_any_order_no_codec srcN sN4 sNM _ entN jsonInt sync16 "\"int\"" hN4 hNM
    (by decide +kernel) (by decide +kernel) (by decide +kernel) (by decide +kernel)

/-! #### `C06_readHeader_perm`: the permuted header against the header the writer model emits -/
def srcW : RState := { rest := headerBytes jsonInt nameDeflate userMeta1 sync16 ++ [4, 6, 0xC0] }
def sW4 : RState := (readExact 4 srcW).2
def sWM : RState := (metaDe sW4).2
def entW : List (Out × Out) := mapEntries (metaDe sW4).1
theorem hW4 : readExact 4 srcW = (.ok [0x4F, 0x62, 0x6A, 0x01], sW4) := by decide +kernel
theorem hWM : metaDe sW4 = (.ok (.map entW), sWM) := eq_of_isMapOk _ (by decide +kernel)

example : kvOf entW = [(schemaKey, jsonInt), (codecKey, nameDeflate), ([0x6B], [1, 2, 3])] := by
  decide +kernel

example : HeaderRel (readHeader srcP).1 (readHeader srcW).1 :=
  have h : sPM.isSlice = true ∧ sWM.isSlice = true ∧ sPM.limit = none ∧ sWM.limit = none ∧
      sPM.rest = sWM.rest := by decide +kernel
  C06_readHeader_perm srcP srcW sP4 sW4 sPM sWM entP entW hP4 hW4 hPM hWM (by decide +kernel)
    (readExact_slice_same_rest 16 sPM sWM h.1 h.2.1 h.2.2.1 h.2.2.2.1 h.2.2.2.2)



/-! ## C17 with the REAL datum deserializer, a record schema, two blocks -/

/-- `record R { id: int, tag: union{null,string}, xs: array<int> }` -/
def rNode : Node := .record ⟨"R", "R", none⟩ [("id", 1), ("tag", 2), ("xs", 4)]
def rS : Schema := #[rNode, .int, .union [3, 5], .null, .array 1, .string]
def v1 : Spec.Value := .record [.int 1, .union 1 (.string "ab"), .array [.int 3, .int 4]]
def v2 : Spec.Value := .record [.int (-2), .union 0 .null, .array []]
def v3 : Spec.Value := .record [.int 300, .union 1 (.string ""), .array [.int 7]]
def rBlocks : List (List Spec.Value) := [[v1, v2], [v3]]
def rEnc : Spec.Value → Bytes := encD rS rNode
def rFile : Bytes := Stream.fileBody rEnc sync16 rBlocks
def nullD : Decomp := { isNull := true, decompress := fun _ => none }
def rFuel : Nat := 64000000452
def rDatum : RState → Except DeErr Out × RState := de deExtModel {} rS rFuel rNode 64 false .any
/-- as `runOcfr` builds it: the fuel, `Avro.Impl.deFuel`, depends on the input left -/
def drvDatum : RState → Except DeErr Out × RState := fun st =>
  de deExtModel {} rS (deFuel {} rS .any 64 st.rest.length) rNode 64 false .any st

def idOf : Out → Int
  | .map ((_, .i32 i) :: _) => i
  | _ => 0

example : rEnc v1 = [2, 2, 4, 0x61, 0x62, 4, 6, 8, 0] ∧ rEnc v2 = [3, 0, 0] ∧
    rEnc v3 = [0xD8, 4, 2, 0, 2, 14, 0] := by decide +kernel

/-- block 1: count 2, size 12, 12 bytes, marker (30 bytes); block 2: count 1, size 7 (25 bytes) -/
example : rFile = [4, 24, 2, 2, 4, 0x61, 0x62, 4, 6, 8, 0, 3, 0, 0] ++ sync16 ++
    [2, 14, 0xD8, 4, 2, 0, 2, 14, 0] ++ sync16 := by decide +kernel

theorem rGood : ∀ v ∈ rBlocks.flatten, GoodVal {} rS rNode 64 rFuel v := by decide +kernel

theorem rBlockOk : ∀ b ∈ rBlocks, Stream.BlockOk rEnc b := by decide +kernel

/-- `C17_yields_prefix_null_stream`: every cut, every chunk schedule -/
example (m : Nat) (sched : List Nat) (lastChunk : Nat) :
    ((Stream.readAll nullD rDatum (rBlocks.flatten.length + 1)
        (Stream.openReader sync16 (rFile.take m) sched lastChunk 1000)).1.map unborrow
      <+: rBlocks.flatten.map (fun v => unborrow (obsD rS rNode v))) ∧
    (Stream.readAll nullD rDatum (rBlocks.flatten.length + 1)
        (Stream.openReader sync16 (rFile.take m) sched lastChunk 1000)).2 ≠ .more :=
  have h := C17_yields_prefix_null_stream nullD rfl {} rS rNode 64 rFuel sync16 rfl rBlocks
    rBlockOk rGood m sched lastChunk 1000 (by
      have : rFile.length = 55 := by decide +kernel
      show (rFile.take m).length ≤ 1000
      rw [List.length_take]; omega)
  ⟨h.1, h.2.1⟩


/-- `C17_yields_prefix_null_slice_de` -/
example (m : Nat) :
    ((Stream.readAll nullD rDatum (rBlocks.flatten.length + 1)
        (Stream.openSlice sync16 (rFile.take m))).1 <+: rBlocks.flatten.map (obsD rS rNode)) ∧
    (Stream.readAll nullD rDatum (rBlocks.flatten.length + 1)
        (Stream.openSlice sync16 (rFile.take m))).2 ≠ .more ∧
    (rFile.length ≤ m →
      Stream.readAll nullD rDatum (rBlocks.flatten.length + 1)
          (Stream.openSlice sync16 (rFile.take m))
        = (rBlocks.flatten.map (obsD rS rNode), .eos)) :=
  C17_yields_prefix_null_slice_de nullD rfl {} rS rNode 64 rFuel sync16 rfl rBlocks rBlockOk rGood m

/-- evaluated, cut after 35 bytes (inside the third record, in the second block), chunks of 1, 2,
    then 3 bytes: the two records of the first block, then an I/O error -/
example :
    (Stream.readAll nullD rDatum 4 (Stream.openReader sync16 (rFile.take 35) [1, 2] 3 1000)).1.map idOf
      = [1, -2] ∧
    (Stream.readAll nullD rDatum 4 (Stream.openReader sync16 (rFile.take 35) [1, 2] 3 1000)).2
      = .err .io := by decide +kernel

/-! ### The theorems stated for an ARBITRARY `datum`, instantiated with the driver's -/

/-- `C17_yields_prefix` (no hypothesis on `datum`) -/
example :
    (Theorems.readAll nullD drvDatum 4 (Theorems.openSlice sync16 (rFile.take 35))).1
      <+: (Theorems.readAll nullD drvDatum 4 (Theorems.openSlice sync16 rFile)).1 ∧
    ((Theorems.readAll nullD drvDatum 4 (Theorems.openSlice sync16 rFile)).2 ≠ .more →
      (Theorems.readAll nullD drvDatum 4 (Theorems.openSlice sync16 (rFile.take 35))).2 ≠ .more) :=
  C17_yields_prefix nullD drvDatum sync16 rFile 35 4

/-- both sides evaluated: two records then `custom` (the slice refuses the cut block) against three
    records then end of stream -/
example :
    (Theorems.readAll nullD drvDatum 4 (Theorems.openSlice sync16 (rFile.take 35))).1.map idOf = [1, -2] ∧
    (Theorems.readAll nullD drvDatum 4 (Theorems.openSlice sync16 (rFile.take 35))).2 = .err .custom ∧
    (Theorems.readAll nullD drvDatum 4 (Theorems.openSlice sync16 rFile)).1.map idOf = [1, -2, 300] ∧
    (Theorems.readAll nullD drvDatum 4 (Theorems.openSlice sync16 rFile)).2 = .eos := by
  decide +kernel

/-- the hypothesis `hd` of `C17_total` / `C17_total_inner` / `readAll_no_panic` quantifies over ALL
    states: the real `de` meets it (C04), also with the driver's state-dependent fuel -/
theorem drvDatum_no_panic : ∀ s, (drvDatum s).1 ≠ .error .panic := by
  intro s
  exact C04_no_panic_at_deFuel deExtModel {} rS (by decide +kernel) 0 rNode rfl 64 false .any _ s

/-- the reader after two calls on the cut file (slice / streaming) -/
def rCutS : Reader := iterNext nullD drvDatum 2 (Theorems.openSlice sync16 (rFile.take 35))
def rCutR : Reader := iterNext nullD drvDatum 2 (Stream.openReader sync16 (rFile.take 35) [1, 2] 3 1000)

theorem rdInv_iter (d : Decomp) (datum : RState → Except DeErr Out × RState) (k : Nat) (r : Reader)
    (h : RdInv r) : RdInv (iterNext d datum k r) := by
  induction k generalizing r with
  | zero => exact h
  | succ k ih => exact ih _ (Theorems.C17_inv_next d datum r h)

theorem rCutS_inv : RdInv rCutS := rdInv_iter _ _ 2 _ (Theorems.C17_inv_init _ rfl)
theorem rCutR_inv : RdInv rCutR := rdInv_iter _ _ 2 _ (Theorems.C17_inv_init _ rfl)

/-- the invariant is not trivially true there: both readers are inside a block -/
example : rCutS.st = .inBlock 0 ∧ rCutR.st = .inBlock 0 ∧ rCutR.blkLimit = 0 := by decide +kernel

example : (next nullD drvDatum rCutS).1 ≠ .error .panic :=
  Theorems.C17_total nullD drvDatum drvDatum_no_panic rCutS rCutS_inv
example : (next nullD drvDatum rCutR).1 ≠ .error .panic :=
  Theorems.C17_total nullD drvDatum drvDatum_no_panic rCutR rCutR_inv

example : nextInner nullD drvDatum 1000 rCutR = nextInner nullD drvDatum (rCutR.outer.rest.length + 4) rCutR :=
  C17_fuel_irrelevant nullD drvDatum rCutR rCutR_inv 1000 (by decide +kernel)

/-- the same device for "the result is this error" (the values have no decidable equality) -/
def isErr : Except RdErr (Option Out) → RdErr → Bool
  | .error e, e' => e == e'
  | _, _ => false
theorem eq_of_isErr {x : Except RdErr (Option Out)} {e : RdErr} (h : isErr x e = true) :
    x = .error e := by
  cases x with
  | ok a => simp [isErr] at h
  | error e' => simp [isErr] at h; rw [h]

/-- `C17_error_once`, slice: the third call meets the cut block — `custom`, reader broken — … -/
example :
    (next nullD drvDatum rCutS).2.pretendEof = true ∧
    ∀ k, (next nullD drvDatum (iterNext nullD drvDatum k (next nullD drvDatum rCutS).2)).1 = .ok none ∧
         (next nullD drvDatum (iterNext nullD drvDatum k (next nullD drvDatum rCutS).2)).2
           = (next nullD drvDatum rCutS).2 :=
  have h : isErr (next nullD drvDatum rCutS).1 .custom = true ∧
      (next nullD drvDatum rCutS).2.st = .broken := by decide +kernel
  C17_error_once nullD drvDatum rCutS .custom (eq_of_isErr h.1) (Or.inr h.2)

/-- … streaming reader: the datum deserializer meets the end of input inside the record — `io`, the
    reader is NOT marked broken (still `inBlock 0`), `pretendEof` does the job -/
example :
    (next nullD drvDatum (next nullD drvDatum rCutR).2).1 = .ok none ∧
    (next nullD drvDatum rCutR).2.st = .inBlock 0 :=
  have h : isErr (next nullD drvDatum rCutR).1 .io = true ∧
      (next nullD drvDatum rCutR).2.st = .inBlock 0 := by decide +kernel
  ⟨((C17_error_once nullD drvDatum rCutR .io (eq_of_isErr h.1) (Or.inl rfl)).2 0).1, h.2⟩

/-- `C17_eof_sticky_iter` -/
example (k : Nat) :
    iterNext nullD drvDatum k (next nullD drvDatum rCutR).2 = (next nullD drvDatum rCutR).2 ∧
    (next nullD drvDatum (iterNext nullD drvDatum k (next nullD drvDatum rCutR).2)).1 = .ok none :=
  C17_eof_sticky_iter nullD drvDatum _ (by decide +kernel) k

/-- `C17_framing_sets_broken`: entering the cut block -/
def rBetween : Reader := (leaveBlock nullD rCutS).2
example : (enterBlock nullD rBetween).1 = .error .custom ∧ rBetween.st = .notInBlock ∧
    (enterBlock nullD rBetween).2.st = .broken :=
  have h : (enterBlock nullD rBetween).1 = .error .custom := by decide +kernel
  ⟨h, by decide +kernel, (C17_framing_sets_broken nullD rBetween .custom).1 h⟩


/-! ### Marker / size / count mismatches on readers REACHED by `next` with the real `de` -/


/-- one block (count 1, size 3, the record `v2`) closed by a WRONG marker, then more bytes -/
def badSyncFile : Bytes := [2, 6] ++ rEnc v2 ++ List.replicate 16 0xCD ++ [2, 6, 3, 0, 0]
def rBadSync : Reader := (next nullD drvDatum (Theorems.openSlice sync16 badSyncFile)).2

theorem rBadSync_leave :
    (leaveBlock nullD rBadSync).1 = .error .custom ∧ (leaveBlock nullD rBadSync).2.st = .broken :=
  C17_sync_mismatch_err nullD rBadSync rfl (by decide +kernel) (by decide +kernel) (by decide +kernel)
    (by decide +kernel) (by decide +kernel)

/-- (`rBadSync_leave`, counted among the instances) -/
example : (leaveBlock nullD rBadSync).1 = .error .custom ∧ (leaveBlock nullD rBadSync).2.st = .broken :=
  rBadSync_leave

example : (next nullD drvDatum rBadSync).1 = .error .custom ∧
    (next nullD drvDatum rBadSync).2.pretendEof = true ∧ (next nullD drvDatum rBadSync).2.st = .broken :=
  C17_mismatch_next nullD drvDatum rBadSync (by decide +kernel) (by decide +kernel) rBadSync_leave.1

/-- count 1 but size 6: two records in the block -/
def bigSizeFile : Bytes := [2, 12] ++ rEnc v2 ++ rEnc v2 ++ sync16
def rBigS : Reader := (next nullD drvDatum (Theorems.openSlice sync16 bigSizeFile)).2
def rBigR : Reader := (next nullD drvDatum (Stream.openReader sync16 bigSizeFile [1, 2] 3 1000)).2

example : rBigS.st = .inBlock 0 ∧ rBigS.blk.rest = [3, 0, 0] ∧ rBigR.st = .inBlock 0 ∧ rBigR.blkLimit = 3 := by
  decide +kernel

example : (leaveBlock nullD rBigS).1 = .error .custom ∧ (leaveBlock nullD rBigS).2.st = .broken :=
  C17_size_mismatch_err nullD rBigS rfl (by decide +kernel) (by decide +kernel)

example : (leaveBlock nullD rBigR).1 = .error .custom ∧ (leaveBlock nullD rBigR).2.st = .broken :=
  C17_size_mismatch_err_reader nullD rBigR rfl (by decide +kernel) (by decide +kernel)

/-- a "compressed" block (toy codec) declaring 1 object but holding two -/
def bigCountFile : Bytes := [2, 14] ++ tagCompress (rEnc v2 ++ rEnc v2) ++ sync16
def rBigC : Reader := (next tagDecomp drvDatum (Theorems.openSlice sync16 bigCountFile)).2

example : rBigC.st = .inBlock 0 ∧ rBigC.blk.rest = [3, 0, 0] := by decide +kernel

example : (leaveBlock tagDecomp rBigC).1 = .error .custom ∧ (leaveBlock tagDecomp rBigC).2.st = .broken :=
  C17_count_mismatch_err tagDecomp rBigC rfl (by decide +kernel)

/-! ### `C17_datum_cut_*`, `C17_block_cut_*` with records -/

/-- `rGood`, with `rBlocks.flatten` written out -/
theorem rGood' : ∀ v ∈ [v1, v2, v3], GoodVal {} rS rNode 64 rFuel v := rGood

/-- the data of a block `[v1, v2, v3]` cut after 14 bytes (9 + 3 + 2: inside `v3`) -/
def sCutS : RState := { rest := (Stream.blockData rEnc [v1, v2, v3]).take 14 }
def sCutR : RState :=
  { isSlice := false, rest := (Stream.blockData rEnc [v1, v2, v3]).take 14, sched := [1, 2],
    lastChunk := 3, maxAlloc := 1000 }

example :
    (Stream.readMany rDatum 3 sCutS).1 = (Stream.fitting rEnc [v1, v2, v3] 14).map (obsD rS rNode) ∧
    Stream.fitting rEnc [v1, v2, v3] 14 <+: [v1, v2, v3] ∧
    (14 < (Stream.blockData rEnc [v1, v2, v3]).length → ∃ e, (Stream.readMany rDatum 3 sCutS).2 = some e) ∧
    ((Stream.blockData rEnc [v1, v2, v3]).length ≤ 14 →
      Stream.fitting rEnc [v1, v2, v3] 14 = [v1, v2, v3] ∧ (Stream.readMany rDatum 3 sCutS).2 = none) :=
  C17_block_cut_slice {} rS rNode 64 rFuel [v1, v2, v3] rGood' sCutS rfl rfl rfl 14 rfl

example :
    ((Stream.readMany rDatum 3 sCutR).1.map unborrow
        = (Stream.fitting rEnc [v1, v2, v3] 14).map (fun v => unborrow (obsD rS rNode v))) ∧
    Stream.fitting rEnc [v1, v2, v3] 14 <+: [v1, v2, v3] ∧
    (14 < (Stream.blockData rEnc [v1, v2, v3]).length → ∃ e, (Stream.readMany rDatum 3 sCutR).2 = some e) ∧
    ((Stream.blockData rEnc [v1, v2, v3]).length ≤ 14 →
      Stream.fitting rEnc [v1, v2, v3] 14 = [v1, v2, v3] ∧ (Stream.readMany rDatum 3 sCutR).2 = none) :=
  C17_block_cut_reader {} rS rNode 64 rFuel [v1, v2, v3] rGood' 1000 sCutR
    ⟨rfl, rfl, by decide, rfl, by decide +kernel⟩ 14 rfl

/-- evaluated: two records, then `custom` (slice) / `io` (reader) -/
example : (Stream.readMany rDatum 3 sCutS).1.map idOf = [1, -2] ∧ (Stream.readMany rDatum 3 sCutS).2 = some .custom ∧
    (Stream.readMany rDatum 3 sCutR).1.map idOf = [1, -2] ∧ (Stream.readMany rDatum 3 sCutR).2 = some .io ∧
    (Stream.fitting rEnc [v1, v2, v3] 14).length = 2 := by decide +kernel

/-- one value: `C17_datum_cut_slice` / `_reader` on `v1 ++ v2` cut inside `v1` (5 of 9 bytes, in
    the middle of the string) and after it -/
example :
    ((encD rS rNode v1).length ≤ 5 →
      de deExtModel {} rS rFuel rNode 64 false .any { rest := (encD rS rNode v1 ++ rEnc v2).take 5 } =
        (.ok (obsD rS rNode v1), { ({ rest := (encD rS rNode v1 ++ rEnc v2).take 5 } : RState) with
          rest := (rEnc v2).take (5 - (encD rS rNode v1).length) })) ∧
    (5 < (encD rS rNode v1).length →
      ∃ e s', de deExtModel {} rS rFuel rNode 64 false .any { rest := (encD rS rNode v1 ++ rEnc v2).take 5 }
        = (.error e, s')) :=
  C17_datum_cut_slice {} rS rNode 64 rFuel v1 (rGood v1 (by simp [rBlocks])) _ rfl rfl rfl (rEnc v2) 5 rfl

example :
    ((encD rS rNode v1).length ≤ 10 →
      ∃ a s', de deExtModel {} rS rFuel rNode 64 false .any
          { isSlice := false, rest := (encD rS rNode v1 ++ rEnc v2).take 10, sched := [2], lastChunk := 1,
            maxAlloc := 64 } = (.ok a, s') ∧
        unborrow a = unborrow (obsD rS rNode v1) ∧
        s'.rest = (rEnc v2).take (10 - (encD rS rNode v1).length) ∧ BOk 64 s') ∧
    (10 < (encD rS rNode v1).length →
      ∃ e s', de deExtModel {} rS rFuel rNode 64 false .any
          { isSlice := false, rest := (encD rS rNode v1 ++ rEnc v2).take 10, sched := [2], lastChunk := 1,
            maxAlloc := 64 } = (.error e, s')) :=
  C17_datum_cut_reader {} rS rNode 64 rFuel v1 (rGood v1 (by simp [rBlocks])) 64 _
    ⟨rfl, rfl, by decide, rfl, by decide +kernel⟩ (rEnc v2) 10 rfl



/-! ## Further instances -/

/-- `C16_flush_independent`: a pending block (count 2, "compressed" size 3) on the scheduled sink -/
def wPend : WState :=
  (innerFinishBlock tagCodec { sync := sync16, approx := 100, buf := [2, 4], n := 2,
                               sink := { data := hdrX, sched := schedB } }).2

example : ∃ s1, flushFinishedBlock tagCodec wPend = (.ok (), { wPend with sink := s1, pending := none, buf := [] }) ∧
      s1.data = wPend.sink.data ++ ([4, 6] ++ Ocf.blockData tagCodec wPend ++ wPend.sync) ∧ Benign s1.sched :=
  C16_flush_independent tagCodec wPend [4, 6] (by decide +kernel) (by decide +kernel) schedB_benign

/-- `C16_wstep_independent`: a value that closes a block by size (approx 3) on the scheduled sink -/
example :
    (wstep tagCodec false w0b (.push [6, 8, 10] 2)).1 = (wstep tagCodec false (core w0b) (.push [6, 8, 10] 2)).1 ∧
      core (wstep tagCodec false w0b (.push [6, 8, 10] 2)).2 = core (wstep tagCodec false (core w0b) (.push [6, 8, 10] 2)).2 ∧
      Benign (wstep tagCodec false w0b (.push [6, 8, 10] 2)).2.sink.sched :=
  C16_wstep_independent tagCodec false w0b _ schedB_benign

example : (wstep tagCodec false w0b (.push [6, 8, 10] 2)).2.sink.calls = 12 ∧
    (wstep tagCodec false w0b (.push [6, 8, 10] 2)).2.sink.data = hdrX ++ [4, 8, 0xC0, 0x53, 0x5D, 0x5F] ++ sync16 := by
  decide +kernel

/-- `C15_sink_parses` with `MetaParses` supplied by `C15_header_parses` for the real header -/
example :
    Spec.Ocf.parse (wrun tagCodec false w0 opsX).2.sink.data =
      some { metadata := (schemaKey, jsonInt) :: (codecKey, nameDeflate) :: userMeta1,
             sync := (wrun tagCodec false w0 opsX).2.sync,
             blocks := (arun 3 {} opsX).sealed.map
               (fun b => { count := cntOf b, data := codecData tagCodec (bufOf b) }),
             trailing := 0, badSync := false } := by
  have hp := C15_header_parses jsonInt nameDeflate userMeta1 sync16 (by decide) (by decide) (by decide)
  have hr := (C15_run tagCodec false hdrX sync16 3 opsX opsX_no_into w0 w0_rep).2.1
  have he : hdrX = Spec.Ocf.magic ++ metaBytesOf ((schemaKey, jsonInt) :: (codecKey, nameDeflate) :: userMeta1) ++ sync16 := hp.1
  rw [he] at hr
  exact C15_sink_parses tagCodec _ sync16 _ 3 _ _ hr hp.2 rfl (by decide +kernel)

example : Spec.Ocf.parseBlocks sync16 5
      (blocksBytes tagCodec sync16 [(2, [2, 4]), (3, [6, 8, 10]), (1, [12])]) =
    ([(2, [2, 4]), (3, [6, 8, 10]), (1, [12])].map
      (fun b => ({ count := b.1, data := codecData tagCodec b.2 } : Spec.Ocf.Block)), 0, false) :=
  C15_blocks_parse tagCodec sync16 rfl _ (by decide +kernel) 5 (by decide)

/-- `C15_astep_value`, `C15_astep_failed` at the abstract state after five calls -/
example : astep 3 (arun 3 {} (opsX.take 5)) (.value (some [10])) =
    if (bufOf (arun 3 {} (opsX.take 5)).buffered ++ [10]).length ≥ 3 then
      { sealed := (arun 3 {} (opsX.take 5)).sealed ++ [(arun 3 {} (opsX.take 5)).buffered ++ [([10], 1)]],
        buffered := [] }
    else { (arun 3 {} (opsX.take 5)) with buffered := (arun 3 {} (opsX.take 5)).buffered ++ [([10], 1)] } :=
  C15_astep_value 3 _ [10] (by decide +kernel)

example : astep 3 (arun 3 {} (opsX.take 5)) (.value none) = arun 3 {} (opsX.take 5) :=
  C15_astep_failed 3 _ (by decide +kernel)

/-- `C17_sync_truncated_err`: the file ends inside the marker -/
def truncSyncFile : Bytes := [2, 6] ++ rEnc v2 ++ List.replicate 10 0xAB
def rTruncSync : Reader := (next nullD drvDatum (Theorems.openSlice sync16 truncSyncFile)).2

example : ∃ e, (leaveBlock nullD rTruncSync).1 = .error e ∧ e ≠ .panic ∧ (leaveBlock nullD rTruncSync).2.st = .broken :=
  C17_sync_truncated_err nullD rTruncSync (by decide +kernel) (by decide +kernel)

/-! ### `C17_yields_prefix` with a NON-null `Decomp` (toy codec) and the driver's datum -/

def cFile : Bytes := fileBodyC rEnc tagCodec sync16 rBlocks

example :
    (Theorems.readAll tagDecomp drvDatum 4 (Theorems.openSlice sync16 (cFile.take 40))).1
      <+: (Theorems.readAll tagDecomp drvDatum 4 (Theorems.openSlice sync16 cFile)).1 ∧
    ((Theorems.readAll tagDecomp drvDatum 4 (Theorems.openSlice sync16 cFile)).2 ≠ .more →
      (Theorems.readAll tagDecomp drvDatum 4 (Theorems.openSlice sync16 (cFile.take 40))).2 ≠ .more) :=
  C17_yields_prefix tagDecomp drvDatum sync16 cFile 40 4

example : cFile.length = 57 ∧
    (Theorems.readAll tagDecomp drvDatum 4 (Theorems.openSlice sync16 (cFile.take 40))).1.map idOf = [1, -2] ∧
    (Theorems.readAll tagDecomp drvDatum 4 (Theorems.openSlice sync16 (cFile.take 40))).2 = .err .custom ∧
    (Theorems.readAll tagDecomp drvDatum 4 (Theorems.openSlice sync16 cFile)).1.map idOf = [1, -2, 300] ∧
    (Theorems.readAll tagDecomp drvDatum 4 (Theorems.openSlice sync16 cFile)).2 = .eos := by
  decide +kernel

/-! ### The invariant `RdInv` for the reader the driver opens, and totality on arbitrary bytes -/

/-- the reader `runOcfr` builds: `{ sync := h.sync, outer := src }` with `src` the state `readHeader`
    returns (here on the permuted header of the C06 section) -/
example : RdInv { sync := sync16, outer := (readHeader srcP).2 } := Theorems.C17_inv_init _ rfl

/-- `C17_total` on ARBITRARY source bytes, either back-end, with the driver's datum: never the
    out-of-fuel `.panic` -/
example (sl : Bool) (f : Bytes) (sched : List Nat) (lastChunk M : Nat) :
    (next nullD drvDatum (Stream.openSrc sl sync16 f sched lastChunk M)).1 ≠ .error .panic :=
  Theorems.C17_total nullD drvDatum drvDatum_no_panic _ (Theorems.C17_inv_init _ rfl)

example (f : Bytes) (k : Nat) :
    (Theorems.readAll tagDecomp drvDatum k (Theorems.openSlice sync16 f)).2 ≠ .err .panic :=
  C17_yields_prefix_null_no_panic tagDecomp drvDatum drvDatum_no_panic sync16 f k

/-! ### FINDING: `C17_yields_prefix_null_stream` is stated for `openReader …` (buffer empty,
`scratch = 0`), not for the reader the driver runs on a streaming source

`runOcfr` opens `{ sync := h.sync, outer := src }` with `src` the back-end `readHeader` returns: on a
`BufRead` back-end that state has bytes buffered (`avail > 0`) and a used scratch buffer, so it is
not of the form `openReader sync bytes sched lastChunk M` and the headline theorem does not apply
to it literally.  The development underneath (`Cut.run_start`, invariants `Cut.XStart` / `KOk`)
does cover it: the instance below is for exactly that reader, file cut inside the second block. -/

def nameNull : Bytes := [0x6E, 0x75, 0x6C, 0x6C]
/-- a streaming source (chunks of 7, then 100, then 8192 bytes) over header ++ cut file body -/
def srcStream : RState :=
  { isSlice := false, rest := headerBytes jsonInt nameNull [] sync16 ++ rFile.take 35,
    sched := [7, 100], lastChunk := 8192 }
def rdStream : Reader := { sync := sync16, outer := (readHeader srcStream).2 }

/-- not an `openReader` state: 35 bytes already buffered, scratch used -/
example : rdStream.outer.avail = 35 ∧ rdStream.outer.scratch = 11 ∧ rdStream.outer.rest = rFile.take 35 ∧
    (Stream.openReader sync16 (rFile.take 35) [] 8192 536870912).outer.avail = 0 := by decide +kernel

/-- one run of `readHeader` for all that is said of the state it leaves -/
theorem rdStream_outer : rdStream.outer.isSlice = false ∧ rdStream.outer.limit = none ∧
    rdStream.outer.avail ≤ rdStream.outer.rest.length ∧ rdStream.outer.maxAlloc = 536870912 ∧
    rdStream.outer.rest.length ≤ 536870912 ∧
    rdStream.outer.rest = (Stream.fileBody rEnc sync16 rBlocks).take 35 := by decide +kernel

theorem rdStream_cutInv :
    Stream.CutInv rEnc false (GoodVal {} rS rNode 64 rFuel) 536870912 sync16 rdStream rBlocks.flatten :=
  have h := rdStream_outer
  ⟨[], rBlocks, rfl, rBlockOk, rGood, Or.inr ⟨rfl, ⟨rfl, rfl,
    ⟨h.1, h.2.1, h.2.2.1, nofun, fun _ => h.2.2.2.1, fun _ => h.2.2.2.2.1⟩, ⟨35, h.2.2.2.2.2⟩⟩⟩⟩

example :
    (Stream.readAll nullD rDatum 4 rdStream).1.map unborrow
      <+: rBlocks.flatten.map (fun v => unborrow (obsD rS rNode v)) ∧
    (Stream.readAll nullD rDatum 4 rdStream).2 ≠ .more := by
  -- the state `readHeader` leaves is a block boundary of the cut file
  have h := rdStream_outer
  have hx : Cut.XStart (Stream.blockData rEnc) false 536870912 sync16 rdStream rBlocks 35 :=
    ⟨rfl, rfl, rfl, ⟨h.1, h.2.1, h.2.2.1, nofun, fun _ => h.2.2.2.1, fun _ => h.2.2.2.2.1⟩,
      h.2.2.2.2.2⟩
  obtain ⟨h1, -, h3⟩ := Cut.readAll_xstart_cutOk (d := nullD) (k := 4) rfl (by decide)
    (de_datumCutOk_reader {} rS rNode 64 rFuel 536870912) rBlocks rBlockOk rGood hx (by decide)
  exact ⟨h1 ▸ (Cut.cutVals_prefix _ false rBlocks 35).map _, h3⟩

example : (Stream.readAll nullD rDatum 4 rdStream).1.map idOf = [1, -2] ∧
    (Stream.readAll nullD rDatum 4 rdStream).2 = .err .io := by decide +kernel

/-! ### Smaller ones -/

/-- `C17_broken_is_error` on the reader that `enterBlock` broke (not yet seen by `next`) -/
example : (next nullD drvDatum (enterBlock nullD rBetween).2).1 = .error .custom ∧
    (next nullD drvDatum (enterBlock nullD rBetween).2).2.pretendEof = true ∧
    (next nullD drvDatum (enterBlock nullD rBetween).2).2 = { (enterBlock nullD rBetween).2 with pretendEof := true } :=
  C17_broken_is_error nullD drvDatum _ (by decide +kernel) (by decide +kernel)

/-- `C17_pretendEof_iff`, both directions are exercised: set on `rCutS` (framing error), not set on a
    healthy reader -/
example : (next nullD drvDatum rCutS).2.pretendEof = true ↔
    ∃ e, (next nullD drvDatum rCutS).1 = .error e ∧ (e = .io ∨ (next nullD drvDatum rCutS).2.st = .broken) :=
  C17_pretendEof_iff nullD drvDatum rCutS (by decide +kernel)

example : (next nullD drvDatum rCutS).2.pretendEof = true ∧
    (next nullD drvDatum (Theorems.openSlice sync16 rFile)).2.pretendEof = false := by decide +kernel

/-- `C16_prefix_on_error` -/
example : ∃ m, (writeAllVectored (sinkFuel sinkP bufsZ) bufsZ sinkP).2.data = sinkP.data ++ bufsZ.flatten.take m :=
  C16_prefix_on_error (sinkFuel sinkP bufsZ) bufsZ sinkP .io _ (by decide +kernel)

/-- `fileBody_eq_writer` with the record encoder: the file the reader theorems read is what the
    writer model lays out (null codec) -/
example : rFile = Ocf.blocksBytes { name := "null", compress := id, isNull := true } sync16
    (rBlocks.map fun b => (b.length, Stream.blockData rEnc b)) :=
  fileBody_eq_writer rEnc _ rfl sync16 rBlocks

end Avro.Theorems.NonVacuityC
