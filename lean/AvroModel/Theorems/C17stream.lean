import AvroModel.Lemmas.OcfStreamDe
import AvroModel.Lemmas.CutClassOcf
import AvroModel.Lemmas.OcfWriter
import AvroModel.Lemmas.OutEq
/-
C17, the truncation clause, for the configuration `Theorems/C17.lean` leaves out: the NULL codec with
the *real* datum deserializer `de … .any`, in particular when it reads directly from the bytes of a
block that the cut has shortened.

Where the datum deserializer meets a cut block.  On the slice back-end it never does: `SliceRead::take`
(`enterBlock`, `o.isSlice ∧ size > o.rest.length`) refuses a block that is not entirely present, which
is why `C17_yields_prefix` is stated for an arbitrary `datum`.  On the READER back-end (`io::Take`
around a `BufRead`) the block is entered whatever is left, the view `blk` holds `o.rest.take size` —
shorter than `size` when the source ends inside the block — and the deserializer runs on it.  The
clause is proved there for every chunk schedule, and by the same development on the slice back-end.

Why `de` is safe on a cut encoding: an `Ok` of `de` is an `Ok` of `Spec.decode` with the same consumed
length (`C03_de_sound`), and the specification decoder rejects every proper prefix of a canonical
encoding (`Spec.decode_cut_none`: decoder locality and `C01_spec_roundtrip`; stronger than
`C03_prefix_free`); the reader back-end follows through C11 (values up to the `borrowed` flags).

The hypothesis `DatumOk` of `C17_yields_prefix_null` quantifies over *all* slice states, including
states with a `Take` limit in place; the real `de` does not satisfy it (`datumOk_needs_no_limit`), so
that theorem says nothing about `de`.  `DatumCutOk`, used here, carries a state invariant (`KOk`) that
the container reader maintains; `C17_yields_prefix_null_slice_de` is `C17_yields_prefix_null` for `de`.
The vocabulary is that of `Avro.Theorems.Stream` (head of `Lemmas/CutClassOcf.lean`).

NOT proved here: that the error met on a cut block is of the I/O class on the reader back-end
(`C17_cut_error_class_stream_all`, `Theorems/C17class.lean`; a `custom` error would leave the reader
usable, and a caller that goes on after an error would get whatever the bytes after the failure point
decode to — `readAll`, like the property, stops at the first error).  NOT proved anywhere: equality of
the values beyond the `borrowed` flags on the reader back-end (C11 gives `unborrow a = unborrow b`).
-/
namespace Avro.Theorems
open Avro Avro.Impl Avro.Theorems.Stream
open Avro.Impl.Ocf hiding RdInv
open Avro.Impl.OcfS (RdInv)

/-! ### Vocabulary -/

/-- the canonical encoding of `v` at `node`, as a total function (`[]` where `encode` is `none`) -/
def encD (S : Schema) (node : Node) (v : Spec.Value) : Bytes := (Spec.encode S node v).getD []

/-- what a dynamically typed target receives for `v` (`unit` where `observe` is `none`) -/
def obsD (S : Schema) (node : Node) (v : Spec.Value) : Out := (Spec.observe S node v).getD .unit

/-- The side conditions of `C01_de_accepts` on one value: it conforms to the node, `rust_decimal`
    can represent its decimals, decimals on a `fixed` have at most 16 bytes, the depth budget and
    `max_seq_size` cover it, and the model fuel is sufficient. -/
structure GoodVal (cfg : DeConfig) (S : Schema) (node : Node) (depth fuel : Nat) (v : Spec.Value) :
    Prop where
  enc : (Spec.encode S node v).isSome = true
  obs : (Spec.observe S node v).isSome = true
  fix : Spec.fixedDecOk S node v = true
  depth : Spec.depthOf v ≤ depth
  seq : Spec.maxLen v ≤ cfg.maxSeqSize
  fuel : Spec.size v * 4 + 8 ≤ fuel

/-- `GoodVal` and `BlockOk` are conjunctions of decidable facts: for a closed file the side
    conditions "every value is good", "every block fits" are one `decide +kernel` -/
instance (cfg : DeConfig) (S : Schema) (node : Node) (depth fuel : Nat) (v : Spec.Value) :
    Decidable (GoodVal cfg S node depth fuel v) :=
  decidable_of_iff ((Spec.encode S node v).isSome = true ∧ (Spec.observe S node v).isSome = true ∧
      Spec.fixedDecOk S node v = true ∧ Spec.depthOf v ≤ depth ∧ Spec.maxLen v ≤ cfg.maxSeqSize ∧
      Spec.size v * 4 + 8 ≤ fuel)
    ⟨fun ⟨a, b, c, d, e, f⟩ => ⟨a, b, c, d, e, f⟩, fun h => ⟨h.enc, h.obs, h.fix, h.depth, h.seq, h.fuel⟩⟩

instance {V : Type} (enc : V → Bytes) (vals : List V) : Decidable (Stream.BlockOk enc vals) := by
  unfold Stream.BlockOk; infer_instance

variable {cfg : DeConfig} {S : Schema} {node : Node} {depth fuel : Nat}

theorem GoodVal.enc_eq {v : Spec.Value} (h : GoodVal cfg S node depth fuel v) :
    Spec.encode S node v = some (encD S node v) := by
  have := h.enc
  unfold encD
  cases hx : Spec.encode S node v with
  | none => rw [hx] at this; cases this
  | some e => rfl

theorem GoodVal.obs_eq {v : Spec.Value} (h : GoodVal cfg S node depth fuel v) :
    Spec.observe S node v = some (obsD S node v) := by
  have := h.obs
  unfold obsD
  cases hx : Spec.observe S node v with
  | none => rw [hx] at this; cases this
  | some e => rfl

/-! ### Prefix-safety of the datum deserializer -/

/-- **C17 (prefix-safety of `de`, slice back-end).** The input is the canonical encoding of a good
    value followed by anything, cut after `j` bytes. Cut after the encoding: `observe v`, exactly
    the cut rest left. Cut inside the encoding: an error, never a value. -/
theorem C17_datum_cut_slice (cfg : DeConfig) (S : Schema) (node : Node) (depth fuel : Nat)
    (v : Spec.Value) (hv : GoodVal cfg S node depth fuel v)
    (s : RState) (hs : s.isSlice = true) (hl : s.limit = none) (ha : s.avail = 0)
    (y : Bytes) (j : Nat) (hr : s.rest = (encD S node v ++ y).take j) :
    ((encD S node v).length ≤ j →
      de deExtModel cfg S fuel node depth false .any s =
        (.ok (obsD S node v), { s with rest := y.take (j - (encD S node v).length) })) ∧
    (j < (encD S node v).length →
      ∃ e s', de deExtModel cfg S fuel node depth false .any s = (.error e, s')) :=
  de_cut_slice cfg S node v _ _ depth fuel hv.enc_eq hv.obs_eq hv.fix hv.depth hv.seq hv.fuel
    s hs hl ha y j hr

/-- **C17 (prefix-safety of `de`, reader back-end, any chunk schedule).** Same, the value up to the
    `borrowed` flags (the reader copies where the slice lends), the state invariant kept. -/
theorem C17_datum_cut_reader (cfg : DeConfig) (S : Schema) (node : Node) (depth fuel : Nat)
    (v : Spec.Value) (hv : GoodVal cfg S node depth fuel v)
    (M : Nat) (s : RState) (hb : BOk M s)
    (y : Bytes) (j : Nat) (hr : s.rest = (encD S node v ++ y).take j) :
    ((encD S node v).length ≤ j →
      ∃ a s', de deExtModel cfg S fuel node depth false .any s = (.ok a, s') ∧
        unborrow a = unborrow (obsD S node v) ∧
        s'.rest = y.take (j - (encD S node v).length) ∧ BOk M s') ∧
    (j < (encD S node v).length →
      ∃ e s', de deExtModel cfg S fuel node depth false .any s = (.error e, s')) :=
  de_cut_reader cfg S node v _ _ depth fuel hv.enc_eq hv.obs_eq hv.fix hv.depth hv.seq hv.fuel
    M s hb y j hr

theorem de_datumCutOk_slice (cfg : DeConfig) (S : Schema) (node : Node) (depth fuel M : Nat) :
    DatumCutOk (encD S node) (GoodVal cfg S node depth fuel) (KOk true M) id (obsD S node)
      (de deExtModel cfg S fuel node depth false .any) := by
  intro s v y j hv hk hr
  obtain ⟨h1, h2⟩ := C17_datum_cut_slice cfg S node depth fuel v hv s hk.back hk.limit
    (hk.avail0 rfl) y j hr
  exact ⟨fun hj => ⟨_, _, h1 hj, rfl, rfl, KOk.ofSlice hk.back hk.limit (hk.avail0 rfl)⟩, h2⟩

theorem de_datumCutOk_reader (cfg : DeConfig) (S : Schema) (node : Node) (depth fuel M : Nat) :
    DatumCutOk (encD S node) (GoodVal cfg S node depth fuel) (KOk false M) unborrow
      (fun v => unborrow (obsD S node v)) (de deExtModel cfg S fuel node depth false .any) := by
  intro s v y j hv hk hr
  obtain ⟨h1, h2⟩ := C17_datum_cut_reader cfg S node depth fuel v hv M s hk.toBOk y j hr
  refine ⟨fun hj => ?_, h2⟩
  obtain ⟨a, s', e1, e2, e3, e4⟩ := h1 hj
  exact ⟨a, s', e1, e2, e3, KOk.ofBOk e4⟩

/-- **C17 (the data of a block, cut; slice back-end).** `vals` good values, the input their
    concatenated canonical encodings (what the writer puts in a block under the null codec) cut
    after `j` bytes. Running `de` once per value until the first error yields exactly
    `observe v₁ … observe v_k` for the `k` values whose encodings lie entirely in the first `j`
    bytes (`fitting`, a prefix of `vals`) — and, if the cut removed anything, then an error:
    never an `Ok` with some other value. -/
theorem C17_block_cut_slice (cfg : DeConfig) (S : Schema) (node : Node) (depth fuel : Nat)
    (vals : List Spec.Value) (hv : ∀ v ∈ vals, GoodVal cfg S node depth fuel v)
    (s : RState) (hs : s.isSlice = true) (hl : s.limit = none) (ha : s.avail = 0)
    (j : Nat) (hr : s.rest = (Stream.blockData (encD S node) vals).take j) :
    (readMany (de deExtModel cfg S fuel node depth false .any) vals.length s).1
        = (fitting (encD S node) vals j).map (obsD S node) ∧
    fitting (encD S node) vals j <+: vals ∧
    (j < (Stream.blockData (encD S node) vals).length →
      ∃ e, (readMany (de deExtModel cfg S fuel node depth false .any) vals.length s).2 = some e) ∧
    ((Stream.blockData (encD S node) vals).length ≤ j →
      fitting (encD S node) vals j = vals ∧
      (readMany (de deExtModel cfg S fuel node depth false .any) vals.length s).2 = none) := by
  obtain ⟨h1, h2, h3⟩ := readMany_cut (encD S node) (de_datumCutOk_slice cfg S node depth fuel 0)
    vals s j hv (KOk.ofSlice hs hl ha) hr
  refine ⟨by simpa using h1, fitting_prefix _ _ _, fun hj => h2 (fitting_lt _ _ _ hj), fun hj => ?_⟩
  have := fitting_all (encD S node) vals j hj
  exact ⟨this, h3 (by rw [this])⟩

/-- **C17 (the data of a block, cut; reader back-end, any chunk schedule).** -/
theorem C17_block_cut_reader (cfg : DeConfig) (S : Schema) (node : Node) (depth fuel : Nat)
    (vals : List Spec.Value) (hv : ∀ v ∈ vals, GoodVal cfg S node depth fuel v)
    (M : Nat) (s : RState) (hb : BOk M s)
    (j : Nat) (hr : s.rest = (Stream.blockData (encD S node) vals).take j) :
    ((readMany (de deExtModel cfg S fuel node depth false .any) vals.length s).1.map unborrow
        = (fitting (encD S node) vals j).map (fun v => unborrow (obsD S node v))) ∧
    fitting (encD S node) vals j <+: vals ∧
    (j < (Stream.blockData (encD S node) vals).length →
      ∃ e, (readMany (de deExtModel cfg S fuel node depth false .any) vals.length s).2 = some e) ∧
    ((Stream.blockData (encD S node) vals).length ≤ j →
      fitting (encD S node) vals j = vals ∧
      (readMany (de deExtModel cfg S fuel node depth false .any) vals.length s).2 = none) := by
  obtain ⟨h1, h2, h3⟩ := readMany_cut (encD S node) (de_datumCutOk_reader cfg S node depth fuel M)
    vals s j hv (KOk.ofBOk hb) hr
  refine ⟨h1, fitting_prefix _ _ _, fun hj => h2 (fitting_lt _ _ _ hj), fun hj => ?_⟩
  have := fitting_all (encD S node) vals j hj
  exact ⟨this, h3 (by rw [this])⟩

/-! ### The container reader on a cut file: null codec, reader back-end, real `de` -/

/-- **C17 (a valid file cut at any byte offset): null codec, reader back-end, the real datum
    deserializer.**
    `blocks` are the lists of values of the successive blocks, each value good (`GoodVal`), counts and
    sizes within `i64` (`BlockOk`); `fileBody` lays the file out as the writer does (count, size,
    concatenated canonical encodings, sync marker — per block).  The reader is opened on the first
    `m` bytes, delivered by a `BufRead` under an arbitrary chunk schedule (`sched`, `lastChunk`),
    allocation cap `M` at least the number of bytes supplied.  `readAll` (up to `N + 1` calls of
    `deserialize_next`, `N` the number of values written) then
      * yields, up to the `borrowed` flags, a prefix of the `observe`s of the values written — never
        a value that was not written, never out of order;
      * stops by itself within the `N + 1` calls, on end of stream or on an error;
      * and if nothing was cut off yields all of them, then end of stream. -/
theorem C17_yields_prefix_null_stream (d : Decomp) (hn : d.isNull = true)
    (cfg : DeConfig) (S : Schema) (node : Node) (depth fuel : Nat)
    (sync : Bytes) (hsy : sync.length = 16)
    (blocks : List (List Spec.Value)) (hbs : ∀ b ∈ blocks, BlockOk (encD S node) b)
    (hgood : ∀ v ∈ blocks.flatten, GoodVal cfg S node depth fuel v)
    (m : Nat) (sched : List Nat) (lastChunk M : Nat)
    (hM : ((fileBody (encD S node) sync blocks).take m).length ≤ M) :
    ((readAll d (de deExtModel cfg S fuel node depth false .any) (blocks.flatten.length + 1)
        (openReader sync ((fileBody (encD S node) sync blocks).take m) sched lastChunk M)).1.map
          unborrow
      <+: blocks.flatten.map (fun v => unborrow (obsD S node v))) ∧
    (readAll d (de deExtModel cfg S fuel node depth false .any) (blocks.flatten.length + 1)
        (openReader sync ((fileBody (encD S node) sync blocks).take m) sched lastChunk M)).2
      ≠ .more ∧
    ((fileBody (encD S node) sync blocks).length ≤ m →
      (readAll d (de deExtModel cfg S fuel node depth false .any) (blocks.flatten.length + 1)
          (openReader sync ((fileBody (encD S node) sync blocks).take m) sched lastChunk M)).1.map
            unborrow
        = blocks.flatten.map (fun v => unborrow (obsD S node v)) ∧
      (readAll d (de deExtModel cfg S fuel node depth false .any) (blocks.flatten.length + 1)
          (openReader sync ((fileBody (encD S node) sync blocks).take m) sched lastChunk M)).2
        = .eos) := by
  obtain ⟨h1, h2, h3⟩ := Cut.readAll_xstart_cutOk hn hsy (de_datumCutOk_reader cfg S node depth fuel M)
    blocks hbs hgood (Cut.xstart_open (sl := false) sync blocks m sched lastChunk M fun _ => hM)
    (Nat.lt_succ_self _)
  refine ⟨?_, h3, fun hm => ?_⟩
  · rw [h1]; exact (Cut.cutVals_prefix _ false blocks m).map _
  · rw [h1, Cut.cutVals_all _ false sync hsy blocks m hm]
    exact ⟨rfl, h2 ((Cut.cutWhere_clean_iff _ sync hsy blocks m).2 (.inl hm))⟩

/-- **C17 (a valid file cut at any byte offset): null codec, SLICE back-end, the real datum
    deserializer.**  The instance of `C17_yields_prefix_null` for `datum := de … .any` (its
    hypothesis `DatumOk` is not met by `de` as stated, see `datumOk_needs_no_limit`): here the
    values are exactly the `observe`s (strings and byte strings borrowed), no allocation cap is
    involved, and a block is delivered only if it is entirely present. -/
theorem C17_yields_prefix_null_slice_de (d : Decomp) (hn : d.isNull = true)
    (cfg : DeConfig) (S : Schema) (node : Node) (depth fuel : Nat)
    (sync : Bytes) (hsy : sync.length = 16)
    (blocks : List (List Spec.Value)) (hbs : ∀ b ∈ blocks, BlockOk (encD S node) b)
    (hgood : ∀ v ∈ blocks.flatten, GoodVal cfg S node depth fuel v) (m : Nat) :
    ((readAll d (de deExtModel cfg S fuel node depth false .any) (blocks.flatten.length + 1)
        (openSlice sync ((fileBody (encD S node) sync blocks).take m))).1
      <+: blocks.flatten.map (obsD S node)) ∧
    (readAll d (de deExtModel cfg S fuel node depth false .any) (blocks.flatten.length + 1)
        (openSlice sync ((fileBody (encD S node) sync blocks).take m))).2 ≠ .more ∧
    ((fileBody (encD S node) sync blocks).length ≤ m →
      readAll d (de deExtModel cfg S fuel node depth false .any) (blocks.flatten.length + 1)
          (openSlice sync ((fileBody (encD S node) sync blocks).take m))
        = (blocks.flatten.map (obsD S node), .eos)) := by
  obtain ⟨h1, h2, h3⟩ := Cut.readAll_xstart_cutOk (k := blocks.flatten.length + 1) hn hsy
    (de_datumCutOk_slice cfg S node depth fuel 0) blocks hbs hgood
    (Cut.XStart.ofSlice (blockData (encD S node)) sync
      ((fileBody (encD S node) sync blocks).take m) 0 blocks m rfl) (Nat.lt_succ_self _)
  rw [List.map_id] at h1
  refine ⟨?_, h3, fun hm => ?_⟩
  · rw [h1]; exact (Cut.cutVals_prefix _ true blocks m).map _
  · refine Prod.ext ?_ (h2 ((Cut.cutWhere_clean_iff _ sync hsy blocks m).2 (.inl hm)))
    rw [h1, Cut.cutVals_all _ true sync hsy blocks m hm]

/-- … and the run never ends with a panic — nor with the model's own out-of-fuel marker — for a
    well-formed schema and the fuel bound of C04: any source bytes `f`, valid or not, either
    back-end, any chunk schedule, any number of calls. -/
theorem C17_yields_prefix_null_stream_no_panic (d : Decomp)
    (cfg : DeConfig) (S : Schema) (hS : S.keysInBounds = true) (root : Nat) (node : Node)
    (hroot : S[root]? = some node) (depth fuel : Nat) (hf : fuelBound cfg S .any depth ≤ fuel)
    (sl : Bool) (sync f : Bytes) (sched : List Nat) (lastChunk M k : Nat) :
    (readAll d (de deExtModel cfg S fuel node depth false .any) k
      (openSrc sl sync f sched lastChunk M)).2 ≠ .err .panic :=
  readAll_no_panic d _
    (fun s => C04_no_panic_root deExtModel cfg S hS fuel root node hroot depth false .any hf s)
    k _ (rdInv_init _ rfl)

/-! ### Non-vacuity -/

namespace C17stream

/-- `int` values through the specification encoder -/
def exEnc : Spec.Value → Bytes := encD #[.int] .int
def exSync : Bytes := List.replicate 16 0xAB
/-- two blocks, three ints: `[1, 2]` and `[300]` -/
def exBlocks : List (List Spec.Value) := [[.int 1, .int 2], [.int 300]]
def exFile : Bytes := fileBody exEnc exSync exBlocks
def exNull : Decomp := { isNull := true, decompress := fun _ => none }
def exDatum : RState → Except DeErr Out × RState := de deExtModel {} #[.int] 20 .int 64 false .any
/-- block 1 = count 2, size 2, `02 04`, marker; block 2 = count 1, size 2, `D8 04`, marker -/
def exBytes : Bytes := [4, 4, 2, 4] ++ exSync ++ [2, 4, 0xD8, 0x04] ++ exSync

/-- a concrete run equals a given outcome, from one kernel evaluation of a Boolean -/
theorem run_eq_of {ε : Type} [DecidableEq ε] {x y : List Out × ε}
    (h : (NVB.oeqL x.1 y.1 && decide (x.2 = y.2)) = true) : x = y := by
  rw [Bool.and_eq_true, decide_eq_true_eq] at h
  exact Prod.ext (NVB.oeqL_sound _ _ h.1) h.2

theorem exEnc1 : exEnc (.int 1) = [2] := by
  simp [exEnc, encD, Spec.encode, Spec.encodeLong, Spec.zigzag, Spec.encodeNat, Spec.InI32]
theorem exEnc2 : exEnc (.int 2) = [4] := by
  simp [exEnc, encD, Spec.encode, Spec.encodeLong, Spec.zigzag, Spec.encodeNat, Spec.InI32]
theorem exEnc300 : exEnc (.int 300) = [0xD8, 0x04] := by
  simp [exEnc, encD, Spec.encode, Spec.encodeLong, Spec.zigzag, Spec.encodeNat, Spec.InI32]
theorem exVar1 : encodeVarI64 1 = [2] := by
  unfold encodeVarI64
  have : (zigzagBV (BitVec.ofInt 64 1)).toNat = 2 := by decide
  rw [this, encodeVarU64]; decide
theorem exVar2 : encodeVarI64 2 = [4] := by
  unfold encodeVarI64
  have : (zigzagBV (BitVec.ofInt 64 2)).toNat = 4 := by decide
  rw [this, encodeVarU64]; decide

/-- the file the layout function produces, byte for byte -/
theorem exFile_eq : exFile = exBytes := by
  simp [exFile, exBytes, fileBody, Stream.blockBytes, Stream.blockData, exBlocks, exEnc1, exEnc2, exEnc300,
    exVar1, exVar2]

/-- Cut after 23 bytes, i.e. inside the second block, in the middle of the varint of `300`
    (`D8` present, `04` missing); delivered in chunks of 1, 2, then 3 bytes: the two values of the
    first block, then an I/O error — the third value is not fabricated from the half varint. -/
theorem ex_cut_second_block :
    readAll exNull exDatum 4 (openReader exSync (exFile.take 23) [1, 2] 3 1000) =
      ([.i32 1, .i32 2], .err .io) :=
  run_eq_of (by decide +kernel)

/-- Cut after 3 bytes, inside the FIRST block (`02` present, `04` missing): the streaming reader
    has already delivered the first value when it meets the cut (a slice reader refuses the whole
    block, `SliceRead::take`). -/
theorem ex_cut_first_block :
    readAll exNull exDatum 4 (openReader exSync (exFile.take 3) [1, 2] 3 1000) =
      ([.i32 1], .err .io) :=
  run_eq_of (by decide +kernel)

/-- The same two cuts on the slice back-end: the cut block is refused as a whole. -/
theorem ex_cut_second_block_slice :
    readAll exNull exDatum 4 (openSlice exSync (exFile.take 23)) = ([.i32 1, .i32 2], .err .custom) ∧
    readAll exNull exDatum 4 (openSlice exSync (exFile.take 3)) = ([], .err .custom) :=
  ⟨run_eq_of (by decide +kernel), run_eq_of (by decide +kernel)⟩

theorem ex_whole_file :
    readAll exNull exDatum 4 (openReader exSync exFile [1, 2] 3 1000) =
      ([.i32 1, .i32 2, .i32 300], .eos) :=
  run_eq_of (by decide +kernel)

theorem exGood : ∀ v ∈ exBlocks.flatten, GoodVal {} #[.int] .int 64 20 v := by decide +kernel

theorem exBlockOk : ∀ b ∈ exBlocks, BlockOk exEnc b := by decide +kernel

theorem ex_general (m : Nat) (sched : List Nat) (lastChunk : Nat) :
    ((readAll exNull exDatum 4 (openReader exSync (exFile.take m) sched lastChunk 1000)).1.map
        unborrow <+: [.i32 1, .i32 2, .i32 300]) ∧
    (readAll exNull exDatum 4 (openReader exSync (exFile.take m) sched lastChunk 1000)).2
      ≠ .more := by
  have h := C17_yields_prefix_null_stream exNull rfl {} #[.int] .int 64 20 exSync rfl exBlocks
    exBlockOk exGood m sched lastChunk 1000 (by
      have : exFile.length = 40 := by rw [exFile_eq]; rfl
      show (exFile.take m).length ≤ 1000
      rw [List.length_take]; omega)
  exact ⟨h.1, h.2.1⟩

/-- `C17_block_cut_slice` on the data of a block `[1, 300, 2]` cut after 2 bytes (inside `300`):
    one value, then an error (class `custom` on the slice, `io` on a reader). -/
theorem ex_block_cut :
    readMany exDatum 3 { rest := (Stream.blockData exEnc [.int 1, .int 300, .int 2]).take 2 } =
      ([.i32 1], some .custom) :=
  run_eq_of (by decide +kernel)

end C17stream

/-- The hypothesis `DatumOk` of `C17_yields_prefix_null` asks the datum deserializer to succeed
    from *every* slice state whose `rest` starts with an encoding. The real `de` does not when a
    `Take` limit is in place (state never reached between two datums): hence `DatumCutOk` carries
    a state invariant. -/
theorem datumOk_needs_no_limit :
    Spec.encode #[.float] .float (.float 0) = some [0, 0, 0, 0] ∧
    (de deExtModel {} #[.float] 20 .float 64 false .any
      { isSlice := true, rest := [0, 0, 0, 0], limit := some 0 }).1 = .error .io := by
  constructor
  · decide
  · simp [de, deAny, readExact, readExactR, readSome, bind, DeM.fail]

/-! ### The layout `fileBody` is the writer's -/

/-- `fileBody` is what the writer model puts after the header under the null codec
    (`Lemmas/OcfWriter.lean`, `blocksBytes`: per block the count, the size, the concatenated
    datum encodings, the sync marker), for the blocks `(number of values, concatenated encodings)`. -/
theorem fileBody_eq_writer {V : Type} (enc : V → Bytes) (c : Codec) (hc : c.isNull = true)
    (sync : Bytes) (blocks : List (List V)) :
    fileBody enc sync blocks =
      Ocf.blocksBytes c sync (blocks.map fun b => (b.length, Stream.blockData enc b)) := by
  have : Stream.blockBytes enc sync = fun (x : List V) =>
      encodeVarI64 x.length ++ (encodeVarI64 (Stream.blockData enc x).length ++
        (Stream.blockData enc x ++ sync)) := by
    funext x; simp [Stream.blockBytes, List.append_assoc]
  simp [fileBody, Ocf.blocksBytes, Ocf.blockBytes, Ocf.codecData, hc, List.map_map,
    Function.comp_def, this]

end Avro.Theorems
