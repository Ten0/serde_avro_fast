import AvroModel.Theorems.C12layouts
import AvroModel.Theorems.ExampleDataB
import AvroModel.Theorems.C03reader
/-
C12 on the STREAMING-READER back-end, for every refill schedule: ignoring a part of the input
(`deserialize_ignored_any`, a struct target that lacks a field, a unit variant for a union branch)
consumes exactly what reading it would.  The four slice theorems of `Theorems/C12layouts.lean`
transferred through C11 with the conventions of `Theorems/C03reader.lean`.

What does NOT transfer: the slice theorems say "ends in the SAME STATE as the full read".  On the
reader the two final states have the same `rest` but are in general DIFFERENT states: a string that
does not fit the buffered chunk is copied through the scratch buffer by the full read and jumped
over by `skip_bytes` when it sits in a block written with its byte size
(`C12reader_skip_state_differs`).  So the reader versions state `r₂.rest = r₁.rest` and
`ReaderOK r₂`, not `r₂ = r₁`.
-/
namespace Avro.Theorems
open Avro Avro.Spec Avro.Impl

/-- the ignoring read carries over with its result: `unit` has no `borrowed` flag -/
theorem de_ignored_reader_of_slice (cfg : DeConfig) (S : Schema) (fuel : Nat) (node : Node)
    (depth : Nat) {r : RState} (hr : ReaderOK r) {sl' : RState}
    (hsl : de deExtModel cfg S fuel node depth false .ignored (sliceOf r) = (.ok .unit, sl')) :
    ∃ r', de deExtModel cfg S fuel node depth false .ignored r = (.ok .unit, r') ∧
      r'.rest = sl'.rest ∧ ReaderOK r' := by
  obtain ⟨o', r', e, ho, hrest, hok⟩ :=
    de_reader_of_slice deExtModel cfg S fuel node depth false .ignored hr hsl
  rw [unborrow_unit] at ho
  rw [unborrow_eq_unit ho] at e
  exact ⟨r', e, hrest, hok⟩

/-- **C12, skipping (all layouts), streaming reader.**  The statement of `C12_skip_all_layouts`
    for a reader state with any refill schedule.  (The value is `unit` exactly: `unborrow` does
    not touch it.) -/
theorem C12_skip_all_layouts_reader (cfg : DeConfig) (S : Schema) (node : Node) (v : Spec.Value)
    (bytes rest : Bytes) (depth fuelS fuelX : Nat)
    (hdec : Spec.decode S fuelS node bytes = some (v, rest))
    (hobs : (Spec.observe S node v).isSome = true)
    (hexact : (Spec.decodeX Limits.impl S fuelX node bytes).isSome = true)
    (hdepth : Spec.depthOf v ≤ depth) (hseq : Spec.maxLen v ≤ cfg.maxSeqSize)
    (fuel : Nat) (hfuel : Spec.size v * 4 + 8 ≤ fuel)
    (r : RState) (hs : r.isSlice = false) (hl : r.limit = none) (ha : r.avail ≤ r.rest.length)
    (hm : r.rest.length ≤ r.maxAlloc) (hr : r.rest = bytes) :
    ∃ r', de deExtModel cfg S fuel node depth false .ignored r = (.ok .unit, r') ∧
      r'.rest = rest ∧ ReaderOK r' :=
  de_ignored_reader_of_slice cfg S fuel node depth ⟨hs, hl, ha, hm⟩
    (C12_skip_all_layouts cfg S node v bytes rest depth fuelS fuelX hdec hobs hexact hdepth hseq
      fuel hfuel (sliceOf r) rfl hl rfl hr)

/-- The same stated on `decodeX` alone, with the fuel bound `3 * size v`. -/
theorem C12_skip_exact_layouts_reader (cfg : DeConfig) (S : Schema) (node : Node) (v : Spec.Value)
    (bytes rest : Bytes) (o : Out) (depth fuelX : Nat)
    (hdec : Spec.decodeX Limits.impl S fuelX node bytes = some (v, rest))
    (hobs : Spec.observe S node v = some o)
    (hdepth : Spec.depthOf v ≤ depth) (hseq : Spec.maxLen v ≤ cfg.maxSeqSize)
    (fuel : Nat) (hfuel : 3 * Spec.size v ≤ fuel)
    (r : RState) (hs : r.isSlice = false) (hl : r.limit = none) (ha : r.avail ≤ r.rest.length)
    (hm : r.rest.length ≤ r.maxAlloc) (hr : r.rest = bytes) :
    ∃ r', de deExtModel cfg S fuel node depth false .ignored r = (.ok .unit, r') ∧
      r'.rest = rest ∧ ReaderOK r' :=
  de_ignored_reader_of_slice cfg S fuel node depth ⟨hs, hl, ha, hm⟩
    (C12_skip_exact_layouts cfg S node v bytes rest o depth fuelX hdec hobs hdepth hseq
      fuel hfuel (sliceOf r) rfl hl rfl hr)

/-- Skipping and reading leave the same input (NOT the same state, see the head of the file). -/
theorem C12_skip_same_rest_all_layouts_reader (cfg : DeConfig) (S : Schema) (node : Node)
    (v : Spec.Value) (bytes rest : Bytes) (depth fuelS fuelX : Nat)
    (hdec : Spec.decode S fuelS node bytes = some (v, rest))
    (hobs : (Spec.observe S node v).isSome = true)
    (hexact : (Spec.decodeX Limits.impl S fuelX node bytes).isSome = true)
    (hdepth : Spec.depthOf v ≤ depth) (hseq : Spec.maxLen v ≤ cfg.maxSeqSize)
    (fuel : Nat) (hfuel : Spec.size v * 4 + 8 ≤ fuel)
    (r : RState) (hs : r.isSlice = false) (hl : r.limit = none) (ha : r.avail ≤ r.rest.length)
    (hm : r.rest.length ≤ r.maxAlloc) (hr : r.rest = bytes) :
    (de deExtModel cfg S fuel node depth false .ignored r).2.rest =
      (de deExtModel cfg S fuel node depth false .any r).2.rest := by
  obtain ⟨o, ho⟩ := Option.isSome_iff_exists.1 hobs
  obtain ⟨x, hx⟩ := Option.isSome_iff_exists.1 hexact
  obtain ⟨r₂, e₂, h₂, _⟩ := C12_skip_all_layouts_reader cfg S node v bytes rest depth fuelS fuelX
    hdec hobs hexact hdepth hseq fuel hfuel r hs hl ha hm hr
  obtain ⟨o₁, r₁, e₁, _, h₁, _⟩ := C03_de_refines_spec_reader cfg S node v bytes rest o depth fuelS
    fuelX hdec ho (by rw [Spec.decodeX_sub _ S fuelX node bytes x hx]; rfl) hdepth hseq fuel hfuel
    r hs hl ha hm hr
  rw [e₂, e₁, h₂, h₁]

/- The slice conclusion `… .ignored r = (.ok .unit, r₁) ∧ Spec.observe S node v = some o ∧
   r₁.rest = rest` is FALSE for a reader state `r` (`C12reader_skip_state_differs`): the final state
   of the skipping read is not `r₁` (only its `rest` is `r₁.rest`), and `observe v` is `o` only up
   to `unborrow`. -/

/-- **C12 (all layouts), in the form of the property, streaming reader.**  If the full read of
    `node` succeeds on the reader state `r` (any refill schedule) and the block byte sizes of the
    value it read are exact (`hexact`), the skipping read succeeds from `r` and leaves exactly the
    input the full read leaves (`r₂.rest = r₁.rest = rest`), in a state that is again `ReaderOK`
    — so whatever is read next is read from the same bytes and, by C11, is what would be read after
    the full read.  `o` is `observe v` up to the `borrowed` flags. -/
theorem C12_skip_agrees_with_read_reader (cfg : DeConfig) (S : Schema) (node : Node)
    (depth fuelR : Nat) (r r₁ : RState) (o : Out)
    (hs : r.isSlice = false) (hl : r.limit = none) (ha : r.avail ≤ r.rest.length)
    (hm : r.rest.length ≤ r.maxAlloc)
    (hread : de deExtModel cfg S fuelR node depth false .any r = (.ok o, r₁))
    (v : Spec.Value) (rest : Bytes) (fuelX : Nat)
    (hexact : Spec.decodeX Limits.impl S fuelX node r.rest = some (v, rest))
    (fuel : Nat) (hfuel : 3 * Spec.size v ≤ fuel) :
    ∃ r₂ o₀, de deExtModel cfg S fuel node depth false .ignored r = (.ok .unit, r₂) ∧
      r₂.rest = r₁.rest ∧ ReaderOK r₂ ∧ ReaderOK r₁ ∧
      Spec.observe S node v = some o₀ ∧ unborrow o = unborrow o₀ ∧ r₁.rest = rest := by
  have hok : ReaderOK r := ⟨hs, hl, ha, hm⟩
  obtain ⟨o₀, sl₁, hsl, ho, hrest₁, hok₁⟩ :=
    de_slice_of_reader deExtModel cfg S fuelR node depth false .any hok hread
  obtain ⟨hskip, hobs, hr⟩ := C12_skip_agrees_with_read cfg S node depth fuelR (sliceOf r) sl₁ o₀
    rfl hl rfl hsl v rest fuelX hexact fuel hfuel
  obtain ⟨r₂, e, hrest₂, hok₂⟩ := de_ignored_reader_of_slice cfg S fuel node depth hok hskip
  exact ⟨r₂, o₀, e, by rw [hrest₂, hrest₁], hok₂, hok₁, hobs, ho, by rw [hrest₁, hr]⟩

/-- **C12 (all layouts), the property with no reference to the decoded value, streaming reader**:
    with the input-independent amount of fuel of C04. -/
theorem C12_skip_follows_read_reader (cfg : DeConfig) (S : Schema) (hS : S.keysInBounds = true)
    (k : Nat) (node : Node) (hk : S[k]? = some node) (depth fuelR fuel : Nat)
    (r r₁ : RState) (o : Out)
    (hs : r.isSlice = false) (hl : r.limit = none) (ha : r.avail ≤ r.rest.length)
    (hm : r.rest.length ≤ r.maxAlloc)
    (hread : de deExtModel cfg S fuelR node depth false .any r = (.ok o, r₁))
    (hexact : ∃ fuelX, (Spec.decodeX Limits.impl S fuelX node r.rest).isSome = true)
    (hfuel : fuelBound cfg S .ignored depth ≤ fuel) :
    ∃ r₂, de deExtModel cfg S fuel node depth false .ignored r = (.ok .unit, r₂) ∧
      r₂.rest = r₁.rest ∧ ReaderOK r₂ := by
  have hok : ReaderOK r := ⟨hs, hl, ha, hm⟩
  obtain ⟨o₀, sl₁, hsl, _, hrest₁, _⟩ :=
    de_slice_of_reader deExtModel cfg S fuelR node depth false .any hok hread
  have hskip := C12_skip_follows_read cfg S hS k node hk depth fuelR fuel (sliceOf r) sl₁ o₀
    rfl hl rfl hsl hexact hfuel
  obtain ⟨r₂, e, hrest₂, hok₂⟩ := de_ignored_reader_of_slice cfg S fuel node depth hok hskip
  exact ⟨r₂, e, by rw [hrest₂, hrest₁], hok₂⟩

/-- **C12 (struct target listing a subset of the fields), all layouts, streaming reader.**  Both
    reads succeed from the reader state, the full one with the entries `os` of `observe v`, the
    struct target with the same entries where the value of every field it does not list is
    replaced by `unit` (`maskEntry`) — both up to the `borrowed` flags — and both leave exactly
    `rest`. -/
theorem C12_struct_subset_all_layouts_reader (cfg : DeConfig) (S : Schema) (nm : Name)
    (fields : List (String × Nat)) (v : Spec.Value) (bytes rest : Bytes) (o : Out)
    (depth fuelS fuelX : Nat)
    (fs : List (String × Hint)) (hfs : ∀ p ∈ fs, p.2 = .any)
    (hdec : Spec.decode S fuelS (.record nm fields) bytes = some (v, rest))
    (hobs : Spec.observe S (.record nm fields) v = some o)
    (hexact : (Spec.decodeX Limits.impl S fuelX (.record nm fields) bytes).isSome = true)
    (hdepth : Spec.depthOf v ≤ depth) (hseq : Spec.maxLen v ≤ cfg.maxSeqSize)
    (fuel : Nat) (hfuel : Spec.size v * 4 + 8 ≤ fuel)
    (r : RState) (hs : r.isSlice = false) (hl : r.limit = none) (ha : r.avail ≤ r.rest.length)
    (hm : r.rest.length ≤ r.maxAlloc) (hr : r.rest = bytes) :
    ∃ os, o = .map os ∧
      (∃ o₁ r₁, de deExtModel cfg S fuel (.record nm fields) depth false .any r = (.ok o₁, r₁) ∧
        unborrow o₁ = unborrow (.map os) ∧ r₁.rest = rest ∧ ReaderOK r₁) ∧
      (∃ o₂ r₂, de deExtModel cfg S fuel (.record nm fields) depth false (.struct fs) r =
          (.ok o₂, r₂) ∧
        unborrow o₂ = unborrow (.map (os.map (maskEntry fs))) ∧ r₂.rest = rest ∧ ReaderOK r₂) := by
  have hok : ReaderOK r := ⟨hs, hl, ha, hm⟩
  obtain ⟨os, ho, h1, h2⟩ := C12_struct_subset_all_layouts cfg S nm fields v bytes rest o depth
    fuelS fuelX fs hfs hdec hobs hexact hdepth hseq fuel hfuel (sliceOf r) rfl hl rfl hr
  exact ⟨os, ho, de_reader_of_slice deExtModel cfg S fuel _ depth false .any hok h1,
    de_reader_of_slice deExtModel cfg S fuel _ depth false (.struct fs) hok h2⟩

/-- In particular both reader runs leave the same input. -/
theorem C12_struct_subset_rest_all_layouts_reader (cfg : DeConfig) (S : Schema) (nm : Name)
    (fields : List (String × Nat)) (v : Spec.Value) (bytes rest : Bytes) (o : Out)
    (depth fuelS fuelX : Nat)
    (fs : List (String × Hint)) (hfs : ∀ p ∈ fs, p.2 = .any)
    (hdec : Spec.decode S fuelS (.record nm fields) bytes = some (v, rest))
    (hobs : Spec.observe S (.record nm fields) v = some o)
    (hexact : (Spec.decodeX Limits.impl S fuelX (.record nm fields) bytes).isSome = true)
    (hdepth : Spec.depthOf v ≤ depth) (hseq : Spec.maxLen v ≤ cfg.maxSeqSize)
    (fuel : Nat) (hfuel : Spec.size v * 4 + 8 ≤ fuel)
    (r : RState) (hs : r.isSlice = false) (hl : r.limit = none) (ha : r.avail ≤ r.rest.length)
    (hm : r.rest.length ≤ r.maxAlloc) (hr : r.rest = bytes) :
    (de deExtModel cfg S fuel (.record nm fields) depth false (.struct fs) r).2.rest =
      (de deExtModel cfg S fuel (.record nm fields) depth false .any r).2.rest ∧
    (de deExtModel cfg S fuel (.record nm fields) depth false (.struct fs) r).2.rest = rest := by
  obtain ⟨os, _, ⟨o₁, r₁, e₁, _, h₁, _⟩, ⟨o₂, r₂, e₂, _, h₂, _⟩⟩ :=
    C12_struct_subset_all_layouts_reader cfg S nm fields v bytes rest o depth fuelS fuelX fs hfs
      hdec hobs hexact hdepth hseq fuel hfuel r hs hl ha hm hr
  rw [e₁, e₂]
  exact ⟨by rw [h₁, h₂], h₂⟩

/-- **C12 (unit variant), all layouts, streaming reader.**  An enum target offered a union: if the
    target's variant for the branch's type name is a unit variant, the branch value is skipped and
    exactly the bytes of the union are consumed.  (The variant name is a `str` whose `borrowed`
    flag is not determined by C11, hence `unborrow`; the payload is `unit`.) -/
theorem C12_unit_variant_all_layouts_reader (cfg : DeConfig) (S : Schema) (vs : List Nat)
    (v : Spec.Value) (bytes rest : Bytes) (depth fuelS fuelX : Nat)
    (variants : List (String × VariantHint))
    (hdec : Spec.decode S fuelS (.union vs) bytes = some (v, rest))
    (hobs : (Spec.observe S (.union vs) v).isSome = true)
    (hexact : (Spec.decodeX Limits.impl S fuelX (.union vs) bytes).isSome = true)
    (hdepth : Spec.depthOf v ≤ depth) (hseq : Spec.maxLen v ≤ cfg.maxSeqSize)
    (fuel : Nat) (hfuel : 3 * Spec.size v ≤ fuel)
    (r : RState) (hs : r.isSlice = false) (hl : r.limit = none) (ha : r.avail ≤ r.rest.length)
    (hm : r.rest.length ≤ r.maxAlloc) (hr : r.rest = bytes) :
    ∃ idx v' k branch, v = .union idx v' ∧ vs[idx]? = some k ∧ S[k]? = some branch ∧
      (lookupVariant branch.typeName variants = some .unit →
        ∃ o' r', de deExtModel cfg S fuel (.union vs) depth false (.enum variants) r =
            (.ok o', r') ∧
          unborrow o' = .variant (.str branch.typeName false) .unit ∧
          r'.rest = rest ∧ ReaderOK r') := by
  obtain ⟨idx, v', k, branch, hv, hk, hb, himp⟩ := C12_unit_variant_all_layouts cfg S vs v bytes
    rest depth fuelS fuelX variants hdec hobs hexact hdepth hseq fuel hfuel (sliceOf r) rfl hl rfl hr
  refine ⟨idx, v', k, branch, hv, hk, hb, fun hlk => ?_⟩
  obtain ⟨o', r', e, ho, hrest, hok⟩ := de_reader_of_slice deExtModel cfg S fuel (.union vs) depth
    false (.enum variants) ⟨hs, hl, ha, hm⟩ (himp hlk)
  exact ⟨o', r', e, by rw [ho]; simp [unborrow], hrest, hok⟩

/-! ### Non-vacuity -/

namespace ReaderNV
open Avro.Theorems.NVB

/-- the block byte size of `layP` (`count -2`, `size 2`, two one-byte items) is exact -/
theorem layP_exact : Spec.decodeX Limits.impl SP 10 nodeP (layP ++ [7]) = some (vP, [7]) := by rfl

/-- **`C12_skip_all_layouts_reader`**, every hypothesis discharged: the record (a string, an
    array in two blocks) behind a reader with refills 1, 2, 3, 1, 1, … is skipped, `07` is left. -/
theorem rP_skip : ∃ r', de deExtModel {} SP 100 nodeP 64 false .ignored rP = (.ok .unit, r') ∧
    r'.rest = [7] ∧ ReaderOK r' :=
  C12_skip_all_layouts_reader {} SP nodeP vP (layP ++ [7]) [7] 64 10 10 layP_decodes
    (by rw [vP_observe]; rfl) (by rw [layP_exact]; rfl) (by decide +kernel) (by decide +kernel)
    100 (by decide +kernel) rP rfl rfl (by decide) (by decide) rfl

/-- the run itself, by evaluation -/
example : de deExtModel {} SP 100 nodeP 64 false .ignored rP =
    (.ok .unit, { rP with rest := [7], avail := 0, sched := [], scratch := 3 }) :=
  resEq_of (by decide +kernel)

/-- **`C12_skip_agrees_with_read_reader`** on the full read `rP_run` (`C03reader.lean`). -/
example : ∃ r₂ o₀, de deExtModel {} SP 100 nodeP 64 false .ignored rP = (.ok .unit, r₂) ∧
    r₂.rest = [7] ∧ ReaderOK r₂ ∧
    ReaderOK { rP with rest := [7], avail := 0, sched := [], scratch := 3 } ∧
    Spec.observe SP nodeP vP = some o₀ ∧ unborrow oPr = unborrow o₀ ∧
    ({ rP with rest := [7], avail := 0, sched := [], scratch := 3 } : RState).rest = [7] :=
  C12_skip_agrees_with_read_reader {} SP nodeP 64 100 rP _ oPr rfl rfl (by decide) (by decide)
    rP_run vP [7] 10 layP_exact 100 (by decide +kernel)

/-- **`C12_skip_follows_read_reader`**, with the fuel bound of C04. -/
example : ∃ r₂, de deExtModel {} SP (fuelBound {} SP .ignored 64) nodeP 64 false .ignored rP =
      (.ok .unit, r₂) ∧ r₂.rest = [7] ∧ ReaderOK r₂ :=
  C12_skip_follows_read_reader {} SP (by decide +kernel) 0 nodeP (by decide +kernel) 64 100 _ rP _
    oPr rfl rfl (by decide) (by decide) rP_run ⟨10, Option.isSome_iff_exists.2 ⟨_, layP_exact⟩⟩ (Nat.le_refl _)

/-- **`C12_struct_subset_all_layouts_reader`**: a struct target that lists `xs` only. -/
theorem rP_struct : ∃ os, oP = .map os ∧
    (∃ o₁ r₁, de deExtModel {} SP 100 nodeP 64 false .any rP = (.ok o₁, r₁) ∧
      unborrow o₁ = unborrow (.map os) ∧ r₁.rest = [7] ∧ ReaderOK r₁) ∧
    (∃ o₂ r₂, de deExtModel {} SP 100 nodeP 64 false (.struct [("xs", .any)]) rP = (.ok o₂, r₂) ∧
      unborrow o₂ = unborrow (.map (os.map (maskEntry [("xs", .any)]))) ∧ r₂.rest = [7] ∧
      ReaderOK r₂) :=
  C12_struct_subset_all_layouts_reader {} SP nmP [("s", 1), ("xs", 2)] vP (layP ++ [7]) [7] oP
    64 10 10 [("xs", .any)] (by simp) layP_decodes vP_observe
    (Option.isSome_iff_exists.2 ⟨_, layP_exact⟩)
    (by decide +kernel) (by decide +kernel) 100 (by decide +kernel) rP rfl rfl (by decide)
    (by decide) rfl

/-- the run of the struct target, by evaluation: `s` is masked, the string was skipped -/
example : de deExtModel {} SP 100 nodeP 64 false (.struct [("xs", .any)]) rP =
    (.ok (.map [(.str "s" false, .unit), (.str "xs" false, .seq [.i32 1, .i32 2, .i32 3])]),
      { rP with rest := [7], avail := 0, sched := [], scratch := 3 }) :=
  resEq_of (by decide +kernel)

/-- `NVB.uvBytes` (Theorems/ExampleDataB.lean: union branch 1, the array `[1, 2, 3]` in two blocks)
    followed by `2a`, behind a reader with refills 1, 2, 3, 1, 1, … -/
def rU : RState :=
  { isSlice := false, rest := uvBytes ++ [0x2a], avail := 0, sched := [1, 2, 3], lastChunk := 1 }

/-- **`C12_unit_variant_all_layouts_reader`**. -/
theorem rU_instance :
    ∃ idx v' k branch, Spec.Value.union 1 (.array [.int 1, .int 2, .int 3]) = .union idx v' ∧
      [1, 2][idx]? = some k ∧ uvS[k]? = some branch ∧
      (lookupVariant branch.typeName uvVariants = some .unit →
        ∃ o' r', de deExtModel {} uvS 100 (.union [1, 2]) 64 false (.enum uvVariants) rU =
            (.ok o', r') ∧
          unborrow o' = .variant (.str branch.typeName false) .unit ∧
          r'.rest = [0x2a] ∧ ReaderOK r') :=
  C12_unit_variant_all_layouts_reader {} uvS [1, 2] _ (uvBytes ++ [0x2a]) [0x2a] 64 20 20
    uvVariants uv_dec (by decide +kernel) (by decide +kernel) (by decide +kernel)
    (by decide +kernel) 100 (by decide +kernel) rU rfl rfl (by decide) (by decide) rfl

/-- the run, by evaluation (so the premise of the inner implication is met: the branch is the
    array, its variant `Array` is a unit variant) -/
example : de deExtModel {} uvS 100 (.union [1, 2]) 64 false (.enum uvVariants) rU =
    (.ok (.variant (.str "Array" false) .unit),
      { rU with rest := [0x2a], avail := 0, sched := [] }) :=
  resEq_of (by decide +kernel)

/-- `0: array<string>`, `1: string` -/
def SQ : Schema := #[.array 1, .string]
/-- `["hey"]` in one block written with its byte size: `count -1`, `size 4`, the item, the end
    marker. -/
def layQ : Bytes := [0x01, 0x08, 0x06, 0x68, 0x65, 0x79, 0x00]
/-- refills of 1, 2, 2 bytes, then one byte at a time: the 3-byte string straddles two refills -/
def rQ : RState :=
  { isSlice := false, rest := layQ ++ [7], avail := 0, sched := [1, 2, 2], lastChunk := 1,
    maxAlloc := 64 }

/-- **The slice statement `… .ignored s = (.ok .unit, s₁)` (same final state as the full read)
    is false on the reader.**  All hypotheses of `C12_skip_agrees_with_read_reader` hold (the
    byte size is exact), both reads succeed and leave `07`, but the full read has copied the
    string through a 3-byte scratch buffer and the skipping read has not. -/
theorem C12reader_skip_state_differs :
    Spec.decodeX Limits.impl SQ 10 (.array 1) (layQ ++ [7]) = some (.array [.string "hey"], [7]) ∧
    de deExtModel {} SQ 100 (.array 1) 64 false .any rQ =
      (.ok (.seq [.str "hey" false]),
        { rQ with rest := [7], avail := 0, sched := [], scratch := 3 }) ∧
    de deExtModel {} SQ 100 (.array 1) 64 false .ignored rQ =
      (.ok .unit, { rQ with rest := [7], avail := 0, sched := [], scratch := 0 }) ∧
    (de deExtModel {} SQ 100 (.array 1) 64 false .ignored rQ).2 ≠
      (de deExtModel {} SQ 100 (.array 1) 64 false .any rQ).2 :=
  ⟨by rfl, resEq_of (by decide +kernel), resEq_of (by decide +kernel), by decide +kernel⟩

/-- … while the theorem applies to it and gives what does hold: same remaining input. -/
example : ∃ r₂ o₀, de deExtModel {} SQ 100 (.array 1) 64 false .ignored rQ = (.ok .unit, r₂) ∧
    r₂.rest = [7] ∧ ReaderOK r₂ ∧
    ReaderOK { rQ with rest := [7], avail := 0, sched := [], scratch := 3 } ∧
    Spec.observe SQ (.array 1) (.array [.string "hey"]) = some o₀ ∧
    unborrow (.seq [.str "hey" false]) = unborrow o₀ ∧
    ({ rQ with rest := [7], avail := 0, sched := [], scratch := 3 } : RState).rest = [7] :=
  C12_skip_agrees_with_read_reader {} SQ (.array 1) 64 100 rQ _ _ rfl rfl (by decide) (by decide)
    C12reader_skip_state_differs.2.1 _ [7] 10 C12reader_skip_state_differs.1 100
    (by decide +kernel)

end ReaderNV

end Avro.Theorems
