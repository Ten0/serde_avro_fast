import AvroModel.Theorems.C17class
import AvroModel.Lemmas.CutClassBig
/-
C17 on `big-decimal`: why the error class theorems of `Theorems/C17class.lean` need no condition on
the schema, and a file of big-decimals cut at every byte.

A `big-decimal` is `bytes`: a length `L`, then — read through
`(&mut reader).take(L)` — a varint (size of the unscaled integer), that many bytes, a varint (the
scale).  Inside the `Take`, `integer_encoding::VarIntReader::read_varint` and `read_exact` are the
only reads and every one of their failures is an `io::Error` mapped by `DeError::io`
(`de/deserializer/types/decimal.rs`, ll. 37–39, 61, 70–71); the `custom` errors of that function
depend only on the values read.  The one delicate point is `read_varint` at the end of the input
with a non-empty buffer: it then answers `p.decode()`.  Every byte pushed before was a
continuation byte (otherwise `finished()` would have stopped the loop), `decode_var` of
continuation bytes only is `None` (`decodeVar_allcont_none`), hence `UnexpectedEof` and never a
wrong value.  (Proved in `Lemmas/CutClassBig.lean`; evaluated on every cut of `bdFile` and
`bdNonCanon` below.)
-/
namespace Avro.Theorems
open Avro Avro.Impl Avro.Theorems.Stream Avro.Theorems.Cut
open Avro.Impl.Ocf hiding RdInv
open Avro.Impl.OcfS (RdInv)

variable {cfg : DeConfig} {S : Schema} {node : Node} {depth fuel : Nat}

/-! ### `read_decimal` on a cut `big-decimal` -/

/-- **`read_decimal` on a `big-decimal` node, input ending early** (any `DeExt`, any hint, any
    bytes — canonical or not).  `sl` is a slice holding the bytes
    of the reader `r` followed by `z`.  If `read_decimal` succeeds on the slice, then on the reader
    it succeeds too, in a corresponding state (it never needed `z`), or fails with an I/O error. -/
theorem C17_readDecimal_big_trunc (z : Bytes) (ext : DeExt) (hint : DecHint) (r sl : RState)
    (hs : TSim z r sl) (o : Out) (sl' : RState)
    (hok : readDecimal ext .big hint sl = (.ok o, sl')) :
    (∃ a r', readDecimal ext .big hint r = (.ok a, r') ∧ TSim z r' sl') ∨
    (∃ r', readDecimal ext .big hint r = (.error .io, r')) := by
  have h := readDecimal_trel (z := z) ext .big hint r sl hs
  rw [hok] at h
  rcases hm : readDecimal ext .big hint r with ⟨(e | a), r'⟩ <;> rw [hm] at h
  · have : e = .io := h
    subst this
    exact .inr ⟨r', rfl⟩
  · exact .inl ⟨a, r', rfl, h.2⟩

/-- … in particular when the slice run consumed some of the missing bytes (less is left to it than
    was cut off): an I/O error. -/
theorem C17_readDecimal_big_cut_io (z : Bytes) (ext : DeExt) (hint : DecHint) (r sl : RState)
    (hs : TSim z r sl) (o : Out) (sl' : RState)
    (hok : readDecimal ext .big hint sl = (.ok o, sl')) (hcut : sl'.rest.length < z.length) :
    ∃ r', readDecimal ext .big hint r = (.error .io, r') := by
  rcases C17_readDecimal_big_trunc z ext hint r sl hs o sl' hok with ⟨a, r', _, ht⟩ | h
  · exfalso
    have h1 := congrArg List.length ht.rest
    simp only [List.length_append] at h1
    omega
  · exact h

/-- `C17_datum_cut_io_all` holds in particular for a schema without `big-decimal` -/
theorem C17_datum_cut_io_of_all (cfg : DeConfig) (S : Schema) (node : Node) (depth fuel : Nat)
    (_ : NoBigDecimal S node) (v : Spec.Value) (hv : GoodVal cfg S node depth fuel v)
    (M : Nat) (s : RState) (hb : BOk M s) (y : Bytes) (j : Nat)
    (hr : s.rest = (encD S node v ++ y).take j) (hM : (encD S node v ++ y).length ≤ M)
    (hj : j < (encD S node v).length) :
    ∃ s', de deExtModel cfg S fuel node depth false .any s = (.error .io, s') :=
  C17_datum_cut_io_all cfg S node depth fuel v hv M s hb y j hr hM hj

/-! ### Non-vacuity: a file of `big-decimal`s, and a non-canonical `big-decimal`

`bdFile` = `04 14` | `0A 06 ED 29 79 06` | `06 02 01 04` | marker(16): one block, the two
big-decimals −1234.567 (`0A`: 5 bytes follow; `06`: 3 bytes of unscaled integer; `ED 29 79`;
`06`: scale 3) and 0.01; 28 bytes. -/

namespace C17classBig
open C17stream

def bdS : Schema := #[.bigDecimal]
def bd1 : Spec.Value := .bigDecimal (-1234567) 3
def bd2 : Spec.Value := .bigDecimal 1 2
def bdEnc : Spec.Value → Bytes := encD bdS .bigDecimal
def bdBlocks : List (List Spec.Value) := [[bd1, bd2]]
def bdFile : Bytes := fileBody bdEnc exSync bdBlocks
def bdDatum : RState → Except DeErr Out × RState :=
  de deExtModel {} bdS 20 .bigDecimal 64 false .any
def bdBytes : Bytes := [4, 20, 10, 6, 237, 41, 121, 6, 6, 2, 1, 4] ++ exSync

/-- a schema that `NoBigDecimal` excludes -/
theorem bd_not_NoBigDecimal : ¬ NoBigDecimal bdS .bigDecimal := fun h => h.1 rfl

theorem bdEnc1 : bdEnc bd1 = [10, 6, 237, 41, 121, 6] := by decide +kernel
theorem bdEnc2 : bdEnc bd2 = [6, 2, 1, 4] := by decide +kernel
theorem bdFile_eq : bdFile = bdBytes := by decide +kernel
theorem bdLen : (fileBody (encD bdS .bigDecimal) exSync bdBlocks).length = 28 := by
  show bdFile.length = 28
  rw [bdFile_eq]; rfl

theorem bdGood : ∀ v ∈ bdBlocks.flatten, GoodVal {} bdS .bigDecimal 64 20 v := by decide +kernel

theorem bdBlockOk : ∀ b ∈ bdBlocks, BlockOk bdEnc b := by decide +kernel

/-- where the cuts fall: 2 … 11 inside the data — 2: before the length of the first value;
    3: inside its `Take`, before the size of the unscaled integer; 4, 5, 6: inside the unscaled
    integer; 7: before the scale; 8: between the two values -/
theorem bdWhere :
    cutWhere bdEnc bdBlocks 0 = .clean ∧ cutWhere bdEnc bdBlocks 1 = .header ∧
    cutWhere bdEnc bdBlocks 2 = .data ∧ cutWhere bdEnc bdBlocks 3 = .data ∧
    cutWhere bdEnc bdBlocks 5 = .data ∧ cutWhere bdEnc bdBlocks 7 = .data ∧
    cutWhere bdEnc bdBlocks 8 = .data ∧ cutWhere bdEnc bdBlocks 11 = .data ∧
    cutWhere bdEnc bdBlocks 12 = .marker ∧ cutWhere bdEnc bdBlocks 27 = .marker ∧
    cutWhere bdEnc bdBlocks 28 = .clean := by
  decide +kernel

/-- the general theorem applies to the file of big-decimals: every cut that is not clean, every
    chunk schedule — class `io` -/
theorem bd_class_stream (m : Nat) (sched : List Nat) (lastChunk : Nat)
    (h : cutWhere bdEnc bdBlocks m ≠ .clean) :
    (readAll exNull bdDatum 3 (openReader exSync (bdFile.take m) sched lastChunk 1000)).2
      = .err .io :=
  (C17_cut_error_class_stream_all exNull rfl {} bdS .bigDecimal 64 20 exSync rfl bdBlocks
    bdBlockOk bdGood m sched lastChunk 1000
    (by rw [bdLen]; omega) h).2.1

/-- `C17_datum_cut_io_all` on the first value, cut after each `j < 6` of its 6 bytes -/
theorem bd_datum_cut (j : Nat) (hj : j < 6) (sched : List Nat) (lastChunk : Nat) :
    ∃ s', bdDatum { isSlice := false, rest := [10, 6, 237, 41, 121, 6].take j, sched := sched,
                    lastChunk := lastChunk, maxAlloc := 1000 } = (.error .io, s') := by
  have hg := bdGood bd1 (by simp [bdBlocks])
  have he : encD bdS .bigDecimal bd1 = [10, 6, 237, 41, 121, 6] := bdEnc1
  refine C17_datum_cut_io_all {} bdS .bigDecimal 64 20 bd1 hg 1000 _
    ⟨rfl, rfl, ?_, rfl, ?_⟩ [] j ?_ ?_ ?_
  · show 0 ≤ _; omega
  · show (List.take j _).length ≤ 1000
    rw [List.length_take]; simp only [List.length_cons, List.length_nil]; omega
  · show List.take j _ = _
    rw [he, List.append_nil]
  · rw [he]; simp
  · rw [he]; exact hj

def cls : Except DeErr Out → Option DeErr
  | .error e => some e
  | .ok _ => none

/-- Direct evaluation, chunks of 1, 2, then 3 bytes: every cut `1 … 27` of the file ends with an
    I/O error, `0` and `28` with end of stream. -/
theorem bd_eval_stream :
    (List.range 29).map (fun m =>
        (readAll exNull bdDatum 3 (openReader exSync (bdFile.take m) [1, 2] 3 1000)).2)
      = [.eos] ++ List.replicate 27 (.err .io) ++ [.eos] := by decide +kernel

/-- A NON-canonical big-decimal (the scale `3` written on two bytes, `86 00`): the slice accepts
    it; every proper prefix fed to a reader gives an I/O error — the cut after `86` is the case
    "end of input inside a varint, inside the `Take`, with a non-empty buffer". -/
def bdNonCanon : Bytes := [12, 6, 237, 41, 121, 0x86, 0x00]

theorem bdNonCanon_eval :
    cls (bdDatum { rest := bdNonCanon }).1 = none ∧
    (List.range 7).map (fun j => cls (bdDatum
        { isSlice := false, rest := bdNonCanon.take j, sched := [2], lastChunk := 1,
          maxAlloc := 1000 }).1) = List.replicate 7 (some .io) := by
  decide +kernel

/-- `C17_readDecimal_big_cut_io` applies to it (hypotheses instantiated): cut after 6 of 7 bytes -/
theorem bdNonCanon_cut : ∃ r', readDecimal deExtModel .big .str
    { isSlice := false, rest := bdNonCanon.take 6, maxAlloc := 1000 } = (.error .io, r') := by
  have hok : ∃ o sl', readDecimal deExtModel .big .str { rest := bdNonCanon } = (.ok o, sl') ∧
      sl'.rest.length = 0 := by
    cases h : readDecimal deExtModel .big .str { rest := bdNonCanon } with
    | mk a sl' =>
      cases a with
      | error e =>
        exfalso
        have : cls (readDecimal deExtModel .big .str { rest := bdNonCanon }).1 = none := by
          decide +kernel
        rw [h] at this; cases this
      | ok o =>
        refine ⟨o, sl', rfl, ?_⟩
        have : (readDecimal deExtModel .big .str { rest := bdNonCanon }).2.rest.length = 0 := by
          decide +kernel
        rw [h] at this; exact this
  obtain ⟨o, sl', hok, hl⟩ := hok
  refine C17_readDecimal_big_cut_io [0x00] deExtModel .str _ _ ?_ o sl' hok (by rw [hl]; decide)
  exact ⟨rfl, rfl, rfl, by decide, rfl, rfl, by decide⟩

end C17classBig

end Avro.Theorems
