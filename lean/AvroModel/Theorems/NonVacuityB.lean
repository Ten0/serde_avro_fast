import AvroModel.Theorems.ExampleDataB
import AvroModel.Theorems.C04
import AvroModel.Theorems.C04fuel
import AvroModel.Theorems.C11full
import AvroModel.Theorems.C12
import AvroModel.Theorems.C12layouts
import AvroModel.Theorems.C18full
import AvroModel.Impl.DecimalLib
import AvroModel.Lemmas.OutEq
import AvroModel.Lemmas.LiteralEq
import AvroModel.Lemmas.ValueEq
/-
Non-vacuity audit, area B: C04 (deserializer totality / bounds), C11 (slice vs reader back-end),
C12 (skipping), C18 (single-object encoding).

Registered theorems instantiated with the real model functions (`de deExtModel …`, `ser …`), on
the states `Driver/Main.lean` builds (`{ rest := bs }` /
`{ rest := bs, isSlice := false, lastChunk, sched, maxAlloc }`) and at the driver's fuel
(`Avro.Impl.deFuel`, what `deOne` passes), and two remarks on what the driver does beside what the
theorems ask ("FINDING", "REMARK").  Running example: a schema built through `freezeNodes`,
recursive through a union (`record ns.Node { value: timestamp-micros, next: [null, Node],
tags: array<uuid> }`), with a typed target, valid bytes, non-canonical layouts and hostile bytes (a
block count of 2^62, a string length of 2^40).

Noted on the way: C11's `halloc` asks the whole remaining input to fit `max_alloc` (sufficient, not
necessary); the C12 struct-subset theorems only cover listed fields of hint `.any`;
`C18_accepts_slice` does not mention the writer, the write-then-read statement is `C18_write_read`
(`cyc_write_read`).
-/
namespace Avro.Theorems.NVB
open Avro Avro.Impl Avro.Theorems

/-! ## The running example: a cyclic schema built through `freezeNodes` -/

/-- the hypothesis `S.keysInBounds` of C04 / C12 on the output of `freezeNodes` -/
theorem cycS_keys : cycS.keysInBounds = true := by decide +kernel
theorem cycRoot_get : cycS[0]? = some cycRoot := by decide +kernel

/-- a typed target: `struct { value: i64, next: Option<struct { value }>, tags: Vec<String> }` -/
def cycHint : Hint :=
  .struct [("value", .i64), ("next", .option (.struct [("value", .any)])), ("tags", .seq .str)]

/-- hostile: `value 0`, `next` → record, `value 0`, `next null`, `tags`: a block of 2^62 items -/
def hostile : Bytes :=
  [0x00, 0x02, 0x00, 0x00, 0xfe, 0xff, 0xff, 0xff, 0xff, 0xff, 0xff, 0xff, 0x7f, 0x41]

/-- hostile: `value 0`, `next null`, `tags`: one item, a string announcing 2^40 bytes -/
def hostileLen : Bytes := [0x00, 0x00, 0x02, 0x80, 0x80, 0x80, 0x80, 0x80, 0x40, 0x61, 0x62]

/-! ## C04 -/

theorem cyc_fuel (h : Hint) (len : Nat) :
    fuelBound {} cycS h 64 ≤ driverFuel {} cycS 64 len h :=
  fuelBound_le_deFuel {} cycS h 64 len

theorem cycHint_size : cycHint.size ≤ 1000 := by decide +kernel

/-- **C04_no_panic_root / C04_ok_or_err**: cyclic frozen schema, typed target, default limits, the
    driver's fuel, EVERY state (slice or reader, any schedule, any `Take`). -/
example (s : RState) :
    (de deExtModel {} cycS (driverFuel {} cycS 64 s.rest.length cycHint) cycRoot 64 false cycHint s).1
      ≠ .error .panic :=
  C04_no_panic_root deExtModel {} cycS cycS_keys _ 0 cycRoot cycRoot_get 64 false cycHint
    (cyc_fuel _ _) s

example (s : RState) :
    (∃ o, (de deExtModel {} cycS (driverFuel {} cycS 64 s.rest.length .ignored) cycRoot 64 false .ignored s).1 = .ok o) ∨
    (de deExtModel {} cycS (driverFuel {} cycS 64 s.rest.length .ignored) cycRoot 64 false .ignored s).1 = .error .custom ∨
    (de deExtModel {} cycS (driverFuel {} cycS 64 s.rest.length .ignored) cycRoot 64 false .ignored s).1 = .error .io :=
  C04_ok_or_err deExtModel {} cycS cycS_keys _ 0 cycRoot cycRoot_get 64 false .ignored
    (cyc_fuel _ _) s

/-- what actually happens on the hostile inputs (slice; reader fed one byte at a time, cap 1000) -/
example :
    de deExtModel {} cycS (driverFuel {} cycS 64 hostile.length cycHint) cycRoot 64 false cycHint
      { rest := hostile } = (.error .custom, { rest := [0x41] }) :=
  resEq_of (by decide +kernel)

example :
    (de deExtModel {} cycS (driverFuel {} cycS 64 hostileLen.length cycHint) cycRoot 64 false cycHint
      { rest := hostileLen, isSlice := false, lastChunk := 1, sched := [], maxAlloc := 1000 }).1
      = .error .custom ∧
    (de deExtModel {} cycS (driverFuel {} cycS 64 hostileLen.length cycHint) cycRoot 64 false cycHint
      { rest := hostileLen }).1 = .error .custom := by
  constructor
  · exact fstEq_of (by decide +kernel)
  · exact fstEq_of (by decide +kernel)

/-- **C04_fuel_independent_root / C04_fuel_sufficient** with the DEFAULT `DeConfig`
    (`maxSeqSize = 10^9`): the hypothesis is only `fuelBound ≤ fuel`, met by the driver's fuel. -/
example (len : Nat) :
    de deExtModel {} cycS (driverFuel {} cycS 64 len cycHint) cycRoot 64 false cycHint
      = de deExtModel {} cycS (fuelBound {} cycS cycHint 64) cycRoot 64 false cycHint :=
  C04_fuel_independent_root deExtModel {} cycS _ 0 cycRoot cycRoot_get 64 false cycHint
    (cyc_fuel _ len)

example (len : Nat) :
    de deExtModel {} cycS (driverFuel {} cycS 64 len cycHint) cycRoot 64 false cycHint
      = de deExtModel {} cycS (driverFuel {} cycS 64 len cycHint + 1) cycRoot 64 false cycHint :=
  C04_fuel_sufficient deExtModel {} cycS _ cycRoot 64 false cycHint
    (nodeFields_le cycRoot_get) (cyc_fuel _ len)

/-- **C04_rest_suffix** on the hostile input, reader back-end -/
example : ∃ consumed, hostile = consumed ++
    (de deExtModel {} cycS 1000 cycRoot 64 false cycHint
      { rest := hostile, isSlice := false, lastChunk := 3, sched := [1, 2] }).2.rest :=
  C04_rest_suffix deExtModel {} cycS 1000 cycRoot 64 false cycHint
    { rest := hostile, isSlice := false, lastChunk := 3, sched := [1, 2] }

/-! ### The sequence limit (`max_seq_size = 3`) -/

def cfg3 : DeConfig := { maxSeqSize := 3 }

/-- `["a", "b"]` in a first block, `["c"]` in a second one (negative count -1, byte size 2) -/
def threeStrings : Bytes := [0x04, 0x02, 0x61, 0x02, 0x62, 0x01, 0x04, 0x02, 0x63, 0x00, 0x2a]

theorem threeStrings_loop :
    deSeqLoop deExtModel cfg3 cycS 40 .string 5 false .any none {} [] { rest := threeStrings }
      = (.ok [.str "a" true, .str "b" true, .str "c" true], { rest := [0x2a] }) :=
  resEqL_of (by decide +kernel)

/-- **C04_seq_items**: exactly `max_seq_size` items in two blocks are delivered -/
example : [Out.str "a" true, .str "b" true, .str "c" true].length ≤ cfg3.maxSeqSize :=
  C04_seq_items deExtModel cfg3 cycS 40 .string 5 false .any none { rest := threeStrings } _
    (congrArg Prod.fst threeStrings_loop)

/-- **C04_seq_limit_reject**: two items read, the next block announces two more (negative count
    -2 with a byte size): rejected with the custom error before any item of it is read. -/
example :
    hasMore cfg3 false { current := 0, nRead := 2 } { rest := [0x03, 0x08, 0x02, 0x63, 0x02, 0x64, 0x00] }
      = (.error .custom, { rest := [0x02, 0x63, 0x02, 0x64, 0x00] }) :=
  C04_seq_limit_reject cfg3 false { current := 0, nRead := 2 }
    { rest := [0x03, 0x08, 0x02, 0x63, 0x02, 0x64, 0x00] } { rest := [0x02, 0x63, 0x02, 0x64, 0x00] }
    2 rfl (by decide +kernel) (by decide)

/-- … and the whole array of four is an error -/
example :
    (deSeqLoop deExtModel cfg3 cycS 40 .string 5 false .any none {} []
      { rest := [0x04, 0x02, 0x61, 0x02, 0x62, 0x03, 0x08, 0x02, 0x63, 0x02, 0x64, 0x00] }).1
      = .error .custom :=
  fstEqL_of (by decide +kernel)

/-- **C04_map_entries**: `{"k": ["a"], "l": []}` as `map<array<uuid>>` (item node 3 of `cycS`) -/
theorem twoEntries_loop :
    deMapLoop deExtModel cfg3 cycS 40 (.array 4) 5 false .any {} []
      { rest := [0x04, 0x02, 0x6b, 0x02, 0x02, 0x61, 0x00, 0x02, 0x6c, 0x00, 0x00] }
      = (.ok [(.str "k" true, .seq [.str "a" true]), (.str "l" true, .seq [])], { rest := [] }) :=
  resEqP_of (by decide +kernel)

example : [(Out.str "k" true, Out.seq [.str "a" true]), (.str "l" true, .seq [])].length
    ≤ cfg3.maxSeqSize :=
  C04_map_entries deExtModel cfg3 cycS 40 (.array 4) 5 false .any
    { rest := [0x04, 0x02, 0x6b, 0x02, 0x02, 0x61, 0x00, 0x02, 0x6c, 0x00, 0x00] } _
    (congrArg Prod.fst twoEntries_loop)

/-! ### The depth budget -/

/-- record → union → record → array: a budget of 4 is what this value needs … -/
theorem cyc_read4 :
    de deExtModel {} cycS 100 cycRoot 4 false .any { rest := cycBytes } = (.ok cycOut, { rest := [] }) :=
  resEq_of (by decide +kernel)

/-- **C04_depth_nesting** on it: nesting 3 ≤ 4 + 1 -/
example : cycOut.nesting ≤ 4 + 1 :=
  C04_depth_nesting deExtModel {} cycS 100 cycRoot 4 false .any { rest := cycBytes } { rest := [] }
    cycOut cyc_read4
example : cycOut.nesting = 3 := by decide +kernel

/-- … and with a budget of 3 the same bytes are an error (`C04_depth_zero` at the inner array) -/
example : (de deExtModel {} cycS 100 cycRoot 3 false .any { rest := cycBytes }).1 = .error .custom :=
  fstEq_of (by decide +kernel)

example (s : RState) (o : Out) : (de deExtModel {} cycS 100 cycRoot 0 false cycHint s).1 ≠ .ok o :=
  C04_depth_zero deExtModel {} cycS 100 cycRoot false cycHint s o rfl

/-! ### Memory -/

/-- the reader state the driver builds (`pBackend`): one byte per refill, cap 1000 bytes; after
    `value`, `next`, the block count and the string length have been consumed -/
def capState : RState :=
  { rest := [0x61, 0x62], isSlice := false, lastChunk := 1, sched := [], maxAlloc := 1000 }

/-- **C04_alloc_cap_reject**: `read_slice(2^40)` with one byte buffered and a cap of 1000 -/
example : readSlice (2 ^ 40) capState = (.error .custom, { capState with avail := 1 }) :=
  C04_alloc_cap_reject (2 ^ 40) capState { capState with avail := 1 } [0x61] rfl
    (by decide +kernel) (by decide) (by decide)

/-- **C04_scratch_bounded** on the hostile length, reader back-end -/
example :
    (de deExtModel {} cycS 1000 cycRoot 64 false cycHint
      { rest := hostileLen, isSlice := false, lastChunk := 1, sched := [], maxAlloc := 1000 }).2.maxAlloc = 1000 ∧
    (de deExtModel {} cycS 1000 cycRoot 64 false cycHint
      { rest := hostileLen, isSlice := false, lastChunk := 1, sched := [], maxAlloc := 1000 }).2.scratch
      ≤ max 0 1000 :=
  C04_scratch_bounded deExtModel {} cycS 1000 cycRoot 64 false cycHint
    { rest := hostileLen, isSlice := false, lastChunk := 1, sched := [], maxAlloc := 1000 }

/-- a legitimate allocation: a 5-byte uuid string delivered byte by byte raises `scratch` to 5 -/
example :
    (de deExtModel {} cycS 1000 .uuid 64 false .any
      { rest := [0x0a, 0x68, 0x65, 0x6c, 0x6c, 0x6f], isSlice := false, lastChunk := 1, maxAlloc := 1000 })
    = (.ok (.str "hello" false),
       { rest := [], isSlice := false, lastChunk := 1, maxAlloc := 1000, scratch := 5 }) :=
  resEq_of (by decide +kernel)

/-! ### FINDING (driver, not theorem): why the driver's fuel is a `max` with `fuelBound`

`fuelBound cfg S h depth = depth * (maxSeqSize + maxFields S + 4) + 2 * h.size + 2`, and
`deFuelBase cfg S depth len
  = (depth + 4) * (maxSeqSize + 8 * S.size + 64) + 16 * len + 4096`.  `maxFields S` (longest
field list) and `h.size` are not bounded by `S.size`, so `deFuelBase` does NOT dominate the
bound for every schema / hint.  With the DEFAULT limits the slack is `4 * 10^9`
(`driver_fuel_default`); with a small `max_seq_size` (the `de` command passes it from the case) a
record with a few hundred fields makes the model run out of fuel at `deFuelBase`
(`driver_fuel_base_insufficient`), a run reported as `panic` where C04 gives `Ok`.  The driver
passes `deFuel = max deFuelBase fuelBound` (`Lemmas/DriverFuel.lean`), and the same instance is
answered `Ok` (`driver_fuel_sufficient`). -/

/-- when `deFuelBase` alone is enough: default limits -/
theorem driver_fuel_default (S : Schema) (h : Hint) (len : Nat)
    (hsmall : 64 * maxFields S + 2 * h.size ≤ 4000000000) :
    fuelBound {} S h 64 ≤ deFuelBase {} S 64 len := by
  simp only [fuelBound, levelCost, deFuelBase]
  show 64 * (1000000000 + maxFields S + 4) + 2 * h.size + 2
    ≤ (64 + 4) * (1000000000 + 8 * S.size + 64) + 16 * len + 4096
  omega

theorem driver_fuel_general (cfg : DeConfig) (S : Schema) (h : Hint) (depth len : Nat)
    (hw : maxFields S ≤ 8 * S.size + 60) (hh : 2 * h.size ≤ 4094 + 4 * cfg.maxSeqSize) :
    fuelBound cfg S h depth ≤ deFuelBase cfg S depth len ∧
    driverFuel cfg S depth len h = deFuelBase cfg S depth len := by
  have key : fuelBound cfg S h depth ≤ deFuelBase cfg S depth len := by
    simp only [fuelBound, levelCost, deFuelBase]
    have h1 : depth * (cfg.maxSeqSize + maxFields S + 4) ≤ depth * (cfg.maxSeqSize + 8 * S.size + 64) :=
      Nat.mul_le_mul_left _ (by omega)
    rw [Nat.add_mul]
    omega
  exact ⟨key, Nat.max_eq_left key⟩

def nmWide : Name := { fq := "W", short := "W", ns := none }
/-- `0: record W { f × 760: null, next: [null, W] }`, `1: [null, W]`, `2: null` -/
def wideRoot : Node := .record nmWide (List.replicate 760 ("f", 2) ++ [("next", 1)])
def wideS : Schema := #[wideRoot, .union [2, 0], .null]
def cfg0 : DeConfig := { maxSeqSize := 0 }
/-- 7 nested records, the innermost with `next = null` -/
def wideBytes : Bytes := List.replicate 7 0x02 ++ [0x00]

theorem wideS_keys : wideS.keysInBounds = true := by decide +kernel

/-! What a run of `de` with the target `IgnoredAny` spends on such a record.  The fuel is handed
down, one unit less at each call: `de → deIgnored → deAny` take three, `deRecordFields` one per
field, and a `null` field needs three for its own chain.  So a record with 760 `null` fields whose
last field leads into the next record leaves that record 765 units less than it had itself: eight
levels need more than the 5984 units of `deFuelBase`, and far less than `fuelBound`. -/

section
variable (ext : DeExt) (cfg : DeConfig) (S : Schema)

theorem de_null_ignored {f : Nat} (hf : 3 ≤ f) (d : Nat) (fav : Bool) (s : RState) :
    de ext cfg S f .null d fav .ignored s = (.ok .unit, s) := by
  obtain ⟨f, rfl⟩ := Nat.exists_eq_add_of_le' hf
  simp [de, deIgnored, deAny, bind, pure]

theorem de_null_ignored_panic {f : Nat} (hf : f < 3) (d : Nat) (fav : Bool) (s : RState) :
    de ext cfg S f .null d fav .ignored s = (.error .panic, s) := by
  match f, hf with
  | 0, _ => simp [de, DeM.fail]
  | 1, _ => simp [de, deIgnored, DeM.fail]
  | 2, _ => simp [de, deIgnored, deAny, DeM.fail, bind]

theorem skipNullFields {k : Nat} (hk : S[k]? = some .null) (nm : String) (rest : List (String × Nat))
    (d : Nat) (s : RState) : ∀ (n f : Nat) (acc : List (Out × Out)), 3 ≤ f →
    deRecordFields ext cfg S (f + n) (List.replicate n (nm, k) ++ rest) d .ignored acc s =
      deRecordFields ext cfg S f rest d .ignored (List.replicate n (.unit, .unit) ++ acc) s
  | 0, f, acc, _ => rfl
  | n + 1, f, acc, hf => by
    have ih := skipNullFields hk nm rest d s n f ((.unit, .unit) :: acc) hf
    rw [List.replicate_succ, List.cons_append, ← Nat.add_assoc]
    simp only [deRecordFields, hk, bind, Hint.valFor, Hint.key, offerName,
      de_null_ignored ext cfg S (Nat.le_add_right_of_le hf)]
    rw [ih, List.replicate_succ', List.append_assoc]; rfl

theorem nullFields_panic {k : Nat} (hk : S[k]? = some .null) (nm : String) (rest : List (String × Nat))
    (d : Nat) (s : RState) : ∀ (n f : Nat) (acc : List (Out × Out)), 0 < n → f < n + 3 →
    deRecordFields ext cfg S f (List.replicate n (nm, k) ++ rest) d .ignored acc s = (.error .panic, s)
  | n + 1, 0, acc, _, _ => by simp [List.replicate_succ, deRecordFields, DeM.fail]
  | n + 1, f + 1, acc, _, hf => by
    rw [List.replicate_succ, List.cons_append]
    by_cases h3 : f < 3
    · simp [deRecordFields, hk, bind, Hint.valFor, de_null_ignored_panic ext cfg S h3]
    · simp only [deRecordFields, hk, bind, Hint.valFor, Hint.key, offerName,
        de_null_ignored ext cfg S (Nat.le_of_not_lt h3)]
      exact nullFields_panic hk nm rest d s n f _ (by omega) (by omega)

end

theorem wideS_1 : wideS[1]? = some (.union [2, 0]) := rfl
theorem wideS_2 : wideS[2]? = some .null := rfl

/-- one level of `wideS`, the branch `W` of `next` taken (discriminant byte `02`) -/
theorem wide_level (g D : Nat) (fav fav' : Bool) (bs : Bytes) :
    de deExtModel cfg0 wideS (g + 767) wideRoot (D + 2) fav .ignored { rest := 2 :: bs } =
      de deExtModel cfg0 wideS (g + 2) wideRoot D fav' .ignored { rest := bs } := by
  have h0 : wideS[0]? = some (.record nmWide (List.replicate 760 ("f", 2) ++ [("next", 1)])) := rfl
  have hd : readDiscriminant { rest := 2 :: bs } = (.ok 1, { rest := bs }) := rfl
  have hf : g + 764 = (g + 4) + 760 := by omega
  simp only [de, deIgnored, deAny, wideRoot, decDepth, bind, pure, hf,
    skipNullFields deExtModel cfg0 wideS wideS_2 "f" _ _ _ 760 (g + 4) [] (by omega)]
  simp only [deRecordFields, wideS_1, bind, Hint.valFor, de, deIgnored, deAny, hd,
    List.getElem?_cons_succ, List.getElem?_cons_zero, h0, decDepth, pure]
  cases deAny deExtModel cfg0 wideS g (.record nmWide (List.replicate 760 ("f", 2) ++ [("next", 1)])) D
    .ignored { rest := bs } with
  | mk r s' => cases r <;> rfl

theorem wide_levels (g D : Nat) (fav : Bool) (bs : Bytes) : ∀ n : Nat,
    de deExtModel cfg0 wideS (g + 2 + 765 * n) wideRoot (D + 2 * n) fav .ignored
      { rest := List.replicate n 2 ++ bs } =
    de deExtModel cfg0 wideS (g + 2) wideRoot D fav .ignored { rest := bs }
  | 0 => rfl
  | n + 1 => by
    rw [show g + 2 + 765 * (n + 1) = (g + 765 * n) + 767 by omega,
      show D + 2 * (n + 1) = (D + 2 * n) + 2 by omega, List.replicate_succ, List.cons_append,
      wide_level _ _ fav fav, show g + 765 * n + 2 = g + 2 + 765 * n by omega]
    exact wide_levels g D fav bs n

/-- the innermost level: `next` is `null` (discriminant byte `00`) -/
theorem wide_last (g D : Nat) (fav : Bool) (bs : Bytes) :
    de deExtModel cfg0 wideS (g + 769) wideRoot (D + 2) fav .ignored { rest := 0 :: bs } =
      (.ok .unit, { rest := bs }) := by
  have hd : readDiscriminant { rest := 0 :: bs } = (.ok 0, { rest := bs }) := rfl
  have hf : g + 766 = (g + 6) + 760 := by omega
  simp only [de, deIgnored, deAny, wideRoot, decDepth, bind, pure, hf,
    skipNullFields deExtModel cfg0 wideS wideS_2 "f" _ _ _ 760 (g + 6) [] (by omega)]
  simp only [deRecordFields, wideS_1, wideS_2, bind, Hint.valFor, de, deIgnored, deAny, hd, decDepth,
    pure, List.getElem?_cons_zero]

theorem wide_panic {G D : Nat} (hG : G < 766) (hD : 0 < D) (fav : Bool) (s : RState) :
    (de deExtModel cfg0 wideS G wideRoot D fav .ignored s).1 = .error .panic := by
  obtain ⟨D, rfl⟩ := Nat.exists_eq_add_of_lt hD
  match G, hG with
  | 0, _ | 1, _ | 2, _ => simp only [de, deIgnored, deAny, wideRoot, DeM.fail, bind]
  | G + 3, hG =>
    simp only [de, deIgnored, deAny, wideRoot, decDepth, bind, pure, Nat.zero_add,
      nullFields_panic deExtModel cfg0 wideS wideS_2 "f" _ _ _ 760 G [] (by omega) (by omega)]

theorem driver_fuel_base_insufficient :
    deFuelBase cfg0 wideS 16 wideBytes.length < fuelBound cfg0 wideS .ignored 16 ∧
    (de deExtModel cfg0 wideS (deFuelBase cfg0 wideS 16 wideBytes.length) wideRoot 16 false .ignored
      { rest := wideBytes }).1 = .error .panic := by
  refine ⟨by decide +kernel, ?_⟩
  -- seven levels leave the eighth record 629 units
  rw [show deFuelBase cfg0 wideS 16 wideBytes.length = 627 + 2 + 765 * 7 by decide +kernel]
  exact (congrArg Prod.fst (wide_levels 627 2 false [0] 7)).trans
    (wide_panic (by decide) (by decide) _ _)

theorem driver_fuel_sufficient :
    fuelBound cfg0 wideS .ignored 16 ≤ driverFuel cfg0 wideS 16 wideBytes.length .ignored ∧
    driverFuel cfg0 wideS 16 wideBytes.length .ignored = 12244 ∧
    de deExtModel cfg0 wideS (driverFuel cfg0 wideS 16 wideBytes.length .ignored) wideRoot 16 false
      .ignored { rest := wideBytes } = (.ok .unit, { rest := [] }) := by
  have hf : driverFuel cfg0 wideS 16 wideBytes.length .ignored = 12244 := by decide +kernel
  refine ⟨fuelBound_le_deFuel _ _ _ _ _, hf, ?_⟩
  rw [hf]
  exact (wide_levels 6887 2 false [0] 7).trans (wide_last 6120 0 false [])

/-- the same through the general theorem: no evaluation of `de` at the driver's fuel needed -/
example : de deExtModel cfg0 wideS (driverFuel cfg0 wideS 16 wideBytes.length .ignored) wideRoot 16
    false .ignored = de deExtModel cfg0 wideS (fuelBound cfg0 wideS .ignored 16) wideRoot 16 false
    .ignored :=
  C04_deFuel_eq_fuelBound deExtModel cfg0 wideS 0 wideRoot rfl 16 false .ignored _

example (s : RState) :
    (de deExtModel cfg0 wideS (driverFuel cfg0 wideS 16 s.rest.length .ignored) wideRoot 16 false
      .ignored s).1 ≠ .error .panic :=
  C04_no_panic_at_deFuel deExtModel cfg0 wideS wideS_keys 0 wideRoot rfl 16 false .ignored _ s

/-! ## C11 -/

/- When it has elaborated an application the elaborator puts its type into weak head normal form,
   to see whether further arguments are expected.  `OutEq x y` is a `match` on `x` and `y`: for the
   closed runs below that would evaluate the readers there and then.  (The kernel is not affected.) -/
attribute [local irreducible] OutEq

/-- the two initial states `Driver/Main.lean` builds for the same input (`pBackend`) -/
def slState (bs : Bytes) : RState := { ({ rest := bs } : RState) with isSlice := true }
def rdState (bs : Bytes) (last : Nat) (sched : List Nat) (maxAlloc : Nat) : RState :=
  { ({ rest := bs } : RState) with isSlice := false, lastChunk := last, sched := sched, maxAlloc := maxAlloc }

/-- the relation `Sim` assumed by every C11 theorem holds between the driver's INITIAL states,
    for every input, every schedule and every cap (`Sim.init` is the same fact) -/
theorem driver_sim (bs : Bytes) (last : Nat) (sched : List Nat) (M : Nat) :
    Sim (rdState bs last sched M) (slState bs) := ⟨rfl, rfl, rfl, Nat.zero_le _, rfl⟩

/-- **C11_de_cases**: cyclic schema, typed target, refills of 1, 2, then 3 bytes, default cap -/
example :
    (∃ a b r' sl',
        de deExtModel {} cycS 100 cycRoot 64 false cycHint (rdState cycBytes 3 [1, 2] 536870912) = (.ok a, r') ∧
        de deExtModel {} cycS 100 cycRoot 64 false cycHint (slState cycBytes) = (.ok b, sl') ∧
        unborrow a = unborrow b ∧ Sim r' sl' ∧
        (rdState cycBytes 3 [1, 2] 536870912).rest.length - r'.rest.length
          = (slState cycBytes).rest.length - sl'.rest.length) ∨
    (∃ e e' r' sl',
        de deExtModel {} cycS 100 cycRoot 64 false cycHint (rdState cycBytes 3 [1, 2] 536870912) = (.error e, r') ∧
        de deExtModel {} cycS 100 cycRoot 64 false cycHint (slState cycBytes) = (.error e', sl')) :=
  C11_de_cases deExtModel {} cycS 100 cycRoot 64 false cycHint _ _ (driver_sim _ _ _ _) rfl
    (by decide)

/-- the two runs: same value up to the `borrowed` flag of the string, all input consumed -/
def cycTyped (borrowed : Bool) : Out :=
  .map [(.str "value" false, .i64 1),
        (.str "next" false, .some (.map [(.str "value" false, .i64 2), (.str "next" false, .unit),
                                         (.str "tags" false, .unit)])),
        (.str "tags" false, .seq [.str "a" borrowed])]

example :
    de deExtModel {} cycS 100 cycRoot 64 false cycHint (slState cycBytes)
      = (.ok (cycTyped true), slState []) ∧
    de deExtModel {} cycS 100 cycRoot 64 false cycHint (rdState cycBytes 3 [1, 2] 536870912)
      = (.ok (cycTyped false), { rdState [] 3 [] 536870912 with avail := 0 }) :=
  ⟨resEq_of (by decide +kernel), resEq_of (by decide +kernel)⟩

/-- **C11_de** on the hostile input, one byte per refill: here both fail (`OutEq` is `True`) -/
example :
    OutEq (fun a b => unborrow a = unborrow b)
      (de deExtModel {} cycS 100 cycRoot 64 false .any (rdState hostile 1 [] 536870912))
      (de deExtModel {} cycS 100 cycRoot 64 false .any (slState hostile)) :=
  C11_de deExtModel {} cycS 100 cycRoot 64 false .any _ _ (driver_sim _ _ _ _) rfl (by decide)

/-- REMARK.  `halloc : r.rest.length ≤ r.maxAlloc` (the WHOLE remaining input fits the cap) is
    sufficient, not necessary: with a cap of 4 bytes and 9 bytes of input `C11_de` does not apply,
    yet the back-ends agree, because no single length-delimited field exceeds the cap. -/
example :
    ¬ (rdState cycBytes 1 [] 4).rest.length ≤ (rdState cycBytes 1 [] 4).maxAlloc ∧
    (de deExtModel {} cycS 100 cycRoot 64 false cycHint (rdState cycBytes 1 [] 4)).1
      = .ok (cycTyped false) :=
  ⟨by decide, fstEq_of (by decide +kernel)⟩

/-- **C11_deAny** (the `deserialize_any` entry), nested array node -/
example :
    OutEq (fun a b => unborrow a = unborrow b)
      (deAny deExtModel cfg3 cycS 100 (.array 4) 64 .any (rdState threeStrings 1 [] 64))
      (deAny deExtModel cfg3 cycS 100 (.array 4) 64 .any (slState threeStrings)) :=
  C11_deAny deExtModel cfg3 cycS 100 (.array 4) 64 .any _ _ (driver_sim _ _ _ _) rfl (by decide)

/-- **C11_readSlice**: 4 bytes wanted, refills of 1 then 2 bytes (so `read_exact` into the
    scratch buffer), `n ≤ max_alloc`.  (The states are `irreducible` for the reason given at `OutEq`
    above.) -/
@[irreducible] def rs4 : RState := rdState [1, 2, 3, 4, 5, 6] 2 [1] 4
@[irreducible] def ss4 : RState := slState [1, 2, 3, 4, 5, 6]
theorem sim4 : Sim rs4 ss4 := by unfold rs4 ss4; exact driver_sim _ _ _ _
theorem lim4 : rs4.limit = none := by unfold rs4; rfl
theorem alloc4 : 4 ≤ rs4.maxAlloc := by unfold rs4; decide

example :
    OutEq (fun (a b : Bytes × Bool) => a.1 = b.1 ∧ a.2 = false ∧ b.2 = true)
      (readSlice 4 rs4) (readSlice 4 ss4) :=
  C11_readSlice 4 rs4 ss4 sim4 lim4 alloc4

example :
    readSlice 4 rs4
      = (.ok ([1, 2, 3, 4], false), { rdState [5, 6] 2 [] 4 with avail := 1, scratch := 4 }) ∧
    readSlice 4 ss4 = (.ok ([1, 2, 3, 4], true), slState [5, 6]) := by
  decide +kernel

/-- the hypothesis `n ≤ r.maxAlloc` of `C11_readSlice` is necessary: with a cap of 3 the reader
    refuses what the slice delivers -/
example :
    (readSlice 4 (rdState [1, 2, 3, 4, 5, 6] 2 [1] 3)).1 = .error .custom ∧
    (readSlice 4 (slState [1, 2, 3, 4, 5, 6])).1 = .ok ([1, 2, 3, 4], true) := by
  decide +kernel

/-- **C11_readVarint**: a 3-byte varint met one byte at a time (the byte-wise fallback) -/
example :
    OutEq (· = ·) (readVarint .i64 (rdState [0x80, 0x80, 0x01, 0x05] 1 [] 16))
      (readVarint .i64 (slState [0x80, 0x80, 0x01, 0x05])) :=
  C11_readVarint .i64 (rdState [0x80, 0x80, 0x01, 0x05] 1 [] 16) (slState [0x80, 0x80, 0x01, 0x05])
    (driver_sim _ _ _ _) rfl

example :
    readVarint .i64 (rdState [0x80, 0x80, 0x01, 0x05] 1 [] 16) = (.ok 8192, rdState [0x05] 1 [] 16) ∧
    readVarint .i64 (slState [0x80, 0x80, 0x01, 0x05]) = (.ok 8192, slState [0x05]) := by
  decide +kernel

/-- **C11_varintProcessor** under a `Take` of 2 bytes (as inside a big-decimal): corresponding
    states with the same limit; the third byte is not available to either -/
def rdTake : RState := { rdState [0x80, 0x01, 0x05] 1 [] 16 with limit := some 2 }
def slTake : RState := { slState [0x80, 0x01, 0x05] with limit := some 2 }

example : OutEq (· = ·) (varintProcessor .i64 12 [] rdTake) (varintProcessor .i64 12 [] slTake) :=
  C11_varintProcessor .i64 12 [] rdTake slTake ⟨rfl, rfl, rfl, by decide, rfl⟩ (by decide)

example :
    varintProcessor .i64 12 [] rdTake = (.ok 64, { rdState [0x05] 1 [] 16 with limit := some 0 }) ∧
    varintProcessor .i64 12 [] slTake = (.ok 64, { slState [0x05] with limit := some 0 }) := by
  decide +kernel

/-! ### C11 at the container level -/

section Container
open Avro.Impl.Ocf Avro.Theorems.Stream

def v1 : Spec.Value :=
  .record [.long 1, .union 1 (.record [.long 2, .union 0 .null, .array []]), .array [.string "a"]]
def v2 : Spec.Value := .record [.long (-5), .union 0 .null, .array []]
def v3 : Spec.Value := .record [.long 300, .union 0 .null, .array [.string "xy", .string ""]]
/-- two blocks, three records of the cyclic schema -/
def ctrBlocks : List (List Spec.Value) := [[v1, v2], [v3]]
def sync2 : Bytes := List.replicate 16 0x5a
def nullD : Decomp := { isNull := true, decompress := fun _ => none }

/-- the file body the layout function produces: block 1 = count 2, size 12, 12 bytes, marker;
    block 2 = count 1, size 9, 9 bytes, marker -/
theorem ctrFile_eq : fileBody (encD cycS cycRoot) sync2 ctrBlocks =
    [4, 24, 2, 2, 4, 0, 0, 2, 2, 97, 0, 9, 0, 0] ++ sync2 ++
    [2, 18, 216, 4, 0, 4, 4, 120, 121, 0, 0] ++ sync2 := by decide +kernel

theorem ctrGood : ∀ v ∈ ctrBlocks.flatten, GoodVal {} cycS cycRoot 64 200 v := by decide +kernel

theorem ctrBlockOk : ∀ b ∈ ctrBlocks, BlockOk (encD cycS cycRoot) b := by decide +kernel

/-- **C11_container_wellformed** with the real `de … .any` (the theorem is stated for it; it does
    NOT assume `DatumOk`/`DatumOkR`), refills of 1, 7, 2, then 3 bytes, cap 4096 ≥ 56 = file length -/
example :
    let datum := de deExtModel {} cycS 200 cycRoot 64 false .any
    let file := fileBody (encD cycS cycRoot) sync2 ctrBlocks
    let viaReader := readAll nullD datum (ctrBlocks.flatten.length + 1) (openReader sync2 file [1, 7, 2] 3 4096)
    let viaSlice := readAll nullD datum (ctrBlocks.flatten.length + 1) (openSlice sync2 file)
    viaReader.1.map unborrow = viaSlice.1.map unborrow ∧ viaReader.2 = .eos ∧ viaSlice.2 = .eos :=
  C11_container_wellformed nullD rfl {} cycS cycRoot 64 200 sync2 (by decide) ctrBlocks ctrBlockOk
    ctrGood [1, 7, 2] 3 4096 (by decide +kernel)

/-! ### REMARK on the initial state of the container theorems

`C11_container_wellformed` (and `C17_yields_prefix_null_stream`) start from
`openReader sync file sched lastChunk M`, whose source has an EMPTY buffer (`avail = 0`).  The
driver (`runOcfr`) starts `readAll` from the state `Ocf.readHeader` leaves, whose buffer may
still hold bytes (`avail > 0`).  That state is not literally an `openReader` state, and no glue
lemma is registered; the gap is harmless because the theorem quantifies over every schedule and a
reader with `a` bytes buffered behaves as a reader with an empty buffer whose next refill is `a`:
every read primitive of the reader back-end starts with `fillBuf`, and -/
theorem fillBuf_buffered_eq_scheduled (s : RState) (hs : s.isSlice = false) (h0 : 0 < s.avail)
    (hle : s.avail ≤ s.rest.length) :
    fillBuf { s with avail := 0, sched := s.avail :: s.sched } = fillBuf s := by
  have h1 : min (max s.avail 1) s.rest.length = s.avail := by omega
  have h2 : ¬ s.avail = 0 := by omega
  simp [fillBuf, hs, h1, h0]
  cases s
  simp_all

end Container

/-! ## C12 -/

/-! ### Canonical encodings (`Theorems/C12.lean` has no instance of its own) -/

theorem v1_enc : Spec.encode cycS cycRoot v1 = some cycBytes := cycV_encode
theorem v1_obs : Spec.observe cycS cycRoot v1 = some cycOut := cycV_observe

/-- **C12_skip_canonical**: the record of the cyclic schema, followed by a sentinel byte -/
example : de deExtModel {} cycS 100 cycRoot 64 false .ignored { rest := cycBytes ++ [0x2a] }
    = (.ok .unit, { rest := [0x2a] }) :=
  C12_skip_canonical {} cycS cycRoot v1 cycBytes [0x2a] 64 v1_enc (by rw [v1_obs]; rfl)
    (by decide +kernel) (by decide +kernel) (by decide +kernel) 100 (by decide +kernel)
    { rest := cycBytes ++ [0x2a] } rfl rfl rfl rfl

/-- **C12_struct_subset**: a struct target that lists `tags` and `value` only (hints `.any`, the
    only ones the theorem covers): `next` is skipped, the same byte is left -/
example :
    ∃ os, cycOut = .map os ∧
      de deExtModel {} cycS 100 cycRoot 64 false .any { rest := cycBytes ++ [0x2a] } =
        (.ok (.map os), { rest := [0x2a] }) ∧
      de deExtModel {} cycS 100 cycRoot 64 false (.struct [("tags", .any), ("value", .any)])
          { rest := cycBytes ++ [0x2a] } =
        (.ok (.map (os.map (maskEntry [("tags", .any), ("value", .any)]))), { rest := [0x2a] }) :=
  C12_struct_subset {} cycS nmNode [("value", 5), ("next", 1), ("tags", 3)] v1 cycBytes [0x2a]
    cycOut 64 [("tags", .any), ("value", .any)] (by simp) v1_enc v1_obs
    (by decide +kernel) (by decide +kernel) (by decide +kernel) 100 (by decide +kernel)
    { rest := cycBytes ++ [0x2a] } rfl rfl rfl rfl

/-- what the struct target gets, evaluated: `next` replaced by `unit` -/
example :
    de deExtModel {} cycS 100 cycRoot 64 false (.struct [("tags", .any), ("value", .any)])
      { rest := cycBytes ++ [0x2a] } =
    (.ok (.map [(.str "value" false, .i64 1), (.str "next" false, .unit),
                (.str "tags" false, .seq [.str "a" true])]), { rest := [0x2a] }) :=
  resEq_of (by decide +kernel)

/-- REMARK.  `hfs : ∀ p ∈ fs, p.2 = .any` restricts `C12_struct_subset(_all_layouts)` to listed
    fields that are dynamically typed.  It cannot be dropped for the conclusion as stated: a listed
    field typed `Option<_>` receives `some …`, which is not an entry of the full read. -/
example :
    de deExtModel {} cycS 100 cycRoot 64 false (.struct [("value", .option .any)])
      { rest := cycBytes ++ [0x2a] } =
    (.ok (.map [(.str "value" false, .some (.i64 1)), (.str "next" false, .unit),
                (.str "tags" false, .unit)]), { rest := [0x2a] }) :=
  resEq_of (by decide +kernel)

/-! ### Non-canonical layouts -/

/-- `v3 = {value: 300, next: null, tags: ["xy", ""]}` laid out with a non-minimal varint for
    `value` (`D8 84 00`), `tags` in two blocks: count -1 with its exact byte size 3, then count 1
    without a size -/
def v3Layout : Bytes := [0xD8, 0x84, 0x00, 0x00, 0x01, 0x06, 0x04, 0x78, 0x79, 0x02, 0x00, 0x00]

def v3Out : Out :=
  .map [(.str "value" false, .i64 300), (.str "next" false, .unit),
        (.str "tags" false, .seq [.str "xy" true, .str "" true])]

theorem v3_dec : Spec.decode cycS 20 cycRoot (v3Layout ++ [0x2a]) = some (v3, [0x2a]) :=
  decEq_of (by decide +kernel)
theorem v3_decX : Spec.decodeX Spec.Limits.impl cycS 20 cycRoot (v3Layout ++ [0x2a]) = some (v3, [0x2a]) :=
  decEq_of (by decide +kernel)
theorem v3_obs : Spec.observe cycS cycRoot v3 = some v3Out := optOutEq_of (by decide +kernel)
/-- it is not the canonical encoding -/
example : Spec.encode cycS cycRoot v3 ≠ some v3Layout := by decide +kernel

/-- **C12_skip_all_layouts** -/
example : de deExtModel {} cycS 100 cycRoot 64 false .ignored { rest := v3Layout ++ [0x2a] }
    = (.ok .unit, { rest := [0x2a] }) :=
  C12_skip_all_layouts {} cycS cycRoot v3 _ [0x2a] 64 20 20 v3_dec (by rw [v3_obs]; rfl)
    (by rw [v3_decX]; rfl) (by decide +kernel) (by decide +kernel) 100 (by decide +kernel)
    { rest := v3Layout ++ [0x2a] } rfl rfl rfl rfl

/-- **C12_skip_exact_layouts** -/
example : de deExtModel {} cycS 100 cycRoot 64 false .ignored { rest := v3Layout ++ [0x2a] }
    = (.ok .unit, { rest := [0x2a] }) :=
  C12_skip_exact_layouts {} cycS cycRoot v3 _ [0x2a] v3Out 64 20 v3_decX v3_obs
    (by decide +kernel) (by decide +kernel) 100 (by decide +kernel)
    { rest := v3Layout ++ [0x2a] } rfl rfl rfl rfl

theorem v3_read : de deExtModel {} cycS 100 cycRoot 64 false .any { rest := v3Layout ++ [0x2a] }
    = (.ok v3Out, { rest := [0x2a] }) := resEq_of (by decide +kernel)

/-- **C12_skip_agrees_with_read**: the hypothesis is the successful full read -/
example :
    de deExtModel {} cycS 70 cycRoot 64 false .ignored { rest := v3Layout ++ [0x2a] }
      = (.ok .unit, { rest := [0x2a] }) ∧
    Spec.observe cycS cycRoot v3 = some v3Out ∧ ({ rest := [0x2a] } : RState).rest = [0x2a] :=
  C12_skip_agrees_with_read {} cycS cycRoot 64 100 { rest := v3Layout ++ [0x2a] } { rest := [0x2a] }
    v3Out rfl rfl rfl v3_read v3 [0x2a] 20 v3_decX 70 (by decide +kernel)

/-- **C12_skip_follows_read**: frozen cyclic schema, default limits, the fuel bound of C04 — and
    hence the driver's fuel -/
example : de deExtModel {} cycS (fuelBound {} cycS .ignored 64) cycRoot 64 false .ignored
      { rest := v3Layout ++ [0x2a] } = (.ok .unit, { rest := [0x2a] }) :=
  C12_skip_follows_read {} cycS cycS_keys 0 cycRoot cycRoot_get 64 100 _
    { rest := v3Layout ++ [0x2a] } { rest := [0x2a] } v3Out rfl rfl rfl v3_read
    ⟨20, by rw [v3_decX]; rfl⟩ (Nat.le_refl _)

example : de deExtModel {} cycS (driverFuel {} cycS 64 13 .ignored) cycRoot 64 false .ignored
      { rest := v3Layout ++ [0x2a] } = (.ok .unit, { rest := [0x2a] }) :=
  C12_skip_follows_read {} cycS cycS_keys 0 cycRoot cycRoot_get 64 100 _
    { rest := v3Layout ++ [0x2a] } { rest := [0x2a] } v3Out rfl rfl rfl v3_read
    ⟨20, by rw [v3_decX]; rfl⟩ (cyc_fuel _ _)

/-- **C12_struct_subset_all_layouts**: a struct that lists `value` only; `next` and the two-block
    array `tags` are skipped (the first block jumped over by its byte size) -/
example :
    ∃ os, v3Out = .map os ∧
      de deExtModel {} cycS 100 cycRoot 64 false .any { rest := v3Layout ++ [0x2a] } =
        (.ok (.map os), { rest := [0x2a] }) ∧
      de deExtModel {} cycS 100 cycRoot 64 false (.struct [("value", .any)])
          { rest := v3Layout ++ [0x2a] } =
        (.ok (.map (os.map (maskEntry [("value", .any)]))), { rest := [0x2a] }) :=
  C12_struct_subset_all_layouts {} cycS nmNode [("value", 5), ("next", 1), ("tags", 3)] v3 _ [0x2a]
    v3Out 64 20 20 [("value", .any)] (by simp) v3_dec v3_obs
    (by decide +kernel)
    (by decide +kernel) (by decide +kernel) 100 (by decide +kernel)
    { rest := v3Layout ++ [0x2a] } rfl rfl rfl rfl

example :
    de deExtModel {} cycS 100 cycRoot 64 false (.struct [("value", .any)])
      { rest := v3Layout ++ [0x2a] } =
    (.ok (.map [(.str "value" false, .i64 300), (.str "next" false, .unit),
                (.str "tags" false, .unit)]), { rest := [0x2a] }) :=
  resEq_of (by decide +kernel)

/-! ### A unit variant for a union branch (no instance in `C12layouts.lean`) -/

theorem uv_instance :
    ∃ idx v' k branch, Spec.Value.union 1 (.array [.int 1, .int 2, .int 3]) = .union idx v' ∧
      [1, 2][idx]? = some k ∧ uvS[k]? = some branch ∧
      (lookupVariant branch.typeName uvVariants = some .unit →
        de deExtModel {} uvS 100 (.union [1, 2]) 64 false (.enum uvVariants) { rest := uvBytes ++ [0x2a] } =
          (.ok (.variant (.str branch.typeName false) .unit), { rest := [0x2a] })) :=
  C12_unit_variant_all_layouts {} uvS [1, 2] _ (uvBytes ++ [0x2a]) [0x2a] 64 20 20 uvVariants uv_dec
    (by decide +kernel) (by decide +kernel) (by decide +kernel) (by decide +kernel) 100
    (by decide +kernel) { rest := uvBytes ++ [0x2a] } rfl rfl rfl rfl

/-- **C12_unit_variant_all_layouts**, the premise of its inner implication discharged: the enum
    target gets the unit variant `Array`, the two-block array is skipped, `2a` is left -/
example :
    de deExtModel {} uvS 100 (.union [1, 2]) 64 false (.enum uvVariants) { rest := uvBytes ++ [0x2a] } =
      (.ok (.variant (.str "Array" false) .unit), { rest := [0x2a] }) := by
  obtain ⟨idx, v', k, branch, hv, hk, hb, himp⟩ := uv_instance
  cases hv
  obtain rfl : k = 2 := by simpa using hk.symm
  obtain rfl : branch = .array 3 := (Option.some.inj hb).symm
  exact himp (by simp [lookupVariant, Node.typeName, uvVariants])

/-! ## C18 -/

def cycPcf : String :=
  "{\"name\":\"ns.Node\",\"type\":\"record\",\"fields\":[{\"name\":\"value\",\"type\":\"long\"},{\"name\":\"next\",\"type\":[\"null\",\"ns.Node\"]},{\"name\":\"tags\",\"type\":{\"type\":\"array\",\"items\":\"string\"}}]}"

theorem cyc_pcf : canonicalForm cycSM 1000 = .ok cycPcf := by
  apply eq_ok_ofList_of_utf8
  decide +kernel

/-- **C18_fingerprint_is_crc** on the cyclic schema (logical types dropped, the recursive
    reference written by name) -/
example : schemaFingerprint cycSM 1000 = .ok (Spec.fingerprintLE cycPcf.toUTF8.data.toList) :=
  C18_fingerprint_is_crc cycSM 1000 cycPcf cyc_pcf

/-- `C18_fingerprint_is_crc` without naming the text: the stored fingerprint is the specification's
    bit-serial CRC of whatever `canonicalForm` writes (which the kernel can evaluate on a whole
    text: no table look-ups) -/
theorem schemaFingerprint_eq_crc (S : SchemaMut) (fuel : Nat) :
    schemaFingerprint S fuel =
      (canonicalForm S fuel).map fun text => Spec.fingerprintLE text.toUTF8.data.toList := by
  unfold schemaFingerprint
  cases canonicalForm S fuel <;> simp [Except.map, C08_fingerprint_bytes]

theorem cycFp_eq : schemaFingerprint cycSM 1000 = .ok cycFp := by
  rw [C18_fingerprint_is_crc cycSM 1000 cycPcf cyc_pcf]
  apply congrArg Except.ok
  apply (congrArg Spec.fingerprintLE (utf8_ofList _)).trans
  decide +kernel

/-- the real datum serializer on the frozen schema (`cyc_write`, `Theorems/ExampleDataB.lean`, is
    the same run started behind the two-byte marker and the fingerprint) -/
theorem ser_sv1 : ser extNone false cycS cycRoot sv1 {} = (.ok (), { out := cycBytes }) := by
  decide +kernel

/-- **C18_frame** with the real `ser`: marker, fingerprint, then the datum serializer -/
example :
    toSingleObject cycFp (ser extNone false cycS cycRoot sv1) {} =
      ser extNone false cycS cycRoot sv1 { out := [] ++ [0xC3, 0x01] ++ cycFp } :=
  C18_frame cycFp (ser extNone false cycS cycRoot sv1) {} rfl

/-- **C18_accepts_slice** with the real `de` as the datum parameter (the theorem puts no condition
    on it) on the message the real `ser` wrote -/
example : fromSingleObject cycFp cycDatum { rest := cycMsg } = cycDatum { rest := cycBytes } :=
  C18_accepts_slice cycFp cycDatum { rest := cycMsg } rfl cycBytes rfl rfl

/-- **C18_write_read** (write then read, the real `ser` and the real `de`), every hypothesis
    discharged on the cyclic schema: whatever follows the message, and with any fuel above
    `4 * size + 8`, the slice reader returns the observation of the value `sv1` denotes and leaves
    what followed. -/
theorem cyc_write_read (rest : Bytes) (fuel : Nat) (hfuel : 4 * Spec.size cycV + 8 ≤ fuel) :
    fromSingleObject cycFp (de deExtModel {} cycS fuel cycRoot 64 false .any)
      { rest := (toSingleObject cycFp (ser extNone false cycS cycRoot sv1) {}).2.out ++ rest } =
        (.ok cycOut, { rest := rest }) := by
  obtain ⟨s', bytes, v, hrun, hout, henc, hden, hrd⟩ :=
    C18_write_read {} extNone false cycS cycRoot sv1 cycFp rfl {} (by rw [cyc_write])
      C01glue.good_empty
      cycS_ok cycRoot_ok (by decide +kernel) extNone_ok (by decide +kernel)
      (fun _ n _ => Canon.nodeAllows_strict n) (Canon.nodeAllows_strict _) cycS_fixedDecFits
      (by decide +kernel)
  rw [hrun]
  rw [cyc_write] at hrun
  obtain rfl : s' = { out := cycMsg } := (Prod.mk.inj hrun).2.symm
  obtain rfl : bytes = cycBytes := by simpa [cycMsg] using hout.symm
  obtain rfl : v = cycV := encode_injective henc cycV_encode
  have := hrd {} 64 cycOut cycV_observe (by decide +kernel) (by decide +kernel) fuel
    (by omega)
    rest { rest := cycMsg ++ rest } rfl rfl rfl (by simp [cycMsg, List.append_assoc])
  simpa using this

/-- … in particular with the datum deserializer as `runSingle` of the driver instantiates it (its
    fuel is computed from what follows the header) -/
example (rest : Bytes) :
    fromSingleObject cycFp cycDatum { rest := cycMsg ++ rest } = (.ok cycOut, { rest := rest }) := by
  have hsz : Spec.size cycV ≤ 100 := by decide +kernel
  have h := cyc_write_read rest (driverFuel {} cycS 64 (cycBytes ++ rest).length)
    (Nat.le_trans (by simp only [deFuelBase]; omega)
      (deFuelBase_le_deFuel {} cycS .any 64 (cycBytes ++ rest).length))
  rw [cyc_write] at h
  have hsplit : ({ rest := cycMsg ++ rest } : RState).rest = [0xC3, 0x01] ++ cycFp ++ (cycBytes ++ rest) := by
    simp [cycMsg, List.append_assoc]
  rw [C18_accepts_slice cycFp _ { rest := cycMsg ++ rest } rfl (cycBytes ++ rest) rfl hsplit] at h
  rw [C18_accepts_slice cycFp cycDatum { rest := cycMsg ++ rest } rfl (cycBytes ++ rest) rfl hsplit]
  exact h

/-- **C18_fingerprint_err_slice**: the same message read under a schema with another
    fingerprint (here: the canonical form with the field `tags` renamed) -/
def otherSM : SchemaMut := cycSM.set! 0
  { type := .record nmNode [("value", 5), ("next", 1), ("labels", 3)], logical := none }
theorem otherFp_eq : schemaFingerprint otherSM 1000 = .ok otherFp := by
  rw [schemaFingerprint_eq_crc]; decide +kernel

example : (fromSingleObject otherFp cycDatum { rest := cycMsg }).1 = .error .custom :=
  C18_fingerprint_err_slice otherFp cycDatum { rest := cycMsg } rfl (by decide) (by decide +kernel)

/-- **C18_marker_err_slice / C18_short_header_err_slice** -/
example : (fromSingleObject cycFp cycDatum { rest := [0xC3, 0x02] ++ cycFp ++ cycBytes }).1
    = .error .custom :=
  C18_marker_err_slice cycFp cycDatum { rest := [0xC3, 0x02] ++ cycFp ++ cycBytes } rfl (by decide)
    (by decide +kernel)

example : (fromSingleObject cycFp cycDatum { rest := cycMsg.take 9 }).1 = .error .custom :=
  C18_short_header_err_slice cycFp cycDatum { rest := cycMsg.take 9 } rfl (by decide)

end Avro.Theorems.NVB
