import AvroModel.Theorems.C18
import AvroModel.Theorems.C01glue
/-
C18 — single-object encoding, WRITE THEN READ with the real datum serializer and deserializer
(`C18_write_read` composes `C18_frame`, `C01_roundtrip_impl` and `C18_accepts_slice`).
A theorem file (not a collection of imports like the other `CxxFull` modules); it is the module
the check of C18 builds because it imports the first half (`C18.lean`).
-/
namespace Avro.Theorems
open Avro Avro.Impl Avro.Spec

/-- the fingerprint stored at freeze time has 8 bytes -/
theorem schemaFingerprint_length (Sm : SchemaMut) (fuel : Nat) (fp : Bytes)
    (h : schemaFingerprint Sm fuel = .ok fp) : fp.length = 8 := by
  unfold schemaFingerprint at h
  split at h
  · cases h
  · simp only [Except.ok.injEq] at h
    subst h
    simp [rabinFingerprint]

/-- **C18, write then read.**  `toSingleObject fp (ser …)` on an unlimited writer, for a
    presentation under the side conditions of `C01_roundtrip_impl`:
    * if it succeeds (`hok`), it has appended `C3 01 ++ fp ++ bytes` where
      `bytes = Spec.encode S node v` for a value `v` that `sv` denotes;
    * `fromSingleObject fp (de …)` on a slice that starts with what was appended returns
      `Spec.observe S node v` and leaves the rest — for every configuration, depth budget and
      fuel that cover `v` (as in `C01_roundtrip_impl`). -/
theorem C18_write_read (f : Canon.Allow) (ext : Ext) (allowSlow : Bool)
    (S : Schema) (node : Node) (sv : SV) (fp : Bytes) (hfp : fp.length = 8) (s₀ : SerState)
    (hok : (toSingleObject fp (ser ext allowSlow S node sv) s₀).1 = .ok ())
    (hs : Good s₀) (hS : SchemaOK S) (hnode : NodeOK S node) (hsv : svOK sv = true)
    (hext : ExtOK ext)
    (hcanon : Canon.svCanon f sv = true)
    (hallowS : ∀ (k : Nat) (n : Node), S[k]? = some n → Canon.nodeAllows f n = true)
    (hallowN : Canon.nodeAllows f node = true)
    (hfixS : Schema.fixedDecFits S) (hfixN : node.fixedDecFits = true) :
    ∃ s' bytes v, toSingleObject fp (ser ext allowSlow S node sv) s₀ = (.ok (), s') ∧
      s'.out = s₀.out ++ ([0xC3, 0x01] ++ fp ++ bytes) ∧
      Spec.encode S node v = some bytes ∧
      Spec.denotes (denExtOf ext) S node sv v = true ∧
      ∀ (cfg : DeConfig) (depth : Nat) (o : Out), Spec.observe S node v = some o →
        Spec.depthOf v ≤ depth → Spec.maxLen v ≤ cfg.maxSeqSize →
        ∀ fuel, Spec.size v * 4 + 8 ≤ fuel → ∀ (rest : Bytes) (r : RState),
          r.isSlice = true → r.limit = none → r.avail = 0 →
          r.rest = [0xC3, 0x01] ++ fp ++ bytes ++ rest →
          fromSingleObject fp (de deExtModel cfg S fuel node depth false .any) r =
            (.ok o, { r with rest := rest }) := by
  have hframe := C18_frame fp (ser ext allowSlow S node sv) s₀ hs.1
  rw [hframe] at hok ⊢
  have hs1 : Good { s₀ with out := s₀.out ++ [0xC3, 0x01] ++ fp } := ⟨hs.1, hs.2⟩
  obtain ⟨s', bytes, v, hrun, hout, henc, hden, hde⟩ :=
    C01_roundtrip_impl f ext allowSlow S node sv _ hok hs1 hS hnode hsv hext hcanon hallowS hallowN
      hfixS hfixN
  refine ⟨s', bytes, v, hrun, ?_, henc, hden, ?_⟩
  · rw [hout]; simp [List.append_assoc]
  · intro cfg depth o hobs hdepth hseq fuel hfuel rest r hsl hl ha hr
    rw [C18_accepts_slice fp _ r hsl (bytes ++ rest) hfp (by rw [hr]; simp [List.append_assoc])]
    have := hde cfg depth o hobs hdepth hseq fuel hfuel rest { r with rest := bytes ++ rest }
      hsl hl ha rfl
    simpa using this

/-- The message on its own: written on the empty `Vec`, read back from a slice holding exactly
    the message, with the limits stated on the presentation (as in `C01_roundtrip_impl_bounded`):
    the reader returns the observation of a value the presentation denotes and consumes
    everything. -/
theorem C18_write_read_msg (f : Canon.Allow) (ext : Ext) (allowSlow : Bool) (cfg : DeConfig)
    (S : Schema) (node : Node) (sv : SV) (fp : Bytes) (hfp : fp.length = 8) (depth : Nat)
    (hok : (toSingleObject fp (ser ext allowSlow S node sv) {}).1 = .ok ())
    (hS : SchemaOK S) (hnode : NodeOK S node) (hsv : svOK sv = true)
    (hext : ExtOK ext)
    (hcanon : Canon.svCanon f sv = true)
    (hallowS : ∀ (k : Nat) (n : Node), S[k]? = some n → Canon.nodeAllows f n = true)
    (hallowN : Canon.nodeAllows f node = true)
    (hfixS : Schema.fixedDecFits S) (hfixN : node.fixedDecFits = true)
    (hlim : ∀ v, Spec.denotes (denExtOf ext) S node sv v = true →
      (Spec.observe S node v).isSome = true ∧ Spec.depthOf v ≤ depth ∧
        Spec.maxLen v ≤ cfg.maxSeqSize) :
    ∃ s' v o, toSingleObject fp (ser ext allowSlow S node sv) {} = (.ok (), s') ∧
      Spec.denotes (denExtOf ext) S node sv v = true ∧ Spec.observe S node v = some o ∧
      ∀ fuel, Spec.size v * 4 + 8 ≤ fuel →
        fromSingleObject fp (de deExtModel cfg S fuel node depth false .any) { rest := s'.out } =
          (.ok o, { rest := [] }) := by
  obtain ⟨s', bytes, v, hrun, hout, _, hden, hrd⟩ :=
    C18_write_read f ext allowSlow S node sv fp hfp {} hok C01glue.good_empty hS hnode hsv hext
      hcanon hallowS hallowN hfixS hfixN
  obtain ⟨hobs, hdepth, hseq⟩ := hlim v hden
  obtain ⟨o, ho⟩ := Option.isSome_iff_exists.1 hobs
  refine ⟨s', v, o, hrun, hden, ho, ?_⟩
  intro fuel hfuel
  have := hrd cfg depth o ho hdepth hseq fuel hfuel [] { rest := s'.out } rfl rfl rfl
    (by rw [hout]; simp)
  simpa using this

end Avro.Theorems
