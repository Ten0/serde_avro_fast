import AvroModel.Theorems.C06
import AvroModel.Theorems.C03layouts
import AvroModel.Lemmas.MetaDe
/-
C06 — the header of a container file, FROM THE BYTES (closes the hypothesis `hm : metaDe s = …` of
`C06_header_any_order`, `C06_header_any_order_no_codec`, `C06_header_accepted`).

A "layout" of the metadata map is any byte string the specification decoder accepts on the schema
`map<bytes>` — `Spec.decode metaSchema _ (.map 1)`: any partition of the entries into blocks, blocks
with a positive count, blocks with a negative count followed by a byte size, a final 0 count,
non-minimal varints — within the implementation's varint limit (`Spec.decodeL Limits.impl`, the
relation `C03_de_refines_spec` / `C03_de_sound` are stated over).  `kvs : List (String × Bytes)` are
the entries in FILE order (a `String` key is a valid UTF-8 key).
-/
namespace Avro.Theorems
open Avro Avro.Impl Avro.Impl.Ocf Avro.C06 Avro.Spec

/-- `Obj\x01` -/
def ocfMagic : Bytes := [0x4F, 0x62, 0x6A, 0x01]

theorem readExact_slice_append (k : Nat) (src : RState) (a r : Bytes)
    (hs : src.isSlice = true) (hl : src.limit = none) (ha : src.avail = 0)
    (hr : src.rest = a ++ r) (hk : a.length = k) :
    readExact k src = (.ok a, { src with rest := r }) :=
  ((exact_readExact k).readsAt (takeN_append_of_length a r hk)).run src hs hl ha hr

/-- the first two steps of `readHeader` on a slice: the magic, then the metadata map -/
theorem header_steps (src : RState) (kvs : List (String × Bytes)) (layout rest : Bytes) (fuelL : Nat)
    (hsl : src.isSlice = true) (hl : src.limit = none) (ha : src.avail = 0)
    (hr : src.rest = ocfMagic ++ (layout ++ rest))
    (hlay : Spec.decodeL Limits.impl metaSchema fuelL (.map 1) (layout ++ rest) =
      some (metaValue kvs, rest))
    (hn : kvs.length ≤ 1000) :
    readExact 4 src = (.ok [0x4F, 0x62, 0x6A, 0x01], { src with rest := layout ++ rest }) ∧
    metaDe { src with rest := layout ++ rest } = (.ok (.map (metaOut kvs)), { src with rest := rest }) :=
  ⟨readExact_slice_append 4 src ocfMagic _ hsl hl ha hr rfl,
   metaDe_accepts kvs _ rest fuelL hlay hn { src with rest := layout ++ rest } hsl hl ha rfl⟩

/-- **C06 (the header, from the bytes; `avro.codec` present).**  A slice
    `Obj\x01 ++ layout ++ sync ++ tail` where `layout` is ANY layout of the `map<bytes>` holding the
    entries `kvs` (file order), at most 1000 of them, `sync` has 16 bytes; exactly one entry has
    the key `avro.schema` (value valid UTF-8), exactly one the key `avro.codec`, naming a known
    codec; the entries are in any order and other keys are allowed.  Then `readHeader` returns
    that schema, that codec, `sync`, the other entries in file order, and leaves exactly `tail`. -/
theorem C06_header_bytes_any_order (src : RState) (kvs : List (String × Bytes))
    (layout sync tail : Bytes) (fuelL : Nat) (sj cv : Bytes) (str cn : String)
    (hsl : src.isSlice = true) (hl : src.limit = none) (ha : src.avail = 0)
    (hr : src.rest = ocfMagic ++ (layout ++ (sync ++ tail)))
    (hlay : Spec.decodeL Limits.impl metaSchema fuelL (.map 1) (layout ++ (sync ++ tail)) =
      some (metaValue kvs, sync ++ tail))
    (hn : kvs.length ≤ 1000) (hsync : sync.length = 16)
    (hs : (metaKV kvs).filter (·.1 = schemaKey) = [(schemaKey, sj)])
    (hutf : bytesToStr? sj = some str)
    (hc : (metaKV kvs).filter (·.1 = codecKey) = [(codecKey, cv)])
    (hcn : bytesToStr? cv = some cn) (hk : knownCodecs.contains cn = true) :
    readHeader src =
      (.ok { schemaJson := sj, codec := cn, sync := sync,
             userMeta := (metaKV kvs).filter fun e => e.1 ≠ schemaKey ∧ e.1 ≠ codecKey },
       { src with rest := tail }) := by
  obtain ⟨h4, hm⟩ := header_steps src kvs layout (sync ++ tail) fuelL hsl hl ha hr hlay hn
  have h16 := readExact_slice_append 16 { src with rest := sync ++ tail } sync tail hsl hl ha rfl hsync
  have := C06_header_any_order src _ _ _ (metaOut kvs) sj cv sync str cn h4 hm
    (by rw [kvOf_metaOut]; exact hs) hutf (by rw [kvOf_metaOut]; exact hc) hcn hk h16
  rw [kvOf_metaOut] at this
  exact this

/-- **C06 (the header, from the bytes; `avro.codec` absent).**  The same with no `avro.codec`
    entry: the codec is `"null"`. -/
theorem C06_header_bytes_any_order_no_codec (src : RState) (kvs : List (String × Bytes))
    (layout sync tail : Bytes) (fuelL : Nat) (sj : Bytes) (str : String)
    (hsl : src.isSlice = true) (hl : src.limit = none) (ha : src.avail = 0)
    (hr : src.rest = ocfMagic ++ (layout ++ (sync ++ tail)))
    (hlay : Spec.decodeL Limits.impl metaSchema fuelL (.map 1) (layout ++ (sync ++ tail)) =
      some (metaValue kvs, sync ++ tail))
    (hn : kvs.length ≤ 1000) (hsync : sync.length = 16)
    (hs : (metaKV kvs).filter (·.1 = schemaKey) = [(schemaKey, sj)])
    (hutf : bytesToStr? sj = some str)
    (hc : (metaKV kvs).filter (·.1 = codecKey) = []) :
    readHeader src =
      (.ok { schemaJson := sj, codec := "null", sync := sync,
             userMeta := (metaKV kvs).filter fun e => e.1 ≠ schemaKey ∧ e.1 ≠ codecKey },
       { src with rest := tail }) := by
  obtain ⟨h4, hm⟩ := header_steps src kvs layout (sync ++ tail) fuelL hsl hl ha hr hlay hn
  have h16 := readExact_slice_append 16 { src with rest := sync ++ tail } sync tail hsl hl ha rfl hsync
  have := C06_header_any_order_no_codec src _ _ _ (metaOut kvs) sj sync str h4 hm
    (by rw [kvOf_metaOut]; exact hs) hutf (by rw [kvOf_metaOut]; exact hc) h16
  rw [kvOf_metaOut] at this
  exact this

/-- The same two statements with the hypotheses of `C03_de_refines_spec`: the specification decoder
    `Spec.decode` accepts the layout (`hdec`) and the input is within the implementation's numeric
    limit — no varint longer than ten bytes (`hlim`). -/
theorem C06_header_bytes_any_order_spec (src : RState) (kvs : List (String × Bytes))
    (layout sync tail : Bytes) (fuelS fuelL : Nat) (sj cv : Bytes) (str cn : String)
    (hsl : src.isSlice = true) (hl : src.limit = none) (ha : src.avail = 0)
    (hr : src.rest = ocfMagic ++ (layout ++ (sync ++ tail)))
    (hdec : Spec.decode metaSchema fuelS (.map 1) (layout ++ (sync ++ tail)) =
      some (metaValue kvs, sync ++ tail))
    (hlim : (Spec.decodeL Limits.impl metaSchema fuelL (.map 1) (layout ++ (sync ++ tail))).isSome
      = true)
    (hn : kvs.length ≤ 1000) (hsync : sync.length = 16)
    (hs : (metaKV kvs).filter (·.1 = schemaKey) = [(schemaKey, sj)])
    (hutf : bytesToStr? sj = some str)
    (hc : (metaKV kvs).filter (·.1 = codecKey) = [(codecKey, cv)])
    (hcn : bytesToStr? cv = some cn) (hk : knownCodecs.contains cn = true) :
    readHeader src =
      (.ok { schemaJson := sj, codec := cn, sync := sync,
             userMeta := (metaKV kvs).filter fun e => e.1 ≠ schemaKey ∧ e.1 ≠ codecKey },
       { src with rest := tail }) :=
  C06_header_bytes_any_order src kvs layout sync tail fuelL sj cv str cn hsl hl ha hr
    (C03_decodeL_impl_of_spec hdec hlim) hn hsync hs hutf hc hcn hk

theorem C06_header_bytes_any_order_no_codec_spec (src : RState) (kvs : List (String × Bytes))
    (layout sync tail : Bytes) (fuelS fuelL : Nat) (sj : Bytes) (str : String)
    (hsl : src.isSlice = true) (hl : src.limit = none) (ha : src.avail = 0)
    (hr : src.rest = ocfMagic ++ (layout ++ (sync ++ tail)))
    (hdec : Spec.decode metaSchema fuelS (.map 1) (layout ++ (sync ++ tail)) =
      some (metaValue kvs, sync ++ tail))
    (hlim : (Spec.decodeL Limits.impl metaSchema fuelL (.map 1) (layout ++ (sync ++ tail))).isSome
      = true)
    (hn : kvs.length ≤ 1000) (hsync : sync.length = 16)
    (hs : (metaKV kvs).filter (·.1 = schemaKey) = [(schemaKey, sj)])
    (hutf : bytesToStr? sj = some str)
    (hc : (metaKV kvs).filter (·.1 = codecKey) = []) :
    readHeader src =
      (.ok { schemaJson := sj, codec := "null", sync := sync,
             userMeta := (metaKV kvs).filter fun e => e.1 ≠ schemaKey ∧ e.1 ≠ codecKey },
       { src with rest := tail }) :=
  C06_header_bytes_any_order_no_codec src kvs layout sync tail fuelL sj str hsl hl ha hr
    (C03_decodeL_impl_of_spec hdec hlim) hn hsync hs hutf hc

/-! ### Conversely: what `readHeader` accepts is a layout -/

theorem readHeader_ok_inv (src t : RState) (h : Header) (hok : readHeader src = (.ok h, t)) :
    ∃ s entries s', readExact 4 src = (.ok [0x4F, 0x62, 0x6A, 0x01], s) ∧
      metaDe s = (.ok (.map entries), s') ∧ (∃ sy, readExact 16 s' = (.ok sy, t) ∧ h.sync = sy) := by
  have hok0 := hok
  unfold readHeader at hok
  split at hok
  · cases hok
  · rename_i m s h4
    split at hok
    · cases hok
    · rename_i hm
      have hm' : m = [0x4F, 0x62, 0x6A, 0x01] := Classical.not_not.1 hm
      subst hm'
      cases hmd : metaDe s with
      | mk r s' =>
        have hmd' := hmd
        unfold metaDe at hmd'
        cases r with
        | error e => simp only [hmd'] at hok; cases hok
        | ok o =>
          cases o with
          | map entries =>
            refine ⟨s, entries, s', h4, hmd, ?_⟩
            rw [readHeader_eq src s s' entries h4 hmd] at hok0
            unfold headerTail at hok0
            split at hok0
            · cases hok0
            · split at hok0
              · cases hok0
              · rename_i sy s'' h16
                simp only [Prod.mk.injEq, Except.ok.injEq] at hok0
                obtain ⟨rfl, rfl⟩ := hok0
                exact ⟨sy, h16, rfl⟩
          | _ => simp only [hmd'] at hok; cases hok

/-- **C06 (the header, from the bytes; converse).**  If `readHeader` accepts a slice, then the
    slice is `Obj\x01 ++ body`, and `body` is: a valid layout of a `map<bytes>` holding some entries
    `kvs` (at most 1000) — accepted by the limited decoder, hence by the specification decoder
    `Spec.decode` — followed by the 16 bytes returned as `sync`, followed by exactly what is left
    in the slice.  The entries satisfy the conclusions of `C06_header_accepted`: exactly one
    `avro.schema`, whose value is the schema returned, at most one `avro.codec`, a known codec
    (`"null"` if there is none), and the user metadata are the other entries in file order. -/
theorem C06_header_bytes_accepted (src t : RState) (h : Header)
    (hsl : src.isSlice = true) (hl : src.limit = none) (ha : src.avail = 0)
    (hok : readHeader src = (.ok h, t)) :
    ∃ (kvs : List (String × Bytes)) (body : Bytes) (fuelS : Nat),
      src.rest = ocfMagic ++ body ∧
      Spec.decodeL Limits.impl metaSchema fuelS (.map 1) body = some (metaValue kvs, h.sync ++ t.rest) ∧
      Spec.decode metaSchema fuelS (.map 1) body = some (metaValue kvs, h.sync ++ t.rest) ∧
      h.sync.length = 16 ∧ kvs.length ≤ 1000 ∧ t = { src with rest := t.rest } ∧
      (∃ k, (metaKV kvs).filter (·.1 = schemaKey) = [(k, h.schemaJson)]) ∧
      ((metaKV kvs).filter (·.1 = codecKey)).length ≤ 1 ∧
      knownCodecs.contains h.codec = true ∧
      (((metaKV kvs).filter (·.1 = codecKey)) = [] → h.codec = "null") ∧
      h.userMeta = (metaKV kvs).filter fun e => e.1 ≠ schemaKey ∧ e.1 ≠ codecKey := by
  obtain ⟨s, entries, s', h4, hm, sy, h16, hsy⟩ := readHeader_ok_inv src t h hok
  -- the magic, the map, the marker: each read on a slice changes the unread input only
  obtain ⟨body, rfl, hmag⟩ := ((exact_readExact 4).inv src.rest).run hsl hl ha h4
  obtain ⟨kvs, fuelS, hdec, ho, hn, _, hs'⟩ :=
    metaDe_sound { src with rest := body } s' _ hsl hl ha hm
  simp only [Out.map.injEq] at ho
  subst ho
  obtain ⟨r', rfl⟩ : ∃ r', s' = { src with rest := r' } := ⟨_, hs'⟩
  obtain ⟨tr, rfl, h16'⟩ :=
    Inv.run (s := { src with rest := r' }) ((exact_readExact 16).inv r') hsl hl ha h16
  obtain ⟨hsplit, hlen⟩ := takeN_eq h16'
  have hacc := C06_header_accepted src _ _ _ (metaOut kvs) h h4 hm hok
  rw [kvOf_metaOut] at hacc
  rw [hsy]
  have hdec' : Spec.decodeL Limits.impl metaSchema fuelS (.map 1) body =
      some (metaValue kvs, sy ++ tr) := by rw [← hsplit]; exact hdec
  exact ⟨kvs, body, fuelS, (takeN_eq hmag).1, hdec',
    C03_decodeL_impl_sub_spec metaSchema fuelS (.map 1) _ _ hdec', hlen, hn, rfl, hacc⟩

/-! ### The entry limit -/

theorem readHeader_of_meta_err (src s s' : RState) (e : DeErr)
    (h4 : readExact 4 src = (.ok [0x4F, 0x62, 0x6A, 0x01], s)) (hm : metaDe s = (.error e, s')) :
    readHeader src = (.error .header, s') := by
  unfold metaDe at hm
  unfold readHeader
  simp only [h4, ne_eq, not_true_eq_false, if_false, hm]

/-- **C06 (the header, from the bytes; more than 1000 entries).**  A slice `Obj\x01 ++ layout ++ rest`
    whose `layout` is a layout of a `map<bytes>` with MORE than 1000 entries (any layout the limited
    decoder accepts, whatever the entries) is refused by `readHeader` with the header error:
    `max_seq_size = 1000` of the header reader.  (With at most 1000 entries:
    `C06_header_bytes_any_order`, `C06_header_bytes_any_order_no_codec`.) -/
theorem C06_header_bytes_over_max_seq (src : RState) (kvs : List (String × Bytes))
    (layout rest : Bytes) (fuelL : Nat)
    (hsl : src.isSlice = true) (hl : src.limit = none) (ha : src.avail = 0)
    (hr : src.rest = ocfMagic ++ (layout ++ rest))
    (hlay : Spec.decodeL Limits.impl metaSchema fuelL (.map 1) (layout ++ rest) =
      some (metaValue kvs, rest))
    (hn : 1000 < kvs.length) : (readHeader src).1 = .error .header := by
  have h4 := readExact_slice_append 4 src ocfMagic _ hsl hl ha hr rfl
  cases hm : metaDe { src with rest := layout ++ rest } with
  | mk res s' =>
    cases res with
    | error e => rw [readHeader_of_meta_err src _ s' e h4 hm]
    | ok o =>
      -- what `metaDe` accepts has at most 1000 entries, and it is this layout
      obtain ⟨kvs', fuelS, hdec, _, hn', _, _⟩ :=
        metaDe_sound { src with rest := layout ++ rest } s' o hsl hl ha hm
      have e := Spec.decodeL_agree metaSchema hlay hdec
      simp only [Prod.mk.injEq, metaValue, Value.map.injEq] at e
      have hlen := congrArg List.length e.1
      simp only [List.length_map] at hlen
      omega

/-! ### Non-vacuity: every hypothesis instantiated on concrete bytes -/

def exSchemaJson : Bytes := [0x22, 0x69, 0x6E, 0x74, 0x22]
def exDeflate : Bytes := [0x64, 0x65, 0x66, 0x6C, 0x61, 0x74, 0x65]
def exSync : Bytes := List.replicate 16 0xAB
def exTail : Bytes := [4, 6, 0xC0]
/-- a first block with a NEGATIVE count (-2, byte size 25): the user key `k ↦ 01 02 03`, then
    `avro.codec ↦ deflate`; a second block of one entry `avro.schema ↦ "int"`; end of map -/
def exLayout : Bytes :=
  [3, 50] ++ ([2, 0x6B, 6, 1, 2, 3] ++ [20] ++ codecKey ++ [14] ++ exDeflate) ++
  [2] ++ ([22] ++ schemaKey ++ [10] ++ exSchemaJson) ++ [0]
def exKvs : List (String × Bytes) :=
  [("k", [1, 2, 3]), ("avro.codec", exDeflate), ("avro.schema", exSchemaJson)]
/-- no codec: two blocks with positive counts, the user key then the schema -/
def exLayoutN : Bytes :=
  [2] ++ [2, 0x6B, 6, 1, 2, 3] ++ [2] ++ ([22] ++ schemaKey ++ [10] ++ exSchemaJson) ++ [0]
def exKvsN : List (String × Bytes) := [("k", [1, 2, 3]), ("avro.schema", exSchemaJson)]

theorem exLay : Spec.decodeL Limits.impl metaSchema 6 (.map 1) (exLayout ++ (exSync ++ exTail)) =
    some (metaValue exKvs, exSync ++ exTail) := by rfl
theorem exLaySpec : Spec.decode metaSchema 6 (.map 1) (exLayout ++ (exSync ++ exTail)) =
    some (metaValue exKvs, exSync ++ exTail) := by rfl
theorem exLayN : Spec.decodeL Limits.impl metaSchema 6 (.map 1) (exLayoutN ++ (exSync ++ exTail)) =
    some (metaValue exKvsN, exSync ++ exTail) := by rfl

/-- `C06_header_bytes_any_order` on it: user key first, schema last, negative block count -/
theorem readHeader_ex :
    readHeader { rest := ocfMagic ++ (exLayout ++ (exSync ++ exTail)) } =
      (.ok { schemaJson := exSchemaJson, codec := "deflate", sync := exSync,
             userMeta := [([0x6B], [1, 2, 3])] }, { rest := exTail }) :=
  C06_header_bytes_any_order { rest := ocfMagic ++ (exLayout ++ (exSync ++ exTail)) } exKvs
    exLayout exSync exTail 6 exSchemaJson exDeflate "\"int\"" "deflate" rfl rfl rfl rfl exLay
    (by decide) (by decide) (by decide +kernel) (by decide +kernel) (by decide +kernel)
    (by decide +kernel) (by decide +kernel)

/-- … and with the hypotheses of `C03_de_refines_spec` -/
example :
    readHeader { rest := ocfMagic ++ (exLayout ++ (exSync ++ exTail)) } =
      (.ok { schemaJson := exSchemaJson, codec := "deflate", sync := exSync,
             userMeta := [([0x6B], [1, 2, 3])] }, { rest := exTail }) :=
  C06_header_bytes_any_order_spec { rest := ocfMagic ++ (exLayout ++ (exSync ++ exTail)) } exKvs
    exLayout exSync exTail 6 6 exSchemaJson exDeflate "\"int\"" "deflate" rfl rfl rfl rfl exLaySpec
    (by rw [exLay]; rfl)
    (by decide) (by decide) (by decide +kernel) (by decide +kernel) (by decide +kernel)
    (by decide +kernel) (by decide +kernel)

/-- `C06_header_bytes_any_order_no_codec` -/
example :
    readHeader { rest := ocfMagic ++ (exLayoutN ++ (exSync ++ exTail)) } =
      (.ok { schemaJson := exSchemaJson, codec := "null", sync := exSync,
             userMeta := [([0x6B], [1, 2, 3])] }, { rest := exTail }) :=
  C06_header_bytes_any_order_no_codec { rest := ocfMagic ++ (exLayoutN ++ (exSync ++ exTail)) }
    exKvsN exLayoutN exSync exTail 6 exSchemaJson "\"int\"" rfl rfl rfl rfl exLayN
    (by decide) (by decide) (by decide +kernel) (by decide +kernel) (by decide +kernel)

/-- `C06_header_bytes_accepted` on the accepted header above -/
example : ∃ (kvs : List (String × Bytes)) (body : Bytes) (fuelS : Nat),
      ocfMagic ++ (exLayout ++ (exSync ++ exTail)) = ocfMagic ++ body ∧
      Spec.decodeL Limits.impl metaSchema fuelS (.map 1) body = some (metaValue kvs, exSync ++ exTail) ∧
      Spec.decode metaSchema fuelS (.map 1) body = some (metaValue kvs, exSync ++ exTail) ∧
      exSync.length = 16 ∧ kvs.length ≤ 1000 ∧ (⟨true, exTail, 0, [], 1, 536870912, 0, none⟩ : RState) =
        { rest := exTail } ∧
      (∃ k, (metaKV kvs).filter (·.1 = schemaKey) = [(k, exSchemaJson)]) ∧
      ((metaKV kvs).filter (·.1 = codecKey)).length ≤ 1 ∧
      knownCodecs.contains "deflate" = true ∧
      (((metaKV kvs).filter (·.1 = codecKey)) = [] → "deflate" = "null") ∧
      [([0x6B], [1, 2, 3])] = (metaKV kvs).filter fun e => e.1 ≠ schemaKey ∧ e.1 ≠ codecKey :=
  C06_header_bytes_accepted _ _ _ rfl rfl rfl readHeader_ex

/-! ### The two limits that come through as hypotheses are necessary -/

def isHeaderErr : Except InitErr Header → Bool
  | .error .header => true
  | _ => false

/-- number of entries and remainder of a decoded map -/
def mapShape : Option (Value × Bytes) → Option (Nat × Bytes)
  | some (.map es, r) => some (es.length, r)
  | _ => none

/-- `n` entries with the empty key and the empty value are `2 * n` zero bytes -/
theorem decodeMapItemsL_zeros {L : Limits} (hV : fitsOpt L.maxVarint 10 = true) (S : Schema)
    (rest : Bytes) : ∀ n fuel, n < fuel →
    decodeMapItemsL L S fuel .bytes n (List.replicate (2 * n) 0 ++ rest) =
      some (List.replicate n ("", Value.bytes []), rest)
  | 0, _, _ => by simp [decodeMapItemsL]
  | n + 1, fuel + 2, h => by
    have hk := decodeStringL_lenPrefixed L hV "" (by decide)
    have hb := decodeBytesL_lenPrefixed L hV [] (by decide)
    have e : lenPrefixed [] = [0] := by decide +kernel
    rw [show utf8 "" = [] by decide, e] at hk
    rw [e] at hb
    rw [show 2 * (n + 1) = 2 * n + 1 + 1 by omega]
    simp only [List.replicate_succ, List.cons_append, List.nil_append] at hk hb ⊢
    simp only [decodeMapItemsL, decodeL, hk, hb, Option.map_some,
      decodeMapItemsL_zeros hV S rest n (fuel + 1) (by omega)]

/-- one block of `n + 1` entries, `avro.schema ↦ "int"` then `n` entries with the empty key and the
    empty value (user metadata), and the end of the map -/
theorem schemaThenEmpty_layout (n fuel : Nat) (rest : Bytes) (hf : n + 4 ≤ fuel)
    (hn : n + 1 < 2 ^ 63) :
    decodeL Limits.impl metaSchema fuel (.map 1)
      ((encodeLong (n + 1 : Nat) ++ ([22] ++ schemaKey ++ [10] ++ exSchemaJson) ++
        List.replicate (2 * n) 0 ++ [0]) ++ rest) =
      some (metaValue (("avro.schema", exSchemaJson) :: List.replicate n ("", [])), rest) := by
  obtain ⟨f, rfl⟩ : ∃ f, fuel = f + 1 + 1 + 1 + 1 := ⟨fuel - 4, by omega⟩
  have hV : fitsOpt Limits.impl.maxVarint 10 = true := rfl
  have hh := fun c hc r => decodeBlockHeaderX_L (decodeBlockHeaderX_encodeLong Limits.impl hV c hc r)
  have h0 := hh 0 (by decide)
  have hk := decodeStringL_lenPrefixed _ hV "avro.schema" (by decide)
  have hb := decodeBytesL_lenPrefixed _ hV exSchemaJson (by decide)
  rw [show lenPrefixed (utf8 "avro.schema") = [22] ++ schemaKey by decide +kernel] at hk
  rw [show lenPrefixed exSchemaJson = [10] ++ exSchemaJson by decide +kernel] at hb
  rw [show encodeLong ((0 : Nat) : Int) = [0] from encodeLong_zero] at h0
  simp only [List.append_assoc] at hk hb ⊢
  simp only [decodeL, decodeMapBlocksL, decodeMapItemsL,
    show nodeOf metaSchema 1 = some Node.bytes from rfl, hh _ hn, hk, hb, h0,
    decodeMapItemsL_zeros hV metaSchema _ n (f + 1) (by omega), Option.map_some]
  simp [metaValue, C06.metaEntry]

theorem metaKV_schemaThenEmpty (n : Nat) :
    metaKV (("avro.schema", exSchemaJson) :: List.replicate n ("", [])) =
      (schemaKey, exSchemaJson) :: List.replicate n ([], []) := by
  rw [metaKV, List.map_cons, List.map_replicate]; rfl

theorem mapShape_meta (kvs : List (String × Bytes)) (r : Bytes) :
    mapShape (some (metaValue kvs, r)) = some (kvs.length, r) := by
  simp [mapShape, metaValue]

/-- one block of 1001 entries: the schema, then 1000 entries with the empty key and the empty
    value (user metadata) -/
def bigLayout : Bytes :=
  [0xD2, 0x0F] ++ ([22] ++ schemaKey ++ [10] ++ exSchemaJson) ++ List.replicate 2000 0 ++ [0]

/-- **`hn` is necessary** (`max_seq_size = 1000` of the header reader, a documented limit of the
    crate): a header whose metadata map is a valid layout of 1001 entries — one `avro.schema`, no
    codec, 1000 user entries — followed by a marker, is REJECTED by `readHeader`, while both
    decoders of the specification accept the layout. -/
theorem C06_header_bytes_needs_max_seq :
    mapShape (Spec.decodeL Limits.impl metaSchema 1010 (.map 1) (bigLayout ++ (exSync ++ exTail))) =
      some (1001, exSync ++ exTail) ∧
    mapShape (Spec.decode metaSchema 1010 (.map 1) (bigLayout ++ (exSync ++ exTail))) =
      some (1001, exSync ++ exTail) ∧
    isHeaderErr (readHeader { rest := ocfMagic ++ (bigLayout ++ (exSync ++ exTail)) }).1 = true := by
  have hL := schemaThenEmpty_layout 1000 1010 (exSync ++ exTail) (by decide) (by decide)
  rw [show encodeLong ((1000 + 1 : Nat) : Int) = [0xD2, 0x0F] by decide +kernel] at hL
  have hL' : decodeL Limits.impl metaSchema 1010 (.map 1) (bigLayout ++ (exSync ++ exTail)) = _ := hL
  refine ⟨?_, ?_, ?_⟩
  · rw [hL', mapShape_meta, List.length_cons, List.length_replicate]
  · rw [C03_decodeL_impl_sub_spec _ _ _ _ _ hL', mapShape_meta, List.length_cons,
      List.length_replicate]
  · rw [C06_header_bytes_over_max_seq _ _ bigLayout (exSync ++ exTail) 1010 rfl rfl rfl rfl hL'
      (by rw [List.length_cons, List.length_replicate]; decide)]
    rfl

/-- … and the limit is sharp: the same file with 1000 entries (999 user entries) is accepted -/
theorem C06_header_bytes_max_seq_sharp :
    isHeaderErr (readHeader { rest := ocfMagic ++ (([0xD0, 0x0F] ++
      ([22] ++ schemaKey ++ [10] ++ exSchemaJson) ++ List.replicate 1998 0 ++ [0]) ++
        (exSync ++ exTail)) }).1 = false := by
  have hL := schemaThenEmpty_layout 999 1010 (exSync ++ exTail) (by decide) (by decide)
  rw [show encodeLong ((999 + 1 : Nat) : Int) = [0xD0, 0x0F] by decide +kernel] at hL
  rw [C06_header_bytes_any_order_no_codec _ _ _ exSync exTail _ exSchemaJson "\"int\"" rfl rfl rfl rfl
    hL (by rw [List.length_cons, List.length_replicate]; decide) (by decide)
    (by rw [metaKV_schemaThenEmpty, List.filter_cons_of_pos (by decide), List.filter_replicate]; rfl)
    (by decide +kernel)
    (by rw [metaKV_schemaThenEmpty, List.filter_cons_of_neg (by decide), List.filter_replicate]; rfl)]
  rfl

/-- the layout `exLayoutN` with its first count (1) written as an 11-byte varint -/
def longVarintLayout : Bytes :=
  [0x82, 0x80, 0x80, 0x80, 0x80, 0x80, 0x80, 0x80, 0x80, 0x80, 0x00] ++ [2, 0x6B, 6, 1, 2, 3] ++
    [2] ++ ([22] ++ schemaKey ++ [10] ++ exSchemaJson) ++ [0]

/-- **`hlim` is necessary** (varints of at most ten bytes, the limit of `C03_de_refines_spec`):
    the specification decoder accepts this layout, with the entries `exKvsN`; `readHeader` rejects
    the file. -/
theorem C06_header_bytes_needs_varint_limit :
    Spec.decode metaSchema 6 (.map 1) (longVarintLayout ++ (exSync ++ exTail)) =
      some (metaValue exKvsN, exSync ++ exTail) ∧
    Spec.decodeL Limits.impl metaSchema 6 (.map 1) (longVarintLayout ++ (exSync ++ exTail)) = none ∧
    isHeaderErr (readHeader { rest := ocfMagic ++ (longVarintLayout ++ (exSync ++ exTail)) }).1 = true := by
  refine ⟨by rfl, by rfl, by decide +kernel⟩

end Avro.Theorems
