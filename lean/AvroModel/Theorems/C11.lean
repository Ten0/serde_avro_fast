import AvroModel.Lemmas.SliceReader
/-
C11: deserializing from a slice and from a buffered reader delivering the same bytes give the
same outcome (same value, or an error in both cases), whatever the chunk schedule of the reader;
on success both consume the same number of bytes.
Proof: `relD_logic` (`Lemmas/SliceReader.lean`); the read primitives are compared through their
characterisations in `Lemmas/Reader.lean`.
-/
namespace Avro.Theorems
open Avro Avro.Impl

theorem C11_readSome_one (r sl : RState) (h : Sim r sl) :
    OutEq (· = ·) (readSome 1 r) (readSome 1 sl) := (readSome_one_same h).outEq h

/-- `read_exact k`: the same `k` bytes on both sides, or an error on both sides, for every chunk
    schedule. -/
theorem C11_readExact (k : Nat) (r sl : RState) (h : Sim r sl) :
    OutEq (· = ·) (readExact k r) (readExact k sl) := (readExact_same k h).outEq h

/-- Explicit form of the success branch: both return the next `k` bytes. -/
theorem C11_readExact_value (k : Nat) (r sl : RState) (h : Sim r sl) (hk : k ≤ r.eff) :
    ∃ r' sl', readExact k r = (.ok (r.rest.take k), r') ∧
      readExact k sl = (.ok (r.rest.take k), sl') ∧ Sim r' sl' := by
  have hr := readExact_spec k r h.wf_reader
  have hs := readExact_spec k sl h.wf_slice
  rw [← h.eff, ← h.rest] at hs
  obtain ⟨r', e1, a1⟩ := hr.1 hk
  obtain ⟨sl', e2, a2⟩ := hs.1 hk
  exact ⟨r', sl', e1, e2, h.adv a1 a2⟩

/-- `read_varint` for every integer type and every chunk schedule (down to one byte at a time):
    same value and corresponding states, or an error on both sides.
    `r.limit = none`: the varint fast path of the reader by-passes the `Take` accounting that its
    byte-wise path goes through, so under a `Take` the model's `readVarint` is not schedule
    independent; the deserializer never calls it there (it uses `varintProcessor`). -/
theorem C11_readVarint (t : VarTy) (r sl : RState) (h : Sim r sl) (hlim : r.limit = none) :
    OutEq (· = ·) (readVarint t r) (readVarint t sl) := (readVarint_same t h hlim).outEq h

/-- The hypothesis `r.limit = none` of `C11_readVarint` cannot be dropped: under a `Take` of 0,
    on input `80 01` delivered one byte at a time, the slice decodes 64 and the reader fails. -/
example :
    (readVarint .i64
        { isSlice := false, rest := [0x80, 0x01], avail := 0, sched := [1], limit := some 0 }).1
      = .error .io ∧
    (readVarint .i64 { isSlice := true, rest := [0x80, 0x01], limit := some 0 }).1 = .ok 64 := by
  constructor <;> rfl

/-- Explicit form: both are `decode_var` on the remaining input. -/
theorem C11_readVarint_value (t : VarTy) (r sl : RState) (h : Sim r sl) (hlim : r.limit = none)
    (v : Int) (k : Nat) (hd : decodeVar t r.rest = some (v, k)) :
    ∃ r' sl', readVarint t r = (.ok v, r') ∧ readVarint t sl = (.ok v, sl') ∧
      r'.rest = r.rest.drop k ∧ Sim r' sl' := by
  have hr := readVarint_spec t r h.wf_reader hlim
  have hs := readVarint_spec t sl h.wf_slice (by rw [← h.limit, hlim])
  rw [← h.rest] at hs
  obtain ⟨r', e1, a1⟩ := hr.1 v k hd
  obtain ⟨sl', e2, a2⟩ := hs.1 v k hd
  exact ⟨r', sl', e1, e2, a1.rest, h.adv a1 a2⟩

/-- `read_slice n`: same bytes (borrowed from the slice, copied from the reader). -/
theorem C11_readSlice (n : Nat) (r sl : RState) (h : Sim r sl) (hlim : r.limit = none)
    (hn : n ≤ r.maxAlloc) :
    OutEq (fun a b => a.1 = b.1 ∧ a.2 = false ∧ b.2 = true) (readSlice n r) (readSlice n sl) :=
  (readSlice_same n h hlim fun _ => hn).outEq h

theorem C11_skipBytes (n : Nat) (r sl : RState) (h : Sim r sl) (hlim : r.limit = none) :
    OutEq (· = ·) (skipBytes n r) (skipBytes n sl) := (skipBytes_same n h hlim).outEq h

theorem Sim.init (bs : Bytes) (sched : List Nat) (lastChunk maxAlloc maxAlloc' scratch scratch' : Nat) :
    Sim { isSlice := false, rest := bs, avail := 0, sched := sched, lastChunk := lastChunk,
          maxAlloc := maxAlloc, scratch := scratch, limit := none }
        { isSlice := true, rest := bs, maxAlloc := maxAlloc', scratch := scratch', limit := none } :=
  ⟨rfl, rfl, rfl, Nat.zero_le _, rfl⟩

variable (ext : DeExt) (cfg : DeConfig) (S : Schema)

/-- **C11** for the datum deserializer: from corresponding states (no `Take` in place, which is
    the case between datums; `max_alloc_size` at least what is left), for every chunk schedule of the
    reader, every schema node, target hint, depth budget and model fuel, `de` on the reader and on
    the slice either both fail or both succeed with values equal up to the `borrowed` flags and
    corresponding states (hence the same number of bytes consumed, `OutEq.cases`). -/
theorem C11_de (fuel : Nat) (node : Node) (depth : Nat) (favor : Bool) (h : Hint)
    (r sl : RState) (hsim : Sim r sl) (hlim : r.limit = none)
    (halloc : r.rest.length ≤ r.maxAlloc) :
    OutEq (fun a b => unborrow a = unborrow b)
      (de ext cfg S fuel node depth favor h r) (de ext cfg S fuel node depth favor h sl) :=
  ((deRel_all ext cfg S fuel).de node depth favor h trivial).outEq hsim hlim halloc

theorem C11_de_cases (fuel : Nat) (node : Node) (depth : Nat) (favor : Bool) (h : Hint)
    (r sl : RState) (hsim : Sim r sl) (hlim : r.limit = none)
    (halloc : r.rest.length ≤ r.maxAlloc) :
    (∃ a b r' sl', de ext cfg S fuel node depth favor h r = (.ok a, r') ∧
        de ext cfg S fuel node depth favor h sl = (.ok b, sl') ∧ unborrow a = unborrow b ∧
        Sim r' sl' ∧ r.rest.length - r'.rest.length = sl.rest.length - sl'.rest.length) ∨
    (∃ e e' r' sl', de ext cfg S fuel node depth favor h r = (.error e, r') ∧
        de ext cfg S fuel node depth favor h sl = (.error e', sl')) :=
  (C11_de ext cfg S fuel node depth favor h r sl hsim hlim halloc).cases hsim

theorem C11_deAny (fuel : Nat) (node : Node) (depth : Nat) (h : Hint)
    (r sl : RState) (hsim : Sim r sl) (hlim : r.limit = none)
    (halloc : r.rest.length ≤ r.maxAlloc) :
    OutEq (fun a b => unborrow a = unborrow b)
      (deAny ext cfg S fuel node depth h r) (deAny ext cfg S fuel node depth h sl) :=
  ((deRel_all ext cfg S fuel).any node depth h trivial).outEq hsim hlim halloc

theorem C11_deIgnored (fuel : Nat) (node : Node) (depth : Nat)
    (r sl : RState) (hsim : Sim r sl) (hlim : r.limit = none)
    (halloc : r.rest.length ≤ r.maxAlloc) :
    OutEq (fun a b => unborrow a = unborrow b)
      (deIgnored ext cfg S fuel node depth r) (deIgnored ext cfg S fuel node depth sl) :=
  ((deRel_all ext cfg S fuel).ign node depth trivial).outEq hsim hlim halloc

theorem C11_readLen (r sl : RState) (hsim : Sim r sl) (hlim : r.limit = none)
    (halloc : r.rest.length ≤ r.maxAlloc) : OutEq (· = ·) (readLen r) (readLen sl) :=
  readLen_rel.outEq hsim hlim halloc

theorem C11_readString (r sl : RState) (hsim : Sim r sl) (hlim : r.limit = none)
    (halloc : r.rest.length ≤ r.maxAlloc) : OutEq Ro (readString r) (readString sl) :=
  (relD_logic.string 0).outEq hsim hlim halloc

theorem C11_readBytes (r sl : RState) (hsim : Sim r sl) (hlim : r.limit = none)
    (halloc : r.rest.length ≤ r.maxAlloc) : OutEq Ro (readBytes r) (readBytes sl) :=
  (relD_logic.bytes 0).outEq hsim hlim halloc

theorem C11_readBool (r sl : RState) (hsim : Sim r sl) (hlim : r.limit = none)
    (halloc : r.rest.length ≤ r.maxAlloc) : OutEq (· = ·) (readBool r) (readBool sl) :=
  readBool_rel.outEq hsim hlim halloc

theorem C11_readBlockLen (ignored : Bool) (fuel : Nat) (r sl : RState) (hsim : Sim r sl)
    (hlim : r.limit = none) (halloc : r.rest.length ≤ r.maxAlloc) :
    OutEq (· = ·) (readBlockLen ignored fuel r) (readBlockLen ignored fuel sl) :=
  (readBlockLen_rel ignored fuel).outEq hsim hlim halloc

theorem C11_hasMore (ignored : Bool) (bs : BlockState) (r sl : RState) (hsim : Sim r sl)
    (hlim : r.limit = none) (halloc : r.rest.length ≤ r.maxAlloc) :
    OutEq (· = ·) (hasMore cfg ignored bs r) (hasMore cfg ignored bs sl) :=
  (relD_logic.more cfg ignored bs fun _ => trivial).outEq hsim hlim halloc

theorem C11_readDecimal (mode : DecMode) (hint : DecHint) (r sl : RState) (hsim : Sim r sl)
    (hlim : r.limit = none) (halloc : r.rest.length ≤ r.maxAlloc) :
    OutEq Ro (readDecimal ext mode hint r) (readDecimal ext mode hint sl) :=
  (readDecimal_rel ext mode hint).outEq hsim hlim halloc

/-- `VarIntReader::read_varint` on a `Take` (inside a big-decimal): any limit. -/
theorem C11_varintProcessor (t : VarTy) (fuel : Nat) (buf : Bytes) (r sl : RState)
    (hsim : Sim r sl) (halloc : r.rest.length ≤ r.maxAlloc) :
    OutEq (· = ·) (varintProcessor t fuel buf r) (varintProcessor t fuel buf sl) :=
  (varintProcessor_rel false t fuel buf r sl ⟨hsim, halloc, fun h => by cases h⟩).toOutEq

end Avro.Theorems
