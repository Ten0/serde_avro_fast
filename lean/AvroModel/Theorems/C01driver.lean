import AvroModel.Lemmas.SerRepr
import Driver.Parse
/-
The external-parameter table the test driver really runs (`Driver.ExtTable.toExt`,
Driver/Parse.lean) satisfies `ExtOK` — the hypothesis about `rust_decimal` of
`C01_ser_canonical(_strict/_checks)`, `C01_roundtrip_impl(_bounded)`, `C02_sound_strong`,
`C02_sound_partial`, `C02_unrepresentable_err` — so those theorems can be instantiated with the
driver's own `ext`.  It does so for every table that passes the decidable range check
`ExtTable.ok` (every decimal a `dparse` / `df64` entry answers has a mantissa in `i128` and a scale
`< 2^63`; every `rescale` entry answers a mantissa in `i128`), and the driver's table parser refuses
(`bad-case`) a table that does not pass it.

(An unconditional `ExtOK.rescale` — `∀ d scale, inI128 (decRescale d scale).1` — is satisfied by no
table, because `toExt` answers `d` itself outside its finite domain:
`NonVacuityA.toExt_not_ExtOK_unconditional`.)
-/
namespace Avro.Theorems
open Avro Avro.Impl Driver

theorem lookup_mem' {α β} [BEq α] [LawfulBEq α] {l : List (α × β)} {a : α} {b : β}
    (h : l.lookup a = some b) : (a, b) ∈ l := by
  obtain ⟨l₁, l₂, rfl, _⟩ := List.lookup_eq_some_iff.1 h
  simp

theorem lookup_join_mem {α β} [BEq α] [LawfulBEq α] {l : List (α × Option β)} {a : α} {b : β}
    (h : (l.lookup a).join = some b) : (a, some b) ∈ l :=
  lookup_mem' (Option.join_eq_some_iff.1 h)

/-- **The driver's parameter table satisfies `ExtOK`**, for every table that passes the range
    check. -/
theorem toExt_ExtOK (t : ExtTable) (h : t.ok = true) : ExtOK t.toExt := by
  simp only [ExtTable.ok, Bool.and_eq_true, List.all_eq_true] at h
  obtain ⟨⟨hp, hf⟩, hr⟩ := h
  refine ⟨fun d scale hd => ?_, fun b d hb => ?_, fun s d hs => ?_⟩
  · simp only [ExtTable.toExt]
    split
    · next r hl => exact hr _ (lookup_mem' hl)
    · exact hd
  · have := hf _ (lookup_join_mem (show (t.df64.lookup b.toNat).join = some d from hb))
    simpa using this
  · have := hp _ (lookup_join_mem (show (t.dparse.lookup s).join = some d from hs))
    simpa using this

/-- the empty table (what most streams ship) -/
theorem toExt_ExtOK_empty : ExtOK ({} : ExtTable).toExt := toExt_ExtOK {} rfl

/-- What the check leaves out cannot be dropped: on a table without shadowed entries (distinct
    keys, as the harness records them) `ExtOK` of the driver's `Ext` IS the range check. -/
theorem toExt_ExtOK_iff (t : ExtTable)
    (hd1 : (t.dparse.map (·.1)).Nodup) (hd2 : (t.df64.map (·.1)).Nodup)
    (hd3 : (t.rescale.map (·.1)).Nodup)
    (hkey : ∀ p ∈ t.df64, p.1 < 2 ^ 64)
    (hdom : ∀ p ∈ t.rescale, inI128 p.1.1 = true) :
    ExtOK t.toExt ↔ t.ok = true := by
  refine ⟨fun h => ?_, toExt_ExtOK t⟩
  have look : ∀ {α β : Type} [BEq α] [LawfulBEq α] (l : List (α × β)), (l.map (·.1)).Nodup →
      ∀ p ∈ l, l.lookup p.1 = some p.2 := by
    intro α β _ _ l
    induction l with
    | nil => intro _ p hp; cases hp
    | cons q r ih =>
      intro hnd p hp
      simp only [List.map_cons, List.nodup_cons] at hnd
      rw [List.lookup_cons]
      rcases List.mem_cons.1 hp with rfl | hp
      · simp
      · have hne : (p.1 == q.1) = false := by
          simp only [beq_eq_false_iff_ne, ne_eq]
          intro e
          exact hnd.1 (e ▸ List.mem_map_of_mem hp)
        simp only [hne]
        exact ih hnd.2 p hp
  simp only [ExtTable.ok, Bool.and_eq_true, List.all_eq_true]
  refine ⟨⟨fun p hp => ?_, fun p hp => ?_⟩, fun p hp => ?_⟩
  · obtain ⟨s, o⟩ := p
    cases o with
    | none => rfl
    | some d =>
      have := h.parse s d (by simp [ExtTable.toExt, look _ hd1 _ hp])
      simpa using this
  · obtain ⟨b, o⟩ := p
    cases o with
    | none => rfl
    | some d =>
      have hb : b < 2 ^ 64 := hkey _ hp
      have := h.fromF64 (BitVec.ofNat 64 b) d
        (by simp [ExtTable.toExt, BitVec.toNat_ofNat, Nat.mod_eq_of_lt hb, look _ hd2 _ hp])
      simpa using this
  · obtain ⟨⟨m, s, tg⟩, r⟩ := p
    have := h.rescale (m, s) tg (hdom _ hp)
    simpa [ExtTable.toExt, look _ hd3 _ hp] using this

/-- The driver's table parser only returns checked tables … -/
theorem pExtEntries_ok (t0 t : ExtTable) (inp rest : List String)
    (h : pExtEntries t0 inp = .ok (t, rest)) : t.ok = true := by
  unfold pExtEntries at h
  simp only [bind, StateT.bind] at h
  cases hr : pExtEntriesRaw t0 inp with
  | error e => rw [hr] at h; cases h
  | ok p =>
    obtain ⟨r, inp'⟩ := p
    rw [hr] at h
    simp only [Except.bind] at h
    by_cases hk : r.ok = true
    · simp only [hk, if_true] at h
      cases h
      exact hk
    · simp only [hk] at h
      cases h

/-- … so the `Ext` the driver passes to `ser` (`(← pExtEntries {}).toExt` in `runSer`,
    `runJudgeSer`, `runRt`, `runJudgeRt`, `runReuse`, `runPerm`, `runSingle`, `runOcfw`) satisfies
    the hypothesis `ExtOK` of the C01 / C02 theorems, whatever the case line. -/
theorem pExtEntries_ExtOK (t0 t : ExtTable) (inp rest : List String)
    (h : pExtEntries t0 inp = .ok (t, rest)) : ExtOK t.toExt :=
  toExt_ExtOK t (pExtEntries_ok t0 t inp rest h)

end Avro.Theorems
