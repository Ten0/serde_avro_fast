import AvroModel.Lemmas.DriverFuel
import AvroModel.Impl.Single
import AvroModel.Theorems.C19
import AvroModel.Theorems.C07valid
import AvroModel.Theorems.C08spec
import AvroModel.Theorems.C09global
import AvroModel.Theorems.C09globalC08
/-
The registered theorems about the fuelled graph traversals (`canonicalForm`, `renderJson`,
`freeze`, `schemaFingerprint`) AT THE FUEL THE TEST DRIVER USES, `Avro.Impl.graphFuel S`
(`Lemmas/DriverFuel.lean`; `Driver/Main.lean` uses that very definition).

Why this file exists.  The conclusions of the C07, C08 and C09 theorems about a parsed graph have
the form `∀ fuel, n + 2 ≤ fuel → canonicalForm S fuel = .ok text` where `n` is the node-count
parameter of `parseJson j n` (the driver passes `4 * jsonSize j + 8`).  That range need not
contain `graphFuel S` (`NonVacuityE2.gEnum`, `NonVacuityD.padded_*`), so those theorems do not
literally speak about the value the driver computes.  Above `pcfBound S` the fuel of
`canonicalForm` is irrelevant (`C19_pcf_stable`), and `pcfBound S ≤ graphFuel S`
(`pcfBound_le_graphFuel`); hence every such conclusion transfers to `graphFuel S`
(`canonicalForm_at_graphFuel_of_large`).  Each corollary below has the hypotheses of the original
and the conclusion at `graphFuel`; a hypothesis `renderJson S fuel = .ok j` is taken at
`fuel := graphFuel S`.
-/
namespace Avro.Theorems
open Avro Avro.Impl Avro.Spec Avro.Spec.Pcf Avro.PcfSpec Avro.ValidParses

/-! ### the driver's fuel dominates the bounds of C19 -/

theorem bounds_le_graphFuel (S : SchemaMut) :
    max (pcfBound S) (renderBound S) ≤ graphFuel S := by
  unfold pcfBound renderBound graphFuel
  rw [Nat.max_self]
  have h1 : S.size * (S.size + 1) ≤ (S.size + 2) * (S.size + 2) :=
    Nat.mul_le_mul (by omega) (by omega)
  have h2 := Nat.mul_le_mul h1 (show maxWidth S + 1 ≤ maxWidth S + 2 by omega)
  omega

theorem pcfBound_le_graphFuel (S : SchemaMut) : pcfBound S ≤ graphFuel S :=
  Nat.le_trans (Nat.le_max_left _ _) (bounds_le_graphFuel S)

theorem renderBound_le_graphFuel (S : SchemaMut) : renderBound S ≤ graphFuel S :=
  Nat.le_trans (Nat.le_max_right _ _) (bounds_le_graphFuel S)

/-! ### no `panic` (out of fuel) at the driver's fuel, for every graph -/

theorem C19_pcf_total_at_graphFuel (S : SchemaMut) :
    canonicalForm S (graphFuel S) ≠ .error .panic :=
  C19_pcf_total S _ (pcfBound_le_graphFuel S)

theorem C19_render_total_at_graphFuel (S : SchemaMut) :
    renderJson S (graphFuel S) ≠ .error .panic :=
  C19_render_total S _ (renderBound_le_graphFuel S)

theorem C19_freeze_total_at_graphFuel (S : SchemaMut) (kept : Bool) :
    freeze S kept (graphFuel S) ≠ .error .panic :=
  C19_freeze_total S kept _ (bounds_le_graphFuel S)

theorem C19_fingerprint_total_at_graphFuel (S : SchemaMut) :
    schemaFingerprint S (graphFuel S) ≠ .error .panic := by
  unfold schemaFingerprint
  have h := C19_pcf_total_at_graphFuel S
  cases hc : canonicalForm S (graphFuel S) with
  | ok t => intro h'; cases h'
  | error e => rw [hc] at h; intro h'; cases h'; exact h rfl

/-- The results at the driver's fuel are the results at the bounds of C19. -/
theorem C19_pcf_stable_at_graphFuel (S : SchemaMut) :
    canonicalForm S (graphFuel S) = canonicalForm S (pcfBound S) :=
  C19_pcf_stable S _ (pcfBound_le_graphFuel S)

theorem C19_render_stable_at_graphFuel (S : SchemaMut) :
    renderJson S (graphFuel S) = renderJson S (renderBound S) :=
  C19_render_stable S _ (renderBound_le_graphFuel S)

/-! ### the bridge -/

/-- A value of `canonicalForm` established for all large fuels (`N ≤ fuel`, any `N`) is its value
    at the driver's fuel. -/
theorem canonicalForm_at_graphFuel_of_large (S : SchemaMut) (N : Nat) (r : Except SchemaErr String)
    (h : ∀ fuel, N ≤ fuel → canonicalForm S fuel = r) :
    canonicalForm S (graphFuel S) = r := by
  have hb := pcfBound_le_graphFuel S
  have h1 := h (max N (graphFuel S)) (Nat.le_max_left _ _)
  rw [C19_pcf_stable S _ (Nat.le_trans hb (Nat.le_max_right _ _))] at h1
  rw [C19_pcf_stable S _ hb]
  exact h1

/-- and conversely: the value at the driver's fuel is the value at every fuel `≥ pcfBound S`. -/
theorem canonicalForm_of_at_graphFuel (S : SchemaMut) (r : Except SchemaErr String)
    (h : canonicalForm S (graphFuel S) = r) (fuel : Nat) (hf : pcfBound S ≤ fuel) :
    canonicalForm S fuel = r := by
  rw [C19_pcf_stable S _ hf, ← C19_pcf_stable_at_graphFuel S]; exact h

/-! ### C07 / C08 at the driver's fuel -/

theorem C07_valid_parses_and_resolves_at_graphFuel (j : Json) (n : Nat) (hv : ValidDoc j = true)
    (hd : jsonNesting j ≤ 127) (hn : schemaSize j ≤ n) (hc : NoUnconditionalCycle j) :
    ∃ S text, parseJson j n = .ok S ∧ parsingCanonicalForm j = some text ∧
      canonicalForm S (graphFuel S) = .ok text := by
  obtain ⟨S, text, h1, h2, h3⟩ := C07_valid_parses_and_resolves j n hv hd hn hc
  exact ⟨S, text, h1, h2, canonicalForm_at_graphFuel_of_large S (n + 2) _ h3⟩

theorem C07_valid_parses_checked_at_graphFuel (j : Json) (n : Nat) (hv : ValidDoc j = true)
    (hd : jsonNesting j ≤ 127) (hn : schemaSize j ≤ n) (hc : noUnconditionalCycleB j = true) :
    ∃ S text, parseJson j n = .ok S ∧ parsingCanonicalForm j = some text ∧
      canonicalForm S (graphFuel S) = .ok text := by
  obtain ⟨S, text, h1, h2, h3⟩ := C07_valid_parses_checked j n hv hd hn hc
  exact ⟨S, text, h1, h2, canonicalForm_at_graphFuel_of_large S (n + 2) _ h3⟩

theorem C08_pcf_is_spec_at_graphFuel (j : Json) (n : Nat) (S : SchemaMut)
    (hparse : parseJson j n = .ok S) (hnf : noForwardRefs j = true) :
    ∃ c, canon none j = some c ∧ canonicalForm S (graphFuel S) = .ok (print c) := by
  obtain ⟨c, h1, h2⟩ := C08_pcf_is_spec j n S hparse hnf
  exact ⟨c, h1, canonicalForm_at_graphFuel_of_large S (n + 2) _ h2⟩

theorem C08_pcf_is_spec_text_at_graphFuel (j : Json) (n : Nat) (S : SchemaMut)
    (hparse : parseJson j n = .ok S) (hnf : noForwardRefs j = true) :
    ∃ text, parsingCanonicalForm j = some text ∧ canonicalForm S (graphFuel S) = .ok text := by
  obtain ⟨text, h1, h2⟩ := C08_pcf_is_spec_text j n S hparse hnf
  exact ⟨text, h1, canonicalForm_at_graphFuel_of_large S (n + 2) _ h2⟩

/-- the fingerprint the driver computes is the fingerprint of the specification's text -/
theorem C08_fingerprint_is_spec_at_graphFuel (j : Json) (n : Nat) (S : SchemaMut)
    (hparse : parseJson j n = .ok S) (hnf : noForwardRefs j = true) :
    ∃ text, parsingCanonicalForm j = some text ∧
      schemaFingerprint S (graphFuel S) = .ok (rabinFingerprint text.toUTF8.data.toList) := by
  obtain ⟨text, h1, h2⟩ := C08_pcf_is_spec_text_at_graphFuel j n S hparse hnf
  exact ⟨text, h1, by simp only [schemaFingerprint, h2]⟩

/-! ### C09 at the driver's fuel -/

theorem C09_render_has_graph_pcf_at_graphFuel (S : SchemaMut) (j : Json)
    (hwf : ∀ (i : Nat) (node : RawNode) (nm : Name),
      S[i]? = some node → RenderPcf.nameOf node.type = some nm → nm.WF)
    (hrender : renderJson S (graphFuel S) = .ok j) :
    noForwardRefs j = true ∧
    ∃ text, parsingCanonicalForm j = some text ∧ canonicalForm S (graphFuel S) = .ok text := by
  obtain ⟨h0, text, h1, h2⟩ := C09_render_has_graph_pcf S (graphFuel S) j hwf hrender
  exact ⟨h0, text, h1, h2 _ (Nat.le_refl _)⟩

theorem C09_render_has_graph_pcf_dec_at_graphFuel (S : SchemaMut) (j : Json)
    (hwf : RenderPcf.namesWFb S = true) (hrender : renderJson S (graphFuel S) = .ok j) :
    noForwardRefs j = true ∧
    ∃ text, parsingCanonicalForm j = some text ∧ canonicalForm S (graphFuel S) = .ok text := by
  obtain ⟨h0, text, h1, h2⟩ := C09_render_has_graph_pcf_dec S (graphFuel S) j hwf hrender
  exact ⟨h0, text, h1, h2 _ (Nat.le_refl _)⟩

theorem C09_reparsed_has_same_pcf_at_graphFuel (S : SchemaMut) (j : Json) (n : Nat)
    (S' : SchemaMut)
    (hwf : ∀ (i : Nat) (node : RawNode) (nm : Name),
      S[i]? = some node → RenderPcf.nameOf node.type = some nm → RenderPcf.NameWF nm)
    (hrender : renderJson S (graphFuel S) = .ok j) (hparse : parseJson j n = .ok S') :
    ∃ text, parsingCanonicalForm j = some text ∧
      canonicalForm S (graphFuel S) = .ok text ∧
      canonicalForm S' (graphFuel S') = .ok text := by
  obtain ⟨text, h1, h2, h3⟩ := C09_reparsed_has_same_pcf S (graphFuel S) j n S' hwf hrender hparse
  exact ⟨text, h1, h2 _ (Nat.le_refl _),
    canonicalForm_at_graphFuel_of_large S' (n + 2) _ h3⟩

/-- What the driver's `graph` / `reparse` commands compare: both sides at the driver's fuels. -/
theorem C09_reparsed_canonicalForm_eq_at_graphFuel (S : SchemaMut) (j : Json) (n : Nat)
    (S' : SchemaMut) (hwf : RenderPcf.namesWFb S = true)
    (hrender : renderJson S (graphFuel S) = .ok j) (hparse : parseJson j n = .ok S') :
    canonicalForm S' (graphFuel S') = canonicalForm S (graphFuel S) := by
  obtain ⟨text, -, h2, h3⟩ :=
    C09_reparsed_has_same_pcf_at_graphFuel S j n S' ((RenderPcf.namesWFb_iff S).mp hwf) hrender
      hparse
  rw [h2, h3]

/-- … hence the same fingerprint. -/
theorem C09_reparsed_fingerprint_eq_at_graphFuel (S : SchemaMut) (j : Json) (n : Nat)
    (S' : SchemaMut) (hwf : RenderPcf.namesWFb S = true)
    (hrender : renderJson S (graphFuel S) = .ok j) (hparse : parseJson j n = .ok S') :
    schemaFingerprint S' (graphFuel S') = schemaFingerprint S (graphFuel S) := by
  unfold schemaFingerprint
  rw [C09_reparsed_canonicalForm_eq_at_graphFuel S j n S' hwf hrender hparse]

end Avro.Theorems
