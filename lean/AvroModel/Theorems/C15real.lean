import AvroModel.Theorems.C15
import AvroModel.Theorems.C14
/-
C15, the failed value, tied to the real serializer model.

In the writer model (`Impl/Ocf.lean`) a `serialize` call is `WOp.value d?`: `some d`, the value
serialized to the bytes `d`, or `none`, the value did not fit the schema and "the buffer is truncated
back"; `C15_failed_value_invisible` is about that abstraction.  The real serializer (`Impl.ser`) does
NOT fail atomically: it returns its state also on error, with the bytes written before the error in
`out`.  What makes the abstraction right is `WriterInner::serialize` (writer/mod.rs:535-551):

    let buf_len_before_attempt = self.serializer_state.writer().len();
    value.serialize(self.serializer_state.serializer()).map_err(|e| {
        self.serializer_state.writer_mut().truncate(buf_len_before_attempt);
        e })?;

modelled here on the real serializer (`innerSerializeReal`: `ser` runs ON THE BLOCK BUFFER, the very
`Vec` that holds the values of the current block; truncate on error).  The truncation gives back the
buffer as it was because `ser` only ever appends to its writer (`C15_ser_appends`, from the relational
logic of C14); hence the real call ends in exactly the state of the model call
(`C15_serializeReal_refines`).

Hypothesis `NoPanic … sv` (resp. `e ≠ .panic`): a panic is not a returned error, the `map_err` closure
does not run, nothing is truncated, and the statement is false (`C15_panic_not_truncated`).  By C14 the
model's serializer never panics when the schema's keys are in bounds (`noPanic_of_keysInBounds`), which
freezing guarantees.
Hypothesis `PoolClean pool`: the buffer pool of the `SerializerConfig` holds only empty buffers; an
invariant of the real call (`C15_serializeReal_pool_clean`), true of a fresh configuration, and the
hypothesis of the C14 simulation; on a dirty pool the Rust code `assert!`s when it pops a non-empty
buffer.
-/
namespace Avro.Theorems
open Avro Avro.Impl Avro.Impl.Ocf

/-- `SerError` of the datum serializer, seen as an error of the writer. -/
def ofSerErr : SerErr → WErr
  | .custom => .custom
  | .io => .io
  | .panic => .panic

section Real
variable (ext : Ext) (allowSlow : Bool) (S : Schema) (node : Node)

/-- `WriterInner::serialize` up to `n_elements_in_block += 1`, on the real serializer: `ser` runs
    on the block buffer `buf` (a `Vec`: no budget); when it RETURNS an error the buffer is truncated
    to `buf_len_before_attempt`.  When it panics (`.panic` marks the `panic!/assert!/unwrap` sites
    of the serializer) the closure given to `map_err` does not run: the stack unwinds with the
    buffer as the serializer left it.  Returns the result, the buffer and the pool. -/
def innerSerializeReal (sv : SV) (buf : Bytes) (pool : Pool) : Except SerErr Unit × Bytes × Pool :=
  let bufLenBeforeAttempt := buf.length
  match ser ext allowSlow S node sv { out := buf, budget := none, pool := pool } with
  | (.ok _, s') => (.ok (), s'.out, s'.pool)
  | (.error .panic, s') => (.error .panic, s'.out, s'.pool)
  | (.error e, s') => (.error e, s'.out.take bufLenBeforeAttempt, s'.pool)

/-- The serializer does not panic on `sv` (on an empty writer, fresh pool). -/
def NoPanic (sv : SV) : Prop :=
  (ser ext allowSlow S node sv { out := [], budget := none, pool := {} }).1 ≠ .error .panic

/-- … which is the case as soon as the schema's keys are in bounds and `node` is a node of such a
    schema (C14): the only `.panic` the model can produce is a key out of bounds. -/
theorem noPanic_of_keysInBounds (sv : SV) (hk : S.keysInBounds = true) (hn : NodeOK S node) :
    NoPanic ext allowSlow S node sv := by
  rcases C14_no_assert_panic_partial ext allowSlow S node sv
    { out := [], budget := none, pool := {} } PoolClean.empty hn with h | h
  · exact h
  · exact absurd hk h

/-- `Writer::serialize` on the real serializer (writer/mod.rs:346-354 and 535-551): the common
    prefix, the attempt, then count, close the block if large enough, flush. -/
def serializeReal (c : Codec) (w : WState) (pool : Pool) (sv : SV) :
    Except WErr Unit × WState × Pool :=
  match preFlush c w with
  | (.error e, w₁) => (.error e, w₁, pool)
  | (.ok _, w₁) =>
    match innerSerializeReal ext allowSlow S node sv w₁.buf pool with
    | (.error e, buf', pool') => (.error (ofSerErr e), { w₁ with buf := buf' }, pool')
    | (.ok _, buf', pool') =>
      match postAdd c { w₁ with buf := buf', n := w₁.n + 1 } with
      | (r, w₂) => (r, w₂, pool')

theorem innerSerializeReal_fst (sv : SV) (buf : Bytes) (pool : Pool) :
    (innerSerializeReal ext allowSlow S node sv buf pool).1 =
      (ser ext allowSlow S node sv { out := buf, budget := none, pool := pool }).1 := by
  unfold innerSerializeReal
  cases ser ext allowSlow S node sv { out := buf, budget := none, pool := pool } with
  | mk r s' =>
    cases r with
    | ok u => rfl
    | error e => cases e <;> rfl

theorem innerSerializeReal_pool (sv : SV) (buf : Bytes) (pool : Pool) :
    (innerSerializeReal ext allowSlow S node sv buf pool).2.2 =
      (ser ext allowSlow S node sv { out := buf, budget := none, pool := pool }).2.pool := by
  unfold innerSerializeReal
  cases ser ext allowSlow S node sv { out := buf, budget := none, pool := pool } with
  | mk r s' =>
    cases r with
    | ok u => rfl
    | error e => cases e <;> rfl

/-- What the model's `WOp.value` stands for: the bytes the real serializer writes for `sv` on an
    empty writer, or `none` if it fails. -/
def datumOf (sv : SV) : Option Bytes :=
  match ser ext allowSlow S node sv { out := [], budget := none, pool := {} } with
  | (.ok _, s) => some s.out
  | (.error _, _) => none

/-- **The real serializer only appends**, whatever the outcome: run on a writer that already holds
    `buf` (and with any clean pool), it returns the result it returns on an empty writer, and
    leaves `buf` followed by what it writes on an empty writer — on success AND on error. -/
theorem C15_ser_appends (sv : SV) (buf : Bytes) (pool : Pool) (hp : PoolClean pool) :
    (ser ext allowSlow S node sv { out := buf, budget := none, pool := pool }).1 =
      (ser ext allowSlow S node sv { out := [], budget := none, pool := {} }).1 ∧
    (ser ext allowSlow S node sv { out := buf, budget := none, pool := pool }).2.out =
      buf ++ (ser ext allowSlow S node sv { out := [], budget := none, pool := {} }).2.out := by
  have := C14_pool_prefix_irrelevant ext allowSlow S node sv buf [] none pool {} hp PoolClean.empty
  simp only [List.append_nil] at this
  exact ⟨this.1, this.2.1⟩

/-- **A failed value is truncated away, on the real serializer.**  For every presentation `sv`:
    if `ser`, run on the block buffer `buf`, fails with any error `e` in any state `s'` — with
    whatever it wrote before failing in `s'.out` —, then `buf` is a prefix of `s'.out`,
    `truncate(buf_len_before_attempt)` gives back exactly `buf`, and (the error being returned, not
    a panic) that is the buffer `WriterInner::serialize` leaves. -/
theorem C15_failed_value_truncates_real (sv : SV) (buf : Bytes) (pool : Pool)
    (hp : PoolClean pool) (e : SerErr) (s' : SerState)
    (h : ser ext allowSlow S node sv { out := buf, budget := none, pool := pool } = (.error e, s')) :
    buf <+: s'.out ∧ s'.out.take buf.length = buf ∧
      (e ≠ .panic → innerSerializeReal ext allowSlow S node sv buf pool = (.error e, buf, s'.pool)) := by
  have h2 := (C15_ser_appends ext allowSlow S node sv buf pool hp).2
  rw [h] at h2
  simp only at h2
  have ht : s'.out.take buf.length = buf := by rw [h2]; exact List.take_left' rfl
  refine ⟨⟨_, h2.symm⟩, ht, ?_⟩
  intro hne
  cases e with
  | panic => exact absurd rfl hne
  | custom => simp only [innerSerializeReal, h, ht]
  | io => simp only [innerSerializeReal, h, ht]

/-- The attempt, in both cases, in terms of `datumOf`: the buffer is extended by the datum, or
    is exactly what it was. -/
theorem C15_innerSerializeReal_eq (sv : SV) (buf : Bytes) (pool : Pool) (hp : PoolClean pool)
    (hnp : NoPanic ext allowSlow S node sv) :
    (innerSerializeReal ext allowSlow S node sv buf pool).2.1 =
      (match datumOf ext allowSlow S node sv with
       | some d => buf ++ d
       | none => buf) ∧
    ((innerSerializeReal ext allowSlow S node sv buf pool).1 = .ok () ↔
      (datumOf ext allowSlow S node sv).isSome) := by
  obtain ⟨h1, h2⟩ := C15_ser_appends ext allowSlow S node sv buf pool hp
  unfold NoPanic at hnp
  unfold innerSerializeReal datumOf
  cases hr : ser ext allowSlow S node sv { out := buf, budget := none, pool := pool } with
  | mk r s' =>
    cases hr0 : ser ext allowSlow S node sv { out := [], budget := none, pool := {} } with
    | mk r0 s0 =>
      rw [hr, hr0] at h1 h2
      rw [hr0] at hnp
      simp only at h1 h2 hnp
      subst h1
      cases r with
      | ok u => exact ⟨h2, by simp⟩
      | error e =>
        have ht : List.take buf.length s'.out = buf := by rw [h2]; exact List.take_left' rfl
        cases e with
        | panic => exact absurd rfl hnp
        | custom => exact ⟨ht, by simp⟩
        | io => exact ⟨ht, by simp⟩

/-- **The writer model's `WOp.value` is the real call.**  For every presentation `sv`, every
    writer state (any sink) and every clean pool, `Writer::serialize` on the real serializer ends
    in exactly the state of the model's `wstep … (.value (datumOf … sv))`; it returns the same result
    when the value serializes, and when it does not: the error of the prefix if the prefix fails,
    the serializer's own error otherwise (the model says `custom`). -/
theorem C15_serializeReal_refines (c : Codec) (dbg : Bool) (w : WState) (pool : Pool)
    (hp : PoolClean pool) (sv : SV) (hnp : NoPanic ext allowSlow S node sv) :
    (serializeReal ext allowSlow S node c w pool sv).2.1 =
      (wstep c dbg w (.value (datumOf ext allowSlow S node sv))).2 ∧
    ((datumOf ext allowSlow S node sv).isSome →
      (serializeReal ext allowSlow S node c w pool sv).1 =
        (wstep c dbg w (.value (datumOf ext allowSlow S node sv))).1) ∧
    (datumOf ext allowSlow S node sv = none →
      ((serializeReal ext allowSlow S node c w pool sv).1 =
          (wstep c dbg w (.value none)).1 ∧ (preFlush c w).1 ≠ .ok ()) ∨
      (∃ e s', (preFlush c w).1 = .ok () ∧
        ser ext allowSlow S node sv { out := (preFlush c w).2.buf, budget := none, pool := pool }
          = (.error e, s') ∧
        (serializeReal ext allowSlow S node c w pool sv).1 = .error (ofSerErr e))) := by
  cases hpre : preFlush c w with
  | mk r w₁ =>
    cases r with
    | error e0 =>
      refine ⟨?_, ?_, ?_⟩
      · cases hd : datumOf ext allowSlow S node sv <;>
          simp [serializeReal, hpre, C15_failed_value_invisible, C15_value_prefix]
      · intro _
        cases hd : datumOf ext allowSlow S node sv <;>
          simp [serializeReal, hpre, C15_failed_value_invisible, C15_value_prefix]
      · intro _
        left
        simp [serializeReal, hpre, C15_failed_value_invisible]
    | ok u =>
      obtain ⟨hb, hok⟩ := C15_innerSerializeReal_eq ext allowSlow S node sv w₁.buf pool hp hnp
      cases hin : innerSerializeReal ext allowSlow S node sv w₁.buf pool with
      | mk ri rest =>
        obtain ⟨buf', pool'⟩ := rest
        rw [hin] at hb hok
        simp only at hb hok
        cases hd : datumOf ext allowSlow S node sv with
        | some d =>
          rw [hd] at hb hok
          simp only [Option.isSome_some, iff_true] at hok
          subst hok
          simp only at hb
          subst hb
          refine ⟨?_, ?_, ?_⟩
          · simp only [serializeReal, hpre, hin, C15_value_prefix]
          · intro _; simp only [serializeReal, hpre, hin, C15_value_prefix]
          · intro h; cases h
        | none =>
          rw [hd] at hb hok
          simp only at hb
          subst hb
          have hne : ri ≠ .ok () := by
            intro h; have := hok.1 h; simp at this
          cases ri with
          | ok u' => exact absurd rfl hne
          | error e =>
            refine ⟨?_, ?_, ?_⟩
            · simp only [serializeReal, hpre, hin, C15_failed_value_invisible]
            · intro h; simp at h
            · intro _
              right
              have hf := innerSerializeReal_fst ext allowSlow S node sv w₁.buf pool
              rw [hin] at hf
              simp only at hf
              exact ⟨e, (ser ext allowSlow S node sv
                  { out := w₁.buf, budget := none, pool := pool }).2, rfl,
                Prod.ext hf.symm rfl, by simp only [serializeReal, hpre, hin]⟩

/-- **A value the real serializer rejects leaves no trace** (`C15_failed_value_invisible`, on the
    real serializer): the call ends in the state the common prefix ends in — buffer, count, sink
    as if the value had never been presented —, however many bytes `ser` had written before it
    failed. -/
theorem C15_failed_value_invisible_real (c : Codec) (w : WState) (pool : Pool)
    (hp : PoolClean pool) (sv : SV) (hnp : NoPanic ext allowSlow S node sv)
    (h : datumOf ext allowSlow S node sv = none) :
    (serializeReal ext allowSlow S node c w pool sv).2.1 = (preFlush c w).2 ∧
      (serializeReal ext allowSlow S node c w pool sv).1 ≠ .ok () := by
  obtain ⟨h1, _, h3⟩ := C15_serializeReal_refines ext allowSlow S node c false w pool hp sv hnp
  rw [h] at h1
  have hst : (wstep c false w (.value none)).2 = (preFlush c w).2 := by
    rw [C15_failed_value_invisible]
    cases preFlush c w with
    | mk r w₁ => cases r <;> rfl
  refine ⟨by rw [h1, hst], ?_⟩
  rcases h3 h with ⟨h4, _⟩ | ⟨e, s', _, _, h4⟩
  · rw [h4, C15_failed_value_invisible]
    cases preFlush c w with
    | mk r w₁ => cases r <;> simp
  · rw [h4]; simp

/-- `C15_failed_value_no_count` on the real serializer: in a state satisfying the invariant
    (represented by `a`), a value the real serializer rejects — after having written any number of
    bytes — returns an error and adds no entry to the log (no bytes, no count); at most the
    current block is closed. -/
theorem C15_failed_value_no_count_real (c : Codec) (hdr sync : Bytes) (approx : Nat)
    (a : AState) (w : WState) (hrep : Rep c hdr sync approx a w) (pool : Pool)
    (hp : PoolClean pool) (sv : SV) (hnp : NoPanic ext allowSlow S node sv)
    (h : datumOf ext allowSlow S node sv = none) :
    (serializeReal ext allowSlow S node c w pool sv).1 ≠ .ok () ∧
      Rep c hdr sync approx (asealIf approx a) (serializeReal ext allowSlow S node c w pool sv).2.1 ∧
      (asealIf approx a).log = a.log := by
  obtain ⟨h1, _, _⟩ := C15_serializeReal_refines ext allowSlow S node c false w pool hp sv hnp
  obtain ⟨w', hw, hrep', hlog⟩ := C15_failed_value_no_count c false hdr sync approx a w hrep
  rw [h, hw] at h1
  refine ⟨(C15_failed_value_invisible_real ext allowSlow S node c w pool hp sv hnp h).2, ?_, hlog⟩
  rw [h1]
  exact hrep'

/-- The pool stays clean: the hypothesis of the theorems above is an invariant of the real call. -/
theorem C15_serializeReal_pool_clean (c : Codec) (w : WState) (pool : Pool) (hp : PoolClean pool)
    (sv : SV) : PoolClean (serializeReal ext allowSlow S node c w pool sv).2.2 := by
  unfold serializeReal
  cases preFlush c w with
  | mk r w₁ =>
    cases r with
    | error e => exact hp
    | ok u =>
      have hc := C14_pool_clean ext allowSlow S node sv
        { out := w₁.buf, budget := none, pool := pool } hp
      rw [← innerSerializeReal_pool] at hc
      cases hin : innerSerializeReal ext allowSlow S node sv w₁.buf pool with
      | mk ri rest =>
        obtain ⟨buf', pool'⟩ := rest
        rw [hin] at hc
        simp only [hin]
        cases ri with
        | ok u' => exact hc
        | error e => exact hc

end Real

/-! ### Concrete instance: a value that fails half-way -/

namespace C15RealEx

/-- decidable equality of call results, for the closed examples below (a scoped instance,
    active under `open C15RealEx`) -/
scoped instance decEqResult {ε : Type} [DecidableEq ε] : DecidableEq (Except ε Unit)
  | .ok _, .ok _ => isTrue rfl
  | .ok _, .error _ => isFalse (fun h => by cases h)
  | .error _, .ok _ => isFalse (fun h => by cases h)
  | .error a, .error b =>
    if h : a = b then isTrue (by rw [h]) else isFalse (fun h' => by cases h'; exact h rfl)

def extR0 : Ext :=
  { asF32 := fun _ => 0, decFromF64 := fun _ => none, decParse := fun _ => none,
    decRescale := fun d _ => d }
/-- schema `{"type": "array", "items": "long"}` -/
def S : Schema := #[.array 1, .long]
/-- a sequence of two elements, the second of which is a string -/
def bad : SV := .seq (some 2) [.int .i64 1, .str "x"]
def good : SV := .seq (some 2) [.int .i64 1, .int .i64 3]

/-- The real serializer, on a block buffer that holds `[9, 9]`, writes the block count `04` and
    the first element `02` BEFORE it fails on the string: it does not fail atomically. -/
theorem bad_fails_half_way :
    (ser extR0 false S (.array 1) bad { out := [9, 9], budget := none, pool := {} }).1
      = .error .custom ∧
    (ser extR0 false S (.array 1) bad { out := [9, 9], budget := none, pool := {} }).2.out
      = [9, 9, 4, 2] ∧
    (ser extR0 false S (.array 1) bad { out := [9, 9], budget := none, pool := {} }).2.pool = {} := by
  decide +kernel

theorem datumOf_bad : datumOf extR0 false S (.array 1) bad = none := by decide +kernel
theorem datumOf_good : datumOf extR0 false S (.array 1) good = some [4, 2, 6, 0] := by
  decide +kernel

end C15RealEx

open C15RealEx in
/-- Non-vacuity of `C15_failed_value_truncates_real`: its hypothesis holds with `s'.out` strictly
    longer than the buffer (`[9, 9, 4, 2]`), and the truncation gives back `[9, 9]`. -/
example :
    let s' := (ser extR0 false S (.array 1) bad { out := [9, 9], budget := none, pool := {} }).2
    s'.out = [9, 9, 4, 2] ∧ ([9, 9] : Bytes) <+: s'.out ∧ s'.out.take 2 = [9, 9] ∧
      innerSerializeReal extR0 false S (.array 1) bad [9, 9] {} = (.error .custom, [9, 9], s'.pool) :=
  have h := C15_failed_value_truncates_real extR0 false S (.array 1) bad [9, 9] {} PoolClean.empty
    .custom (ser extR0 false S (.array 1) bad { out := [9, 9], budget := none, pool := {} }).2
    (Prod.ext bad_fails_half_way.1 rfl)
  ⟨bad_fails_half_way.2.1, h.1, h.2.1, h.2.2 (by decide)⟩

open C15RealEx in
/-- Non-vacuity of `C15_serializeReal_refines` / `C15_failed_value_invisible_real`: a writer whose
    buffer holds `[9, 9]` (one value), block size 100; the bad value leaves it untouched, the
    good one is appended and counted. -/
example :
    let w : WState := { buf := [9, 9], n := 1, approx := 100 }
    let c : Codec := { name := "null", compress := id, isNull := true }
    let rb := serializeReal extR0 false S (.array 1) c w {} bad
    let rg := serializeReal extR0 false S (.array 1) c w {} good
    (rb.1 = .error .custom ∧ rb.2.1.buf = [9, 9] ∧ rb.2.1.n = 1 ∧ rb.2.1.sink.data = []) ∧
    (rg.1 = .ok () ∧ rg.2.1.buf = [9, 9, 4, 2, 6, 0] ∧ rg.2.1.n = 2 ∧ rg.2.1.sink.data = []) := by
  decide +kernel

/-! ### Why `NoPanic`: a panic is not truncated -/

namespace C15RealEx
/-- an array whose items are a union with a dangling branch key (`keysInBounds` is false) -/
def Sbad : Schema := #[.array 1, .union [5]]
def boom : SV := .seq (some 2) [.unitStruct "x"]
end C15RealEx

open C15RealEx in
/-- **`NoPanic` (resp. `e ≠ .panic`) is necessary.**  On a schema with a key out of bounds the
    serializer panics AFTER having written the block count `04` and the union discriminant `00`.
    The closure of `map_err` does not run during unwinding: the block buffer keeps the two bytes,
    the count is not incremented — and `Drop`, which runs `finish_block` also while panicking
    (mod.rs:502-513), writes them into the current block if it counts at least one value.  The
    model's `WOp.value none` (buffer untouched) does not describe that state. -/
theorem C15_panic_not_truncated :
    let w : WState := { buf := [9, 9], n := 1, approx := 100 }
    let c : Codec := { name := "null", compress := id, isNull := true }
    let r := serializeReal extR0 false Sbad (.array 1) c w {} boom
    datumOf extR0 false Sbad (.array 1) boom = none ∧
    r.1 = .error .panic ∧ r.2.1.buf = [9, 9, 4, 0] ∧ r.2.1.n = 1 ∧
    (wstep c false w (.value (datumOf extR0 false Sbad (.array 1) boom))).2.buf = [9, 9] ∧
    ¬ NoPanic extR0 false Sbad (.array 1) boom := by
  refine ⟨by decide +kernel, by decide +kernel, by decide +kernel, by decide +kernel,
    by decide +kernel, ?_⟩
  unfold NoPanic
  decide +kernel

end Avro.Theorems
