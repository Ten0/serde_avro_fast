import AvroModel.Lemmas.RenderValid
import AvroModel.Theorems.C07valid
import AvroModel.Theorems.C09globalC08
/-
C09, unconditional: **the JSON document rendered for a node graph is a valid schema document, the
crate's own parser accepts it, and the schema it parses to has the canonical form of the graph.**

`Theorems/C09globalC08.lean` has the last statement under the hypothesis "the rendered document
parses".  Here that hypothesis is discharged: the document satisfies `Spec.ValidDoc` — exactly
when `DistinctNames S ∧ NodesOk S`, so these two are the weakest possible —, hence parses
(`C07_valid_parses`) and round-trips; `…_dec`: the same with every hypothesis a decidable test on
the graph.

Hypotheses, all on the nodes REACHABLE from the root except the first (of which the proofs use
the reachable part, `RenderPcf.NamesWF.reach`), each with a concrete graph showing it cannot be
dropped (section "tightness"): `NamesWF S`; `DistinctNames S`; `NodesOk S`
(`scale` fits 32 bits, `precision` and the size of a `fixed` 64 bits — `u32` / `usize` in the
crate, `Nat` in the model — and no *unknown* logical type is called `decimal`); `hrender` (covers:
enough fuel, reachable keys in bounds, no union carrying a logical type, no cycle through unnamed
nodes); `jsonNesting j ≤ 127` (the recursion limit of `serde_json`); `NoRecCycle S`;
`schemaSize j ≤ n` (registration fuel of the parser MODEL, not of the crate).
-/
namespace Avro.Theorems
open Avro Avro.Impl Avro.Spec Avro.Spec.Pcf Avro.RenderValid

/-- **C09: the rendered document is a valid schema document.** -/
theorem C09_render_validDoc (S : SchemaMut) (fuel : Nat) (j : Json)
    (hwf : RenderPcf.NamesWF S) (hdist : DistinctNames S) (hok : NodesOk S)
    (hrender : renderJson S fuel = .ok j) : ValidDoc j = true :=
  render_validDoc S fuel j hwf.reach hdist hok hrender

/-- The names the rendered document defines are the fullnames of the named nodes reachable from
    the root — all of them, each node once, in document order — and every key reachable from the
    root is in bounds (otherwise the renderer fails: this is why `hrender` makes a hypothesis
    "keys in bounds" redundant).  Needs only well-formed names. -/
theorem C09_render_definedNames (S : SchemaMut) (fuel : Nat) (j : Json)
    (hwf : RenderPcf.NamesWF S) (hrender : renderJson S fuel = .ok j) :
    (∃ W : List Nat, definedNames j = W.map (fnOf S) ∧ W.Nodup ∧
      ∀ i, i ∈ W ↔ Reach S i ∧ IsNamed S i) ∧
    ∀ i, Reach S i → ∃ node, S[i]? = some node := by
  obtain ⟨h1, h2, -, -⟩ := render_doc_facts S fuel j (fun _ => 0) hwf.reach hrender
  exact ⟨h1, h2⟩

/-- **`DistinctNames` is the weakest hypothesis for its purpose**: the rendered document defines
    no fullname twice IF AND ONLY IF two reachable named nodes with the same fullname are the
    same node. -/
theorem C09_render_namesDistinct_iff (S : SchemaMut) (fuel : Nat) (j : Json)
    (hwf : RenderPcf.NamesWF S) (hrender : renderJson S fuel = .ok j) :
    namesDistinct j = true ↔ DistinctNames S :=
  render_namesDistinct_iff S fuel j hwf.reach hrender

/-- ... hence it is NECESSARY for the rendered document to parse, in general (not only on the
    example `C09_distinct_needed`). -/
theorem C09_distinct_necessary (S : SchemaMut) (fuel : Nat) (j : Json) (n : Nat) (S' : SchemaMut)
    (hwf : RenderPcf.NamesWF S) (hrender : renderJson S fuel = .ok j)
    (hparse : parseJson j n = .ok S') : DistinctNames S :=
  (C09_render_namesDistinct_iff S fuel j hwf hrender).mp (C07_parses_names_distinct j n S' hparse)

/-- **`NodesOk` is the weakest hypothesis for its purpose**: every schema object of the rendered
    document is what the parser's reader wants IF AND ONLY IF the reachable nodes are `NodesOk`. -/
theorem C09_render_wellTyped_iff (S : SchemaMut) (fuel : Nat) (j : Json)
    (hwf : RenderPcf.NamesWF S) (hrender : renderJson S fuel = .ok j) :
    wellTyped j = true ↔ NodesOk S :=
  (render_doc_facts S fuel j (fun _ => 0) hwf.reach hrender).2.2.1.symm

/-- **Exactly when the rendered document is valid** (names well formed, the renderer succeeds):
    iff distinct reachable named nodes have distinct fullnames and the reachable nodes are
    `NodesOk`. -/
theorem C09_render_validDoc_iff (S : SchemaMut) (fuel : Nat) (j : Json)
    (hwf : RenderPcf.NamesWF S) (hrender : renderJson S fuel = .ok j) :
    ValidDoc j = true ↔ DistinctNames S ∧ NodesOk S := by
  constructor
  · intro h
    obtain ⟨-, -, h3, h4⟩ := validDoc_parts h
    exact ⟨(C09_render_namesDistinct_iff S fuel j hwf hrender).mp h3,
      (C09_render_wellTyped_iff S fuel j hwf hrender).mp h4⟩
  · rintro ⟨h1, h2⟩
    exact C09_render_validDoc S fuel j hwf h1 h2 hrender

/-- **C09: no unconditional record cycle in the graph ⇒ none in the rendered document.**  (`hok` is
    not needed.) -/
theorem C09_render_noCycle (S : SchemaMut) (fuel : Nat) (j : Json)
    (hwf : RenderPcf.NamesWF S) (hdist : DistinctNames S) (hok : NodesOk S)
    (hc : NoRecCycle S) (hrender : renderJson S fuel = .ok j) : NoUnconditionalCycle j :=
  render_noUnconditionalCycle S fuel j hwf.reach hdist hc hrender

/-- **C09: the rendered document parses** — for every registration fuel `n ≥ schemaSize j`. -/
theorem C09_render_parses (S : SchemaMut) (fuel : Nat) (j : Json) (n : Nat)
    (hwf : RenderPcf.NamesWF S) (hdist : DistinctNames S) (hok : NodesOk S)
    (hrender : renderJson S fuel = .ok j) (hd : jsonNesting j ≤ 127) (hc : NoRecCycle S)
    (hn : schemaSize j ≤ n) : ∃ S', parseJson j n = .ok S' :=
  C07_valid_parses j n (C09_render_validDoc S fuel j hwf hdist hok hrender) hd hn
    (C09_render_noCycle S fuel j hwf hdist hok hc hrender)

/-- **C09, round trip**: the rendered document parses, and the parsed schema has the Parsing
    Canonical Form (hence the fingerprints) of the graph it was rendered from; this text is the
    specification's canonical form of the document. -/
theorem C09_render_roundtrip_pcf (S : SchemaMut) (fuel : Nat) (j : Json) (n : Nat)
    (hwf : RenderPcf.NamesWF S) (hdist : DistinctNames S) (hok : NodesOk S)
    (hrender : renderJson S fuel = .ok j) (hd : jsonNesting j ≤ 127) (hc : NoRecCycle S)
    (hn : schemaSize j ≤ n) :
    ∃ S' text, parseJson j n = .ok S' ∧ parsingCanonicalForm j = some text ∧
      (∀ fuel', fuel ≤ fuel' → canonicalForm S fuel' = .ok text) ∧
      (∀ fuel'', n + 2 ≤ fuel'' → canonicalForm S' fuel'' = .ok text) := by
  obtain ⟨S', hS'⟩ := C09_render_parses S fuel j n hwf hdist hok hrender hd hc hn
  obtain ⟨text, h1, h2, h3⟩ := C09_reparsed_has_same_pcf S fuel j n S' hwf hrender hS'
  exact ⟨S', text, hS', h1, h2, h3⟩

/-- In one equation. -/
theorem C09_render_roundtrip_canonicalForm_eq (S : SchemaMut) (fuel : Nat) (j : Json) (n : Nat)
    (hwf : RenderPcf.NamesWF S) (hdist : DistinctNames S) (hok : NodesOk S)
    (hrender : renderJson S fuel = .ok j) (hd : jsonNesting j ≤ 127) (hc : NoRecCycle S)
    (hn : schemaSize j ≤ n) :
    ∃ S', parseJson j n = .ok S' ∧
      ∀ fuel' fuel'', fuel ≤ fuel' → n + 2 ≤ fuel'' →
        canonicalForm S' fuel'' = canonicalForm S fuel' := by
  obtain ⟨S', text, h0, -, h2, h3⟩ :=
    C09_render_roundtrip_pcf S fuel j n hwf hdist hok hrender hd hc hn
  exact ⟨S', h0, fun fuel' fuel'' h' h'' => by rw [h2 fuel' h', h3 fuel'' h'']⟩

/-- **The crate's `check_for_cycles` passing on the graph gives the hypothesis.** -/
theorem noRecCycle_of_check (S : SchemaMut) (h : checkForCycles S = .ok ()) : NoRecCycle S := by
  obtain ⟨L, sL, allL⟩ := checkForCycles_ok_topo S h
  exact noRecCycle_of_rank S (topoRank L) fun i j e => topoRank_edge sL (allL i e.1) e

/-- ... and so does: no cycle of record → record field edges anywhere in the graph. -/
theorem noRecCycle_of_acyclic (S : SchemaMut)
    (h : ¬ ∃ i, Relation.TransGen (recEdge S) i i) : NoRecCycle S :=
  noRecCycle_of_check S ((C07_cycle_check_iff S).2.mpr h)

/-- Conversely the hypothesis is no more than: no cycle of record → record field edges through a
    node reachable from the root (it does not look at unreachable nodes, unlike
    `checkForCycles S`). -/
theorem noRecCycle_no_reachable_cycle (S : SchemaMut) (h : NoRecCycle S) (i : Nat)
    (hr : Reach S i) : ¬ Relation.TransGen (recEdge S) i i := by
  obtain ⟨r, hrk⟩ := h
  have step : ∀ a b, Reach S a → recEdge S a b → r b < r a := by
    intro a b ha e
    have e' := e
    obtain ⟨h1, h2, hk⟩ := e
    obtain ⟨nma, fsa, lga, hSa⟩ := ValidParses.isRecord_inv h1
    obtain ⟨nmb, fsb, lgb, hSb⟩ := ValidParses.isRecord_inv h2
    simp only [recordFieldKeys, hSa] at hk
    exact hrk a _ nma fsa b _ nmb fsb ha hSa rfl hk hSb rfl
  have key : ∀ b, Relation.TransGen (recEdge S) i b → Reach S b ∧ r b < r i := by
    intro b p
    induction p with
    | single e => exact ⟨reach_of_recEdge hr e, step _ _ hr e⟩
    | tail _ e ih => exact ⟨reach_of_recEdge ih.1 e, Nat.lt_trans (step _ _ ih.1 e) ih.2⟩
  intro p
  exact Nat.lt_irrefl _ (key i p).2

/-- **C09, round trip, checked**: names well formed (`namesWFb`), among the reachable nodes
    distinct fullnames and numbers / logical types the parser reads (`graphOkB`), the crate's
    cycle check passes on the graph, the renderer succeeds with a document within the recursion
    limit ⇒ the document is valid, parses, and the parsed schema has the canonical form of the
    graph. -/
theorem C09_render_roundtrip_dec (S : SchemaMut) (fuel : Nat) (j : Json) (n : Nat)
    (hwf : RenderPcf.namesWFb S = true) (hg : graphOkB S = true)
    (hrender : renderJson S fuel = .ok j) (hd : jsonNesting j ≤ 127)
    (hc : checkForCycles S = .ok ()) (hn : schemaSize j ≤ n) :
    ValidDoc j = true ∧
    ∃ S', parseJson j n = .ok S' ∧
      ∀ fuel' fuel'', fuel ≤ fuel' → n + 2 ≤ fuel'' →
        canonicalForm S' fuel'' = canonicalForm S fuel' := by
  obtain ⟨h1, h2, h3⟩ := hyp_of_b hwf hg
  exact ⟨C09_render_validDoc S fuel j h1 h2 h3 hrender,
    C09_render_roundtrip_canonicalForm_eq S fuel j n h1 h2 h3 hrender hd
      (noRecCycle_of_check S hc) hn⟩

/-! ### tightness: no hypothesis can be dropped -/

/-- what happens to the rendering of `S`: the four conjuncts of `ValidDoc`, the two size tests and
    the outcome of the parser (`verdict`, `Theorems/C07valid.lean`), and the decidable cycle test
    on the document; `none` if there is no rendered document -/
def renderVerdict (S : SchemaMut) (fuel n : Nat) : Option (Verdict × Bool) :=
  match renderJson S fuel with
  | .ok j => some (verdict j n, noUnconditionalCycleB j)
  | .error _ => none

def cyclesOkB (S : SchemaMut) : Bool :=
  match checkForCycles S with
  | .ok _ => true
  | .error _ => false

theorem cyclesOkB_iff (S : SchemaMut) : cyclesOkB S = true ↔ checkForCycles S = .ok () := by
  unfold cyclesOkB
  cases checkForCycles S <;> simp

def graphTests (S : SchemaMut) : Bool × Bool × Bool :=
  (RenderPcf.namesWFb S, graphOkB S, cyclesOkB S)

/-- `DistinctNames`: two enums both called `E`.  Everything else holds; the document defines `E`
    twice and is rejected. -/
def graphTwoE : SchemaMut := #[
  ⟨.record ⟨"R", "R", none⟩ [("a", 1), ("b", 2)], none⟩,
  ⟨.enum ⟨"E", "E", none⟩ ["A"], none⟩,
  ⟨.enum ⟨"E", "E", none⟩ ["B"], none⟩]

theorem C09_distinct_needed :
    graphTests graphTwoE = (true, false, true) ∧
    renderVerdict graphTwoE 12 100 =
      some (⟨true, true, false, true, true, true, some .custom⟩, true) := by
  refine ⟨by decide +kernel, by decide +kernel⟩

theorem graphTwoE_not_distinct : ¬ DistinctNames graphTwoE := by
  intro h
  have h1 : Reach graphTwoE 1 := .step (node := graphTwoE[0]) .root rfl (by decide)
  have h2 : Reach graphTwoE 2 := .step (node := graphTwoE[0]) .root rfl (by decide)
  have := h 1 2 _ _ _ _ h1 h2 rfl rfl rfl rfl rfl
  omega

/-- `NamesWF`: the second enum has the fullname `(m, F)` but its `fq` is `n.E` (not what a `Name`
    of the crate can hold); distinct fullnames, yet both are written `"name":"n.E"`. -/
def graphBadName : SchemaMut := #[
  ⟨.union [1, 2], none⟩,
  ⟨.enum ⟨"n.E", "E", some "n"⟩ ["A"], none⟩,
  ⟨.enum ⟨"n.E", "F", some "m"⟩ ["B"], none⟩]

theorem C09_wf_needed :
    graphTests graphBadName = (false, true, true) ∧
    renderVerdict graphBadName 12 100 =
      some (⟨true, true, false, true, true, true, some .custom⟩, true) := by
  refine ⟨by decide +kernel, by decide +kernel⟩

/-- `NodesOk`, logical type: an UNKNOWN logical type whose name is `decimal`
    (`LogicalType::Unknown(UnknownLogicalType::new("decimal"))`, constructible with the crate's
    public API) is written `{"logicalType":"decimal","type":"bytes"}`, without `precision`; the
    parser takes it for the `decimal` logical type and refuses it. -/
def graphUnknownDecimal : SchemaMut := #[⟨.bytes, some (.unknown "decimal")⟩]

theorem C09_unknown_decimal_needed :
    graphTests graphUnknownDecimal = (true, false, true) ∧
    renderJson graphUnknownDecimal 5 =
      .ok (.obj [("logicalType", .str "decimal"), ("type", .str "bytes")]) ∧
    renderVerdict graphUnknownDecimal 5 100 =
      some (⟨true, true, true, false, true, true, some .custom⟩, true) := by
  refine ⟨by decide +kernel, by rfl, by decide +kernel⟩

/-- `NodesOk`, numbers (`Nat` in the model, `usize` / `u32` in the crate, where these graphs do
    not exist): a `fixed` of size `2^64`, a `decimal` of scale `2^32`. -/
def graphBigFixed : SchemaMut := #[⟨.fixed ⟨"F", "F", none⟩ (2 ^ 64), none⟩]
def graphBigScale : SchemaMut := #[⟨.bytes, some (.decimal (2 ^ 32) 5)⟩]

theorem C09_size_needed :
    graphTests graphBigFixed = (true, false, true) ∧
    renderVerdict graphBigFixed 5 100 =
      some (⟨true, true, true, false, true, true, some .json⟩, true) := by
  refine ⟨by decide +kernel, by decide +kernel⟩

theorem C09_scale_needed :
    graphTests graphBigScale = (true, false, true) ∧
    renderVerdict graphBigScale 5 100 =
      some (⟨true, true, true, false, true, true, some .json⟩, true) := by
  refine ⟨by decide +kernel, by decide +kernel⟩

theorem C09_precision_needed :
    graphTests #[⟨.bytes, some (.decimal 1 (2 ^ 64))⟩] = (true, false, true) ∧
    renderVerdict #[⟨.bytes, some (.decimal 1 (2 ^ 64))⟩] 5 100 =
      some (⟨true, true, true, false, true, true, some .json⟩, true) := by
  refine ⟨by decide +kernel, by decide +kernel⟩

/-- `NoRecCycle`: `record R { f : R }`.  The document is VALID (`C09_render_validDoc` does not
    need the hypothesis) and is rejected with the `cycle` error. -/
def graphSelf : SchemaMut := #[⟨.record ⟨"R", "R", none⟩ [("f", 0)], none⟩]

theorem C09_cycle_needed :
    graphTests graphSelf = (true, true, false) ∧
    renderVerdict graphSelf 5 100 =
      some (⟨true, true, true, true, true, true, some .cycle⟩, false) := by
  refine ⟨by decide +kernel, by decide +kernel⟩

theorem graphSelf_cycle : ¬ NoRecCycle graphSelf := by
  rintro ⟨r, h⟩
  have := h 0 _ _ _ 0 _ _ _ .root rfl rfl (by decide) rfl rfl
  omega

/-- `jsonNesting j ≤ 127`: 128 nested arrays.  A valid document, beyond the recursion limit of
    `serde_json`. -/
def graphDeep (d : Nat) : SchemaMut :=
  (((List.range d).map fun i => (⟨.array (i + 1), none⟩ : RawNode)).toArray).push ⟨.int, none⟩

theorem graphDeep_getElem? (d i : Nat) :
    (graphDeep d)[i]? = if i < d then some ⟨.array (i + 1), none⟩
      else if i = d then some ⟨.int, none⟩ else none := by
  simp only [graphDeep, Array.getElem?_push, List.size_toArray, List.length_map,
    List.length_range, List.getElem?_toArray, List.getElem?_map]
  split <;> split <;> first | omega | simp_all

theorem graphDeep_node {d i : Nat} {node : RawNode} (h : (graphDeep d)[i]? = some node) :
    node = ⟨.array (i + 1), none⟩ ∨ node = ⟨.int, none⟩ := by
  rw [graphDeep_getElem?] at h
  split at h
  · exact .inl (Option.some.inj h).symm
  · split at h
    · exact .inr (Option.some.inj h).symm
    · cases h

/-- The renderer on the tail of `graphDeep d` from node `k`: no cell from `k` on is set before
    or after, and no name is ever written. -/
theorem render_graphDeep (d : Nat) : ∀ (n k fuel : Nat) (st : RenderState), k + n = d → n < fuel →
    st.nWritten = 1 → (∀ i, k ≤ i → st.get i = 0) →
    ∃ st', render (graphDeep d) fuel k none st = .ok (nestedArrays n, st') ∧
      st'.nWritten = 1 ∧ ∀ i, k ≤ i → st'.get i = 0 := by
  intro n
  induction n with
  | zero =>
    intro k fuel st hk hf hw hz
    obtain ⟨f, rfl⟩ : ∃ f, fuel = f + 1 := ⟨fuel - 1, by omega⟩
    have hnode : (graphDeep d)[k]? = some ⟨.int, none⟩ := by
      rw [graphDeep_getElem?, if_neg (by omega), if_pos (by omega)]
    exact ⟨st, by simp only [render, hnode, nestedArrays], hw, hz⟩
  | succ n ih =>
    intro k fuel st hk hf hw hz
    obtain ⟨f, rfl⟩ : ∃ f, fuel = f + 1 := ⟨fuel - 1, by omega⟩
    have hnode : (graphDeep d)[k]? = some ⟨.array (k + 1), none⟩ := by
      rw [graphDeep_getElem?, if_pos (by omega)]
    obtain ⟨st1, h1, hw1, hz1⟩ := ih (k + 1) f (st.set k st.nWritten) (by omega) (by omega) hw
      fun i hi => by rw [RenderState.get_set, if_neg (by omega)]; exact hz i (by omega)
    rw [hw] at h1
    refine ⟨st1.set k 0, ?_, hw1, fun i hi => ?_⟩
    · simp only [render, hnode, hz k (Nat.le_refl _), hw, ge_iff_le, Nat.le_zero_eq,
        Nat.succ_ne_zero, if_false, h1, nestedArrays, typeMembers, List.cons_append,
        List.nil_append]
    · rw [RenderState.get_set]
      split
      · rfl
      · exact hz1 i (by omega)

theorem renderJson_graphDeep (d fuel : Nat) (h : d < fuel) :
    renderJson (graphDeep d) fuel = .ok (nestedArrays d) := by
  obtain ⟨st', h1, -⟩ := render_graphDeep d d 0 fuel {} (by omega) h rfl fun _ _ => rfl
  simp only [renderJson, h1]

/-- No node of `graphDeep d` has a name, a logical type or a size, and none is a record. -/
theorem graphDeep_hyp (d : Nat) :
    RenderPcf.NamesWF (graphDeep d) ∧ DistinctNames (graphDeep d) ∧ NodesOk (graphDeep d) ∧
      checkForCycles (graphDeep d) = .ok () := by
  refine ⟨fun i node nm hi hn => ?_, fun i j ni nj nmi nmj _ _ hi _ hn _ _ => ?_,
    fun i node _ hi => ?_, (C07_cycle_check_iff _).2.mpr ?_⟩
  · rcases graphDeep_node hi with rfl | rfl <;> cases hn
  · rcases graphDeep_node hi with rfl | rfl <;> cases hn
  · rcases graphDeep_node hi with rfl | rfl <;> rfl
  · rintro ⟨i, p⟩
    obtain ⟨j, ⟨hi, -⟩, -⟩ := transGen_head p
    unfold isRecord at hi
    split at hi
    · rename_i hS
      rcases graphDeep_node hS with h | h <;> cases h
    · cases hi

theorem childrenAt_graphDeep (d i : Nat) :
    childrenAt (graphDeep d) i = if i < d then [i + 1] else [] := by
  rw [childrenAt, graphDeep_getElem?]
  by_cases h : i < d
  · simp only [h, if_true, RegularType.children]
  · by_cases h' : i = d
    · subst h'; simp only [Nat.lt_irrefl, if_false, if_true, RegularType.children]
    · simp only [h, h', if_false]

/-- the depth-first search down the chain, from node `k` with the nodes before it visited -/
theorem reachGo_graphDeep (d : Nat) : ∀ (m k n : Nat), k + m = d → m < n →
    reachGo (graphDeep d) n [k] (List.range k).reverse = (List.range (d + 1)).reverse := by
  have rev (k : Nat) : (List.range (k + 1)).reverse = k :: (List.range k).reverse := by
    rw [List.range_succ, List.reverse_append]; rfl
  intro m
  induction m with
  | zero =>
    intro k n hk hn
    obtain ⟨n, rfl⟩ : ∃ n', n = n' + 1 := ⟨n - 1, by omega⟩
    obtain rfl : k = d := by omega
    have hc : (List.range k).reverse.contains k = false := by simp
    simp only [reachGo, hc, Bool.false_eq_true, if_false, childrenAt_graphDeep, Nat.lt_irrefl,
      List.nil_append, reachGo_nil, rev]
  | succ m ih =>
    intro k n hk hn
    obtain ⟨n, rfl⟩ : ∃ n', n = n' + 1 := ⟨n - 1, by omega⟩
    have hc : (List.range k).reverse.contains k = false := by simp
    have hlt : k < d := by omega
    simp only [reachGo, hc, Bool.false_eq_true, if_false, childrenAt_graphDeep, hlt, if_true,
      List.append_nil, ← rev]
    exact ih (k + 1) n (by omega) (by omega)

/-- The nodes of `graphDeep d` are all reachable; the fuel of `reachList` (more than the number of
    nodes) is not exhausted. -/
theorem reachList_graphDeep (d : Nat) : reachList (graphDeep d) = (List.range (d + 1)).reverse := by
  have h1 : ∀ l : List RawNode, l.length ≤ (l.map fun n => n.type.children.length + 1).sum := by
    intro l
    induction l with
    | nil => exact Nat.le_refl _
    | cons a l ih => simp only [List.length_cons, List.map_cons, List.sum_cons]; omega
  have hlen : (graphDeep d).toList.length = d + 1 := by simp [graphDeep]
  have := h1 (graphDeep d).toList
  exact reachGo_graphDeep d d 0 _ (by omega) (by omega)

theorem closedB_graphDeep (d : Nat) : closedB (graphDeep d) (reachList (graphDeep d)) = true := by
  rw [reachList_graphDeep]
  simp only [closedB, Bool.and_eq_true, List.contains_eq_mem, List.mem_reverse, List.mem_range,
    decide_eq_true_eq, List.all_eq_true, childrenAt_graphDeep]
  refine ⟨by omega, fun i hi c hc => ?_⟩
  split at hc
  · simp only [List.mem_singleton] at hc; omega
  · cases hc

/-- The three tests pass when the hypotheses they stand for hold (`closedB`: the list of reachable
    nodes was computed without running out of fuel). -/
theorem graphTests_of {S : SchemaMut} (hwf : RenderPcf.NamesWF S) (hdist : DistinctNames S)
    (hok : NodesOk S) (hc : checkForCycles S = .ok ())
    (hcl : closedB S (reachList S) = true) : graphTests S = (true, true, true) := by
  simp only [graphTests, (RenderPcf.namesWFb_iff S).mpr hwf, (graphOkB_iff hcl).mpr ⟨hdist, hok⟩,
    (cyclesOkB_iff S).mpr hc]

theorem renderVerdict_of_render {S : SchemaMut} {fuel n : Nat} {j : Json}
    (h : renderJson S fuel = .ok j) :
    renderVerdict S fuel n = some (verdict j n, noUnconditionalCycleB j) := by
  simp only [renderVerdict, h]

/-- By the general theorems: the hypotheses hold of every `graphDeep d`, whose document is
    `nestedArrays d`, accepted or rejected by its depth alone (`nestedArrays_accepted`,
    `nestedArrays_rejected`). -/
theorem C09_nesting_needed :
    graphTests (graphDeep 128) = (true, true, true) ∧
    renderVerdict (graphDeep 127) 140 300 =
      some (⟨true, true, true, true, true, true, none⟩, true) ∧
    renderVerdict (graphDeep 128) 140 300 =
      some (⟨true, true, true, true, false, true, some .json⟩, true) := by
  have hcyc (d : Nat) : noUnconditionalCycleB (nestedArrays d) = true := nestedArrays_ranked d _ none
  obtain ⟨g1, g2, g3, g4⟩ := graphDeep_hyp 128
  refine ⟨graphTests_of g1 g2 g3 g4 (closedB_graphDeep 128), ?_, ?_⟩
  · rw [renderVerdict_of_render (renderJson_graphDeep 127 140 (by decide)),
      nestedArrays_accepted (by decide) (by decide), hcyc]
  · rw [renderVerdict_of_render (renderJson_graphDeep 128 140 (by decide)),
      nestedArrays_rejected (by decide) (by decide), hcyc]

/-- `schemaSize j ≤ n` (fuel of the registration in the parser MODEL; `panic` is the model's
    out-of-fuel, not an outcome of the crate): the document of `graphDeep 2` has size 6. -/
theorem C09_size_fuel_needed :
    renderVerdict (graphDeep 2) 10 3 =
      some (⟨true, true, true, true, true, false, some .panic⟩, true) ∧
    renderVerdict (graphDeep 2) 10 6 =
      some (⟨true, true, true, true, true, true, none⟩, true) := by
  refine ⟨by decide +kernel, by decide +kernel⟩

/-- `hrender`: a key out of bounds, a union that carries a logical type, a cycle through unnamed
    nodes, too little fuel — no document is rendered (the first three are errors of the crate's
    `Serialize`, the last is the model's out-of-fuel). -/
theorem C09_no_document_key : renderJson #[⟨.array 5, none⟩] 5 = .error .custom := by rfl
theorem C09_no_document_union_logical :
    renderJson #[⟨.union [1], some .date⟩, ⟨.int, none⟩] 5 = .error .custom := by rfl
theorem C09_no_document_unnamed_cycle :
    renderJson #[⟨.array 1, none⟩, ⟨.map 0, none⟩] 50 = .error .custom := by rfl
theorem C09_no_document_fuel : renderJson (graphDeep 2) 2 = .error .panic := by rfl

/-- The hypotheses look at the REACHABLE nodes only: here the nodes 1 and 2 are not reachable
    from the root — a second enum called `E`, and a record that contains itself, carrying the
    unknown logical type `decimal`.  `checkForCycles` (which looks at every node) fails, the
    hypotheses of `C09_render_roundtrip_pcf` hold. -/
def graphJunk : SchemaMut := #[
  ⟨.enum ⟨"E", "E", none⟩ ["A"], none⟩,
  ⟨.enum ⟨"E", "E", none⟩ ["B"], none⟩,
  ⟨.record ⟨"R", "R", none⟩ [("f", 2)], some (.unknown "decimal")⟩]

theorem graphJunk_reach {i : Nat} (h : Reach graphJunk i) : i = 0 := by
  induction h with
  | root => rfl
  | step _ hk hc ih =>
    subst ih
    have : graphJunk[0]? = some ⟨.enum ⟨"E", "E", none⟩ ["A"], none⟩ := rfl
    rw [this] at hk
    cases hk
    cases hc

theorem graphJunk_noRecCycle : NoRecCycle graphJunk :=
  ⟨fun _ => 0, fun i ni nmi fs k nk nmk fk hr hi hti _ _ _ => by
    have := graphJunk_reach hr
    subst this
    have e : graphJunk[0]? = some ⟨.enum ⟨"E", "E", none⟩ ["A"], none⟩ := rfl
    rw [e] at hi
    cases hi
    cases hti⟩

example : graphTests graphJunk = (true, true, false) ∧ reachList graphJunk = [0] := by
  refine ⟨by decide +kernel, by decide +kernel⟩

example (j : Json) (h : renderJson graphJunk 5 = .ok j) (n : Nat) (hn : schemaSize j ≤ n)
    (hd : jsonNesting j ≤ 127) : ∃ S', parseJson j n = .ok S' := by
  obtain ⟨h1, h2, h3⟩ := hyp_of_b (S := graphJunk) (by decide +kernel) (by decide +kernel)
  exact C09_render_parses graphJunk 5 j n h1 h2 h3 h hd graphJunk_noRecCycle hn

/-- A record `a.R` with: an enum `a.Color` (met three times), a fixed `b.Hash` of another
    namespace (met twice), a union with a recursive reference to `a.R`, an array, a logical type
    on a primitive (`timestamp-millis`) and on a fixed (`decimal`), a nested record `a.Inner`
    (a record → record edge) that refers back to `a.R` through a map. -/
def graphAll : SchemaMut := #[
  ⟨.record ⟨"a.R", "R", some "a"⟩
    [("color", 1), ("hash", 2), ("next", 3), ("tags", 5), ("when", 7), ("color2", 1),
     ("amount", 8), ("inner", 9)], none⟩,
  ⟨.enum ⟨"a.Color", "Color", some "a"⟩ ["RED", "GREEN"], none⟩,
  ⟨.fixed ⟨"b.Hash", "Hash", some "b"⟩ 16, none⟩,
  ⟨.union [4, 0], none⟩,
  ⟨.null, none⟩,
  ⟨.array 6, none⟩,
  ⟨.string, none⟩,
  ⟨.long, some .timestampMillis⟩,
  ⟨.fixed ⟨"a.Dec", "Dec", some "a"⟩ 8, some (.decimal 2 18)⟩,
  ⟨.record ⟨"a.Inner", "Inner", some "a"⟩ [("c", 1), ("back", 10), ("h", 2)], none⟩,
  ⟨.map 0, none⟩]

/-- the document rendered for it -/
def docAll : Json :=
  .obj [("type", .str "record"), ("name", .str "a.R"), ("fields", .arr [
    .obj [("name", .str "color"), ("type", .obj [("type", .str "enum"), ("name", .str "Color"),
      ("symbols", .arr [.str "RED", .str "GREEN"])])],
    .obj [("name", .str "hash"), ("type", .obj [("type", .str "fixed"), ("name", .str "b.Hash"),
      ("size", .nat 16)])],
    .obj [("name", .str "next"), ("type", .arr [.str "null", .str "R"])],
    .obj [("name", .str "tags"), ("type", .obj [("type", .str "array"), ("items", .str "string")])],
    .obj [("name", .str "when"), ("type",
      .obj [("logicalType", .str "timestamp-millis"), ("type", .str "long")])],
    .obj [("name", .str "color2"), ("type", .str "Color")],
    .obj [("name", .str "amount"), ("type", .obj [("logicalType", .str "decimal"),
      ("type", .str "fixed"), ("scale", .nat 2), ("precision", .nat 18), ("name", .str "Dec"),
      ("size", .nat 8)])],
    .obj [("name", .str "inner"), ("type", .obj [("type", .str "record"), ("name", .str "Inner"),
      ("fields", .arr [
        .obj [("name", .str "c"), ("type", .str "Color")],
        .obj [("name", .str "back"), ("type", .obj [("type", .str "map"), ("values", .str "R")])],
        .obj [("name", .str "h"), ("type", .str "b.Hash")]])])]])]

theorem graphAll_renders : renderJson graphAll 30 = .ok docAll := by rfl

theorem graphAll_tests :
    graphTests graphAll = (true, true, true) ∧
    reachList graphAll = [10, 9, 8, 7, 6, 5, 4, 3, 2, 1, 0] ∧
    jsonNesting docAll = 7 ∧ schemaSize docAll = 44 := by
  refine ⟨by decide +kernel, by decide +kernel, by decide +kernel, by decide +kernel⟩

/-- what the three tests stand for (`graphTests_of` is the converse) -/
theorem graphTests_true {S : SchemaMut} (h : graphTests S = (true, true, true)) :
    RenderPcf.namesWFb S = true ∧ graphOkB S = true ∧ checkForCycles S = .ok () := by
  simp only [graphTests, Prod.mk.injEq] at h
  exact ⟨h.1, h.2.1, (cyclesOkB_iff S).mp h.2.2⟩

theorem graphAll_hyp : RenderPcf.NamesWF graphAll ∧ DistinctNames graphAll ∧ NodesOk graphAll :=
  have ⟨h1, h2, _⟩ := graphTests_true graphAll_tests.1
  have ⟨g1, g2, g3⟩ := hyp_of_b h1 h2
  ⟨g1, g2, g3⟩

theorem graphAll_noRecCycle : NoRecCycle graphAll :=
  noRecCycle_of_check graphAll (graphTests_true graphAll_tests.1).2.2

theorem docAll_sizes : jsonNesting docAll ≤ 127 ∧ schemaSize docAll ≤ 44 := by
  rw [graphAll_tests.2.2.1, graphAll_tests.2.2.2]
  exact ⟨by decide, Nat.le_refl _⟩

/-- `C09_render_validDoc` instantiated (and the conclusion evaluated). -/
example : ValidDoc docAll = true :=
  C09_render_validDoc graphAll 30 docAll graphAll_hyp.1 graphAll_hyp.2.1 graphAll_hyp.2.2
    graphAll_renders

example : ValidDoc docAll = true ∧
    definedNames docAll =
      [(some "a", "R"), (some "a", "Color"), (some "b", "Hash"), (some "a", "Dec"),
       (some "a", "Inner")] := by
  refine ⟨by decide +kernel, by decide +kernel⟩

/-- `C09_render_parses` instantiated: for every `n ≥ 44`. -/
example (n : Nat) (hn : 44 ≤ n) : ∃ S', parseJson docAll n = .ok S' :=
  C09_render_parses graphAll 30 docAll n graphAll_hyp.1 graphAll_hyp.2.1 graphAll_hyp.2.2
    graphAll_renders docAll_sizes.1 graphAll_noRecCycle (Nat.le_trans docAll_sizes.2 hn)

/-- `C09_render_roundtrip_pcf` instantiated. -/
example : ∃ S' text, parseJson docAll 44 = .ok S' ∧ parsingCanonicalForm docAll = some text ∧
    (∀ fuel', 30 ≤ fuel' → canonicalForm graphAll fuel' = .ok text) ∧
    (∀ fuel'', 46 ≤ fuel'' → canonicalForm S' fuel'' = .ok text) :=
  C09_render_roundtrip_pcf graphAll 30 docAll 44 graphAll_hyp.1 graphAll_hyp.2.1 graphAll_hyp.2.2
    graphAll_renders docAll_sizes.1 graphAll_noRecCycle docAll_sizes.2

/-- ... with every hypothesis evaluated. -/
example : ValidDoc docAll = true ∧ ∃ S', parseJson docAll 44 = .ok S' ∧
    ∀ fuel' fuel'', 30 ≤ fuel' → 46 ≤ fuel'' →
      canonicalForm S' fuel'' = canonicalForm graphAll fuel' :=
  have ⟨h1, h2, h3⟩ := graphTests_true graphAll_tests.1
  C09_render_roundtrip_dec graphAll 30 docAll 44 h1 h2 graphAll_renders docAll_sizes.1 h3
    docAll_sizes.2

/-- and what the parser does build from the document here: the graph itself. -/
example : (match parseJson docAll 44 with
    | .ok S' => decide (S' = graphAll)
    | .error _ => false) = true := by decide +kernel

end Avro.Theorems
