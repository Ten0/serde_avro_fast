import AvroModel.Lemmas.TypedSound
import AvroModel.Theorems.C12typed
/-
C01 / C03 — typed targets are READ CORRECTLY (soundness half).

`C12_typed_consumes_all` says that a typed read that succeeds has consumed exactly the datum;
`C03_de_refines_spec` says what the self-describing read (`.any`) returns.  Here: WHAT a typed read
returns.  For EVERY request `h` (scalars with their coercions, `Option`, `Vec`, tuples, maps, structs
with any subset of the fields in any order, enums with unit / newtype / tuple / struct variants,
identifiers, `IgnoredAny`, at any nesting), every schema, node, configuration, depth budget, model
fuel and `favor` flag, on every layout with exact block sizes (`Spec.decodeX Limits.impl`):

    whatever the typed read returns is `consistent` with the encoded value
    (`Spec.observe S node v`, i.e. what `deserialize_any` delivers).

Only successful runs are looked at, so no hypothesis on depth, `max_seq_size` or fuel is needed.
No hint constructor is excluded.

`consistent` (`AvroModel/Lemmas/TypedValue.lean`) is `consistentOut` of `Driver/Main.lean` as a
structural definition, COMPLETED with the coercions of the visitor dispatch.  The driver's relation
alone is too strict — the statement is false for it (`C03_driver_relation_too_strict`: an `Option`
target on a `null`, `deserialize_str` on `bytes`, `deserialize_bytes` / `deserialize_tuple` on a
duration, an identifier on an `int`, a `u64` on an enum, an `i64` on a decimal).  One clause is
deliberately weak: `u64` against a string is not checked (enum index vs symbol needs the schema);
`C03_typed_enum_index` gives the precise statement for that pair at top level.

A function `projectOut : Hint → Out → Option Out` (what the typed target receives, computed from
the hint and the self-describing result alone) does NOT exist: `C03_no_projectOut` (same hint, same
self-describing result, different typed results — the dispatch looks at the schema node).

ACCEPTANCE HALF, here only `C03_typed_accepts_shallow_partial`: for the shallow fragment
`shallowFits h node` (`Vec<Value>`-like `seq any` on any node but a duration, `map any any`, `i64` on
`long`, `f64` on `double`, `str` on `string`, `bytes` on `bytes`) the typed read IS the
self-describing read (`de_shallow_eq`), so on a valid layout (sized blocks need not be exact) it
succeeds with exactly `Spec.observe S node v`.  The recursive fragment `fits` (option on
`[null, T]`, seq / map / struct with typed children) is `C03_typed_accepts`,
`Theorems/C03typedAccepts.lean`; enum targets are in neither.
-/
namespace Avro.Theorems
open Avro Avro.Spec Avro.Impl

/-- **C03, typed targets, relational form.**  A typed read and a self-describing read of the same
    input (each with its own configuration, fuel and depth budget), on an input that
    `decodeX Limits.impl` accepts: the typed result is consistent with the self-describing one, and
    both end in the same state. -/
theorem C03_typed_vs_any (cfg cfg2 : DeConfig) (S : Schema) (node : Node) (h : Hint)
    (depth depth2 fuel fuel2 : Nat) (favor : Bool) (s s' s2 : RState) (o' o : Out)
    (hs : s.isSlice = true) (hl : s.limit = none) (ha : s.avail = 0)
    (hexact : ∃ fuelX, (Spec.decodeX Limits.impl S fuelX node s.rest).isSome = true)
    (htyped : de deExtModel cfg S fuel node depth favor h s = (.ok o', s'))
    (hany : de deExtModel cfg2 S fuel2 node depth2 false .any s = (.ok o, s2)) :
    consistent o' o ∧ s' = s2 := by
  obtain ⟨fuelX, hx⟩ := hexact
  obtain ⟨⟨v, rest⟩, hx⟩ := Option.isSome_iff_exists.1 hx
  exact typed_value_run S cfg node depth fuel favor h s s' o' hs hl ha
    htyped cfg2 fuel2 depth2 o s2 hany ⟨fuelX, v, rest, hx⟩

/-- **C03, typed targets: what a typed read returns (soundness).**  For EVERY request `h`: on a
    valid layout with exact block sizes whose value the deserializer can represent (`hobs`), if the
    typed read succeeds, what it returns is consistent with the encoded value, and it has consumed
    exactly the datum. -/
theorem C03_typed_value (cfg : DeConfig) (S : Schema) (node : Node) (h : Hint)
    (v : Spec.Value) (bytes rest : Bytes) (o : Out) (depth fuelX fuel : Nat) (favor : Bool)
    (hdec : Spec.decodeX Limits.impl S fuelX node bytes = some (v, rest))
    (hobs : Spec.observe S node v = some o)
    (s s' : RState) (o' : Out)
    (hs : s.isSlice = true) (hl : s.limit = none) (ha : s.avail = 0) (hr : s.rest = bytes)
    (hrun : de deExtModel cfg S fuel node depth favor h s = (.ok o', s')) :
    consistent o' o ∧ s' = { s with rest := rest } := by
  have hL := Spec.decodeX_sub _ S fuelX node bytes _ hdec
  let cfg2 : DeConfig := { maxSeqSize := Spec.maxLen v, allowedDepth := Spec.depthOf v }
  have hany := C03_de_accepts_impl_layouts cfg2 S node v bytes rest o (Spec.depthOf v) fuelX hL hobs
    (Nat.le_refl _) (Nat.le_refl _) (3 * Spec.size v) (Nat.le_refl _) s hs hl ha hr
  subst hr
  exact C03_typed_vs_any cfg cfg2 S node h depth _ fuel _ favor s s' _ o' o hs hl ha
    ⟨fuelX, by rw [hdec]; rfl⟩ hrun hany

theorem C03_typed_value_consistent (cfg : DeConfig) (S : Schema) (node : Node) (h : Hint)
    (v : Spec.Value) (bytes rest : Bytes) (o : Out) (depth fuelX fuel : Nat) (favor : Bool)
    (hdec : Spec.decodeX Limits.impl S fuelX node bytes = some (v, rest))
    (hobs : Spec.observe S node v = some o)
    (s s' : RState) (o' : Out)
    (hs : s.isSlice = true) (hl : s.limit = none) (ha : s.avail = 0) (hr : s.rest = bytes)
    (hrun : de deExtModel cfg S fuel node depth favor h s = (.ok o', s')) :
    consistent o' o :=
  (C03_typed_value cfg S node h v bytes rest o depth fuelX fuel favor hdec hobs s s' o' hs hl ha hr
    hrun).1

/-- The same with the hypotheses in the shape of `C03_de_refines_spec` / `C12_skip_all_layouts`:
    `Spec.decode` accepts the input as `(v, rest)`, within the implementation's limits and with
    exact block sizes. -/
theorem C03_typed_value_spec (cfg : DeConfig) (S : Schema) (node : Node) (h : Hint)
    (v : Spec.Value) (bytes rest : Bytes) (o : Out) (depth fuelS fuelX fuel : Nat) (favor : Bool)
    (hdec : Spec.decode S fuelS node bytes = some (v, rest))
    (hobs : Spec.observe S node v = some o)
    (hexact : (Spec.decodeX Limits.impl S fuelX node bytes).isSome = true)
    (s s' : RState) (o' : Out)
    (hs : s.isSlice = true) (hl : s.limit = none) (ha : s.avail = 0) (hr : s.rest = bytes)
    (hrun : de deExtModel cfg S fuel node depth favor h s = (.ok o', s')) :
    consistent o' o ∧ s' = { s with rest := rest } := by
  have hx := C12_decodeX_of_spec hdec hexact
  exact C03_typed_value cfg S node h v bytes rest o depth fuelX fuel favor hx hobs s s' o' hs hl ha
    hr hrun

/-! ### The one unchecked clause, made precise at top level: `u64` on an enum -/

/-- `deserialize_u64` on an enum delivers the index of the symbol `deserialize_any` delivers. -/
theorem C03_typed_enum_index (cfg cfg2 : DeConfig) (S : Schema) (nm : Name) (syms : List String)
    (depth depth2 fuel fuel2 : Nat) (favor : Bool) (s s' s2 : RState) (o' o : Out)
    (hs : s.isSlice = true) (hl : s.limit = none) (ha : s.avail = 0)
    (htyped : de deExtModel cfg S fuel (.enum nm syms) depth favor .u64 s = (.ok o', s'))
    (hany : de deExtModel cfg2 S fuel2 (.enum nm syms) depth2 false .any s = (.ok o, s2)) :
    ∃ idx sym, o' = .u64 idx ∧ o = .str sym false ∧ syms[idx]? = some sym ∧ s' = s2 := by
  cases fuel with
  | zero => rw [de] at htyped; cases htyped
  | succ g =>
  cases fuel2 with
  | zero => rw [de] at hany; cases hany
  | succ g1 =>
  rw [de] at hany
  cases g1 with
  | zero => rw [deAny] at hany; cases hany
  | succ g2 =>
  rw [de] at htyped
  rw [deAny] at hany
  obtain ⟨e, r, idx, sym, rfl, rfl, hsym⟩ := (inv2_enum_index syms s.rest).run hs hl ha htyped hany
  exact ⟨idx, sym, rfl, rfl, hsym, e⟩

/-! ### Non-vacuity: the theorem on concrete, non-trivial inputs -/

/-- the struct target `struct T { c: i64, b: Option<i64>, a: Vec<i64> }` on the record
    `{a: [1, 2, 3] (two blocks, one sized), b: union branch 1 = 5, c: 7}` of `C12typed.lean`: every
    hypothesis of `C03_typed_value` instantiated; the run exists (`c12Typed_run`) -/
example (o' : Out) (s' : RState)
    (hrun : de deExtModel {} c12TypedSchema 50 c12TypedNode 64 false c12TypedHint
      { rest := c12TypedBytes } = (.ok o', s')) :
    consistent o' (.map [(.str "a" false, .seq [.i32 1, .i32 2, .i32 3]),
                         (.str "b" false, .i64 5), (.str "c" false, .i64 7)]) ∧
      s' = { rest := [0x2a] } :=
  C03_typed_value {} c12TypedSchema c12TypedNode c12TypedHint
    (.record [.array [.int 1, .int 2, .int 3], .union 1 (.long 5), .long 7]) c12TypedBytes [0x2a] _
    64 10 50 false (by rfl) (by rfl) { rest := c12TypedBytes } s' o' rfl rfl rfl rfl hrun

/-- … and what it says about the actual result: `b` is `Some(5)` against the self-describing `5` -/
example : consistent
    (.map [(.str "a" false, .seq [.i32 1, .i32 2, .i32 3]), (.str "b" false, .some (.i64 5)),
           (.str "c" false, .i64 7)])
    (.map [(.str "a" false, .seq [.i32 1, .i32 2, .i32 3]), (.str "b" false, .i64 5),
           (.str "c" false, .i64 7)]) :=
  (C03_typed_value {} c12TypedSchema c12TypedNode c12TypedHint
    (.record [.array [.int 1, .int 2, .int 3], .union 1 (.long 5), .long 7]) c12TypedBytes [0x2a] _
    64 10 50 false (by rfl) (by rfl) { rest := c12TypedBytes } _ _ rfl rfl rfl rfl c12Typed_run).1

/-- `consistent` is not trivial: a wrong value for `c` is not consistent -/
example : ¬ consistent
    (.map [(.str "a" false, .unit), (.str "b" false, .some (.i64 5)), (.str "c" false, .i64 8)])
    (.map [(.str "a" false, .seq [.i32 1, .i32 2, .i32 3]), (.str "b" false, .i64 5),
           (.str "c" false, .i64 7)]) := by
  simp [consistent, consistentM]

/-- an enum target with a newtype variant for the union branch `Long`, and a tuple target on an
    array behind it -/
example (o' : Out) (s' : RState)
    (hrun : de deExtModel {} c12TypedSchema 50 (.union [2, 3]) 64 false
      (.enum [("Null", .unit), ("Long", .newtype .i64)]) { rest := [0x02, 0x0a, 0x2a] } =
        (.ok o', s')) :
    consistent o' (.i64 5) ∧ s' = { rest := [0x2a] } :=
  C03_typed_value {} c12TypedSchema (.union [2, 3]) _ (.union 1 (.long 5)) [0x02, 0x0a, 0x2a] [0x2a]
    _ 64 10 50 false (by rfl) (by rfl) { rest := [0x02, 0x0a, 0x2a] } s' o' rfl rfl rfl rfl hrun

example (o' : Out) (s' : RState)
    (hrun : de deExtModel {} #[.int] 50 (.array 0) 64 false (.tuple 2 .any) { rest := c12Arr12 } =
      (.ok o', s')) :
    consistent o' (.seq [.i32 1, .i32 2]) ∧ s' = { rest := [0x0e] } :=
  C03_typed_value {} #[.int] (.array 0) (.tuple 2 .any) (.array [.int 1, .int 2]) c12Arr12 [0x0e] _
    64 10 50 false (by rfl) (by rfl) { rest := c12Arr12 } s' o' rfl rfl rfl rfl hrun

/-! ### The hypotheses -/

/-- **Exact block sizes are necessary.**  `c12WrongSize` (`C12layouts.lean`): the record
    `{a: [1], b: 0}` whose array block announces 2 bytes for a 1-byte item.  `Spec.decode` (and
    `decodeL Limits.impl`) accept it as `{a: [1], b: 0}`; the struct target that lacks `a` jumps 2
    bytes and SUCCEEDS with `b = 3`, which is not consistent with the encoded value. -/
theorem C03_typed_value_needs_exact_sizes :
    Spec.decodeL Limits.impl c12Schema 10 (.record c12Rec [("a", 1), ("b", 0)]) c12WrongSize =
      some (.record [.array [.int 1], .int 0], [0x06]) ∧
    Spec.observe c12Schema (.record c12Rec [("a", 1), ("b", 0)]) (.record [.array [.int 1], .int 0]) =
      some (.map [(.str "a" false, .seq [.i32 1]), (.str "b" false, .i32 0)]) ∧
    de deExtModel {} c12Schema 44 (.record c12Rec [("a", 1), ("b", 0)]) 64 false
        (.struct [("b", .any)]) { rest := c12WrongSize } =
      (.ok (.map [(.str "a" false, .unit), (.str "b" false, .i32 3)]), { rest := [] }) ∧
    ¬ consistent (.map [(.str "a" false, .unit), (.str "b" false, .i32 3)])
        (.map [(.str "a" false, .seq [.i32 1]), (.str "b" false, .i32 0)]) := by
  -- the two results disagree on the value of `b`
  exact ⟨by rfl, by rfl, NVB.resEq_of (by decide +kernel), fun h => nomatch h.2.2.2.1⟩

/-! ### The driver's relation alone is too strict; there is no `projectOut` -/

/-- Each line: a typed read and the self-describing read of the same bytes, both successful, whose
    results differ by a coercion of the visitor dispatch — `consistentOut` of the driver compares
    them with `unborrow · = unborrow ·` (none of its structural clauses applies) and says
    "VIOLATION"; `consistent` has a clause for each. -/
theorem C03_driver_relation_too_strict :
    -- `Option<T>` on `null`: `None` vs `unit`
    (de deExtModel {} #[] 5 .null 64 false (.option .any) { rest := [] } = (.ok .none, { rest := [] }) ∧
     de deExtModel {} #[] 5 .null 64 false .any { rest := [] } = (.ok .unit, { rest := [] }) ∧
     unborrow .none ≠ unborrow .unit ∧ consistent .none .unit) ∧
    -- `Option<i64>` on `union {null, long}`, branch 1: `Some(5)` vs `5`
    (de deExtModel {} c12TypedSchema 9 (.union [2, 3]) 64 false (.option .i64) { rest := [0x02, 0x0a] } =
       (.ok (.some (.i64 5)), { rest := [] }) ∧
     de deExtModel {} c12TypedSchema 9 (.union [2, 3]) 64 false .any { rest := [0x02, 0x0a] } =
       (.ok (.i64 5), { rest := [] }) ∧
     unborrow (.some (.i64 5)) ≠ unborrow (.i64 5) ∧ consistent (.some (.i64 5)) (.i64 5)) ∧
    -- `deserialize_str` on `bytes`
    (de deExtModel {} #[] 5 .bytes 64 false .str { rest := [0x02, 0x41] } =
       (.ok (.str "A" true), { rest := [] }) ∧
     de deExtModel {} #[] 5 .bytes 64 false .any { rest := [0x02, 0x41] } =
       (.ok (.bytes [0x41] true), { rest := [] }) ∧
     unborrow (.str "A" true) ≠ unborrow (.bytes [0x41] true)) ∧
    -- an identifier on an `int`
    (de deExtModel {} #[] 5 .int 64 false .identifier { rest := [0x02] } =
       (.ok (.u64 1), { rest := [] }) ∧
     de deExtModel {} #[] 5 .int 64 false .any { rest := [0x02] } = (.ok (.i32 1), { rest := [] }) ∧
     unborrow (.u64 1) ≠ unborrow (.i32 1) ∧ consistent (.u64 1) (.i32 1)) ∧
    -- `deserialize_u64` on an enum: the index vs the symbol
    (de deExtModel {} #[] 5 (.enum c12Rec ["x", "y"]) 64 false .u64 { rest := [0x02] } =
       (.ok (.u64 1), { rest := [] }) ∧
     de deExtModel {} #[] 5 (.enum c12Rec ["x", "y"]) 64 false .any { rest := [0x02] } =
       (.ok (.str "y" false), { rest := [] })) ∧
    -- `(u32, u32, u32)` on a duration: a sequence vs a map
    (de deExtModel {} #[] 5 .duration 64 false (.tuple 3 .any)
       { rest := [1, 0, 0, 0, 2, 0, 0, 0, 3, 0, 0, 0] } =
       (.ok (.seq [.u32 1, .u32 2, .u32 3]), { rest := [] }) ∧
     de deExtModel {} #[] 5 .duration 64 false .any { rest := [1, 0, 0, 0, 2, 0, 0, 0, 3, 0, 0, 0] } =
       (.ok (.map [(.str "months" false, .u32 1), (.str "days" false, .u32 2),
                   (.str "milliseconds" false, .u32 3)]), { rest := [] })) := by
  refine ⟨⟨?_, ?_, ?_, Or.inr rfl⟩, ⟨?_, ?_, ?_, Or.inl rfl⟩, ⟨?_, ?_, ?_⟩, ⟨?_, ?_, ?_, rfl⟩, ⟨?_, ?_⟩,
    ⟨?_, ?_⟩⟩
  -- the runs by evaluation; the values differ by their constructors
  all_goals first
    | exact NVB.resEq_of (by decide +kernel)
    | (intro h; cases h)

/-- **No `projectOut : Hint → Out → Option Out`.**  The same request (`deserialize_str`) and the
    same self-describing result (`bytes [41]`), two different typed results: on a `bytes` node the
    string `"A"`, on `union {bytes}` (the request is passed to `deserialize_any` behind a union) the
    bytes.  What a typed target receives is not a function of the hint and the self-describing
    result: the dispatch looks at the schema node. -/
theorem C03_no_projectOut :
    de deExtModel {} #[.bytes] 9 .bytes 64 false .any { rest := [0x02, 0x41] } =
      (.ok (.bytes [0x41] true), { rest := [] }) ∧
    de deExtModel {} #[.bytes] 9 (.union [0]) 64 false .any { rest := [0x00, 0x02, 0x41] } =
      (.ok (.bytes [0x41] true), { rest := [] }) ∧
    de deExtModel {} #[.bytes] 9 .bytes 64 false .str { rest := [0x02, 0x41] } =
      (.ok (.str "A" true), { rest := [] }) ∧
    de deExtModel {} #[.bytes] 9 (.union [0]) 64 false .str { rest := [0x00, 0x02, 0x41] } =
      (.ok (.bytes [0x41] true), { rest := [] }) ∧
    ¬ ∃ projectOut : Hint → Out → Option Out,
        projectOut .str (.bytes [0x41] true) = some (.str "A" true) ∧
        projectOut .str (.bytes [0x41] true) = some (.bytes [0x41] true) := by
  refine ⟨?_, ?_, ?_, ?_, ?_⟩
  · exact NVB.resEq_of (by decide +kernel)
  · exact NVB.resEq_of (by decide +kernel)
  · exact NVB.resEq_of (by decide +kernel)
  · exact NVB.resEq_of (by decide +kernel)
  · rintro ⟨p, h1, h2⟩
    rw [h1] at h2
    simp at h2

/-! ### Acceptance, partial: the shallow fragment -/

/-- **C03, acceptance for typed targets (PARTIAL: shallow fragment).**  With the hypotheses of
    `C03_de_refines_spec`, a request of the shallow fragment succeeds, returns exactly the encoded
    value and consumes exactly the datum (for every `favor`). -/
theorem C03_typed_accepts_shallow_partial (cfg : DeConfig) (S : Schema) (node : Node) (h : Hint)
    (hfit : shallowFits h node = true) (v : Spec.Value)
    (bytes rest : Bytes) (o : Out) (depth fuelS fuelL : Nat) (favor : Bool)
    (hdec : Spec.decode S fuelS node bytes = some (v, rest))
    (hobs : Spec.observe S node v = some o)
    (hlim : (Spec.decodeL Limits.impl S fuelL node bytes).isSome = true)
    (hdepth : Spec.depthOf v ≤ depth) (hseq : Spec.maxLen v ≤ cfg.maxSeqSize)
    (fuel : Nat) (hfuel : Spec.size v * 4 + 8 ≤ fuel)
    (s : RState) (hs : s.isSlice = true) (hl : s.limit = none) (ha : s.avail = 0)
    (hr : s.rest = bytes) :
    de deExtModel cfg S fuel node depth favor h s = (.ok o, { s with rest := rest }) := by
  obtain ⟨f, rfl⟩ : ∃ f, fuel = f + 2 := ⟨fuel - 2, by omega⟩
  rw [de_shallow_eq S cfg h node hfit f depth favor]
  exact C03_de_refines_spec cfg S node v bytes rest o depth fuelS fuelL hdec hobs hlim hdepth hseq
    (f + 2) hfuel s hs hl ha hr

/-- non-vacuity: `Vec<Value>` on `[1, 2, 3] : array<int>` in two blocks (`twoBlocks`, C03layouts) -/
example : de deExtModel {} #[.int] 44 (.array 0) 64 true (.seq .any) { rest := twoBlocks } =
    (.ok (.seq [.i32 1, .i32 2, .i32 3]), { rest := [] }) :=
  C03_typed_accepts_shallow_partial {} #[.int] (.array 0) (.seq .any) rfl
    (.array [.int 1, .int 2, .int 3]) twoBlocks [] (.seq [.i32 1, .i32 2, .i32 3]) 64 6 6 true
    (by rfl) (by rfl) (by rfl) (by decide) (by decide) 44 (by decide) { rest := twoBlocks }
    rfl rfl rfl rfl

/-- the fragment cannot simply be "every request": `Option<i64>` on a `long` succeeds but returns
    `Some(5)`, not the self-describing `5`; `(i32,)` on `[1, 2]` is an error -/
example :
    de deExtModel {} #[] 9 .long 64 false (.option .i64) { rest := [0x0a] } =
      (.ok (.some (.i64 5)), { rest := [] }) ∧
    (de deExtModel {} #[.int] 50 (.array 0) 64 false (.tuple 1 .any) { rest := c12Arr12 }).1 =
      .error .custom :=
  ⟨NVB.resEq_of (by decide +kernel), NVB.fstEq_of (by decide +kernel)⟩

end Avro.Theorems
