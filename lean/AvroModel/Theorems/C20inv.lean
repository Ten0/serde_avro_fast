import AvroModel.Theorems.C20
/-
C20 (continued) — invariants of the `SchemaBuilder` of `serde_avro_derive` (`Impl/Derive.lean`),
for every program, hash function, fuel, type and builder state: the builder is append-only, a
derived schema has every key in bounds and its root at node 0, the fuel is only a bound, a type is
built once.  All are read off the transition relation `Builds` (`Lemmas/DeriveRel.lean`): append-only
and keys in bounds are projections of the induction `Builds.post`, the fuel statements of `Builds.mono`;
`C20_root_key_zero` and `C20_built_once` (`Builds.find_reg`) are inversions, one `cases` on the
derivation.
-/
namespace Avro.Theorems
open Avro Avro.Impl Avro.Impl.Derive

/-! ### Append-only -/

/-- `s'` extends `s`: no fewer nodes, the nodes of `s` are untouched, the registrations of `s`
    are still there.  (Unfolding of `Avro.Impl.Derive.Ext`.) -/
def AppendOnly (s s' : BState) : Prop :=
  s.nodes.size ≤ s'.nodes.size ∧
  (∀ i, i < s.nodes.size → s'.nodes[i]? = s.nodes[i]?) ∧
  (∀ k i, s.built.lookup k = some i → s'.built.lookup k = some i)

private theorem appendOnly_of_ext {s s' : BState} (h : Ext s s') : AppendOnly s s' :=
  ⟨h.size_le, h.old, h.built⟩

/-- `T::append_schema(builder)`: the slots it fills (`setNode`) are slots it reserved itself. -/
theorem C20_appendSchema_append_only (P : Prog) (hash : Key → String) (fuel : Nat) (t : Ty)
    (s s' : BState) (u : Unit) (h : appendSchema P hash fuel t s = some (u, s')) :
    AppendOnly s s' :=
  appendOnly_of_ext (Step.Ran.post (c := .append t) h).ext

theorem C20_findOrBuild_append_only (P : Prog) (hash : Key → String) (fuel : Nat) (t : Ty)
    (s s' : BState) (k : Nat) (h : findOrBuild P hash fuel t s = some (k, s')) :
    AppendOnly s s' :=
  appendOnly_of_ext (Step.Ran.post (c := .find t k) h).ext

/-- Also for a field with a logical type: the node it relabels is one the same call created. -/
theorem C20_fieldInst_append_only (P : Prog) (hash : Key → String) (fuel : Nat) (d : Decl)
    (args : List Ty) (f : Field) (kind : FieldKind) (rn : String)
    (s s' : BState) (k : Nat) (h : fieldInst P hash fuel d args f kind rn s = some (k, s')) :
    AppendOnly s s' :=
  appendOnly_of_ext (Step.Ran.post (c := .field d args f kind rn k) h).ext

theorem C20_recordFields_append_only (P : Prog) (hash : Key → String) (fuel : Nat) (d : Decl)
    (args : List Ty) (tn : String) (fs : List Field)
    (s s' : BState) (r : List (String × Nat))
    (h : recordFields P hash fuel d args tn fs s = some (r, s')) :
    AppendOnly s s' :=
  appendOnly_of_ext (Step.Ran.post (c := .fields d args tn fs r) h).ext

theorem C20_unionVariants_append_only (P : Prog) (hash : Key → String) (fuel : Nat) (d : Decl)
    (args : List Ty) (vs : List Variant)
    (s s' : BState) (r : List Nat) (h : unionVariants P hash fuel d args vs s = some (r, s')) :
    AppendOnly s s' :=
  appendOnly_of_ext (Step.Ran.post (c := .variants d args vs r) h).ext

/-! ### Keys in bounds

The invariant (`Avro.Impl.Derive.Good pending s`): every key in a node of `s`, and every index
registered in `s.built`, is a node of `s` or is in `pending` — the indices registered by a
`find_or_build` that has not returned yet.  `find_or_build` adds its index to `pending`, and takes
it out again when its `assert!(nodes.len() > idx)` has passed. -/

/-- The invariant is kept by `find_or_build` from any state, with the returned key covered. -/
theorem C20_findOrBuild_keeps_invariant (P : Prog) (hash : Key → String) (fuel : Nat) (t : Ty)
    (s s' : BState) (k : Nat) (pending : List Nat)
    (h : findOrBuild P hash fuel t s = some (k, s')) (hs : Good pending s) :
    Good pending s' ∧ (k < s'.nodes.size ∨ k ∈ pending) := by
  obtain ⟨g, hk⟩ := (Step.Ran.post (c := .find t k) h).good pending hs
  exact ⟨g, hk k List.mem_cons_self⟩

/-- `find_or_build` on a state without dangling keys leaves no dangling keys. -/
theorem C20_findOrBuild_keys_in_bounds (P : Prog) (hash : Key → String) (fuel : Nat) (t : Ty)
    (s s' : BState) (k : Nat) (h : findOrBuild P hash fuel t s = some (k, s')) (hs : Good [] s) :
    SchemaMut.keysInBounds s'.nodes = true ∧ k < s'.nodes.size := by
  obtain ⟨g, hk⟩ := C20_findOrBuild_keeps_invariant P hash fuel t s s' k [] h hs
  refine ⟨g.keysInBounds, ?_⟩
  cases hk with
  | inl hk => exact hk
  | inr hk => cases hk

private theorem schemaMut_some {P : Prog} {hash : Key → String} {fuel : Nat} {t : Ty} {S : SchemaMut}
    (h : schemaMut P hash fuel t = some S) :
    ∃ k s', findOrBuild P hash fuel t {} = some (k, s') ∧ S = s'.nodes := by
  obtain ⟨⟨k, s'⟩, hf, rfl⟩ := Option.map_eq_some_iff.1 h
  exact ⟨k, s', hf, rfl⟩

/-- Every key of a derived schema is in bounds: `key_to_ref` cannot fail when it is frozen. -/
theorem C20_keys_in_bounds (P : Prog) (hash : Key → String) (fuel : Nat) (t : Ty) (S : SchemaMut)
    (h : schemaMut P hash fuel t = some S) : S.keysInBounds = true := by
  obtain ⟨k, s', hf, rfl⟩ := schemaMut_some h
  exact (C20_findOrBuild_keys_in_bounds P hash fuel t {} s' k hf Good.empty).1

/-! ### The root is node 0 -/

/-- `find_or_build` on a fresh builder returns key 0 and has added a node. -/
theorem C20_root_key_zero (P : Prog) (hash : Key → String) (fuel : Nat) (t : Ty) (k : Nat)
    (s' : BState) (h : findOrBuild P hash fuel t {} = some (k, s')) : k = 0 ∧ 0 < s'.nodes.size := by
  cases Builds.of_ran fuel (.find t k) _ _ h with
  | found _ hb => cases hb
  | built _ _ _ hlt => exact ⟨rfl, hlt⟩

theorem C20_root_is_node_zero (P : Prog) (hash : Key → String) (fuel : Nat) (t : Ty) (S : SchemaMut)
    (h : schemaMut P hash fuel t = some S) : 0 < S.size := by
  obtain ⟨k, s', hf, rfl⟩ := schemaMut_some h
  exact (C20_root_key_zero P hash fuel t k s' hf).2

/-! ### The fuel is only a bound -/

theorem C20_fuel_mono_lookupKey (P : Prog) (f f' : Nat) (hle : f ≤ f') (t : Ty) (key : Key)
    (h : lookupKey P f t = some key) : lookupKey P f' t = some key :=
  lookupKey_mono P hle h

theorem C20_fuel_mono_lookupKeys (P : Prog) (f f' : Nat) (hle : f ≤ f') (ts : List Ty) (key : Key)
    (h : lookupKeys P f ts = some key) : lookupKeys P f' ts = some key :=
  lookupKeys_mono P hle h

theorem C20_fuel_mono_appendSchema (P : Prog) (hash : Key → String) (f f' : Nat) (hle : f ≤ f')
    (t : Ty) (s : BState) (r : Unit × BState) (h : appendSchema P hash f t s = some r) :
    appendSchema P hash f' t s = some r :=
  Step.Ran.mono (c := .append t) h hle

theorem C20_fuel_mono_findOrBuild (P : Prog) (hash : Key → String) (f f' : Nat) (hle : f ≤ f')
    (t : Ty) (s : BState) (r : Nat × BState) (h : findOrBuild P hash f t s = some r) :
    findOrBuild P hash f' t s = some r :=
  Step.Ran.mono (c := .find t r.1) h hle

theorem C20_fuel_mono_fieldInst (P : Prog) (hash : Key → String) (f f' : Nat) (hle : f ≤ f')
    (d : Decl) (args : List Ty) (fl : Field) (kind : FieldKind) (rn : String) (s : BState)
    (r : Nat × BState) (h : fieldInst P hash f d args fl kind rn s = some r) :
    fieldInst P hash f' d args fl kind rn s = some r :=
  Step.Ran.mono (c := .field d args fl kind rn r.1) h hle

theorem C20_fuel_mono_recordFields (P : Prog) (hash : Key → String) (f f' : Nat) (hle : f ≤ f')
    (d : Decl) (args : List Ty) (tn : String) (fs : List Field) (s : BState)
    (r : List (String × Nat) × BState) (h : recordFields P hash f d args tn fs s = some r) :
    recordFields P hash f' d args tn fs s = some r :=
  Step.Ran.mono (c := .fields d args tn fs r.1) h hle

theorem C20_fuel_mono_unionVariants (P : Prog) (hash : Key → String) (f f' : Nat) (hle : f ≤ f')
    (d : Decl) (args : List Ty) (vs : List Variant) (s : BState)
    (r : List Nat × BState) (h : unionVariants P hash f d args vs s = some r) :
    unionVariants P hash f' d args vs s = some r :=
  Step.Ran.mono (c := .variants d args vs r.1) h hle

/-- The derived schema does not depend on the fuel: it is a function of the program. -/
theorem C20_fuel_mono (P : Prog) (hash : Key → String) (f f' : Nat) (hle : f ≤ f') (t : Ty)
    (S : SchemaMut) (h : schemaMut P hash f t = some S) : schemaMut P hash f' t = some S := by
  obtain ⟨k, s', hf, rfl⟩ := schemaMut_some h
  unfold schemaMut
  rw [C20_fuel_mono_findOrBuild P hash f f' hle t {} (k, s') hf]
  rfl

/-- Two fuels that both suffice give the same schema. -/
theorem C20_fuel_irrelevant (P : Prog) (hash : Key → String) (f f' : Nat) (t : Ty)
    (S S' : SchemaMut) (h : schemaMut P hash f t = some S) (h' : schemaMut P hash f' t = some S') :
    S = S' := by
  cases Nat.le_total f f' with
  | inl hle =>
    rw [C20_fuel_mono P hash f f' hle t S h] at h'
    exact Option.some.inj h'
  | inr hle =>
    rw [C20_fuel_mono P hash f' f hle t S' h'] at h
    exact (Option.some.inj h).symm

/-! ### Built once -/

/-- After `find_or_build::<T>()` the lookup type of `T` is registered under the returned key. -/
theorem C20_built_once (P : Prog) (hash : Key → String) (fuel : Nat) (t : Ty) (s s' : BState)
    (idx : Nat) (key : Key) (h : findOrBuild P hash (fuel + 1) t s = some (idx, s'))
    (hk : lookupKey P (fuel + 1) t = some key) : s'.built.lookup key = some idx := by
  obtain ⟨key', hk', hreg⟩ := (Builds.of_ran _ (.find t idx) s s' h).find_reg
  rw [hk] at hk'
  cases hk'
  exact hreg

/-- …so a second `find_or_build::<T>()` (with any fuel that is at least as large) returns the same
    key and leaves the builder as it is: a type is built once. -/
theorem C20_built_once_reuse (P : Prog) (hash : Key → String) (fuel fuel' : Nat)
    (hle : fuel + 1 ≤ fuel') (t : Ty) (s s' : BState) (idx : Nat)
    (h : findOrBuild P hash (fuel + 1) t s = some (idx, s')) :
    findOrBuild P hash fuel' t s' = some (idx, s') := by
  obtain ⟨key, hk, hreg⟩ := (Builds.of_ran _ (.find t idx) s s' h).find_reg
  exact ((Builds.found (n := fuel) hk hreg).mono hle).ran

/-! ### Non-vacuity -/

/-- `struct Node { value: i32, next: Option<Box<Node>> }` -/
def listProg : Prog :=
  #[{ ident := "Node", modulePath := "m",
      body := .record [{ name := "value", ty := .i32 },
                       { name := "next", ty := .option (.ptr (.named 0 [])) }] }]

example : (schemaMut listProg (fun _ => "h") 50 (.named 0 [])).isSome = true := by decide +kernel

/-- The recursive reference resolves to node 0, the record being built. -/
example : (schemaMut listProg (fun _ => "h") 50 (.named 0 [])).map (fun S => S.toList.map (·.type.children))
    = some [[1, 2], [], [3, 0], []] := by decide +kernel

/-- A generic record with logical-type fields (`build_logical_type` relabels the node it made),
    used twice by a recursive record:
    `struct Ev<T> { #[logical_type = "timestamp-millis"] at: i64, payload: Vec<T>,
                    #[logical_type = "uuid"] id: [u8; 16] }`,
    `struct Log { first: Ev<String>, again: HashMap<String, Ev<String>>, rest: Option<Box<Log>> }`. -/
def logProg : Prog :=
  #[{ ident := "Ev", modulePath := "m", nparams := 1,
      body := .record [{ name := "at", ty := .i64, attr := { logical := some "timestamp-millis" } },
                       { name := "payload", ty := .vec (.param 0) },
                       { name := "id", ty := .byteArray 16, attr := { logical := some "uuid" } }] },
    { ident := "Log", modulePath := "m",
      body := .record [{ name := "first", ty := .named 0 [.string] },
                       { name := "again", ty := .hashMap (.named 0 [.string]) },
                       { name := "rest", ty := .option (.ptr (.named 1 [])) }] }]

/-- (Kernel evaluation, because the elaborator's `whnf` is slow on the string comparisons of
    `known (pascal …)`; no axiom is added.) -/
example : (schemaMut logProg (fun _ => "h") 50 (.named 1 [])).map (fun S => S.toList.map (·.type.children))
    = some [[1, 6, 7], [2, 3, 5], [], [4], [], [], [1], [8, 0], []] := by decide +kernel

end Avro.Theorems
