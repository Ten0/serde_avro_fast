import AvroModel.Lemmas.OcfWriter
/-
C16: for every schedule of partial writes and interruptions by the sink, the byte stream the
sink ends up with is identical to the one a sink that accepts everything would get — nothing
lost, duplicated or reordered.  If the sink reports a hard error or accepts zero bytes, the
failing call returns an error.

`Benign` (only `interrupted` and `accept k`, `k ≥ 1`), `core` (a writer state without the sink's
schedule and call counter), `Sim`, `wrun` are defined in `Lemmas/OcfWriter.lean`.  The vectored loop
depends on the concatenation of its buffers only (`writeAllVectored_eq_flat`), so the statements on
schedules are the flat loop's (`writeFlat_*`); those on the writer are `wstep_sim` (every call respects
`Sim`) folded over a history.
-/
namespace Avro.Theorems
open Avro Avro.Impl Avro.Impl.Ocf

/-! ### `IoSlice::advance_slices` -/

/-- Advancing by `n` drops exactly the first `n` bytes of the concatenation. (The bound on `n`
    is the precondition of the Rust function; the model does not need it.) -/
theorem C16_advanceSlices_flatten (bufs : List Bytes) (n : Nat) (_h : n ≤ bufs.flatten.length) :
    (advanceSlices bufs n).flatten = bufs.flatten.drop n :=
  advanceSlices_flatten bufs n

/-- `advance_slices(0)` strips leading empty buffers only: the result is a suffix of the list,
    its first buffer (if any) is not empty, and the concatenation is unchanged. -/
theorem C16_advanceSlices_zero (bufs : List Bytes) :
    (advanceSlices bufs 0).flatten = bufs.flatten ∧ advanceSlices bufs 0 <:+ bufs ∧
      (∀ b ∈ (advanceSlices bufs 0).head?, b ≠ []) ∧
      ((advanceSlices bufs 0).isEmpty = true ↔ bufs.flatten = []) :=
  ⟨advanceSlices_zero_flatten bufs, advanceSlices_zero_suffix bufs,
    advanceSlices_zero_head_ne_nil bufs, advanceSlices_zero_isEmpty bufs⟩

/-! ### Benign schedules do not change the bytes delivered -/

theorem C16_schedule_independent (fuel : Nat) (bufs : List Bytes) (s : Sink)
    (hb : Benign s.sched) (hf : fuel ≥ sinkFuel s bufs) :
    ∃ s', writeAllVectored fuel bufs s = (.ok (), s') ∧ s'.data = s.data ++ bufs.flatten ∧
      Benign s'.sched :=
  writeAllVectored_benign fuel bufs s hb hf

/-- Same statement against the all-accepting sink: same result, same bytes. -/
theorem C16_schedule_independent' (bufs : List Bytes) (s : Sink) (hb : Benign s.sched) :
    let s₀ : Sink := { s with sched := [] }
    (writeAllVectored (sinkFuel s bufs) bufs s).1 = (writeAllVectored (sinkFuel s₀ bufs) bufs s₀).1 ∧
    (writeAllVectored (sinkFuel s bufs) bufs s).2.data
      = (writeAllVectored (sinkFuel s₀ bufs) bufs s₀).2.data := by
  intro s₀
  obtain ⟨s1, h1, h2, _⟩ := writeAllVectored_benign (sinkFuel s bufs) bufs s hb (Nat.le_refl _)
  obtain ⟨s2, h1', h2', _⟩ := writeAllVectored_benign (sinkFuel s₀ bufs) bufs s₀ Benign.nil (Nat.le_refl _)
  rw [h1, h1']
  exact ⟨rfl, by rw [h2, h2']⟩

/-- `write_all` (one buffer, plain writes). -/
theorem C16_schedule_independent_plain (fuel : Nat) (buf : Bytes) (s : Sink)
    (hb : Benign s.sched) (hf : fuel ≥ sinkFuel s [buf]) :
    ∃ s', writeAllPlain fuel buf s = (.ok (), s') ∧ s'.data = s.data ++ buf ∧ Benign s'.sched := by
  obtain ⟨s', h1, h2, h3⟩ := writeAllVectored_benign fuel [buf] s hb hf
  exact ⟨s', h1, by simpa using h2, h3⟩

/-! ### Arbitrary schedules: a prefix is delivered, errors are reported -/

/-- Whatever the schedule and the outcome, the sink has received a prefix of the bytes offered
    (all of them when the call succeeds), and the schedule has been consumed from the front. -/
theorem C16_prefix (fuel : Nat) (bufs : List Bytes) (s : Sink) (r : Except WErr Unit) (s' : Sink)
    (h : writeAllVectored fuel bufs s = (r, s')) :
    ∃ m, m ≤ bufs.flatten.length ∧ s'.data = s.data ++ bufs.flatten.take m ∧
      (r = .ok () → m = bufs.flatten.length) ∧ s'.sched <:+ s.sched ∧ s.calls ≤ s'.calls := by
  rw [writeAllVectored_eq_flat] at h
  exact writeFlat_prefix fuel bufs.flatten s r s' h

theorem C16_prefix_on_error (fuel : Nat) (bufs : List Bytes) (s : Sink) (e : WErr) (s' : Sink)
    (h : writeAllVectored fuel bufs s = (.error e, s')) :
    ∃ m, s'.data = s.data ++ bufs.flatten.take m := by
  obtain ⟨m, _, h2, _⟩ := C16_prefix fuel bufs s _ s' h
  exact ⟨m, h2⟩

theorem C16_all_on_ok (fuel : Nat) (bufs : List Bytes) (s : Sink) (s' : Sink)
    (h : writeAllVectored fuel bufs s = (.ok (), s')) :
    s'.data = s.data ++ bufs.flatten := by
  obtain ⟨m, _, h2, h3, _⟩ := C16_prefix fuel bufs s _ s' h
  rw [h2, h3 rfl, List.take_length]

/-- `Ok(0)` from the sink (after any number of interruptions) while bytes remain: the call fails
    with the I/O error `WriteZero`; nothing was delivered. -/
theorem C16_zero_is_error (fuel : Nat) (bufs : List Bytes) (s : Sink) (pre rest : List SinkResp)
    (hs : s.sched = pre ++ .accept 0 :: rest) (hpre : ∀ r ∈ pre, r = .interrupted)
    (hbs : bufs.flatten ≠ []) (hf : pre.length < fuel) :
    writeAllVectored fuel bufs s =
      (.error .io, { s with sched := rest, calls := s.calls + pre.length + 1 }) := by
  rw [writeAllVectored_eq_flat]
  exact writeFlat_fails fuel bufs.flatten s pre rest _ (.inr rfl) hs hpre hbs hf

/-- A hard error from the sink (after any number of interruptions) while bytes remain: the call
    fails with that I/O error; nothing was delivered. -/
theorem C16_hard_error_is_error (fuel : Nat) (bufs : List Bytes) (s : Sink) (pre rest : List SinkResp)
    (hs : s.sched = pre ++ .hardError :: rest) (hpre : ∀ r ∈ pre, r = .interrupted)
    (hbs : bufs.flatten ≠ []) (hf : pre.length < fuel) :
    writeAllVectored fuel bufs s =
      (.error .io, { s with sched := rest, calls := s.calls + pre.length + 1 }) := by
  rw [writeAllVectored_eq_flat]
  exact writeFlat_fails fuel bufs.flatten s pre rest _ (.inl rfl) hs hpre hbs hf

/-- The fuel the writer uses (`sinkFuel`) is enough for the two previous statements. -/
theorem C16_sinkFuel_enough (s : Sink) (bufs : List Bytes) (pre : List SinkResp) (r : SinkResp)
    (rest : List SinkResp) (hs : s.sched = pre ++ r :: rest) : pre.length < sinkFuel s bufs := by
  simp only [sinkFuel, hs, List.length_append, List.length_cons]; omega

/-! ### The writer -/

/-- With a benign schedule, the pending block reaches the sink entirely and exactly once:
    header (count, size), data, sync marker. -/
theorem C16_flush_independent (c : Codec) (w : WState) (header : Bytes)
    (hp : w.pending = some header) (ht : ¬ w.taken) (hb : Benign w.sink.sched) :
    ∃ s1, flushFinishedBlock c w = (.ok (), { w with sink := s1, pending := none, buf := [] }) ∧
      s1.data = w.sink.data ++ (header ++ blockData c w ++ w.sync) ∧ Benign s1.sched :=
  flushFinishedBlock_benign c w header hp (by simpa using ht) hb

/-- One writer call: with a benign schedule, same result and same state (sink bytes, buffer,
    count, pending block, …) as with the all-accepting sink; the rest of the schedule is benign. -/
theorem C16_wstep_independent (c : Codec) (dbg : Bool) (w : WState) (op : WOp)
    (hb : Benign w.sink.sched) :
    (wstep c dbg w op).1 = (wstep c dbg (core w) op).1 ∧
      core (wstep c dbg w op).2 = core (wstep c dbg (core w) op).2 ∧
      Benign (wstep c dbg w op).2.sink.sched := by
  obtain ⟨h1, h2⟩ := wstep_sim c dbg w (core w) op (Sim.of_core w hb)
  exact ⟨h1, h2.core_eq, h2.benign⟩

/-- The same for two arbitrary benign schedules. -/
theorem C16_wstep_independent' (c : Codec) (dbg : Bool) (w w' : WState) (op : WOp)
    (h : Sim w w') :
    (wstep c dbg w op).1 = (wstep c dbg w' op).1 ∧ Sim (wstep c dbg w op).2 (wstep c dbg w' op).2 :=
  wstep_sim c dbg w w' op h

/-- What `core` keeps: everything but the schedule and the call counter. -/
theorem C16_core_fields (w w' : WState) (h : core w = core w') :
    w.sink.data = w'.sink.data ∧ w.buf = w'.buf ∧ w.n = w'.n ∧ w.pending = w'.pending ∧
      w.compressed = w'.compressed ∧ w.taken = w'.taken ∧ w.sync = w'.sync ∧ w.approx = w'.approx := by
  have := (core_eq_iff w w').1 h
  simp only [this, and_self]

/-- Whole histories of calls (`wrun` is a `List.foldl` of `wstep` collecting the results):
    same results of all calls, same final state up to the schedule. -/
theorem C16_run_independent (c : Codec) (dbg : Bool) (w : WState) (ops : List WOp)
    (hb : Benign w.sink.sched) :
    (wrun c dbg w ops).1 = (wrun c dbg (core w) ops).1 ∧
      core (wrun c dbg w ops).2 = core (wrun c dbg (core w) ops).2 ∧
      Benign (wrun c dbg w ops).2.sink.sched := by
  obtain ⟨h1, h2⟩ := wrun_sim c dbg ops w (core w) (Sim.of_core w hb)
  exact ⟨h1, h2.core_eq, h2.benign⟩

/-- In particular the bytes in the sink after a history of calls do not depend on the schedule. -/
theorem C16_run_sink_data (c : Codec) (dbg : Bool) (w : WState) (ops : List WOp)
    (hb : Benign w.sink.sched) :
    (wrun c dbg w ops).2.sink.data = (wrun c dbg (core w) ops).2.sink.data :=
  (C16_core_fields _ _ (C16_run_independent c dbg w ops hb).2.1).1

private theorem wrun_snd (c : Codec) (dbg : Bool) : ∀ (ops : List WOp) (w : WState),
    (wrun c dbg w ops).2 = ops.foldl (fun w op => (wstep c dbg w op).2) w
  | [], _ => rfl
  | op :: ops, w => by rw [wrun_cons, List.foldl_cons]; exact wrun_snd c dbg ops _

/-- Plain `List.foldl` on states. -/
theorem C16_foldl_independent (c : Codec) (dbg : Bool) (w : WState) (ops : List WOp)
    (hb : Benign w.sink.sched) :
    core (ops.foldl (fun w op => (wstep c dbg w op).2) w)
      = core (ops.foldl (fun w op => (wstep c dbg w op).2) (core w)) := by
  have := (C16_run_independent c dbg w ops hb).2.1
  rwa [wrun_snd, wrun_snd] at this

end Avro.Theorems
