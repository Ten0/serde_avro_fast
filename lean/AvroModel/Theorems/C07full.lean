import AvroModel.Theorems.C07
import AvroModel.Theorems.C07validExamples
/-
C07 — all parts together: the parser's rules are the specification's (`C07.lean`); every document valid
in the sense of `Spec.ValidDoc` parses and resolves as the specification designates (`C07valid.lean`),
instantiated in `C07validExamples.lean`.
-/
