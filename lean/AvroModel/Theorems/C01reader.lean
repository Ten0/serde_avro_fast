import AvroModel.Lemmas.ReaderTransfer
import AvroModel.Theorems.ExampleDataA
import AvroModel.Lemmas.OutEq
import AvroModel.Theorems.C01glue
/-
C01 on the STREAMING-READER back-end: what the serializer writes, read back through a reader
with ANY refill schedule, gives the observation of the value — up to the `borrowed` flags — and
leaves exactly what followed.  The slice theorems of `Theorems/C01de.lean` and
`Theorems/C01glue.lean` transferred through C11 (`Lemmas/ReaderTransfer.lean`), with the
conventions of `Theorems/C03reader.lean`.  The side condition `ha : s.avail = 0` of the slice
theorems, which is needed there only for the stated final state (`C01_avail_counterexample`), has
no counterpart: any buffer position `avail ≤ rest.length` is allowed.
-/
namespace Avro.Theorems
open Avro Avro.Impl Avro.Spec

/-- **C01 (deserializer accepts canonical encodings), streaming reader**, with the fuel bound
    `3 * size v` that the induction gives. -/
theorem C01_de_accepts_fuel3_reader (cfg : DeConfig) (S : Schema) (n : Node) (v : Spec.Value)
    (enc rest : Bytes) (o : Out) (depth : Nat)
    (henc : Spec.encode S n v = some enc) (hobs : Spec.observe S n v = some o)
    (hfix : Spec.fixedDecOk S n v = true)
    (hdepth : Spec.depthOf v ≤ depth) (hseq : Spec.maxLen v ≤ cfg.maxSeqSize)
    (fuel : Nat) (hfuel : 3 * Spec.size v ≤ fuel)
    (r : RState) (hs : r.isSlice = false) (hl : r.limit = none) (ha : r.avail ≤ r.rest.length)
    (hm : r.rest.length ≤ r.maxAlloc) (hr : r.rest = enc ++ rest) :
    ∃ o' r', de deExtModel cfg S fuel n depth false .any r = (.ok o', r') ∧
      unborrow o' = unborrow o ∧ r'.rest = rest ∧ ReaderOK r' :=
  de_reader_of_slice deExtModel cfg S fuel n depth false .any ⟨hs, hl, ha, hm⟩
    (C01_de_accepts_fuel3 cfg S n v enc rest o depth henc hobs hfix hdepth hseq fuel hfuel
      (sliceOf r) rfl hl rfl hr)

/-- **C01 (deserializer accepts canonical encodings), streaming reader.**  The statement of
    `C01_de_accepts` for a reader state with any refill schedule. -/
theorem C01_de_accepts_reader (cfg : DeConfig) (S : Schema) (n : Node) (v : Spec.Value)
    (enc rest : Bytes) (o : Out) (depth : Nat)
    (henc : Spec.encode S n v = some enc) (hobs : Spec.observe S n v = some o)
    (hfix : Spec.fixedDecOk S n v = true)
    (hdepth : Spec.depthOf v ≤ depth) (hseq : Spec.maxLen v ≤ cfg.maxSeqSize)
    (fuel : Nat) (hfuel : Spec.size v * 4 + 8 ≤ fuel)
    (r : RState) (hs : r.isSlice = false) (hl : r.limit = none) (ha : r.avail ≤ r.rest.length)
    (hm : r.rest.length ≤ r.maxAlloc) (hr : r.rest = enc ++ rest) :
    ∃ o' r', de deExtModel cfg S fuel n depth false .any r = (.ok o', r') ∧
      unborrow o' = unborrow o ∧ r'.rest = rest ∧ ReaderOK r' :=
  C01_de_accepts_fuel3_reader cfg S n v enc rest o depth henc hobs hfix hdepth hseq fuel (by omega)
    r hs hl ha hm hr

/-- The same with the side condition on fixed decimals stated on the schema. -/
theorem C01_de_accepts_schema_reader (cfg : DeConfig) (S : Schema) (n : Node) (v : Spec.Value)
    (enc rest : Bytes) (o : Out) (depth : Nat)
    (henc : Spec.encode S n v = some enc) (hobs : Spec.observe S n v = some o)
    (hS : Schema.fixedDecFits S) (hn : n.fixedDecFits = true)
    (hdepth : Spec.depthOf v ≤ depth) (hseq : Spec.maxLen v ≤ cfg.maxSeqSize)
    (fuel : Nat) (hfuel : Spec.size v * 4 + 8 ≤ fuel)
    (r : RState) (hs : r.isSlice = false) (hl : r.limit = none) (ha : r.avail ≤ r.rest.length)
    (hm : r.rest.length ≤ r.maxAlloc) (hr : r.rest = enc ++ rest) :
    ∃ o' r', de deExtModel cfg S fuel n depth false .any r = (.ok o', r') ∧
      unborrow o' = unborrow o ∧ r'.rest = rest ∧ ReaderOK r' :=
  de_reader_of_slice deExtModel cfg S fuel n depth false .any ⟨hs, hl, ha, hm⟩
    (C01_de_accepts_schema cfg S n v enc rest o depth henc hobs hS hn hdepth hseq fuel hfuel
      (sliceOf r) rfl hl rfl hr)

/-- Whole-input form: the encoding alone, behind a fresh reader with any chunk schedule, any
    scratch size and an allocation cap that covers it, is consumed entirely. -/
theorem C01_de_accepts_nil_reader (cfg : DeConfig) (S : Schema) (n : Node) (v : Spec.Value)
    (enc : Bytes) (o : Out)
    (henc : Spec.encode S n v = some enc) (hobs : Spec.observe S n v = some o)
    (hfix : Spec.fixedDecOk S n v = true)
    (hdepth : Spec.depthOf v ≤ cfg.allowedDepth) (hseq : Spec.maxLen v ≤ cfg.maxSeqSize)
    (sched : List Nat) (lastChunk maxAlloc scratch : Nat) (hm : enc.length ≤ maxAlloc) :
    ∃ o' r', de deExtModel cfg S (Spec.size v * 4 + 8) n cfg.allowedDepth false .any
        { isSlice := false, rest := enc, avail := 0, sched := sched, lastChunk := lastChunk,
          maxAlloc := maxAlloc, scratch := scratch, limit := none } = (.ok o', r') ∧
      unborrow o' = unborrow o ∧ r'.rest = [] ∧ ReaderOK r' :=
  C01_de_accepts_reader cfg S n v enc [] o cfg.allowedDepth henc hobs hfix hdepth hseq _
    (Nat.le_refl _) _ rfl rfl (Nat.zero_le _) hm (by simp)

/-- **C01, end to end, streaming reader.**  Serializing a presentation and deserializing the bytes
    written (followed by anything) through a streaming reader — every reader state `r` over
    `bytes ++ rest`: any refill schedule `r.sched` / `r.lastChunk`, any buffer position, any
    scratch size — with the untyped target yields `Spec.observe` of a value `v` the presentation
    denotes, up to the `borrowed` flags, and leaves exactly what followed. -/
theorem C01_roundtrip_impl_reader (f : Canon.Allow) (ext : Ext) (allowSlow : Bool)
    (S : Schema) (node : Node) (sv : SV) (s₀ : SerState)
    (hok : (ser ext allowSlow S node sv s₀).1 = .ok ())
    (hs : Good s₀) (hS : SchemaOK S) (hnode : NodeOK S node) (hsv : svOK sv = true)
    (hext : ExtOK ext)
    (hcanon : Canon.svCanon f sv = true)
    (hallowS : ∀ (k : Nat) (n : Node), S[k]? = some n → Canon.nodeAllows f n = true)
    (hallowN : Canon.nodeAllows f node = true)
    (hfixS : Schema.fixedDecFits S) (hfixN : node.fixedDecFits = true) :
    ∃ s' bytes v, ser ext allowSlow S node sv s₀ = (.ok (), s') ∧ s'.out = s₀.out ++ bytes ∧
      Spec.encode S node v = some bytes ∧
      Spec.denotes (denExtOf ext) S node sv v = true ∧
      ∀ (cfg : DeConfig) (depth : Nat) (o : Out), Spec.observe S node v = some o →
        Spec.depthOf v ≤ depth → Spec.maxLen v ≤ cfg.maxSeqSize →
        ∀ fuel, Spec.size v * 4 + 8 ≤ fuel → ∀ (rest : Bytes) (r : RState),
          r.isSlice = false → r.limit = none → r.avail ≤ r.rest.length →
          r.rest.length ≤ r.maxAlloc → r.rest = bytes ++ rest →
          ∃ o' r', de deExtModel cfg S fuel node depth false .any r = (.ok o', r') ∧
            unborrow o' = unborrow o ∧ r'.rest = rest ∧ ReaderOK r' := by
  obtain ⟨s', bytes, v, hrun, hout, henc, hden, hde⟩ :=
    C01_roundtrip_impl f ext allowSlow S node sv s₀ hok hs hS hnode hsv hext hcanon hallowS hallowN
      hfixS hfixN
  refine ⟨s', bytes, v, hrun, hout, henc, hden, ?_⟩
  intro cfg depth o hobs hdepth hseq fuel hfuel rest r hsl hl ha hm hr
  exact de_reader_of_slice deExtModel cfg S fuel node depth false .any ⟨hsl, hl, ha, hm⟩
    (hde cfg depth o hobs hdepth hseq fuel hfuel rest (sliceOf r) rfl hl rfl hr)

/-- The round trip with the limits stated on the presentation, on a FRESH reader over
    `bytes ++ rest` with an arbitrary chunk schedule (`sched`, then `lastChunk` forever), scratch
    size and allocation cap (covering the input). -/
theorem C01_roundtrip_impl_bounded_reader (f : Canon.Allow) (ext : Ext) (allowSlow : Bool)
    (cfg : DeConfig) (S : Schema) (node : Node) (sv : SV) (s₀ : SerState) (depth : Nat)
    (hok : (ser ext allowSlow S node sv s₀).1 = .ok ())
    (hs : Good s₀) (hS : SchemaOK S) (hnode : NodeOK S node) (hsv : svOK sv = true)
    (hext : ExtOK ext)
    (hcanon : Canon.svCanon f sv = true)
    (hallowS : ∀ (k : Nat) (n : Node), S[k]? = some n → Canon.nodeAllows f n = true)
    (hallowN : Canon.nodeAllows f node = true)
    (hfixS : Schema.fixedDecFits S) (hfixN : node.fixedDecFits = true)
    (hlim : ∀ v, Spec.denotes (denExtOf ext) S node sv v = true →
      (Spec.observe S node v).isSome = true ∧ Spec.depthOf v ≤ depth ∧
        Spec.maxLen v ≤ cfg.maxSeqSize) :
    ∃ s' bytes v o, ser ext allowSlow S node sv s₀ = (.ok (), s') ∧ s'.out = s₀.out ++ bytes ∧
      Spec.denotes (denExtOf ext) S node sv v = true ∧ Spec.observe S node v = some o ∧
      ∀ fuel, Spec.size v * 4 + 8 ≤ fuel → ∀ (rest : Bytes) (sched : List Nat)
        (lastChunk maxAlloc scratch : Nat), (bytes ++ rest).length ≤ maxAlloc →
        ∃ o' r', de deExtModel cfg S fuel node depth false .any
            { isSlice := false, rest := bytes ++ rest, avail := 0, sched := sched,
              lastChunk := lastChunk, maxAlloc := maxAlloc, scratch := scratch, limit := none } =
            (.ok o', r') ∧
          unborrow o' = unborrow o ∧ r'.rest = rest ∧ ReaderOK r' := by
  obtain ⟨s', bytes, v, hrun, hout, _, hden, hde⟩ :=
    C01_roundtrip_impl_reader f ext allowSlow S node sv s₀ hok hs hS hnode hsv hext hcanon hallowS
      hallowN hfixS hfixN
  obtain ⟨hobs, hdepth, hseq⟩ := hlim v hden
  obtain ⟨o, ho⟩ := Option.isSome_iff_exists.1 hobs
  refine ⟨s', bytes, v, o, hrun, hout, hden, ho, ?_⟩
  intro fuel hfuel rest sched lastChunk maxAlloc scratch hm
  exact hde cfg depth o ho hdepth hseq fuel hfuel rest _ rfl rfl (Nat.zero_le _) hm rfl

/-! ### Non-vacuity (data: `Theorems/ExampleDataA.lean`) -/

namespace ReaderNV
open Avro.Theorems.NVB Avro.NonVacuityA Driver

/-- a fresh reader over `bs` with the chunk schedule 1, 2, 3, 1, 1, … and a cap of `M` bytes -/
def rd123 (bs : Bytes) (M : Nat) : RState :=
  { isSlice := false, rest := bs, avail := 0, sched := [1, 2, 3], lastChunk := 1, maxAlloc := M }

/-- **`C01_de_accepts_schema_reader`** / **`C01_de_accepts_reader`**: the canonical encoding
    `bytesB` of `vB` (record: array, union with a string, decimal on bytes, enum, decimal on
    fixed) followed by ANY `rest`, with any cap that covers the input. -/
theorem rB_accepts (rest : Bytes) (M : Nat) (hM : (bytesB ++ rest).length ≤ M) :
    ∃ o' r', de deExtModel {} SB 100 nodeB 64 false .any (rd123 (bytesB ++ rest) M) = (.ok o', r') ∧
      unborrow o' = unborrow oB ∧ r'.rest = rest ∧ ReaderOK r' :=
  C01_de_accepts_schema_reader {} SB nodeB vB bytesB rest oB 64 vB_encode vB_observe SB_fixedDecFits
    (by decide +kernel) (by decide +kernel) (by decide +kernel) 100 (by decide +kernel)
    (rd123 (bytesB ++ rest) M) rfl rfl (Nat.zero_le _) hM rfl

/-- **`C01_roundtrip_impl_reader`**, fully concrete: `ser` writes `bytesB`; read back through the
    reader with refills 1, 2, 3, 1, 1, …, followed by any `rest`, it gives `observe vB` up to the
    `borrowed` flags and leaves `rest`. -/
theorem rB_roundtrip (rest : Bytes) (M : Nat) (hM : (bytesB ++ rest).length ≤ M) :
    ∃ s', ser tB.toExt false SB nodeB svB {} = (.ok (), s') ∧ s'.out = bytesB ∧
      Spec.denotes (denExtOf tB.toExt) SB nodeB svB vB = true ∧
      ∃ o' r', de deExtModel {} SB 100 nodeB 64 false .any (rd123 (s'.out ++ rest) M) =
          (.ok o', r') ∧
        unborrow o' = unborrow oB ∧ r'.rest = rest ∧ ReaderOK r' := by
  obtain ⟨s', bytes, v, hrun, hout, henc, hden, hde⟩ :=
    C01_roundtrip_impl_reader {} tB.toExt false SB nodeB svB {} svB_ok C01glue.good_empty SB_ok
      nodeB_ok (by decide +kernel) tB_ok (by decide +kernel) SB_allows (by decide +kernel)
      SB_fixedDecFits (by decide +kernel)
  have hout' : s'.out = bytesB := by simpa [hrun] using svB_out
  obtain rfl : bytes = bytesB := by simpa [hout'] using hout.symm
  obtain rfl : v = vB := encode_injective henc vB_encode
  refine ⟨s', hrun, hout', hden, ?_⟩
  rw [hout']
  exact hde {} 64 oB vB_observe (by decide +kernel) (by decide +kernel) 100 (by decide +kernel)
    rest (rd123 (bytesB ++ rest) M) rfl rfl (Nat.zero_le _) hM rfl

/-- what the reader delivers: `oB` with the one borrowed string (`"x"`) copied -/
def oBr : Out := .map [(.str "a" false, .seq [.i64 1, .i64 3]), (.str "u" false, .str "x" false),
  (.str "d" false, .str "1.50" false), (.str "e" false, .str "B" false),
  (.str "f" false, .str "7.0" false)]

/-- The run on `bytesB ++ [9, 9]`, by evaluation: value `oBr`, `[9, 9]` left, the schedule used
    up; the 4-byte fixed decimal is read with `read_exact`, nothing needed the scratch buffer. -/
theorem rB_run : de deExtModel {} SB 100 nodeB 64 false .any (rd123 (bytesB ++ [9, 9]) 64) =
    (.ok oBr, { rd123 [9, 9] 64 with avail := 0, sched := [] }) :=
  resEq_of (by decide +kernel)

/-- **The value is `observe v` only up to `unborrow`**: on the slice the deserializer returns `oB`
    (`C01_roundtrip_impl`), on the reader `oBr`. -/
theorem C01reader_value_not_equal :
    (de deExtModel {} SB 100 nodeB 64 false .any (sliceOf (rd123 (bytesB ++ [9, 9]) 64))).1 = .ok oB ∧
    (de deExtModel {} SB 100 nodeB 64 false .any (rd123 (bytesB ++ [9, 9]) 64)).1 = .ok oBr ∧
    oBr ≠ oB ∧ unborrow oBr = unborrow oB := by
  refine ⟨fstEq_of (by decide +kernel), by rw [rB_run], ?_, ?_⟩
  · simp [oBr, oB]
  · simp [oBr, oB, unborrow, unborrowP, unborrowL]

/-- **`C01_roundtrip_impl_bounded_reader`** on `Some(vec![1i64, -3])` for
    `union [null, array<long>]` (`NonVacuityA`, where its `hlim` — over EVERY value the
    presentation denotes — is proved): every schedule, scratch size and cap are universally
    quantified in the conclusion. -/
example : ∃ s' bytes v o, ser ({} : ExtTable).toExt false SU nodeU svU {} = (.ok (), s') ∧
    s'.out = ({} : SerState).out ++ bytes ∧
    Spec.denotes (denExtOf ({} : ExtTable).toExt) SU nodeU svU v = true ∧
    Spec.observe SU nodeU v = some o ∧
    ∀ fuel, Spec.size v * 4 + 8 ≤ fuel → ∀ (rest : Bytes) (sched : List Nat)
      (lastChunk maxAlloc scratch : Nat), (bytes ++ rest).length ≤ maxAlloc →
      ∃ o' r', de deExtModel { maxSeqSize := 2, allowedDepth := 2 } SU fuel nodeU 2 false .any
          { isSlice := false, rest := bytes ++ rest, avail := 0, sched := sched,
            lastChunk := lastChunk, maxAlloc := maxAlloc, scratch := scratch, limit := none } =
          (.ok o', r') ∧
        unborrow o' = unborrow o ∧ r'.rest = rest ∧ ReaderOK r' :=
  C01_roundtrip_impl_bounded_reader { negInt := true } ({} : ExtTable).toExt false
    { maxSeqSize := 2, allowedDepth := 2 } SU nodeU svU {} 2
    (eq_ok_of_isOk (by decide +kernel)) C01glue.good_empty SU_ok nodeU_ok
    (by decide +kernel) empty_ok (by decide +kernel) SU_allows_negInt (by decide +kernel)
    SU_fixedDecFits (by decide +kernel) (svU_lim _)

/-- **`C01_de_accepts_nil_reader`**: the whole-input form, the schedule given as parameters, the
    tightest depth, sequence and allocation limits. -/
example (sched : List Nat) (lastChunk scratch : Nat) :
    ∃ o' r', de deExtModel { maxSeqSize := 2, allowedDepth := 2 } SB (Spec.size vB * 4 + 8) nodeB 2
        false .any
        { isSlice := false, rest := bytesB, avail := 0, sched := sched, lastChunk := lastChunk,
          maxAlloc := 15, scratch := scratch, limit := none } = (.ok o', r') ∧
      unborrow o' = unborrow oB ∧ r'.rest = [] ∧ ReaderOK r' :=
  C01_de_accepts_nil_reader { maxSeqSize := 2, allowedDepth := 2 } SB nodeB vB bytesB oB vB_encode
    vB_observe (by decide +kernel) (by decide +kernel) (by decide +kernel) sched lastChunk 15
    scratch (by decide)

end ReaderNV

end Avro.Theorems
