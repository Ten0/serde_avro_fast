import AvroModel.Lemmas.SerTriples
/-
C14: a `SerializerConfig` can be reused.  Whatever a serialization does (success, a custom error
at any depth, an I/O error after any number of bytes) a clean buffer pool is handed back clean,
and on a clean pool none of the `assert!(v.is_empty())` sites nor the `field_idx` `Equal` arm can
be reached; the only `.panic` the model can produce is a schema key out of bounds.
-/
namespace Avro.Theorems
open Avro Avro.Impl

/-- C14.1: for every outcome, a clean pool stays clean. -/
theorem C14_pool_clean (ext : Ext) (allowSlow : Bool) (S : Schema) (node : Node) (sv : SV)
    (s : SerState) (h : PoolClean s.pool) : PoolClean (ser ext allowSlow S node sv s).2.pool :=
  PoolClean.iff_base.2
    ((ser_sim ext allowSlow (P := False) nofun sv node nofun).clean (PoolClean.iff_base.1 h))

/-- C14.2 with the hypothesis the statement needs: the start node's own child keys are in bounds
    (`NodeOK S node := ∀ k ∈ node.children, k < S.size`; automatic when `node` is a node of `S`,
    see `C14_no_assert_panic_of_get`).  Without it the statement is false, see
    `C14_no_assert_panic_counterexample`. -/
theorem C14_no_assert_panic_partial (ext : Ext) (allowSlow : Bool) (S : Schema) (node : Node)
    (sv : SV) (s : SerState) (h : PoolClean s.pool) (hn : NodeOK S node) :
    (ser ext allowSlow S node sv s).1 ≠ .error .panic ∨ ¬ S.keysInBounds := by
  by_cases hk : S.keysInBounds = true
  · left
    exact (((ser_tr (P := True) ext allowSlow (fun _ => hk) sv node (fun _ => hn)).out s h).2
      trivial).1
  · right; exact hk

/-- C14.2 for a start node taken from the schema (the crate always starts at the root `S[0]`). -/
theorem C14_no_assert_panic_of_get (ext : Ext) (allowSlow : Bool) (S : Schema) (k : Nat)
    (node : Node) (hnode : S[k]? = some node) (sv : SV) (s : SerState) (h : PoolClean s.pool) :
    (ser ext allowSlow S node sv s).1 ≠ .error .panic ∨ ¬ S.keysInBounds := by
  by_cases hk : S.keysInBounds = true
  · exact C14_no_assert_panic_partial ext allowSlow S node sv s h (NodeOK.of_get hk hnode)
  · right; exact hk

/-- The unconditional statement fails for a start node that is not a node of the schema:
    `S = #[]` (all keys trivially in bounds), `node = union [5]`, `sv = unitStruct "x"`:
    the `null` pseudo-branch is selected and resolving key 5 panics. -/
theorem C14_no_assert_panic_counterexample :
    ∃ (ext : Ext) (allowSlow : Bool) (S : Schema) (node : Node) (sv : SV) (s : SerState),
      PoolClean s.pool ∧ (ser ext allowSlow S node sv s).1 = .error .panic ∧ S.keysInBounds := by
  refine ⟨⟨fun _ => 0, fun _ => none, fun _ => none, fun d _ => d⟩, false, #[], .union [5],
    .unitStruct "x", {}, PoolClean.empty, ?_, ?_⟩
  · rfl
  · simp [Schema.keysInBounds]

/-- On a clean pool the two `assert!(v.is_empty())` pops never fire. -/
theorem C14_pop_never_panics (s : SerState) (h : PoolClean s.pool) :
    (popBuffer s).1 ≠ .error .panic ∧ (popSuperBuffer s).1 ≠ .error .panic := by
  obtain ⟨_, _, e1, _⟩ := popBuffer_op s (PoolClean.iff_base.1 h)
  obtain ⟨_, _, e2, _⟩ := popSuperBuffer_op s (PoolClean.iff_base.1 h)
  rw [e1, e2]
  exact ⟨nofun, nofun⟩

/-- `field_idx` never reaches its `Ordering::Equal => panic!` arm. -/
theorem C14_fieldIdx_no_panic (fields : List (String × Nat)) (rs : RecordState) (name : String) :
    fieldIdx fields rs name ≠ .error .panic :=
  fieldIdx_no_panic fields rs name

/-- General form of C14.3: two runs whose writers differ by a prefix `pre`, with the same budget
    and arbitrary clean pools, give the same result, the same bytes after the prefix and the same
    remaining budget. -/
theorem C14_pool_prefix_irrelevant (ext : Ext) (allowSlow : Bool) (S : Schema) (node : Node)
    (sv : SV) (pre o : Bytes) (b : Option Nat) (p1 p2 : Pool) (h1 : PoolClean p1)
    (h2 : PoolClean p2) :
    (ser ext allowSlow S node sv { out := pre ++ o, budget := b, pool := p1 }).1 =
      (ser ext allowSlow S node sv { out := o, budget := b, pool := p2 }).1 ∧
    (ser ext allowSlow S node sv { out := pre ++ o, budget := b, pool := p1 }).2.out =
      pre ++ (ser ext allowSlow S node sv { out := o, budget := b, pool := p2 }).2.out ∧
    (ser ext allowSlow S node sv { out := pre ++ o, budget := b, pool := p1 }).2.budget =
      (ser ext allowSlow S node sv { out := o, budget := b, pool := p2 }).2.budget := by
  have hs : SerSim False pre { out := pre ++ o, budget := b, pool := p1 }
      { out := o, budget := b, pool := p2 } := ⟨rfl, rfl, fun h => h.elim, h1, h2⟩
  rcases (ser_rel (U := False) ext allowSlow sv node).out _ _ _ hs with
    ⟨_, _, t1, t2, e1, e2, rfl, ht⟩ | ⟨e, t1, t2, e1, e2, ht⟩
  · rw [e1, e2]; exact ⟨rfl, ht.1, ht.2.1⟩
  · rw [e1, e2]; exact ⟨rfl, ht.1, ht.2.1⟩

/-- C14.3: for a clean pool, the result, the bytes written and the remaining budget are those of
    a run with the empty pool: what is in a (clean) `SerializerConfig` is unobservable. -/
theorem C14_pool_irrelevant (ext : Ext) (allowSlow : Bool) (S : Schema) (node : Node) (sv : SV)
    (o : Bytes) (b : Option Nat) (p : Pool) (hp : PoolClean p) :
    (ser ext allowSlow S node sv { out := o, budget := b, pool := p }).1 =
      (ser ext allowSlow S node sv { out := o, budget := b, pool := {} }).1 ∧
    (ser ext allowSlow S node sv { out := o, budget := b, pool := p }).2.out =
      (ser ext allowSlow S node sv { out := o, budget := b, pool := {} }).2.out ∧
    (ser ext allowSlow S node sv { out := o, budget := b, pool := p }).2.budget =
      (ser ext allowSlow S node sv { out := o, budget := b, pool := {} }).2.budget := by
  have := C14_pool_prefix_irrelevant ext allowSlow S node sv [] o b p {} hp PoolClean.empty
  simpa using this

end Avro.Theorems
