import AvroModel.Lemmas.Crc
/-
C08 (checksum part): the fingerprint function of the implementation, over the table and seed
extracted from the running code, is the CRC-64-AVRO of the specification, for every byte string.
-/
namespace Avro.Theorems
open Avro Avro.Spec Avro.Impl Avro.Generated

/-- The extracted seed is the specification's `EMPTY`. -/
theorem C08_seed : rabinEmpty = Spec.EMPTY := by decide +kernel

/-- The extracted table is the specification's `FP_TABLE` (complete table, checked by kernel
    evaluation; as lists, because indexing the array 256 times is ten times dearer). -/
theorem C08_table_eq : rabinTable.toList = (List.range 256).map Spec.tableEntry := by
  decide +kernel

theorem C08_table (i : Nat) (h : i < 256) : rabinTable[i]! = Spec.tableEntry i := by
  have e : rabinTable[i]? = some (Spec.tableEntry i) := by
    rw [← Array.getElem?_toList, C08_table_eq]
    simp [h]
  rw [getElem!_def, e]

theorem C08_table_all :
    (List.range 256).all (fun i => rabinTable[i]! == Spec.tableEntry i) = true :=
  List.all_eq_true.mpr fun i hi => by simp [C08_table i (List.mem_range.mp hi)]

/-- The table-driven step equals eight bit-serial rounds on every one of the 2^64 × 256
    (state, byte) pairs. -/
theorem C08_step (s : BitVec 64) (b : UInt8) : rabinStep s b = Spec.crcStep s b := by
  unfold rabinStep crcStep
  rw [round8_split (s ^^^ BitVec.ofNat 64 b.toNat)]
  have hlt : ((s ^^^ BitVec.ofNat 64 b.toNat) &&& 0xFF#64).toNat < 256 := by
    rw [BitVec.toNat_and]
    have : (s ^^^ BitVec.ofNat 64 b.toNat).toNat &&& (0xFF#64 : BitVec 64).toNat ≤ (0xFF#64 : BitVec 64).toNat :=
      Nat.and_le_right
    have h255 : (0xFF#64 : BitVec 64).toNat = 255 := by decide
    omega
  rw [C08_table _ hlt]
  unfold tableEntry
  rw [BitVec.ofNat_toNat, BitVec.setWidth_eq]
  congr 1
  -- the byte only touches the low 8 bits, so the shifted parts agree
  ext i hi
  simp only [BitVec.getElem_ushiftRight, BitVec.getLsbD_xor]
  have hb : (BitVec.ofNat 64 b.toNat).getLsbD (8 + i) = false := by
    simp only [BitVec.getLsbD_ofNat]
    have : b.toNat.testBit (8 + i) = false := by
      apply Nat.testBit_lt_two_pow
      have := b.toNat_lt
      have : (2:Nat) ^ 8 ≤ 2 ^ (8 + i) := Nat.pow_le_pow_right (by omega) (by omega)
      omega
    simp [this]
  simp [hb]

/-- The whole checksum, for every byte string. -/
theorem C08_fold (bs : Bytes) : rabinHash bs = Spec.crc64 bs := by
  unfold rabinHash crc64
  rw [C08_seed]
  generalize Spec.EMPTY = s
  induction bs generalizing s with
  | nil => rfl
  | cons b bs ih => simp only [List.foldl_cons, C08_step, ih]

/-- … and its little-endian layout. -/
theorem C08_fingerprint_bytes (bs : Bytes) : rabinFingerprint bs = Spec.fingerprintLE bs := by
  unfold rabinFingerprint fingerprintLE; rw [C08_fold]

/-- Non-vacuity / sanity: the specification's own test vector (`"null"`). -/
example : Spec.crc64 [34, 110, 117, 108, 108, 34] = BitVec.ofInt 64 7195948357588979594 := by
  decide +kernel

end Avro.Theorems
