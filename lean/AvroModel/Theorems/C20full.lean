import AvroModel.Theorems.C20
import AvroModel.Theorems.C20inv
import AvroModel.Theorems.C20names
import AvroModel.Theorems.C20fits
import AvroModel.Theorems.C20more
import AvroModel.Theorems.C20wider
import AvroModel.Theorems.C20widerU
/-
C20 — derived schemas fit their types, all parts together:
* `C20.lean`: the reuse discipline of `find_or_build`, the type → Avro-type mapping;
* `C20inv.lean`: for EVERY program, type, hash function and fuel, the builder is append-only, keys
  are in bounds, the root is node 0, the result does not depend on the fuel, a type is built once;
* `C20names.lean`: one definition per fullname (`C20_names_distinct`) under the decidable predicate
  `NamesWfOn`, whose three structural exclusions the negation witnesses show to be necessary;
  witnesses for D22, D23 (old behaviour) and for the open D24 / D26 shapes;
* `C20fits.lean`: every value of a type in the fragment `FitWf` (resp. `FitWfU`, under a hypothesis
  on variant names) serializes under the derived schema (`C20_fits`, `C20_fits_unions`), through
  `Realizes`; the round-trip half then follows from C01/C02 on that schema and is checked per
  generated value by the `derive` stream;
* `C20more.lean`: that hypothesis from the program text (`UnionNamesText`); generic records (`FitWfG`);
* `C20wider.lean`: generic forwarding newtypes and `Option<T>` of a bare parameter (`FitWfW`);
* `C20widerU.lean`: the same with enums that map to unions, generic ones included (`FitWfWU`, of
  which `FitWf`, `FitWfG`, `FitWfW`, and `FitWfU` with `UnionNamesText`, are part).
-/
