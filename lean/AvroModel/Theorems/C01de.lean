import AvroModel.Lemmas.DeCanon
/-
C01, the deserializer half of the datum round trip: the model of the crate's deserializer
(`AvroModel/Impl/De.lean`, slice back-end) accepts every canonical specification encoding
(`Spec.encode`) and hands a dynamically typed target (`deserialize_any` everywhere) exactly the
tree of visitor calls `Spec.observe` prescribes, consuming exactly the encoding.

It is a corollary of the acceptance of every layout (`AvroModel/Lemmas/DeCanon.lean`).

Side conditions, and why each is there:
 * `henc`, `hobs`      the value conforms to the node; `observe` is `none` exactly when
                       `rust_decimal` refuses a decimal (|unscaled| ≥ 2^96 or scale > 28), and then
                       the deserializer fails as well.
 * `hfix`              `Spec.fixedDecOk S n v`: every decimal of `v` that sits on a `fixed` has at
                       most 16 bytes.  NECESSARY: `read_decimal` refuses `size > 16` whatever the
                       content, while `encode`/`observe` accept e.g. `decimal 0` on a 17-byte fixed
                       (`C01_fixed17_rejected` below).  It follows from the schema-level condition
                       `Schema.fixedDecFits` (`C01_de_accepts_schema`).
 * `hdepth`            the depth budget covers the array/map/union/record nesting of `v`.
 * `hseq`              no array/map of `v` is longer than `max_seq_size`.
 * `hfuel`             model fuel, `3 * size v` is enough (`C01_de_accepts_fuel3`);
                       `C01_de_accepts` asks for `size v * 4 + 8`.
 * `hs`, `hl`          slice back-end, no `Take` in place.
 * `ha : s.avail = 0`  NECESSARY for the stated final state: `avail` is meaningless for the slice
                       back-end but `consume` still subtracts from it, so with `avail ≠ 0` the
                       final state is not `{ s with rest := rest }` (`C01_avail_counterexample`).
-/
namespace Avro.Theorems
open Avro Avro.Impl

/-- **C01 (deserializer accepts canonical encodings)**, with the fuel bound `3 * size v` that the induction gives. -/
theorem C01_de_accepts_fuel3 (cfg : DeConfig) (S : Schema) (n : Node) (v : Spec.Value)
    (enc rest : Bytes) (o : Out) (depth : Nat)
    (henc : Spec.encode S n v = some enc) (hobs : Spec.observe S n v = some o)
    (hfix : Spec.fixedDecOk S n v = true)
    (hdepth : Spec.depthOf v ≤ depth) (hseq : Spec.maxLen v ≤ cfg.maxSeqSize)
    (fuel : Nat) (hfuel : 3 * Spec.size v ≤ fuel)
    (s : RState) (hs : s.isSlice = true) (hl : s.limit = none) (ha : s.avail = 0)
    (hr : s.rest = enc ++ rest) :
    de deExtModel cfg S fuel n depth false .any s = (.ok o, { s with rest := rest }) :=
  (reads_canonical_any cfg S henc hobs hfix hdepth hseq hfuel rest).run s hs hl ha hr

/-- **C01 (deserializer accepts canonical encodings).** -/
theorem C01_de_accepts (cfg : DeConfig) (S : Schema) (n : Node) (v : Spec.Value)
    (enc rest : Bytes) (o : Out) (depth : Nat)
    (henc : Spec.encode S n v = some enc) (hobs : Spec.observe S n v = some o)
    (hfix : Spec.fixedDecOk S n v = true)
    (hdepth : Spec.depthOf v ≤ depth) (hseq : Spec.maxLen v ≤ cfg.maxSeqSize)
    (fuel : Nat) (hfuel : Spec.size v * 4 + 8 ≤ fuel)
    (s : RState) (hs : s.isSlice = true) (hl : s.limit = none) (ha : s.avail = 0)
    (hr : s.rest = enc ++ rest) :
    de deExtModel cfg S fuel n depth false .any s = (.ok o, { s with rest := rest }) :=
  C01_de_accepts_fuel3 cfg S n v enc rest o depth henc hobs hfix hdepth hseq fuel (by omega)
    s hs hl ha hr

/-- The same with the side condition on fixed decimals stated on the schema: every
    decimal-on-`fixed` node (the root included) has at most 16 bytes. -/
theorem C01_de_accepts_schema (cfg : DeConfig) (S : Schema) (n : Node) (v : Spec.Value)
    (enc rest : Bytes) (o : Out) (depth : Nat)
    (henc : Spec.encode S n v = some enc) (hobs : Spec.observe S n v = some o)
    (hS : Schema.fixedDecFits S) (hn : n.fixedDecFits = true)
    (hdepth : Spec.depthOf v ≤ depth) (hseq : Spec.maxLen v ≤ cfg.maxSeqSize)
    (fuel : Nat) (hfuel : Spec.size v * 4 + 8 ≤ fuel)
    (s : RState) (hs : s.isSlice = true) (hl : s.limit = none) (ha : s.avail = 0)
    (hr : s.rest = enc ++ rest) :
    de deExtModel cfg S fuel n depth false .any s = (.ok o, { s with rest := rest }) :=
  C01_de_accepts cfg S n v enc rest o depth henc hobs
    (fixedDecOk_of_schema S hS _ v (Nat.le_refl _) n hn) hdepth hseq fuel hfuel s hs hl ha hr

/-- Whole-input form: the encoding alone is consumed entirely. -/
theorem C01_de_accepts_nil (cfg : DeConfig) (S : Schema) (n : Node) (v : Spec.Value)
    (enc : Bytes) (o : Out)
    (henc : Spec.encode S n v = some enc) (hobs : Spec.observe S n v = some o)
    (hfix : Spec.fixedDecOk S n v = true)
    (hdepth : Spec.depthOf v ≤ cfg.allowedDepth) (hseq : Spec.maxLen v ≤ cfg.maxSeqSize) :
    de deExtModel cfg S (Spec.size v * 4 + 8) n cfg.allowedDepth false .any { rest := enc } =
      (.ok o, { rest := [] }) :=
  C01_de_accepts cfg S n v enc [] o cfg.allowedDepth henc hobs hfix hdepth hseq _ (Nat.le_refl _)
    { rest := enc } rfl rfl rfl (by simp)

/-! ### The two added side conditions are necessary -/

def nm17 : Name := { fq := "d", short := "d", ns := none }

/-- `decimal 0` on a 17-byte `fixed` has an encoding and an observation, and is refused
    (`size > 16` in `read_decimal`): `hfix` cannot be dropped. -/
theorem C01_fixed17_rejected :
    Spec.encode #[] (.decimal 0 40 (.fixed nm17 17)) (.decimal 0) = some (List.replicate 17 0) ∧
    (Spec.observe #[] (.decimal 0 40 (.fixed nm17 17)) (.decimal 0)).isSome = true ∧
    (de deExtModel {} #[] 20 (.decimal 0 40 (.fixed nm17 17)) 64 false .any
      { rest := List.replicate 17 0 }).1 = .error .custom := by
  refine ⟨by decide, ?_, ?_⟩
  · simp [Spec.observe, decToStringModel]
  · simp [de, deAny, readDecimal, DeM.fail, bind]

/-- With `avail ≠ 0` the slice back-end still reads the value and leaves the right `rest`, but
    `consume` has decremented `avail`: the final state is not `{ s with rest := rest }`, so
    `ha` cannot be dropped from the statement as phrased. -/
theorem C01_avail_counterexample :
    Spec.encode #[] .float (.float 0) = some [0, 0, 0, 0] ∧
    Spec.observe #[] .float (.float 0) = some (.f32 0) ∧
    de deExtModel {} #[] 20 .float 64 false .any { rest := [0, 0, 0, 0], avail := 5 } =
      (.ok (.f32 0), { rest := [], avail := 1 }) := by
  refine ⟨by decide, rfl, ?_⟩
  simp [de, deAny, readExact, readExactR, readSome, fillBuf, consume, bind, pure, leToNat]

end Avro.Theorems
