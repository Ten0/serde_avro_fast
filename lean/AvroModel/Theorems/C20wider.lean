import AvroModel.Theorems.C20fits
import AvroModel.Lemmas.DeriveNames
/-
C20, wider: `C20_fits_wider` for the fragment `FitWfW` (`Lemmas/DeriveWider.lean`), which extends
`FitWfG` (`FitWfG_toW`) with

1. generic forwarding newtypes `struct N<T>(F<T>);` instantiated at any depth (`N<N<Vec<N<i32>>>>`);
2. `Option<T>` — and `struct N<T>(T);` — with `T` a bare type parameter, under the decidable
   condition that every instantiation site supplies a *plain* argument (one whose node is neither
   null nor a union: not `()`, not `Option<_>`, not an enum that maps to a union, seen through
   pointers and forwarding newtypes) for each such parameter — transitively: the parameter of
   `struct Q<U> { r: R<U> }` inherits the requirement from `R<T> { x: Option<T> }`.

The condition is necessary (`option_param_at_option_fails`, `option_param_at_union_fails`): at
`T = Option<i32>` the derived schema is `[null, [null, int]]` and `Some(Some(5))` is rejected
(`Some(None)` is accepted, written as `null`, i.e. as `None`); at `T` = a union enum the value
`Some(E::A(5))` is rejected.

Not covered by `FitWfW`: enums that map to unions (generic or not — `C20_fits_unions_text` covers
the non-generic ones, in a fragment without generics; `C20_fits_widerU`, Theorems/C20widerU.lean,
adds them to this fragment) and their newtype variants of `[u8; N]`; logical-type attributes on
newtype / variant fields or on non-leaf types.
-/
namespace Avro.Theorems
open Avro Avro.Impl Avro.Impl.Derive Avro.Theorems.DeriveFits

/-- For a program that checks against a table of marks, the schema `schema_mut()` builds for the
    root type realizes it at node 0, to every depth. -/
theorem C20_schema_realizes_with (P : Prog) (hash : Key → String) (fuel : Nat) (root : Ty) (Sm : SchemaMut)
    (M : DeriveW.Marks) (K : Nat)
    (hbuild : schemaMut P hash fuel root = some Sm) (hwf : DeriveW.FitWfWith P M K root = true) :
    0 < (freezeNodes Sm).size ∧ ∀ f, Realizes P (freezeNodes Sm) f root 0 :=
  C20_schema_realizes_withU P hash fuel root Sm M K hbuild (DeriveWU.FitWfWith_toWithU hwf)
    (DeriveWU.unionNamesTextW_of_no_union (DeriveW.FitWfWith_no_union hwf))

/-- `C20_fits_wider` for an explicitly given table of marks. -/
theorem C20_fits_with (ext : Avro.Impl.Ext) (P : Prog) (hash : Key → String) (fuel : Nat) (root : Ty)
    (Sm : SchemaMut) (f : Nat) (sv : SV) (M : DeriveW.Marks) (K : Nat)
    (hbuild : schemaMut P hash fuel root = some Sm) (hwf : DeriveW.FitWfWith P M K root = true)
    (hs : hasShape P f root sv = true) :
    (ser ext false (freezeNodes Sm) ((freezeNodes Sm)[0]!) sv {}).1 = .ok () :=
  C20_fits_of_realizes ext P _ root f sv (C20_schema_realizes_with P hash fuel root Sm M K hbuild hwf) hs

/-- **C20 (fits), wider fragment.**  For a program of the fragment `FitWfW` (generic records,
    generic forwarding newtypes, `Option<T>` of a bare parameter whose instantiations are all
    plain), every value of the root type serializes under the schema derived for it. -/
theorem C20_fits_wider (ext : Avro.Impl.Ext) (P : Prog) (hash : Key → String) (fuel : Nat) (root : Ty)
    (Sm : SchemaMut) (f : Nat) (sv : SV)
    (hbuild : schemaMut P hash fuel root = some Sm) (hwf : DeriveW.FitWfW P root = true)
    (hs : hasShape P f root sv = true) :
    (ser ext false (freezeNodes Sm) ((freezeNodes Sm)[0]!) sv {}).1 = .ok () := by
  obtain ⟨M, K, hwf⟩ := DeriveW.FitWfW_with hwf
  exact C20_fits_with ext P hash fuel root Sm f sv M K hbuild hwf hs

/-- Nothing is lost: the fragment of `C20_fits_generic` (hence that of `C20_fits`) is part of `FitWfW`.
    (`DeriveW.FitWfG_toW`, under a name in `Avro.Theorems`.) -/
theorem FitWfG_toW {P : Prog} {root : Ty} (h : DeriveG.FitWfG P root = true) : DeriveW.FitWfW P root = true :=
  DeriveW.FitWfG_toW h

theorem FitWf_toW {P : Prog} {root : Ty} (h : FitWf P root = true) : DeriveW.FitWfW P root = true :=
  FitWfG_toW (FitWf_toG h)

/-! ### Non-vacuity, extension 1: generic forwarding newtypes

`struct N<T>(T);  struct W<T>(Vec<N<T>>);  struct B<T>(Box<Pair<T>>);` with
`struct Pair<T> { a: T, b: Vec<T> }`, instantiated at depth (`N<N<N<i32>>>`), inside `Option`
(`Option<N<W<bool>>>`), with an `Option` argument where the parameter is not exposed
(`B<Option<N<i64>>>`). -/

def newtypeProg : Prog := #[
  { ident := "N", nparams := 1, modulePath := "m", body := .newtype { name := "0", ty := .param 0 } },
  { ident := "W", nparams := 1, modulePath := "m",
    body := .newtype { name := "0", ty := .vec (.named 0 [.param 0]) } },
  { ident := "Pair", nparams := 1, modulePath := "m", body := .record [
      { name := "a", ty := .param 0 }, { name := "b", ty := .vec (.param 0) } ] },
  { ident := "B", nparams := 1, modulePath := "m",
    body := .newtype { name := "0", ty := .ptr (.named 2 [.param 0]) } },
  { ident := "Root", modulePath := "m", body := .record [
      { name := "a", ty := .named 0 [.named 0 [.named 0 [.i32]]] },
      { name := "b", ty := .named 1 [.string] },
      { name := "c", ty := .named 3 [.option (.named 0 [.i64])] },
      { name := "d", ty := .option (.named 0 [.named 1 [.bool]]) } ] } ]

theorem newtypeProg_fitWfW : DeriveW.FitWfW newtypeProg (.named 4 []) = true := by decide +kernel

/-- It is outside the fragment of `C20_fits_generic`. -/
example : DeriveG.FitWfG newtypeProg (.named 4 []) = false := by decide +kernel

/-- Without `Option` around a bare parameter no marks are needed for `B`, `W<String>`; `N` needs one. -/
example : DeriveW.FitWfWith newtypeProg DeriveW.noMarks 40 (.named 4 []) = false := by decide +kernel

example : ((schemaMut newtypeProg DeriveNames.hashDemo 40 (.named 4 [])).map (·.size)) = some 12 := by
  decide +kernel

example : hasShape newtypeProg 12 (.named 4 []) (.struct "Root" [
    ("a", .newtypeStruct "N" (.newtypeStruct "N" (.newtypeStruct "N" (.int .i32 7)))),
    ("b", .newtypeStruct "W" (.seq (some 2) [.newtypeStruct "N" (.str "x"), .newtypeStruct "N" (.str "y")])),
    ("c", .newtypeStruct "B" (.struct "Pair" [
      ("a", .some (.newtypeStruct "N" (.int .i64 1))), ("b", .seq (some 1) [.none])])),
    ("d", .some (.newtypeStruct "N" (.newtypeStruct "W" (.seq (some 1) [.newtypeStruct "N" (.bool true)]))))]) =
    true := by decide +kernel

/-- Every value of `Root` serializes under the derived schema. -/
example (ext : Avro.Impl.Ext) (hash : Key → String) (fuel : Nat) (Sm : SchemaMut) (f : Nat) (sv : SV)
    (hbuild : schemaMut newtypeProg hash fuel (.named 4 []) = some Sm)
    (hs : hasShape newtypeProg f (.named 4 []) sv = true) :
    (ser ext false (freezeNodes Sm) ((freezeNodes Sm)[0]!) sv {}).1 = .ok () :=
  C20_fits_wider ext newtypeProg hash fuel _ Sm f sv hbuild newtypeProg_fitWfW hs

/-! ### Non-vacuity, extension 2: `Option<T>` of a bare parameter

`struct R<T> { x: Option<T>, rest: Vec<T> }`, `struct Q<U> { r: R<Box<U>>, u: Option<U> }` (the
requirement on `T` is inherited by `U`), instantiated with `i32`, with `Vec<Option<i32>>`, with the
record `Pair<Option<bool>>` and, through `Q`, with the forwarding newtype `N<String>`. -/

def optionProg : Prog := #[
  { ident := "R", nparams := 1, modulePath := "m", body := .record [
      { name := "x", ty := .option (.param 0) }, { name := "rest", ty := .vec (.param 0) } ] },
  { ident := "Q", nparams := 1, modulePath := "m", body := .record [
      { name := "r", ty := .named 0 [.ptr (.param 0)] }, { name := "u", ty := .option (.param 0) } ] },
  { ident := "Pair", nparams := 1, modulePath := "m", body := .record [
      { name := "a", ty := .param 0 }, { name := "b", ty := .vec (.param 0) } ] },
  { ident := "N", nparams := 1, modulePath := "m", body := .newtype { name := "0", ty := .param 0 } },
  { ident := "Root", modulePath := "m", body := .record [
      { name := "i", ty := .named 0 [.i32] },
      { name := "v", ty := .named 0 [.vec (.option .i32)] },
      { name := "p", ty := .named 0 [.named 2 [.option .bool]] },
      { name := "q", ty := .named 1 [.named 3 [.string]] } ] } ]

theorem optionProg_fitWfW : DeriveW.FitWfW optionProg (.named 4 []) = true := by decide +kernel

example : DeriveG.FitWfG optionProg (.named 4 []) = false := by decide +kernel

/-- The inferred marks: the parameters of `R`, `Q` and `N`, not that of `Pair`. -/
example : (List.range 4).map (fun id => DeriveW.inferMarks optionProg 40 id 0) = [true, true, false, true] := by
  decide +kernel

example : hasShape optionProg 12 (.named 4 []) (.struct "Root" [
    ("i", .struct "R" [("x", .some (.int .i32 1)), ("rest", .seq (some 1) [.int .i32 2])]),
    ("v", .struct "R" [("x", .some (.seq (some 2) [.none, .some (.int .i32 3)])), ("rest", .seq (some 0) [])]),
    ("p", .struct "R" [("x", .none), ("rest", .seq (some 1) [
      .struct "Pair" [("a", .none), ("b", .seq (some 1) [.some (.bool false)])]])]),
    ("q", .struct "Q" [
      ("r", .struct "R" [("x", .some (.newtypeStruct "N" (.str "s"))), ("rest", .seq (some 0) [])]),
      ("u", .some (.newtypeStruct "N" (.str "t")))])]) = true := by decide +kernel

example (ext : Avro.Impl.Ext) (hash : Key → String) (fuel : Nat) (Sm : SchemaMut) (f : Nat) (sv : SV)
    (hbuild : schemaMut optionProg hash fuel (.named 4 []) = some Sm)
    (hs : hasShape optionProg f (.named 4 []) sv = true) :
    (ser ext false (freezeNodes Sm) ((freezeNodes Sm)[0]!) sv {}).1 = .ok () :=
  C20_fits_wider ext optionProg hash fuel _ Sm f sv hbuild optionProg_fitWfW hs

/-! ### The condition of extension 2 is necessary -/

def extW0 : Avro.Impl.Ext :=
  { asF32 := fun _ => 0, decFromF64 := fun _ => none, decParse := fun _ => none, decRescale := fun x _ => x }

/-- `struct R<T> { x: Option<T> }`. -/
def optionBadProg : Prog := #[
  { ident := "R", nparams := 1, modulePath := "m", body := .record [
      { name := "x", ty := .option (.param 0) } ] } ]

/-- … and `enum E { A(i32), Null }` (an enum that maps to a union). -/
def optionBadProgU : Prog := optionBadProg.push
  { ident := "E", modulePath := "m", body := .union [
      { ident := "A", serdeName := "Int", field := some { name := "0", ty := .i32 } },
      { ident := "Null", serdeName := "Null", field := none } ] }

/-- `R<Option<i32>>`, `R<()>` are rejected by the check, `R<i32>` passes. -/
example : DeriveW.FitWfW optionBadProg (.named 0 [.option .i32]) = false := by decide +kernel
example : DeriveW.FitWfW optionBadProg (.named 0 [.unit]) = false := by decide +kernel
example : DeriveW.FitWfW optionBadProg (.named 0 [.i32]) = true := by decide +kernel
example : DeriveW.FitWfW optionBadProgU (.named 0 [.named 1 []]) = false := by decide +kernel

/-- Whether the value serializes under the schema derived for `root` (`none`: no schema). -/
def fitsAt (P : Prog) (root : Ty) (sv : SV) : Option Bool :=
  (schemaMut P DeriveNames.hashDemo 40 root).map fun Sm =>
    match (ser extW0 false (freezeNodes Sm) ((freezeNodes Sm)[0]!) sv {}).1 with
    | .ok _ => true
    | .error _ => false

/-- **`Option<T>` at `T = Option<i32>` does not fit.**  The schema is built
    (`{x: [null, [null, int]]}`), `R { x: Some(Some(5)) }` is a value of the type, and the
    serializer rejects it. -/
theorem option_param_at_option_fails :
    hasShape optionBadProg 6 (.named 0 [.option .i32]) (.struct "R" [("x", .some (.some (.int .i32 5)))]) = true ∧
    ∃ Sm, schemaMut optionBadProg DeriveNames.hashDemo 40 (.named 0 [.option .i32]) = some Sm ∧
      (ser extW0 false (freezeNodes Sm) ((freezeNodes Sm)[0]!)
        (.struct "R" [("x", .some (.some (.int .i32 5)))]) {}).1 ≠ .ok () :=
  ⟨by decide +kernel, not_fits_of_eval (by decide +kernel)⟩

/-- `R { x: Some(None) }` is accepted there: `serialize_some` is transparent and `serialize_none`
    picks the null branch of the *outer* union, so it is written as `R { x: None }` is. -/
theorem option_param_at_option_some_none :
    fitsAt optionBadProg (.named 0 [.option .i32]) (.struct "R" [("x", .some .none)]) = some true ∧
    (schemaMut optionBadProg DeriveNames.hashDemo 40 (.named 0 [.option .i32])).map (fun Sm =>
      (ser extW0 false (freezeNodes Sm) ((freezeNodes Sm)[0]!) (.struct "R" [("x", .some .none)]) {}).2.out) =
    (schemaMut optionBadProg DeriveNames.hashDemo 40 (.named 0 [.option .i32])).map (fun Sm =>
      (ser extW0 false (freezeNodes Sm) ((freezeNodes Sm)[0]!) (.struct "R" [("x", .none)]) {}).2.out) :=
  ⟨by decide +kernel, by decide +kernel⟩

/-- **`Option<T>` at `T` = an enum that maps to a union does not fit**: `R { x: Some(E::A(5)) }` is
    rejected under `{x: [null, [int, null]]}` (while `E::A(5)` alone serializes under `E`'s schema). -/
theorem option_param_at_union_fails :
    hasShape optionBadProgU 6 (.named 0 [.named 1 []])
      (.struct "R" [("x", .some (.newtypeVariant "E" 0 "Int" (.int .i32 5)))]) = true ∧
    (∃ Sm, schemaMut optionBadProgU DeriveNames.hashDemo 40 (.named 0 [.named 1 []]) = some Sm ∧
      (ser extW0 false (freezeNodes Sm) ((freezeNodes Sm)[0]!)
        (.struct "R" [("x", .some (.newtypeVariant "E" 0 "Int" (.int .i32 5)))]) {}).1 ≠ .ok ()) ∧
    fitsAt optionBadProgU (.named 1 []) (.newtypeVariant "E" 0 "Int" (.int .i32 5)) = some true :=
  ⟨by decide +kernel, not_fits_of_eval (by decide +kernel), by decide +kernel⟩

/-- `struct Int<T>(T);` -/
def newtypeBadProg : Prog := #[
  { ident := "Int", nparams := 1, modulePath := "m", body := .newtype { name := "0", ty := .param 0 } } ]

/-- **The parameter of a forwarding newtype `struct N<T>(T);` must be plain too**: at
    `T = Option<i32>` the newtype sits on the union `[null, int]`, and by-name selection with the
    struct's name (here `Int`, a lookup name of the `int` branch) sends `Int(None)` to the wrong
    branch — the generic form of the known failure of `struct Int(Option<i32>)`
    (`Theorems/C20fits.lean`).  The check rejects every `N<Option<_>>`, and accepts `Int<i32>`. -/
theorem newtype_param_at_option_fails :
    hasShape newtypeBadProg 5 (.named 0 [.option .i32]) (.newtypeStruct "Int" .none) = true ∧
    (∃ Sm, schemaMut newtypeBadProg DeriveNames.hashDemo 40 (.named 0 [.option .i32]) = some Sm ∧
      (ser extW0 false (freezeNodes Sm) ((freezeNodes Sm)[0]!) (.newtypeStruct "Int" .none) {}).1 ≠ .ok ()) ∧
    DeriveW.FitWfW newtypeBadProg (.named 0 [.option .i32]) = false ∧
    DeriveW.FitWfW newtypeBadProg (.named 0 [.i32]) = true :=
  ⟨by decide +kernel, not_fits_of_eval (by decide +kernel), by decide +kernel, by decide +kernel⟩

example : DeriveW.FitWfW newtypeProg (.named 0 [.option .i32]) = false := by decide +kernel

end Avro.Theorems
