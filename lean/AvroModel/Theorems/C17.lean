import AvroModel.Lemmas.CutClassOcf
/-
C17 — the container reader on truncated / corrupted input.

"For a valid container file cut at any byte offset, the reader yields a prefix of the original
values, then an error or end of stream — never a value that was not written and never a panic or
endless loop.  A block whose trailing sync marker differs, whose declared size or object count
disagrees with its contents … is reported as an error …  After an unrecoverable (I/O or framing)
error the reader reports it once and then reports end of stream."

All statements are for an arbitrary datum deserializer `datum` and an arbitrary `Decomp`.
-/
namespace Avro.Theorems
open Avro Avro.Impl Avro.Impl.Ocf

variable {α : Type}

/-! ### An unrecoverable error is reported once, then end of stream -/

/-- the reader after `k` further calls of `next` -/
def iterNext (d : Decomp) (datum : RState → Except DeErr α × RState) : Nat → Reader → Reader
  | 0, r => r
  | k + 1, r => iterNext d datum k (next d datum r).2

/-- once `pretendEof` is set, `next` answers end of stream and does not move -/
theorem C17_eof_sticky (d : Decomp) (datum : RState → Except DeErr α × RState) (r : Reader)
    (h : r.pretendEof = true) :
    (next d datum r).1 = .ok none ∧ (next d datum r).2 = r := by
  simp [next, h]

theorem C17_eof_sticky_iter (d : Decomp) (datum : RState → Except DeErr α × RState) (r : Reader)
    (h : r.pretendEof = true) (k : Nat) :
    iterNext d datum k r = r ∧ (next d datum (iterNext d datum k r)).1 = .ok none := by
  induction k with
  | zero => exact ⟨rfl, (C17_eof_sticky d datum r h).1⟩
  | succ k ih =>
    simp only [iterNext, (C17_eof_sticky d datum r h).2]
    exact ih

/-- `pretendEof` is set by `next` in exactly the stated cases: the call returned an error which is
    an I/O error or left the reader `broken`. -/
theorem C17_pretendEof_iff (d : Decomp) (datum : RState → Except DeErr α × RState) (r : Reader)
    (h0 : r.pretendEof = false) :
    (next d datum r).2.pretendEof = true ↔
      ∃ e, (next d datum r).1 = .error e ∧ (e = .io ∨ (next d datum r).2.st = .broken) := by
  have hk := (nextInner_keeps d datum (r.outer.rest.length + 4) r).1
  unfold next
  simp only [h0, Bool.false_eq_true, if_false]
  generalize nextInner d datum (r.outer.rest.length + 4) r = x at hk
  obtain ⟨res, r'⟩ := x
  simp only at hk
  cases res with
  | ok a => simp [hk, h0]
  | error e =>
    simp only
    by_cases hc : e = .io ∨ r'.st = .broken
    · rw [if_pos hc]
      exact ⟨fun _ => ⟨e, rfl, hc⟩, fun _ => rfl⟩
    · rw [if_neg hc]
      simp only [hk, h0, Bool.false_eq_true, false_iff]
      rintro ⟨e', he', hc'⟩
      simp only [Except.error.injEq] at he'
      subst he'
      exact hc hc'

/-- **C17 (report once, then end of stream).** If `next` returns an error that is an I/O error, or
    that leaves the reader `broken` (every framing error does, `C17_framing_sets_broken`), then all
    later calls return `Ok(None)` and leave the reader unchanged. -/
theorem C17_error_once (d : Decomp) (datum : RState → Except DeErr α × RState) (r : Reader)
    (e : RdErr) (h : (next d datum r).1 = .error e)
    (hc : e = .io ∨ (next d datum r).2.st = .broken) :
    (next d datum r).2.pretendEof = true ∧
    ∀ k, (next d datum (iterNext d datum k (next d datum r).2)).1 = .ok none ∧
         (next d datum (iterNext d datum k (next d datum r).2)).2 = (next d datum r).2 := by
  have hp : (next d datum r).2.pretendEof = true := by
    cases h0 : r.pretendEof with
    | true => rw [(C17_eof_sticky d datum r h0).2]; exact h0
    | false => exact (C17_pretendEof_iff d datum r h0).2 ⟨e, h, hc⟩
  refine ⟨hp, fun k => ?_⟩
  obtain ⟨h1, h2⟩ := C17_eof_sticky_iter d datum _ hp k
  refine ⟨h2, ?_⟩
  rw [h1]
  exact (C17_eof_sticky d datum _ hp).2

/-! ### A broken reader answers with an error (once) -/

theorem C17_broken_is_error (d : Decomp) (datum : RState → Except DeErr α × RState) (r : Reader)
    (hb : r.st = .broken) (h0 : r.pretendEof = false) :
    (next d datum r).1 = .error .custom ∧ (next d datum r).2.pretendEof = true ∧
    (next d datum r).2 = { r with pretendEof := true } := by
  unfold next
  simp only [h0, Bool.false_eq_true, if_false]
  rw [nextInner_succ]
  simp [hb]

/-! ### Every framing error leaves the reader `broken` -/

theorem C17_framing_sets_broken_enter (d : Decomp) (r : Reader) (e : RdErr)
    (h : (enterBlock d r).1 = .error e) : (enterBlock d r).2.st = .broken ∧ e ≠ .panic := by
  have := enterBlock_spec (d := d) (r := r) (res := (enterBlock d r).1) (r' := (enterBlock d r).2) rfl
  exact ((this.2.2.2 e h)).symm

theorem C17_framing_sets_broken_leave (d : Decomp) (r : Reader) (e : RdErr)
    (h : (leaveBlock d r).1 = .error e) : (leaveBlock d r).2.st = .broken ∧ e ≠ .panic := by
  have := leaveBlock_spec (d := d) (r := r) (res := (leaveBlock d r).1) (r' := (leaveBlock d r).2) rfl
  exact ((this.2.2.2 e h)).symm

theorem C17_framing_sets_broken (d : Decomp) (r : Reader) (e : RdErr) :
    ((enterBlock d r).1 = .error e → (enterBlock d r).2.st = .broken) ∧
    ((leaveBlock d r).1 = .error e → (leaveBlock d r).2.st = .broken) :=
  ⟨fun h => (C17_framing_sets_broken_enter d r e h).1,
   fun h => (C17_framing_sets_broken_leave d r e h).1⟩

/-- … so `next` turns a framing error met while changing block into report-once-then-EOF:
    whenever `next` returns an error with the reader `broken`, `pretendEof` is set. (Errors of the
    datum deserializer that are not I/O errors leave the reader usable: the next call goes on in
    the same block, as in the Rust code.) -/
theorem C17_framing_then_eof (d : Decomp) (datum : RState → Except DeErr α × RState) (r : Reader)
    (e : RdErr) (h : (next d datum r).1 = .error e) (hb : (next d datum r).2.st = .broken) :
    ∀ k, (next d datum (iterNext d datum k (next d datum r).2)).1 = .ok none :=
  fun k => ((C17_error_once d datum r e h (Or.inr hb)).2 k).1

/-! ### Sync marker, size and count mismatches are errors -/

/-- general form: the block has been consumed, at least 16 bytes follow, they are not the sync
    marker: `Custom` error, reader broken (any codec, any back-end). -/
theorem C17_sync_mismatch_err_gen (d : Decomp) (r : Reader)
    (hl : leftover d r = false) (hlim : (leaveOuter d r).limit = none)
    (h16 : 16 ≤ r.after.length) (hne : r.after.take 16 ≠ r.sync) :
    (leaveBlock d r).1 = .error .custom ∧ (leaveBlock d r).2.st = .broken := by
  have hwf : (leaveOuter d r).WF := leaveOuter_wf d r
  have heff : 16 ≤ (leaveOuter d r).eff := by
    rw [eff_of_limit_none hlim, leaveOuter_rest]; exact h16
  obtain ⟨o', ho', _⟩ := (readExact_spec 16 (leaveOuter d r) hwf).1 heff
  rw [leaveOuter_rest] at ho'
  rw [leaveBlock_eq]
  simp [hl, ho', hne]

/-- **C17 (sync marker mismatch)**, null codec on the slice back-end, block fully consumed. -/
theorem C17_sync_mismatch_err (d : Decomp) (r : Reader)
    (hn : d.isNull = true) (hs : r.outer.isSlice = true) (hlim : r.outer.limit = none)
    (hb : r.blk.rest = []) (h16 : 16 ≤ r.after.length) (hne : r.after.take 16 ≠ r.sync) :
    (leaveBlock d r).1 = .error .custom ∧ (leaveBlock d r).2.st = .broken := by
  apply C17_sync_mismatch_err_gen d r _ _ h16 hne
  · simp [leftover, hn, hs, hb]
  · simp [leaveOuter, hs, hlim]

/-- a file cut inside the sync marker: some (non-panic) error, reader broken -/
theorem C17_sync_truncated_err (d : Decomp) (r : Reader)
    (hl : leftover d r = false) (h16 : r.after.length < 16) :
    ∃ e, (leaveBlock d r).1 = .error e ∧ e ≠ .panic ∧ (leaveBlock d r).2.st = .broken := by
  have hwf : (leaveOuter d r).WF := leaveOuter_wf d r
  have heff : (leaveOuter d r).eff < 16 := by
    have : (leaveOuter d r).eff ≤ (leaveOuter d r).rest.length := by
      unfold RState.eff; split <;> omega
    rw [leaveOuter_rest] at this; omega
  obtain ⟨e, o', ho'⟩ : ∃ e o', readExact 16 (leaveOuter d r) = (.error e, o') := by
    obtain ⟨o', h⟩ := (readExact_spec 16 (leaveOuter d r) hwf).2 heff
    exact ⟨_, o', h⟩
  have hle : leaveBlock d r = (.error (ofDe e), { r with st := .broken, outer := o' }) := by
    rw [leaveBlock_eq]; simp [hl, ho']
  refine ⟨ofDe e, by rw [hle], ?_, by rw [hle]⟩
  exact (leaveBlock_spec hle).2.2.2 _ rfl |>.1

/-- **C17 (declared size larger than the objects read)**, null codec, slice back-end. -/
theorem C17_size_mismatch_err (d : Decomp) (r : Reader)
    (hn : d.isNull = true) (hs : r.outer.isSlice = true) (hb : r.blk.rest ≠ []) :
    (leaveBlock d r).1 = .error .custom ∧ (leaveBlock d r).2.st = .broken := by
  rw [leaveBlock_eq]
  simp [leftover, hn, hs, hb]

/-- same on the reader back-end (`Take::limit() > 0`, repaired defect D17) -/
theorem C17_size_mismatch_err_reader (d : Decomp) (r : Reader)
    (hn : d.isNull = true) (hs : r.outer.isSlice = false) (hb : 0 < r.blkLimit) :
    (leaveBlock d r).1 = .error .custom ∧ (leaveBlock d r).2.st = .broken := by
  rw [leaveBlock_eq]
  simp [leftover, hn, hs, hb]

/-- **C17 (object count smaller than the block's contents)**, compressed codecs (repaired
    defect D11): the decompressed block still holds data when the declared count is exhausted. -/
theorem C17_count_mismatch_err (d : Decomp) (r : Reader)
    (hn : d.isNull = false) (hb : r.blk.rest ≠ []) :
    (leaveBlock d r).1 = .error .custom ∧ (leaveBlock d r).2.st = .broken := by
  rw [leaveBlock_eq]
  simp [leftover, hn, hb]

/-- … and through `next`: with the count exhausted (`st = inBlock 0`), each of the three
    mismatches makes `next` return the `Custom` error and switch to end of stream. -/
theorem C17_mismatch_next (d : Decomp) (datum : RState → Except DeErr α × RState) (r : Reader)
    (h0 : r.pretendEof = false) (hst : r.st = .inBlock 0)
    (h : (leaveBlock d r).1 = .error .custom) :
    (next d datum r).1 = .error .custom ∧ (next d datum r).2.pretendEof = true ∧
    (next d datum r).2.st = .broken := by
  have hb := (C17_framing_sets_broken_leave d r _ h).1
  unfold next
  simp only [h0, Bool.false_eq_true, if_false]
  rw [nextInner_succ]
  simp only [hst]
  generalize leaveBlock d r = x at h hb
  obtain ⟨res, r'⟩ := x
  simp only at h hb
  subst h
  simp [hb]

/-! ### No endless loop: the fuel `next` passes is sufficient -/

/-- A reader that has not opened a block yet satisfies the invariant. -/
theorem C17_inv_init (r : Reader) (h : r.st = .notInBlock) : RdInv r := rdInv_init r h

/-- `next` preserves the invariant (so it holds for every reachable reader). -/
theorem C17_inv_next (d : Decomp) (datum : RState → Except DeErr α × RState) (r : Reader)
    (hi : RdInv r) : RdInv (next d datum r).2 := rdInv_next d datum r hi

/-- **C17 (fuel is sufficient).** With at least `mu r + 1` units of fuel — in particular with the
    `r.outer.rest.length + 4` that `next` passes, on a reachable reader — the result of
    `nextInner` does not depend on the fuel: the out-of-fuel branch is never reached, whatever the
    datum deserializer does. -/
theorem C17_fuel_irrelevant (d : Decomp) (datum : RState → Except DeErr α × RState) (r : Reader)
    (hi : RdInv r) (fuel : Nat) (hf : r.outer.rest.length + 1 ≤ fuel) :
    nextInner d datum fuel r = nextInner d datum (r.outer.rest.length + 4) r := by
  have := mu_le_of_inv r hi
  exact nextInner_fuel d datum fuel _ r (by omega) (by omega)

/-- `nextInner` never reports `.panic` by itself when `fuel > mu r` (a `.panic` can then only be
    one raised by the datum deserializer). -/
theorem C17_total_inner (d : Decomp) (datum : RState → Except DeErr α × RState)
    (hd : ∀ s, (datum s).1 ≠ .error .panic) (r : Reader) (fuel : Nat) (hf : mu r < fuel) :
    (nextInner d datum fuel r).1 ≠ .error .panic :=
  nextInner_no_panic d datum hd fuel r hf

/-- **C17 (no panic, no endless loop).** On every reachable reader, `next` never reports the
    out-of-fuel `.panic` (nor any other: the read primitives never panic).  (= `Ocf.next_no_panic`; the
    same statement stands as `Stream.C17_total` in Lemmas/OcfStream.lean.) -/
theorem C17_total (d : Decomp) (datum : RState → Except DeErr α × RState)
    (hd : ∀ s, (datum s).1 ≠ .error .panic) (r : Reader) (hi : RdInv r) :
    (next d datum r).1 ≠ .error .panic := next_no_panic d datum hd r hi

/-! ### A truncated file yields a prefix of the values (slice back-end, every codec) -/

/-! The run vocabulary declared from here on (`End`, `readAll`, then `blockData`, `blockBytes`,
`fileBody`, `BlockOk`, `openSlice`: what C05, C06 and C17 are stated in) exists a second time in the
imported `Lemmas/OcfStream.lean` (namespace `Stream`), where the reader on a laid-out file is
analysed; the functions are definitionally the same, the two `End` types isomorphic (namespace
`Real` below; DESIGN.md 11.1 has the table of such short names). -/

/-- how a run of `next` calls ended -/
inductive End
  | eos                 -- `Ok(None)`
  | err (e : RdErr)
  | more                -- the budget of calls is exhausted, the reader could go on
  deriving DecidableEq, Repr

/-- Call `next` up to `k` times, collecting the values, until end of stream or an error. -/
def readAll (d : Decomp) (datum : RState → Except DeErr α × RState) : Nat → Reader → List α × End
  | 0, _ => ([], .more)
  | k + 1, r =>
    match next d datum r with
    | (.ok (some a), r') => (a :: (readAll d datum k r').1, (readAll d datum k r').2)
    | (.ok none, _) => ([], .eos)
    | (.error e, _) => ([], .err e)

theorem next_cut (d : Decomp) (datum : RState → Except DeErr α × RState) (rt rf : Reader)
    (hsim : RdSim rt rf) (hit : RdInv rt) (hif : RdInv rf) (a : α) (rt' : Reader)
    (h : next d datum rt = (.ok (some a), rt')) :
    ∃ rf', next d datum rf = (.ok (some a), rf') ∧ RdSim rt' rf' := by
  unfold next at h ⊢
  cases hp : rt.pretendEof with
  | true => simp [hp] at h
  | false =>
    have hpf : rf.pretendEof = false := by rw [← hsim.peof]; exact hp
    simp only [hp, hpf, Bool.false_eq_true, if_false] at h ⊢
    obtain ⟨m, hm⟩ := hsim.outer
    have hlen : rt.outer.rest.length ≤ rf.outer.rest.length := by
      rw [hm]; simp only [List.length_take]; omega
    have hmt := mu_le_of_inv rt hit
    have hmf := mu_le_of_inv rf hif
    have e1 : nextInner d datum (rt.outer.rest.length + 4) rt
        = nextInner d datum (rf.outer.rest.length + 4) rt :=
      nextInner_fuel d datum _ _ rt (by omega) (by omega)
    rw [e1] at h
    generalize hx : nextInner d datum (rf.outer.rest.length + 4) rt = x at h
    obtain ⟨res, r1⟩ := x
    cases res with
    | error e => simp only at h; split at h <;> cases h
    | ok oa =>
      simp only [Prod.mk.injEq, Except.ok.injEq] at h
      obtain ⟨rfl, rfl⟩ := h
      obtain ⟨rf', hrf', hs'⟩ := nextInner_cut d datum _ rt rf hsim a r1 hx
      exact ⟨rf', by rw [hrf'], hs'⟩

/-- **C17 (truncation yields a prefix).** Slice back-end, any codec, any datum deserializer, any
    (valid or invalid) source: the values read from the truncated source are a prefix of the values
    read from the full source, and the truncated run ends (end of stream or error) no later than
    the full run. -/
theorem readAll_cut (d : Decomp) (datum : RState → Except DeErr α × RState) (k : Nat) :
    ∀ (rt rf : Reader), RdSim rt rf → RdInv rt → RdInv rf →
      (readAll d datum k rt).1 <+: (readAll d datum k rf).1 ∧
      ((readAll d datum k rf).2 ≠ .more → (readAll d datum k rt).2 ≠ .more) := by
  induction k with
  | zero => intro rt rf _ _ _; exact ⟨List.prefix_refl _, id⟩
  | succ k ih =>
    intro rt rf hsim hit hif
    simp only [readAll]
    generalize hx : next d datum rt = x
    obtain ⟨res, rt'⟩ := x
    cases res with
    | error e => exact ⟨List.nil_prefix, fun _ => by simp⟩
    | ok oa =>
      cases oa with
      | none => exact ⟨List.nil_prefix, fun _ => by simp⟩
      | some a =>
        obtain ⟨rf', hrf', hs'⟩ := next_cut d datum rt rf hsim hit hif a rt' hx
        simp only [hrf']
        have hit' : RdInv rt' := by have := C17_inv_next d datum rt hit; rwa [hx] at this
        have hif' : RdInv rf' := by have := C17_inv_next d datum rf hif; rwa [hrf'] at this
        obtain ⟨h1, h2⟩ := ih rt' rf' hs' hit' hif'
        exact ⟨(List.prefix_cons_inj a).2 h1, h2⟩

/-! ### Round trip on a valid file, and the combined statement (null codec, slice back-end) -/

section Valid
variable {V : Type} (enc : V → Bytes)

def blockData (vals : List V) : Bytes := (vals.map enc).flatten

/-- a block as the writer lays it out (null codec): count, size, objects, sync marker -/
def blockBytes (sync : Bytes) (vals : List V) : Bytes :=
  encodeVarI64 vals.length ++ encodeVarI64 (blockData enc vals).length ++ blockData enc vals ++ sync

/-- the file after its header -/
def fileBody (sync : Bytes) (blocks : List (List V)) : Bytes :=
  (blocks.map (blockBytes enc sync)).flatten

/-- count and size fit an `i64` -/
def BlockOk (vals : List V) : Prop :=
  Spec.InI64 (vals.length : Int) ∧ Spec.InI64 ((blockData enc vals).length : Int)

/-- the datum deserializer decodes what `enc` wrote (on the slice back-end) -/
def DatumOk (datum : RState → Except DeErr V × RState) : Prop :=
  ∀ (s : RState) (v : V) (y : Bytes), s.isSlice = true → s.rest = enc v ++ y →
    ∃ s', datum s = (.ok v, s') ∧ s'.rest = y ∧ s'.isSlice = true

/-- a reader over a slice holding the file after its header -/
def openSlice (sync bytes : Bytes) : Reader := { sync := sync, outer := { rest := bytes } }

theorem RdSim_open (sync f : Bytes) (m : Nat) :
    RdSim (openSlice sync (f.take m)) (openSlice sync f) :=
  ⟨rfl, rfl, rfl, rfl, rfl, rfl, rfl, ⟨m, rfl⟩, ⟨0, rfl⟩⟩

/-- **C17 (truncation yields a prefix), for a source cut at byte `m`.** Slice back-end, any
    codec, any datum deserializer, any source `f`. -/
theorem C17_yields_prefix {α : Type} (d : Decomp) (datum : RState → Except DeErr α × RState)
    (sync f : Bytes) (m k : Nat) :
    (readAll d datum k (openSlice sync (f.take m))).1 <+: (readAll d datum k (openSlice sync f)).1 ∧
    ((readAll d datum k (openSlice sync f)).2 ≠ .more →
      (readAll d datum k (openSlice sync (f.take m))).2 ≠ .more) :=
  readAll_cut d datum k _ _ (RdSim_open sync f m) (C17_inv_init _ rfl) (C17_inv_init _ rfl)

end Valid

/-! The two vocabularies identified: `Stream.X` read as `X` of this file (`endOfS` on `End`, the
functions by `rfl`), and runs carried over. -/
namespace Real

/-- the `End` of `Lemmas/OcfStream.lean` read as the `End` above -/
def endOfS : Stream.End → End
  | .eos => .eos
  | .err e => .err e
  | .more => .more

@[simp] theorem endOfS_eos : endOfS .eos = .eos := rfl

theorem endOfS_eq_eos {e : Stream.End} : endOfS e = .eos ↔ e = .eos := by
  cases e <;> simp [endOfS]

theorem endOfS_eq_more {e : Stream.End} : endOfS e = .more ↔ e = .more := by
  cases e <;> simp [endOfS]

theorem readAll_eq_stream {α : Type} (d : Decomp) (datum : RState → Except DeErr α × RState) :
    ∀ (k : Nat) (r : Reader),
      readAll d datum k r =
        ((Stream.readAll d datum k r).1, endOfS (Stream.readAll d datum k r).2) := by
  intro k
  induction k with
  | zero => intro r; rfl
  | succ k ih =>
    intro r
    simp only [readAll, Stream.readAll]
    generalize next d datum r = x
    obtain ⟨res, r'⟩ := x
    cases res with
    | error e => rfl
    | ok oa =>
      cases oa with
      | none => rfl
      | some a => simp only [ih r']

theorem readAll_of_stream {α : Type} {d : Decomp} {datum : RState → Except DeErr α × RState}
    {k : Nat} {r : Reader} {xs : List α}
    (h : Stream.readAll d datum k r = (xs, .eos)) : readAll d datum k r = (xs, .eos) := by
  rw [readAll_eq_stream, h]; rfl

theorem readAll_fst_stream {α : Type} (d : Decomp) (datum : RState → Except DeErr α × RState)
    (k : Nat) (r : Reader) : (readAll d datum k r).1 = (Stream.readAll d datum k r).1 := by
  rw [readAll_eq_stream]

theorem readAll_snd_eos_of_stream {α : Type} {d : Decomp}
    {datum : RState → Except DeErr α × RState} {k : Nat} {r : Reader}
    (h : (Stream.readAll d datum k r).2 = .eos) : (readAll d datum k r).2 = .eos := by
  rw [readAll_eq_stream, h]; rfl

section Layout
variable {V : Type} (enc : V → Bytes)

theorem blockData_eq (vals : List V) : Stream.blockData enc vals = blockData enc vals := rfl

theorem blockBytes_eq (sync : Bytes) (vals : List V) :
    Stream.blockBytes enc sync vals = blockBytes enc sync vals := rfl

theorem fileBody_eq (sync : Bytes) (blocks : List (List V)) :
    Stream.fileBody enc sync blocks = fileBody enc sync blocks := rfl

theorem blockOk_iff (vals : List V) : Stream.BlockOk enc vals ↔ BlockOk enc vals := Iff.rfl

theorem openSlice_eq (sync bytes : Bytes) : Stream.openSlice sync bytes = openSlice sync bytes := rfl

end Layout

end Real

theorem readAll_no_panic {α : Type} (d : Decomp) (datum : RState → Except DeErr α × RState)
    (hd : ∀ s, (datum s).1 ≠ .error .panic) (k : Nat) (r : Reader) (hi : RdInv r) :
    (readAll d datum k r).2 ≠ .err .panic := by
  rw [Real.readAll_eq_stream]
  intro h
  apply Stream.readAll_no_panic d datum hd k r hi
  cases hx : (Stream.readAll d datum k r).2 <;> rw [hx] at h <;> cases h
  rfl

section Valid
variable {V : Type} (enc : V → Bytes)

theorem DatumOk.okP {enc : V → Bytes} {datum : RState → Except DeErr V × RState}
    (hd : DatumOk enc datum) :
    Cut.DatumOkP enc (fun _ => True) (fun s => s.isSlice = true) id id datum :=
  fun s v y _ hp hr => by
    obtain ⟨s', h1, h2, h3⟩ := hd s v y hp hr
    exact ⟨v, s', h1, rfl, h2, h3⟩

/-- **A valid file cut after `m` bytes, null codec, slice back-end**, for any deserializer that
    decodes what `enc` wrote: `Cut.run_start` with the block invariant "is a slice" (on a slice a
    block is entered only if whole, so the deserializer never meets a cut value). -/
theorem readAll_slice_cut {d : Decomp} {datum : RState → Except DeErr V × RState} {sync : Bytes}
    (hn : d.isNull = true) (hsy : sync.length = 16) (hd : DatumOk enc datum)
    (bs : List (List V)) (hbs : ∀ b ∈ bs, BlockOk enc b) (m : Nat) :
    (readAll d datum (bs.flatten.length + 1) (openSlice sync ((fileBody enc sync bs).take m))).1
      = Cut.cutVals enc true bs m ∧
    (Cut.cutWhere enc bs m = .clean →
      (readAll d datum (bs.flatten.length + 1)
        (openSlice sync ((fileBody enc sync bs).take m))).2 = .eos) ∧
    (readAll d datum (bs.flatten.length + 1)
      (openSlice sync ((fileBody enc sync bs).take m))).2 ≠ .more := by
  have hP : Cut.BlkInv true true (fun s => s.isSlice = true) 0 := ⟨fun _ _ h => h.back, nofun⟩
  have hx : Cut.XStart (Stream.blockData enc) true 0 sync
      (openSlice sync ((fileBody enc sync bs).take m)) bs m :=
    Cut.XStart.ofSlice _ sync _ 0 bs m rfl
  obtain ⟨h1, h2, h3⟩ := Cut.readAll_xstart_null (C := fun _ => True) (k := bs.flatten.length + 1) hP hn
    hsy (DatumOk.okP hd) nofun bs hbs (fun _ _ => trivial) hx (Nat.lt_succ_self _)
  rw [List.map_id, List.map_id] at h1
  rw [Real.readAll_eq_stream]
  exact ⟨h1, fun hw => by rw [h2 hw]; rfl, fun h => h3 (Real.endOfS_eq_more.1 h)⟩

theorem readAll_valid {d : Decomp} {datum : RState → Except DeErr V × RState} {sync : Bytes}
    (hn : d.isNull = true) (hsy : sync.length = 16) (hd : DatumOk enc datum)
    (bs : List (List V)) (hbs : ∀ b ∈ bs, BlockOk enc b) :
    readAll d datum (bs.flatten.length + 1) (openSlice sync (fileBody enc sync bs))
      = (bs.flatten, .eos) := by
  obtain ⟨h1, h2, -⟩ := readAll_slice_cut enc hn hsy hd bs hbs (fileBody enc sync bs).length
  rw [List.take_length] at h1 h2
  exact Prod.ext (h1.trans (Cut.cutVals_all enc true sync hsy bs _ (Nat.le_refl _)))
    (h2 ((Cut.cutWhere_clean_iff enc sync hsy bs _).2 (.inl (Nat.le_refl _))))

/-- **C17 (a valid file cut at any byte offset), null codec on the slice back-end.**
    `blocks` are the lists of values of the successive blocks, `enc` the encoding of one value,
    `datum` any deserializer that decodes what `enc` wrote. Reading the first `m` bytes of the file
    body yields a prefix of the values written, then end of stream or an error (the budget of
    `N + 1` calls is not exhausted); and the whole file yields exactly the values, then end of
    stream. -/
theorem C17_yields_prefix_null (d : Decomp) (datum : RState → Except DeErr V × RState)
    (sync : Bytes) (hn : d.isNull = true) (hsy : sync.length = 16) (hd : DatumOk enc datum)
    (blocks : List (List V)) (hbs : ∀ b ∈ blocks, BlockOk enc b) (m : Nat) :
    (readAll d datum (blocks.flatten.length + 1)
        (openSlice sync ((fileBody enc sync blocks).take m))).1 <+: blocks.flatten ∧
    (readAll d datum (blocks.flatten.length + 1)
        (openSlice sync ((fileBody enc sync blocks).take m))).2 ≠ .more ∧
    ((fileBody enc sync blocks).length ≤ m →
      readAll d datum (blocks.flatten.length + 1)
        (openSlice sync ((fileBody enc sync blocks).take m)) = (blocks.flatten, .eos)) := by
  obtain ⟨h1, -, h3⟩ := readAll_slice_cut enc hn hsy hd blocks hbs m
  refine ⟨h1 ▸ Cut.cutVals_prefix enc true blocks m, h3, fun hm => ?_⟩
  rw [List.take_of_length_le hm]
  exact readAll_valid enc hn hsy hd blocks hbs

/-- … and the error, if any, is not a panic: `readAll_no_panic` for a reader opened on a slice
    (any codec, any bytes `f`) -/
theorem C17_yields_prefix_null_no_panic (d : Decomp) (datum : RState → Except DeErr V × RState)
    (hdp : ∀ s, (datum s).1 ≠ .error .panic) (sync f : Bytes) (k : Nat) :
    (readAll d datum k (openSlice sync f)).2 ≠ .err .panic :=
  readAll_no_panic d datum hdp k _ (C17_inv_init _ rfl)

end Valid

/-- `DatumOk` is satisfiable: one-byte values -/
example : DatumOk (fun (b : UInt8) => [b])
    (fun s => match s.rest with
      | [] => (.error .custom, s)
      | b :: tl => (.ok b, { s with rest := tl })) := by
  intro s v y _ hr
  refine ⟨{ s with rest := y }, ?_, rfl, by assumption⟩
  simp [hr]

end Avro.Theorems
