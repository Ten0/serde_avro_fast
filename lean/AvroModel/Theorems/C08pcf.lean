import AvroModel.Lemmas.WriterSteps
/-
C08 (Parsing Canonical Form writer): primitives, named types written once, logical types
irrelevant.
-/
namespace Avro.Theorems
open Avro Avro.Impl

def primName : RegularType → Option String
  | .null => some "null" | .boolean => some "boolean" | .int => some "int" | .long => some "long"
  | .float => some "float" | .double => some "double" | .bytes => some "bytes"
  | .string => some "string"
  | _ => none

theorem primName_eq (ty : RegularType) : primName ty = RenderPcf.primText ty := by
  cases ty <;> rfl

/-- For a primitive root the canonical form is the quoted type name; the logical type is dropped. -/
theorem C08_pcf_prim (S : SchemaMut) (fuel : Nat) (node : RawNode) (s : String)
    (hk : S[0]? = some node) (hp : primName node.type = some s) :
    canonicalForm S (fuel + 1) = .ok ("\"" ++ s ++ "\"") := by
  simp only [canonicalForm, RenderPcf.pcf_prim (pf := fuel) (ps := {}) hk (primName_eq _ ▸ hp)]
  simp

/-- Instance: `{"type":"long","logicalType":"timestamp-micros"}` has canonical form `"long"`,
    and so for every annotation. -/
theorem C08_pcf_prim_long (lg : Option LogicalType) (fuel : Nat) :
    canonicalForm #[⟨.long, lg⟩] (fuel + 1) = .ok "\"long\"" :=
  C08_pcf_prim _ fuel ⟨.long, lg⟩ "long" rfl rfl

def namedName : RegularType → Option Name
  | .record nm _ => some nm | .enum nm _ => some nm | .fixed nm _ => some nm
  | _ => none

/-- A named type that was already written in full is written as its quoted fullname; nothing else
    changes. -/
theorem C08_pcf_named_once (S : SchemaMut) (fuel key : Nat) (st : PcfState) (node : RawNode)
    (nm : Name) (hk : S[key]? = some node) (hn : namedName node.type = some nm)
    (hw : st.written.contains key = true) :
    pcf S (fuel + 1) key st = .ok { st with out := st.out ++ "\"" ++ nm.fq ++ "\"" } := by
  have e : namedName node.type = RenderPcf.nameOf node.type := by cases node.type <;> rfl
  exact RenderPcf.pcf_named_again hk (e ▸ hn) hw

/-- The first time, a named type is written in full and recorded as written. -/
theorem C08_pcf_named_first_enum (S : SchemaMut) (fuel key : Nat) (st : PcfState) (lg)
    (nm : Name) (syms : List String) (hk : S[key]? = some ⟨.enum nm syms, lg⟩)
    (hw : st.written.contains key = false) :
    pcf S (fuel + 1) key st = .ok { st with
      written := key :: st.written,
      out := st.out ++ ("{\"name\":\"" ++ nm.fq ++ "\",\"type\":\"enum\",\"symbols\":[" ++
        joinWith "," (syms.map fun s => "\"" ++ s ++ "\"") ++ "]}") } :=
  RenderPcf.pcf_enum_first hk hw

theorem C08_pcf_named_first_fixed (S : SchemaMut) (fuel key : Nat) (st : PcfState) (lg)
    (nm : Name) (size : Nat) (hk : S[key]? = some ⟨.fixed nm size, lg⟩)
    (hw : st.written.contains key = false) :
    pcf S (fuel + 1) key st = .ok { st with
      written := key :: st.written,
      out := st.out ++ ("{\"name\":\"" ++ nm.fq ++ "\",\"type\":\"fixed\",\"size\":" ++
        toString size ++ "}") } :=
  RenderPcf.pcf_fixed_first hk hw

def stripLogical (S : SchemaMut) : SchemaMut := S.map fun n => { n with logical := none }

theorem stripLogical_getElem? (S : SchemaMut) (key : Nat) :
    (stripLogical S)[key]? = S[key]?.map fun n => { n with logical := none } := by
  simp [stripLogical]

theorem pcf_stripLogical (S : SchemaMut) (fuel : Nat) :
    (∀ key st, pcf (stripLogical S) fuel key st = pcf S fuel key st) ∧
    (∀ ks first st, pcfList (stripLogical S) fuel ks first st = pcfList S fuel ks first st) ∧
    (∀ fs first st, pcfFields (stripLogical S) fuel fs first st = pcfFields S fuel fs first st) := by
  induction fuel with
  | zero =>
    refine ⟨fun _ _ => rfl, ?_, ?_⟩
    · intro ks first st; cases ks <;> rfl
    · intro fs first st; cases fs <;> rfl
  | succ fuel ih =>
    obtain ⟨ihP, ihL, ihF⟩ := ih
    refine ⟨?_, ?_, ?_⟩
    · intro key st
      simp only [pcf, stripLogical_getElem?]
      cases S[key]? with
      | none => rfl
      | some node =>
        simp only [Option.map_some, ihP, ihL, ihF]
    · intro ks first st
      cases ks with
      | nil => rfl
      | cons k ks => simp only [pcfList, ihP, ihL]
    · intro fs first st
      cases fs with
      | nil => rfl
      | cons f fs => obtain ⟨name, k⟩ := f; simp only [pcfFields, ihP, ihF]

/-- The canonical form does not depend on logical types. -/
theorem C08_pcf_logical_irrelevant (S : SchemaMut) (fuel : Nat) :
    canonicalForm (S.map fun n => { n with logical := none }) fuel = canonicalForm S fuel := by
  have := (pcf_stripLogical S fuel).1 0 {}
  simp only [stripLogical] at this
  simp only [canonicalForm, this]

/-- More generally: two node vectors with the same regular types have the same canonical form. -/
theorem C08_pcf_depends_on_types_only (S T : SchemaMut) (fuel : Nat)
    (h : S.map (·.type) = T.map (·.type)) :
    canonicalForm S fuel = canonicalForm T fuel := by
  have hs : ∀ U : SchemaMut, (U.map fun n => ({ n with logical := none } : RawNode)) =
      (U.map (·.type)).map fun t => ({ type := t, logical := none } : RawNode) := by
    intro U; simp [Array.map_map, Function.comp_def]
  rw [← C08_pcf_logical_irrelevant S, ← C08_pcf_logical_irrelevant T, hs S, hs T, h]

end Avro.Theorems
