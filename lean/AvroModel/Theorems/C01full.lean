import AvroModel.Theorems.C01
import AvroModel.Theorems.C01de
import AvroModel.Theorems.C02
import AvroModel.Theorems.C01glue
import AvroModel.Theorems.C01driver
/-
C01 — the datum round trip, all parts together: the specification decoder inverts the specification
encoder (`C01.lean`); on the canonical encoding of `v` the deserializer delivers `observe v` and
consumes exactly the encoding (`C01de.lean`); what the serializer writes decodes to a value the
presentation denotes (`C02.lean`); the bytes `ser` writes are the canonical encoding, and the composed
statement `C01_roundtrip_impl`, with the two presentations that write a legal but not canonical layout
excluded by hypotheses with proved counterexamples (`C01glue.lean`); the driver's table of
`rust_decimal` answers satisfies `ExtOK` (`C01driver.lean`).
-/
