import AvroModel.Lemmas.Freeze
import AvroModel.Lemmas.Lifetimes
/-
C10: what a theorem can carry about the `unsafe` parts of the crate — the *protocol*.

Part A (freeze): statements about every event trace of `TryFrom<SchemaMut> for Schema`
(`Impl/Freeze.lean`), for every node vector `S` (dangling keys, cycles, empty included):
(1) every reference formed is in bounds; (2) every write and every read is in bounds; (3) nothing is
read before phase 1 has written every cell; (4) one allocation, which never grows; (5) on the error
path the cells written are a prefix; (6) phase 2 writes union cells only, after reading the kinds of
their branches.
Part B (lifetimes): statements about every history of API calls over the ownership model
(`Impl/Lifetimes.lean`): (7) the reference-counting invariant; (8) no use after free; (9) the field
order of `Reader` is needed.

The absence of undefined behaviour in the compiled code itself is left to Miri / the sanitizers on
the same histories (DESIGN.md section 8, C10 — partial).
-/
namespace Avro.Theorems
open Avro Avro.Impl Avro.Impl.Freeze Avro.Lemmas.Freeze

/-! ## Part A: the freeze protocol -/

/-- (1) every `NodeRef` ever created is `base + k` with `k` inside the one allocation. -/
theorem C10_refs_in_bounds (S : SchemaMut) : ∀ k, Ev.mkRef k ∈ trace S → k < S.size := by
  intro k h
  rcases trace_mem h with h | ⟨b, h⟩ | ⟨k', h, hk⟩ | ⟨i, h, _⟩ | ⟨_, i, vs, _, _, h | ⟨j, _, h⟩⟩ <;>
    cases h
  exact hk

/-- phase 1 succeeded ⇒ every child key of every node is in bounds (what makes the phase-2 reads
    safe). -/
theorem C10_phase1_ok_keys_in_bounds (S : SchemaMut)
    (hok : (phase1 S S.size (List.range S.size)).2 = true) :
    ∀ (i : Nat) (n : RawNode), S[i]? = some n → ∀ k ∈ (freezeNode n).children, k < S.size := by
  intro i n hn k hk
  have hi : i < S.size := by
    rcases Array.getElem?_eq_some_iff.1 hn with ⟨h, _⟩; exact h
  refine phase1_ok_kids hok i (List.mem_range.2 hi) k ?_
  simpa [kids, hn] using hk

/-- (2a) every write (either phase) is to a cell of the one allocation. -/
theorem C10_writes_in_bounds (S : SchemaMut) : ∀ p i, Ev.write p i ∈ trace S → i < S.size := by
  intro p i h
  rcases trace_mem h with h | ⟨b, h⟩ | ⟨k', h, hk⟩ | ⟨i', h, hi⟩ |
      ⟨_, i', vs, hi, _, h | ⟨j, _, h⟩⟩ <;> cases h
  · exact hi
  · exact hi

/-- (2b) phase 2 only reads cells of the allocation: the branch keys it follows were bounds-checked
    in phase 1. -/
theorem C10_reads_in_bounds (S : SchemaMut) : ∀ i, Ev.readKind i ∈ trace S → i < S.size := by
  intro j h
  rcases trace_mem h with h | ⟨b, h⟩ | ⟨k', h, hk⟩ | ⟨i', h, hi⟩ |
      ⟨hok, i, vs, hi, hvs, h | ⟨j', hj', h⟩⟩ <;> cases h
  refine phase1_ok_kids hok i (List.mem_range.2 hi) j ?_
  rw [kids_of_union hvs]; exact hj'

/-- An event that phase 1 does not emit and that is not a `ret` only occurs in a successful trace,
    after the whole of phase 1. -/
private theorem after_phase1 {S : SchemaMut} {p : Nat} {e : Ev} (h : (trace S)[p]? = some e)
    (h1 : e ∉ Ev.alloc S.size :: (phase1 S S.size (List.range S.size)).1)
    (h2 : ∀ b, e ≠ .ret b) :
    (phase1 S S.size (List.range S.size)).2 = true ∧
    trace S = (.alloc S.size :: (phase1 S S.size (List.range S.size)).1) ++
        phase2 S (List.range S.size) ++ [.ret true] ∧
    (Ev.alloc S.size :: (phase1 S S.size (List.range S.size)).1).length ≤ p := by
  have hm := List.mem_of_getElem? h
  rcases trace_cases S with ⟨_, ht⟩ | ⟨_, _, ht⟩ | ⟨_, hok, ht⟩
  · rw [ht, List.mem_singleton] at hm
    exact absurd hm (h2 _)
  · rw [ht, List.mem_append, List.mem_singleton] at hm
    rcases hm with hm | rfl
    · exact absurd hm h1
    · exact absurd rfl (h2 _)
  · refine ⟨hok, ht, Nat.le_of_not_lt fun hlt => ?_⟩
    rw [ht, List.append_assoc, List.getElem?_append_left hlt] at h
    exact h1 (List.mem_of_getElem? h)

private theorem not_mem_phase1 {S : SchemaMut} {e : Ev}
    (he : (∃ j, e = .readKind j) ∨ ∃ i, e = .write 2 i) :
    e ∉ Ev.alloc S.size :: (phase1 S S.size (List.range S.size)).1 := by
  intro hm
  rcases List.mem_cons.1 hm with h' | h'
  · rcases he with ⟨_, rfl⟩ | ⟨_, rfl⟩ <;> cases h'
  · rcases phase1_mem h' with ⟨_, h', _⟩ | ⟨_, h', _⟩ <;>
      rcases he with ⟨_, rfl⟩ | ⟨_, rfl⟩ <;> cases h'

private theorem write1_pos {S : SchemaMut} {q i : Nat} (h : (trace S)[q]? = some (.write 1 i)) :
    q < (Ev.alloc S.size :: (phase1 S S.size (List.range S.size)).1).length := by
  apply Nat.lt_of_not_le
  intro hle
  rcases trace_cases S with ⟨_, ht⟩ | ⟨_, _, ht⟩ | ⟨_, hok, ht⟩
  · have := List.mem_of_getElem? h
    rw [ht] at this; simp at this
  · rw [ht, List.getElem?_append_right hle] at h
    have := List.mem_of_getElem? h
    simp at this
  · rw [ht, List.append_assoc, List.getElem?_append_right hle] at h
    have := List.mem_of_getElem? h
    simp only [List.mem_append, List.mem_singleton] at this
    rcases this with h' | h'
    · rcases phase2_mem h' with ⟨_, _, _, _, h' | ⟨_, _, h'⟩⟩ <;> cases h'
    · cases h'

/-- (3') at the moment of any read, phase 1 has written every cell `0..n-1`, in order. -/
theorem C10_reads_after_all_init (S : SchemaMut) :
    ∀ p j, (trace S)[p]? = some (.readKind j) →
      ∃ rest, initialisedBefore (trace S) p = List.range S.size ++ rest := by
  intro p j h
  rcases after_phase1 h (not_mem_phase1 (.inl ⟨j, rfl⟩)) (fun _ e => by cases e) with ⟨hok, ht, hp⟩
  rcases phase1_filterMap S S.size (List.range S.size) with ⟨m, _, hfm, hm, _⟩
  have hm := hm hok
  rw [hm, List.take_length] at hfm
  rw [initialisedBefore_eq, ht, List.append_assoc, List.take_append, List.take_of_length_le hp,
    List.filterMap_append, List.filterMap_cons]
  simp only [w1idx_alloc]
  rw [hfm]
  exact ⟨_, rfl⟩

/-- (3) no cell is read before it has been initialised: every `readKind j` at position `p` has
    `j` among the cells written by phase 1 before `p`. -/
theorem C10_no_read_before_init (S : SchemaMut) :
    ∀ p j, (trace S)[p]? = some (.readKind j) → j ∈ initialisedBefore (trace S) p := by
  intro p j h
  obtain ⟨rest, e⟩ := C10_reads_after_all_init S p j h
  rw [e]
  exact List.mem_append_left _ (List.mem_range.2 (C10_reads_in_bounds S j (List.mem_of_getElem? h)))

/-- (3'') in particular no `readKind` occurs before the last `write 1 _`. -/
theorem C10_no_read_before_last_write1 (S : SchemaMut) :
    ∀ p q j i : Nat, (trace S)[p]? = some (Ev.readKind j) → (trace S)[q]? = some (Ev.write 1 i) →
      q < p := by
  intro p q j i hr hw
  exact Nat.lt_of_lt_of_le (write1_pos hw)
    (after_phase1 hr (not_mem_phase1 (.inl ⟨j, rfl⟩)) fun _ e => by cases e).2.2

/-- (4) the vector is allocated once and never grows: the only `alloc` is the head of the trace
    (of the full size). -/
theorem C10_never_grows (S : SchemaMut) :
    (∀ n, Ev.alloc n ∉ (trace S).drop 1) ∧
    (S.size > 0 → (trace S).head? = some (.alloc S.size)) := by
  have hp1 : ∀ n, Ev.alloc n ∉ (phase1 S S.size (List.range S.size)).1 := by
    intro n h'
    rcases phase1_mem h' with ⟨_, h', _⟩ | ⟨_, h', _⟩ <;> cases h'
  have hp2 : ∀ n, Ev.alloc n ∉ phase2 S (List.range S.size) := by
    intro n h'
    rcases phase2_mem h' with ⟨_, _, _, _, h' | ⟨_, _, h'⟩⟩ <;> cases h'
  rcases trace_cases S with ⟨h0, ht⟩ | ⟨h0, _, ht⟩ | ⟨h0, hok, ht⟩
  · rw [ht]
    exact ⟨by simp, by omega⟩
  · rw [ht]
    refine ⟨?_, fun _ => rfl⟩
    intro n h
    simp only [List.cons_append, List.drop_one, List.tail_cons, List.mem_append,
      List.mem_singleton] at h
    rcases h with h | h
    · exact hp1 n h
    · cases h
  · rw [ht]
    refine ⟨?_, fun _ => rfl⟩
    intro n h
    simp only [List.cons_append, List.drop_one, List.tail_cons, List.mem_append,
      List.mem_singleton] at h
    rcases h with (h | h) | h
    · exact hp1 n h
    · exact hp2 n h
    · cases h

/-- every trace ends by returning. -/
theorem C10_trace_ends_with_ret (S : SchemaMut) : ∃ b, (trace S).getLast? = some (.ret b) := by
  rcases trace_cases S with ⟨_, ht⟩ | ⟨_, _, ht⟩ | ⟨_, _, ht⟩
  · exact ⟨false, by rw [ht]; rfl⟩
  · exact ⟨false, by rw [ht, List.getLast?_concat]⟩
  · exact ⟨true, by rw [ht, List.getLast?_concat]⟩

private theorem writes1_prefix (S : SchemaMut) :
    ∃ j, j ≤ S.size ∧ (trace S).filterMap w1idx = List.range j ∧
      ((trace S).getLast? = some (.ret true) → j = S.size) ∧
      ((trace S).getLast? = some (.ret false) → S.size > 0 → j < S.size) := by
  rcases phase1_filterMap S S.size (List.range S.size) with ⟨m, hm, hfm, hmok, hmfail⟩
  rw [List.length_range] at hm hmok hmfail
  rw [List.take_range, Nat.min_eq_left hm] at hfm
  rcases trace_cases S with ⟨h0, ht⟩ | ⟨h0, hfail, ht⟩ | ⟨h0, hok, ht⟩
  · rw [ht]
    exact ⟨0, by omega, rfl, fun h => by simp at h, fun _ h => by omega⟩
  · refine ⟨m, hm, ?_, fun h => ?_, fun _ _ => hmfail hfail⟩
    · rw [ht, List.filterMap_append, List.filterMap_cons_none (w1idx_alloc _), hfm]
      simp
    · rw [ht, List.getLast?_concat] at h; simp at h
  · refine ⟨m, hm, ?_, fun _ => hmok hok, fun h => ?_⟩
    · rw [ht, List.filterMap_append, List.filterMap_append, List.filterMap_cons_none (w1idx_alloc _),
        hfm, phase2_filterMap]
      simp
    · rw [ht, List.getLast?_concat] at h; simp at h

/-- (5) on the error path the cells overwritten by phase 1 are exactly a prefix `0..j-1`, in order
    (the rest still hold their valid `Null` placeholders, so dropping the vector is sound); on
    success they are exactly `0..n-1`. -/
theorem C10_error_path_droppable (S : SchemaMut) :
    ((trace S).getLast? = some (.ret false) →
      ∃ j, j ≤ S.size ∧
        (trace S).filterMap (fun e => match e with | .write 1 i => some i | _ => none)
          = List.range j) ∧
    ((trace S).getLast? = some (.ret true) →
      (trace S).filterMap (fun e => match e with | .write 1 i => some i | _ => none)
        = List.range S.size) := by
  obtain ⟨j, hj, e, hok, _⟩ := writes1_prefix S
  exact ⟨fun _ => ⟨j, hj, e⟩, fun h => hok h ▸ e⟩

/-- (5') on the error path of a non-empty vector at least the failing cell keeps its placeholder:
    the written prefix is proper. -/
theorem C10_error_path_proper_prefix (S : SchemaMut) (h0 : S.size > 0)
    (h : (trace S).getLast? = some (.ret false)) :
    ∃ j, j < S.size ∧ (trace S).filterMap w1idx = List.range j := by
  obtain ⟨j, _, e, _, hfail⟩ := writes1_prefix S
  exact ⟨j, hfail h h0, e⟩

/-- (6) phase 2 writes only union cells, and what it read immediately before writing cell `i`'s
    table is exactly the kinds of that union's branch keys, in order (`pre` is the part of the trace
    before those reads; it does not end with a read).  Phase 2 never reads a lookup table: `Ev` has
    no such event. -/
theorem C10_phase2_writes_only_unions (S : SchemaMut) :
    ∀ p i, (trace S)[p]? = some (.write 2 i) →
      ∃ vs pre, i < S.size ∧ S[i]?.map freezeNode = some (.union vs) ∧
        (trace S).take p = pre ++ vs.map Ev.readKind ∧
        (∀ e, pre.getLast? = some e → ∀ j, e ≠ .readKind j) := by
  intro p i h
  obtain ⟨hok, ht, hp⟩ := after_phase1 h (not_mem_phase1 (.inr ⟨i, rfl⟩)) fun _ e => by cases e
  have hA : ∀ j, Ev.readKind j ∉ Ev.alloc S.size :: (phase1 S S.size (List.range S.size)).1 :=
    fun j => not_mem_phase1 (.inl ⟨j, rfl⟩)
  rw [ht, List.append_assoc, List.getElem?_append_right hp] at h
  generalize hq : p - (Ev.alloc S.size :: (phase1 S S.size (List.range S.size)).1).length = q
    at h
  have hq2 : q < (phase2 S (List.range S.size)).length := by
    apply Nat.lt_of_not_le
    intro hle
    rw [List.getElem?_append_right hle] at h
    have := List.mem_of_getElem? h
    simp at this
  rw [List.getElem?_append_left hq2] at h
  rcases phase2_write_pos h with ⟨vs, pre, hi, hvs, htake, hpre⟩
  refine ⟨vs, (Ev.alloc S.size :: (phase1 S S.size (List.range S.size)).1) ++ pre,
    List.mem_range.1 hi, hvs, ?_, NoReadEnd_append (NoReadEnd_of_not_mem hA) hpre⟩
  rw [ht, List.append_assoc, List.take_append, List.take_of_length_le hp, hq,
    List.take_append, htake]
  have : q - (phase2 S (List.range S.size)).length = 0 := by omega
  rw [this]
  simp

/-! ## Part B: lifetimes -/

open Avro.Impl.Lifetimes Avro.Lemmas.Lifetimes

/-- (7) `Avro.Lemmas.Lifetimes.Inv` unfolded, so that the invariant can be read here without
    `Lemmas/Lifetimes.lean`. -/
theorem C10_inv_spelled_out (s : St) :
    Inv s ↔
      ((∀ (a : Nat) (al : Alloc), s.allocs[a]? = some al →
          al.strong = s.handles.count (some a) +
              s.readers.countP (fun r => r.arcHeld && r.schema == a) ∧
          (al.freed = true ↔ al.strong = 0)) ∧
       (∀ r ∈ s.readers, r.stateAlive = true → r.arcHeld = true) ∧
       (∀ a : Nat, some a ∈ s.handles → a < s.allocs.length) ∧
       (∀ r ∈ s.readers, r.schema < s.allocs.length)) :=
  ⟨fun h => ⟨h.counts, h.stateArc, h.handleBound, h.readerBound⟩,
   fun ⟨h1, h2, h3, h4⟩ => ⟨h1, h2, h3, h4⟩⟩

theorem C10_inv_init : Inv {} := inv_init

theorem C10_inv_step (s : St) (op : Op) : Inv s → Inv (step s op) := fun h => (step_inv h op).1

theorem C10_inv_run (ops : List Op) : Inv (run ops) := (inv_foldl inv_init ops).1

/-- consequence of (a)+(b)+(c): while a reader's state is alive, its schema has a positive strong
    count and is not freed — whatever the caller did with its own handles. -/
theorem C10_reader_keeps_schema_alive (ops : List Op) :
    ∀ rd ∈ (run ops).readers, rd.stateAlive = true →
      ∃ al, (run ops).allocs[rd.schema]? = some al ∧ 1 ≤ al.strong ∧ al.freed = false := by
  intro rd hrd halive
  have inv := C10_inv_run ops
  have harc := inv.stateArc rd hrd halive
  have hpos := refs_pos_of_reader hrd harc
  rcases live_of_refs_pos inv (inv.readerBound rd hrd) hpos with ⟨al, hal, hs, hf⟩
  exact ⟨al, hal, by omega, hf⟩

/-- likewise for every live user handle. -/
theorem C10_handle_keeps_schema_alive (ops : List Op) :
    ∀ a : Nat, some a ∈ (run ops).handles →
      ∃ al, (run ops).allocs[a]? = some al ∧ 1 ≤ al.strong ∧ al.freed = false := by
  intro a ha
  have inv := C10_inv_run ops
  have hpos := refs_pos_of_handle ha
  rcases live_of_refs_pos inv (inv.handleBound a ha) hpos with ⟨al, hal, hs, hf⟩
  exact ⟨al, hal, by omega, hf⟩

/-- (8) no sequence of API calls dereferences a pointer into a freed schema. -/
theorem C10_no_use_after_free (ops : List Op) : (run ops).useAfterFree = false :=
  (inv_foldl inv_init ops).2

/-- (9) why the field order of `Reader` matters: releasing the `Arc` before the reader state
    (the wrong drop order) makes the most ordinary history a use-after-free. -/
theorem C10_wrong_order_is_unsafe :
    (List.foldl stepWrongOrder {} [.openReader, .dropReader 0]).useAfterFree = true := by
  decide

/-- the same history is safe with the crate's field order. -/
theorem C10_right_order_is_safe :
    (run [.openReader, .dropReader 0]).useAfterFree = false := C10_no_use_after_free _

end Avro.Theorems
