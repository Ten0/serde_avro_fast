import AvroModel.Lemmas.DriverSchemaFuel
import AvroModel.Theorems.C07
import AvroModel.Theorems.C07valid
import AvroModel.Theorems.C08
import AvroModel.Theorems.C08pcf
import AvroModel.Theorems.C18
import AvroModel.Theorems.C08spec
import AvroModel.Theorems.GraphFuel
import AvroModel.Lemmas.LiteralEq
/-
Non-vacuity audit, area D: properties C07 (schema document parser) and C08 (Parsing Canonical
Form, CRC-64-AVRO fingerprint), with the corollaries at the driver's `graphFuel`
(`Theorems/GraphFuel.lean`).  The theorems about abstract registration states are instantiated on
the states the real `registerNode` goes through; why four of them ask `PState.LeNU` /
`PState.LeExcept` and not `PState.Le` is shown at `le_to_final_state_fails`.
-/
namespace Avro.Theorems.NonVacuityD
open Avro Avro.Impl Avro.Spec Avro.Spec.Pcf Avro.PcfSpec Avro.ValidParses Avro.Theorems

/-! ## The fuel the driver supplies -/

/-- `Avro.Impl.graphFuel` (`Lemmas/DriverFuel.lean`), the fuel `Driver/Main.lean` gives
    `canonicalForm` in `runSchema`, `runGraph`, ..., under the name the examples of this file use -/
abbrev graphFuelD (S : SchemaMut) : Nat := graphFuel S

/-- `C07_valid_parses` as the driver runs the parser: no fuel hypothesis left. -/
theorem valid_parses_at_driver_fuel (j : Json) (hv : ValidDoc j = true)
    (hd : jsonNesting j ≤ 127) (hc : NoUnconditionalCycle j) :
    ∃ S, parseJson j (driverFuel j) = .ok S :=
  C07_valid_parses j (driverFuel j) hv hd (schemaSize_le_driver_fuel j) hc

/-- ... but the fuel range of the conclusion about the canonical form, instantiated at the
    driver's `n`, does not contain the fuel `graphFuel S` the driver gives `canonicalForm`: a
    valid document padded with metadata (`jsonSize` large, graph small). -/
def docPadded : Json :=
  .obj [("type", .str "int"), ("doc", .arr (List.replicate 30 .null))]

theorem padded_fuel_gap :
    ValidDoc docPadded = true ∧ parseJson docPadded (driverFuel docPadded) = .ok #[⟨.int, none⟩] ∧
    graphFuelD #[⟨.int, none⟩] = 82 ∧ driverFuel docPadded + 2 = 142 := by
  decide +kernel

/-- The gap is closed by the corollary at the driver's fuel: parser at the driver's `n`, canonical
    form at the driver's `graphFuel`, no fuel hypothesis left, for EVERY valid document … -/
theorem valid_parses_at_driver_fuels (j : Json) (hv : ValidDoc j = true)
    (hd : jsonNesting j ≤ 127) (hc : NoUnconditionalCycle j) :
    ∃ S text, parseJson j (driverFuel j) = .ok S ∧ parsingCanonicalForm j = some text ∧
      canonicalForm S (graphFuelD S) = .ok text :=
  C07_valid_parses_and_resolves_at_graphFuel j (driverFuel j) hv hd (schemaSize_le_driver_fuel j) hc

/-- … in particular for the padded document (82 is outside the range `142 ≤ fuel`). -/
theorem padded_at_graphFuel :
    parseJson docPadded (driverFuel docPadded) = .ok #[⟨.int, none⟩] ∧
    parsingCanonicalForm docPadded = some "\"int\"" ∧
    canonicalForm #[⟨.int, none⟩] (graphFuelD #[⟨.int, none⟩]) = .ok "\"int\"" := by
  obtain ⟨S, text, h1, h2, h3⟩ :=
    C07_valid_parses_checked_at_graphFuel docPadded (driverFuel docPadded) padded_fuel_gap.1
      (by decide +kernel) (schemaSize_le_driver_fuel docPadded) (by decide +kernel)
  obtain rfl : S = #[⟨.int, none⟩] := Except.ok.inj (h1.symm.trans padded_fuel_gap.2.1)
  obtain rfl : text = "\"int\"" := Option.some.inj (h2.symm.trans (by decide +kernel))
  exact ⟨h1, h2, h3⟩

/-- (Without that corollary the gap is closed by instantiating at the least `n` (`schemaSize j`),
    which speaks of the same graph because the result of `parseJson j n` does not depend on `n`
    above `schemaSize j`: `C19_parseJson_total`, `C19_parseJson_fuel_irrelevant`
    (`Theorems/C19register.lean`); checked here by evaluation as well.) -/
example : ∃ S text, parseJson docPadded 2 = .ok S ∧ parsingCanonicalForm docPadded = some text ∧
    ∀ fuel, 4 ≤ fuel → canonicalForm S fuel = .ok text :=
  C07_valid_parses_checked docPadded 2 (by decide +kernel) (by decide +kernel) (by decide +kernel)
    (by decide +kernel)

example : parseJson docPadded 2 = parseJson docPadded (driverFuel docPadded) := by decide +kernel

/-! ## A document with everything in it -/

/-- Record `org.ex.Tree`, recursive through an array (reference `Tree`, relative to the enclosing
    namespace) and through a union (reference by fullname); enum `Kind` (namespace inherited);
    fixed with a dotted name (the `namespace` attribute is ignored) and a `decimal` logical type;
    later references `Kind` (relative) and `money.Amount`; `doc`, `default` metadata. -/
def docTree : Json :=
  .obj [("type", .str "record"), ("name", .str "Tree"), ("namespace", .str "org.ex"),
    ("doc", .str "a tree"),
    ("fields", .arr [
      .obj [("name", .str "kind"), ("type",
        .obj [("type", .str "enum"), ("name", .str "Kind"),
          ("symbols", .arr [.str "LEAF", .str "NODE"])])],
      .obj [("name", .str "amount"), ("type",
        .obj [("type", .str "fixed"), ("name", .str "money.Amount"), ("namespace", .str "ignored"),
          ("size", .nat 12), ("logicalType", .str "decimal"), ("precision", .nat 20),
          ("scale", .nat 2)])],
      .obj [("name", .str "children"), ("type",
        .obj [("type", .str "array"), ("items", .str "Tree")])],
      .obj [("name", .str "parent"), ("type", .arr [.str "null", .str "org.ex.Tree"]),
        ("default", .null)],
      .obj [("name", .str "kind2"), ("type", .str "Kind")],
      .obj [("name", .str "amount2"), ("type", .str "money.Amount")]])]

def treeGraph : SchemaMut :=
  #[⟨.record ⟨"org.ex.Tree", "Tree", some "org.ex"⟩
      [("kind", 1), ("amount", 2), ("children", 3), ("parent", 4), ("kind2", 1), ("amount2", 2)],
      none⟩,
    ⟨.enum ⟨"org.ex.Kind", "Kind", some "org.ex"⟩ ["LEAF", "NODE"], none⟩,
    ⟨.fixed ⟨"money.Amount", "Amount", some "money"⟩ 12, some (.decimal 2 20)⟩,
    ⟨.array 0, none⟩,
    ⟨.union [5, 0], none⟩,
    ⟨.null, none⟩]

def treeText : String :=
  "{\"name\":\"org.ex.Tree\",\"type\":\"record\",\"fields\":[{\"name\":\"kind\",\"type\":{\"name\":\"org.ex.Kind\",\"type\":\"enum\",\"symbols\":[\"LEAF\",\"NODE\"]}},{\"name\":\"amount\",\"type\":{\"name\":\"money.Amount\",\"type\":\"fixed\",\"size\":12}},{\"name\":\"children\",\"type\":{\"type\":\"array\",\"items\":\"org.ex.Tree\"}},{\"name\":\"parent\",\"type\":[\"null\",\"org.ex.Tree\"]},{\"name\":\"kind2\",\"type\":\"org.ex.Kind\"},{\"name\":\"amount2\",\"type\":\"money.Amount\"}]}"

/-- every hypothesis of `C07_valid_parses`, evaluated -/
theorem docTree_hyps :
    ValidDoc docTree = true ∧ jsonNesting docTree = 5 ∧ schemaSize docTree = 27 ∧
    driverFuel docTree = 172 ∧ noUnconditionalCycleB docTree = true ∧
    definedNames docTree = [(some "org.ex", "Tree"), (some "org.ex", "Kind"), (some "money", "Amount")] := by
  decide +kernel

theorem docTree_noForward : noForwardRefs docTree = true := by decide +kernel

/-- a ranking given by hand (`Tree` directly contains the enum and the fixed only) -/
theorem docTree_acyclic : NoUnconditionalCycle docTree :=
  ⟨fun fn => if fn.2 = "Tree" then 1 else 0, by decide +kernel⟩

/-- `C07_valid_parses`, at the driver's fuel -/
example : ∃ S, parseJson docTree (driverFuel docTree) = .ok S :=
  C07_valid_parses docTree (driverFuel docTree) docTree_hyps.1 (by decide +kernel)
    (schemaSize_le_driver_fuel docTree) docTree_acyclic

/-- `C07_valid_parses_and_resolves`, at the driver's fuel -/
example : ∃ S text, parseJson docTree (driverFuel docTree) = .ok S ∧
    parsingCanonicalForm docTree = some text ∧
    ∀ fuel, driverFuel docTree + 2 ≤ fuel → canonicalForm S fuel = .ok text :=
  C07_valid_parses_and_resolves docTree (driverFuel docTree) docTree_hyps.1 (by decide +kernel)
    (schemaSize_le_driver_fuel docTree) docTree_acyclic

theorem docTree_parse : parseJson docTree (driverFuel docTree) = .ok treeGraph := by
  decide +kernel

theorem docTree_spec_text : parsingCanonicalForm docTree = some treeText := by
  -- compared as lists of UTF-8 bytes (`Lemmas/LiteralEq.lean` says why)
  apply eq_some_ofList_of_utf8
  decide +kernel

/-- here the driver's `graphFuel` is inside the fuel range of the theorem (`174 ≤ 576`) -/
example : graphFuelD treeGraph = 576 ∧ driverFuel docTree + 2 = 174 := by
  decide +kernel

/-- `C08_pcf_is_spec_at_graphFuel` / `C08_pcf_is_spec_text_at_graphFuel`: no look at the numbers
    needed -/
example : ∃ c, canon none docTree = some c ∧
    canonicalForm treeGraph (graphFuelD treeGraph) = .ok (print c) :=
  C08_pcf_is_spec_at_graphFuel docTree (driverFuel docTree) treeGraph docTree_parse docTree_noForward

example : ∃ text, parsingCanonicalForm docTree = some text ∧
    canonicalForm treeGraph (graphFuelD treeGraph) = .ok text :=
  C08_pcf_is_spec_text_at_graphFuel docTree (driverFuel docTree) treeGraph docTree_parse
    docTree_noForward

/-- `C08_pcf_is_spec`: hypotheses "the parser accepts" and "no forward reference" -/
example : ∃ c, canon none docTree = some c ∧
    ∀ fuel, driverFuel docTree + 2 ≤ fuel → canonicalForm treeGraph fuel = .ok (print c) :=
  C08_pcf_is_spec docTree (driverFuel docTree) treeGraph docTree_parse docTree_noForward

/-- `C08_pcf_is_spec_text`, used: the crate's text at the driver's fuel is the text shown -/
theorem docTree_crate_text : canonicalForm treeGraph (graphFuelD treeGraph) = .ok treeText := by
  obtain ⟨text, h1, h2⟩ :=
    C08_pcf_is_spec_text docTree (driverFuel docTree) treeGraph docTree_parse docTree_noForward
  rw [docTree_spec_text] at h1
  cases h1
  exact h2 _ (by decide +kernel)

/-- (and by evaluation, independently of the theorem) -/
example : canonicalForm treeGraph (graphFuelD treeGraph) = .ok treeText := by
  apply eq_ok_ofList_of_utf8
  decide +kernel

/-- the names: `C07_defKey_is_spec`, `C07_refKey_is_spec`, `C07_ref_matches_def` on the spellings
    of the document -/
example : defKey "money.Amount" (some "ignored") (some "org.ex") = ⟨some "money", "Amount"⟩ ∧
    Spec.fullnameOfDef "money.Amount" (some "ignored") (some "org.ex") = (some "money", "Amount") ∧
    refKey "Tree" (some "org.ex") = ⟨some "org.ex", "Tree"⟩ ∧
    Spec.fullnameOfRef "Tree" (some "org.ex") = (some "org.ex", "Tree") := by
  decide +kernel

example := C07_defKey_is_spec "money.Amount" (some "ignored") (some "org.ex")
example := C07_refKey_is_spec "Tree" (some "org.ex")

example : refKey ("org.ex" ++ "." ++ "Tree") none = ⟨some "org.ex", "Tree"⟩ ∧
    refKey "Tree" (some "org.ex") = ⟨some "org.ex", "Tree"⟩ ∧
    defKey "Tree" (some "org.ex") none = ⟨some "org.ex", "Tree"⟩ :=
  have h := C07_ref_matches_def "org.ex" "Tree" (by decide) (by decide)
  ⟨(h none none).1, (h (some "org.ex") none).2.2.1, (h none none).2.2.2.2.2.1⟩

/-! ## Abstract registration states = states the parser reaches -/

/-- `record n.R { a : E (forward reference), b : enum E, c : n.E (backward reference), d : long }` -/
def docOrder : Json :=
  .obj [("type", .str "record"), ("name", .str "R"), ("namespace", .str "n"),
    ("fields", .arr [
      .obj [("name", .str "a"), ("type", .str "E")],
      .obj [("name", .str "b"), ("type",
        .obj [("type", .str "enum"), ("name", .str "E"), ("symbols", .arr [.str "A"])])],
      .obj [("name", .str "c"), ("type", .str "n.E")],
      .obj [("name", .str "d"), ("type", .str "long")]])]

def attrsR : RawAttrs :=
  { type := .record, logicalType := none, name := some "R", nsAttr := some "n", symbols := none,
    size := none, precision := none, scale := none }

def attrsE : RawAttrs :=
  { type := .enum, logicalType := none, name := some "E", nsAttr := none, symbols := some ["A"],
    size := none, precision := none, scale := none }

def rawE : RawSchema := .object attrsE none none none

def fieldsR : List (String × RawSchema) :=
  [("a", .ref "E"), ("b", rawE), ("c", .ref "n.E"), ("d", .type .long)]

def rawOrder : RawSchema := .object attrsR (some fieldsR) none none

theorem docOrder_raw : ∃ r, rawOfJson (rawGas docOrder) docOrder = .ok r := by
  cases h : rawOfJson (rawGas docOrder) docOrder with
  | ok r => exact ⟨r, rfl⟩
  | error e =>
    have : (match rawOfJson (rawGas docOrder) docOrder with | .ok _ => true | .error _ => false)
        = true := by decide +kernel
    rw [h] at this; cases this

/-- the states of the registration of `rawOrder`, in order:
    `stA` slot 0 reserved and `n.R` bound (inside `registerObject`, before the fields);
    `st1` after field `a` (a pending reference); `st2` after field `b` (the enum);
    field `c` finds the binding and leaves `st2` unchanged; `st3` after field `d`;
    `stF` the final state: slot 0 overwritten with the record. -/
def stA : PState := { nodes := #[⟨.null, none⟩], names := [(⟨some "n", "R"⟩, 0)] }

def st1 : PState := { stA with unresolved := [⟨some "n", "E"⟩] }

def st2 : PState :=
  { nodes := #[⟨.null, none⟩, ⟨.enum ⟨"n.E", "E", some "n"⟩ ["A"], none⟩]
    names := [(⟨some "n", "E"⟩, 1), (⟨some "n", "R"⟩, 0)]
    unresolved := [⟨some "n", "E"⟩] }

def st3 : PState := { st2 with nodes := st2.nodes.push ⟨.long, none⟩ }

def recordR : PNode :=
  ⟨.record ⟨"n.R", "R", some "n"⟩ [("a", .pending 0), ("b", .idx 1), ("c", .idx 1), ("d", .idx 2)],
    none⟩

def stF : PState := { st3 with nodes := st3.nodes.set! 0 recordR }

/-- these ARE the states of the real functions (fuel as `parseJson` would pass it down from 32) -/
theorem states_are_real :
    registerNode 32 rawOrder none {} = .ok (.idx 0, stF) ∧
    registerObject 31 .record (some attrsR) (some fieldsR) none none none {} = .ok (.idx 0, stF) ∧
    nameStep (some attrsR) none {} = .ok (some ⟨some "n", "R"⟩, stA) ∧
    registerFields 30 fieldsR (some "n") stA =
      .ok ([("a", .pending 0), ("b", .idx 1), ("c", .idx 1), ("d", .idx 2)], st3) ∧
    registerNode 29 (.ref "E") (some "n") stA = .ok (.pending 0, st1) ∧
    registerNode 28 rawE (some "n") st1 = .ok (.idx 1, st2) ∧
    registerObject 27 .enum (some attrsE) none none none (some "n") st1 = .ok (.idx 1, st2) ∧
    registerNode 27 (.ref "n.E") (some "n") st2 = .ok (.idx 1, st2) ∧
    registerNode 26 (.type .long) (some "n") st2 = .ok (.idx 2, st3) := by
  decide +kernel

/-- `C07_register_extends` on real states -/
theorem le_0_F : PState.Le {} stF := C07_register_extends 32 rawOrder none {} _ _ states_are_real.1
theorem le_1_2 : st1.Le st2 :=
  C07_register_extends 28 rawE (some "n") st1 _ _ states_are_real.2.2.2.2.2.1
theorem le_2_3 : st2.Le st3 :=
  C07_register_extends 26 (.type .long) (some "n") st2 _ _ states_are_real.2.2.2.2.2.2.2.2
theorem le_1_3 : st1.Le st3 := le_1_2.trans le_2_3

/-- `C07_def_binds`: the enum binds `n.E` to its own slot -/
example : st2.names.lookup (defKey "E" attrsE.nsAttr (some "n")) = some st1.nodes.size :=
  C07_def_binds 26 .enum attrsE "E" rfl none none none (some "n") st1 (.idx 1) st2
    states_are_real.2.2.2.2.2.2.1

example : defKey "E" attrsE.nsAttr (some "n") = ⟨some "n", "E"⟩ ∧ st1.nodes.size = 1 := by
  decide +kernel

/-- The relations that reach the FINAL state `stF` of the real run (slot 0, the record's own
    placeholder, is overwritten at the end: `registerObject_inner` on the real call). -/
theorem body_real :
    bodyStep 30 .record (some attrsR) (some fieldsR) none none none (some ⟨some "n", "R"⟩) stA =
      .ok (recordR.type, st3) := by decide +kernel

theorem leX_3_F : st3.LeExcept [0] stF := by
  obtain ⟨nk, s1, ty, s2, hn, hb, hin⟩ := registerObject_inner states_are_real.2.1
  rw [states_are_real.2.2.1] at hn
  cases hn
  rw [body_real] at hb
  cases hb
  exact hin [] st3 (PState.Le.refl _).toLeExcept
theorem leX_1_F : st1.LeExcept [0] stF := by
  have := le_1_3.toLeExcept.trans leX_3_F
  simpa using this
theorem leX_2_F : st2.LeExcept [0] stF := by
  have := le_2_3.toLeExcept.trans leX_3_F
  simpa using this
theorem leNU_1_F : st1.LeNU stF := leX_1_F.toLeNU
theorem leNU_2_F : st2.LeNU stF := leX_2_F.toLeNU

/-- `C07_order_independent_ref`, forward reference `a : E`, up to the REAL FINAL state `stF` of
    the registration (the state `resolveKeys` works on) -/
example : resolveKey stF (.pending 0) = 1 :=
  C07_order_independent_ref 28 "E" (some "n") stA st1 stF (.pending 0) 1
    states_are_real.2.2.2.2.1 leNU_1_F (by decide +kernel)

/-- … and to the last state before the enclosing record is completed -/
example : resolveKey st3 (.pending 0) = 1 :=
  C07_order_independent_ref 28 "E" (some "n") stA st1 st3 (.pending 0) 1
    states_are_real.2.2.2.2.1 le_1_3.toLeNU (by decide +kernel)

/-- `C07_forward_ref_eq_late_lookup`, final state -/
example : resolveKey stF (.pending 0) = 1 ∧
    registerNode 29 (.ref "E") (some "n") stF = .ok (.idx 1, stF) :=
  C07_forward_ref_eq_late_lookup 28 "E" (some "n") stA st1 stF 0 1
    states_are_real.2.2.2.2.1 leNU_1_F (by decide +kernel)

/-- `C07_order_independent_ref` and `C07_backward_ref_stable`, backward reference `c : n.E`,
    final state -/
example : resolveKey stF (.idx 1) = 1 :=
  C07_order_independent_ref 26 "n.E" (some "n") st2 st2 stF (.idx 1) 1
    states_are_real.2.2.2.2.2.2.2.1 leNU_2_F (by decide +kernel)

example : stF.names.lookup (refKey "n.E" (some "n")) = some 1 :=
  C07_backward_ref_stable 26 "n.E" (some "n") st2 st2 stF 1 states_are_real.2.2.2.2.2.2.2.1
    leNU_2_F

/-- `C07_node_stable`: the enum written in `st2` (slot 1) is still there in the FINAL state; slot
    0, the enclosing record's placeholder, is the exception -/
example : stF.nodes[1]? = some ⟨.enum ⟨"n.E", "E", some "n"⟩ ["A"], none⟩ :=
  C07_node_stable [0] st2 stF leX_2_F 1 _ (by decide) (by decide +kernel)

/-- `C07_node_stable_le` between two states related by a complete call -/
example : st3.nodes[1]? = some ⟨.enum ⟨"n.E", "E", some "n"⟩ ["A"], none⟩ :=
  C07_node_stable_le st2 st3 le_2_3 1 _ (by decide +kernel)

/-- `C07_node_survives_enclosing` on the real call of the enclosing record -/
example : stF.nodes[1]? = some ⟨.enum ⟨"n.E", "E", some "n"⟩ ["A"], none⟩ :=
  C07_node_survives_enclosing states_are_real.2.1 st2 1 _ (by decide) (by decide +kernel)
    (fun nk s1 ty s2 hn hb => by
      rw [states_are_real.2.2.1] at hn
      cases hn
      rw [body_real] at hb
      cases hb
      exact le_2_3)

/-- WHY the hypothesis of these four theorems is `LeNU` / `LeExcept` and not `Le`: with
    `stF` the FINAL state of the registration — the state `resolveKeys` works on — `st1.Le stF` is
    false: slot 0 is the placeholder `null` in `st1`, `st2`, `st3` and the record in `stF`.  This
    is so for every reference and every nested node of every document: a reference always stands
    inside a record / array / map / union whose slot is reserved before its children are
    registered and overwritten afterwards. -/
theorem le_to_final_state_fails : ¬ st1.Le stF :=
  fun h => absurd (h.nodes 0 (by decide)) (by decide +kernel)

theorem node_stable_hyp_fails_for_final_state : ¬ st2.Le stF ∧ ¬ st3.Le stF :=
  ⟨fun h => absurd (h.nodes 0 (by decide)) (by decide +kernel),
   fun h => absurd (h.nodes 0 (by decide)) (by decide +kernel)⟩

/-- `C07_resolveKeys_ok_iff`, `C07_resolveKeys_eq` on the real final state -/
example : ∃ S, resolveKeys stF = .ok S :=
  (C07_resolveKeys_ok_iff stF).mpr (by decide +kernel)

def orderGraph : SchemaMut :=
  #[⟨.record ⟨"n.R", "R", some "n"⟩ [("a", 1), ("b", 1), ("c", 1), ("d", 2)], none⟩,
    ⟨.enum ⟨"n.E", "E", some "n"⟩ ["A"], none⟩, ⟨.long, none⟩]

theorem resolve_F : resolveKeys stF = .ok orderGraph := by decide +kernel

example : orderGraph = stF.nodes.map fun n =>
    { logical := n.logical, type := resolveType (resolveKey stF) n.type } :=
  C07_resolveKeys_eq stF orderGraph resolve_F

example : ∀ k ∈ stF.unresolved, (stF.names.lookup k).isSome :=
  (C07_resolveKeys_ok_iff stF).mp ⟨orderGraph, resolve_F⟩

/-- the document with the forward reference is accepted, outside `ValidDoc` -/
example : parseJson docOrder 32 = .ok orderGraph ∧ ValidDoc docOrder = false ∧
    noForwardRefs docOrder = false := by
  decide +kernel

/-- `C07_preserves_record` on the real call -/
example : ∃ name fs lt sa sb,
    attrsR.name = some name ∧ PKey.idx 0 = .idx ({} : PState).nodes.size ∧
    logicalOf attrsR = .ok lt ∧
    registerFields 30 fieldsR (defKey name attrsR.nsAttr none).ns sa = .ok (fs, sb) ∧
    fs.map (·.1) = fieldsR.map (·.1) ∧
    stF.nodes[({} : PState).nodes.size]? =
      some { type := .record (defKey name attrsR.nsAttr none).toName fs, logical := lt } :=
  C07_preserves_record 30 attrsR fieldsR none none none {} (.idx 0) stF states_are_real.2.1

/-- `C07_rejects_unknown_ref` on a real state: the same record without field `b` -/
def stUnknown : PState :=
  { nodes := #[⟨.record ⟨"n.R", "R", some "n"⟩ [("a", .pending 0)], none⟩]
    names := [(⟨some "n", "R"⟩, 0)]
    unresolved := [⟨some "n", "E"⟩] }

theorem unknown_real :
    registerNode 32 (.object attrsR (some [("a", .ref "E")]) none none) none {} =
      .ok (.idx 0, stUnknown) := by decide +kernel

example : resolveKeys stUnknown = .error .custom :=
  C07_rejects_unknown_ref stUnknown ⟨some "n", "E"⟩ (by decide +kernel) (by decide +kernel)

example : ¬ ∃ S, resolveKeys stUnknown = .ok S := fun h =>
  absurd ((C07_resolveKeys_ok_iff stUnknown).mp h ⟨some "n", "E"⟩ (by decide +kernel))
    (by decide +kernel)

/-- `C07_rejects_duplicate` on a real state: a second definition of `n.E` met in `st2` -/
example : registerObject 27 .enum (some attrsE) none none none (some "n") st2 = .error .custom :=
  C07_rejects_duplicate 26 .enum attrsE "E" rfl none none none (some "n") st2 (by decide +kernel)

/-! ## The cycle check -/

/-- the graph the parser builds for `record R { f : R }` (`docSelfRecord`) before the cycle check -/
def selfGraph : SchemaMut := #[⟨.record ⟨"R", "R", none⟩ [("f", 0)], none⟩]

def attrsSelf : RawAttrs :=
  { type := .record, logicalType := none, name := some "R", nsAttr := none, symbols := none,
    size := none, precision := none, scale := none }

def stSelf : PState :=
  { nodes := #[⟨.record ⟨"R", "R", none⟩ [("f", .idx 0)], none⟩], names := [(⟨none, "R"⟩, 0)] }

theorem selfGraph_real :
    registerNode 32 (.object attrsSelf (some [("f", .ref "R")]) none none) none {} =
      .ok (.idx 0, stSelf) ∧
    resolveKeys stSelf = .ok selfGraph ∧
    parseJson docSelfRecord 32 = .error .cycle := by
  decide +kernel

theorem selfGraph_cycle : ∃ i, Relation.TransGen (recEdge selfGraph) i i :=
  ⟨0, .single ⟨by decide +kernel, by decide +kernel, by decide +kernel⟩⟩

/-- `C07_cycle_check_iff`, first equivalence, right to left: the cycle is reported -/
example : checkForCycles selfGraph = .error .cycle :=
  (C07_cycle_check_iff selfGraph).1.mpr selfGraph_cycle

/-- ... left to right, from the evaluated outcome -/
example : ∃ i, Relation.TransGen (recEdge selfGraph) i i :=
  (C07_cycle_check_iff selfGraph).1.mp (by decide +kernel)

/-- second equivalence on the graph of `docTree` (the record contains itself only through an
    array and a union): accepted, hence no record cycle (`C07_cycle_check_sound`) -/
theorem treeGraph_acyclic : ¬ ∃ i, Relation.TransGen (recEdge treeGraph) i i :=
  (C07_cycle_check_iff treeGraph).2.mp (by decide +kernel)

example : ¬ ∃ i, Relation.TransGen (recEdge treeGraph) i i :=
  C07_cycle_check_sound treeGraph (by decide +kernel)

/-- ... and back: from acyclicity (as a hypothesis) to `ok` -/
example : checkForCycles treeGraph = .ok () :=
  (C07_cycle_check_iff treeGraph).2.mpr treeGraph_acyclic

/-- the fuel chosen inside `checkForCycles`: `(S.size + 2) * (maxWidth S + 2)` per root -/
example : (treeGraph.size + 2) * (maxWidth treeGraph + 2) = 64 ∧
    (selfGraph.size + 2) * (maxWidth selfGraph + 2) = 9 := by
  decide +kernel

/-- a two-record cycle with an acyclic tail, indices not in document order -/
def twoCycle : SchemaMut :=
  #[⟨.record ⟨"A", "A", none⟩ [("x", 2), ("b", 1)], none⟩,
    ⟨.record ⟨"B", "B", none⟩ [("u", 3), ("a", 0)], none⟩,
    ⟨.int, none⟩,
    ⟨.union [2, 0], none⟩]

example : checkForCycles twoCycle = .error .cycle :=
  (C07_cycle_check_iff twoCycle).1.mpr
    ⟨0, .tail (b := 1) (.single ⟨by decide +kernel, by decide +kernel, by decide +kernel⟩)
      ⟨by decide +kernel, by decide +kernel, by decide +kernel⟩⟩

/-! ## CRC-64-AVRO -/

/-- `"int"` (with its quotes), as bytes -/
def intText : Bytes := [34, 105, 110, 116, 34]

example : intText = "\"int\"".toUTF8.data.toList := by decide +kernel

/-- The specification's bit-serial CRC gives the published fingerprint of the schema `"int"`
    (Avro's `schema-tests.txt`: 8247732601305521295): `Spec.crc64` is the real thing. -/
theorem crc_int_spec : Spec.crc64 intText = BitVec.ofInt 64 8247732601305521295 := by
  decide +kernel

/-- `C08_fold` on a non-empty byte string: the table-driven checksum has that value too -/
theorem crc_int_impl : rabinHash intText = BitVec.ofInt 64 8247732601305521295 := by
  rw [C08_fold]; exact crc_int_spec

/-- (independently of the theorem, by evaluating the table lookups) -/
example : rabinHash intText = BitVec.ofInt 64 8247732601305521295 := by decide +kernel

/-- `C08_fingerprint_bytes`: little endian -/
example : rabinFingerprint intText = [0x8f, 0x5c, 0x39, 0x3f, 0x1a, 0xd5, 0x75, 0x72] := by
  rw [C08_fingerprint_bytes]; decide +kernel

/-- the two definitions differ: one table lookup and a shift by 8 against eight conditional
    shift-xor rounds (no table on the specification side) -/
example (s : BitVec 64) (b : UInt8) :
    rabinStep s b =
      (s >>> 8) ^^^ Generated.rabinTable[((s ^^^ BitVec.ofNat 64 b.toNat) &&& 0xFF#64).toNat]! ∧
    Spec.crcStep s b = Spec.round (Spec.round (Spec.round (Spec.round (Spec.round (Spec.round
      (Spec.round (Spec.round (s ^^^ BitVec.ofNat 64 b.toNat)))))))) := ⟨rfl, rfl⟩

/-- The crate's own test vector (`tests/round_trips.rs`,
    `complex_schema_parsing_serialization_round_trip`): a union of a fixed and a record with
    nested records, `"namespace": ""`, a leading-dot reference; the crate asserts the fingerprint
    `[18, 207, 199, 195, 150, 81, 210, 28]`. -/
def docRepo : Json :=
  .arr [
    .obj [("type", .str "fixed"), ("name", .str "fiiixed"), ("size", .nat 12)],
    .obj [("type", .str "record"), ("name", .str "Test"), ("fields", .arr [
      .obj [("name", .str "f"), ("type",
        .obj [("type", .str "record"), ("name", .str "a.Test2"), ("fields", .arr [
          .obj [("name", .str "Test2 inner"), ("type",
            .obj [("type", .str "fixed"), ("size", .nat 12), ("name", .str "test2_inner")])],
          .obj [("name", .str "the_fiixed"), ("type", .str ".fiiixed")]])])],
      .obj [("name", .str "f2"), ("type", .str "a.Test2")],
      .obj [("name", .str "f3"), ("type",
        .obj [("type", .str "record"), ("name", .str "f3"), ("namespace", .str ""),
          ("fields", .arr [
            .obj [("name", .str "f3fiiixed"), ("type", .str "fiiixed")],
            .obj [("name", .str "f3_2"), ("type", .str "a.test2_inner")]])])],
      .obj [("name", .str "f4"), ("type", .str "a.test2_inner")]])]]

def repoText : String :=
  "[{\"name\":\"fiiixed\",\"type\":\"fixed\",\"size\":12},{\"name\":\"Test\",\"type\":\"record\",\"fields\":[{\"name\":\"f\",\"type\":{\"name\":\"a.Test2\",\"type\":\"record\",\"fields\":[{\"name\":\"Test2 inner\",\"type\":{\"name\":\"a.test2_inner\",\"type\":\"fixed\",\"size\":12}},{\"name\":\"the_fiixed\",\"type\":\"fiiixed\"}]}},{\"name\":\"f2\",\"type\":\"a.Test2\"},{\"name\":\"f3\",\"type\":{\"name\":\"f3\",\"type\":\"record\",\"fields\":[{\"name\":\"f3fiiixed\",\"type\":\"fiiixed\"},{\"name\":\"f3_2\",\"type\":\"a.test2_inner\"}]}},{\"name\":\"f4\",\"type\":\"a.test2_inner\"}]}]"

theorem docRepo_spec_text : parsingCanonicalForm docRepo = some repoText := by
  apply eq_some_ofList_of_utf8
  decide +kernel

/-- the hypotheses of `C07_valid_parses_checked` -/
theorem docRepo_hyps : ValidDoc docRepo = true ∧ jsonNesting docRepo ≤ 127 ∧
    noUnconditionalCycleB docRepo = true := by
  decide +kernel

theorem repoText_fingerprint :
    Spec.fingerprintLE repoText.toUTF8.data.toList = [18, 207, 199, 195, 150, 81, 210, 28] := by
  -- the bytes of the literal from its list of characters (`utf8_ofList`)
  apply (congrArg Spec.fingerprintLE (utf8_ofList _)).trans
  decide +kernel

/-- `C07_valid_parses_checked` + `C18_fingerprint_is_crc`: the document is accepted at the
    driver's fuel, its canonical form is the specification's, and the fingerprint stored for it
    — at the driver's `graphFuel` — is the one the crate's test asserts. -/
theorem docRepo_fingerprint : ∃ S, parseJson docRepo (driverFuel docRepo) = .ok S ∧
    canonicalForm S (graphFuelD S + driverFuel docRepo) = .ok repoText ∧
    schemaFingerprint S (graphFuelD S + driverFuel docRepo) =
      .ok [18, 207, 199, 195, 150, 81, 210, 28] := by
  obtain ⟨S, text, hS, ht, hc⟩ :=
    C07_valid_parses_checked docRepo (driverFuel docRepo) docRepo_hyps.1 docRepo_hyps.2.1
      (schemaSize_le_driver_fuel docRepo) docRepo_hyps.2.2
  rw [docRepo_spec_text] at ht
  cases ht
  have hcf := hc (graphFuelD S + driverFuel docRepo) (by unfold graphFuelD graphFuel; omega)
  refine ⟨S, hS, hcf, ?_⟩
  rw [C18_fingerprint_is_crc S _ repoText hcf, repoText_fingerprint]

/-- the same at the driver's `graphFuel` exactly (`C07_valid_parses_checked_at_graphFuel`) -/
theorem docRepo_fingerprint_at_graphFuel : ∃ S, parseJson docRepo (driverFuel docRepo) = .ok S ∧
    canonicalForm S (graphFuelD S) = .ok repoText ∧
    schemaFingerprint S (graphFuelD S) = .ok [18, 207, 199, 195, 150, 81, 210, 28] := by
  obtain ⟨S, text, hS, ht, hcf⟩ :=
    C07_valid_parses_checked_at_graphFuel docRepo (driverFuel docRepo) docRepo_hyps.1
      docRepo_hyps.2.1 (schemaSize_le_driver_fuel docRepo) docRepo_hyps.2.2
  rw [docRepo_spec_text] at ht
  cases ht
  refine ⟨S, hS, hcf, ?_⟩
  rw [C18_fingerprint_is_crc S _ repoText hcf, repoText_fingerprint]

/-! ## The canonical-form writer on the parsed graph -/

/-- `C08_pcf_logical_irrelevant`: `treeGraph` carries `decimal(20, 2)` on the fixed -/
example : canonicalForm (treeGraph.map fun n => { n with logical := none }) 576 = .ok treeText := by
  rw [C08_pcf_logical_irrelevant]; exact docTree_crate_text

/-- `C08_pcf_depends_on_types_only`: another annotation on another node -/
def treeGraph' : SchemaMut := (treeGraph.set! 2 ⟨.fixed ⟨"money.Amount", "Amount", some "money"⟩ 12, some .duration⟩).set! 5 ⟨.null, some (.unknown "x")⟩

example : canonicalForm treeGraph' 576 = .ok treeText := by
  rw [C08_pcf_depends_on_types_only treeGraph' treeGraph 576 (by decide +kernel)]
  exact docTree_crate_text

/-- `C08_pcf_named_once`: field `kind2`, met when `Tree` and `Kind` have been written -/
example : pcf treeGraph 10 1 { out := "x", written := [1, 0] } =
    .ok { out := "x" ++ "\"" ++ "org.ex.Kind" ++ "\"", written := [1, 0] } :=
  C08_pcf_named_once treeGraph 9 1 { out := "x", written := [1, 0] }
    ⟨.enum ⟨"org.ex.Kind", "Kind", some "org.ex"⟩ ["LEAF", "NODE"], none⟩
    ⟨"org.ex.Kind", "Kind", some "org.ex"⟩ (by decide +kernel) rfl (by decide +kernel)

/-- `C08_pcf_named_first_enum` / `_fixed` -/
example := C08_pcf_named_first_enum treeGraph 9 1 { out := "x", written := [0] } none
  ⟨"org.ex.Kind", "Kind", some "org.ex"⟩ ["LEAF", "NODE"] (by decide +kernel) (by decide +kernel)

example := C08_pcf_named_first_fixed treeGraph 9 2 { out := "x", written := [1, 0] }
  (some (.decimal 2 20)) ⟨"money.Amount", "Amount", some "money"⟩ 12 (by decide +kernel)
  (by decide +kernel)

/-- Remark (no hidden hypothesis on the alphabet in `C08_pcf_is_spec`; instead): neither the
    writer model (as the crate) nor `Spec.Pcf.print` escapes anything, so for a name or symbol
    containing `"` or `\` both sides are the same text — which is not JSON.  [STRINGS] of the
    specification is outside the statement (declared in the property's `partial` text). -/
def docQuote : Json :=
  .obj [("type", .str "enum"), ("name", .str "E"), ("symbols", .arr [.str "a\"b"])]

example : ValidDoc docQuote = true ∧
    parsingCanonicalForm docQuote = some "{\"name\":\"E\",\"type\":\"enum\",\"symbols\":[\"a\"b\"]}" ∧
    crateCanonicalText docQuote 10 20 = parsingCanonicalForm docQuote := by
  decide +kernel

/-! ## Further registered theorems, instantiated; totalised definitions -/

/-- `C07_parse_ok` on the accepted document of B -/
example : ∃ raw k st,
    jsonNesting docTree ≤ 127 ∧ rawOfJson (rawGas docTree) docTree = .ok raw ∧
    registerNode (driverFuel docTree + 2) raw none {} = .ok (k, st) ∧
    (∀ key ∈ st.unresolved, (st.names.lookup key).isSome) ∧
    treeGraph = (st.nodes.map fun nd =>
      { logical := nd.logical, type := resolveType (resolveKey st) nd.type }) ∧
    ¬ ∃ i, Relation.TransGen (recEdge treeGraph) i i :=
  C07_parse_ok docTree (driverFuel docTree) treeGraph docTree_parse

/-- `C07_valid_registers`: nothing pending, the table is the list of the defined names -/
example : ∃ raw k st, rawOfJson (rawGas docTree) docTree = .ok raw ∧
    registerNode (driverFuel docTree + 2) raw none {} = .ok (k, st) ∧ st.unresolved = [] ∧
    st.names.map (·.1) = ((definedNames docTree).map keyOf).reverse :=
  C07_valid_registers docTree (driverFuel docTree) docTree_hyps.1
    (schemaSize_le_driver_fuel docTree)

/-- `C07_parses_names_distinct` (no `ValidDoc` hypothesis) on the document with a forward
    reference; `C07_parses_shape` on `docTree` -/
example : namesDistinct docOrder = true :=
  C07_parses_names_distinct docOrder 32 orderGraph (by decide +kernel)

example : shape docTree = true :=
  C07_parses_shape docTree (driverFuel docTree) treeGraph docTree_parse docTree_noForward

/-- `C07_rejects_self_record`, `C07_rejects_two_cycle`, `C07_rejects_cycle` -/
example : checkForCycles selfGraph = .error .cycle :=
  C07_rejects_self_record selfGraph 0 ⟨"R", "R", none⟩ [("f", 0)] none (by decide +kernel) "f"
    (by decide +kernel)

example : checkForCycles twoCycle = .error .cycle :=
  C07_rejects_two_cycle twoCycle 0 1 ⟨"A", "A", none⟩ ⟨"B", "B", none⟩ [("x", 2), ("b", 1)]
    [("u", 3), ("a", 0)] none none (by decide +kernel) (by decide +kernel) "b" "a"
    (by decide +kernel) (by decide +kernel)

/-- `C07_toName_ofFq`, `C07_defKey_wf`, `C07_refKey_wf` on the keys of `docTree` -/
example : Name.ofFq (NameKey.toName ⟨some "org.ex", "Tree"⟩).fq = NameKey.toName ⟨some "org.ex", "Tree"⟩ :=
  C07_toName_ofFq ⟨some "org.ex", "Tree"⟩ (by decide +kernel) (by decide +kernel)

example := C07_defKey_wf "money.Amount" (some "ignored") (some "org.ex") (by decide)
example := C07_refKey_wf "Tree" (some "org.ex") (by decide)

/-- `C07_logical_decimal` on the attributes of the fixed of `docTree` -/
def attrsAmount : RawAttrs :=
  { type := .fixed
    logicalType := some "decimal"
    name := some "money.Amount"
    nsAttr := some "ignored"
    symbols := none
    size := some 12
    precision := some 20
    scale := some 2 }

example : logicalOf attrsAmount = .ok (some (.decimal 2 20)) :=
  C07_logical_decimal attrsAmount 20 rfl rfl

/-- Totalised definitions.  `resolveKeys` / `resolveKey` send a pending slot that does not exist
    to node 0 (`getD 0`; the crate would index out of bounds): `C07_resolveKeys_eq` and
    `C07_resolveKeys_ok_iff` hold of such a state only thanks to that.  The states
    `registerNode` produces never contain such a slot (a `.pending j` is created together with
    the `j`-th entry of `unresolved`), so this does not affect what is said of the parser. -/
def stDangling : PState := { nodes := #[⟨.array (.pending 7), none⟩] }

example : resolveKeys stDangling = .ok #[⟨.array 0, none⟩] ∧
    (∀ k ∈ stDangling.unresolved, (stDangling.names.lookup k).isSome) := by
  decide +kernel

/-- `rabinTable[i]!` in `rabinStep`: the table has its 256 entries and the index is masked with
    `0xFF`, so the default of `[·]!` is never taken (`C08_table_all` would otherwise fail). -/
example : Generated.rabinTable.size = 256 := by decide +kernel

/-- `set!` in `registerNode` / `registerObject`: always the slot reserved at entry (in range),
    e.g. slot 0 of the final state above is the record, not a silently dropped write. -/
example : stF.nodes[0]? = some recordR := by decide +kernel

end Avro.Theorems.NonVacuityD
