import AvroModel.Lemmas.SpecRoundTrip
import AvroModel.Lemmas.Varint
/-
C03, decoder conformance at the varint level, and prefix-freeness. `C03_prefix_free`: no proper
prefix of the canonical encoding (`Spec.encode`) decodes, completely, to the value (premature end of
input can never fabricate the value). `C03_varint_accepts_spec` / `C03_varint_accepts_only_spec`: the
crate's varint reader accepts exactly the encodings of the specification's base-128 decoder that fit
64 bits in at most 10 bytes (non-minimal encodings are accepted, over-long or overflowing ones
rejected), with the same value; `C03_long_reader_is_spec` adds the zigzag step. The rejection classes
on the implementation model (bad bool, union/enum index, negative length, bad UTF-8, end of input) are
in `Theorems/C04.lean`.
-/
namespace Avro.Theorems
open Avro Avro.Spec Avro.Impl

theorem C03_prefix_free (S : Schema) (n : Node) (v : Value) (enc : Bytes)
    (h : Spec.encode S n v = some enc) (m : Nat) (hm : m < enc.length) (fuel : Nat) :
    Spec.decode S fuel n (enc.take m) ≠ some (v, []) :=
  Spec.decode_deterministic_prefix S n v enc h m hm fuel

theorem C03_varint_accepts_spec (bs : Bytes) (v : Nat) (rest : Bytes)
    (h : Spec.decodeNat bs = some (v, rest)) (hv : v < 2 ^ 64) (hk : bs.length - rest.length ≤ 10) :
    Impl.decodeVarU64 bs = some (v, bs.length - rest.length) :=
  decodeVarU64_of_spec bs v rest h hv hk

theorem C03_varint_accepts_only_spec (bs : Bytes) (v k : Nat) (h : Impl.decodeVarU64 bs = some (v, k)) :
    Spec.decodeNat bs = some (v, bs.drop k) ∧ v < 2 ^ 64 ∧ 1 ≤ k ∧ k ≤ 10 ∧ k ≤ bs.length :=
  decodeVarU64_to_spec bs v k h

theorem C03_long_reader_is_spec (bs : Bytes) (i : Int) (k : Nat) (h : Impl.decodeVarI64 bs = some (i, k)) :
    Spec.decodeLong bs = some (i, bs.drop k) := decodeVarI64_eq_spec bs i k h

end Avro.Theorems
