import AvroModel.Lemmas.DeCanon
import AvroModel.Theorems.C12layouts
/-
C12, skipping: ignoring a value (`deserialize_ignored_any` with serde's `IgnoredAny`) consumes
exactly its canonical encoding; a struct target that lists only some of the fields of a record
gets, for the listed fields, what the full read gets, and leaves the same input. A canonical
encoding is a layout with exact block sizes (`decodeX_canonical`, `AvroModel/Lemmas/DeCanon.lean`), so
these are the all-layouts theorems (`Theorems/C12layouts.lean`) applied to it.
`hobs : (Spec.observe S n v).isSome` cannot be dropped from `C12_skip_canonical`: ignoring a decimal
goes through `rust_decimal` and fails for |unscaled| ≥ 2^96 or scale > 28 as the full read does
(`C12_skip_big_decimal_rejected`). The other side conditions are those of `C01_de_accepts`
(`Theorems/C01de.lean`); `3 * size v` fuel is enough, `size v * 4 + 8` is what `C01_de_accepts` asks.
-/
namespace Avro.Theorems
open Avro Avro.Impl

/-- **C12 (skipping a canonical encoding)**, with the fuel bound `3 * Spec.size v` that the proof
    gives. -/
theorem C12_skip_canonical_fuel3 (cfg : DeConfig) (S : Schema) (n : Node) (v : Spec.Value)
    (enc rest : Bytes) (depth : Nat)
    (henc : Spec.encode S n v = some enc) (hobs : (Spec.observe S n v).isSome = true)
    (hfix : Spec.fixedDecOk S n v = true)
    (hdepth : Spec.depthOf v ≤ depth) (hseq : Spec.maxLen v ≤ cfg.maxSeqSize)
    (fuel : Nat) (hfuel : 3 * Spec.size v ≤ fuel)
    (s : RState) (hs : s.isSlice = true) (hl : s.limit = none) (ha : s.avail = 0)
    (hr : s.rest = enc ++ rest) :
    de deExtModel cfg S fuel n depth false .ignored s = (.ok .unit, { s with rest := rest }) := by
  obtain ⟨o, ho⟩ := Option.isSome_iff_exists.1 hobs
  exact C12_skip_exact_layouts cfg S n v (enc ++ rest) rest o depth _
    (decodeX_canonical S henc ho hfix rest) ho hdepth hseq fuel hfuel s hs hl ha hr

/-- **C12 (skipping a canonical encoding).** -/
theorem C12_skip_canonical (cfg : DeConfig) (S : Schema) (n : Node) (v : Spec.Value)
    (enc rest : Bytes) (depth : Nat)
    (henc : Spec.encode S n v = some enc) (hobs : (Spec.observe S n v).isSome = true)
    (hfix : Spec.fixedDecOk S n v = true)
    (hdepth : Spec.depthOf v ≤ depth) (hseq : Spec.maxLen v ≤ cfg.maxSeqSize)
    (fuel : Nat) (hfuel : Spec.size v * 4 + 8 ≤ fuel)
    (s : RState) (hs : s.isSlice = true) (hl : s.limit = none) (ha : s.avail = 0)
    (hr : s.rest = enc ++ rest) :
    de deExtModel cfg S fuel n depth false .ignored s = (.ok .unit, { s with rest := rest }) :=
  C12_skip_canonical_fuel3 cfg S n v enc rest depth henc hobs hfix hdepth hseq fuel (by omega)
    s hs hl ha hr

/-- Skipping and reading consume the same bytes. -/
theorem C12_skip_same_rest (cfg : DeConfig) (S : Schema) (n : Node) (v : Spec.Value)
    (enc rest : Bytes) (depth : Nat)
    (henc : Spec.encode S n v = some enc) (hobs : (Spec.observe S n v).isSome = true)
    (hfix : Spec.fixedDecOk S n v = true)
    (hdepth : Spec.depthOf v ≤ depth) (hseq : Spec.maxLen v ≤ cfg.maxSeqSize)
    (fuel : Nat) (hfuel : Spec.size v * 4 + 8 ≤ fuel)
    (s : RState) (hs : s.isSlice = true) (hl : s.limit = none) (ha : s.avail = 0)
    (hr : s.rest = enc ++ rest) :
    (de deExtModel cfg S fuel n depth false .ignored s).2 =
      (de deExtModel cfg S fuel n depth false .any s).2 := by
  obtain ⟨o, ho⟩ := Option.isSome_iff_exists.1 hobs
  rw [C12_skip_canonical cfg S n v enc rest depth henc hobs hfix hdepth hseq fuel hfuel s hs hl ha hr]
  rw [(reads_canonical_any cfg S henc ho hfix hdepth hseq (by omega) rest).run s hs hl ha hr]

/-- **C12 (struct target listing a subset of the fields).**  For a record node and a struct target
    whose listed fields `fs` are all dynamically typed (`.any`), the deserializer delivers the
    entries of the full read `os` with the value of every field that is not listed replaced by
    `unit` (it was skipped), keys and listed values unchanged (`maskEntry`), and consumes exactly
    the encoding. -/
theorem C12_struct_subset (cfg : DeConfig) (S : Schema) (nm : Name) (fields : List (String × Nat))
    (v : Spec.Value) (enc rest : Bytes) (o : Out) (depth : Nat)
    (fs : List (String × Hint)) (hfs : ∀ p ∈ fs, p.2 = .any)
    (henc : Spec.encode S (.record nm fields) v = some enc)
    (hobs : Spec.observe S (.record nm fields) v = some o)
    (hfix : Spec.fixedDecOk S (.record nm fields) v = true)
    (hdepth : Spec.depthOf v ≤ depth) (hseq : Spec.maxLen v ≤ cfg.maxSeqSize)
    (fuel : Nat) (hfuel : Spec.size v * 4 + 8 ≤ fuel)
    (s : RState) (hs : s.isSlice = true) (hl : s.limit = none) (ha : s.avail = 0)
    (hr : s.rest = enc ++ rest) :
    ∃ os, o = .map os ∧
      de deExtModel cfg S fuel (.record nm fields) depth false .any s =
        (.ok (.map os), { s with rest := rest }) ∧
      de deExtModel cfg S fuel (.record nm fields) depth false (.struct fs) s =
        (.ok (.map (os.map (maskEntry fs))), { s with rest := rest }) :=
  C12_struct_subset_all_layouts cfg S nm fields v (enc ++ rest) rest o depth (Spec.size v)
    (Spec.size v) fs hfs (Spec.decode_encode S _ v enc rest henc _ (Nat.le_refl _)) hobs
    (by rw [decodeX_canonical S henc hobs hfix rest]; rfl) hdepth hseq fuel hfuel s hs hl ha hr

/-- In particular both runs leave the same input (and the same state). -/
theorem C12_struct_subset_rest (cfg : DeConfig) (S : Schema) (nm : Name)
    (fields : List (String × Nat))
    (v : Spec.Value) (enc rest : Bytes) (o : Out) (depth : Nat)
    (fs : List (String × Hint)) (hfs : ∀ p ∈ fs, p.2 = .any)
    (henc : Spec.encode S (.record nm fields) v = some enc)
    (hobs : Spec.observe S (.record nm fields) v = some o)
    (hfix : Spec.fixedDecOk S (.record nm fields) v = true)
    (hdepth : Spec.depthOf v ≤ depth) (hseq : Spec.maxLen v ≤ cfg.maxSeqSize)
    (fuel : Nat) (hfuel : Spec.size v * 4 + 8 ≤ fuel)
    (s : RState) (hs : s.isSlice = true) (hl : s.limit = none) (ha : s.avail = 0)
    (hr : s.rest = enc ++ rest) :
    (de deExtModel cfg S fuel (.record nm fields) depth false (.struct fs) s).2 =
      (de deExtModel cfg S fuel (.record nm fields) depth false .any s).2 ∧
    (de deExtModel cfg S fuel (.record nm fields) depth false (.struct fs) s).2.rest = rest := by
  obtain ⟨os, _, h1, h2⟩ := C12_struct_subset cfg S nm fields v enc rest o depth fs hfs henc hobs
    hfix hdepth hseq fuel hfuel s hs hl ha hr
  rw [h1, h2]
  exact ⟨rfl, rfl⟩

/-! ### `hobs` is necessary for skipping -/

def nm13 : Name := { fq := "d", short := "d", ns := none }

/-- The decimal `2^96` on a 13-byte `fixed` has a canonical encoding (`01 00 … 00`), but ignoring
    it fails: `deserialize_ignored_any` runs `read_decimal`, and `rust_decimal` refuses the
    value. -/
theorem C12_skip_big_decimal_rejected :
    Spec.encode #[] (.decimal 0 40 (.fixed nm13 13)) (.decimal (2 ^ 96)) =
      some (1 :: List.replicate 12 0) ∧
    Spec.observe #[] (.decimal 0 40 (.fixed nm13 13)) (.decimal (2 ^ 96)) = none ∧
    Spec.fixedDecOk #[] (.decimal 0 40 (.fixed nm13 13)) (.decimal (2 ^ 96)) = true ∧
    (de deExtModel {} #[] 20 (.decimal 0 40 (.fixed nm13 13)) 64 false .ignored
      { rest := 1 :: List.replicate 12 0 }).1 = .error .custom := by
  refine ⟨by decide, by simp [Spec.observe, decToStringModel], by decide, ?_⟩
  simp [de, deIgnored, deAny, readDecimal, readExact, readExactR, readSome, fillBuf, consume,
    i128OfBE, beToNat, leToNat, deExtModel, decToStringModel, DeM.fail, bind, pure]

end Avro.Theorems
