import AvroModel.Lemmas.CycleCheck
import AvroModel.Lemmas.SchemaRender
import AvroModel.Lemmas.LiteralEq
/-
C19: freezing, fingerprinting (Parsing Canonical Form) or rendering as JSON *any* node vector
(dangling keys, empty graph, cycles through named or unnamed nodes, shared nodes, arbitrary
logical-type annotations and names), and the cycle check of the parser, return `Ok` or `Err`:
no panic, no unbounded recursion, no infinite loop.

The model's recursive functions take a `fuel` and return `.error .panic` when it runs out; the
theorems give explicit fuel bounds (functions of the node vector only) above which this marker
is never returned, and show that the result does not depend on the fuel from there on.
`NP r` abbreviates `r ≠ .error .panic`; above the bounds the lemmas give more, `OkOrCustom r`
(`r` is `ok` or the error `custom`), of which `C19_*_total*` and `C19_*_errors` are the two halves.

* `pcfBound S   = S.size * (S.size + 1) * (maxWidth S + 1) + 1` (the same as `renderBound S`):
  the generation guard of the canonical-form writer.  `onPath` maps an unnamed key being written
  to the generation (`written.length + 1`) at which it was entered; meeting it again is an error
  only in that same generation, otherwise it is entered again.  Potential `pcfMeasure`:
  `Σ_{j < S.size}` of `[j ∉ written]` for a named node `j`, and of
  `free + 1 - [cell j = generation]` for any other `j`, where `free` is the number of indices
  `< S.size` not in `written` (≥ the number of generations still to come).  Writing a named node
  not yet in `written` uses up its own term and lowers `free`; entering an unnamed key needs
  `cell ≠ generation` and sets `cell := generation`; restoring the cell after the body does not
  bring the potential above its value before the entry since `written` only grows.  The
  potential is at most `S.size * (S.size + 1)` in *every* state, and a list traversal spends one
  unit per element.  (The *number of steps* can be exponential with shared unnamed nodes; fuel
  bounds depth and width only, sibling calls reuse it.)
* `renderBound S = S.size * (S.size + 1) * (maxWidth S + 1) + 1`: the generation-counter guard.
  Potential `Σ_{j < S.size} (S.size + 2 - max (cell j + 1) nWritten)`: entering an unnamed key
  needs `cell < nWritten` and sets `cell := nWritten`; writing a named key sets its cell and
  increments `nWritten`; both decrease the potential because `nWritten ≤ S.size + 1`
  (`nWritten + #unwritten named nodes` never grows); releasing a cell (`:= 0`) after the body
  does not bring the potential above its value before the entry since `nWritten` only grows.
* `check_for_cycles`: `(S.size + 1) * (maxWidth S + 1)` suffices for each inner call, the model
  uses `(S.size + 2) * (maxWidth S + 2)`.
-/
namespace Avro.Theorems
open Avro Avro.Impl

/-! ### fuel monotonicity -/

/-- One more unit of fuel does not change a result that is not "out of fuel": canonical form. -/
theorem C19_pcf_fuel_mono (S : SchemaMut) (fuel : Nat) :
    (∀ key st, pcf S fuel key st ≠ .error .panic → pcf S (fuel + 1) key st = pcf S fuel key st) ∧
    (∀ ks first st, pcfList S fuel ks first st ≠ .error .panic →
      pcfList S (fuel + 1) ks first st = pcfList S fuel ks first st) ∧
    (∀ fs first st, pcfFields S fuel fs first st ≠ .error .panic →
      pcfFields S (fuel + 1) fs first st = pcfFields S fuel fs first st) :=
  pcf_fuel_mono_aux S fuel

/-- … JSON regeneration. -/
theorem C19_render_fuel_mono (S : SchemaMut) (fuel : Nat) :
    (∀ key ns st, render S fuel key ns st ≠ .error .panic →
      render S (fuel + 1) key ns st = render S fuel key ns st) ∧
    (∀ ks ns st, renderList S fuel ks ns st ≠ .error .panic →
      renderList S (fuel + 1) ks ns st = renderList S fuel ks ns st) ∧
    (∀ fs ns st, renderFields S fuel fs ns st ≠ .error .panic →
      renderFields S (fuel + 1) fs ns st = renderFields S fuel fs ns st) :=
  render_fuel_mono_aux S fuel

/-- Hence any larger fuel. -/
theorem C19_pcf_fuel_mono_le (S : SchemaMut) (fuel fuel' key : Nat) (st : PcfState)
    (h : pcf S fuel key st ≠ .error .panic) (hle : fuel ≤ fuel') :
    pcf S fuel' key st = pcf S fuel key st :=
  pcf_fuel_mono_le S key st h hle

theorem C19_render_fuel_mono_le (S : SchemaMut) (fuel fuel' key : Nat) (ns : Option String)
    (st : RenderState) (h : render S fuel key ns st ≠ .error .panic) (hle : fuel ≤ fuel') :
    render S fuel' key ns st = render S fuel key ns st :=
  render_fuel_mono_le S key ns st h hle

/-! ### the canonical form is total -/

/-- For **every** node vector, the Parsing Canonical Form writer returns `Ok` or a proper error
    as soon as `fuel ≥ pcfBound S`. -/
theorem C19_pcf_total (S : SchemaMut) (fuel : Nat) (h : pcfBound S ≤ fuel) :
    canonicalForm S fuel ≠ .error .panic :=
  (canonicalForm_total S fuel h).np

/-- … and its result does not depend on the fuel from there on. -/
theorem C19_pcf_stable (S : SchemaMut) (fuel : Nat) (h : pcfBound S ≤ fuel) :
    canonicalForm S fuel = canonicalForm S (pcfBound S) := by
  unfold canonicalForm
  rw [C19_pcf_fuel_mono_le S (pcfBound S) fuel 0 {} (pcf_total S _ (Nat.le_refl _) 0).np h]

/-- The general form: from any state, with the explicit potential `pcfMeasure` of the generation
    guard (see the header; no invariant on the state is needed). -/
theorem C19_pcf_total_state (S : SchemaMut) (fuel key : Nat) (st : PcfState)
    (h : pcfMeasure S st * (maxWidth S + 1) + 1 ≤ fuel) : pcf S fuel key st ≠ .error .panic :=
  ((pcf_total_aux S fuel).1 key st _ (Nat.le_refl _) h).np

/-- … in particular `pcfBound S` suffices from every state, not only the initial one. -/
theorem C19_pcf_total_any_state (S : SchemaMut) (fuel key : Nat) (st : PcfState)
    (h : pcfBound S ≤ fuel) : pcf S fuel key st ≠ .error .panic :=
  (pcf_total_st S fuel h key st).np

/-- The only errors of the canonical-form writer are `custom` ones. -/
theorem C19_pcf_errors (S : SchemaMut) (fuel : Nat) (h : pcfBound S ≤ fuel) (e : SchemaErr)
    (he : canonicalForm S fuel = .error e) : e = .custom :=
  canonicalForm_total S fuel h e he

/-! ### the generation guard of the canonical form: what is refused, what is not -/

/-- `enter_unnamed`: if `pcf` is (re-)entered on an array/map/union key whose cell holds the
    current generation (no named type was written since the node was entered), it fails. -/
theorem C19_pcf_reenter (S : SchemaMut) (fuel k : Nat) (st : PcfState)
    (hu : isUnnamedKey S k = true) (hg : st.cell k = st.gen) :
    pcf S (fuel + 1) k st = .error .custom :=
  pcf_reenter S fuel k st hu hg

/-- Direct cases, every fuel ≥ 3: an array / map / union that is its own child, and the two-node
    cycle array → map → array. -/
theorem C19_pcf_unnamed_cycle_err (fuel : Nat) (h : 3 ≤ fuel) :
    canonicalForm #[⟨.array 0, none⟩] fuel = .error .custom ∧
    canonicalForm #[⟨.map 0, none⟩] fuel = .error .custom ∧
    canonicalForm #[⟨.union [0], none⟩] fuel = .error .custom ∧
    canonicalForm #[⟨.array 1, none⟩, ⟨.map 0, none⟩] fuel = .error .custom := by
  refine ⟨?_, ?_, ?_, ?_⟩ <;>
    exact canonicalForm_of_le (fuel := 3) (by rfl) NP_custom h

/-- General statement: if the root belongs to a set of keys in which every member is an array,
    map or union with a child in the set (a cycle through unnamed nodes only, or a path into
    one), there is no canonical form: an error — for every sufficient fuel. -/
theorem C19_pcf_unnamed_cycle_err_general (S : SchemaMut) (C : Nat → Prop)
    (hC : UnnamedClosed S C) (h0 : C 0) (fuel : Nat) (hf : pcfBound S ≤ fuel) :
    canonicalForm S fuel = .error .custom := by
  cases hr : canonicalForm S fuel with
  | error e => rw [C19_pcf_errors S fuel hf e hr]
  | ok text => exact absurd hr (RenderPcf.canonicalForm_unnamed_cycle_never_ok S C hC h0 fuel text)

/-- … and it never succeeds, whatever the fuel. -/
theorem C19_pcf_unnamed_cycle_never_ok (S : SchemaMut) (C : Nat → Prop) (hC : UnnamedClosed S C)
    (h0 : C 0) (fuel : Nat) (text : String) : canonicalForm S fuel ≠ .ok text :=
  RenderPcf.canonicalForm_unnamed_cycle_never_ok S C hC h0 fuel text

/-- A cycle that goes through a named type is **not** refused: the array is met again while
    being written, but the record `R` was written in between, so the array is entered again and
    `R` is then written by reference. -/
theorem C19_pcf_cycle_through_named_ok (fuel : Nat) (h : 5 ≤ fuel) :
    canonicalForm #[⟨.array 1, none⟩, ⟨.record ⟨"R", "R", none⟩ [("f", 0)], none⟩] fuel =
      .ok "{\"type\":\"array\",\"items\":{\"name\":\"R\",\"type\":\"record\",\"fields\":[{\"name\":\"f\",\"type\":{\"type\":\"array\",\"items\":\"R\"}}]}}" := by
  refine canonicalForm_of_le (fuel := 5) (eq_ok_of_toOption ?_) (NP_ok _) h
  -- the expected text is compared through its UTF-8 bytes (`Lemmas/LiteralEq.lean`)
  apply eq_some_ofList_of_utf8
  decide +kernel

/-! ### JSON regeneration is total -/

/-- For **every** node vector, the JSON regeneration returns `Ok` or a proper error as soon as
    `fuel ≥ renderBound S`. -/
theorem C19_render_total (S : SchemaMut) (fuel : Nat) (h : renderBound S ≤ fuel) :
    renderJson S fuel ≠ .error .panic :=
  (renderJson_total S fuel h).np

theorem C19_render_stable (S : SchemaMut) (fuel : Nat) (h : renderBound S ≤ fuel) :
    renderJson S fuel = renderJson S (renderBound S) := by
  unfold renderJson
  rw [C19_render_fuel_mono_le S (renderBound S) fuel 0 none {}
    (render_total S _ (Nat.le_refl _) 0 none).np h]

/-- The general form: from any state satisfying the invariant of the traversal
    (`1 ≤ nWritten`, `nWritten + #unwritten named nodes ≤ S.size + 1`). -/
theorem C19_render_total_state (S : SchemaMut) (fuel key : Nat) (ns : Option String)
    (st : RenderState) (hI : RInv S st) (h : renderPot S st * (maxWidth S + 1) + 1 ≤ fuel) :
    render S fuel key ns st ≠ .error .panic :=
  ((render_total_aux S fuel).1 key ns st _ hI (Nat.le_refl _) h).np

/-- The only errors of the regeneration are `custom` ones. -/
theorem C19_render_errors (S : SchemaMut) (fuel : Nat) (h : renderBound S ≤ fuel) (e : SchemaErr)
    (he : renderJson S fuel = .error e) : e = .custom :=
  renderJson_total S fuel h e he

/-! ### `check_for_cycles` is total -/

/-- The parser's cycle check never runs out of fuel, for every node vector (a dangling key is
    not a record and has no fields: it is simply skipped). -/
theorem C19_cyclecheck_total (S : SchemaMut) : checkForCycles S ≠ .error .panic :=
  checkForCycles_no_panic S

/-- Parametric form: any fuel `≥ (S.size + 1) * (maxWidth S + 1)` for the inner calls. -/
theorem C19_cyclecheck_total_fuel (S : SchemaMut) (F : Nat)
    (hF : (S.size + 1) * (maxWidth S + 1) ≤ F) : checkForCyclesF S F ≠ .error .panic :=
  checkForCyclesF_total S F hF

/-- The fuel has to pay for the width: with `2 * S.size + 2` the model runs out of fuel (a model
    artefact, not a defect of the crate) on one record with seven fields of type `int`. -/
example :
    let S : SchemaMut := #[⟨.record ⟨"R", "R", none⟩
      [("a", 1), ("b", 1), ("c", 1), ("d", 1), ("e", 1), ("f", 1), ("g", 1)], none⟩, ⟨.int, none⟩]
    checkForCyclesF S (2 * S.size + 2) = .error .panic := by
  simp [checkForCyclesF, checkForCyclesF.go, cycleInner_succ, cycleFields_cons, isRecord,
    recordFieldKeys, mapOk]
  rfl

/-! ### freezing -/

/-- `TryFrom<SchemaMut> for Schema` returns `Ok` or a proper error for every node vector. -/
theorem C19_freeze_total (S : SchemaMut) (kept : Bool) (fuel : Nat)
    (h : max (pcfBound S) (renderBound S) ≤ fuel) : freeze S kept fuel ≠ .error .panic :=
  freeze_NP S kept fuel (by omega) (by omega)

/-- A frozen schema is usable: non-empty, same number of nodes, every child key in bounds. -/
theorem C19_frozen_usable (S : SchemaMut) (kept : Bool) (fuel : Nat) (F : Schema)
    (h : freeze S kept fuel = .ok F) : F.keysInBounds = true ∧ F.size = S.size ∧ 0 < F.size := by
  obtain ⟨rfl, hne, hk⟩ := freeze_ok S kept fuel F h
  refine ⟨freezeNodes_keysInBounds S hk, ?_, ?_⟩
  · simp [freezeNodes]
  · simp only [freezeNodes, Array.size_map]; omega

/-- The empty graph is refused, whatever the fuel. -/
theorem C19_freeze_empty (kept : Bool) (fuel : Nat) : freeze #[] kept fuel = .error .custom := rfl

end Avro.Theorems
