import AvroModel.Theorems.C05
import AvroModel.Lemmas.OcfHeaderClassify
/-
C06: layout and interoperability of container files.

* `C06_layout`, `C06_layout_closed`: what the writer leaves in its sink is, for the independent
  parser of the specification, a complete container file: magic, a metadata map holding
  `avro.schema`, `avro.codec` and the user entries in that order, the 16-byte marker, then the
  blocks written, each closed by the header's marker (no bad marker, no trailing bytes).
* `C06_reads_any_partition`: the reader yields the same values however they are partitioned into
  blocks (another implementation may choose other block boundaries).
* `C06_header_any_order`, `C06_readHeader_perm`: the reader accepts the metadata entries in any
  order, with extra (user) keys, and with `avro.codec` absent (repaired defect D15).
-/
namespace Avro.Theorems
open Avro Avro.Impl Avro.Impl.Ocf Avro.C06

/-! ### Layout of what the writer produces -/

/-- the two mandatory keys, as byte strings -/
def schemaKey : Bytes := "avro.schema".toUTF8.data.toList
def codecKey : Bytes := "avro.codec".toUTF8.data.toList

/-- The file the specification parser sees when the sink holds the writer's header and blocks. -/
theorem C06_parse_header_blocks (c : Codec) (schemaJson codecName : Bytes)
    (userMeta : List (Bytes × Bytes)) (sync : Bytes) (blocks : List (Nat × Bytes))
    (hsync : sync.length = 16)
    (hs : schemaJson.length < 2 ^ 63) (hcn : codecName.length < 2 ^ 63)
    (hu : ∀ e ∈ userMeta, e.1.length < 2 ^ 63 ∧ e.2.length < 2 ^ 63)
    (hb : ∀ b ∈ blocks, b.1 < 2 ^ 63 ∧ (codecData c b.2).length < 2 ^ 63) :
    Spec.Ocf.parse (headerBytes schemaJson codecName userMeta sync ++ blocksBytes c sync blocks) =
      some { metadata := (schemaKey, schemaJson) :: (codecKey, codecName) :: userMeta,
             sync := sync,
             blocks := blocks.map (fun b => { count := b.1, data := codecData c b.2 }),
             trailing := 0, badSync := false } := by
  obtain ⟨h1, h2⟩ := C15_header_parses schemaJson codecName userMeta sync hs hcn hu
  rw [h1]
  exact parse_file c _ sync _ blocks h2 hsync hb

/-- **C06 (layout).** After any history of calls (before `into_inner`) on a freshly built writer
    (its sink holds the header `headerBytes schemaJson codecName userMeta sync`), the sink parses,
    with the parser written from the specification, as a complete container file `v`:
    * `v.metadata` is `avro.schema ↦ schemaJson`, `avro.codec ↦ codecName`, then the user entries,
      in that order;
    * `v.sync` is the marker, every block is closed by that same marker (`badSync = false`) and
      nothing follows the last block (`trailing = 0`);
    * the blocks are those written: count = number of values, data = what the codec stored. -/
theorem C06_layout (c : Codec) (dbg : Bool) (schemaJson codecName : Bytes)
    (userMeta : List (Bytes × Bytes)) (sync : Bytes) (approx : Nat) (ops : List WOp)
    (hops : ∀ op ∈ ops, op ≠ .intoInner) (w : WState)
    (h0 : Rep c (headerBytes schemaJson codecName userMeta sync) sync approx {} w)
    (hsync : sync.length = 16)
    (hs : schemaJson.length < 2 ^ 63) (hcn : codecName.length < 2 ^ 63)
    (hu : ∀ e ∈ userMeta, e.1.length < 2 ^ 63 ∧ e.2.length < 2 ^ 63)
    (hb : ∀ b ∈ (arun approx {} ops).sealed,
      cntOf b < 2 ^ 63 ∧ (codecData c (bufOf b)).length < 2 ^ 63) :
    ∃ v : Spec.Ocf.View, Spec.Ocf.parse (wrun c dbg w ops).2.sink.data = some v ∧
      v.metadata = (schemaKey, schemaJson) :: (codecKey, codecName) :: userMeta ∧
      v.sync = sync ∧ v.badSync = false ∧ v.trailing = 0 ∧
      v.blocks = (arun approx {} ops).sealed.map
        (fun b => { count := cntOf b, data := codecData c (bufOf b) }) := by
  obtain ⟨hsink, _⟩ := C15_run_sink c dbg _ sync approx ops hops w h0
  rw [hsink, C06_parse_header_blocks c schemaJson codecName userMeta sync _ hsync hs hcn hu
    (by
      intro b hb'
      obtain ⟨es, hes, rfl⟩ := List.mem_map.1 hb'
      exact hb es hes)]
  refine ⟨_, rfl, rfl, rfl, rfl, rfl, ?_⟩
  simp [blockOf, List.map_map, Function.comp_def]

/-- **C06 (layout of a closed file).** The same after a history closed by `finish_block`,
    `into_inner` or `Drop`; then the blocks hold all the entries accepted, in order, and every
    block counts at least one value. -/
theorem C06_layout_closed (c : Codec) (dbg : Bool) (schemaJson codecName : Bytes)
    (userMeta : List (Bytes × Bytes)) (sync : Bytes) (approx : Nat) (ops : List WOp) (fin : WOp)
    (hfin : fin = .finishBlock ∨ fin = .intoInner ∨ fin = .drop)
    (hops : ∀ op ∈ ops, op ≠ .intoInner) (hpush : ∀ b k, WOp.push b k ∈ ops → 1 ≤ k) (w : WState)
    (h0 : Rep c (headerBytes schemaJson codecName userMeta sync) sync approx {} w)
    (hsync : sync.length = 16)
    (hs : schemaJson.length < 2 ^ 63) (hcn : codecName.length < 2 ^ 63)
    (hu : ∀ e ∈ userMeta, e.1.length < 2 ^ 63 ∧ e.2.length < 2 ^ 63)
    (hb : ∀ b ∈ (arun approx {} (ops ++ [fin])).sealed,
      cntOf b < 2 ^ 63 ∧ (codecData c (bufOf b)).length < 2 ^ 63) :
    ∃ (v : Spec.Ocf.View) (sealed : List (List Entry)),
      Spec.Ocf.parse (wrun c dbg w (ops ++ [fin])).2.sink.data = some v ∧
      v.metadata = (schemaKey, schemaJson) :: (codecKey, codecName) :: userMeta ∧
      v.sync = sync ∧ v.badSync = false ∧ v.trailing = 0 ∧
      v.blocks = sealed.map (fun b => { count := cntOf b, data := codecData c (bufOf b) }) ∧
      sealed.flatten = ops.flatMap entryOf ∧ (∀ b ∈ sealed, 0 < cntOf b) := by
  obtain ⟨_, hsink, -⟩ := C15_run_finished_general c dbg _ sync approx ops fin hops hfin w h0
  obtain ⟨_, hflat⟩ := C15_run_finished approx ops fin hfin hpush
  have hpos : SealedPos (arun approx {} (ops ++ [fin])) :=
    arun_sealedPos approx {} _ (by intro b hb; simp at hb)
  rw [hsink, C06_parse_header_blocks c schemaJson codecName userMeta sync _ hsync hs hcn hu
    (by
      intro b hb'
      obtain ⟨es, hes, rfl⟩ := List.mem_map.1 hb'
      exact hb es hes)]
  refine ⟨_, (arun approx {} (ops ++ [fin])).sealed, rfl, rfl, rfl, rfl, rfl, ?_, hflat, hpos⟩
  simp [blockOf, List.map_map, Function.comp_def]

/-! ### The reader does not depend on the block boundaries -/

/-- **C06 (any partition into blocks).** Null codec, slice back-end: two files holding the same
    values partitioned differently into blocks (as two implementations, or two block-size
    settings, would write them) read as the same values, then end of stream. -/
theorem C06_reads_any_partition {V : Type} (enc : V → Bytes) (d : Decomp)
    (datum : RState → Except DeErr V × RState) (sync : Bytes)
    (hn : d.isNull = true) (hsy : sync.length = 16) (hd : DatumOk enc datum)
    (blocks₁ blocks₂ : List (List V)) (heq : blocks₁.flatten = blocks₂.flatten)
    (h1 : ∀ b ∈ blocks₁, BlockOk enc b) (h2 : ∀ b ∈ blocks₂, BlockOk enc b) :
    readAll d datum (blocks₁.flatten.length + 1) (openSlice sync (fileBody enc sync blocks₁))
      = readAll d datum (blocks₂.flatten.length + 1) (openSlice sync (fileBody enc sync blocks₂)) ∧
    readAll d datum (blocks₁.flatten.length + 1) (openSlice sync (fileBody enc sync blocks₁))
      = (blocks₁.flatten, .eos) := by
  have e1 := readAll_valid enc hn hsy hd blocks₁ h1
  have e2 := readAll_valid enc hn hsy hd blocks₂ h2
  exact ⟨by rw [e1, e2, heq], e1⟩

/-- In particular one block holding everything reads like any other partition (empty blocks
    included: a block of count 0 and size 0 is legal and skipped). -/
theorem C06_reads_single_block {V : Type} (enc : V → Bytes) (d : Decomp)
    (datum : RState → Except DeErr V × RState) (sync : Bytes)
    (hn : d.isNull = true) (hsy : sync.length = 16) (hd : DatumOk enc datum)
    (blocks : List (List V)) (h1 : ∀ b ∈ blocks, BlockOk enc b) (h2 : BlockOk enc blocks.flatten) :
    readAll d datum (blocks.flatten.length + 1) (openSlice sync (fileBody enc sync blocks))
      = readAll d datum (blocks.flatten.length + 1)
          (openSlice sync (fileBody enc sync [blocks.flatten])) := by
  have := (C06_reads_any_partition enc d datum sync hn hsy hd blocks [blocks.flatten] (by simp) h1
    (by intro b hb; simp at hb; subst hb; exact h2)).1
  simpa using this

/-! ### The header is accepted with its entries in any order

`readHeader` = magic, the metadata map decoded by the datum deserializer on `map<bytes>`
(`metaDe`, a hypothesis here: `hm`), then `headerTail` = `classify` on the decoded entries and the
16-byte marker (`Lemmas/OcfHeaderClassify.lean`, `readHeader_eq`).  What is proved is about
everything after the map is decoded; relating `metaDe` on given bytes to the entry list (the map
decoding of `deAny`: blocks, negative counts, key/value reads) is not part of these statements. -/

/-- two results of `readHeader` that agree up to the order of the user metadata -/
def HeaderRel : Except InitErr Header → Except InitErr Header → Prop
  | .error e₁, .error e₂ => e₁ = e₂
  | .ok h₁, .ok h₂ =>
    h₁.schemaJson = h₂.schemaJson ∧ h₁.codec = h₂.codec ∧ h₁.sync = h₂.sync ∧
      h₁.userMeta.Perm h₂.userMeta
  | _, _ => False

theorem headerTail_perm (kv₁ kv₂ : List (Bytes × Bytes)) (s₁ s₂ : RState) (hperm : kv₁.Perm kv₂)
    (hsync : ∀ b, (∃ t, readExact 16 s₁ = (.ok b, t)) ↔ (∃ t, readExact 16 s₂ = (.ok b, t))) :
    HeaderRel (headerTail kv₁ s₁).1 (headerTail kv₂ s₂).1 := by
  unfold headerTail
  rcases classify_perm hperm with ⟨h1, h2⟩ | ⟨sj, cn, u₁, u₂, h1, h2, hu⟩
  · rw [h1, h2]; rfl
  · rw [h1, h2]
    simp only
    generalize hx₁ : readExact 16 s₁ = x₁ at hsync
    generalize hx₂ : readExact 16 s₂ = x₂ at hsync
    obtain ⟨r₁, t₁⟩ := x₁
    obtain ⟨r₂, t₂⟩ := x₂
    cases r₁ with
    | error e₁ =>
      cases r₂ with
      | error e₂ => rfl
      | ok b₂ =>
        obtain ⟨t, ht⟩ := (hsync b₂).2 ⟨t₂, rfl⟩
        cases ht
    | ok b₁ =>
      cases r₂ with
      | error e₂ =>
        obtain ⟨t, ht⟩ := (hsync b₁).1 ⟨t₁, rfl⟩
        cases ht
      | ok b₂ =>
        obtain ⟨t, ht⟩ := (hsync b₁).1 ⟨t₁, rfl⟩
        cases ht
        exact ⟨rfl, rfl, rfl, hu⟩

/-- **C06 (the order of the metadata entries).** Two sources whose metadata maps decode to entry lists that are
    permutations of each other (as byte strings), and whose markers read alike, give the same
    `schemaJson`, `codec` and `sync`, and user metadata that are permutations of each other — or
    are both rejected with the same error. -/
theorem C06_readHeader_perm (src₁ src₂ s₁ s₂ s₁' s₂' : RState) (e₁ e₂ : List (Out × Out))
    (h41 : readExact 4 src₁ = (.ok [0x4F, 0x62, 0x6A, 0x01], s₁))
    (h42 : readExact 4 src₂ = (.ok [0x4F, 0x62, 0x6A, 0x01], s₂))
    (hm1 : metaDe s₁ = (.ok (.map e₁), s₁')) (hm2 : metaDe s₂ = (.ok (.map e₂), s₂'))
    (hperm : (kvOf e₁).Perm (kvOf e₂))
    (hsync : ∀ b, (∃ t, readExact 16 s₁' = (.ok b, t)) ↔ (∃ t, readExact 16 s₂' = (.ok b, t))) :
    HeaderRel (readHeader src₁).1 (readHeader src₂).1 := by
  rw [readHeader_eq src₁ s₁ s₁' e₁ h41 hm1, readHeader_eq src₂ s₂ s₂' e₂ h42 hm2]
  exact headerTail_perm _ _ _ _ hperm hsync

/-- **C06 (the order of the metadata entries, slice back-end).** The entries decoded are permutations of each
    other (as `Out` trees: any order of the same keys and values) and the map decoders leave the
    same remaining bytes. -/
theorem C06_readHeader_perm_slice (src₁ src₂ s₁ s₂ s₁' s₂' : RState) (e₁ e₂ : List (Out × Out))
    (h41 : readExact 4 src₁ = (.ok [0x4F, 0x62, 0x6A, 0x01], s₁))
    (h42 : readExact 4 src₂ = (.ok [0x4F, 0x62, 0x6A, 0x01], s₂))
    (hm1 : metaDe s₁ = (.ok (.map e₁), s₁')) (hm2 : metaDe s₂ = (.ok (.map e₂), s₂'))
    (hperm : e₁.Perm e₂)
    (hs1 : s₁'.isSlice = true) (hs2 : s₂'.isSlice = true)
    (hl1 : s₁'.limit = none) (hl2 : s₂'.limit = none) (hr : s₁'.rest = s₂'.rest) :
    HeaderRel (readHeader src₁).1 (readHeader src₂).1 :=
  C06_readHeader_perm src₁ src₂ s₁ s₂ s₁' s₂' e₁ e₂ h41 h42 hm1 hm2 (kvOf_perm hperm)
    (readExact_slice_same_rest 16 s₁' s₂' hs1 hs2 hl1 hl2 hr)

/-- **C06 (the header is accepted in any order, with extra keys, with the codec absent).**
    Whatever the order of the decoded entries `kv`: if exactly one of them has the key
    `avro.schema` (its value valid UTF-8) and none has the key `avro.codec`, the header is
    accepted with codec `"null"` (D15 repaired) and all the other entries as user metadata. -/
theorem C06_header_any_order_no_codec (src s s' s'' : RState) (entries : List (Out × Out))
    (sj sync : Bytes) (str : String)
    (h4 : readExact 4 src = (.ok [0x4F, 0x62, 0x6A, 0x01], s))
    (hm : metaDe s = (.ok (.map entries), s'))
    (hs : (kvOf entries).filter (·.1 = schemaKey) = [(schemaKey, sj)])
    (hutf : bytesToStr? sj = some str)
    (hc : (kvOf entries).filter (·.1 = codecKey) = [])
    (h16 : readExact 16 s' = (.ok sync, s'')) :
    readHeader src =
      (.ok { schemaJson := sj, codec := "null", sync := sync,
             userMeta := (kvOf entries).filter fun e => e.1 ≠ schemaKey ∧ e.1 ≠ codecKey }, s'') := by
  rw [readHeader_eq src s s' entries h4 hm]
  unfold headerTail
  rw [classify_no_codec (kvOf entries) sj str hs hutf hc]
  simp only [h16]
  rfl

/-- … and if exactly one has the key `avro.codec`, naming a known codec, that codec. -/
theorem C06_header_any_order (src s s' s'' : RState) (entries : List (Out × Out))
    (sj cv sync : Bytes) (str cn : String)
    (h4 : readExact 4 src = (.ok [0x4F, 0x62, 0x6A, 0x01], s))
    (hm : metaDe s = (.ok (.map entries), s'))
    (hs : (kvOf entries).filter (·.1 = schemaKey) = [(schemaKey, sj)])
    (hutf : bytesToStr? sj = some str)
    (hc : (kvOf entries).filter (·.1 = codecKey) = [(codecKey, cv)])
    (hcn : bytesToStr? cv = some cn) (hk : knownCodecs.contains cn = true)
    (h16 : readExact 16 s' = (.ok sync, s'')) :
    readHeader src =
      (.ok { schemaJson := sj, codec := cn, sync := sync,
             userMeta := (kvOf entries).filter fun e => e.1 ≠ schemaKey ∧ e.1 ≠ codecKey }, s'') := by
  rw [readHeader_eq src s s' entries h4 hm]
  unfold headerTail
  rw [classify_codec (kvOf entries) sj cv str cn hs hutf hc hcn hk]
  simp only [h16]
  rfl

/-- Conversely a header that is accepted had exactly one `avro.schema` entry, at most one
    `avro.codec` entry, and a known codec. -/
theorem C06_header_accepted (src s s' t : RState) (entries : List (Out × Out)) (h : Header)
    (h4 : readExact 4 src = (.ok [0x4F, 0x62, 0x6A, 0x01], s))
    (hm : metaDe s = (.ok (.map entries), s'))
    (hok : readHeader src = (.ok h, t)) :
    (∃ k, (kvOf entries).filter (·.1 = schemaKey) = [(k, h.schemaJson)]) ∧
      ((kvOf entries).filter (·.1 = codecKey)).length ≤ 1 ∧
      knownCodecs.contains h.codec = true ∧
      (((kvOf entries).filter (·.1 = codecKey)) = [] → h.codec = "null") ∧
      h.userMeta = (kvOf entries).filter fun e => e.1 ≠ schemaKey ∧ e.1 ≠ codecKey := by
  rw [readHeader_eq src s s' entries h4 hm] at hok
  unfold headerTail at hok
  cases hcl : classify (kvOf entries) with
  | none => rw [hcl] at hok; cases hok
  | some x =>
    obtain ⟨sj, cn, u⟩ := x
    rw [hcl] at hok
    simp only at hok
    obtain ⟨h1, _, h3, h4', h5, h6⟩ := classify_some hcl
    generalize readExact 16 s' = y at hok
    obtain ⟨r, t'⟩ := y
    cases r with
    | error e => cases hok
    | ok b =>
      simp only [Prod.mk.injEq, Except.ok.injEq] at hok
      obtain ⟨rfl, _⟩ := hok
      refine ⟨h1, h3, h5, ?_, h6⟩
      intro hnil
      have : codecsOf (kvOf entries) = [] := hnil
      rw [this] at h4'
      simp only [codecOf, Option.some.injEq] at h4'
      exact h4'.symm

end Avro.Theorems
