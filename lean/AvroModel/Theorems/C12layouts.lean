import AvroModel.Lemmas.SkipLayouts
import AvroModel.Lemmas.DeSoundBounds
import AvroModel.Theorems.C03layouts
import AvroModel.Lemmas.OutEq
/-
C12 on *every* layout — skipping a value (`deserialize_ignored_any`, a struct target that lacks a
field, a unit variant for a union branch) against reading it.

`Theorems/C12.lean` proves C12 on canonical encodings.  Here the input is any layout the
specification decoder accepts: arrays and maps in any number of blocks, blocks with or without a
byte size (negative count), non-minimal varints.

THE TWO PATHS.  The full read (`readBlockLen false`) reads the byte size that follows a negative
count and drops it, then decodes the items.  The ignoring read (`readBlockLen true`) *jumps* the
announced number of bytes (`skipBytes`) and decodes nothing; blocks written without a byte size are
skipped item by item.

DISCREPANCY (`C12_wrong_block_size_discrepancy`, concrete bytes below).  `Spec.decode` — and the
full read — accept any non-negative byte size, whether or not it is the size of the block.  On an
input whose announced size is wrong the two paths consume different bytes, both successfully:
    record {a: array<int>, b: int},  bytes 01 04 02 00 00 06
      full read                 a = [1], b = 0, one byte (06) left;
      struct target lacking `a` b = 3, nothing left.
So C12 cannot hold for everything `Spec.decode` accepts.  It holds exactly under the hypothesis
that announced sizes are exact: `Spec.decodeX L` is `Spec.decodeL L` with the single additional
check that the byte size of a block written with a negative count is the number of bytes its items
occupy (`Spec.sizeOk`).  `decodeX L ⊆ decodeL L` (`C12_decodeX_sub_decodeL`), hence
`decodeX Limits.impl ⊆ Spec.decode` (`C12_decodeX_sub_spec`): it only removes runs.
-/
namespace Avro.Theorems
open Avro Avro.Spec Avro.Impl

/-! ### The decoder with exact block byte sizes only removes runs -/

theorem C12_decodeX_sub_decodeL (L : Limits) (S : Schema) (fuel : Nat) (n : Node) (bs : Bytes)
    (r : Value × Bytes) (h : Spec.decodeX L S fuel n bs = some r) :
    Spec.decodeL L S fuel n bs = some r := Spec.decodeX_sub L S fuel n bs r h

theorem C12_decodeX_sub_spec (S : Schema) (fuel : Nat) (n : Node) (bs : Bytes)
    (r : Value × Bytes) (h : Spec.decodeX Limits.impl S fuel n bs = some r) :
    Spec.decode S fuel n bs = some r :=
  C03_decodeL_impl_sub_spec S fuel n bs r (Spec.decodeX_sub _ S fuel n bs r h)

/-- with the specification's own limits: `decodeX Limits.spec ⊆ Spec.decode` -/
theorem C12_decodeX_spec_sub_spec (S : Schema) (fuel : Nat) (n : Node) (bs : Bytes)
    (r : Value × Bytes) (h : Spec.decodeX Limits.spec S fuel n bs = some r) :
    Spec.decode S fuel n bs = some r := by
  rw [← Spec.decodeL_spec]
  exact Spec.decodeX_sub _ S fuel n bs r h

/-- what `decodeX Limits.impl` returns is what `Spec.decode` returns -/
theorem C12_decodeX_agrees (S : Schema) (fuelX fuelS : Nat) (n : Node) (bs : Bytes)
    (r r' : Value × Bytes) (h : Spec.decodeX Limits.impl S fuelX n bs = some r)
    (h' : Spec.decode S fuelS n bs = some r') : r = r' :=
  C03_decodeL_impl_agrees S fuelX fuelS n bs r r' (Spec.decodeX_sub _ S fuelX n bs r h) h'

/-- the hypotheses `hdec`, `hexact` of `C12_skip_all_layouts` name a run of the exact decoder -/
theorem C12_decodeX_of_spec {S : Schema} {fuelS fuelX : Nat} {n : Node} {bs : Bytes}
    {r : Value × Bytes} (hdec : Spec.decode S fuelS n bs = some r)
    (hexact : (Spec.decodeX Limits.impl S fuelX n bs).isSome = true) :
    Spec.decodeX Limits.impl S fuelX n bs = some r := by
  obtain ⟨x, hx⟩ := Option.isSome_iff_exists.1 hexact
  rw [hx, C12_decodeX_agrees S fuelX fuelS n bs x r hx hdec]

/-! ### Skipping consumes exactly what reading consumes -/

/-- **C12, skipping (all layouts), with the fuel bound `3 * size v` that the induction gives.**  `hexact` says that the input stays within
    the implementation's numeric limits (as `hlim` in `C03_de_refines_spec`) *and* that every
    announced block byte size is exact; it is necessary (`C12_wrong_block_size_discrepancy`).
    `hobs` is necessary as in `C12_skip_canonical` (ignoring a decimal runs `rust_decimal`). -/
theorem C12_skip_all_layouts_fuel3 (cfg : DeConfig) (S : Schema) (node : Node) (v : Spec.Value)
    (bytes rest : Bytes) (depth fuelS fuelX : Nat)
    (hdec : Spec.decode S fuelS node bytes = some (v, rest))
    (hobs : (Spec.observe S node v).isSome = true)
    (hexact : (Spec.decodeX Limits.impl S fuelX node bytes).isSome = true)
    (hdepth : Spec.depthOf v ≤ depth) (hseq : Spec.maxLen v ≤ cfg.maxSeqSize)
    (fuel : Nat) (hfuel : 3 * Spec.size v ≤ fuel)
    (s : RState) (hs : s.isSlice = true) (hl : s.limit = none) (ha : s.avail = 0)
    (hr : s.rest = bytes) :
    de deExtModel cfg S fuel node depth false .ignored s = (.ok .unit, { s with rest := rest }) := by
  have hx := C12_decodeX_of_spec hdec hexact
  obtain ⟨o, ho⟩ := Option.isSome_iff_exists.1 hobs
  exact (skip_layouts cfg S v node bytes rest o depth fuelX fuel hx ho hdepth hseq hfuel).run
    s hs hl ha hr

/-- **C12, skipping (all layouts).**  Every input the specification decoder accepts — arrays and
    maps in any number of blocks, with or without byte sizes, the sizes being exact — is skipped by
    the ignoring read, which consumes exactly what the specification decoder (hence, by
    `C03_de_refines_spec`, the full read) consumes.  Generalises `C12_skip_canonical`. -/
theorem C12_skip_all_layouts (cfg : DeConfig) (S : Schema) (node : Node) (v : Spec.Value)
    (bytes rest : Bytes) (depth fuelS fuelX : Nat)
    (hdec : Spec.decode S fuelS node bytes = some (v, rest))
    (hobs : (Spec.observe S node v).isSome = true)
    (hexact : (Spec.decodeX Limits.impl S fuelX node bytes).isSome = true)
    (hdepth : Spec.depthOf v ≤ depth) (hseq : Spec.maxLen v ≤ cfg.maxSeqSize)
    (fuel : Nat) (hfuel : Spec.size v * 4 + 8 ≤ fuel)
    (s : RState) (hs : s.isSlice = true) (hl : s.limit = none) (ha : s.avail = 0)
    (hr : s.rest = bytes) :
    de deExtModel cfg S fuel node depth false .ignored s = (.ok .unit, { s with rest := rest }) :=
  C12_skip_all_layouts_fuel3 cfg S node v bytes rest depth fuelS fuelX hdec hobs hexact hdepth hseq
    fuel (by omega) s hs hl ha hr

theorem C12_skip_exact_layouts (cfg : DeConfig) (S : Schema) (node : Node) (v : Spec.Value)
    (bytes rest : Bytes) (o : Out) (depth fuelX : Nat)
    (hdec : Spec.decodeX Limits.impl S fuelX node bytes = some (v, rest))
    (hobs : Spec.observe S node v = some o)
    (hdepth : Spec.depthOf v ≤ depth) (hseq : Spec.maxLen v ≤ cfg.maxSeqSize)
    (fuel : Nat) (hfuel : 3 * Spec.size v ≤ fuel)
    (s : RState) (hs : s.isSlice = true) (hl : s.limit = none) (ha : s.avail = 0)
    (hr : s.rest = bytes) :
    de deExtModel cfg S fuel node depth false .ignored s = (.ok .unit, { s with rest := rest }) :=
  (skip_layouts cfg S v node bytes rest o depth fuelX fuel hdec hobs hdepth hseq hfuel).run
    s hs hl ha hr

/-- Skipping and reading end in the same state (same remaining input, nothing else changed). -/
theorem C12_skip_same_state_all_layouts (cfg : DeConfig) (S : Schema) (node : Node)
    (v : Spec.Value) (bytes rest : Bytes) (depth fuelS fuelX : Nat)
    (hdec : Spec.decode S fuelS node bytes = some (v, rest))
    (hobs : (Spec.observe S node v).isSome = true)
    (hexact : (Spec.decodeX Limits.impl S fuelX node bytes).isSome = true)
    (hdepth : Spec.depthOf v ≤ depth) (hseq : Spec.maxLen v ≤ cfg.maxSeqSize)
    (fuel : Nat) (hfuel : Spec.size v * 4 + 8 ≤ fuel)
    (s : RState) (hs : s.isSlice = true) (hl : s.limit = none) (ha : s.avail = 0)
    (hr : s.rest = bytes) :
    (de deExtModel cfg S fuel node depth false .ignored s).2 =
      (de deExtModel cfg S fuel node depth false .any s).2 := by
  obtain ⟨o, ho⟩ := Option.isSome_iff_exists.1 hobs
  obtain ⟨x, hx⟩ := Option.isSome_iff_exists.1 hexact
  rw [C12_skip_all_layouts cfg S node v bytes rest depth fuelS fuelX hdec hobs hexact hdepth hseq
    fuel hfuel s hs hl ha hr]
  rw [C03_de_refines_spec cfg S node v bytes rest o depth fuelS fuelX hdec ho
    (by rw [Spec.decodeX_sub _ S fuelX node bytes x hx]; rfl) hdepth hseq fuel hfuel s hs hl ha hr]

/-! ### The property: the full read succeeds ⇒ the skipping read succeeds, same final state -/

/-- **C12 (all layouts), in the form of the property.**  If the full read of `node` succeeds on
    `s` and the block byte sizes of the value it read are exact (`hexact`: `decodeX` accepts the
    input as `(v, r)`; then `v` is the value that was read and `r` what was left), the skipping
    read succeeds and ends in the *same state* `s₁` — so whatever is read next is read from the
    same bytes and is what the full read delivers there.  Nothing is assumed about `v` beyond the
    model fuel: that `v` fits the depth budget and `max_seq_size` follows from the success of the
    full read (`de_sound_bounds`).  `fuel` and `fuelR` are independent. -/
theorem C12_skip_agrees_with_read (cfg : DeConfig) (S : Schema) (node : Node) (depth fuelR : Nat)
    (s s₁ : RState) (o : Out)
    (hs : s.isSlice = true) (hl : s.limit = none) (ha : s.avail = 0)
    (hread : de deExtModel cfg S fuelR node depth false .any s = (.ok o, s₁))
    (v : Spec.Value) (r : Bytes) (fuelX : Nat)
    (hexact : Spec.decodeX Limits.impl S fuelX node s.rest = some (v, r))
    (fuel : Nat) (hfuel : 3 * Spec.size v ≤ fuel) :
    de deExtModel cfg S fuel node depth false .ignored s = (.ok .unit, s₁) ∧
      Spec.observe S node v = some o ∧ s₁.rest = r := by
  obtain ⟨v', fS, hv', ho, hdepth, hseq, hs₁⟩ :=
    de_sound_bounds cfg S node depth fuelR s s₁ o hs hl ha hread
  cases Spec.decodeL_agree S hv' (Spec.decodeX_sub _ S fuelX node s.rest _ hexact)
  refine ⟨?_, ho, rfl⟩
  rw [hs₁]
  exact (skip_layouts cfg S v node s.rest s₁.rest o depth fuelX fuel hexact ho hdepth hseq hfuel).run
    s hs hl ha rfl

/-- **C12 (all layouts), the property with no reference to the decoded value.**  For a schema
    whose keys are in bounds and a node of it, with the input-independent amount of fuel of C04
    (`fuelBound`, so that the model's own fuel is irrelevant): whenever the full read succeeds on
    an input whose block byte sizes are exact, the skipping read succeeds and ends in the same
    state. -/
theorem C12_skip_follows_read (cfg : DeConfig) (S : Schema) (hS : S.keysInBounds = true)
    (k : Nat) (node : Node) (hk : S[k]? = some node) (depth fuelR fuel : Nat)
    (s s₁ : RState) (o : Out)
    (hs : s.isSlice = true) (hl : s.limit = none) (ha : s.avail = 0)
    (hread : de deExtModel cfg S fuelR node depth false .any s = (.ok o, s₁))
    (hexact : ∃ fuelX, (Spec.decodeX Limits.impl S fuelX node s.rest).isSome = true)
    (hfuel : fuelBound cfg S .ignored depth ≤ fuel) :
    de deExtModel cfg S fuel node depth false .ignored s = (.ok .unit, s₁) := by
  obtain ⟨fuelX, hx⟩ := hexact
  obtain ⟨⟨v, r⟩, hx⟩ := Option.isSome_iff_exists.1 hx
  have hnp := C04_no_panic_root deExtModel cfg S hS fuel k node hk depth false .ignored hfuel s
  have hbig := (C12_skip_agrees_with_read cfg S node depth fuelR s s₁ o hs hl ha hread v r fuelX hx
    (max fuel (3 * Spec.size v)) (Nat.le_max_right _ _)).1
  rw [← hbig]
  exact (C04_fuel_mono deExtModel cfg S (Nat.le_max_left fuel (3 * Spec.size v)) node depth false
    .ignored s hnp).symm

/-! ### A struct target that lacks some fields -/

/-- **C12 (struct target listing a subset of the fields), all layouts.**  As `C12_struct_subset`,
    for every layout with exact block sizes: the struct target gets the entries of the full read
    with the value of every field it does not list replaced by `unit` (`maskEntry`), and both
    reads leave exactly `rest`. -/
theorem C12_struct_subset_all_layouts (cfg : DeConfig) (S : Schema) (nm : Name)
    (fields : List (String × Nat)) (v : Spec.Value) (bytes rest : Bytes) (o : Out)
    (depth fuelS fuelX : Nat)
    (fs : List (String × Hint)) (hfs : ∀ p ∈ fs, p.2 = .any)
    (hdec : Spec.decode S fuelS (.record nm fields) bytes = some (v, rest))
    (hobs : Spec.observe S (.record nm fields) v = some o)
    (hexact : (Spec.decodeX Limits.impl S fuelX (.record nm fields) bytes).isSome = true)
    (hdepth : Spec.depthOf v ≤ depth) (hseq : Spec.maxLen v ≤ cfg.maxSeqSize)
    (fuel : Nat) (hfuel : Spec.size v * 4 + 8 ≤ fuel)
    (s : RState) (hs : s.isSlice = true) (hl : s.limit = none) (ha : s.avail = 0)
    (hr : s.rest = bytes) :
    ∃ os, o = .map os ∧
      de deExtModel cfg S fuel (.record nm fields) depth false .any s =
        (.ok (.map os), { s with rest := rest }) ∧
      de deExtModel cfg S fuel (.record nm fields) depth false (.struct fs) s =
        (.ok (.map (os.map (maskEntry fs))), { s with rest := rest }) := by
  have hx := C12_decodeX_of_spec hdec hexact
  have hfull := C03_de_refines_spec cfg S _ v bytes rest o depth fuelS fuelX hdec hobs
    (by rw [Spec.decodeX_sub _ S fuelX _ bytes _ hx]; rfl) hdepth hseq fuel hfuel s hs hl ha hr
  cases fuelX with
  | zero => simp [Spec.decodeX] at hx
  | succ fX =>
    obtain ⟨vals, hb, rfl⟩ := Spec.decodeX_record_eq_some.1 hx
    simp only [Spec.observe, Option.map_eq_some_iff] at hobs
    obtain ⟨os, hos, rfl⟩ := hobs
    simp only [Spec.depthOf] at hdepth
    simp only [Spec.maxLen] at hseq
    simp only [Spec.size] at hfuel
    refine ⟨os, rfl, hfull, ?_⟩
    obtain ⟨d, rfl⟩ : ∃ d, depth = d + 1 := ⟨depth - 1, by omega⟩
    obtain ⟨f, rfl⟩ : ∃ f, fuel = f + 2 := ⟨fuel - 2, by omega⟩
    have hf := fields_struct_layouts cfg S fs hfs fields fX bytes vals rest os d f [] hb hos (by omega)
      (by omega) (by omega)
    have hrd : ReadsAt (de deExtModel cfg S (f + 2) (.record nm fields) (d + 1) false (.struct fs))
        bytes rest (.map (os.map (maskEntry fs))) := by
      rw [de, deAny]
      refine ReadsAt.bind (ReadsAt.pure d _) ?_
      exact ReadsAt.bind (hf.congr rfl (by simp)) (ReadsAt.pure _ _)
    exact hrd.run s hs hl ha hr

theorem C12_struct_subset_rest_all_layouts (cfg : DeConfig) (S : Schema) (nm : Name)
    (fields : List (String × Nat)) (v : Spec.Value) (bytes rest : Bytes) (o : Out)
    (depth fuelS fuelX : Nat)
    (fs : List (String × Hint)) (hfs : ∀ p ∈ fs, p.2 = .any)
    (hdec : Spec.decode S fuelS (.record nm fields) bytes = some (v, rest))
    (hobs : Spec.observe S (.record nm fields) v = some o)
    (hexact : (Spec.decodeX Limits.impl S fuelX (.record nm fields) bytes).isSome = true)
    (hdepth : Spec.depthOf v ≤ depth) (hseq : Spec.maxLen v ≤ cfg.maxSeqSize)
    (fuel : Nat) (hfuel : Spec.size v * 4 + 8 ≤ fuel)
    (s : RState) (hs : s.isSlice = true) (hl : s.limit = none) (ha : s.avail = 0)
    (hr : s.rest = bytes) :
    (de deExtModel cfg S fuel (.record nm fields) depth false (.struct fs) s).2 =
      (de deExtModel cfg S fuel (.record nm fields) depth false .any s).2 ∧
    (de deExtModel cfg S fuel (.record nm fields) depth false (.struct fs) s).2.rest = rest := by
  obtain ⟨os, _, h1, h2⟩ := C12_struct_subset_all_layouts cfg S nm fields v bytes rest o depth fuelS
    fuelX fs hfs hdec hobs hexact hdepth hseq fuel hfuel s hs hl ha hr
  rw [h1, h2]
  exact ⟨rfl, rfl⟩

/-! ### A unit variant for a union branch -/

/-- **C12 (unit variant), all layouts.**  An enum target offered a union: the branch is announced
    under its type name; if the target's variant of that name is a unit variant the branch value
    is skipped (`deserialize_ignored_any`) and exactly the bytes of the union are consumed. -/
theorem C12_unit_variant_all_layouts (cfg : DeConfig) (S : Schema) (vs : List Nat)
    (v : Spec.Value) (bytes rest : Bytes) (depth fuelS fuelX : Nat)
    (variants : List (String × VariantHint))
    (hdec : Spec.decode S fuelS (.union vs) bytes = some (v, rest))
    (hobs : (Spec.observe S (.union vs) v).isSome = true)
    (hexact : (Spec.decodeX Limits.impl S fuelX (.union vs) bytes).isSome = true)
    (hdepth : Spec.depthOf v ≤ depth) (hseq : Spec.maxLen v ≤ cfg.maxSeqSize)
    (fuel : Nat) (hfuel : 3 * Spec.size v ≤ fuel)
    (s : RState) (hs : s.isSlice = true) (hl : s.limit = none) (ha : s.avail = 0)
    (hr : s.rest = bytes) :
    ∃ idx v' k branch, v = .union idx v' ∧ vs[idx]? = some k ∧ S[k]? = some branch ∧
      (lookupVariant branch.typeName variants = some .unit →
        de deExtModel cfg S fuel (.union vs) depth false (.enum variants) s =
          (.ok (.variant (.str branch.typeName false) .unit), { s with rest := rest })) := by
  have hx := C12_decodeX_of_spec hdec hexact
  obtain ⟨o, ho⟩ := Option.isSome_iff_exists.1 hobs
  cases fuelX with
  | zero => simp [Spec.decodeX] at hx
  | succ fX =>
    obtain ⟨idx, r0, k, branch, v', hd, hk, hbranch, hb, rfl⟩ := Spec.decodeX_union_eq_some.1 hx
    refine ⟨idx, v', k, branch, rfl, hk, hbranch, fun hlk => ?_⟩
    simp only [Spec.observe, hk, hbranch] at ho
    simp only [Spec.depthOf] at hdepth
    simp only [Spec.maxLen] at hseq
    simp only [Spec.size] at hfuel
    have hsz := Spec.size_pos v'
    obtain ⟨d, rfl⟩ : ∃ d, depth = d + 1 := ⟨depth - 1, by omega⟩
    obtain ⟨f, rfl⟩ : ∃ f, fuel = f + 2 := ⟨fuel - 2, by omega⟩
    have hskip := skip_layouts cfg S v' branch r0 rest o d fX (f + 1) hb ho (by omega) hseq
      (by omega)
    rw [de] at hskip
    have hrd : ReadsAt (de deExtModel cfg S (f + 2) (.union vs) (d + 1) false (.enum variants))
        bytes rest (.variant (.str branch.typeName false) .unit) := by
      rw [de]
      simp only [Bool.false_eq_true, if_false]
      refine ReadsAt.bind (readsAt_readLen hd) ?_
      simp only [hk, hbranch]
      refine ReadsAt.bind (ReadsAt.pure d _) ?_
      rw [deTypeNameEnum]
      simp only [selectVariant, hlk]
      exact ReadsAt.bind hskip (ReadsAt.pure _ _)
    exact hrd.run s hs hl ha hr

/-! ### Non-vacuity on concrete bytes -/

/-- `[1, 2, 3] : array<int>` in two blocks: a block with its byte size (`count -2`, `size 2`, items
    1 and 2), a block without (`count 1`, item 3), the end marker — followed by one more byte. -/
def c12MixedBlocks : Bytes := [0x03, 0x04, 0x02, 0x04, 0x02, 0x06, 0x00]

example : Spec.decode #[.int] 6 (.array 0) (c12MixedBlocks ++ [0x2a]) =
    some (.array [.int 1, .int 2, .int 3], [0x2a]) := by rfl

example : Spec.decodeX Limits.impl #[.int] 6 (.array 0) (c12MixedBlocks ++ [0x2a]) =
    some (.array [.int 1, .int 2, .int 3], [0x2a]) := by rfl

/-- the full read (C03) … -/
example : de deExtModel {} #[.int] 44 (.array 0) 64 false .any { rest := c12MixedBlocks ++ [0x2a] } =
    (.ok (.seq [.i32 1, .i32 2, .i32 3]), { rest := [0x2a] }) :=
  C03_de_refines_spec {} #[.int] (.array 0) (.array [.int 1, .int 2, .int 3]) _ [0x2a]
    (.seq [.i32 1, .i32 2, .i32 3]) 64 6 6 (by rfl) (by rfl) (by rfl) (by decide) (by decide)
    44 (by decide) { rest := c12MixedBlocks ++ [0x2a] } rfl rfl rfl rfl

/-- … and the skipping read (the general theorem applies): the first block is jumped over, the
    second skipped item by item; the same byte is left. -/
example : de deExtModel {} #[.int] 44 (.array 0) 64 false .ignored
      { rest := c12MixedBlocks ++ [0x2a] } = (.ok .unit, { rest := [0x2a] }) :=
  C12_skip_all_layouts {} #[.int] (.array 0) (.array [.int 1, .int 2, .int 3]) _ [0x2a]
    64 6 6 (by rfl) (by rfl) (by rfl) (by decide) (by decide)
    44 (by decide) { rest := c12MixedBlocks ++ [0x2a] } rfl rfl rfl rfl

/-- the property form applies as well -/
example : de deExtModel {} #[.int] 44 (.array 0) 64 false .ignored
      { rest := c12MixedBlocks ++ [0x2a] } = (.ok .unit, { rest := [0x2a] }) :=
  (C12_skip_agrees_with_read {} #[.int] (.array 0) 64 44 { rest := c12MixedBlocks ++ [0x2a] }
    { rest := [0x2a] } (.seq [.i32 1, .i32 2, .i32 3]) rfl rfl rfl
    (C03_de_refines_spec {} #[.int] (.array 0) (.array [.int 1, .int 2, .int 3]) _ [0x2a]
      (.seq [.i32 1, .i32 2, .i32 3]) 64 6 6 (by rfl) (by rfl) (by rfl) (by decide) (by decide)
      44 (by decide) { rest := c12MixedBlocks ++ [0x2a] } rfl rfl rfl rfl)
    (.array [.int 1, .int 2, .int 3]) [0x2a] 6 (by rfl) 44 (by decide)).1

/-- the form without the value, with the fuel bound of C04 (schema `0: int`, `1: array<int>`) -/
example : de deExtModel {} #[.int, .array 0] (fuelBound {} #[.int, .array 0] .ignored 64)
      (.array 0) 64 false .ignored { rest := c12MixedBlocks ++ [0x2a] } =
      (.ok .unit, { rest := [0x2a] }) :=
  C12_skip_follows_read {} #[.int, .array 0] (by simp [Schema.keysInBounds, Node.children]) 1 (.array 0) rfl 64 44 _
    { rest := c12MixedBlocks ++ [0x2a] } { rest := [0x2a] } (.seq [.i32 1, .i32 2, .i32 3])
    rfl rfl rfl
    (C03_de_refines_spec {} #[.int, .array 0] (.array 0) (.array [.int 1, .int 2, .int 3]) _ [0x2a]
      (.seq [.i32 1, .i32 2, .i32 3]) 64 6 6 (by rfl) (by rfl) (by rfl) (by decide) (by decide)
      44 (by decide) { rest := c12MixedBlocks ++ [0x2a] } rfl rfl rfl rfl)
    ⟨6, by rfl⟩ (Nat.le_refl _)

/-! ### The discrepancy: a block byte size that is not the size of the block -/

def c12Rec : Name := { fq := "r", short := "r", ns := none }

/-- `0: int`, `1: array<int>`, `2: record r {a: array<int>, b: int}` -/
def c12Schema : Schema := #[.int, .array 0, .record c12Rec [("a", 1), ("b", 0)]]

/-- `a`: one block, `count -1`, announced byte size **2** (the single item `1` occupies 1 byte),
    item `02`, end marker `00`; `b`: `00`; then one more byte `06`. -/
def c12WrongSize : Bytes := [0x01, 0x04, 0x02, 0x00, 0x00, 0x06]

/-- the same record with the exact byte size **1** -/
def c12ExactSize : Bytes := [0x01, 0x02, 0x02, 0x00, 0x00, 0x06]

/-- with the exact size the struct target that lacks `a` gets `b = 0`, as the full read does, and
    both leave the byte `06` (`C12_struct_subset_all_layouts` applies) -/
example :
    de deExtModel {} c12Schema 44 (.record c12Rec [("a", 1), ("b", 0)]) 64 false .any
      { rest := c12ExactSize } =
      (.ok (.map [(.str "a" false, .seq [.i32 1]), (.str "b" false, .i32 0)]), { rest := [0x06] }) ∧
    de deExtModel {} c12Schema 44 (.record c12Rec [("a", 1), ("b", 0)]) 64 false
      (.struct [("b", .any)]) { rest := c12ExactSize } =
      (.ok (.map [(.str "a" false, .unit), (.str "b" false, .i32 0)]), { rest := [0x06] }) := by
  obtain ⟨os, ho, h1, h2⟩ := C12_struct_subset_all_layouts {} c12Schema c12Rec [("a", 1), ("b", 0)]
    (.record [.array [.int 1], .int 0]) c12ExactSize [0x06]
    (.map [(.str "a" false, .seq [.i32 1]), (.str "b" false, .i32 0)]) 64 10 10
    [("b", .any)] (by simp) (by rfl) (by rfl) (by rfl) (by decide) (by decide) 44 (by decide)
    { rest := c12ExactSize } rfl rfl rfl rfl
  simp only [Out.map.injEq] at ho
  subst ho
  refine ⟨h1, ?_⟩
  rw [h2]
  simp [maskEntry, lookupHint]

/-- **Discrepancy.**  The specification decoder accepts `c12WrongSize` (it never looks at the byte
    size beyond its sign) and so does the full read: `a = [1]`, `b = 0`, the byte `06` is left.
    `decodeX` refuses it.  The skipping paths jump 2 bytes instead of 1 and *succeed* with
    different results:
      * ignoring the array `a` alone leaves `[06]`, the full read of `a` leaves `[00, 06]`;
      * the struct target that lacks `a` gets `b = 3` (read from the byte `06`) where the full
        read delivers `b = 0`, and leaves nothing.
    Hence the hypothesis `hexact` of the theorems above cannot be weakened to `hlim`. -/
theorem C12_wrong_block_size_discrepancy :
    Spec.decode c12Schema 10 (.record c12Rec [("a", 1), ("b", 0)]) c12WrongSize =
      some (.record [.array [.int 1], .int 0], [0x06]) ∧
    Spec.decodeL Limits.impl c12Schema 10 (.record c12Rec [("a", 1), ("b", 0)]) c12WrongSize =
      some (.record [.array [.int 1], .int 0], [0x06]) ∧
    (∀ fuelX, Spec.decodeX Limits.impl c12Schema fuelX (.record c12Rec [("a", 1), ("b", 0)]) c12WrongSize
      = none) ∧
    de deExtModel {} c12Schema 44 (.record c12Rec [("a", 1), ("b", 0)]) 64 false .any
      { rest := c12WrongSize } =
      (.ok (.map [(.str "a" false, .seq [.i32 1]), (.str "b" false, .i32 0)]), { rest := [0x06] }) ∧
    de deExtModel {} c12Schema 44 (.record c12Rec [("a", 1), ("b", 0)]) 64 false
      (.struct [("b", .any)]) { rest := c12WrongSize } =
      (.ok (.map [(.str "a" false, .unit), (.str "b" false, .i32 3)]), { rest := [] }) ∧
    de deExtModel {} c12Schema 44 (.array 0) 64 false .any { rest := c12WrongSize } =
      (.ok (.seq [.i32 1]), { rest := [0x00, 0x06] }) ∧
    de deExtModel {} c12Schema 44 (.array 0) 64 false .ignored { rest := c12WrongSize } =
      (.ok .unit, { rest := [0x06] }) ∧
    de deExtModel {} c12Schema 44 (.record c12Rec [("a", 1), ("b", 0)]) 64 false .ignored
      { rest := c12WrongSize } = (.ok .unit, { rest := [] }) := by
  have hL : Spec.decodeL Limits.impl c12Schema 10 (.record c12Rec [("a", 1), ("b", 0)]) c12WrongSize =
      some (.record [.array [.int 1], .int 0], [0x06]) := by rfl
  have hLa : Spec.decodeL Limits.impl c12Schema 10 (.array 0) c12WrongSize =
      some (.array [.int 1], [0x00, 0x06]) := by rfl
  have hskipR : de deExtModel {} c12Schema 44 (.record c12Rec [("a", 1), ("b", 0)]) 64 false .ignored
      { rest := c12WrongSize } = (.ok .unit, { rest := [] }) := NVB.resEq_of (by decide +kernel)
  refine ⟨by rfl, hL, ?_, ?_, NVB.resEq_of (by decide +kernel), ?_, NVB.resEq_of (by decide +kernel),
    hskipR⟩
  · intro fuelX
    cases hx : Spec.decodeX Limits.impl c12Schema fuelX (.record c12Rec [("a", 1), ("b", 0)]) c12WrongSize with
    | none => rfl
    | some r =>
      exfalso
      -- by the theorem, the ignoring read would leave `[06]`; it leaves nothing
      cases Spec.decodeL_agree c12Schema hL (Spec.decodeX_sub _ _ _ _ _ _ hx)
      have := C12_skip_exact_layouts {} c12Schema _ _ c12WrongSize [0x06] _ 64 fuelX hx (by rfl)
        (by decide) (by decide) 44 (by decide) { rest := c12WrongSize } rfl rfl rfl rfl
      rw [hskipR] at this
      simp at this
  · exact C03_de_accepts_impl_layouts {} c12Schema _ _ c12WrongSize [0x06] _ 64 10 hL (by rfl)
      (by decide) (by decide) 44 (by decide) { rest := c12WrongSize } rfl rfl rfl rfl
  · exact C03_de_accepts_impl_layouts {} c12Schema _ _ c12WrongSize [0x00, 0x06] _ 64 10 hLa (by rfl)
      (by decide) (by decide) 44 (by decide) { rest := c12WrongSize } rfl rfl rfl rfl

end Avro.Theorems
