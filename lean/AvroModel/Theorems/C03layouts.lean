import AvroModel.Lemmas.CanonExact
import AvroModel.Lemmas.DeSoundLayouts
import AvroModel.Theorems.C04
import AvroModel.Lemmas.OutEq
/-
C03 — decoder conformance on *every* layout, and soundness ("never a fabricated value").

The specification decoder `Spec.decode` accepts every legal layout of a value: arrays and maps
split into any number of blocks, any block written with a negative count followed by its byte
size, and also varints of any length (`Spec.decodeNat` has no length bound) and decimals of any
byte length.  The model of the deserializer (`Impl.de`, slice back-end, dynamically typed target)
is compared with it through `Spec.decodeL L`, which is `Spec.decode` with three explicit knobs
(`Spec.Limits`, `AvroModel/Lemmas/SpecLayouts.lean`):

  * `maxVarint`       longest varint accepted (bytes)               spec: unbounded   impl: 10
  * `maxDecimal`      longest two's-complement decimal (bytes)      spec: unbounded   impl: 16
  * `checkBlockSize`  the byte size after a negative count is ≥ 0   spec: yes         impl: yes
                      (`read_block_len` rejects a negative byte size since the crate's repair of
                      defect D28; before, the byte size was read and dropped)

DISCREPANCIES between the two decoders (each with concrete bytes below):
  D-a `C03_overlong_varint_rejected`      an 11-byte varint for 0: `Spec.decode` accepts, `de` refuses
                                          (hence the hypothesis `hlim` of `C03_de_refines_spec`);
  D-b `C03_long_decimal_rejected`         a 17-byte `bytes` decimal 0: `Spec.decode` accepts, `de`
                                          refuses (the documented numeric limit, also in `hlim`);
NO DISCREPANCY since the crate's repair of D28:
  D-c `C03_negative_block_size_rejected`  block count -1 followed by byte size -1: `Spec.decode`
                                          refuses, and so does `de` (before the repair the crate read
                                          the byte size as a `u64` varint and dropped it).
-/
namespace Avro.Theorems
open Avro Avro.Spec Avro.Impl

/-! ### The limited decoder is a faithful mirror of the specification decoder -/

theorem C03_decodeL_spec (S : Schema) (fuel : Nat) (n : Node) (bs : Bytes) :
    Spec.decodeL Limits.spec S fuel n bs = Spec.decode S fuel n bs := Spec.decodeL_spec S fuel n bs

theorem C03_decodeL_mono {L L' : Limits} (hle : L.le L') (S : Schema) {fuel fuel' : Nat}
    (hf : fuel ≤ fuel') {n : Node} {bs : Bytes} {r : Value × Bytes}
    (h : Spec.decodeL L S fuel n bs = some r) : Spec.decodeL L' S fuel' n bs = some r :=
  Spec.decodeL_mono hle S hf h

/-- Within the implementation's limits (and with the specification's check of block byte sizes)
    the limited decoder agrees with the specification decoder. -/
theorem C03_decodeL_implStrict_sub_spec (S : Schema) (fuel : Nat) (n : Node) (bs : Bytes)
    (r : Value × Bytes) (h : Spec.decodeL Limits.implStrict S fuel n bs = some r) :
    Spec.decode S fuel n bs = some r := by
  rw [← Spec.decodeL_spec]
  exact Spec.decodeL_mono Limits.implStrict_le_spec S (Nat.le_refl _) h

/-- The implementation's limits are the strict ones: what `decodeL Limits.impl` accepts, the
    specification decoder accepts with the same result. -/
theorem C03_decodeL_impl_sub_spec (S : Schema) (fuel : Nat) (n : Node) (bs : Bytes)
    (r : Value × Bytes) (h : Spec.decodeL Limits.impl S fuel n bs = some r) :
    Spec.decode S fuel n bs = some r := by
  rw [← Spec.decodeL_spec]
  exact Spec.decodeL_mono Limits.impl_le_spec S (Nat.le_refl _) h

theorem C03_decodeL_impl_agrees (S : Schema) (fuel fuel' : Nat) (n : Node) (bs : Bytes)
    (r r' : Value × Bytes) (h : Spec.decodeL Limits.impl S fuel n bs = some r)
    (h' : Spec.decode S fuel' n bs = some r') : r = r' := by
  rw [← Spec.decodeL_spec] at h'
  exact Spec.decodeL_agree S h h'

/-- the hypotheses `hdec`, `hlim` of `C03_de_refines_spec` name a run of the limited decoder -/
theorem C03_decodeL_impl_of_spec {S : Schema} {fuelS fuelL : Nat} {n : Node} {bs : Bytes}
    {r : Value × Bytes} (hdec : Spec.decode S fuelS n bs = some r)
    (hlim : (Spec.decodeL Limits.impl S fuelL n bs).isSome = true) :
    Spec.decodeL Limits.impl S fuelL n bs = some r := by
  obtain ⟨x, hx⟩ := Option.isSome_iff_exists.1 hlim
  rw [hx, C03_decodeL_impl_agrees S fuelL fuelS n bs x r hx hdec]

/-! ### Acceptance on every layout -/

/-- **C03, acceptance (all layouts), with the fuel bound `3 * size v` that the induction gives.**  `hlim` says that the input stays within
    the implementation's two numeric limits — no varint longer than 10 bytes, no decimal longer
    than 16 bytes — and nothing else: `decodeL Limits.impl` differs from `Spec.decode` only by
    these two bounds.  Both bounds are necessary
    (`C03_overlong_varint_rejected`, `C03_long_decimal_rejected`). -/
theorem C03_de_refines_spec_fuel3 (cfg : DeConfig) (S : Schema) (node : Node) (v : Spec.Value)
    (bytes rest : Bytes) (o : Out) (depth fuelS fuelL : Nat)
    (hdec : Spec.decode S fuelS node bytes = some (v, rest))
    (hobs : Spec.observe S node v = some o)
    (hlim : (Spec.decodeL Limits.impl S fuelL node bytes).isSome = true)
    (hdepth : Spec.depthOf v ≤ depth) (hseq : Spec.maxLen v ≤ cfg.maxSeqSize)
    (fuel : Nat) (hfuel : 3 * Spec.size v ≤ fuel)
    (s : RState) (hs : s.isSlice = true) (hl : s.limit = none) (ha : s.avail = 0)
    (hr : s.rest = bytes) :
    de deExtModel cfg S fuel node depth false .any s = (.ok o, { s with rest := rest }) := by
  exact (de_accepts_layouts cfg S v node bytes rest o depth fuelL fuel
    (C03_decodeL_impl_of_spec hdec hlim) hobs hdepth hseq hfuel).run
    s hs hl ha hr

/-- **C03, acceptance (all layouts).**  Every input the specification decoder accepts — arrays and
    maps split into any number of blocks, blocks with a negative count and a byte size, non-minimal
    varints of at most 10 bytes — is read by the deserializer, which hands the target exactly
    `observe v` and consumes exactly what the specification decoder consumed.  Generalises
    `C01_de_accepts` from canonical encodings to all layouts. -/
theorem C03_de_refines_spec (cfg : DeConfig) (S : Schema) (node : Node) (v : Spec.Value)
    (bytes rest : Bytes) (o : Out) (depth fuelS fuelL : Nat)
    (hdec : Spec.decode S fuelS node bytes = some (v, rest))
    (hobs : Spec.observe S node v = some o)
    (hlim : (Spec.decodeL Limits.impl S fuelL node bytes).isSome = true)
    (hdepth : Spec.depthOf v ≤ depth) (hseq : Spec.maxLen v ≤ cfg.maxSeqSize)
    (fuel : Nat) (hfuel : Spec.size v * 4 + 8 ≤ fuel)
    (s : RState) (hs : s.isSlice = true) (hl : s.limit = none) (ha : s.avail = 0)
    (hr : s.rest = bytes) :
    de deExtModel cfg S fuel node depth false .any s = (.ok o, { s with rest := rest }) :=
  C03_de_refines_spec_fuel3 cfg S node v bytes rest o depth fuelS fuelL hdec hobs hlim hdepth hseq fuel
    (by omega) s hs hl ha hr

/-- The same stated on the limited decoder alone (no reference to `Spec.decode` needed): the
    deserializer accepts every run of `decodeL Limits.impl`. -/
theorem C03_de_accepts_impl_layouts (cfg : DeConfig) (S : Schema) (node : Node) (v : Spec.Value)
    (bytes rest : Bytes) (o : Out) (depth fuelS : Nat)
    (hdec : Spec.decodeL Limits.impl S fuelS node bytes = some (v, rest))
    (hobs : Spec.observe S node v = some o)
    (hdepth : Spec.depthOf v ≤ depth) (hseq : Spec.maxLen v ≤ cfg.maxSeqSize)
    (fuel : Nat) (hfuel : 3 * Spec.size v ≤ fuel)
    (s : RState) (hs : s.isSlice = true) (hl : s.limit = none) (ha : s.avail = 0)
    (hr : s.rest = bytes) :
    de deExtModel cfg S fuel node depth false .any s = (.ok o, { s with rest := rest }) :=
  (de_accepts_layouts cfg S v node bytes rest o depth fuelS fuel hdec hobs hdepth hseq hfuel).run
    s hs hl ha hr

/-! ### Soundness: never a fabricated value -/

/-- **C03, soundness.**  Whatever the deserializer accepts, `decodeL Limits.impl` — the
    specification decoder with 10-byte varints and 16-byte decimals — accepts, with a value whose
    observation is what the target received and with exactly the same remainder; nothing else of
    the state changed.  No hypothesis on the schema, the configuration, the fuel or the input. -/
theorem C03_de_sound (cfg : DeConfig) (S : Schema) (node : Node) (depth fuel : Nat)
    (s s' : RState) (o : Out)
    (hs : s.isSlice = true) (hl : s.limit = none) (ha : s.avail = 0)
    (h : de deExtModel cfg S fuel node depth false .any s = (.ok o, s')) :
    ∃ v fuelS, Spec.decodeL Limits.impl S fuelS node s.rest = some (v, s'.rest) ∧
      Spec.observe S node v = some o ∧ s' = { s with rest := s'.rest } :=
  de_sound_layouts cfg S node depth fuel s s' o hs hl ha h

/-- `hlim` is not vacuous: every canonical encoding (`Spec.encode`) of a value the deserializer can
    represent is within the implementation's limits, so `C03_de_refines_spec` subsumes
    `C01_de_accepts`.  (The exact-size decoder accepts it, `Spec.decodeX_encode`.) -/
theorem C03_canonical_within_limits (S : Schema) (n : Node) (v : Spec.Value) (enc rest : Bytes)
    (o : Out) (henc : Spec.encode S n v = some enc) (hobs : Spec.observe S n v = some o)
    (hfix : Spec.fixedDecOk S n v = true) :
    ∃ fuelL, Spec.decodeL Limits.impl S fuelL n (enc ++ rest) = some (v, rest) :=
  ⟨Spec.size v, Spec.decodeX_sub _ S _ n _ _ (Spec.decodeX_impl_encode S n v enc rest henc
    (Option.isSome_of_eq_some hobs) hfix _ (Nat.le_refl _))⟩

/-- **C03, soundness against the specification decoder.**  Whatever the implementation accepts,
    `Spec.decode` accepts with the same value and the same consumed length.  No hypothesis on the
    schema, the configuration, the fuel or the input. -/
theorem C03_de_rejects_invalid (cfg : DeConfig) (S : Schema) (node : Node) (depth fuel : Nat)
    (s s' : RState) (o : Out)
    (hs : s.isSlice = true) (hl : s.limit = none) (ha : s.avail = 0)
    (h : de deExtModel cfg S fuel node depth false .any s = (.ok o, s')) :
    ∃ v fuelS, Spec.decode S fuelS node s.rest = some (v, s'.rest) ∧
      Spec.observe S node v = some o := by
  obtain ⟨v, fS, hv, ho, _⟩ := C03_de_sound cfg S node depth fuel s s' o hs hl ha h
  exact ⟨v, fS, C03_decodeL_impl_sub_spec S fS node s.rest _ hv, ho⟩

/-- **C03, invalid input is an error** (lax form, implied by `C03_invalid_is_err`): an input that
    even the specification decoder *without* the sign check on block byte sizes rejects with every
    amount of fuel is never deserialized into a value. -/
theorem C03_invalid_is_err_lax (cfg : DeConfig) (S : Schema) (node : Node) (depth fuel : Nat)
    (s : RState) (hs : s.isSlice = true) (hl : s.limit = none) (ha : s.avail = 0)
    (hinv : ∀ fuelS, Spec.decodeL Limits.specLax S fuelS node s.rest = none) (o : Out) :
    (de deExtModel cfg S fuel node depth false .any s).1 ≠ .ok o := by
  intro hok
  obtain ⟨v, fS, hv, _, _⟩ := C03_de_sound cfg S node depth fuel s
    (de deExtModel cfg S fuel node depth false .any s).2 o hs hl ha (Prod.ext hok rfl)
  have := Spec.decodeL_mono Limits.impl_le_specLax S (Nat.le_refl fS) hv
  rw [hinv fS] at this
  cases this

/-- **C03, invalid input is an error**: an input the specification decoder rejects with every
    amount of fuel (boolean byte other than 0/1, invalid UTF-8, union or enum index outside the
    schema, negative length, negative block byte size, premature end of input, …) is never
    deserialized into a value. -/
theorem C03_invalid_is_err (cfg : DeConfig) (S : Schema) (node : Node) (depth fuel : Nat)
    (s : RState) (hs : s.isSlice = true) (hl : s.limit = none) (ha : s.avail = 0)
    (hinv : ∀ fuelS, Spec.decode S fuelS node s.rest = none) (o : Out) :
    (de deExtModel cfg S fuel node depth false .any s).1 ≠ .ok o := by
  intro hok
  obtain ⟨v, fS, hv, _⟩ := C03_de_rejects_invalid cfg S node depth fuel s
    (de deExtModel cfg S fuel node depth false .any s).2 o hs hl ha (Prod.ext hok rfl)
  rw [hinv fS] at hv
  cases hv

/-- A block header with a negative count whose byte size is negative too: the specification's
    decoder rejects it … -/
theorem decodeBlockHeader_negative_size {bs rest1 rest2 : Bytes} {c size : Int}
    (h1 : Spec.decodeLong bs = some (c, rest1)) (hc : c < 0)
    (h2 : Spec.decodeLong rest1 = some (size, rest2)) (hsz : size < 0) :
    Spec.decodeBlockHeader bs = none := by
  unfold Spec.decodeBlockHeader
  rw [h1]
  simp only [ge_iff_le, show ¬ (0 ≤ c) by omega, if_false, h2, show ¬ (0 ≤ size) by omega]

/-- … for an array or a map that starts with such a header, with every amount of fuel -/
theorem decode_none_of_negative_block_size (S : Schema) (node : Node) (k : Nat)
    (hnode : node = .array k ∨ node = .map k) {bs rest1 rest2 : Bytes} {c size : Int}
    (h1 : Spec.decodeLong bs = some (c, rest1)) (hc : c < 0)
    (h2 : Spec.decodeLong rest1 = some (size, rest2)) (hsz : size < 0) (fuelS : Nat) :
    Spec.decode S fuelS node bs = none := by
  have hh := decodeBlockHeader_negative_size h1 hc h2 hsz
  rcases hnode with rfl | rfl <;>
  · cases fuelS with
    | zero => simp [Spec.decode]
    | succ f =>
      simp only [Spec.decode]
      cases Spec.nodeOf S k with
      | none => rfl
      | some item =>
        cases f with
        | zero => simp [Spec.decodeBlocks, Spec.decodeMapBlocks]
        | succ f => simp [Spec.decodeBlocks, Spec.decodeMapBlocks, hh]

/-- **C03, the byte size of a block is checked.**  An array or map whose FIRST block header has a
    negative item count followed by a NEGATIVE byte size (any two varints: canonical or padded)
    is never deserialized into a value — whatever follows, whatever the schema, the configuration
    and the fuel.  (Before the repair of `read_block_len` the implementation ignored the byte
    size of a block it did not skip, and accepted such input.) -/
theorem C03_block_sizes_checked (cfg : DeConfig) (S : Schema) (node : Node) (k : Nat)
    (hnode : node = .array k ∨ node = .map k) (depth fuel : Nat)
    (s : RState) (hs : s.isSlice = true) (hl : s.limit = none) (ha : s.avail = 0)
    (c size : Int) (rest1 rest2 : Bytes)
    (h1 : Spec.decodeLong s.rest = some (c, rest1)) (hc : c < 0)
    (h2 : Spec.decodeLong rest1 = some (size, rest2)) (hsz : size < 0) (o : Out) :
    (de deExtModel cfg S fuel node depth false .any s).1 ≠ .ok o :=
  C03_invalid_is_err cfg S node depth fuel s hs hl ha
    (decode_none_of_negative_block_size S node k hnode h1 hc h2 hsz) o

/-- With C04's totality: for a well-formed schema and at least `fuelBound` units of fuel (so that
    the model's own out-of-fuel `panic` is excluded) the outcome on invalid input is an `Err` of
    the crate's custom class or of the I/O class. -/
theorem C03_invalid_is_err_class (cfg : DeConfig) (S : Schema) (hS : S.keysInBounds = true)
    (k : Nat) (node : Node) (hk : S[k]? = some node) (depth fuel : Nat)
    (hf : fuelBound cfg S .any depth ≤ fuel)
    (s : RState) (hs : s.isSlice = true) (hl : s.limit = none) (ha : s.avail = 0)
    (hinv : ∀ fuelS, Spec.decode S fuelS node s.rest = none) :
    (de deExtModel cfg S fuel node depth false .any s).1 = .error .custom ∨
    (de deExtModel cfg S fuel node depth false .any s).1 = .error .io := by
  rcases C04_ok_or_err deExtModel cfg S hS fuel k node hk depth false .any hf s with ⟨o, ho⟩ | h
  · exact absurd ho (C03_invalid_is_err cfg S node depth fuel s hs hl ha hinv o)
  · exact h

/-! ### Non-vacuity and the discrepancies, on concrete bytes -/

/-- `[1, 2, 3] : array<int>` in two blocks: `count 1`, item; `count -2`, `byte size 2`, two items;
    end marker. -/
def twoBlocks : Bytes := [0x02, 0x02, 0x03, 0x04, 0x04, 0x06, 0x00]

example : Spec.decode #[.int] 6 (.array 0) twoBlocks =
    some (.array [.int 1, .int 2, .int 3], []) := by rfl

example : Spec.decodeL Limits.impl #[.int] 6 (.array 0) twoBlocks =
    some (.array [.int 1, .int 2, .int 3], []) := by rfl

/-- the general theorem applies to it -/
example : de deExtModel {} #[.int] 44 (.array 0) 64 false .any { rest := twoBlocks } =
    (.ok (.seq [.i32 1, .i32 2, .i32 3]), { rest := [] }) :=
  C03_de_refines_spec {} #[.int] (.array 0) (.array [.int 1, .int 2, .int 3]) twoBlocks []
    (.seq [.i32 1, .i32 2, .i32 3]) 64 6 6 (by rfl) (by rfl) (by rfl) (by decide) (by decide)
    44 (by decide) { rest := twoBlocks } rfl rfl rfl rfl

/-- an invalid boolean byte is rejected by both -/
example : Spec.decode #[] 5 .boolean [2] = none := by rfl
example : ∀ fuelS, Spec.decode #[] fuelS .boolean [2] = none := by
  intro f; cases f <;> simp [Spec.decode]
example : (de deExtModel {} #[] 5 .boolean 64 false .any { rest := [2] }).1 = .error .custom :=
  NVB.fstEq_of (by decide +kernel)

/-- the corollary applies to it -/
example (o : Out) : (de deExtModel {} #[] 5 .boolean 64 false .any { rest := [2] }).1 ≠ .ok o :=
  C03_invalid_is_err {} #[] .boolean 64 5 { rest := [2] } rfl rfl rfl
    (by intro f; cases f <;> simp [Spec.decode]) o

/-- D-a: an 11-byte varint (value 0): accepted by the specification decoder, refused by the
    implementation (`integer-encoding` stops at 10 bytes). -/
def overlong : Bytes := [0x80, 0x80, 0x80, 0x80, 0x80, 0x80, 0x80, 0x80, 0x80, 0x80, 0x00]

theorem C03_overlong_varint_rejected :
    Spec.decode #[] 2 .long overlong = some (.long 0, []) ∧
    Spec.decodeL Limits.impl #[] 2 .long overlong = none ∧
    (de deExtModel {} #[] 5 .long 64 false .any { rest := overlong }).1 = .error .custom := by
  have h : Spec.decodeLong overlong = some (0, []) := by decide
  refine ⟨by simp [Spec.decode, h], ?_, ?_⟩
  · have : Spec.decodeLongL Limits.impl overlong = none := by
      unfold Spec.decodeLongL; rw [h]; rfl
    simp [Spec.decodeL, this]
  exact NVB.fstEq_of (by decide +kernel)

/-- D-b: decimal 0 written on 17 bytes (`bytes` representation): accepted by the specification
    decoder, refused by the implementation (`size > 16`). -/
theorem C03_long_decimal_rejected :
    Spec.decode #[] 2 (.decimal 0 5 .bytes) (34 :: List.replicate 17 0) = some (.decimal 0, []) ∧
    Spec.decodeL Limits.impl #[] 2 (.decimal 0 5 .bytes) (34 :: List.replicate 17 0) = none ∧
    (de deExtModel {} #[] 5 (.decimal 0 5 .bytes) 64 false .any
      { rest := 34 :: List.replicate 17 0 }).1 = .error .custom := by
  exact ⟨by rfl, by rfl, NVB.fstEq_of (by decide +kernel)⟩

/-- D-c (repaired): `array<null>`, block count -1 followed by the byte size -1, end marker: refused
    by the specification decoder (a size is not negative) and, since the repair of
    `read_block_len`, by the implementation as well — it used to read the byte size as a `u64`
    varint and drop it, and returned `[null]`. -/
theorem C03_negative_block_size_rejected :
    (∀ fuelS, Spec.decode #[.null] fuelS (.array 0) [0x01, 0x01, 0x00] = none) ∧
    (∀ fuelS, Spec.decodeL Limits.impl #[.null] fuelS (.array 0) [0x01, 0x01, 0x00] = none) ∧
    (∀ o, (de deExtModel {} #[.null] 20 (.array 0) 64 false .any
      { rest := [0x01, 0x01, 0x00] }).1 ≠ .ok o) ∧
    (de deExtModel {} #[.null] 20 (.array 0) 64 false .any { rest := [0x01, 0x01, 0x00] }).1 =
      .error .custom := by
  have hnone : ∀ fuelS, Spec.decode #[.null] fuelS (.array 0) [0x01, 0x01, 0x00] = none :=
    decode_none_of_negative_block_size #[.null] _ 0 (.inl rfl) (c := -1) (size := -1)
      (rest1 := [0x01, 0x00]) (rest2 := [0x00]) (by decide) (by decide) (by decide) (by decide)
  have hnoneL : ∀ fuelS,
      Spec.decodeL Limits.impl #[.null] fuelS (.array 0) [0x01, 0x01, 0x00] = none := by
    intro f
    cases h : Spec.decodeL Limits.impl #[.null] f (.array 0) [0x01, 0x01, 0x00] with
    | none => rfl
    | some r =>
      have := C03_decodeL_impl_sub_spec _ _ _ _ _ h
      rw [hnone f] at this
      cases this
  have hne : ∀ o, (de deExtModel {} #[.null] 20 (.array 0) 64 false .any
      { rest := [0x01, 0x01, 0x00] }).1 ≠ .ok o :=
    fun o => C03_invalid_is_err {} #[.null] (.array 0) 64 20 { rest := [0x01, 0x01, 0x00] }
      rfl rfl rfl hnone o
  exact ⟨hnone, hnoneL, hne, NVB.fstEq_of (by decide +kernel)⟩

end Avro.Theorems
