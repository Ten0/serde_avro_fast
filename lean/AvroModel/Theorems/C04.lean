import AvroModel.Lemmas.DeBounds
import AvroModel.Lemmas.Reader
/-
C04 (robustness of datum deserialization) on the model `AvroModel/Impl/De.lean`: input monotonicity,
the sequence limit, the depth budget, the input-independent bound `fuelBound` above which the model
fuel is irrelevant, bounded allocation, absence of panics; and the C03 rejection classes of the slice
back-end. The proofs are in `AvroModel/Lemmas/DeBounds.lean`, on top of the walk of
`AvroModel/Lemmas/DeWalk.lean`.
-/
namespace Avro.Theorems
open Avro Avro.Impl

/-! ### Input monotonicity -/

/-- Every read primitive only drops a prefix of the unread input, on both back-ends and
    whatever the outcome. -/
theorem C04_primitives_suffix :
    (∀ k, Mono (readSome k)) ∧ (∀ f k acc, Mono (readExactR f k acc)) ∧ (∀ k, Mono (readExact k)) ∧
    (∀ t, Mono (readVarint t)) ∧ (∀ n, Mono (readSlice n)) ∧ (∀ n, Mono (skipBytes n)) ∧
    Mono readLen ∧ Mono readString ∧ Mono readBytes ∧ Mono readBool ∧
    (∀ ign fuel, Mono (readBlockLen ign fuel)) ∧ (∀ cfg ign bs, Mono (hasMore cfg ign bs)) ∧
    (∀ ext mode hint, Mono (readDecimal ext mode hint)) :=
  have H := Mono.rel
  have L := Mono.logic
  ⟨Keeps.readSome H, Keeps.readExactR H, Keeps.readExact H, Keeps.readVarint H, Keeps.readSlice H (fun _ _ _ => List.suffix_refl _),
   Keeps.skipBytes H, L.len.2, (L.string 0).2, (L.bytes 0).2, (L.bool 0).2,
   Keeps.readBlockLen H, fun cfg ign bs => (L.more cfg ign bs fun _ => trivial).2,
   fun ext mode hint => (L.decimal 0 ext mode hint).2⟩

/-- **C04, input monotonicity.** Whatever the schema, the bytes, the target, the limits and the
    back-end (slice or chunked reader), and whether it succeeds or fails, the deserializer leaves
    a suffix of the input it was given: it never reads outside its input and never un-reads. -/
theorem C04_rest_suffix (ext : DeExt) (cfg : DeConfig) (S : Schema) (fuel : Nat) (node : Node)
    (depth : Nat) (favor : Bool) (h : Hint) (s : RState) :
    ∃ consumed, s.rest = consumed ++ (de ext cfg S fuel node depth favor h s).2.rest := by
  obtain ⟨t, ht⟩ := (Mono.deAll ext cfg S fuel).de node depth favor h s
  exact ⟨t, ht.symm⟩

theorem C04_rest_length_le (ext : DeExt) (cfg : DeConfig) (S : Schema) (fuel : Nat) (node : Node)
    (depth : Nat) (favor : Bool) (h : Hint) (s : RState) :
    (de ext cfg S fuel node depth favor h s).2.rest.length ≤ s.rest.length :=
  ((Mono.deAll ext cfg S fuel).de node depth favor h s).length_le

/-- The same for the other entry points of the mutual block. -/
theorem C04_rest_suffix_all (ext : DeExt) (cfg : DeConfig) (S : Schema) (fuel : Nat) :
    (∀ node depth vs, Mono (deTypeNameEnum ext cfg S fuel node depth vs)) ∧
    (∀ node depth h, Mono (deAny ext cfg S fuel node depth h)) ∧
    (∀ node depth, Mono (deIgnored ext cfg S fuel node depth)) ∧
    (∀ item depth ign eh mi bs acc, Mono (deSeqLoop ext cfg S fuel item depth ign eh mi bs acc)) ∧
    (∀ item depth ign h bs acc, Mono (deMapLoop ext cfg S fuel item depth ign h bs acc)) ∧
    (∀ fields depth h acc, Mono (deRecordFields ext cfg S fuel fields depth h acc)) :=
  have B := Mono.deAll ext cfg S fuel
  ⟨B.tne, B.any, B.ign, B.seq, B.map, B.recd⟩

/-! ### The sequence limit -/

/-- **C04, `max_seq_size`.** When the block reader announces another item, the running total of
    announced items is within the configured maximum. -/
theorem C04_seq_limit (cfg : DeConfig) (ignored : Bool) (bs bs' : BlockState) (s s' : RState)
    (hbs : bs.nRead ≤ cfg.maxSeqSize)
    (h : hasMore cfg ignored bs s = (.ok (true, bs'), s')) : bs'.nRead ≤ cfg.maxSeqSize :=
  (hasMore_true cfg ignored bs bs' s s' h).1 hbs

/-- A block whose count would push the total over the maximum is rejected with `Err`. -/
theorem C04_seq_limit_reject (cfg : DeConfig) (ignored : Bool) (bs : BlockState) (s s' : RState)
    (l : Nat) (hcur : bs.current = 0)
    (hl : readBlockLen ignored (s.rest.length + 2) s = (.ok (some l), s'))
    (hover : bs.nRead + l > cfg.maxSeqSize) :
    hasMore cfg ignored bs s = (.error .custom, s') := by
  unfold hasMore
  simp only [hcur, hl, hover, if_true]

/-- An array never yields more than `max_seq_size` items. -/
theorem C04_seq_items (ext : DeExt) (cfg : DeConfig) (S : Schema) (fuel : Nat) (item : Node)
    (depth : Nat) (ign : Bool) (eh : Hint) (mi : Option Nat) (s : RState) (items : List Out)
    (h : (deSeqLoop ext cfg S fuel item depth ign eh mi {} [] s).1 = .ok items) :
    items.length ≤ cfg.maxSeqSize :=
  deSeqLoop_length ext cfg S fuel item depth ign eh mi {} [] (Nat.zero_le _) rfl s items _
    (Prod.ext h rfl)

/-- A map never yields more than `max_seq_size` entries. -/
theorem C04_map_entries (ext : DeExt) (cfg : DeConfig) (S : Schema) (fuel : Nat) (item : Node)
    (depth : Nat) (ign : Bool) (h : Hint) (s : RState) (entries : List (Out × Out))
    (hok : (deMapLoop ext cfg S fuel item depth ign h {} [] s).1 = .ok entries) :
    entries.length ≤ cfg.maxSeqSize :=
  deMapLoop_length ext cfg S fuel item depth ign h {} [] (Nat.zero_le _) rfl s entries _
    (Prod.ext hok rfl)


/-! ### The depth budget -/

/-- **C04, depth limit (rejection).** With a zero depth budget an array, a map or a record is
    never deserialized, whatever the target asks for (`deserialize_any`, an option, an enum,
    `IgnoredAny`, …) and whatever the input: the result is `Err`. -/
theorem C04_depth_zero (ext : DeExt) (cfg : DeConfig) (S : Schema) (fuel : Nat) (node : Node)
    (favor : Bool) (h : Hint) (s : RState) (o : Out) (hc : node.isContainer = true) :
    (de ext cfg S fuel node 0 favor h s).1 ≠ .ok o :=
  ((depth_zero_all ext cfg S fuel).1 node favor h hc).ne_ok s o

/-- The same for `deserialize_any` on each of the four compound kinds (a union is rejected after
    its discriminant has been read). -/
theorem C04_depth_zero_any (ext : DeExt) (cfg : DeConfig) (S : Schema) (fuel : Nat) (node : Node)
    (h : Hint) (s : RState) (o : Out)
    (hc : node.isContainer = true ∨ ∃ vs, node = .union vs) :
    (deAny ext cfg S fuel node 0 h s).1 ≠ .ok o := by
  rcases hc with hc | ⟨vs, rfl⟩
  · exact ((depth_zero_all ext cfg S fuel).2.2.1 node h hc).ne_ok s o
  · exact (depth_zero_union ext cfg S fuel vs h).ne_ok s o

/-- The same for `deserialize_ignored_any`. -/
theorem C04_depth_zero_ignored (ext : DeExt) (cfg : DeConfig) (S : Schema) (fuel : Nat)
    (node : Node) (s : RState) (o : Out) (hc : node.isContainer = true) :
    (deIgnored ext cfg S fuel node 0 s).1 ≠ .ok o :=
  ((depth_zero_all ext cfg S fuel).2.2.2 node hc).ne_ok s o

/-- With a zero budget and a well-formed schema the rejection is the crate's custom error. -/
theorem C04_depth_zero_array (ext : DeExt) (cfg : DeConfig) (S : Schema) (fuel k : Nat)
    (item : Node) (hk : S[k]? = some item) (h : Hint) (s : RState) :
    deAny ext cfg S (fuel + 1) (.array k) 0 h s = (.error .custom, s) := by
  rw [deAny_array hk]; rfl

theorem C04_depth_zero_map (ext : DeExt) (cfg : DeConfig) (S : Schema) (fuel k : Nat)
    (item : Node) (hk : S[k]? = some item) (h : Hint) (s : RState) :
    deAny ext cfg S (fuel + 1) (.map k) 0 h s = (.error .custom, s) := by
  rw [deAny_map hk]; rfl

theorem C04_depth_zero_record (ext : DeExt) (cfg : DeConfig) (S : Schema) (fuel : Nat)
    (nm : Name) (fields : List (String × Nat)) (h : Hint) (s : RState) :
    deAny ext cfg S (fuel + 1) (.record nm fields) 0 h s = (.error .custom, s) := by
  rw [deAny_record]; rfl

/-- **C04, depth limit (accounting).** Each descent into a compound node runs the children with
    the budget decremented by exactly one. -/
theorem C04_descent_array (ext : DeExt) (cfg : DeConfig) (S : Schema) (fuel k : Nat) (item : Node)
    (hk : S[k]? = some item) (depth : Nat) (h : Hint) :
    deAny ext cfg S (fuel + 1) (.array k) (depth + 1) h
      = (do let items ← deSeqLoop ext cfg S fuel item depth false h.elem h.maxItems {} []
            pure (.seq items)) := by
  rw [deAny_array hk]; rfl

theorem C04_descent_map (ext : DeExt) (cfg : DeConfig) (S : Schema) (fuel k : Nat) (item : Node)
    (hk : S[k]? = some item) (depth : Nat) (h : Hint) :
    deAny ext cfg S (fuel + 1) (.map k) (depth + 1) h
      = (do let entries ← deMapLoop ext cfg S fuel item depth false h {} []
            pure (.map entries)) := by
  rw [deAny_map hk]; rfl

theorem C04_descent_record (ext : DeExt) (cfg : DeConfig) (S : Schema) (fuel : Nat) (nm : Name)
    (fields : List (String × Nat)) (depth : Nat) (h : Hint) :
    deAny ext cfg S (fuel + 1) (.record nm fields) (depth + 1) h
      = (do let entries ← deRecordFields ext cfg S fuel fields depth h []
            pure (.map entries)) := by
  rw [deAny_record]; rfl

theorem C04_descent_union (ext : DeExt) (cfg : DeConfig) (S : Schema) (fuel : Nat) (vs : List Nat)
    (depth : Nat) (h : Hint) :
    deAny ext cfg S (fuel + 1) (.union vs) (depth + 1) h
      = (do let d ← readDiscriminant
            match vs[d]? with
            | none => DeM.fail .custom
            | some k =>
              match S[k]? with
              | none => DeM.fail .panic
              | some variant => deAny ext cfg S fuel variant depth h) := by
  simp only [deAny]; rfl


/-- **C04, depth limit (semantic form).** A value that is successfully deserialized with depth
    budget `depth` nests sequences and maps (arrays, maps, records of the datum) at most
    `depth + 1` deep — the `+ 1` is the flat sequence/map a `duration` is presented as, which
    costs no budget. Anything nested deeper has been rejected with `Err`.
    (`Out.nesting` counts `seq`/`map` levels; `some` and `variant` are transparent.) -/
theorem C04_depth_nesting (ext : DeExt) (cfg : DeConfig) (S : Schema) (fuel : Nat) (node : Node)
    (depth : Nat) (favor : Bool) (h : Hint) (s s' : RState) (o : Out)
    (hok : de ext cfg S fuel node depth favor h s = (.ok o, s')) : o.nesting ≤ depth + 1 := by
  have := (nesting_all ext cfg S fuel).de node depth favor h trivial s fun _ _ => trivial
  rw [hok] at this
  exact this.1.2

/-! ### Termination: the model fuel is irrelevant above an explicit, input-independent bound -/

/-- **C04, bounded work (one step).** With at least `fuelBound cfg S h depth` units of fuel —
    `depth * (max_seq_size + maxFields S + 4) + 2 * h.size + 2`, a number that depends on the
    limits, the schema's widest record and the target, but *not* on the input bytes — one more
    unit of fuel changes nothing: same result, same final state, on every input and back-end.
    (`nodeFields node ≤ maxFields S` holds for every node of `S`: `C04_fuel_independent_root`.) -/
theorem C04_fuel_sufficient (ext : DeExt) (cfg : DeConfig) (S : Schema) (fuel : Nat) (node : Node)
    (depth : Nat) (favor : Bool) (h : Hint) (hnode : nodeFields node ≤ maxFields S)
    (hf : fuelBound cfg S h depth ≤ fuel) :
    de ext cfg S fuel node depth favor h = de ext cfg S (fuel + 1) node depth favor h :=
  (de_settled ext cfg S False nofun fuel node depth favor h ⟨hnode, nofun⟩ hf).1.eq

/-- **C04, bounded work.** Every amount of fuel above the bound gives the result obtained with
    exactly the bound: the recursion of the deserializer never goes deeper than the bound, so the
    fuel-exhaustion arm of the model is never what decides the outcome. -/
theorem C04_fuel_independent (ext : DeExt) (cfg : DeConfig) (S : Schema) (fuel : Nat) (node : Node)
    (depth : Nat) (favor : Bool) (h : Hint) (hnode : nodeFields node ≤ maxFields S)
    (hf : fuelBound cfg S h depth ≤ fuel) :
    de ext cfg S fuel node depth favor h
      = de ext cfg S (fuelBound cfg S h depth) node depth favor h := by
  induction hf with
  | refl => rfl
  | step hle ih => rw [← C04_fuel_sufficient ext cfg S _ node depth favor h hnode hle, ih]

/-- The same when the root node is a node of the schema (the only way the crate calls it). -/
theorem C04_fuel_independent_root (ext : DeExt) (cfg : DeConfig) (S : Schema) (fuel : Nat)
    (k : Nat) (node : Node) (hk : S[k]? = some node) (depth : Nat) (favor : Bool) (h : Hint)
    (hf : fuelBound cfg S h depth ≤ fuel) :
    de ext cfg S fuel node depth favor h
      = de ext cfg S (fuelBound cfg S h depth) node depth favor h :=
  C04_fuel_independent ext cfg S fuel node depth favor h (nodeFields_le hk) hf

/-- **Fuel monotonicity** (no bound, no hypothesis on the schema): a run that does not end in
    `panic` is unchanged by any amount of additional fuel.  Hence, by `C04_fuel_independent`, if
    *some* amount of fuel gives `Ok`/`Err`, the bound gives the same `Ok`/`Err`, and a `panic`
    obtained at or above the bound is obtained with every amount of fuel (it is a schema key out
    of bounds, not fuel exhaustion). -/
theorem C04_fuel_mono (ext : DeExt) (cfg : DeConfig) (S : Schema) {fuel fuel' : Nat}
    (hle : fuel ≤ fuel') (node : Node) (depth : Nat) (favor : Bool) (h : Hint) (s : RState)
    (hnp : (de ext cfg S fuel node depth favor h s).1 ≠ .error .panic) :
    de ext cfg S fuel' node depth favor h s = de ext cfg S fuel node depth favor h s :=
  de_refines_le ext cfg S hle node depth favor h s hnp

/-- A `panic` at or above the bound is a `panic` with every amount of fuel. -/
theorem C04_panic_not_fuel (ext : DeExt) (cfg : DeConfig) (S : Schema) (fuel fuel' : Nat)
    (node : Node) (depth : Nat) (favor : Bool) (h : Hint) (s : RState)
    (hnode : nodeFields node ≤ maxFields S) (hf : fuelBound cfg S h depth ≤ fuel)
    (hp : (de ext cfg S fuel node depth favor h s).1 = .error .panic) :
    (de ext cfg S fuel' node depth favor h s).1 = .error .panic := by
  rw [C04_fuel_independent ext cfg S fuel node depth favor h hnode hf] at hp
  by_cases hle : fuelBound cfg S h depth ≤ fuel'
  · rw [C04_fuel_independent ext cfg S fuel' node depth favor h hnode hle]; exact hp
  · apply Classical.byContradiction
    intro hnp
    have := C04_fuel_mono ext cfg S (Nat.le_of_not_le hle) node depth favor h s hnp
    rw [this] at hp
    exact hnp hp

/-! ### Memory -/

/-- **C04, bounded allocation.** The only allocation whose size is read from the input is the
    scratch buffer of the reader back-end (`read_slice` of a length-delimited value that is not
    already buffered). Whatever the input says, after deserialization it is no larger than the
    configured cap (`max_alloc_size`, 512 MiB by default) or than it was before; the cap itself is
    never changed. -/
theorem C04_scratch_bounded (ext : DeExt) (cfg : DeConfig) (S : Schema) (fuel : Nat) (node : Node)
    (depth : Nat) (favor : Bool) (h : Hint) (s : RState) :
    (de ext cfg S fuel node depth favor h s).2.maxAlloc = s.maxAlloc ∧
    (de ext cfg S fuel node depth favor h s).2.scratch ≤ max s.scratch s.maxAlloc :=
  (MemLe.deAll ext cfg S fuel).de node depth favor h s

/-- A length above the cap is refused by `read_slice` on the reader back-end before anything is
    allocated (unless the bytes are already in the buffer). -/
theorem C04_alloc_cap_reject (n : Nat) (s s' : RState) (buf : Bytes) (hs : s.isSlice = false)
    (hf : fillBuf s = (.ok buf, s')) (hbuf : ¬ n ≤ buf.length) (hcap : n > s'.maxAlloc) :
    readSlice n s = (.error .custom, s') := by
  unfold readSlice
  simp only [hs, Bool.false_eq_true, if_false, hf, hbuf, hcap, if_true]

/-! ### No panic -/

/-- **C04, no panic.** For a schema whose keys are in bounds (what freezing a schema checks), a
    node that is `NodeOK` for it (every node of the schema is: `C04_no_panic_root`), *every*
    input, back-end, target and configuration: with fuel at least the bound the model never ends
    in the `panic` class — neither an `expect`/`unwrap` site nor fuel exhaustion. -/
theorem C04_no_panic (ext : DeExt) (cfg : DeConfig) (S : Schema) (hS : S.keysInBounds = true)
    (fuel : Nat) (node : Node) (hnode : NodeOK S node) (depth : Nat) (favor : Bool) (h : Hint)
    (hf : fuelBound cfg S h depth ≤ fuel) (s : RState) :
    (de ext cfg S fuel node depth favor h s).1 ≠ .error .panic :=
  NoPanic.of_keeps (fun s => (de_settled ext cfg S True (fun _ => hS) fuel node depth favor h
    hnode.toIf hf).2 s trivial) s

theorem C04_no_panic_root (ext : DeExt) (cfg : DeConfig) (S : Schema) (hS : S.keysInBounds = true)
    (fuel k : Nat) (node : Node) (hk : S[k]? = some node) (depth : Nat) (favor : Bool) (h : Hint)
    (hf : fuelBound cfg S h depth ≤ fuel) (s : RState) :
    (de ext cfg S fuel node depth favor h s).1 ≠ .error .panic :=
  C04_no_panic ext cfg S hS fuel node (nodeOK_of_get hS hk) depth favor h hf s

/-- **C04, `Ok` or `Err`.** The outcome is a value, or an error of the crate's custom class, or an
    I/O error of the underlying reader — nothing else. -/
theorem C04_ok_or_err (ext : DeExt) (cfg : DeConfig) (S : Schema) (hS : S.keysInBounds = true)
    (fuel k : Nat) (node : Node) (hk : S[k]? = some node) (depth : Nat) (favor : Bool) (h : Hint)
    (hf : fuelBound cfg S h depth ≤ fuel) (s : RState) :
    (∃ o, (de ext cfg S fuel node depth favor h s).1 = .ok o) ∨
    (de ext cfg S fuel node depth favor h s).1 = .error .custom ∨
    (de ext cfg S fuel node depth favor h s).1 = .error .io := by
  have hnp := C04_no_panic_root ext cfg S hS fuel k node hk depth favor h hf s
  cases hr : (de ext cfg S fuel node depth favor h s).1 with
  | ok o => exact Or.inl ⟨o, rfl⟩
  | error e =>
    rw [hr] at hnp
    cases e with
    | custom => exact Or.inr (Or.inl rfl)
    | io => exact Or.inr (Or.inr rfl)
    | panic => exact absurd rfl hnp

/-! ### C03: rejection classes on the slice back-end -/

theorem readLen_slice_neg (s : RState) (hs : s.isSlice = true) (v : Int) (k : Nat)
    (hd : decodeVar .i64 s.rest = some (v, k)) (hneg : v < 0) :
    readLen s = (.error .custom, { s with rest := s.rest.drop k }) := by
  unfold readLen
  simp only [DeM.bind_apply, readVarint_slice hs, hd, hneg, if_true, DeM.fail_apply]

theorem readLen_slice_ok (s : RState) (hs : s.isSlice = true) (v : Int) (k : Nat)
    (hd : decodeVar .i64 s.rest = some (v, k)) (hnn : 0 ≤ v) :
    readLen s = (.ok v.toNat, { s with rest := s.rest.drop k }) := by
  unfold readLen
  have : ¬ v < 0 := by omega
  simp only [DeM.bind_apply, readVarint_slice hs, hd, this, if_false, DeM.pure_apply]

theorem readLen_slice_none (s : RState) (hs : s.isSlice = true)
    (hd : decodeVar .i64 s.rest = none) :
    readLen s = (.error .custom, s) := by
  unfold readLen
  simp only [DeM.bind_apply, readVarint_slice hs, hd]

/-- **C03, negative length.** -/
theorem C03_negative_length (s : RState) (hs : s.isSlice = true) (v : Int) (k : Nat)
    (hd : decodeVar .i64 s.rest = some (v, k)) (hneg : v < 0) :
    (readLen s).1 = .error .custom := by
  rw [readLen_slice_neg s hs v k hd hneg]

/-- **C03, end of input** in a length-delimited read. -/
theorem C03_eof_slice (s : RState) (hs : s.isSlice = true) (n : Nat) (hn : n > s.rest.length) :
    readSlice n s = (.error .custom, s) := by
  unfold readSlice
  simp only [hs, if_true, hn]

theorem decodeVar_nil (t : VarTy) : decodeVar t [] = none := by
  cases t <;> rfl

/-- **C03, end of input** in a varint. -/
theorem C03_eof_varint (t : VarTy) (s : RState) (hs : s.isSlice = true) (hr : s.rest = []) :
    readVarint t s = (.error .custom, s) := by
  rw [readVarint_slice hs, hr, decodeVar_nil]

/-- **C03, invalid boolean.** -/
theorem C03_bad_bool (s : RState) (hs : s.isSlice = true) (b : UInt8) (tl : Bytes)
    (hr : s.rest = b :: tl) (h0 : b ≠ 0) (h1 : b ≠ 1) :
    (readBool s).1 = .error .custom := by
  unfold readBool readSlice
  simp only [DeM.bind_apply, hs, if_true, hr, List.length_cons]
  have : ¬ (1 > tl.length + 1) := by omega
  simp only [this, if_false, List.take_succ_cons, List.take_zero]
  refine congrArg Prod.fst (congrFun (?_ : _ = DeM.fail DeErr.custom) _)
  split
  · next heq => simp only [List.cons.injEq, and_true] at heq; exact absurd heq h0
  · next heq => simp only [List.cons.injEq, and_true] at heq; exact absurd heq h1
  · rfl

/-- **C03, invalid UTF-8.** -/
theorem C03_bad_utf8 (s : RState) (hs : s.isSlice = true) (v : Int) (k : Nat)
    (hd : decodeVar .i64 s.rest = some (v, k)) (hnn : 0 ≤ v)
    (hlen : v.toNat ≤ (s.rest.drop k).length)
    (hbad : bytesToStr? ((s.rest.drop k).take v.toNat) = none) :
    (readString s).1 = .error .custom := by
  unfold readString
  simp only [DeM.bind_apply, readLen_slice_ok s hs v k hd hnn]
  unfold readSlice
  have : ¬ (v.toNat > (s.rest.drop k).length) := by omega
  simp only [hs, if_true, this, if_false, hbad, DeM.fail_apply]

/-- **C03, union discriminant out of range** (negative or not a branch index). -/
theorem C03_union_index (ext : DeExt) (cfg : DeConfig) (S : Schema) (fuel : Nat) (vs : List Nat)
    (depth : Nat) (h : Hint) (s : RState) (hs : s.isSlice = true) (v : Int) (k : Nat)
    (hd : decodeVar .i64 s.rest = some (v, k)) (hbad : v < 0 ∨ vs.length ≤ v.toNat) :
    (deAny ext cfg S (fuel + 1) (.union vs) depth h s).1 = .error .custom := by
  simp only [deAny, readDiscriminant, DeM.bind_apply]
  by_cases hneg : v < 0
  · rw [readLen_slice_neg s hs v k hd hneg]
  · have hnn : 0 ≤ v := by omega
    have hlen : vs.length ≤ v.toNat := by omega
    rw [readLen_slice_ok s hs v k hd hnn]
    simp only [List.getElem?_eq_none hlen, DeM.fail_apply]

/-- **C03, enum discriminant out of range.** -/
theorem C03_enum_index (ext : DeExt) (cfg : DeConfig) (S : Schema) (fuel : Nat) (nm : Name)
    (syms : List String) (depth : Nat) (h : Hint) (s : RState) (hs : s.isSlice = true) (v : Int)
    (k : Nat) (hd : decodeVar .i64 s.rest = some (v, k)) (hbad : v < 0 ∨ syms.length ≤ v.toNat) :
    (deAny ext cfg S (fuel + 1) (.enum nm syms) depth h s).1 = .error .custom := by
  simp only [deAny, readDiscriminant, DeM.bind_apply]
  by_cases hneg : v < 0
  · rw [readLen_slice_neg s hs v k hd hneg]
  · have hnn : 0 ≤ v := by omega
    have hlen : syms.length ≤ v.toNat := by omega
    rw [readLen_slice_ok s hs v k hd hnn]
    simp only [List.getElem?_eq_none hlen, DeM.fail_apply]

end Avro.Theorems
