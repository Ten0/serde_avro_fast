import AvroModel.Lemmas.DeriveNames
import AvroModel.Lemmas.DeriveKeys
/-
C20 (names) — the derived schema has ONE DEFINITION PER FULLNAME: distinct types and distinct
generic instantiations get distinct fullnames (`C20_names_distinct`, for EVERY root type).  Model:
`Impl/Derive.lean`; the proof, by origins of the named nodes: head of `Lemmas/DeriveNames.lean`.  A
duplicate built for a logical-type attribute (`build_duplicate`) is not registered; its top node is
renamed to an origin of the enclosing type, and `dupSafe` says it owns nothing else.

`NamesWfOn P hash Ks` collects what the user of `#[derive(BuildSchema)]` is responsible for; every
field is a decidable statement about the program text, except the two about `hash`, which ask `hash`
to be injective and dot-free ON THE LIST `Ks` — here the finitely many lookup keys of generic
records that the build registers (`genericRecordKeys`, computable).  For a concrete program, hash
and root the whole hypothesis is decidable (non-vacuity examples at the end, and `NonVacuityF.lean`
for the hash the test driver really runs the model with).  The global form, `hash` injective on ALL
keys (`NamesWf`), cannot be met by a hash with finitely many values (the crate's 64-bit SipHash, the
driver's relabelling hash); it is the corollary `C20_names_distinct_global`.

What `NamesWf` excludes, and why:
* (necessary, witnesses `C20_owned_subnode_of_duplicated_record_collides`,
  `C20_generic_newtype_logical_collides`, `C20_generic_union_owned_collides` below)
  - a logical-type attribute on a field whose type is a record with logical-typed fields, or a
    union enum with owned variant nodes: the duplicate renames the top node only;
  - a *generic* newtype struct that does not forward (logical-type attribute or `[u8; N]` field)
    and a *generic* union enum with a variant that owns a node (logical-type attribute, or a type
    WRITTEN `[u8; N]` — open finding D24): their owned names carry no hash, so two instantiations
    collide.  (A variant whose written type is a bare type parameter is fine, also when the
    parameter is instantiated with `[u8; N]`: `C20_generic_union_param_shares_fixed`.)
* (conservative, kept out to keep the conditions textual)
  - a logical-type attribute on a field whose (pointer-stripped) type is a bare type parameter or
    a forwarding newtype struct (what gets duplicated then depends on the instantiation).
* conditions on names: the hash-independent names (`staticNames`) are non-empty, do not start
  with `.`, are pairwise distinct across declarations, do not start with `u8_array_`; the name of a
  generic record followed by `_` is a prefix of no declared name and not of `u8_array_`.
-/
namespace Avro.Theorems
open Avro Avro.Impl Avro.Impl.Derive
open DeriveNames

/-! ## One definition per fullname -/

/-- What the user of the derive macro is responsible for (fields from `StructWf`, `TextWfOn`), with
    the conditions on `hash` asked on the list `Ks` of lookup keys only.  Every field is decidable
    for a concrete program, hash and list. -/
structure NamesWfOn (P : Prog) (hash : Key → String) (Ks : List Key) : Prop
    extends StructWf P, TextWfOn P hash Ks

/-- The global form: `hash_inj`, `hash_nodot` about ALL keys.  Not satisfiable by a hash with
    finitely many values (`NonVacuityF.lean`, `NVF20.namesWf_unmeetable_by_finite_hash`); satisfied
    by `hashDemo`. -/
structure NamesWf (P : Prog) (hash : Key → String) : Prop extends StructWf P, TextWf P hash

theorem NamesWf.on {P : Prog} {hash : Key → String} (h : NamesWf P hash) (Ks : List Key) :
    NamesWfOn P hash Ks :=
  { toStructWf := h.toStructWf, toTextWfOn := h.toTextWf.on Ks }

/-- **C20 (names).**  The schema derived for any root type of a well-formed program defines every
    fullname once.  The hypothesis is about the program text and about `hash` on the finitely
    many generic-record keys this build registers (`genericRecordKeys P hash fuel root`, a
    computable list): decidable for a concrete program, hash, fuel and root. -/
theorem C20_names_distinct (P : Prog) (hash : Key → String) (fuel : Nat) (root : Ty) (S : SchemaMut)
    (h : schemaMut P hash fuel root = some S)
    (hW : NamesWfOn P hash (genericRecordKeys P hash fuel root)) : (definedNames S).Nodup :=
  definedNames_nodup_on hW.toStructWf
    (nameInjOn_of_textWfOn hW.toTextWfOn (fun _ hk hg => List.mem_filter.2 ⟨hk, hg⟩)) h

/-- The same with the conditions on the declared names replaced by their consequence: the
    assignment of names to origins (`Named`) is injective on the origins whose owner is a lookup
    key the build registers (`builtKeys P hash fuel root`, a computable list). -/
theorem C20_names_distinct_of_nameInj (P : Prog) (hash : Key → String) (fuel : Nat) (root : Ty)
    (S : SchemaMut) (h : schemaMut P hash fuel root = some S) (hW : StructWf P)
    (hI : NameInjOn P hash (fun k => k ∈ builtKeys P hash fuel root)) : (definedNames S).Nodup :=
  definedNames_nodup_on hW hI h

/-- Corollary, the global form: `hash` injective and dot-free on all keys (met by
    `hashDemo`, not by a hash with finitely many values). -/
theorem C20_names_distinct_global (P : Prog) (hash : Key → String) (fuel : Nat) (root : Ty)
    (S : SchemaMut) (h : schemaMut P hash fuel root = some S) (hW : NamesWf P hash) :
    (definedNames S).Nodup :=
  C20_names_distinct P hash fuel root S h (hW.on _)

/-- Corollary, the global form: the name assignment injective on all origins. -/
theorem C20_names_distinct_of_nameInj_global (P : Prog) (hash : Key → String) (fuel : Nat) (root : Ty)
    (S : SchemaMut) (h : schemaMut P hash fuel root = some S) (hW : StructWf P)
    (hI : NameInj P hash) : (definedNames S).Nodup :=
  definedNames_nodup hW hI h

/-- Bounded form of the quantifier over declarations (makes the fields of `NamesWf` decidable). -/
theorem prog_forall_iff {P : Prog} {Q : Nat → Decl → Prop} :
    (∀ (id : Nat) (d : Decl), P[id]? = some d → Q id d) ↔ ∀ i : Fin P.size, Q i P[i] := by
  constructor
  · intro h i
    exact h i P[i] (Array.getElem?_eq_getElem i.isLt)
  · intro h id d hd
    obtain ⟨hlt, rfl⟩ := Array.getElem?_eq_some_iff.1 hd
    exact h ⟨id, hlt⟩

/-! ## Generic instantiations -/

/-- Two instantiations of a generic record with different lookup keys get different record names. -/
theorem C20_generic_instantiations_distinct (d : Decl) (hash : Key → String)
    (hinj : ∀ k k', hash k = hash k' → k = k') (k1 k2 : Key) (hne : k1 ≠ k2) :
    typeName d ++ "_" ++ hash k1 ≠ typeName d ++ "_" ++ hash k2 := by
  intro h
  rw [String.append_assoc, String.append_assoc] at h
  exact hne (hinj _ _ ((String.append_right_inj _).mp ((String.append_right_inj _).mp h)))

/-- On closed built-in types the lookup key is injective exactly up to the crate's forwarding
    (`canon`: pointers transparent, `i8/i16/u16 ↦ i32`, `u32/u64/usize ↦ i64`, `&str ↦ String`,
    `&[u8] ↦ Vec<u8>`, `BTreeMap ↦ HashMap`). -/
theorem C20_lookupKey_builtin_inj (P : Prog) (n n' : Nat) (t t' : Ty) (k : Key) (c c' : CTy)
    (hc : canon t = some c) (hc' : canon t' = some c') (h : lookupKey P n t = some k)
    (h' : lookupKey P n' t' = some k) : c = c' :=
  ckey_inj ((lookupKey_canon P n t k c h hc).symm.trans (lookupKey_canon P n' t' k c' h' hc'))

theorem C20_lookupKey_builtin_complete (P : Prog) (t t' : Ty) (c : CTy) (hc : canon t = some c)
    (hc' : canon t' = some c) : ∃ n k, lookupKey P n t = some k ∧ lookupKey P n t' = some k := by
  obtain ⟨n, hn⟩ := lookupKey_canon_some P t c hc
  obtain ⟨n', hn'⟩ := lookupKey_canon_some P t' c hc'
  exact ⟨max n n', ckey c, lookupKey_mono P (Nat.le_max_left ..) hn, lookupKey_mono P (Nat.le_max_right ..) hn'⟩

/-- Lookup keys form a prefix code; so two instantiations of a generic record that share a lookup
    key agree on the lookup type of every field. -/
theorem C20_generic_key_determines_fields (P : Prog) (id : Nat) (d : Decl) (fs : List Field)
    (args1 args2 : List Ty) (n1 n2 : Nat) (k : Key) (hP : P[id]? = some d) (hb : d.body = .record fs)
    (hn : d.nparams ≠ 0) (h1 : lookupKey P n1 (.named id args1) = some k)
    (h2 : lookupKey P n2 (.named id args2) = some k) :
    ∀ f ∈ fs, SameKey P (subst args1 (chosenTy f)) (subst args2 (chosenTy f)) :=
  generic_record_key_fields P hP hb hn h1 h2

/-- … in particular: if a field's type is the `j`-th parameter and the two argument lists put
    built-in types with different canonical forms there, the lookup keys (hence, with an injective
    `hash`, the record names) differ. -/
theorem C20_generic_keys_differ (P : Prog) (id : Nat) (d : Decl) (fs : List Field) (f : Field) (j : Nat)
    (args1 args2 : List Ty) (a1 a2 : Ty) (c1 c2 : CTy) (n1 n2 : Nat) (k1 k2 : Key)
    (hP : P[id]? = some d) (hb : d.body = .record fs) (hn : d.nparams ≠ 0) (hf : f ∈ fs)
    (hty : chosenTy f = .param j) (ha1 : args1[j]? = some a1) (ha2 : args2[j]? = some a2)
    (hc1 : canon a1 = some c1) (hc2 : canon a2 = some c2) (hne : c1 ≠ c2)
    (h1 : lookupKey P n1 (.named id args1) = some k1) (h2 : lookupKey P n2 (.named id args2) = some k2) :
    k1 ≠ k2 := by
  rintro rfl
  obtain ⟨m, m', k, hk, hk'⟩ := generic_record_key_fields P hP hb hn h1 h2 f hf
  simp only [hty, subst, ha1, ha2, Option.getD_some] at hk hk'
  exact hne (C20_lookupKey_builtin_inj P m m' a1 a2 k c1 c2 hc1 hc2 hk hk')

/-- Concretely: `i32`, `String`, `f64`, `bool`, `Vec<i64>` have pairwise distinct lookup keys. -/
theorem C20_lookupKey_samples_distinct (P : Prog) :
    ([Ty.i32, .string, .f64, .bool, .vec .i64].map (lookupKey P 2)).Nodup := by
  simp only [List.map, lookupKey, Option.map_some]; decide

/-! ## Negation witnesses -/

/-! ### Defect D22: owned names of a record with a namespace attribute ignored the hash -/

/-- `new_name_for_owned_subnode` before the repair of D22: for a struct field of a record with a
    namespace attribute it was `pre ++ nameIdent ++ "." ++ f`, not `recordTypeName ++ "." ++ f`. -/
def ownedNameOld (d : Decl) (kind : FieldKind) (recordTypeName : String) : String :=
  let nameIdent := d.nameOverride.getD d.ident
  match d.ns with
  | none => ownedName d kind recordTypeName
  | some ns =>
    let pre := if ns = "" then "" else ns ++ "."
    match kind with
    | .structField f => pre ++ nameIdent ++ "." ++ f
    | _ => ownedName d kind recordTypeName

/-- `#[avro_schema(namespace = "ns")] struct T0<T> { f0: T, #[logical_type = "crc32"] f1: [u8; 4] }` -/
def declT0 : Decl :=
  { ident := "T0", modulePath := "m", nparams := 1, ns := some "ns",
    body := .record [{ name := "f0", ty := .param 0 },
                     { name := "f1", ty := .byteArray 4, attr := { logical := some "crc32" } }] }

/-- `struct Outer { a: T0<i32>, b: T0<String> }` -/
def progD22 : Prog := #[declT0,
  { ident := "Outer", modulePath := "m",
    body := .record [{ name := "a", ty := .named 0 [.i32] }, { name := "b", ty := .named 0 [.string] }] }]

/-- Old naming: the fixed owned by `f1` got the same name in every instantiation of `T0`
    (whatever the runtime names `tn1`, `tn2` of the two records): a duplicate definition. -/
theorem C20_D22_old_owned_name_collides (tn1 tn2 : String) :
    ownedNameOld declT0 (.structField "f1") tn1 = "ns.T0.f1" ∧
    ownedNameOld declT0 (.structField "f1") tn2 = "ns.T0.f1" :=
  ⟨rfl, rfl⟩

/-- Current naming: different record names give different owned names (any declaration). -/
theorem C20_D22_owned_name_follows_record (d : Decl) (f tn1 tn2 : String) (h : tn1 ≠ tn2) :
    ownedName d (.structField f) tn1 ≠ ownedName d (.structField f) tn2 := by
  rw [ownedName_struct, ownedName_struct]
  intro he
  apply h
  have := congrArg String.toList he
  simp only [String.toList_append] at this
  exact String.toList_inj.1 (List.append_cancel_right (List.append_cancel_right this))

/-- The two instantiations in `progD22` do get different record names and the schema built by the
    current model has four distinct definitions. -/
theorem C20_D22_repaired_schema :
    (schemaMut progD22 hashDemo 20 (.named 1 [])).map definedNames =
      some ["m.Outer", "ns.T0_nyxxyclxxxxy", "ns.T0_nyxxyclxxxxy.f1",
            "ns.T0_nyxxyglxxxxy", "ns.T0_nyxxyglxxxxy.f1"] := by
  decide +kernel

/-! ### Defect D23: the root type was appended without being registered -/

/-- `struct T1 { f2: Option<Box<T1>> }` -/
def progD23 : Prog :=
  #[{ ident := "T1", modulePath := "m", body := .record [{ name := "f2", ty := .option (.ptr (.named 0 [])) }] }]

/-- Old entry point: the recursive reference builds `T1` a second time — two record nodes `m.T1`. -/
theorem C20_D23_old_root_duplicated (hash : Key → String) :
    (schemaMutOld progD23 hash 20 (.named 0 [])).map definedNames = some ["m.T1", "m.T1"] := by
  rw [schemaMutOld_hash_irrelevant (by rw [prog_forall_iff]; decide) hash hashDemo]
  decide +kernel

/-- Current entry point: exactly one. -/
theorem C20_D23_root_registered (hash : Key → String) :
    (schemaMut progD23 hash 20 (.named 0 [])).map definedNames = some ["m.T1"] := by
  rw [schemaMut_hash_irrelevant (by rw [prog_forall_iff]; decide) hash hashDemo]
  decide +kernel

/-! ### The limit of the property: owned sub-node of a duplicated record (finding D26) -/

/-- `struct Rec { #[logical_type = "crc32"] f: [u8; 4] }`,
    `struct Outer { a: Rec, #[logical_type = "custom"] b: Rec }` -/
def progDupOwned : Prog := #[
  { ident := "Rec", modulePath := "m",
    body := .record [{ name := "f", ty := .byteArray 4, attr := { logical := some "crc32" } }] },
  { ident := "Outer", modulePath := "m",
    body := .record [{ name := "a", ty := .named 0 [] },
                     { name := "b", ty := .named 0 [], attr := { logical := some "custom" } }] }]

/-- **Finding D26.**  The duplicate of `Rec` built for `b` renames the record node only
    (`m.Outer.b`); the fixed it owns keeps the name `m.Rec.f` — defined twice. -/
theorem C20_owned_subnode_of_duplicated_record_collides (hash : Key → String) :
    (schemaMut progDupOwned hash 10 (.named 1 [])).map definedNames =
      some ["m.Outer", "m.Rec", "m.Rec.f", "m.Outer.b", "m.Rec.f"] := by
  rw [schemaMut_hash_irrelevant (by rw [prog_forall_iff]; decide) hash hashDemo]
  decide +kernel

theorem C20_owned_subnode_not_nodup (hash : Key → String) (S : SchemaMut)
    (h : schemaMut progDupOwned hash 10 (.named 1 []) = some S) : ¬ (definedNames S).Nodup := by
  have := C20_owned_subnode_of_duplicated_record_collides hash
  rw [h] at this
  simp only [Option.map_some, Option.some.injEq] at this
  rw [this]; decide

/-- … and this program is exactly what `logical_dupSafe` excludes. -/
theorem C20_owned_subnode_program_not_wf : ¬ StructWf progDupOwned := by
  intro h
  have := h.logical_dupSafe 1 _ rfl
    { name := "b", ty := .named 0 [], attr := { logical := some "custom" } }
    (List.mem_cons_of_mem _ (List.mem_cons_self ..)) rfl
  revert this; decide +kernel

/-! ### Two more programs outside `NamesWf` that do produce duplicates (findings) -/

/-- `struct N<T>(#[logical_type = "custom"] T)`, `struct Outer { a: N<[u8; 4]>, b: N<[u8; 5]> }` -/
def progGenericNewtype : Prog := #[
  { ident := "N", modulePath := "m", nparams := 1,
    body := .newtype { name := "0", ty := .param 0, attr := { logical := some "custom" } } },
  { ident := "Outer", modulePath := "m",
    body := .record [{ name := "a", ty := .named 0 [.byteArray 4] }, { name := "b", ty := .named 0 [.byteArray 5] }] }]

/-- **Finding.**  The node of a generic newtype struct with a logical-type attribute is renamed to
    the struct's name without a hash: two instantiations define `m.N` twice (here as fixed of
    size 4 and of size 5). -/
theorem C20_generic_newtype_logical_collides (hash : Key → String) :
    (schemaMut progGenericNewtype hash 20 (.named 1 [])).map definedNames =
      some ["m.Outer", "m.N", "m.N"] := by
  rw [schemaMut_hash_irrelevant (by rw [prog_forall_iff]; decide) hash hashDemo]
  decide +kernel

/-- `enum E<T> { A([u8; 4]), B(Vec<T>) }`, `struct Outer { a: E<i32>, b: E<String> }` -/
def progD24 : Prog := #[
  { ident := "E", modulePath := "m", nparams := 1,
    body := .union [⟨"A", "A", some { name := "0", ty := .byteArray 4 }⟩,
                    ⟨"B", "B", some { name := "0", ty := .vec (.param 0) }⟩] },
  { ident := "Outer", modulePath := "m",
    body := .record [{ name := "a", ty := .named 0 [.i32] }, { name := "b", ty := .named 0 [.string] }] }]

/-- **Finding D24.**  The fixed owned by a variant written `[u8; N]` of a *generic* union enum is
    named `<enum>.<variant>` without a hash: two instantiations define `m.E.A` twice.  (Stated for
    the injective `hashDemo`; no name here involves the hash.) -/
theorem C20_generic_union_owned_collides :
    (schemaMut progD24 hashDemo 20 (.named 1 [])).map definedNames =
      some ["m.Outer", "m.E.A", "m.E.A"] := by
  decide +kernel

/-- … which is what `generic_union_safe` excludes. -/
theorem C20_D24_program_not_wf : ¬ StructWf progD24 := by
  intro h
  have := h.generic_union_safe 0 _ rfl (by decide)
    ⟨"A", "A", some { name := "0", ty := .byteArray 4 }⟩ (List.mem_cons_self ..)
    { name := "0", ty := .byteArray 4 } rfl
  revert this; decide +kernel

/-- `enum E<T, U> { A(T), B(U) }`, `struct Outer { a: E<[u8; 4], i32>, b: E<[u8; 4], String> }` -/
def progGenericUnion : Prog := #[
  { ident := "E", modulePath := "m", nparams := 2,
    body := .union [⟨"A", "A", some { name := "0", ty := .param 0 }⟩, ⟨"B", "B", some { name := "0", ty := .param 1 }⟩] },
  { ident := "Outer", modulePath := "m",
    body := .record [{ name := "a", ty := .named 0 [.byteArray 4, .i32] },
                     { name := "b", ty := .named 0 [.byteArray 4, .string] }] }]

/-- A variant whose type is WRITTEN as a type parameter goes through `find_or_build` even when the
    parameter is instantiated with `[u8; 4]` (the macro looks at the type as written): the two
    instantiations share the one `u8_array_4`; no duplicate. -/
theorem C20_generic_union_param_shares_fixed (hash : Key → String) :
    (schemaMut progGenericUnion hash 20 (.named 1 [])).map definedNames =
      some ["m.Outer", "u8_array_4"] := by
  rw [schemaMut_hash_irrelevant (by rw [prog_forall_iff]; decide) hash hashDemo]
  decide +kernel

/-! ## Non-vacuity -/

/-- A generic record (with a namespace attribute and an owned fixed) instantiated twice, a
    recursive record, a union enum with an owned fixed variant and a unit variant, and a generic
    union enum `Either<L, R> { Left(L), Right(R) }` instantiated twice (once with `[u8; 4]`). -/
def progDemo : Prog := #[
  declT0,
  { ident := "T1", modulePath := "m", body := .record [{ name := "f2", ty := .option (.ptr (.named 1 [])) }] },
  { ident := "E", modulePath := "m",
    body := .union [⟨"A", "A", some { name := "0", ty := .i32 }⟩,
                    ⟨"B", "B", some { name := "0", ty := .byteArray 8 }⟩, ⟨"C", "C", none⟩] },
  { ident := "Outer", modulePath := "m",
    body := .record [{ name := "a", ty := .named 0 [.i32] }, { name := "b", ty := .named 0 [.string] },
                     { name := "c", ty := .named 1 [] }, { name := "e", ty := .named 2 [] },
                     { name := "l", ty := .named 4 [.byteArray 4, .i32] },
                     { name := "r", ty := .named 4 [.byteArray 4, .named 1 []] }] },
  { ident := "Either", modulePath := "m", nparams := 2,
    body := .union [⟨"Left", "Left", some { name := "0", ty := .param 0 }⟩,
                    ⟨"Right", "Right", some { name := "0", ty := .param 1 }⟩] }]

theorem progDemo_wf : NamesWf progDemo hashDemo where
  newtype_nongeneric := by rw [prog_forall_iff]; decide +kernel
  generic_union_safe := by rw [prog_forall_iff]; decide +kernel
  logical_dupSafe := by rw [prog_forall_iff]; decide +kernel
  field_names_nodup := by rw [prog_forall_iff]; decide +kernel
  variant_idents_nodup := by rw [prog_forall_iff]; decide +kernel
  start_ok := by rw [prog_forall_iff]; decide +kernel
  distinct := by simp only [prog_forall_iff]; decide +kernel
  no_u8_array := by rw [prog_forall_iff]; decide +kernel
  generic_prefix_free := by simp only [prog_forall_iff]; decide +kernel
  hash_inj := hashDemo_inj
  hash_nodot := hashDemo_nodot

/-- One run of the builder on `progDemo` with `hashDemo`: the names it defines and the
    generic-record keys it registers. -/
theorem progDemo_build :
    (schemaMut progDemo hashDemo 30 (.named 3 [])).map definedNames =
      some ["m.Outer", "ns.T0_nyxxyclxxxxy", "ns.T0_nyxxyclxxxxy.f1", "ns.T0_nyxxyglxxxxy",
            "ns.T0_nyxxyglxxxxy.f1", "m.T1", "m.E.B", "u8_array_4"] ∧
    genericRecordKeys progDemo hashDemo 30 (.named 3 []) =
      [[.generic 0 2, .string, .byteArray 4], [.generic 0 2, .int, .byteArray 4]] := by
  decide +kernel

example : NamesWf progDemo hashDemo ∧
    (schemaMut progDemo hashDemo 30 (.named 3 [])).map definedNames =
      some ["m.Outer", "ns.T0_nyxxyclxxxxy", "ns.T0_nyxxyclxxxxy.f1", "ns.T0_nyxxyglxxxxy",
            "ns.T0_nyxxyglxxxxy.f1", "m.T1", "m.E.B", "u8_array_4"] :=
  ⟨progDemo_wf, progDemo_build.1⟩

example : ∃ S, schemaMut progDemo hashDemo 30 (.named 3 []) = some S ∧ (definedNames S).Nodup := by
  cases h : schemaMut progDemo hashDemo 30 (.named 3 []) with
  | none => have := progDemo_build.1; rw [h] at this; cases this
  | some S => exact ⟨S, rfl, C20_names_distinct _ _ _ _ S h (progDemo_wf.on _)⟩

/-- The generic-record keys that build registers: the two instantiations of `T0`. -/
example : genericRecordKeys progDemo hashDemo 30 (.named 3 []) =
    [[.generic 0 2, .string, .byteArray 4], [.generic 0 2, .int, .byteArray 4]] := progDemo_build.2

/-- … and the hypothesis of `C20_names_distinct` itself, by evaluation: a hash that is constant
    outside those two keys (nowhere near injective) satisfies it. -/
def hashTwo (k : Key) : String :=
  if k = [.generic 0 2, .int, .byteArray 4] then "i" else
  if k = [.generic 0 2, .string, .byteArray 4] then "s" else "other"

/-- One run of the builder on `progDemo` with `hashTwo`: it succeeds, and `hashTwo` is injective
    and dot-free on the generic-record keys it registers. -/
theorem progDemo_build_hashTwo :
    schemaMut progDemo hashTwo 30 (.named 3 []) ≠ none ∧
    (∀ k ∈ genericRecordKeys progDemo hashTwo 30 (.named 3 []),
      ∀ k' ∈ genericRecordKeys progDemo hashTwo 30 (.named 3 []), hashTwo k = hashTwo k' → k = k') ∧
    ∀ k ∈ genericRecordKeys progDemo hashTwo 30 (.named 3 []), '.' ∉ (hashTwo k).toList := by
  decide +kernel

theorem progDemo_wfOn_hashTwo :
    NamesWfOn progDemo hashTwo (genericRecordKeys progDemo hashTwo 30 (.named 3 [])) where
  toStructWf := progDemo_wf.toStructWf
  toTextWfOn := (progDemo_wf.toTextWf.on []).of_hash progDemo_build_hashTwo.2.1 progDemo_build_hashTwo.2.2

example : ∃ S, schemaMut progDemo hashTwo 30 (.named 3 []) = some S ∧ (definedNames S).Nodup := by
  cases h : schemaMut progDemo hashTwo 30 (.named 3 []) with
  | none => exact absurd h progDemo_build_hashTwo.1
  | some S => exact ⟨S, rfl, C20_names_distinct _ _ _ _ S h progDemo_wfOn_hashTwo⟩

end Avro.Theorems
