import Driver.Parse
import AvroModel.Theorems.ExampleDataA
import AvroModel.Theorems.C02
import AvroModel.Theorems.C03layouts
import AvroModel.Lemmas.DriverFuel
import AvroModel.Lemmas.ValueEq
/-
Non-vacuity audit, area A: properties C01 (datum round trip), C02 (serializer soundness),
C03 (decoder conformance).

Every instance uses the external parameters the driver really runs with (`ExtTable.toExt`) and, on
the deserializer side, the driver's fuel (`Avro.Impl.deFuel`).
-/
namespace Avro.NonVacuityA
open Avro Avro.Impl Avro.Spec Avro.Theorems Driver

/-! ## `ExtOK` and the driver's parameter table -/

def keyBound : List ((Int × Nat × Nat) × (Int × Nat)) → Nat
  | [] => 0
  | p :: r => max p.1.1.natAbs (keyBound r)

theorem lookup_big_none (l : List ((Int × Nat × Nat) × (Int × Nat))) (m : Int)
    (hm : (keyBound l : Int) < m) (s target : Nat) : l.lookup (m, s, target) = none := by
  induction l with
  | nil => rfl
  | cons p r ih =>
    have h1 : (p.1.1.natAbs : Int) < m := by
      have : p.1.1.natAbs ≤ keyBound (p :: r) := Nat.le_max_left _ _
      omega
    have h2 : (keyBound r : Int) < m := by
      have : keyBound r ≤ keyBound (p :: r) := Nat.le_max_right _ _
      omega
    obtain ⟨⟨a, b, c⟩, v⟩ := p
    have hne : ((m, s, target) == (a, b, c)) = false := by
      simp only [beq_eq_false_iff_ne, ne_eq, Prod.mk.injEq, not_and]
      intro h; subst h; simp only at h1; omega
    simp only [List.lookup, hne]
    exact ih h2

/-- Why `ExtOK.rescale` is conditional.  The unconditional clause
    `∀ d scale, inI128 (ext.decRescale d scale).1` ranges over all pairs `d : Int × Nat`, also those
    whose mantissa does not fit `i128`; `toExt` answers `d` itself outside its finite table, so that
    clause is FALSE for the `Ext` the driver passes to `ser`, for EVERY table `t`. -/
theorem toExt_not_ExtOK_unconditional (t : ExtTable) :
    ¬ ∀ d scale, inI128 (t.toExt.decRescale d scale).1 = true := by
  intro h
  have h1 := h ((2:Int)^127 + keyBound t.rescale + 1, 0) 0
  have h2 := lookup_big_none t.rescale ((2:Int)^127 + keyBound t.rescale + 1) (by omega) 0 0
  simp only [ExtTable.toExt, h2, inI128, decide_eq_true_eq] at h1
  omega

/-- the check is not void: a table answering a 2^127 mantissa is refused by the driver's parser
    (`pExtEntries`), and its `Ext` does not satisfy `ExtOK` -/
example : ({ dparse := [("x", some ((2:Int)^127, 0))] } : ExtTable).ok = false := by decide
example : ¬ ExtOK ({ dparse := [("x", some ((2:Int)^127, 0))] } : ExtTable).toExt := by
  intro h
  have := (h.parse "x" ((2:Int)^127, 0) (by simp [ExtTable.toExt])).1
  simp [inI128] at this

/-! ## `Good` and the driver's initial states -/

/-- `runSer` starts from `{ budget := budget }`; with a bounded sink `Good` fails, so the C01/C02
    composite theorems are silent about those runs (they are about the `Vec` writer only). -/
example (n : Nat) : ¬ Good { budget := some n } := fun h => by cases h.1

theorem poolClean_empty : PoolClean ({} : Pool) := PoolClean.empty

/-! ## Serializer side, on a frozen schema -/

theorem SB_root : SB[0]? = some nodeB := by decide +kernel

/-- `C02_sound_strong` -/
example : ∃ s' v bytes, ser tB.toExt false SB nodeB svB {} = (.ok (), s') ∧
    s'.out = ({} : SerState).out ++ bytes ∧ Good s' ∧
    (∃ N, ∀ fuel, N ≤ fuel → ∀ rest, Spec.decode SB fuel nodeB (bytes ++ rest) = some (v, rest)) ∧
    Spec.denotes (denExtOf tB.toExt) SB nodeB svB v = true :=
  C02_sound_strong tB.toExt false SB nodeB svB {} svB_ok C01glue.good_empty SB_ok nodeB_ok
    SB_checks.2.2.2.2.2 tB_ok

/-- `C02_sound_partial` (the decidable checks hold for the `freezeNodes` output) -/
example : ∃ v bytes,
    (ser tB.toExt false SB nodeB svB { out := [], budget := none, pool := {} }).2.out
      = [] ++ bytes ∧
    (∃ N, ∀ fuel, N ≤ fuel → Spec.decode SB fuel nodeB bytes = some (v, [])) ∧
    Spec.denotes (denExtOf tB.toExt) SB nodeB svB v = true ∧
    PoolClean (ser tB.toExt false SB nodeB svB
      { out := [], budget := none, pool := {} }).2.pool :=
  C02_sound_partial tB.toExt false SB nodeB svB [] {} svB_ok poolClean_empty
    SB_checks.1 SB_checks.2.1 SB_checks.2.2.1 SB_checks.2.2.2.1 SB_checks.2.2.2.2.1
    SB_checks.2.2.2.2.2 tB_ok

/-- `C01_ser_canonical_checks`, no permission asked -/
example : ∃ v bytes,
    (ser tB.toExt false SB nodeB svB { out := [], budget := none, pool := {} }).2.out
      = [] ++ bytes ∧
    Spec.encode SB nodeB v = some bytes ∧
    Spec.denotes (denExtOf tB.toExt) SB nodeB svB v = true ∧
    PoolClean (ser tB.toExt false SB nodeB svB
      { out := [], budget := none, pool := {} }).2.pool :=
  C01_ser_canonical_checks {} tB.toExt false SB nodeB svB [] {} svB_ok poolClean_empty
    SB_checks.1 SB_checks.2.1 SB_checks.2.2.1 SB_checks.2.2.2.1 SB_checks.2.2.2.2.1
    SB_checks.2.2.2.2.2 tB_ok (by decide +kernel) (by decide +kernel) (by decide +kernel)

/-- the driver's fuel for one datum: `Avro.Impl.deFuel` (`Lemmas/DriverFuel.lean`, what `deOne` of
    Driver/Main.lean passes), at the hint `.any` used throughout this file -/
abbrev driverFuel (cfg : DeConfig) (S : Schema) (depth len : Nat) : Nat :=
  deFuel cfg S .any depth len

/-- `C01_roundtrip_impl`, fully concrete, with the default deserializer configuration and the
    driver's fuel: `ser` then `de` gives `observe vB` and leaves `rest`. -/
example (rest : Bytes) :
    ∃ s', ser tB.toExt false SB nodeB svB {} = (.ok (), s') ∧ s'.out = bytesB ∧
      Spec.denotes (denExtOf tB.toExt) SB nodeB svB vB = true ∧
      de deExtModel {} SB (driverFuel {} SB 64 (bytesB ++ rest).length)
        nodeB 64 false .any { rest := s'.out ++ rest } = (.ok oB, { rest := rest }) := by
  obtain ⟨s', bytes, v, hrun, hout, henc, hden, hde⟩ :=
    C01_roundtrip_impl {} tB.toExt false SB nodeB svB {} svB_ok C01glue.good_empty SB_ok
      nodeB_ok SB_checks.2.2.2.2.2 tB_ok (by decide +kernel) SB_allows (by decide +kernel)
      SB_fixedDecFits (by decide +kernel)
  have hout' : s'.out = bytesB := by simpa [hrun] using svB_out
  obtain rfl : bytes = bytesB := by simpa [hout'] using hout.symm
  obtain rfl : v = vB := encode_injective henc vB_encode
  refine ⟨s', hrun, hout', hden, ?_⟩
  rw [hout']
  exact hde {} 64 oB vB_observe (by decide +kernel) (by decide +kernel) _
    (by have : Spec.size vB = 18 := by decide +kernel
        rw [this]; exact Nat.le_trans (by omega) (Nat.le_max_left _ _)) rest _ rfl rfl rfl rfl

/-! ### A conforming presentation that no permission set of `C01_ser_canonical` covers

`svCanon` is syntactic: a negative integer ANYWHERE in the presentation needs `f.negInt`, and
`f.negInt` forbids a `decimal` on `bytes` ANYWHERE in the schema.  So `R { a: vec![1, -3], d: "1.5", … }`
on `SB` is outside `C01_ser_canonical` / `C01_roundtrip_impl` whatever `f`, although the bytes
written ARE the canonical encoding. -/

def svB' : SV :=
  .struct "R" [("u", .some (.str "x")), ("d", .str "1.5"), ("e", .unitVariant "E" 1 "B"),
    ("f", .int .i32 7), ("a", .seq (some 2) [.int .i64 1, .int .i64 (-3)])]
def vB' : Value :=
  .record [.array [.long 1, .long (-3)], .union 1 (.string "x"), .decimal 150, .enum 1, .decimal 70]

theorem svB'_uncovered (f : Canon.Allow) :
    ¬ (Canon.svCanon f svB' = true ∧ Canon.schemaAllows f SB = true) := by
  obtain ⟨a, b, c⟩ := f
  cases a <;> cases b <;> cases c <;> decide +kernel

/-- … and yet the serializer succeeds and writes exactly `Spec.encode` of the denoted value. -/
example : (ser tB.toExt false SB nodeB svB' {}).2.out = [4, 2, 5, 0, 2, 2, 120, 4, 0, 150, 2, 0, 0, 0, 70] ∧
    Spec.encode SB nodeB vB' = some [4, 2, 5, 0, 2, 2, 120, 4, 0, 150, 2, 0, 0, 0, 70] ∧
    Spec.denotes (denExtOf tB.toExt) SB nodeB svB' vB' = true := by
  decide +kernel

/-! ### per-arm theorems -/

/-- `C02_decimal_int_bytes` on `-7` at scale 2 -/
example : ∃ m : Bytes, (serIntegerAsDecimal 2 .bytes (-7) {}).2.out = ({} : SerState).out ++ Spec.lenPrefixed m ∧
    Spec.fromTwosComplementBE m = (-7) * (10 : Int) ^ 2 ∧
    ∀ S prec rest, Spec.decode S 1 (.decimal 2 prec .bytes) (Spec.lenPrefixed m ++ rest) =
      some (.decimal ((-7) * (10 : Int) ^ 2), rest) :=
  C02_decimal_int_bytes 2 (-7) {} rfl (eq_ok_of_isOk (by decide +kernel))

/-- `C02_decimal_int_fixed` on `-7` at scale 1 on a 4-byte fixed -/
example : 4 ≤ 16 ∧ ∃ m : Bytes, m.length = 4 ∧
    (serIntegerAsDecimal 1 (.fixed nmF 4) (-7) {}).2.out = ({} : SerState).out ++ m ∧
    Spec.fromTwosComplementBE m = (-7) * (10 : Int) ^ 1 ∧
    ∀ S prec rest, Spec.decode S 1 (.decimal 1 prec (.fixed nmF 4)) (m ++ rest) =
      some (.decimal ((-7) * (10 : Int) ^ 1), rest) :=
  C02_decimal_int_fixed 1 nmF 4 (-7) {} rfl (eq_ok_of_isOk (by decide +kernel))

/-- `C02_union_discriminant`: a `str` on `union [null, string]` of `SB`; the second disjunct is
    the one that holds (`d = 1`) -/
example :
    (unnamedLookup .str (branchNodes SB [4, 5]) = none ∧
      viaUnion SB (.union [4, 5]) .str (fun n => serStrAt tB.toExt n "x") {} = (.error .custom, {})) ∨
    (∃ d k, unnamedLookup .str (branchNodes SB [4, 5]) = some d ∧ d < [4, 5].length ∧
      [4, 5][d]? = some k ∧
      ((SB[k]? = none ∧ viaUnion SB (.union [4, 5]) .str (fun n => serStrAt tB.toExt n "x") {} =
          (.error .panic, { ({} : SerState) with out := ({} : SerState).out ++ encodeVarI64 d })) ∨
       (∃ n, SB[k]? = some n ∧ viaUnion SB (.union [4, 5]) .str (fun n => serStrAt tB.toExt n "x") {} =
          (fun n => serStrAt tB.toExt n "x") n
            { ({} : SerState) with out := ({} : SerState).out ++ encodeVarI64 d }))) :=
  C02_union_discriminant SB [4, 5] .str (fun n => serStrAt tB.toExt n "x") {} rfl

example : unnamedLookup .str (branchNodes SB [4, 5]) = some 1 := by decide +kernel

/-! ### `C02_unrepresentable_err`: a symbol the enum does not have, under `Some`, on a union -/

def SE : Schema := #[.union [1, 2], .null, .enum nmE ["A", "B"]]
def nodeE : Node := .union [1, 2]

theorem svE_denotes_nothing (ext : DenExt) (v : Value) :
    Spec.denotes ext SE nodeE (.some (.str "C")) v = false := by
  have hnull : ∀ y, denotesLeaf ext .null (.str "C") y = false := fun y => by cases y <;> rfl
  have henum : ∀ y, denotesLeaf ext (.enum nmE ["A", "B"]) (.str "C") y = false := by
    intro y
    cases y <;> try rfl
    rename_i i
    match i with
    | 0 | 1 | n + 2 => simp [denotesLeaf, textOf]
  rw [denotes_some, denotes_str]
  cases v <;> try rfl
  rename_i idx y
  match idx with
  | 0 => exact hnull y
  | 1 => exact henum y
  | n + 2 => rfl

example : (ser ({} : ExtTable).toExt false SE nodeE (.some (.str "C"))
    { out := [], budget := none, pool := {} }).1 ≠ .ok () :=
  C02_unrepresentable_err ({} : ExtTable).toExt false SE nodeE (.some (.str "C")) [] {} poolClean_empty
    (by decide +kernel) (by decide +kernel) (by decide +kernel) (by decide +kernel)
    (by decide +kernel) (by decide +kernel) empty_ok (svE_denotes_nothing _)

/-! ### `C01_roundtrip_impl_bounded`: its `hlim` quantifies over EVERY value the presentation
denotes; here it is proved for `Some(vec![1i64, -3])` on `union [null, array<long>]`. -/

example : ∃ s' bytes v o, ser ({} : ExtTable).toExt false SU nodeU svU {} = (.ok (), s') ∧
    s'.out = ({} : SerState).out ++ bytes ∧
    Spec.denotes (denExtOf ({} : ExtTable).toExt) SU nodeU svU v = true ∧ Spec.observe SU nodeU v = some o ∧
    ∀ fuel, Spec.size v * 4 + 8 ≤ fuel → ∀ rest : Bytes,
      de deExtModel { maxSeqSize := 2, allowedDepth := 2 } SU fuel nodeU 2 false .any
        { rest := bytes ++ rest } = (.ok o, { rest := rest }) :=
  C01_roundtrip_impl_bounded { negInt := true } ({} : ExtTable).toExt false
    { maxSeqSize := 2, allowedDepth := 2 } SU nodeU svU {} 2
    (eq_ok_of_isOk (by decide +kernel)) C01glue.good_empty SU_ok nodeU_ok
    (by decide +kernel) empty_ok (by decide +kernel) SU_allows_negInt (by decide +kernel)
    SU_fixedDecFits (by decide +kernel) (svU_lim _)

/-! ## Deserializer side, canonical input -/

/-- `C01_de_accepts_schema` on the frozen schema (decimal on bytes and on fixed, enum, union,
    array), default configuration, trailing bytes -/
example : de deExtModel {} SB (Spec.size vB * 4 + 8) nodeB 64 false .any
    { rest := bytesB ++ [9, 9] } = (.ok oB, { rest := [9, 9] }) :=
  C01_de_accepts_schema {} SB nodeB vB bytesB [9, 9] oB 64 vB_encode vB_observe SB_fixedDecFits
    (by decide +kernel) (by decide +kernel) (by decide +kernel) _ (Nat.le_refl _)
    { rest := bytesB ++ [9, 9] } rfl rfl rfl rfl

/-- `C01_de_accepts_nil`, with the exact depth and sequence limits the value needs -/
example : de deExtModel { maxSeqSize := 2, allowedDepth := 2 } SB (Spec.size vB * 4 + 8) nodeB
    ({ maxSeqSize := 2, allowedDepth := 2 } : DeConfig).allowedDepth false .any { rest := bytesB } =
      (.ok oB, { rest := [] }) :=
  C01_de_accepts_nil { maxSeqSize := 2, allowedDepth := 2 } SB nodeB vB bytesB oB vB_encode
    vB_observe (by decide +kernel) (by decide +kernel) (by decide +kernel)

def nmM : Name := Name.ofFq "M"
def SD : Schema :=
  #[.map 1, .record nmM [("b", 2), ("t", 3), ("x", 4), ("g", 5)], .bigDecimal, .duration, .float, .uuid]
def nodeD : Node := .map 1
def vD : Value :=
  .map [("k", .record [.bigDecimal (-12345) 3, .duration 1 2 3, .float 0x3fc00000#32, .string "u"]),
        ("", .record [.bigDecimal 0 0, .duration 0 0 0, .float 0#32, .string ""])]
def bytesD : Bytes :=
  [4, 2, 107, 8, 4, 207, 199, 6, 1, 0, 0, 0, 2, 0, 0, 0, 3, 0, 0, 0, 0, 0, 192, 63, 2, 117, 0, 6, 2, 0, 0, 0, 0, 0,
   0, 0, 0, 0, 0, 0, 0, 0, 0, 0, 0, 0, 0, 0, 0]

theorem vD_encode : Spec.encode SD nodeD vD = some bytesD := by decide +kernel

/-- `C01_de_accepts` (the form with `fixedDecOk` on the value) -/
example : ∃ o, Spec.observe SD nodeD vD = some o ∧
    de deExtModel {} SD (Spec.size vD * 4 + 8) nodeD 64 false .any { rest := bytesD ++ [1] } =
      (.ok o, { rest := [1] }) := by
  obtain ⟨o, ho⟩ : ∃ o, Spec.observe SD nodeD vD = some o :=
    Option.isSome_iff_exists.1 (by rfl)
  exact ⟨o, ho, C01_de_accepts {} SD nodeD vD bytesD [1] o 64 vD_encode ho (by decide +kernel)
    (by decide +kernel) (by decide +kernel) _ (Nat.le_refl _) { rest := bytesD ++ [1] }
    rfl rfl rfl rfl⟩

/-- `C03_canonical_within_limits` -/
example : ∃ fuelL, Spec.decodeL Limits.impl SB fuelL nodeB (bytesB ++ [9, 9]) = some (vB, [9, 9]) :=
  C03_canonical_within_limits SB nodeB vB bytesB [9, 9] oB vB_encode vB_observe (by decide +kernel)

/-! ## Deserializer side, a NON-canonical layout -/

def S3 : Schema :=
  #[.record nmR [("xs", 1), ("n", 3), ("m", 4)], .array 2, .union [5, 6], .long, .map 3, .null,
    .string]
def node3 : Node := .record nmR [("xs", 1), ("n", 3), ("m", 4)]

def lay3 : Bytes :=
  [0x02, 0x02, 0x02, 0x61,            -- block of 1: union branch 1, "a"
   0x03, 0x88, 0x00,                  -- block of -2 items, byte size 4 written on two bytes
   0x00, 0x02, 0x02, 0x62,            -- union 0 null; union 1 "b"
   0x80, 0x00,                        -- end marker on two bytes
   0x8A, 0x80, 0x00,                  -- long 5 on three bytes
   0x02, 0x02, 0x6B, 0x01, 0x00]      -- map: one block {"k": -1}

def v3 : Value :=
  .record [.array [.union 1 (.string "a"), .union 0 .null, .union 1 (.string "b")], .long 5,
    .map [("k", .long (-1))]]

def o3 : Out :=
  .map [(.str "xs" false, .seq [.str "a" true, .unit, .str "b" true]), (.str "n" false, .i64 5),
    (.str "m" false, .map [(.str "k" true, .i64 (-1))])]

theorem lay3_decodes : Spec.decode S3 30 node3 (lay3 ++ [7, 7]) = some (v3, [7, 7]) :=
  NVB.decEq_of (by decide +kernel)
theorem lay3_decodes_nil : Spec.decode S3 30 node3 lay3 = some (v3, []) :=
  NVB.decEq_of (by decide +kernel)
theorem lay3_decodesL :
    Spec.decodeL Limits.impl S3 30 node3 (lay3 ++ [7, 7]) = some (v3, [7, 7]) :=
  NVB.decEq_of (by decide +kernel)
theorem v3_observe : Spec.observe S3 node3 v3 = some o3 := NVB.optOutEq_of (by decide +kernel)
theorem v3_canonical : Spec.encode S3 node3 v3 =
    some [0x06, 0x02, 0x02, 0x61, 0x00, 0x02, 0x02, 0x62, 0x00, 0x0A, 0x02, 0x02, 0x6B, 0x01, 0x00] := by
  decide +kernel

theorem lay3_not_canonical : ∀ v, Spec.encode S3 node3 v ≠ some lay3 :=
  not_canonical_of_decode (v0 := v3) 30 lay3_decodes_nil (by rw [v3_canonical]; decide +kernel)

/-- `C03_de_refines_spec`: every hypothesis (10-byte varints, 16-byte decimals, depth, `maxSeqSize`)
    holds on this non-canonical layout, with the tightest limits -/
theorem lay3_de : de deExtModel { maxSeqSize := 3, allowedDepth := 3 } S3 (Spec.size v3 * 4 + 8) node3 3
    false .any { rest := lay3 ++ [7, 7] } = (.ok o3, { rest := [7, 7] }) :=
  C03_de_refines_spec { maxSeqSize := 3, allowedDepth := 3 } S3 node3 v3 (lay3 ++ [7, 7]) [7, 7] o3
    3 30 30 lay3_decodes v3_observe (by rw [lay3_decodesL]; rfl) (by decide +kernel)
    (by decide +kernel) _ (Nat.le_refl _) _ rfl rfl rfl rfl

/-- `C03_de_accepts_impl_layouts` -/
example : de deExtModel {} S3 (3 * Spec.size v3) node3 64 false .any { rest := lay3 ++ [7, 7] } =
    (.ok o3, { rest := [7, 7] }) :=
  C03_de_accepts_impl_layouts {} S3 node3 v3 (lay3 ++ [7, 7]) [7, 7] o3 64 30 lay3_decodesL
    v3_observe (by decide +kernel) (by decide +kernel) _ (Nat.le_refl _) _ rfl rfl rfl rfl

/-- `C03_de_sound` on that run -/
example : ∃ v fuelS,
    Spec.decodeL Limits.impl S3 fuelS node3 ({ rest := lay3 ++ [7, 7] } : RState).rest =
      some (v, ({ rest := [7, 7] } : RState).rest) ∧
    Spec.observe S3 node3 v = some o3 ∧
    ({ rest := [7, 7] } : RState) =
      { ({ rest := lay3 ++ [7, 7] } : RState) with rest := ({ rest := [7, 7] } : RState).rest } :=
  C03_de_sound { maxSeqSize := 3, allowedDepth := 3 } S3 node3 3 _ _ _ o3 rfl rfl rfl lay3_de

/-- `C03_de_rejects_invalid` on that run -/
example : ∃ v fuelS,
    Spec.decode S3 fuelS node3 ({ rest := lay3 ++ [7, 7] } : RState).rest =
      some (v, ({ rest := [7, 7] } : RState).rest) ∧
    Spec.observe S3 node3 v = some o3 :=
  C03_de_rejects_invalid { maxSeqSize := 3, allowedDepth := 3 } S3 node3 3 _ _ _ o3 rfl rfl rfl
    lay3_de

/-- `C03_decodeL_impl_sub_spec`, `C03_decodeL_implStrict_sub_spec`, `C03_decodeL_mono`,
    `C03_decodeL_impl_agrees`, `C03_decodeL_spec` on the layout -/
example : Spec.decode S3 30 node3 (lay3 ++ [7, 7]) = some (v3, [7, 7]) :=
  C03_decodeL_impl_sub_spec S3 30 node3 _ _ lay3_decodesL
example : Spec.decode S3 30 node3 (lay3 ++ [7, 7]) = some (v3, [7, 7]) :=
  C03_decodeL_implStrict_sub_spec S3 30 node3 _ _ lay3_decodesL
example : Spec.decodeL Limits.specLax S3 99 node3 (lay3 ++ [7, 7]) = some (v3, [7, 7]) :=
  C03_decodeL_mono Limits.impl_le_specLax S3 (by decide) lay3_decodesL
example : (v3, [7, 7]) = (v3, ([7, 7] : Bytes)) :=
  C03_decodeL_impl_agrees S3 30 30 node3 _ _ _ lay3_decodesL lay3_decodes
example : Spec.decodeL Limits.spec S3 30 node3 (lay3 ++ [7, 7]) = some (v3, [7, 7]) := by
  rw [C03_decodeL_spec]; exact lay3_decodes

/-- a decimal (`bytes`) written sign-extended on the full 16 bytes allowed (canonical: `[2, 1]`),
    inside a union whose index is written on two bytes: again every hypothesis holds -/
def S16 : Schema := #[.union [1, 2], .null, .decimal 0 5 .bytes]
def lay16 : Bytes := [0x82, 0x00, 0x20] ++ List.replicate 15 0 ++ [1]

theorem lay16_decodes : Spec.decode S16 5 (.union [1, 2]) lay16 = some (.union 1 (.decimal 1), []) :=
  NVB.decEq_of (by decide +kernel)
theorem lay16_canonical : Spec.encode S16 (.union [1, 2]) (.union 1 (.decimal 1)) = some [2, 2, 1] := by
  decide +kernel

set_option maxRecDepth 8000 in
example : de deExtModel {} S16 16 (.union [1, 2]) 64 false .any { rest := lay16 } =
    (.ok (.str "1" false), { rest := [] }) :=
  C03_de_refines_spec {} S16 (.union [1, 2]) (.union 1 (.decimal 1)) lay16 [] (.str "1" false) 64 5 5
    lay16_decodes (NVB.optOutEq_of (by decide +kernel)) (by decide +kernel) (by decide +kernel)
    (by decide +kernel) 16 (by decide +kernel)
    { rest := lay16 } rfl rfl rfl rfl

/-- `Limits.impl` and `Limits.implStrict` are the same term (an implication between the two says
    `P → P`; `C03_block_sizes_checked` is a statement about the deserializer, instantiated
    below). -/
example : Limits.impl = Limits.implStrict := rfl

/-! ### invalid input: the union index in the SECOND block (negative count + byte size) is out of
range -/

/-- with the index repaired the same layout is valid (so `badI` is a single-point corruption) -/
example : Spec.decode SI 9 nodeI [0x02, 0x00, 0x01, 0x02, 0x00, 0x00] =
    some (.array [.union 0 .null, .union 0 .null], []) := by rfl

/-- `C03_block_sizes_checked`: a first block with count -1 and byte size -1 (then a valid item
    and the end marker) is refused by the real `de`, at any fuel -/
example (fuel : Nat) (o : Out) :
    (de deExtModel {} SI fuel nodeI 64 false .any { rest := [0x01, 0x01, 0x00, 0x00] }).1 ≠ .ok o :=
  C03_block_sizes_checked {} SI nodeI 1 (.inl rfl) 64 fuel { rest := [0x01, 0x01, 0x00, 0x00] }
    rfl rfl rfl (-1) (-1) [0x01, 0x00, 0x00] [0x00, 0x00] (by decide +kernel) (by decide)
    (by decide +kernel) (by decide) o

/-- … while the same block with byte size 1 is accepted: the sign of the size is what is checked -/
example : Spec.decode SI 9 nodeI [0x01, 0x02, 0x00, 0x00] = some (.array [.union 0 .null], []) := by
  rfl

/-- `C03_invalid_is_err` -/
example (o : Out) :
    (de deExtModel {} SI (driverFuel {} SI 64 badI.length) nodeI 64 false .any { rest := badI }).1
      ≠ .ok o :=
  C03_invalid_is_err {} SI nodeI 64 _ { rest := badI } rfl rfl rfl badI_invalid o

/-- `C03_invalid_is_err_class`, at the driver's fuel for this input -/
example :
    (de deExtModel {} SI (driverFuel {} SI 64 badI.length) nodeI 64 false .any { rest := badI }).1
      = .error .custom ∨
    (de deExtModel {} SI (driverFuel {} SI 64 badI.length) nodeI 64 false .any { rest := badI }).1
      = .error .io :=
  C03_invalid_is_err_class {} SI (by decide +kernel) 0 nodeI (by decide +kernel) 64 _
    (by decide +kernel) { rest := badI } rfl rfl rfl badI_invalid

/-! ## The fuel hypotheses and the driver's fuel -/

/-- The fuel hypotheses of `C01_de_accepts*` / `C03_de_refines_spec` (`size v * 4 + 8 ≤ fuel`) can
    EXCEED what the driver supplies: 100 arrays of 100 `null`s take 303 bytes, the driver gives
    10 072 units, the theorem asks for 41 232.  (Harmless: the driver's fuel is `≥ fuelBound`,
    see `C03_de_refines_spec_at_driverFuel` below.) -/
def SN : Schema := #[.array 1, .array 2, .null]
def vN : Value := .array (List.replicate 100 (.array (List.replicate 100 .null)))
def cfgN : DeConfig := { maxSeqSize := 100, allowedDepth := 2 }

theorem vN_enc_len : (Spec.encode SN (.array 1) vN).map List.length = some 303 := by decide +kernel

example : driverFuel cfgN SN 2 303 < Spec.size vN * 4 + 8 := by decide +kernel
example : Spec.depthOf vN ≤ 2 ∧ Spec.maxLen vN ≤ cfgN.maxSeqSize := by decide +kernel

/-- The gap is bridged by C04: above `fuelBound` the fuel is irrelevant, so for a root node of the
    schema the fuel hypothesis of the acceptance theorems can be replaced by `fuelBound ≤ fuel`. -/
theorem de_fuel_bridge (cfg : DeConfig) (S : Schema) (k : Nat) (node : Node)
    (hk : S[k]? = some node) (depth fuel fuel' : Nat)
    (hf : fuelBound cfg S .any depth ≤ fuel) (hf' : fuelBound cfg S .any depth ≤ fuel') :
    de deExtModel cfg S fuel node depth false .any = de deExtModel cfg S fuel' node depth false .any := by
  rw [C04_fuel_independent_root deExtModel cfg S fuel k node hk depth false .any hf,
    C04_fuel_independent_root deExtModel cfg S fuel' k node hk depth false .any hf']

theorem C03_de_refines_spec_above_bound (cfg : DeConfig) (S : Schema) (k : Nat) (node : Node)
    (hk : S[k]? = some node) (v : Spec.Value)
    (bytes rest : Bytes) (o : Out) (depth fuelS fuelL : Nat)
    (hdec : Spec.decode S fuelS node bytes = some (v, rest))
    (hobs : Spec.observe S node v = some o)
    (hlim : (Spec.decodeL Limits.impl S fuelL node bytes).isSome = true)
    (hdepth : Spec.depthOf v ≤ depth) (hseq : Spec.maxLen v ≤ cfg.maxSeqSize)
    (fuel : Nat) (hfuel : fuelBound cfg S .any depth ≤ fuel)
    (s : RState) (hs : s.isSlice = true) (hl : s.limit = none) (ha : s.avail = 0)
    (hr : s.rest = bytes) :
    de deExtModel cfg S fuel node depth false .any s = (.ok o, { s with rest := rest }) := by
  rw [de_fuel_bridge cfg S k node hk depth fuel (max fuel (Spec.size v * 4 + 8)) hfuel
    (Nat.le_trans hfuel (Nat.le_max_left _ _))]
  exact C03_de_refines_spec cfg S node v bytes rest o depth fuelS fuelL hdec hobs hlim hdepth hseq
    _ (Nat.le_max_right _ _) s hs hl ha hr

/-- Hence `C03_de_refines_spec` speaks about the driver's run, whatever the size of the value. -/
theorem C03_de_refines_spec_at_driverFuel (cfg : DeConfig) (S : Schema) (k : Nat) (node : Node)
    (hk : S[k]? = some node) (v : Spec.Value)
    (bytes rest : Bytes) (o : Out) (depth fuelS fuelL : Nat)
    (hdec : Spec.decode S fuelS node bytes = some (v, rest))
    (hobs : Spec.observe S node v = some o)
    (hlim : (Spec.decodeL Limits.impl S fuelL node bytes).isSome = true)
    (hdepth : Spec.depthOf v ≤ depth) (hseq : Spec.maxLen v ≤ cfg.maxSeqSize)
    (s : RState) (hs : s.isSlice = true) (hl : s.limit = none) (ha : s.avail = 0)
    (hr : s.rest = bytes) :
    de deExtModel cfg S (driverFuel cfg S depth s.rest.length) node depth false .any s
      = (.ok o, { s with rest := rest }) :=
  C03_de_refines_spec_above_bound cfg S k node hk v bytes rest o depth fuelS fuelL hdec hobs hlim
    hdepth hseq _ (fuelBound_le_deFuel cfg S .any depth _) s hs hl ha hr

/-- The first component of `deFuel` alone (`deFuelBase`) is not: a record with 200 fields of one
    shared type has `S.size = 2`; at the default depth 64 with `max_seq_size = 0` that formula gives
    9 536 on the empty input and `fuelBound` is 13 060.  `deFuel` is the larger of the two. -/
def SW : Schema :=
  #[.record nmR ((List.range 200).map fun i => (toString i, 1)), .null]

example : deFuelBase { maxSeqSize := 0 } SW 64 0 < fuelBound { maxSeqSize := 0 } SW .any 64 ∧
    driverFuel { maxSeqSize := 0 } SW 64 0 = fuelBound { maxSeqSize := 0 } SW .any 64 := by
  decide +kernel

/-- On the nested-`null` instance the first component is the larger one. -/
example : fuelBound cfgN SN .any 2 ≤ driverFuel cfgN SN 2 303 ∧
    driverFuel cfgN SN 2 303 = deFuelBase cfgN SN 2 303 := by decide +kernel

theorem C01_de_accepts_at_driverFuel (cfg : DeConfig) (S : Schema) (k : Nat) (n : Node)
    (hk : S[k]? = some n) (v : Spec.Value) (enc rest : Bytes) (o : Out) (depth : Nat)
    (henc : Spec.encode S n v = some enc) (hobs : Spec.observe S n v = some o)
    (hfix : Spec.fixedDecOk S n v = true)
    (hdepth : Spec.depthOf v ≤ depth) (hseq : Spec.maxLen v ≤ cfg.maxSeqSize)
    (s : RState) (hs : s.isSlice = true) (hl : s.limit = none) (ha : s.avail = 0)
    (hr : s.rest = enc ++ rest) :
    de deExtModel cfg S (driverFuel cfg S depth s.rest.length) n depth false .any s
      = (.ok o, { s with rest := rest }) := by
  rw [de_fuel_bridge cfg S k n hk depth _ (max (driverFuel cfg S depth s.rest.length) (Spec.size v * 4 + 8))
    (fuelBound_le_deFuel cfg S .any depth _)
    (Nat.le_trans (fuelBound_le_deFuel cfg S .any depth _) (Nat.le_max_left _ _))]
  exact C01_de_accepts cfg S n v enc rest o depth henc hobs hfix hdepth hseq _ (Nat.le_max_right _ _)
    s hs hl ha hr

/-- and the run the theorem's fuel hypothesis did not cover IS covered: the driver's model accepts
    the 100 × 100 `null`s with its 10 072 units (the theorem's own hypothesis asks for 41 232). -/
example : ∃ enc o, Spec.encode SN (.array 1) vN = some enc ∧ enc.length = 303 ∧
    de deExtModel cfgN SN (driverFuel cfgN SN 2 303) (.array 1) 2 false .any { rest := enc }
      = (.ok o, { rest := [] }) := by
  obtain ⟨enc, henc, hlen⟩ := Option.map_eq_some_iff.1 vN_enc_len
  obtain ⟨o, ho⟩ : ∃ o, Spec.observe SN (.array 1) vN = some o :=
    Option.isSome_iff_exists.1 (by decide +kernel)
  have := C01_de_accepts_at_driverFuel cfgN SN 0 (.array 1) rfl vN enc [] o 2 henc ho
    (by decide +kernel) (by decide +kernel) (by decide +kernel) { rest := enc ++ [] } rfl rfl rfl rfl
  simp only [List.append_nil] at this
  rw [hlen] at this
  exact ⟨enc, o, henc, hlen, this⟩

end Avro.NonVacuityA
