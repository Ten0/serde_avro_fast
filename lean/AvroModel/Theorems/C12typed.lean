import AvroModel.Lemmas.TypedSound
import AvroModel.Theorems.C12layouts
import AvroModel.Lemmas.OutEq
/-
C12 / C03 / C01 — typed targets consume exactly what the self-describing read consumes.

`C03_de_refines_spec` (target `.any`), `C12_skip_all_layouts` (target `.ignored`) and the two special
cases of `C12layouts.lean` say that the read ends exactly where the specification decoder ends.
Here the same is proved for the targets real programs use — `Option<T>`, `Vec<T>`, maps, nested
structs (any subset of the fields, in any order), enums with unit / newtype / struct variants, scalar
targets with the integer / float / string coercions, identifiers — on EVERY layout with exact block
sizes (`Spec.decodeX Limits.impl`), in the form

    whenever the typed read succeeds, it has consumed exactly the datum.

Only successful runs are looked at, so NO hypothesis on the depth budget, `max_seq_size`, the model
fuel, `rust_decimal`'s range or the `favor` flag is needed (they decide *whether* the read succeeds,
not *what it consumes*).

A TUPLE target (`deserialize_tuple(n)`: Rust tuples, `[T; N]`, tuple structs, tuple variants)
offered an Avro ARRAY is no exception, thanks to a fix in the crate that the model follows.
`deserialize_tuple` builds the same `ArraySeqAccess` as `deserialize_seq` and ignores `len`; serde's
tuple visitor pulls exactly `n` elements and returns, so before the fix the end-of-array marker (and
every item beyond the `n`-th) stayed unread and what followed was read from the wrong place
(`struct R { a: (i32, i32), b: i32 }` on `04 02 04 00 0e` gave `Ok(R { a: (1, 2), b: 0 })`).  The fix
(`ArraySeqAccess::visit`, de/deserializer/types/blocks.rs) asks `has_more()` once more after the
visitor has returned unless the end has been read already: more elements → `Err`, otherwise the end
marker is consumed.  In the model: `deSeqLoop`, branch `maxItems = some 0`.  The inputs that showed
the defect are evaluated below: the read consumes exactly the datum, or is an error when the array
has more items than the tuple.  (With `n` larger than the number of items the model reads the end
marker and consumes exactly; in the crate serde's visitor then fails with `invalid length`.)
-/
namespace Avro.Theorems
open Avro Avro.Spec Avro.Impl

/-- **C12, typed targets, every request.**  For EVERY request `h`, every schema, node,
    configuration, depth budget, fuel and `favor` flag, on every valid layout with exact block sizes:
    if the typed read succeeds, it leaves exactly `rest` and changes nothing else of the state. -/
theorem C12_typed_consumes_all (cfg : DeConfig) (S : Schema) (node : Node) (h : Hint)
    (v : Spec.Value) (bytes rest : Bytes) (depth fuelX fuel : Nat) (favor : Bool)
    (hdec : Spec.decodeX Limits.impl S fuelX node bytes = some (v, rest))
    (s s' : RState) (o : Out)
    (hs : s.isSlice = true) (hl : s.limit = none) (ha : s.avail = 0) (hr : s.rest = bytes)
    (hrun : de deExtModel cfg S fuel node depth favor h s = (.ok o, s')) :
    s' = { s with rest := rest } := by
  subst hr
  exact typed_consumes_run S cfg node depth fuel favor h s s' o hs hl ha hrun v rest fuelX hdec

/-- **C12, typed targets (general form).**  `ok` is any family of (request, node) pairs closed under
    the sub-requests the deserializer makes. -/
theorem C12_typed_consumes_closed (cfg : DeConfig) (S : Schema) (ok : Hint → Node → Prop)
    (hclosed : OkClosed S ok) (node : Node) (h : Hint) (hok : ok h node)
    (v : Spec.Value) (bytes rest : Bytes) (depth fuelX fuel : Nat) (favor : Bool)
    (hdec : Spec.decodeX Limits.impl S fuelX node bytes = some (v, rest))
    (s s' : RState) (o : Out)
    (hs : s.isSlice = true) (hl : s.limit = none) (ha : s.avail = 0) (hr : s.rest = bytes)
    (hrun : de deExtModel cfg S fuel node depth favor h s = (.ok o, s')) :
    s' = { s with rest := rest } := by
  have _ := hclosed  -- the theorem for every request applies: neither hypothesis is used
  have _ := hok
  exact C12_typed_consumes_all cfg S node h v bytes rest depth fuelX fuel favor hdec s s' o hs hl ha
    hr hrun

theorem C12_typed_consumes_all_rest (cfg : DeConfig) (S : Schema) (node : Node) (h : Hint)
    (v : Spec.Value) (bytes rest : Bytes) (depth fuelX fuel : Nat) (favor : Bool)
    (hdec : Spec.decodeX Limits.impl S fuelX node bytes = some (v, rest))
    (s s' : RState) (o : Out)
    (hs : s.isSlice = true) (hl : s.limit = none) (ha : s.avail = 0) (hr : s.rest = bytes)
    (hrun : de deExtModel cfg S fuel node depth favor h s = (.ok o, s')) :
    s'.rest = rest := by
  rw [C12_typed_consumes_all cfg S node h v bytes rest depth fuelX fuel favor hdec s s' o hs hl ha
    hr hrun]

/-- **C12, typed targets without tuple requests** (all that held before the crate's fix of
    `ArraySeqAccess`; a special case of `C12_typed_consumes_all`, the restriction is not needed:
    `C12_tupleFree_not_necessary`). -/
theorem C12_typed_consumes (cfg : DeConfig) (S : Schema) (node : Node) (h : Hint)
    (htf : h.tupleFree = true)
    (v : Spec.Value) (bytes rest : Bytes) (depth fuelX fuel : Nat) (favor : Bool)
    (hdec : Spec.decodeX Limits.impl S fuelX node bytes = some (v, rest))
    (s s' : RState) (o : Out)
    (hs : s.isSlice = true) (hl : s.limit = none) (ha : s.avail = 0) (hr : s.rest = bytes)
    (hrun : de deExtModel cfg S fuel node depth favor h s = (.ok o, s')) :
    s' = { s with rest := rest } := by
  have _ := htf  -- the restriction is not used
  exact C12_typed_consumes_all cfg S node h v bytes rest depth fuelX fuel favor hdec s s' o hs hl ha
    hr hrun

theorem C12_typed_consumes_rest (cfg : DeConfig) (S : Schema) (node : Node) (h : Hint)
    (htf : h.tupleFree = true)
    (v : Spec.Value) (bytes rest : Bytes) (depth fuelX fuel : Nat) (favor : Bool)
    (hdec : Spec.decodeX Limits.impl S fuelX node bytes = some (v, rest))
    (s s' : RState) (o : Out)
    (hs : s.isSlice = true) (hl : s.limit = none) (ha : s.avail = 0) (hr : s.rest = bytes)
    (hrun : de deExtModel cfg S fuel node depth favor h s = (.ok o, s')) :
    s'.rest = rest := by
  rw [C12_typed_consumes cfg S node h htf v bytes rest depth fuelX fuel favor hdec s s' o hs hl ha
    hr hrun]

/-- the decidable predicate on (request, node): no tuple request inside, or a tuple request on a
    node that is neither an array nor a union -/
def typedOk (h : Hint) (n : Node) : Bool :=
  h.tupleFree || (match h with
    | .tuple _ _ => n.noArr
    | _ => false)

/-- **C12, typed targets, with tuple requests where they are harmless.** -/
theorem C12_typed_consumes_top (cfg : DeConfig) (S : Schema) (node : Node) (h : Hint)
    (hok : typedOk h node = true)
    (v : Spec.Value) (bytes rest : Bytes) (depth fuelX fuel : Nat) (favor : Bool)
    (hdec : Spec.decodeX Limits.impl S fuelX node bytes = some (v, rest))
    (s s' : RState) (o : Out)
    (hs : s.isSlice = true) (hl : s.limit = none) (ha : s.avail = 0) (hr : s.rest = bytes)
    (hrun : de deExtModel cfg S fuel node depth favor h s = (.ok o, s')) :
    s' = { s with rest := rest } := by
  have _ := hok  -- the restriction is not used
  exact C12_typed_consumes_all cfg S node h v bytes rest depth fuelX fuel favor hdec s s' o hs hl ha
    hr hrun

/-- The same with the hypotheses in the shape of `C12_skip_all_layouts`: `Spec.decode` accepts the
    input as `(v, rest)`, and it is within the implementation's limits with exact block sizes. -/
theorem C12_typed_consumes_spec (cfg : DeConfig) (S : Schema) (node : Node) (h : Hint)
    (hok : typedOk h node = true)
    (v : Spec.Value) (bytes rest : Bytes) (depth fuelS fuelX fuel : Nat) (favor : Bool)
    (hdec : Spec.decode S fuelS node bytes = some (v, rest))
    (hexact : (Spec.decodeX Limits.impl S fuelX node bytes).isSome = true)
    (s s' : RState) (o : Out)
    (hs : s.isSlice = true) (hl : s.limit = none) (ha : s.avail = 0) (hr : s.rest = bytes)
    (hrun : de deExtModel cfg S fuel node depth favor h s = (.ok o, s')) :
    s' = { s with rest := rest } := by
  have hx := C12_decodeX_of_spec hdec hexact
  exact C12_typed_consumes_top cfg S node h hok v bytes rest depth fuelX fuel favor hx s s' o hs hl
    ha hr hrun

/-- For EVERY request: a successful typed read and a successful self-describing read of the same
    datum end in the same state. -/
theorem C12_typed_same_state_as_any_all (cfg : DeConfig) (S : Schema) (node : Node) (h : Hint)
    (depth depth' fuel fuel' : Nat) (favor : Bool)
    (s s₁ s₂ : RState) (o₁ o₂ : Out)
    (hs : s.isSlice = true) (hl : s.limit = none) (ha : s.avail = 0)
    (hexact : ∃ fuelX, (Spec.decodeX Limits.impl S fuelX node s.rest).isSome = true)
    (htyped : de deExtModel cfg S fuel node depth favor h s = (.ok o₁, s₁))
    (hany : de deExtModel cfg S fuel' node depth' false .any s = (.ok o₂, s₂)) :
    s₁ = s₂ := by
  obtain ⟨fuelX, hx⟩ := hexact
  obtain ⟨⟨v, rest⟩, hx⟩ := Option.isSome_iff_exists.1 hx
  exact (typed_value_run S cfg node depth fuel favor h s s₁ o₁ hs hl ha htyped cfg fuel' depth' o₂ s₂
    hany ⟨fuelX, v, rest, hx⟩).2

/-- A successful typed read and a successful self-describing read of the same datum end in the
    same state (so whatever is read next is read from the same bytes).  The depth budgets, fuels
    and `favor` flags of the two runs are independent. -/
theorem C12_typed_same_state_as_any (cfg : DeConfig) (S : Schema) (node : Node) (h : Hint)
    (hok : typedOk h node = true) (depth depth' fuel fuel' : Nat) (favor : Bool)
    (s s₁ s₂ : RState) (o₁ o₂ : Out)
    (hs : s.isSlice = true) (hl : s.limit = none) (ha : s.avail = 0)
    (hexact : ∃ fuelX, (Spec.decodeX Limits.impl S fuelX node s.rest).isSome = true)
    (htyped : de deExtModel cfg S fuel node depth favor h s = (.ok o₁, s₁))
    (hany : de deExtModel cfg S fuel' node depth' false .any s = (.ok o₂, s₂)) :
    s₁ = s₂ :=
  have _ := hok
  C12_typed_same_state_as_any_all cfg S node h depth depth' fuel fuel' favor s s₁ s₂ o₁ o₂ hs hl ha
    hexact htyped hany

/-- `C12_typed_consumes_all` with the hypotheses in the shape of `C12_skip_all_layouts`. -/
theorem C12_typed_consumes_all_spec (cfg : DeConfig) (S : Schema) (node : Node) (h : Hint)
    (v : Spec.Value) (bytes rest : Bytes) (depth fuelS fuelX fuel : Nat) (favor : Bool)
    (hdec : Spec.decode S fuelS node bytes = some (v, rest))
    (hexact : (Spec.decodeX Limits.impl S fuelX node bytes).isSome = true)
    (s s' : RState) (o : Out)
    (hs : s.isSlice = true) (hl : s.limit = none) (ha : s.avail = 0) (hr : s.rest = bytes)
    (hrun : de deExtModel cfg S fuel node depth favor h s = (.ok o, s')) :
    s' = { s with rest := rest } := by
  have hx := C12_decodeX_of_spec hdec hexact
  exact C12_typed_consumes_all cfg S node h v bytes rest depth fuelX fuel favor hx s s' o hs hl
    ha hr hrun

/-! ### A tuple request on an array node (the crate's fixed defect) -/

/-- `[1, 2] : array<int>` in one block, then one more byte -/
def c12Arr12 : Bytes := [0x04, 0x02, 0x04, 0x00, 0x0e]

/-- The datum `[1, 2]` occupies four bytes (`decodeX` leaves `[0e]`); the `Vec` target consumes
    them; the 2-tuple target reads the end-of-array marker too and leaves `[0e]` (before the
    crate's fix it left `[00, 0e]`); a 1-tuple and a 0-tuple are errors (class custom: "Array has
    more elements than what we are deserializing into expects"; before the fix they succeeded,
    leaving `[04, 00, 0e]` and everything); a 0-tuple on the empty array reads its marker. -/
theorem C12_tuple_over_array_reads_to_end :
    Spec.decodeX Limits.impl #[.int] 10 (.array 0) c12Arr12 =
      some (.array [.int 1, .int 2], [0x0e]) ∧
    de deExtModel {} #[.int] 50 (.array 0) 64 false (.seq .any) { rest := c12Arr12 } =
      (.ok (.seq [.i32 1, .i32 2]), { rest := [0x0e] }) ∧
    de deExtModel {} #[.int] 50 (.array 0) 64 false (.tuple 2 .any) { rest := c12Arr12 } =
      (.ok (.seq [.i32 1, .i32 2]), { rest := [0x0e] }) ∧
    (de deExtModel {} #[.int] 50 (.array 0) 64 false (.tuple 1 .any) { rest := c12Arr12 }).1 =
      .error .custom ∧
    (de deExtModel {} #[.int] 50 (.array 0) 64 false (.tuple 0 .any) { rest := c12Arr12 }).1 =
      .error .custom ∧
    de deExtModel {} #[.int] 50 (.array 0) 64 false (.tuple 0 .any) { rest := [0x00, 0x0e] } =
      (.ok (.seq []), { rest := [0x0e] }) := by
  exact ⟨by rfl, NVB.resEq_of (by decide +kernel), NVB.resEq_of (by decide +kernel),
    NVB.fstEq_of (by decide +kernel), NVB.fstEq_of (by decide +kernel), NVB.resEq_of (by decide +kernel)⟩

/-- the same when the items come in two blocks `[1] [2]`: the 2-tuple reads the end marker after
    the second block; the 1-tuple reads the header of the second block and is an error -/
theorem C12_tuple_over_array_two_blocks :
    Spec.decodeX Limits.impl #[.int] 10 (.array 0) [0x02, 0x02, 0x02, 0x04, 0x00, 0x0e] =
      some (.array [.int 1, .int 2], [0x0e]) ∧
    de deExtModel {} #[.int] 50 (.array 0) 64 false (.tuple 2 .any)
        { rest := [0x02, 0x02, 0x02, 0x04, 0x00, 0x0e] } =
      (.ok (.seq [.i32 1, .i32 2]), { rest := [0x0e] }) ∧
    (de deExtModel {} #[.int] 50 (.array 0) 64 false (.tuple 1 .any)
        { rest := [0x02, 0x02, 0x02, 0x04, 0x00, 0x0e] }).1 = .error .custom :=
  ⟨by rfl, NVB.resEq_of (by decide +kernel), NVB.fstEq_of (by decide +kernel)⟩

/-- on this input (on which the crate before the fix left `[00, 0e]` for a 2-tuple) every request
    that succeeds leaves `[0e]` — an instance of `C12_typed_consumes_all`, with a tuple request
    among the `h` (the third conjunct of `C12_tuple_over_array_reads_to_end` is a successful run it
    applies to) -/
theorem C12_tupleFree_not_necessary :
    ∀ (h : Hint) (s' : RState) (o : Out),
      de deExtModel {} #[.int] 50 (.array 0) 64 false h { rest := c12Arr12 } = (.ok o, s') →
      s'.rest = [0x0e] := by
  intro h s' o hrun
  exact C12_typed_consumes_all_rest {} #[.int] (.array 0) h _ c12Arr12 [0x0e] 64 10 50 false (by rfl)
    { rest := c12Arr12 } s' o rfl rfl rfl rfl hrun

/-- `0: int`, `1: array<int>`, `2: record r {a: array<int>, b: int}` (the schema of
    `C12_wrong_block_size_discrepancy`) -/
def c12TupleRec : Node := .record c12Rec [("a", 1), ("b", 0)]

/-- **The next field is read from the right place.**  `{a: [1, 2], b: 7}`: the struct target with
    `a: Vec<_>` gets `b = 7`; with `a: (_, _)` it gets `b = 7` too (before the crate's fix: `b = 0`,
    the unread end marker, and the byte of `b` left); with `a: (_,)` the read is an error. -/
theorem C12_tuple_over_array_next_field_intact :
    Spec.decodeX Limits.impl c12Schema 10 c12TupleRec c12Arr12 =
      some (.record [.array [.int 1, .int 2], .int 7], []) ∧
    de deExtModel {} c12Schema 50 c12TupleRec 64 false
        (.struct [("a", .seq .any), ("b", .any)]) { rest := c12Arr12 } =
      (.ok (.map [(.str "a" false, .seq [.i32 1, .i32 2]), (.str "b" false, .i32 7)]),
        { rest := [] }) ∧
    de deExtModel {} c12Schema 50 c12TupleRec 64 false
        (.struct [("a", .tuple 2 .any), ("b", .any)]) { rest := c12Arr12 } =
      (.ok (.map [(.str "a" false, .seq [.i32 1, .i32 2]), (.str "b" false, .i32 7)]),
        { rest := [] }) ∧
    (de deExtModel {} c12Schema 50 c12TupleRec 64 false
        (.struct [("a", .tuple 1 .any), ("b", .any)]) { rest := c12Arr12 }).1 = .error .custom :=
  ⟨by rfl, NVB.resEq_of (by decide +kernel), NVB.resEq_of (by decide +kernel), NVB.fstEq_of (by decide +kernel)⟩

/-- the tuple request may sit anywhere inside the target: `Option<(T,)>` on `[1, 2]` is an
    error (before the crate's fix it succeeded leaving `[04, 00, 0e]`), `Option<(T, T)>` consumes
    exactly -/
theorem C12_tuple_under_option_over_array :
    (de deExtModel {} #[.int] 50 (.array 0) 64 false (.option (.tuple 1 .any))
        { rest := c12Arr12 }).1 = .error .custom ∧
    de deExtModel {} #[.int] 50 (.array 0) 64 false (.option (.tuple 2 .any)) { rest := c12Arr12 } =
      (.ok (.some (.seq [.i32 1, .i32 2])), { rest := [0x0e] }) :=
  ⟨NVB.fstEq_of (by decide +kernel), NVB.resEq_of (by decide +kernel)⟩

/-- … and the array may sit behind a union: `union {int, array<int>}`, branch 1, `[1]`, then `09`:
    the 1-tuple reads the end marker (before the crate's fix it left `[00, 09]`; this is why `typedOk`
    excludes union nodes for a tuple request); a 0-tuple is an error. -/
theorem C12_tuple_over_union_with_array :
    Spec.decodeX Limits.impl #[.int, .array 0] 10 (.union [0, 1]) [0x02, 0x02, 0x02, 0x00, 0x09] =
      some (.union 1 (.array [.int 1]), [0x09]) ∧
    de deExtModel {} #[.int, .array 0] 50 (.union [0, 1]) 64 false (.tuple 1 .any)
        { rest := [0x02, 0x02, 0x02, 0x00, 0x09] } =
      (.ok (.seq [.i32 1]), { rest := [0x09] }) ∧
    (de deExtModel {} #[.int, .array 0] 50 (.union [0, 1]) 64 false (.tuple 0 .any)
        { rest := [0x02, 0x02, 0x02, 0x00, 0x09] }).1 = .error .custom :=
  ⟨by rfl, NVB.resEq_of (by decide +kernel), NVB.fstEq_of (by decide +kernel)⟩

/-- A tuple request for more elements than the array has reads the end marker in the loop and
    consumes exactly, with or without the crate's fix (in the crate serde's visitor then reports
    `invalid length`). -/
theorem C12_tuple_longer_than_array_consumes :
    de deExtModel {} #[.int] 50 (.array 0) 64 false (.tuple 3 .any) { rest := c12Arr12 } =
      (.ok (.seq [.i32 1, .i32 2]), { rest := [0x0e] }) :=
  NVB.resEq_of (by decide +kernel)

/-! ### Non-vacuity: the theorems on concrete, non-trivial inputs -/

/-- `0: int`, `1: array<int>`, `2: null`, `3: long`, `4: union {null, long}`,
    `5: record t {a: array<int>, b: union {null, long}, c: long}` -/
def c12TypedSchema : Schema :=
  #[.int, .array 0, .null, .long, .union [2, 3],
    .record { fq := "t", short := "t", ns := none } [("a", 1), ("b", 4), ("c", 3)]]

def c12TypedNode : Node :=
  .record { fq := "t", short := "t", ns := none } [("a", 1), ("b", 4), ("c", 3)]

/-- `a = [1, 2, 3]` in two blocks (the first with its byte size: count `-2`, size `2`), `b = 5`
    (branch 1), `c = 7`; then `2a`. -/
def c12TypedBytes : Bytes :=
  [0x03, 0x04, 0x02, 0x04, 0x02, 0x06, 0x00,  0x02, 0x0a,  0x0e,  0x2a]

/-- a Rust target `struct T { c: i64, b: Option<i64>, a: Vec<i64> }` (fields in another order than
    the schema) -/
def c12TypedHint : Hint := .struct [("c", .i64), ("b", .option .i64), ("a", .seq .i64)]

/-- … and one that lacks `a` (skipped: the sized block is jumped over) -/
def c12TypedHintNoA : Hint := .struct [("c", .i64), ("b", .option .i64)]

example : Spec.decodeX Limits.impl c12TypedSchema 10 c12TypedNode c12TypedBytes =
    some (.record [.array [.int 1, .int 2, .int 3], .union 1 (.long 5), .long 7], [0x2a]) := by rfl

example : c12TypedHint.tupleFree = true := by rfl

/-- the typed read succeeds … -/
theorem c12Typed_run :
    de deExtModel {} c12TypedSchema 50 c12TypedNode 64 false c12TypedHint { rest := c12TypedBytes } =
      (.ok (.map [(.str "a" false, .seq [.i32 1, .i32 2, .i32 3]),
                  (.str "b" false, .some (.i64 5)),
                  (.str "c" false, .i64 7)]), { rest := [0x2a] }) :=
  NVB.resEq_of (by decide +kernel)

/-- … and the theorem applies to it (every hypothesis instantiated): it says where the read ends
    without looking at the run -/
example (o : Out) (s' : RState)
    (hrun : de deExtModel {} c12TypedSchema 50 c12TypedNode 64 false c12TypedHint
      { rest := c12TypedBytes } = (.ok o, s')) : s' = { rest := [0x2a] } :=
  C12_typed_consumes {} c12TypedSchema c12TypedNode c12TypedHint rfl _ c12TypedBytes [0x2a] 64 10 50
    false (by rfl) { rest := c12TypedBytes } s' o rfl rfl rfl rfl hrun

/-- the struct target that lacks `a` jumps over the sized block and skips the other one, and ends
    in the same place -/
example (o : Out) (s' : RState)
    (hrun : de deExtModel {} c12TypedSchema 50 c12TypedNode 64 false c12TypedHintNoA
      { rest := c12TypedBytes } = (.ok o, s')) : s' = { rest := [0x2a] } :=
  C12_typed_consumes {} c12TypedSchema c12TypedNode c12TypedHintNoA rfl _ c12TypedBytes [0x2a] 64 10
    50 false (by rfl) { rest := c12TypedBytes } s' o rfl rfl rfl rfl hrun

example : de deExtModel {} c12TypedSchema 50 c12TypedNode 64 false c12TypedHintNoA
    { rest := c12TypedBytes } =
    (.ok (.map [(.str "a" false, .unit), (.str "b" false, .some (.i64 5)), (.str "c" false, .i64 7)]),
      { rest := [0x2a] }) :=
  NVB.resEq_of (by decide +kernel)

/-- an enum target with a newtype variant for the union branch `Long` -/
example (o : Out) (s' : RState)
    (hrun : de deExtModel {} c12TypedSchema 50 (.union [2, 3]) 64 false
      (.enum [("Null", .unit), ("Long", .newtype .i64)]) { rest := [0x02, 0x0a, 0x2a] } = (.ok o, s')) :
    s' = { rest := [0x2a] } :=
  C12_typed_consumes {} c12TypedSchema (.union [2, 3]) _ rfl _ [0x02, 0x0a, 0x2a] [0x2a] 64 10 50
    false (by rfl) { rest := [0x02, 0x0a, 0x2a] } s' o rfl rfl rfl rfl hrun

example : de deExtModel {} c12TypedSchema 50 (.union [2, 3]) 64 false
    (.enum [("Null", .unit), ("Long", .newtype .i64)]) { rest := [0x02, 0x0a, 0x2a] } =
    (.ok (.variant (.str "Long" false) (.i64 5)), { rest := [0x2a] }) :=
  NVB.resEq_of (by decide +kernel)

/-- `(u32, u32, u32)` for a duration: `typedOk` holds, `C12_typed_consumes_top` applies -/
example (o : Out) (s' : RState)
    (hrun : de deExtModel {} #[] 50 .duration 64 false (.tuple 3 .any)
      { rest := [1, 0, 0, 0, 2, 0, 0, 0, 3, 0, 0, 0, 9] } = (.ok o, s')) : s' = { rest := [9] } :=
  C12_typed_consumes_top {} #[] .duration (.tuple 3 .any) rfl _ _ [9] 64 5 50 false (by rfl)
    { rest := [1, 0, 0, 0, 2, 0, 0, 0, 3, 0, 0, 0, 9] } s' o rfl rfl rfl rfl hrun

example : de deExtModel {} #[] 50 .duration 64 false (.tuple 3 .any)
    { rest := [1, 0, 0, 0, 2, 0, 0, 0, 3, 0, 0, 0, 9] } =
    (.ok (.seq [.u32 1, .u32 2, .u32 3]), { rest := [9] }) :=
  NVB.resEq_of (by decide +kernel)

/-- the same-state corollary on the record above -/
example (s₂ : RState) (o₂ : Out)
    (hany : de deExtModel {} c12TypedSchema 50 c12TypedNode 64 false .any { rest := c12TypedBytes } =
      (.ok o₂, s₂)) : ({ rest := [0x2a] } : RState) = s₂ :=
  C12_typed_same_state_as_any {} c12TypedSchema c12TypedNode c12TypedHint rfl 64 64 50 50 false
    { rest := c12TypedBytes } _ s₂ _ o₂ rfl rfl rfl ⟨10, by rfl⟩ c12Typed_run hany

/-- `C12_typed_consumes_all` on a target WITH tuple requests over arrays: the record
    `{a: [1, 2], b: 7}` read as `struct R { a: (i32, i32), b: i32 }` (every hypothesis instantiated;
    the run exists: third conjunct of `C12_tuple_over_array_next_field_intact`) -/
example (o : Out) (s' : RState)
    (hrun : de deExtModel {} c12Schema 50 c12TupleRec 64 false
      (.struct [("a", .tuple 2 .any), ("b", .any)]) { rest := c12Arr12 } = (.ok o, s')) :
    s' = { rest := [] } :=
  C12_typed_consumes_all {} c12Schema c12TupleRec _ _ c12Arr12 [] 64 10 50 false (by rfl)
    { rest := c12Arr12 } s' o rfl rfl rfl rfl hrun

example : (Hint.struct [("a", .tuple 2 .any), ("b", .any)]).tupleFree = false := by rfl

/-- the tuple target behind a union, excluded by `typedOk` -/
example (o : Out) (s' : RState)
    (hrun : de deExtModel {} #[.int, .array 0] 50 (.union [0, 1]) 64 false (.tuple 1 .any)
      { rest := [0x02, 0x02, 0x02, 0x00, 0x09] } = (.ok o, s')) : s' = { rest := [0x09] } :=
  C12_typed_consumes_all {} #[.int, .array 0] (.union [0, 1]) (.tuple 1 .any) _ _ [0x09] 64 10 50
    false (by rfl) { rest := [0x02, 0x02, 0x02, 0x00, 0x09] } s' o rfl rfl rfl rfl hrun

example : typedOk (.tuple 1 .any) (.union [0, 1]) = false := by rfl

/-- the same-state corollary for a tuple target -/
example (s₂ : RState) (o₂ : Out)
    (hany : de deExtModel {} #[.int] 50 (.array 0) 64 false .any { rest := c12Arr12 } =
      (.ok o₂, s₂)) : ({ rest := [0x0e] } : RState) = s₂ :=
  C12_typed_same_state_as_any_all {} #[.int] (.array 0) (.tuple 2 .any) 64 64 50 50 false
    { rest := c12Arr12 } _ s₂ _ o₂ rfl rfl rfl ⟨10, by rfl⟩
    C12_tuple_over_array_reads_to_end.2.2.1 hany

end Avro.Theorems
