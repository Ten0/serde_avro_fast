import AvroModel.Theorems.C09
import AvroModel.Theorems.C09global
import AvroModel.Theorems.C10
import AvroModel.Theorems.C19
import AvroModel.Theorems.C04
import AvroModel.Theorems.C04fuel
import AvroModel.Theorems.GraphFuel
import AvroModel.Lemmas.LiteralEq
/-
Non-vacuity audit, area E (C09 render side, C10, C19): instances of the headline theorems at the
driver's `graphFuel` (`Avro.Impl.graphFuel`, what `Driver/Main.lean` passes), and proved witnesses
of the cases the hypotheses exclude (`GAP`).  The parser side of C09 (`C09_reparsed_*`) is in
`NonVacuityE2.lean`.
-/
namespace Avro.NonVacuityE
open Avro Avro.Impl Avro.Theorems Avro.Spec.Pcf
open Avro.Impl.Freeze Avro.Impl.Lifetimes Avro.Lemmas.Lifetimes

/-- `graphFuel` below is the driver's (`Avro.Impl.graphFuel`) -/
example (S : SchemaMut) : graphFuel S = (S.size + 2) * (S.size + 2) * (maxWidth S + 2) + 64 := rfl

/-! ## C19: the theorems' bounds against the driver's fuel -/

example (S : SchemaMut) : max (pcfBound S) (renderBound S) ≤ graphFuel S := bounds_le_graphFuel S

/-! ## C09 global: a graph with namespaces, an empty namespace under a namespaced parent, recursion, shared named and unnamed nodes, logical types; fuel = the driver's -/

def gE : SchemaMut := #[
  ⟨.record ⟨"ns.Node", "Node", some "ns"⟩
      [("value", 1), ("next", 2), ("color", 3), ("more", 4), ("top", 6), ("top2", 6), ("box", 7)], none⟩,
  ⟨.long, some .timestampMicros⟩,
  ⟨.union [5, 0], none⟩,
  ⟨.enum ⟨"other.Color", "Color", some "other"⟩ ["R", "G"], none⟩,
  ⟨.array 3, none⟩,
  ⟨.null, none⟩,
  ⟨.fixed ⟨"Top", "Top", none⟩ 16, some (.decimal 2 10)⟩,
  ⟨.record ⟨"other.Box", "Box", some "other"⟩ [("c", 3), ("n", 2), ("t", 6), ("again", 4)], none⟩]

def jE : Json :=
  .obj [("type", .str "record"), ("name", .str "ns.Node"), ("fields", .arr [
    .obj [("name", .str "value"), ("type",
      .obj [("logicalType", .str "timestamp-micros"), ("type", .str "long")])],
    .obj [("name", .str "next"), ("type", .arr [.str "null", .str "Node"])],
    .obj [("name", .str "color"), ("type", .obj [("type", .str "enum"),
      ("name", .str "other.Color"), ("symbols", .arr [.str "R", .str "G"])])],
    .obj [("name", .str "more"), ("type",
      .obj [("type", .str "array"), ("items", .str "other.Color")])],
    .obj [("name", .str "top"), ("type", .obj [("logicalType", .str "decimal"),
      ("type", .str "fixed"), ("scale", .nat 2), ("precision", .nat 10),
      ("namespace", .str ""), ("name", .str "Top"), ("size", .nat 16)])],
    .obj [("name", .str "top2"), ("type", .str ".Top")],
    .obj [("name", .str "box"), ("type", .obj [("type", .str "record"),
      ("name", .str "other.Box"), ("fields", .arr [
        .obj [("name", .str "c"), ("type", .str "Color")],
        .obj [("name", .str "n"), ("type", .arr [.str "null", .str "ns.Node"])],
        .obj [("name", .str "t"), ("type", .str ".Top")],
        .obj [("name", .str "again"), ("type",
          .obj [("type", .str "array"), ("items", .str "Color")])]])])]])]

theorem graphFuel_gE : graphFuel gE = 964 := by decide +kernel

theorem gE_render : renderJson gE (graphFuel gE) = .ok jE := by
  rw [graphFuel_gE]; rfl

theorem gE_wfb : RenderPcf.namesWFb gE = true := by decide +kernel

theorem gE_wf : ∀ (i : Nat) (node : RawNode) (nm : Name),
    gE[i]? = some node → RenderPcf.nameOf node.type = some nm → nm.WF :=
  (namesWFb_iff gE).mp gE_wfb

example :
    noForwardRefs jE = true ∧
    ∃ text, parsingCanonicalForm jE = some text ∧
      ∀ fuel', graphFuel gE ≤ fuel' → canonicalForm gE fuel' = .ok text :=
  C09_render_has_graph_pcf gE (graphFuel gE) jE gE_wf gE_render

/-- `C09_render_has_graph_pcf_at_graphFuel` / `_dec_at_graphFuel`: renderer and canonical-form
    writer both at the driver's fuel -/
example :
    noForwardRefs jE = true ∧
    ∃ text, parsingCanonicalForm jE = some text ∧ canonicalForm gE (graphFuel gE) = .ok text :=
  C09_render_has_graph_pcf_at_graphFuel gE jE gE_wf gE_render

example :
    noForwardRefs jE = true ∧
    ∃ text, parsingCanonicalForm jE = some text ∧ canonicalForm gE (graphFuel gE) = .ok text :=
  C09_render_has_graph_pcf_dec_at_graphFuel gE jE gE_wfb gE_render

/-- the text is the expected one (recursive reference `ns.Node`, `Top` without namespace, logical
    types dropped) -/
example : parsingCanonicalForm jE = some
    "{\"name\":\"ns.Node\",\"type\":\"record\",\"fields\":[{\"name\":\"value\",\"type\":\"long\"},{\"name\":\"next\",\"type\":[\"null\",\"ns.Node\"]},{\"name\":\"color\",\"type\":{\"name\":\"other.Color\",\"type\":\"enum\",\"symbols\":[\"R\",\"G\"]}},{\"name\":\"more\",\"type\":{\"type\":\"array\",\"items\":\"other.Color\"}},{\"name\":\"top\",\"type\":{\"name\":\"Top\",\"type\":\"fixed\",\"size\":16}},{\"name\":\"top2\",\"type\":\"Top\"},{\"name\":\"box\",\"type\":{\"name\":\"other.Box\",\"type\":\"record\",\"fields\":[{\"name\":\"c\",\"type\":\"other.Color\"},{\"name\":\"n\",\"type\":[\"null\",\"ns.Node\"]},{\"name\":\"t\",\"type\":\"Top\"},{\"name\":\"again\",\"type\":{\"type\":\"array\",\"items\":\"other.Color\"}}]}}]}" := by
  apply eq_some_ofList_of_utf8
  decide +kernel

example : renderedNoForwardRefs gE (graphFuel gE) = true ∧
    renderedPcf gE (graphFuel gE) = graphPcf gE (graphFuel gE) :=
  C09_global_eval gE (graphFuel gE) (by decide +kernel) (by decide +kernel)

/-! The bridge for `C09_reparsed_has_same_pcf` (its conclusion speaks of every fuel `≥ n + 2`, `n`
the parser's node-count parameter, a range that may miss `graphFuel`: `NonVacuityE2.lean`,
`gEnum`) is `Theorems.canonicalForm_at_graphFuel_of_large` (`Theorems/GraphFuel.lean`), from
`C19_pcf_stable`. -/

example (S' : SchemaMut) (n : Nat) (text : String)
    (h : ∀ fuel'', n + 2 ≤ fuel'' → canonicalForm S' fuel'' = .ok text) :
    canonicalForm S' (graphFuel S') = .ok text :=
  canonicalForm_at_graphFuel_of_large S' (n + 2) _ h

/-! ## C09 / C19: unnamed cycles - covered case and a case the hypothesis `C 0` excludes -/

/-- the root union leads (through its second branch) into the cycle map → array → map -/
def gCyc : SchemaMut := #[
  ⟨.union [1, 2], none⟩, ⟨.int, none⟩, ⟨.map 3, none⟩, ⟨.array 2, none⟩]

theorem gCyc_closed : UnnamedClosed gCyc (fun k => k = 0 ∨ k = 2 ∨ k = 3) := by
  intro k hk
  rcases hk with rfl | rfl | rfl
  · exact ⟨_, rfl, 2, by decide, Or.inr (Or.inl rfl)⟩
  · exact ⟨_, rfl, Or.inr (Or.inr rfl)⟩
  · exact ⟨_, rfl, Or.inr (Or.inl rfl)⟩

example (fuel : Nat) (j : Json) : renderJson gCyc fuel ≠ .ok j :=
  C09_unnamed_cycle_never_ok gCyc _ gCyc_closed (Or.inl rfl) fuel j

example : renderJson gCyc (graphFuel gCyc) = .error .custom :=
  C09_unnamed_cycle_err_general gCyc _ gCyc_closed (Or.inl rfl) _ (renderBound_le_graphFuel gCyc)

example (fuel : Nat) (t : String) : canonicalForm gCyc fuel ≠ .ok t :=
  C19_pcf_unnamed_cycle_never_ok gCyc _ gCyc_closed (Or.inl rfl) fuel t

/-- GAP: the unnamed cycle (array 1 → array 1) is reached through a record -/
def gRecCyc : SchemaMut := #[
  ⟨.record ⟨"R", "R", none⟩ [("f", 1)], none⟩, ⟨.array 1, none⟩]

theorem gRecCyc_not_covered : ¬ ∃ C, UnnamedClosed gRecCyc C ∧ C 0 := by
  rintro ⟨C, hC, h0⟩
  obtain ⟨node, hn, hm⟩ := hC 0 h0
  obtain rfl : node = ⟨.record ⟨"R", "R", none⟩ [("f", 1)], none⟩ := (Option.some.inj hn).symm
  exact hm

example : renderJson gRecCyc (graphFuel gRecCyc) = .error .custom := by rfl
example : canonicalForm gRecCyc (graphFuel gRecCyc) = .error .custom := by rfl

/-! ## C19: totality on a wild graph, arbitrary states -/

theorem driver_fuel_total (S : SchemaMut) (kept : Bool) :
    canonicalForm S (graphFuel S) ≠ .error .panic ∧
    renderJson S (graphFuel S) ≠ .error .panic ∧
    freeze S kept (graphFuel S) ≠ .error .panic ∧
    checkForCycles S ≠ .error .panic :=
  ⟨C19_pcf_total_at_graphFuel S, C19_render_total_at_graphFuel S,
   C19_freeze_total_at_graphFuel S kept, C19_cyclecheck_total S⟩

/-- shared union (node 1, referenced by `a` and `b`), shared enum, an unnamed cycle map 2 → array 5 → map 2
    reached through the record, a dangling key (field `d` → 9, and array 6 → 11), a logical type on a union (7) -/
def gWild : SchemaMut := #[
  ⟨.record ⟨"R", "R", none⟩ [("a", 1), ("b", 1), ("c", 2), ("d", 9), ("e", 7)], none⟩,
  ⟨.union [3, 4], none⟩,
  ⟨.map 5, none⟩,
  ⟨.int, none⟩,
  ⟨.enum ⟨"x.E", "E", some "x"⟩ ["A"], none⟩,
  ⟨.array 2, none⟩,
  ⟨.array 11, some .uuid⟩,
  ⟨.union [3], some .date⟩]

example : graphFuel gWild = 764 ∧ pcfBound gWild = 433 := by decide +kernel

example : canonicalForm gWild (graphFuel gWild) ≠ .error .panic ∧
    renderJson gWild (graphFuel gWild) ≠ .error .panic ∧
    freeze gWild false (graphFuel gWild) ≠ .error .panic ∧
    checkForCycles gWild ≠ .error .panic := driver_fuel_total gWild false

example : canonicalForm gWild (graphFuel gWild) = .error .custom := by rfl
example : renderJson gWild (graphFuel gWild) = .error .custom := by rfl
example : freeze gWild false (graphFuel gWild) = .error .custom := by rfl
example : freeze gWild true (graphFuel gWild) = .error .custom := by rfl
example : checkForCycles gWild = .ok () := by rfl
/-- a record that contains itself: a proper error, not the out-of-fuel marker -/
example : checkForCycles #[⟨.record ⟨"R", "R", none⟩ [("g", 1), ("f", 0)], none⟩, ⟨.int, none⟩] = .error .cycle := by
  rfl

example : schemaFingerprint gWild (graphFuel gWild) ≠ .error .panic :=
  C19_fingerprint_total_at_graphFuel gWild

example : canonicalForm gWild (graphFuel gWild) = canonicalForm gWild (pcfBound gWild) :=
  C19_pcf_stable_at_graphFuel gWild
example : renderJson gWild (graphFuel gWild) = renderJson gWild (renderBound gWild) :=
  C19_render_stable_at_graphFuel gWild

/-- any state, even a senseless one -/
def stJunk : PcfState := { out := "zz", written := [7, 7, 0, 99], onPath := [(1, 3), (2, 5), (50, 1)] }

example : pcf gWild (graphFuel gWild) 1 stJunk ≠ .error .panic :=
  C19_pcf_total_any_state gWild _ 1 stJunk (pcfBound_le_graphFuel gWild)

example : pcfMeasure gWild stJunk = 42 := by decide +kernel
example : pcf gWild 400 2 stJunk ≠ .error .panic :=
  C19_pcf_total_state gWild 400 2 stJunk (by decide +kernel)

/-- a mid-traversal renderer state: root record written (cell 0 = 1, nWritten = 2), union 1 entered -/
def stMid : RenderState := { gen := [(1, 2), (0, 1)], nWritten := 2 }

theorem stMid_inv : RInv gWild stMid := ⟨by decide, by decide +kernel⟩

example : render gWild 600 2 none stMid ≠ .error .panic :=
  C19_render_total_state gWild 600 2 none stMid stMid_inv (by decide +kernel)

/-! ## C09: local lemmas -/

/-- the odd but well-formed name `a..x` (namespace `a.`, short name `x`) -/
def nmOdd : Name := Name.ofFq "a..x"
/-- a name without namespace whose short name is a type keyword -/
def nmKw : Name := Name.ofFq ".string"

example : nmOdd = ⟨"a..x", "x", some "a."⟩ ∧ nmKw = ⟨"string", "string", none⟩ := by decide +kernel

example : ∃ nm nsAttr, readStr (nameMembers (some "a") nmOdd) "name" = .ok (some nm) ∧
      readStr (nameMembers (some "a") nmOdd) "namespace" = .ok nsAttr ∧
      (defKey nm nsAttr (some "a")).toName = nmOdd :=
  C09_def_spelling_roundtrip nmOdd (C09_ofFq_wf _) (some "a")

example : ∃ nm nsAttr, readStr (nameMembers (some "a") nmKw) "name" = .ok (some nm) ∧
      readStr (nameMembers (some "a") nmKw) "namespace" = .ok nsAttr ∧
      (defKey nm nsAttr (some "a")).toName = nmKw :=
  C09_def_spelling_roundtrip nmKw (C09_ofFq_wf _) (some "a")

example : nameMembers (some "a") nmKw = [("namespace", .str ""), ("name", .str "string")] := by
  rfl

example : (refKey (refString none nmKw) none).toName = nmKw :=
  C09_ref_spelling_roundtrip nmKw (C09_ofFq_wf _) none
example : refString none nmKw = ".string" := by decide +kernel
example : (refKey (refString (some "a.") nmOdd) (some "a.")).toName = nmOdd :=
  C09_ref_spelling_roundtrip nmOdd (C09_ofFq_wf _) (some "a.")
example : refString (some "a.") nmOdd = "x" := by decide +kernel

example (fuel : Nat) : rawOfJson (fuel + 1) (.str (refString none nmKw)) = .ok (.ref (refString none nmKw)) :=
  C09_ref_always_reference nmKw (C09_ofFq_wf _) none fuel

example :
    let ms := typeMembers "record" (some (.decimal 2 10)) ++ nameMembers (some "b") nmOdd ++
      [("fields", .arr [.obj [("name", .str "type"), ("type", .str "int")]])]
    member ms "type" = .ok (some (.str "record")) ∧ logicalOfMembers ms = .ok (some (.decimal 2 10)) ∧
      ∃ nm nsAttr, readStr ms "name" = .ok (some nm) ∧ readStr ms "namespace" = .ok nsAttr ∧
        (defKey nm nsAttr (some "b")).toName = nmOdd :=
  C09_object_roundtrip "record" (some (.decimal 2 10)) (some "b") nmOdd _
    (by intro lt h; cases h; exact ⟨by decide, by decide⟩) (C09_ofFq_wf _)
    (by intro p hp; simp at hp; subst hp; decide)

example : member (typeMembers "fixed" (some (.unknown "my-type"))) "type" = .ok (some (.str "fixed")) ∧
      logicalOfMembers (typeMembers "fixed" (some (.unknown "my-type"))) = .ok (some (.unknown "my-type")) :=
  C09_logical_members_roundtrip "fixed" (some (.unknown "my-type"))
    (by intro lt h; cases h; show "my-type" ∉ knownLogicalNames; decide)

example (fuel : Nat) (ns : Option String) (st : RenderState) :
    render gWild (fuel + 1) 7 ns st = .error .custom :=
  C09_union_logical_err gWild fuel 7 ns st [3] .date rfl


example (fuel : Nat) : render gWild (fuel + 1) 1 none stMid = .error .custom :=
  C09_render_reenter gWild fuel 1 none stMid (by decide +kernel) (by decide +kernel)

example (fuel : Nat) :
    pcf gWild (fuel + 1) 5 { written := [0], onPath := [(5, 2), (2, 2)] } = .error .custom :=
  C19_pcf_reenter gWild fuel 5 _ (by decide +kernel) (by decide +kernel)

/-! ## C19 -> C04, C10 freeze protocol (error path) -/

/-- freeze OK gives the C04 hypothesis on the very array the driver deserializes with -/
theorem frozen_no_panic (S : SchemaMut) (kept : Bool) (gfuel : Nat) (F : Schema)
    (h : freeze S kept gfuel = .ok F)
    (ext : DeExt) (cfg : DeConfig) (fuel k : Nat) (node : Node) (hk : F[k]? = some node)
    (depth : Nat) (favor : Bool) (hint : Hint) (hf : fuelBound cfg F hint depth ≤ fuel) (s : RState) :
    F = freezeNodes S ∧ (de ext cfg F fuel node depth favor hint s).1 ≠ .error .panic :=
  ⟨(freeze_ok S kept gfuel F h).1,
   C04_no_panic_root ext cfg F (C19_frozen_usable S kept gfuel F h).1 fuel k node hk depth favor hint hf s⟩

/-- the same chain entirely at the driver's fuels: `freeze` at `graphFuel`, `de` at `deFuel`
    (`C04_no_panic_at_deFuel`, `Theorems/C04fuel.lean`) — no fuel hypothesis left -/
theorem frozen_no_panic_at_driver_fuels (S : SchemaMut) (kept : Bool) (F : Schema)
    (h : freeze S kept (graphFuel S) = .ok F)
    (ext : DeExt) (cfg : DeConfig) (k : Nat) (node : Node) (hk : F[k]? = some node)
    (depth : Nat) (favor : Bool) (hint : Hint) (s : RState) :
    (de ext cfg F (deFuel cfg F hint depth s.rest.length) node depth favor hint s).1 ≠ .error .panic :=
  C04_no_panic_at_deFuel ext cfg F (C19_frozen_usable S kept _ F h).1 k node hk depth favor hint _ s

theorem freeze_of (S : SchemaMut) (fuel : Nat) (t : String) (j : Json) (h0 : S.size ≠ 0)
    (h1 : canonicalForm S fuel = .ok t) (h2 : renderJson S fuel = .ok j)
    (h3 : S.keysInBounds = true) (kept : Bool) : freeze S kept fuel = .ok (freezeNodes S) := by
  unfold freeze
  cases kept <;> simp [h0, h1, h2, h3]

theorem gE_freeze : freeze gE false (graphFuel gE) = .ok (freezeNodes gE) := by
  obtain ⟨_, text, _, h1⟩ := C09_render_has_graph_pcf gE (graphFuel gE) jE gE_wf gE_render
  exact freeze_of gE _ _ _ (by decide) (h1 _ (Nat.le_refl _)) gE_render (by decide +kernel) false

example : (freezeNodes gE).keysInBounds = true ∧ (freezeNodes gE).size = gE.size ∧ 0 < (freezeNodes gE).size :=
  C19_frozen_usable gE false (graphFuel gE) _ gE_freeze

example (ext : DeExt) (s : RState) :
    (de ext {} (freezeNodes gE) (fuelBound {} (freezeNodes gE) .any 64)
      (.record ⟨"ns.Node", "Node", some "ns"⟩
        [("value", 1), ("next", 2), ("color", 3), ("more", 4), ("top", 6), ("top2", 6), ("box", 7)])
      64 false .any s).1 ≠ .error .panic :=
  (frozen_no_panic gE false (graphFuel gE) _ gE_freeze ext {} _ 0 _ (by decide +kernel) 64 false .any (Nat.le_refl _) s).2

example (ext : DeExt) (s : RState) :
    (de ext {} (freezeNodes gE) (deFuel {} (freezeNodes gE) .any 64 s.rest.length)
      (.record ⟨"ns.Node", "Node", some "ns"⟩
        [("value", 1), ("next", 2), ("color", 3), ("more", 4), ("top", 6), ("top2", 6), ("box", 7)])
      64 false .any s).1 ≠ .error .panic :=
  frozen_no_panic_at_driver_fuels gE false _ gE_freeze ext {} 0 _ (by decide +kernel) 64 false .any s

/-- a dangling key at node 2 (second child): phase 1 aborts there -/
def gDangling : SchemaMut := #[
  ⟨.record ⟨"R", "R", none⟩ [("a", 1), ("b", 2)], none⟩,
  ⟨.union [3, 0], none⟩,
  ⟨.record ⟨"Q", "Q", none⟩ [("x", 3), ("y", 7), ("z", 1)], none⟩,
  ⟨.null, none⟩]

example : trace gDangling =
    [.alloc 4, .mkRef 1, .mkRef 2, .write 1 0, .mkRef 3, .mkRef 0, .write 1 1, .mkRef 3, .ret false] := by
  decide +kernel

example : ∃ j, j ≤ gDangling.size ∧
    (trace gDangling).filterMap (fun e => match e with | .write 1 i => some i | _ => none) = List.range j :=
  (C10_error_path_droppable gDangling).1 (by decide +kernel)

example : ∃ j, j < gDangling.size ∧ (trace gDangling).filterMap Avro.Lemmas.Freeze.w1idx = List.range j :=
  C10_error_path_proper_prefix gDangling (by decide) (by decide +kernel)

example : ∀ k, Ev.mkRef k ∈ trace gDangling → k < 4 := C10_refs_in_bounds gDangling

/-! ## C10: freeze protocol (phase 2) and lifetimes -/

def gUnions : SchemaMut := #[
  ⟨.record ⟨"R", "R", none⟩ [("a", 1), ("b", 2), ("c", 1)], none⟩,
  ⟨.union [3, 0], none⟩,
  ⟨.array 4, none⟩,
  ⟨.null, none⟩,
  ⟨.union [3, 2, 5], some .date⟩,
  ⟨.fixed ⟨"F", "F", none⟩ 12, some .duration⟩]

theorem gUnions_trace : trace gUnions =
    [.alloc 6, .mkRef 1, .mkRef 2, .mkRef 1, .write 1 0, .mkRef 3, .mkRef 0, .write 1 1, .mkRef 4,
     .write 1 2, .write 1 3, .mkRef 3, .mkRef 2, .mkRef 5, .write 1 4, .write 1 5,
     .readKind 3, .readKind 0, .write 2 1, .readKind 3, .readKind 2, .readKind 5, .write 2 4,
     .ret true] := by decide +kernel

example : ∃ rest, initialisedBefore (trace gUnions) 20 = List.range gUnions.size ++ rest :=
  C10_reads_after_all_init gUnions 20 2 (by decide +kernel)

example : 0 ∈ initialisedBefore (trace gUnions) 17 :=
  C10_no_read_before_init gUnions 17 0 (by decide +kernel)

example : ∃ vs pre, 4 < gUnions.size ∧ gUnions[4]?.map freezeNode = some (.union vs) ∧
    (trace gUnions).take 22 = pre ++ vs.map Ev.readKind ∧
    (∀ e, pre.getLast? = some e → ∀ j, e ≠ .readKind j) :=
  C10_phase2_writes_only_unions gUnions 22 4 (by decide +kernel)

example : 15 < 16 :=
  C10_no_read_before_last_write1 gUnions 16 15 3 5 (by decide +kernel) (by decide +kernel)

example : (trace gUnions).filterMap (fun e => match e with | .write 1 i => some i | _ => none)
    = List.range gUnions.size :=
  (C10_error_path_droppable gUnions).2 (by decide +kernel)

example : ∀ i, Ev.readKind i ∈ trace gUnions → i < 6 := C10_reads_in_bounds gUnions

example : ∀ (i : Nat) (n : RawNode), gUnions[i]? = some n → ∀ k ∈ (freezeNode n).children, k < gUnions.size :=
  C10_phase1_ok_keys_in_bounds gUnions (by decide +kernel)

def hist : List Op :=
  [.newSchema, .cloneArc 0, .dropHandle 0, .useHandle 1, .openReader, .readerSchema 0,
   .readNext 0, .dropReader 0, .useHandle 2, .readNext 0, .dropHandle 1]

example : (run hist).allocs = [{ strong := 0, freed := true }, { strong := 1, freed := false }] ∧
    (run hist).handles = [none, none, some 1] ∧
    (run hist).readers = [{ schema := 1, stateAlive := false, arcHeld := false }] := by
  decide +kernel

example : Inv (run hist) := C10_inv_run hist
example : (∀ (a : Nat) (al : Alloc), (run hist).allocs[a]? = some al →
          al.strong = (run hist).handles.count (some a) +
              (run hist).readers.countP (fun r => r.arcHeld && r.schema == a) ∧
          (al.freed = true ↔ al.strong = 0)) ∧
       (∀ r ∈ (run hist).readers, r.stateAlive = true → r.arcHeld = true) ∧
       (∀ a : Nat, some a ∈ (run hist).handles → a < (run hist).allocs.length) ∧
       (∀ r ∈ (run hist).readers, r.schema < (run hist).allocs.length) :=
  (C10_inv_spelled_out _).mp (C10_inv_run hist)
example : (run hist).useAfterFree = false := C10_no_use_after_free hist

example : ∃ al, (run hist).allocs[1]? = some al ∧ 1 ≤ al.strong ∧ al.freed = false :=
  C10_handle_keeps_schema_alive hist 1 (by decide +kernel)

/-- the user drops every handle it got from the reader; the reader goes on reading -/
def hist2 : List Op :=
  [.openReader, .readerSchema 0, .cloneArc 0, .dropHandle 0, .dropHandle 1, .readNext 0]

example : (run hist2).allocs = [{ strong := 1, freed := false }] := by decide +kernel

example : ∃ al, (run hist2).allocs[0]? = some al ∧ 1 ≤ al.strong ∧ al.freed = false :=
  C10_reader_keeps_schema_alive hist2 ⟨0, true, true⟩ (by decide +kernel) rfl

/-- with the wrong drop order the model records a use after free when a reader is dropped (second
    history) and not before (`hist2` never drops its reader) -/
example : (List.foldl stepWrongOrder {} hist2).useAfterFree = false := by decide +kernel
example : (List.foldl stepWrongOrder {}
    [.openReader, .readerSchema 0, .dropHandle 0, .dropReader 0]).useAfterFree = true := by decide +kernel

end Avro.NonVacuityE
