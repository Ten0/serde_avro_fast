import AvroModel.Theorems.C01glue
import AvroModel.Theorems.C03typed
import AvroModel.Theorems.C12canon
/-
C01 — the typed round trip, as a closed corollary.

`C01_roundtrip_impl` (Theorems/C01glue.lean) reads what the serializer wrote with the
self-describing target (`.any`).  Here: ANY typed target `h` (scalars with coercions, `Option`,
`Vec`, tuples, maps, structs with a subset of the fields in any order, enums, identifiers,
`IgnoredAny`, nested).  Composition of
  * `C01_ser_canonical`      the serializer writes `Spec.encode S node v` for a denoted `v`;
  * `C12_canonical_is_exact` a canonical encoding is a valid layout with exact block sizes;
  * `C03_typed_value`        on such a layout a typed read that succeeds returns a value
                             `consistent` with `Spec.observe S node v` and consumes the datum.
Only successful typed runs are looked at, so the depth / `max_seq_size` / fuel conditions of
`C01_roundtrip_impl` are NOT needed (any `cfg`, `depth`, `fuel`, `favor`).
-/
namespace Avro.Theorems
open Avro Avro.Impl Avro.Spec

/-- **C01, typed round trip, sharp form.**  No hypothesis on decimals over `fixed` in the schema:
    the condition is stated on the written value, `Spec.decFits Limits.impl S node v` (every decimal
    of `v` occupies at most 16 bytes), which is exactly what makes the canonical encoding a layout
    the implementation's limits accept (`C12_canonical_exact_iff`). -/
theorem C01_roundtrip_typed_sharp (f : Canon.Allow) (ext : Ext) (allowSlow : Bool)
    (S : Schema) (node : Node) (sv : SV) (s₀ : SerState)
    (hok : (ser ext allowSlow S node sv s₀).1 = .ok ())
    (hs : Good s₀) (hS : SchemaOK S) (hnode : NodeOK S node) (hsv : svOK sv = true)
    (hext : ExtOK ext)
    (hcanon : Canon.svCanon f sv = true)
    (hallowS : ∀ (k : Nat) (n : Node), S[k]? = some n → Canon.nodeAllows f n = true)
    (hallowN : Canon.nodeAllows f node = true) :
    ∃ s' bytes v, ser ext allowSlow S node sv s₀ = (.ok (), s') ∧ s'.out = s₀.out ++ bytes ∧
      Spec.encode S node v = some bytes ∧
      Spec.denotes (denExtOf ext) S node sv v = true ∧
      ∀ (o : Out), Spec.observe S node v = some o → Spec.decFits Limits.impl S node v = true →
        ∀ (cfg : DeConfig) (depth fuel : Nat) (favor : Bool) (h : Hint) (rest : Bytes)
          (r r' : RState) (o' : Out),
          r.isSlice = true → r.limit = none → r.avail = 0 → r.rest = bytes ++ rest →
          de deExtModel cfg S fuel node depth favor h r = (.ok o', r') →
          consistent o' o ∧ r' = { r with rest := rest } ∧ r'.rest = rest := by
  obtain ⟨s', v, bytes, hrun, hout, _, henc, hden⟩ :=
    C01_ser_canonical f ext allowSlow S node sv s₀ hok hs hS hnode hsv hext hcanon hallowS hallowN
  refine ⟨s', bytes, v, hrun, hout, henc, hden, ?_⟩
  intro o hobs hfit cfg depth fuel favor h rest r r' o' hsl hl ha hr hde
  have hx := C12_canonical_is_exact_fits S node v bytes rest henc hfit (Spec.size v) (Nat.le_refl _)
  obtain ⟨hc, hst⟩ := C03_typed_value cfg S node h v (bytes ++ rest) rest o depth (Spec.size v) fuel
    favor hx hobs r r' o' hsl hl ha hr hde
  exact ⟨hc, hst, by rw [hst]⟩

/-- **C01, typed round trip.**  Under the hypotheses of `C01_roundtrip_impl`: the serializer
    succeeds, writes the canonical encoding `bytes` of a value `v` the presentation denotes, and
    for every request `h` (and every configuration, depth budget, fuel, `favor` flag), every slice
    state positioned on `bytes ++ rest`: if the typed read succeeds, what it returns is consistent
    with `Spec.observe S node v` (what was written, as `deserialize_any` shows it), and it ends in
    the state `{ r with rest := rest }`: exactly the datum has been consumed, nothing else
    changed. -/
theorem C01_roundtrip_typed (f : Canon.Allow) (ext : Ext) (allowSlow : Bool)
    (S : Schema) (node : Node) (sv : SV) (s₀ : SerState)
    (hok : (ser ext allowSlow S node sv s₀).1 = .ok ())
    (hs : Good s₀) (hS : SchemaOK S) (hnode : NodeOK S node) (hsv : svOK sv = true)
    (hext : ExtOK ext)
    (hcanon : Canon.svCanon f sv = true)
    (hallowS : ∀ (k : Nat) (n : Node), S[k]? = some n → Canon.nodeAllows f n = true)
    (hallowN : Canon.nodeAllows f node = true)
    (hfixS : Schema.fixedDecFits S) (hfixN : node.fixedDecFits = true) :
    ∃ s' bytes v, ser ext allowSlow S node sv s₀ = (.ok (), s') ∧ s'.out = s₀.out ++ bytes ∧
      Spec.encode S node v = some bytes ∧
      Spec.denotes (denExtOf ext) S node sv v = true ∧
      ∀ (o : Out), Spec.observe S node v = some o →
        ∀ (cfg : DeConfig) (depth fuel : Nat) (favor : Bool) (h : Hint) (rest : Bytes)
          (r r' : RState) (o' : Out),
          r.isSlice = true → r.limit = none → r.avail = 0 → r.rest = bytes ++ rest →
          de deExtModel cfg S fuel node depth favor h r = (.ok o', r') →
          consistent o' o ∧ r' = { r with rest := rest } ∧ r'.rest = rest := by
  obtain ⟨s', bytes, v, hrun, hout, henc, hden, hde⟩ :=
    C01_roundtrip_typed_sharp f ext allowSlow S node sv s₀ hok hs hS hnode hsv hext hcanon hallowS
      hallowN
  refine ⟨s', bytes, v, hrun, hout, henc, hden, ?_⟩
  intro o hobs
  have hfix : Spec.fixedDecOk S node v = true :=
    fixedDecOk_of_schema S hfixS _ v (Nat.le_refl _) node hfixN
  exact hde o hobs (Spec.decFits_impl_of_observe S node v (by rw [hobs]; rfl) hfix)

/-- The same with the limits on the presentation, closed form on the default slice state: if every
    denoted value is observable, there is a written value `v` with observation `o` such that every
    successful typed read of `bytes ++ rest` returns something consistent with `o` and leaves
    exactly `rest`. -/
theorem C01_roundtrip_typed_closed (f : Canon.Allow) (ext : Ext) (allowSlow : Bool)
    (S : Schema) (node : Node) (sv : SV) (s₀ : SerState)
    (hok : (ser ext allowSlow S node sv s₀).1 = .ok ())
    (hs : Good s₀) (hS : SchemaOK S) (hnode : NodeOK S node) (hsv : svOK sv = true)
    (hext : ExtOK ext)
    (hcanon : Canon.svCanon f sv = true)
    (hallowS : ∀ (k : Nat) (n : Node), S[k]? = some n → Canon.nodeAllows f n = true)
    (hallowN : Canon.nodeAllows f node = true)
    (hfixS : Schema.fixedDecFits S) (hfixN : node.fixedDecFits = true)
    (hobsAll : ∀ v, Spec.denotes (denExtOf ext) S node sv v = true →
      (Spec.observe S node v).isSome = true) :
    ∃ s' bytes v o, ser ext allowSlow S node sv s₀ = (.ok (), s') ∧ s'.out = s₀.out ++ bytes ∧
      Spec.denotes (denExtOf ext) S node sv v = true ∧ Spec.observe S node v = some o ∧
      ∀ (cfg : DeConfig) (depth fuel : Nat) (favor : Bool) (h : Hint) (rest : Bytes)
        (r' : RState) (o' : Out),
        de deExtModel cfg S fuel node depth favor h { rest := bytes ++ rest } = (.ok o', r') →
        consistent o' o ∧ r' = { rest := rest } := by
  obtain ⟨s', bytes, v, hrun, hout, _, hden, hde⟩ :=
    C01_roundtrip_typed f ext allowSlow S node sv s₀ hok hs hS hnode hsv hext hcanon hallowS hallowN
      hfixS hfixN
  obtain ⟨o, ho⟩ := Option.isSome_iff_exists.1 (hobsAll v hden)
  refine ⟨s', bytes, v, o, hrun, hout, hden, ho, ?_⟩
  intro cfg depth fuel favor h rest r' o' hrd
  obtain ⟨hc, hst, _⟩ := hde o ho cfg depth fuel favor h rest { rest := bytes ++ rest } r' o'
    rfl rfl rfl rfl hrd
  exact ⟨hc, hst⟩

/-! ### Non-vacuity: `record T { s : string, a : array<long> }` read into typed structs -/

namespace C01typed
open C01glue

def nmT : Name := { fq := "T", short := "T", ns := none }

/-- `record T { s : string, a : array<long> }` -/
def Sy : Schema := #[.record nmT [("s", 1), ("a", 2)], .string, .array 3, .long]

def nodeT : Node := .record nmT [("s", 1), ("a", 2)]

/-- `T { a: vec![1i64, -3], s: "x" }`, `a` presented first (it is buffered) -/
def svT : SV := .struct "T" [("a", .seq (some 2) [.int .i64 1, .int .i64 (-3)]), ("s", .str "x")]

def vT : Value := .record [.string "x", .array [.long 1, .long (-3)]]

/-- what `deserialize_any` shows of `vT` -/
def oT : Out := .map [(.str "s" false, .str "x" true), (.str "a" false, .seq [.i64 1, .i64 (-3)])]

/-- the Rust target `struct T { a: (i64, i64), s: Option<String> }` (a tuple request over the array,
    an `Option` over the string, fields in another order than the schema) -/
def hintT : Hint := .struct [("a", .tuple 2 .i64), ("s", .option .str)]

/-- the Rust target `struct T { a: Vec<i64> }`: `s` is skipped -/
def hintT' : Hint := .struct [("a", .seq .i64)]

theorem Sy_ok : SchemaOK Sy :=
  SchemaOK.of_checks (by decide +kernel) (by decide +kernel) (by decide +kernel) (by decide +kernel)

theorem nodeT_ok : NodeOK Sy nodeT :=
  NodeOK.of_check (by decide +kernel)

theorem Sy_allows (f : Canon.Allow) (h : f.openSeq = false) :
    ∀ (k : Nat) (n : Node), Sy[k]? = some n → Canon.nodeAllows f n = true := by
  intro k n hk
  have : Canon.schemaAllows f Sy = true := by simp [Canon.schemaAllows, Sy, Canon.nodeAllows, h]
  exact all_of_getElem? this hk

theorem Sy_fixedDecFits : Schema.fixedDecFits Sy := by
  intro k n hk
  have : Sy.all Node.fixedDecFits = true := by decide +kernel
  exact all_of_getElem? this hk

theorem svT_run : (ser ext1 false Sy nodeT svT {}).2.out = [2, 120, 4, 2, 5, 0] := by
  decide +kernel

theorem vT_encode : Spec.encode Sy nodeT vT = some [2, 120, 4, 2, 5, 0] := by
  decide +kernel

theorem vT_observe : Spec.observe Sy nodeT vT = some oT := by rfl

/-- the typed reads of the example succeed: the premise of the theorem is satisfiable -/
theorem hintT_run :
    de deExtModel {} Sy 50 nodeT 64 false hintT { rest := [2, 120, 4, 2, 5, 0] ++ [0x2a] } =
      (.ok (.map [(.str "s" false, .some (.str "x" true)),
                  (.str "a" false, .seq [.i64 1, .i64 (-3)])]), { rest := [0x2a] }) :=
  NVB.resEq_of (by decide +kernel)

theorem hintT'_run :
    de deExtModel {} Sy 50 nodeT 64 false hintT' { rest := [2, 120, 4, 2, 5, 0] ++ [0x2a] } =
      (.ok (.map [(.str "s" false, .unit), (.str "a" false, .seq [.i64 1, .i64 (-3)])]),
        { rest := [0x2a] }) :=
  NVB.resEq_of (by decide +kernel)

/-- **`C01_roundtrip_typed` on the example, every hypothesis discharged** (`negInt`: the negative
    `-3` is permitted since the schema has no `decimal`).  The bytes are `[2,120, 4,2,5,0]`, the
    value is `vT` (the canonical encoding determines it), so: every typed read (any request, any
    configuration, depth, fuel, `favor`) of what `ser` wrote followed by `rest`, if it succeeds,
    returns something consistent with `oT` and ends exactly on `rest`. -/
theorem C01_roundtrip_typed_example :
    ∃ s', ser ext1 false Sy nodeT svT {} = (.ok (), s') ∧ s'.out = [2, 120, 4, 2, 5, 0] ∧
      Spec.denotes (denExtOf ext1) Sy nodeT svT vT = true ∧
      ∀ (cfg : DeConfig) (depth fuel : Nat) (favor : Bool) (h : Hint) (rest : Bytes)
        (r' : RState) (o' : Out),
        de deExtModel cfg Sy fuel nodeT depth favor h { rest := s'.out ++ rest } = (.ok o', r') →
        consistent o' oT ∧ r' = { rest := rest } := by
  obtain ⟨s', bytes, v, hrun, hout, henc, hden, hde⟩ :=
    C01_roundtrip_typed { negInt := true } ext1 false Sy nodeT svT {} (by rfl) good_empty Sy_ok
      nodeT_ok (by decide) ext1_ok (by decide) (Sy_allows _ rfl) (by decide) Sy_fixedDecFits
      (by decide)
  have hb : bytes = [2, 120, 4, 2, 5, 0] := by
    have := svT_run
    rw [hrun] at this
    simpa [hout] using this
  subst hb
  have hv : v = vT := encode_injective henc vT_encode
  subst hv
  have hout' : s'.out = [2, 120, 4, 2, 5, 0] := by simpa using hout
  refine ⟨s', hrun, hout', hden, ?_⟩
  intro cfg depth fuel favor h rest r' o' hrd
  rw [hout'] at hrd
  obtain ⟨hc, hst, _⟩ := hde oT vT_observe cfg depth fuel favor h rest _ r' o' rfl rfl rfl rfl hrd
  exact ⟨hc, hst⟩

/-- … and what it says about the two actual runs: `Some("x")` against the self-describing `"x"`,
    a skipped field (`unit`) against `"x"`; both end on the trailing byte. -/
example :
    consistent (.map [(.str "s" false, .some (.str "x" true)),
                      (.str "a" false, .seq [.i64 1, .i64 (-3)])]) oT ∧
    consistent (.map [(.str "s" false, .unit), (.str "a" false, .seq [.i64 1, .i64 (-3)])]) oT := by
  obtain ⟨s', _, hout, _, h⟩ := C01_roundtrip_typed_example
  have h1 := h {} 64 50 false hintT [0x2a] _ _ (by rw [hout]; exact hintT_run)
  have h2 := h {} 64 50 false hintT' [0x2a] _ _ (by rw [hout]; exact hintT'_run)
  exact ⟨h1.1, h2.1⟩

/-- `consistent` is not trivial here: a wrong array element is not consistent with `oT` -/
example : ¬ consistent (.map [(.str "s" false, .unit), (.str "a" false, .seq [.i64 1, .i64 3])]) oT := by
  simp [consistent, consistentM, consistentL, oT]

end C01typed

end Avro.Theorems
