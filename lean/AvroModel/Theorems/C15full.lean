import AvroModel.Theorems.C15
import AvroModel.Theorems.C15general
import AvroModel.Theorems.C15real
/-
C15 — container writer, all parts together: the refinement to the abstract writer, for histories
whose pushes carry a count ≥ 1 (`C15.lean`); any history, with what is lost characterised exactly
(`C15general.lean`); the failed-value step tied to the real serializer model (`C15real.lean`).
-/
