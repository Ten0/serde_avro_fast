import AvroModel.Theorems.C05
import AvroModel.Theorems.C17stream
import AvroModel.Theorems.C01glue
/-
C05 (write, then read) with the REAL datum deserializer.

The round-trip theorems of `Theorems/C05.lean`, `C06.lean` and `C17.lean` are stated for an ABSTRACT
datum deserializer under `DatumOk enc datum` (C17) resp. `DatumOkR enc datum` (C05, the back-end over
a decompressed block).  Both quantify over EVERY state of the back-end, which the real model
`de deExtModel cfg S fuel node depth false .any` does NOT satisfy (head of `Theorems/C17stream.lean`,
`datumOk_needs_no_limit`; on the reader back-end also any datum longer than `maxAlloc`), and they ask
for the value itself where `de` returns an OBSERVATION `Out` of a `Spec.Value`: nothing follows from
those theorems about `de`.  (`C05_roundtrip_codec`, one compressed block entered and left, has no datum
hypothesis.)

Here the writer half (`wrun_partition`) is composed with the read side for the real `de` under a state
invariant (`KOk` / `BOk`) and values `GoodVal`:
* `C05_roundtrip_null_real` is the statement about `de` of `C05_roundtrip_null_slice`: slice back-end
  (values exactly) and a streaming reader under any refill schedule (values up to `unborrow`);
* `C05_roundtrip_codec_real_sealed`, `C05_roundtrip_codec_real` of `C05_roundtrip_codec_file`: abstract
  codec (law L1 a hypothesis), `de` on the decompressed block;
* `Theorems/C06real.lean` of `C06_reads_any_partition`, `C06_reads_single_block`;
  `C17_yields_prefix_null_slice_de` (`C17stream.lean`) of `C17_yields_prefix_null`.
How the vocabularies relate: head of `Lemmas/CutClassOcf.lean`.

What is written: a successful `serialize` call appends the canonical encoding
`encD S node v = Spec.encode S node v`; that this is what the real serializer model writes is
`C01_ser_canonical` (`Theorems/C01glue.lean`), restated here as `C05_real_datum_bytes`.
-/
namespace Avro.Theorems
open Avro Avro.Impl Avro.Impl.Ocf Avro.Theorems.Real

/-! ### Count and bytes of a block of values -/

section Writer
variable {V : Type} (enc : V → Bytes)

theorem cntOf_map_entryOfVal (vs : List V) : cntOf (vs.map (entryOfVal enc)) = vs.length :=
  congrArg Prod.fst (blockOf_map_entryOfVal enc vs)

theorem bufOf_map_entryOfVal (vs : List V) : bufOf (vs.map (entryOfVal enc)) = blockData enc vs :=
  congrArg Prod.snd (blockOf_map_entryOfVal enc vs)

end Writer

/-! ### Null codec -/

/-- **Reading a whole well-formed file (null codec) with the real datum deserializer**, in the
    vocabulary of `C05.lean` / `C06.lean`: the two truncation theorems of `C17stream.lean` at the
    full length.  Slice back-end: exactly the observations, then end of stream.  Streaming reader,
    any refill schedule, allocation cap at least the length of the file: the same up to the
    `borrowed` flags. -/
theorem C05_reads_whole_file_real (d : Decomp) (hn : d.isNull = true)
    (cfg : DeConfig) (S : Schema) (node : Node) (depth fuel : Nat)
    (sync : Bytes) (hsy : sync.length = 16)
    (blocks : List (List Spec.Value)) (hbs : ∀ b ∈ blocks, BlockOk (encD S node) b)
    (hgood : ∀ v ∈ blocks.flatten, GoodVal cfg S node depth fuel v) :
    let enc := encD S node
    let datum := de deExtModel cfg S fuel node depth false .any
    let file := fileBody enc sync blocks
    let N := blocks.flatten.length
    readAll d datum (N + 1) (openSlice sync file) = (blocks.flatten.map (obsD S node), .eos) ∧
    ∀ (sched : List Nat) (lastChunk M : Nat), file.length ≤ M →
      (readAll d datum (N + 1) (Stream.openReader sync file sched lastChunk M)).1.map unborrow
          = blocks.flatten.map (fun v => unborrow (obsD S node v)) ∧
      (readAll d datum (N + 1) (Stream.openReader sync file sched lastChunk M)).2 = .eos := by
  intro enc datum file N
  constructor
  · have hs := (C17_yields_prefix_null_slice_de d hn cfg S node depth fuel sync hsy blocks hbs hgood
      (Stream.fileBody enc sync blocks).length).2.2 (Nat.le_refl _)
    rw [List.take_of_length_le (Nat.le_refl _)] at hs
    exact readAll_of_stream hs
  · intro sched lastChunk M hM
    have hr := (C17_yields_prefix_null_stream d hn cfg S node depth fuel sync hsy blocks hbs hgood
      (Stream.fileBody enc sync blocks).length sched lastChunk M
      (by rw [List.take_of_length_le (Nat.le_refl _)]; exact hM)).2.2 (Nat.le_refl _)
    rw [List.take_of_length_le (Nat.le_refl _)] at hr
    rw [readAll_fst_stream]
    exact ⟨hr.1, readAll_snd_eos_of_stream hr.2⟩

/-- **C05 (write then read, null codec, the real datum deserializer).**
    The statement of `C05_roundtrip_null_slice` with `datum := de deExtModel cfg S fuel node depth
    false .any`, the serializer side writing the canonical encodings `encD S node v`.

    A freshly built writer `w` (`Rep c hdr sync approx {} w`: the sink holds the header, nothing
    else happened; the sink accepts everything) is driven through any history `ops` of values that
    serialize (`write v`, to `encD S node v`), values that fail, and explicit `finish_block`s,
    closed by `finish_block`, `into_inner` or `Drop`.  Every value written is `GoodVal` (it
    conforms to the node, is observable, within the depth / `max_seq_size` / fuel budgets).  Then:
    * every call returned `Ok`, except the failing values which returned their error;
    * the sink holds `hdr` followed by `fileBody (encD S node) sync blocks` for some partition
      `blocks` of the values written successfully, in order, no block empty;
    * SLICE back-end: the reader opened on the bytes after the header yields exactly
      `observe v` for every value written, in order, then end of stream, within `N + 1` calls;
    * READER back-end: a streaming reader over the same bytes, under ANY refill schedule
      (`sched`, then `lastChunk` for ever) and any allocation cap `M` at least the length of the
      body, yields the same values up to the `borrowed` flags (`unborrow`: the reader copies where
      the slice lends, C11), then end of stream. -/
theorem C05_roundtrip_null_real (c : Codec) (hc : c.isNull = true) (d : Decomp)
    (hn : d.isNull = true) (cfg : DeConfig) (S : Schema) (node : Node) (depth fuel : Nat)
    (dbg : Bool) (hdr sync : Bytes) (hsy : sync.length = 16) (approx : Nat)
    (ops : List (VOp Spec.Value)) (fin : WOp)
    (hfin : fin = .finishBlock ∨ fin = .intoInner ∨ fin = .drop)
    (w : WState) (h0 : Rep c hdr sync approx {} w)
    (hgood : ∀ v ∈ valuesOf ops, GoodVal cfg S node depth fuel v)
    (hcount : (valuesOf ops).length < 2 ^ 63)
    (hsize : (blockData (encD S node) (valuesOf ops)).length < 2 ^ 63) :
    let enc := encD S node
    let datum := de deExtModel cfg S fuel node depth false .any
    let run := wrun c dbg w (ops.map (VOp.toWOp enc) ++ [fin])
    let body := run.2.sink.data.drop hdr.length
    let N := (valuesOf ops).length
    run.1 = (ops.map (VOp.toWOp enc) ++ [fin]).map expected ∧
    (∃ blocks : List (List Spec.Value), blocks.flatten = valuesOf ops ∧ (∀ b ∈ blocks, b ≠ []) ∧
        run.2.sink.data = hdr ++ fileBody enc sync blocks) ∧
    readAll d datum (N + 1) (openSlice sync body) = ((valuesOf ops).map (obsD S node), .eos) ∧
    ∀ (sched : List Nat) (lastChunk M : Nat), body.length ≤ M →
      (readAll d datum (N + 1) (Stream.openReader sync body sched lastChunk M)).1.map unborrow
          = (valuesOf ops).map (fun v => unborrow (obsD S node v)) ∧
      (readAll d datum (N + 1) (Stream.openReader sync body sched lastChunk M)).2 = .eos := by
  intro enc datum run body N
  obtain ⟨hres, B, hBflat, hne, _, hsink⟩ :=
    wrun_partition enc c dbg hdr sync approx ops fin hfin w h0
  rw [blocksBytes_eq_fileBody enc c hc] at hsink
  have hok : ∀ b ∈ B, BlockOk enc b :=
    blockOk_of_total enc B (by rw [hBflat]; exact hcount) (by rw [hBflat]; exact hsize)
  have hgoodB : ∀ v ∈ B.flatten, GoodVal cfg S node depth fuel v := by rw [hBflat]; exact hgood
  have hbody : body = fileBody enc sync B := by
    show List.drop hdr.length (wrun c dbg w (ops.map (VOp.toWOp enc) ++ [fin])).2.sink.data = _
    rw [hsink, List.drop_left]
  have hN : N = B.flatten.length := by rw [hBflat]
  obtain ⟨hs, hr⟩ := C05_reads_whole_file_real d hn cfg S node depth fuel sync hsy B hok hgoodB
  refine ⟨hres, ⟨B, hBflat, hne, hsink⟩, ?_, ?_⟩
  · rw [hbody, hN, ← hBflat]; exact hs
  · intro sched lastChunk M hM
    rw [hbody] at hM ⊢
    rw [hN, ← hBflat]
    exact hr sched lastChunk M hM

/-! ### An abstract codec (law L1 a hypothesis), the real `de` on the decompressed block -/

/-- the allocation cap a decompressed block's back-end is given (`plainReader`, `Impl/Ocf.lean`:
    the default `max_alloc`, 512 MiB) -/
def blockAllocCap : Nat := 536870912

theorem kOk_plainReader (plain : Bytes) (h : plain.length ≤ blockAllocCap) :
    Stream.KOk false blockAllocCap (plainReader plain 8192) :=
  Stream.KOk.ofBOk ⟨rfl, rfl, Nat.zero_le _, rfl, h⟩

/-- **C05 (write then read, abstract codec, the real datum deserializer) - hypotheses on the blocks
    actually sealed.**  Writer codec `c` and reader codec `d`, neither null nor snappy, related by
    law L1 `d.decompress (c.compress x) = some x` (a HYPOTHESIS); file read through the slice
    back-end, each block decompressed as a whole and handed to `de` through
    `plainReader plain 8192` (a reader back-end: `isSlice = false`, no `Take`, allocation cap
    `blockAllocCap`).  The values come back up to the `borrowed` flags (`unborrow`): a reader
    back-end copies strings and byte strings.
    Hypotheses on every block `es` that the writer sealed (`arun … .sealed`, the abstract writer of
    `Lemmas/OcfWriter.lean`; `cntOf es` its number of values, `bufOf es` its uncompressed data):
    the count and the compressed size fit an `i64`, and the UNCOMPRESSED data is at most
    `blockAllocCap` bytes long - the invariant `BOk` under which `de` is known to accept an
    encoding on a reader back-end (`C17_datum_cut_reader`) asks what is left to be within the
    allocation cap. -/
theorem C05_roundtrip_codec_real_sealed (c : Codec) (hc : c.isNull = false) (d : Decomp)
    (hnn : d.isNull = false) (hns : d.isSnappy = false)
    (hL1 : ∀ x, d.decompress (c.compress x) = some x)
    (cfg : DeConfig) (S : Schema) (node : Node) (depth fuel : Nat)
    (dbg : Bool) (hdr sync : Bytes) (hsy : sync.length = 16) (approx : Nat)
    (ops : List (VOp Spec.Value)) (fin : WOp)
    (hfin : fin = .finishBlock ∨ fin = .intoInner ∨ fin = .drop)
    (w : WState) (h0 : Rep c hdr sync approx {} w)
    (hgood : ∀ v ∈ valuesOf ops, GoodVal cfg S node depth fuel v)
    (hok : ∀ es ∈ (arun approx {} (ops.map (VOp.toWOp (encD S node)) ++ [fin])).sealed,
      cntOf es < 2 ^ 63 ∧ (c.compress (bufOf es)).length < 2 ^ 63 ∧
        (bufOf es).length ≤ blockAllocCap) :
    let enc := encD S node
    let datum := de deExtModel cfg S fuel node depth false .any
    let run := wrun c dbg w (ops.map (VOp.toWOp enc) ++ [fin])
    let body := run.2.sink.data.drop hdr.length
    let N := (valuesOf ops).length
    run.1 = (ops.map (VOp.toWOp enc) ++ [fin]).map expected ∧
    (∃ blocks : List (List Spec.Value), blocks.flatten = valuesOf ops ∧ (∀ b ∈ blocks, b ≠ []) ∧
        run.2.sink.data = hdr ++ fileBodyC enc c sync blocks) ∧
    (readAll d datum (N + 1) (openSlice sync body)).1.map unborrow
        = (valuesOf ops).map (fun v => unborrow (obsD S node v)) ∧
    (readAll d datum (N + 1) (openSlice sync body)).2 = .eos := by
  intro enc datum run body N
  obtain ⟨hres, B, hBflat, hne, hB, hsink⟩ :=
    wrun_partition enc c dbg hdr sync approx ops fin hfin w h0
  rw [blocksBytes_eq_fileBodyC enc c hc] at hsink
  have hmem : ∀ b ∈ B, b.map (entryOfVal enc) ∈
      (arun approx {} (ops.map (VOp.toWOp enc) ++ [fin])).sealed := by
    intro b hb; rw [hB]; exact List.mem_map_of_mem hb
  have hbok : ∀ b ∈ B, BlockOkC enc c b := by
    intro b hb
    obtain ⟨h1, h2, _⟩ := hok _ (hmem b hb)
    rw [cntOf_map_entryOfVal] at h1
    rw [bufOf_map_entryOfVal] at h2
    constructor <;> (unfold Spec.InI64; omega)
  have hP0 : ∀ b ∈ B, Stream.KOk false blockAllocCap (plainReader (blockData enc b) 8192) := by
    intro b hb
    obtain ⟨_, _, h3⟩ := hok _ (hmem b hb)
    rw [bufOf_map_entryOfVal] at h3
    exact kOk_plainReader _ h3
  have hgoodB : ∀ v ∈ B.flatten, GoodVal cfg S node depth fuel v := by rw [hBflat]; exact hgood
  have hbody : body = fileBodyC enc c sync B := by
    show List.drop hdr.length (wrun c dbg w (ops.map (VOp.toWOp enc) ++ [fin])).2.sink.data = _
    rw [hsink, List.drop_left]
  have hN : N = B.flatten.length := by rw [hBflat]
  refine ⟨hres, ⟨B, hBflat, hne, hsink⟩, ?_⟩
  rw [hbody, hN, ← hBflat]
  exact readAll_valid_codec hnn hns hL1 hsy
    (Cut.DatumCutOk.okP (de_datumCutOk_reader cfg S node depth fuel blockAllocCap))
    B hbok hP0 hgoodB

/-- **C05 (write then read, abstract codec, the real datum deserializer).**  The statement of
    `C05_roundtrip_codec_file` with `datum := de deExtModel cfg S fuel node depth false .any`
    running on the decompressed block: the hypothesis `hok` is, as there, on every partition of the
    values into blocks (the writer chooses one) - count and compressed size fit an `i64` - and
    additionally asks every block to be at most `blockAllocCap` = 536870912 bytes long
    UNCOMPRESSED (see `C05_roundtrip_codec_real_sealed`, of which this is a corollary).  Values
    come back up to `unborrow`. -/
theorem C05_roundtrip_codec_real (c : Codec) (hc : c.isNull = false) (d : Decomp)
    (hnn : d.isNull = false) (hns : d.isSnappy = false)
    (hL1 : ∀ x, d.decompress (c.compress x) = some x)
    (cfg : DeConfig) (S : Schema) (node : Node) (depth fuel : Nat)
    (dbg : Bool) (hdr sync : Bytes) (hsy : sync.length = 16) (approx : Nat)
    (ops : List (VOp Spec.Value)) (fin : WOp)
    (hfin : fin = .finishBlock ∨ fin = .intoInner ∨ fin = .drop)
    (w : WState) (h0 : Rep c hdr sync approx {} w)
    (hgood : ∀ v ∈ valuesOf ops, GoodVal cfg S node depth fuel v)
    (hok : ∀ blocks : List (List Spec.Value), blocks.flatten = valuesOf ops →
      ∀ b ∈ blocks, BlockOkC (encD S node) c b ∧
        (blockData (encD S node) b).length ≤ blockAllocCap) :
    let enc := encD S node
    let datum := de deExtModel cfg S fuel node depth false .any
    let run := wrun c dbg w (ops.map (VOp.toWOp enc) ++ [fin])
    let body := run.2.sink.data.drop hdr.length
    let N := (valuesOf ops).length
    run.1 = (ops.map (VOp.toWOp enc) ++ [fin]).map expected ∧
    (∃ blocks : List (List Spec.Value), blocks.flatten = valuesOf ops ∧ (∀ b ∈ blocks, b ≠ []) ∧
        run.2.sink.data = hdr ++ fileBodyC enc c sync blocks) ∧
    (readAll d datum (N + 1) (openSlice sync body)).1.map unborrow
        = (valuesOf ops).map (fun v => unborrow (obsD S node v)) ∧
    (readAll d datum (N + 1) (openSlice sync body)).2 = .eos := by
  obtain ⟨_, B, hBflat, _, hB, _⟩ :=
    wrun_partition (encD S node) c dbg hdr sync approx ops fin hfin w h0
  refine C05_roundtrip_codec_real_sealed c hc d hnn hns hL1 cfg S node depth fuel dbg hdr sync hsy
    approx ops fin hfin w h0 hgood ?_
  intro es hes
  rw [hB] at hes
  obtain ⟨b, hb, rfl⟩ := List.mem_map.1 hes
  obtain ⟨⟨h1, h2⟩, h3⟩ := hok B hBflat b hb
  rw [cntOf_map_entryOfVal, bufOf_map_entryOfVal]
  unfold Spec.InI64 at h1 h2
  exact ⟨by omega, by omega, h3⟩

/-! ### What the real serializer writes is `encD` -/

/-- The bytes the real serializer model appends for a presentation `sv` that it accepts are
    `encD S node v` for a value `v` the presentation denotes (`C01_ser_canonical`): the `write v`
    of the theorems above, `VOp.toWOp (encD S node) (.write v)`, is what a successful `serialize`
    call contributes to the block. -/
theorem C05_real_datum_bytes (f : Canon.Allow) (ext : Ext) (allowSlow : Bool)
    (S : Schema) (node : Node) (sv : SV) (s : SerState)
    (hok : (ser ext allowSlow S node sv s).1 = .ok ())
    (hs : Good s) (hS : SchemaOK S) (hnode : NodeOK S node) (hsv : svOK sv = true)
    (hext : ExtOK ext) (hcanon : Canon.svCanon f sv = true)
    (hallowS : ∀ (k : Nat) (n : Node), S[k]? = some n → Canon.nodeAllows f n = true)
    (hallowN : Canon.nodeAllows f node = true) :
    ∃ s' v, ser ext allowSlow S node sv s = (.ok (), s') ∧ s'.out = s.out ++ encD S node v ∧
      (Spec.encode S node v).isSome = true ∧
      Spec.denotes (denExtOf ext) S node sv v = true := by
  obtain ⟨s', v, bytes, hrun, hout, _, henc, hden⟩ :=
    C01_ser_canonical f ext allowSlow S node sv s hok hs hS hnode hsv hext hcanon hallowS hallowN
  exact ⟨s', v, hrun, by rw [hout, encD, henc]; rfl, by rw [henc]; rfl, hden⟩

/-! ### Non-vacuity -/

namespace C05real
open C17stream

def exCodec : Codec := { name := "null", compress := id, isNull := true }
/-- a header as `build_with_user_metadata` writes it -/
def exHdr : Bytes := headerBytes (Spec.utf8 "\"int\"") (Spec.utf8 "null") [] exSync
/-- a freshly built writer with `approx = 2`: a block is closed as soon as it holds 2 bytes -/
def exW : WState := { sync := exSync, approx := 2, sink := { data := exHdr } }
/-- three values that serialize (schema `int`), one that does not -/
def exOps : List (VOp Spec.Value) := [.write (.int 1), .write (.int 2), .fail, .write (.int 300)]

theorem ex_values : valuesOf exOps = [.int 1, .int 2, .int 300] := rfl

/-- the concrete writer model, run on the history closed by `into_inner`, leaves the header
    followed by the two-block file `exFile` of `C17stream.lean` (blocks `[1, 2]` and `[300]`) -/
theorem ex_sink :
    (wrun exCodec false exW (exOps.map (VOp.toWOp exEnc) ++ [.intoInner])).2.sink.data
      = exHdr ++ exFile := by decide +kernel

theorem exObs : [Spec.Value.int 1, .int 2, .int 300].map (obsD #[.int] .int)
    = [.i32 1, .i32 2, .i32 300] := by
  simp [obsD, Spec.observe]

theorem exGood' : ∀ v ∈ valuesOf exOps, GoodVal {} #[.int] .int 64 20 v := by
  rw [ex_values]; exact exGood

/-- **`C05_roundtrip_null_real` on the concrete run**: all its hypotheses are met (`C15_rep_fresh`,
    `exGood`), and what comes back - from the slice, and from a streaming reader under every
    refill schedule - is 1, 2, 300, then end of stream. -/
theorem ex_roundtrip :
    let body := ((wrun exCodec false exW
      (exOps.map (VOp.toWOp exEnc) ++ [.intoInner])).2.sink.data).drop exHdr.length
    readAll exNull exDatum 4 (openSlice exSync body) = ([.i32 1, .i32 2, .i32 300], .eos) ∧
    ∀ (sched : List Nat) (lastChunk : Nat),
      (readAll exNull exDatum 4 (Stream.openReader exSync body sched lastChunk 40)).1.map unborrow
        = [.i32 1, .i32 2, .i32 300] ∧
      (readAll exNull exDatum 4 (Stream.openReader exSync body sched lastChunk 40)).2 = .eos := by
  intro body
  have h := C05_roundtrip_null_real exCodec rfl exNull rfl {} #[.int] .int 64 20 false exHdr exSync
    rfl 2 exOps .intoInner (Or.inr (Or.inl rfl)) exW (C15_rep_fresh _ _ _ _) exGood'
    (by rw [ex_values]; decide)
    (by rw [ex_values]; show (blockData exEnc _).length < _
        simp [blockData, exEnc1, exEnc2, exEnc300])
  obtain ⟨_, _, hs, hr⟩ := h
  have hlen : body.length = 40 := by
    show (List.drop exHdr.length (wrun exCodec false exW
      (exOps.map (VOp.toWOp exEnc) ++ [.intoInner])).2.sink.data).length = 40
    rw [ex_sink, List.drop_left, exFile_eq]; rfl
  refine ⟨?_, fun sched lastChunk => ?_⟩
  · rw [← exObs]; exact hs
  · have := hr sched lastChunk 40 (by show body.length ≤ 40; omega)
    rw [ex_values] at this
    exact this

/-- a toy codec that is neither null nor snappy: one marker byte in front -/
def exCodecC : Codec := { name := "toy", compress := fun x => 0xFF :: x, isNull := false }
def exDecompC : Decomp :=
  { isNull := false, decompress := fun x => match x with | 0xFF :: y => some y | _ => none }

theorem exL1 : ∀ x, exDecompC.decompress (exCodecC.compress x) = some x := fun _ => rfl

theorem ex_sealed :
    (arun 2 {} (exOps.map (VOp.toWOp exEnc) ++ [.intoInner])).sealed
      = [[([2], 1), ([4], 1)], [([0xD8, 0x04], 1)]] := by decide +kernel

/-- **`C05_roundtrip_codec_real_sealed` on a concrete run** with the toy codec: the sink holds the
    two compressed blocks, and the real `de` on the decompressed blocks returns 1, 2, 300. -/
theorem ex_roundtrip_codec :
    let run := wrun exCodecC false exW (exOps.map (VOp.toWOp exEnc) ++ [.intoInner])
    run.2.sink.data = exHdr ++ fileBodyC exEnc exCodecC exSync exBlocks ∧
    (readAll exDecompC exDatum 4
        (openSlice exSync (run.2.sink.data.drop exHdr.length))).1.map unborrow
      = [.i32 1, .i32 2, .i32 300] ∧
    (readAll exDecompC exDatum 4
        (openSlice exSync (run.2.sink.data.drop exHdr.length))).2 = .eos := by
  intro run
  have h := C05_roundtrip_codec_real_sealed exCodecC rfl exDecompC rfl rfl exL1 {} #[.int] .int 64
    20 false exHdr exSync rfl 2 exOps .intoInner (Or.inr (Or.inl rfl)) exW (C15_rep_fresh _ _ _ _)
    exGood'
    (by
      intro es hes
      have := ex_sealed
      rw [show encD #[.int] .int = exEnc from rfl, this] at hes
      simp only [List.mem_cons, List.not_mem_nil, or_false] at hes
      rcases hes with rfl | rfl <;> (simp [cntOf, bufOf, exCodecC, blockAllocCap]))
  obtain ⟨_, _, h1, h2⟩ := h
  refine ⟨?_, ?_, h2⟩
  · show (wrun exCodecC false exW (exOps.map (VOp.toWOp exEnc) ++ [.intoInner])).2.sink.data = _
    decide +kernel
  · rw [ex_values] at h1; exact h1

/-! `GoodVal` is satisfiable beyond scalars: the record of `C01glue.lean`,
    `R { a : array<long>, u : union { null, string } }`, value `R { a: [1, -3], u: "x" }`. -/

theorem vR_observe : Spec.observe Sx nodeR vR
    = some (.map [(.str "a" false, .seq [.i64 1, .i64 (-3)]), (.str "u" false, .str "x" true)]) := by
  have h1 : Sx[1]? = some (.array 2) := by decide
  have h2 : Sx[2]? = some .long := by decide
  have h3 : Sx[3]? = some (.union [4, 5]) := by decide
  have h5 : Sx[5]? = some .string := by decide
  simp [vR, nodeR, Spec.observe, Spec.observeFields, Spec.observeList, h1, h2, h3, h5]

theorem exGoodR : GoodVal {} Sx nodeR 64 100 vR := by decide +kernel

theorem exEncR : encD Sx nodeR vR = [4, 2, 5, 0, 2, 2, 120] := by rw [encD, vR_encode]; rfl

/-- `C05_roundtrip_null_real` on records, for an ARBITRARY fresh writer (any null codec, any header,
    any marker, any block size): the record written twice (a failing value in between) is read back
    twice - from the slice with the string borrowed, from a streaming reader up to `unborrow`. -/
theorem ex_roundtrip_record (c : Codec) (hc : c.isNull = true) (hdr sync : Bytes)
    (hsy : sync.length = 16) (approx : Nat) (w : WState) (h0 : Rep c hdr sync approx {} w) :
    let ops : List (VOp Spec.Value) := [.write vR, .fail, .write vR]
    let o : Out :=
      .map [(.str "a" false, .seq [.i64 1, .i64 (-3)]), (.str "u" false, .str "x" true)]
    let body := ((wrun c false w (ops.map (VOp.toWOp (encD Sx nodeR)) ++ [.drop])).2.sink.data).drop
      hdr.length
    readAll exNull (de deExtModel {} Sx 100 nodeR 64 false .any) 3 (openSlice sync body)
      = ([o, o], .eos) ∧
    ∀ (sched : List Nat) (lastChunk M : Nat), body.length ≤ M →
      (readAll exNull (de deExtModel {} Sx 100 nodeR 64 false .any) 3
        (Stream.openReader sync body sched lastChunk M)).1.map unborrow = [unborrow o, unborrow o] ∧
      (readAll exNull (de deExtModel {} Sx 100 nodeR 64 false .any) 3
        (Stream.openReader sync body sched lastChunk M)).2 = .eos := by
  intro ops o body
  have hv : valuesOf ops = [vR, vR] := rfl
  have ho : obsD Sx nodeR vR = o := by rw [obsD, vR_observe]; rfl
  have h := C05_roundtrip_null_real c hc exNull rfl {} Sx nodeR 64 100 false hdr sync hsy approx
    ops .drop (Or.inr (Or.inr rfl)) w h0
    (by rw [hv]; intro v hv'; simp only [List.mem_cons, List.not_mem_nil, or_false, or_self] at hv'
        subst hv'; exact exGoodR)
    (by rw [hv]; decide)
    (by rw [hv]; simp [blockData, exEncR])
  obtain ⟨_, _, hs, hr⟩ := h
  rw [hv] at hs hr
  simp only [List.map_cons, List.map_nil, ho] at hs hr
  exact ⟨hs, hr⟩

end C05real

end Avro.Theorems
