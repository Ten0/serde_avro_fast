import AvroModel.Lemmas.GrowLoop
import AvroModel.Theorems.C15general
import AvroModel.Theorems.C17
/-
C05: what the writer produces, the reader reads back.

The grow loops of `writer/compression.rs` (deflate, bzip2, xz) deliver the complete compressed stream
whatever its length relative to the output buffer and however the compressor spreads its output over
the calls ("block sizes that place compressed lengths on internal buffer boundaries"); the loop of
bzip2 before the repair of D13 did not (`C05_growloop_old_bzip2_truncates`).

Write then read: the bytes a writer (null codec) leaves in its sink after the header are read back by
the reader (slice back-end) as exactly the values written, in order, then end of stream
(`C05_roundtrip_null_slice`); likewise for an abstract codec satisfying law L1, a HYPOTHESIS
(`C05_roundtrip_codec`, `C05_roundtrip_codec_file`).
-/
namespace Avro.Theorems
open Avro Avro.Impl Avro.Impl.Ocf Avro.Impl.GrowLoop Avro.C05

/-! ### The grow loops -/

/-- With fuel for one call per byte of the stream plus one, each loop ends `Ok` — never
    `noProgress`, never out of fuel — in a state holding the complete stream. -/
theorem C05_growloop_loop_complete (kind : Kind) (c : Comp) (cap0 fuel : Nat) (h0 : c.done = 0)
    (hc : 1 ≤ cap0) (hf : c.total.length + 1 ≤ fuel) :
    ∃ st, encodeLoop kind fuel { cap := cap0, comp := c } = .ok st ∧ st.out = c.total := by
  obtain ⟨st, h1, h2, _⟩ := encodeLoop_complete kind c.total fuel _ (LInv_init c cap0 h0 hc)
    (by simp only [h0]; omega)
  exact ⟨st, h1, h2⟩

/-- **C05 (grow loops).** For every compressed stream `c.total` (of any length relative to the
    starting buffer `cap0`), every emission schedule `c.sched` and each of the three loops:
    `encode` terminates within its fuel, never reports `noProgress`, and returns exactly the
    complete stream. -/
theorem C05_growloop_complete (kind : Kind) (c : Comp) (cap0 : Nat) (h0 : c.done = 0)
    (hc : 1 ≤ cap0) : encode kind cap0 c = .ok c.total := by
  obtain ⟨st, h1, h2⟩ := C05_growloop_loop_complete kind c cap0
    (2 * c.total.length + c.sched.length + 64) h0 hc (by omega)
  simp only [encode, h1, h2]

/-- The buffer of bzip2 and xz is doubled only when it is full: the capacity the loop ends with
    is less than twice the larger of the starting capacity and the stream length plus one. -/
theorem C05_growloop_cap_bounded (kind : Kind) (hk : kind ≠ .deflate) (c : Comp) (cap0 fuel : Nat)
    (h0 : c.done = 0) (hc : 1 ≤ cap0) (st : LoopState)
    (h : encodeLoop kind fuel { cap := cap0, comp := c } = .ok st)
    (hf : c.total.length + 1 ≤ fuel) :
    cap0 ≤ st.cap ∧ st.cap < 2 * max cap0 (c.total.length + 1) := by
  obtain ⟨st', h1, _, _, h4, h5, _⟩ := encodeLoop_complete kind c.total fuel _
    (LInv_init c cap0 h0 hc) (by simp only [h0]; omega)
  rw [h1] at h
  cases h
  have := h5 hk
  simp only at this h4
  omega

/-- … in particular with the fuel `encode` uses. -/
theorem C05_growloop_cap_bounded_encode (kind : Kind) (hk : kind ≠ .deflate) (c : Comp) (cap0 : Nat)
    (h0 : c.done = 0) (hc : 1 ≤ cap0) :
    ∃ st, encodeLoop kind (2 * c.total.length + c.sched.length + 64) { cap := cap0, comp := c }
        = .ok st ∧ st.out = c.total ∧ cap0 ≤ st.cap ∧ st.cap < 2 * max cap0 (c.total.length + 1) := by
  obtain ⟨st, h1, h2⟩ := C05_growloop_loop_complete kind c cap0
    (2 * c.total.length + c.sched.length + 64) h0 hc (by omega)
  exact ⟨st, h1, h2, C05_growloop_cap_bounded kind hk c cap0 _ h0 hc st h1 (by omega)⟩

/-- deflate doubles on every call that reports "pending", full or not: the capacity it ends
    with is `cap0 * 2 ^ p`, `p` the number of pending calls — at most one per byte of the stream,
    so `cap0 * 2 ^ total.length` bounds it, and nothing better holds in general
    (`C05_growloop_deflate_cap_exponential`). -/
theorem C05_growloop_cap_deflate (c : Comp) (cap0 fuel : Nat) (h0 : c.done = 0) (hc : 1 ≤ cap0)
    (st : LoopState) (h : encodeLoop .deflate fuel { cap := cap0, comp := c } = .ok st)
    (hf : c.total.length + 1 ≤ fuel) :
    ∃ p, p ≤ c.total.length ∧ st.cap = cap0 * 2 ^ p := by
  obtain ⟨st', h1, _, _, _, _, h6⟩ := encodeLoop_complete .deflate c.total fuel _
    (LInv_init c cap0 h0 hc) (by simp only [h0]; omega)
  rw [h1] at h
  cases h
  obtain ⟨p, hp, hcap⟩ := h6 rfl
  exact ⟨p, by simp only [h0] at hp; omega, hcap⟩

/-- The bound is reached: a compressor that trickles its 6 bytes one per call makes deflate
    double five times (capacity `32 * cap0` for 6 bytes), where bzip2 and xz keep the buffer. -/
theorem C05_growloop_deflate_cap_exponential :
    let c : Comp := { total := [1, 2, 3, 4, 5, 6], sched := [1, 1, 1, 1, 1, 1] }
    (∃ st, encodeLoop .deflate 7 { cap := 8, comp := c } = .ok st ∧ st.cap = 8 * 2 ^ 5) ∧
    (∃ st, encodeLoop .bzip2 7 { cap := 8, comp := c } = .ok st ∧ st.cap = 8) := by
  exact ⟨⟨_, rfl, rfl⟩, ⟨_, rfl, rfl⟩⟩

/-! #### The loop of bzip2 before the repair of D13 -/

/-- The bzip2 loop as it was: `FinishOk` ("pending") was taken for completion. -/
def encodeLoopOldBzip2 : Nat → LoopState → Except LoopErr LoopState
  | 0, _ => .error .fuel
  | fuel + 1, st =>
    let space := st.cap - st.out.length
    let (status, emitted, comp') := st.comp.call space
    let st := { st with out := st.out ++ emitted, comp := comp' }
    match status with
    | .streamEnd => .ok st
    | .pending => .ok st        -- D13: the stream is NOT finished
    | .noProgress => encodeLoopOldBzip2 fuel { st with cap := st.cap * 2 }

def encodeOldBzip2 (cap0 : Nat) (c : Comp) : Except LoopErr Bytes :=
  match encodeLoopOldBzip2 (2 * c.total.length + c.sched.length + 64) { cap := cap0, comp := c } with
  | .ok st => .ok st.out
  | .error e => .error e

/-- **D13, as it was.** A stream of 5 bytes into a buffer of 2: the old loop returned `Ok` with
    the first 2 bytes only — a strict prefix of the stream —, where the repaired loop returns all
    of it. -/
theorem C05_growloop_old_bzip2_truncates :
    ∃ (c : Comp) (cap0 : Nat) (out : Bytes), c.done = 0 ∧ 1 ≤ cap0 ∧ c.total.length = 5 ∧ cap0 = 2 ∧
      encodeOldBzip2 cap0 c = .ok out ∧ out <+: c.total ∧ out.length < c.total.length ∧
      encode .bzip2 cap0 c = .ok c.total :=
  ⟨{ total := [10, 20, 30, 40, 50] }, 2, [10, 20], rfl, by decide, rfl, rfl, rfl,
    ⟨[30, 40, 50], rfl⟩, by decide, C05_growloop_complete _ _ _ rfl (by decide)⟩

/-! ### Write, then read -/

section RoundTrip
variable {α : Type} (enc : α → Bytes)

/-- A call on the writer, at the level of values: `write v` serializes successfully to `enc v`,
    `fail` is a value that does not fit the schema. -/
inductive VOp (α : Type)
  | write (v : α)
  | fail
  | finishBlock

def VOp.toWOp : VOp α → WOp
  | .write v => .value (some (enc v))
  | .fail => .value none
  | .finishBlock => .finishBlock

def VOp.val? : VOp α → Option α
  | .write v => some v
  | _ => none

/-- the values successfully written by a history -/
def valuesOf (ops : List (VOp α)) : List α := ops.filterMap VOp.val?

def entryOfVal (v : α) : Entry := (enc v, 1)

theorem flatMap_entryOf_toWOp (ops : List (VOp α)) :
    (ops.map (VOp.toWOp enc)).flatMap entryOf = (valuesOf ops).map (entryOfVal enc) := by
  induction ops with
  | nil => rfl
  | cons op ops ih =>
    simp only [List.map_cons, List.flatMap_cons, ih, valuesOf, List.filterMap_cons]
    cases op <;> simp [VOp.toWOp, VOp.val?, entryOf, entryOfVal]

theorem toWOp_ne_intoInner (op : VOp α) : VOp.toWOp enc op ≠ .intoInner := by
  cases op <;> simp [VOp.toWOp]

theorem exists_partition_of_flatten_eq_map {β γ : Type} (f : β → γ) :
    ∀ (L : List (List γ)) (xs : List β), L.flatten = xs.map f →
      ∃ B : List (List β), L = B.map (List.map f) ∧ B.flatten = xs := by
  intro L
  induction L with
  | nil =>
    intro xs h
    refine ⟨[], rfl, ?_⟩
    cases xs with
    | nil => rfl
    | cons x xs => simp at h
  | cons l L ih =>
    intro xs h
    rw [List.flatten_cons] at h
    obtain ⟨l₁, l₂, rfl, h1, h2⟩ := List.map_eq_append_iff.1 h.symm
    obtain ⟨B, hB, hB2⟩ := ih l₂ h2.symm
    exact ⟨l₁ :: B, by simp [h1, hB], by simp [hB2]⟩

theorem blockOf_map_entryOfVal (vs : List α) :
    blockOf (vs.map (entryOfVal enc)) = (vs.length, blockData enc vs) := by
  simp only [blockOf, cntOf, bufOf, blockData, List.map_map, Prod.mk.injEq]
  refine ⟨?_, rfl⟩
  induction vs with
  | nil => rfl
  | cons v vs ih => simp only [List.map_cons, List.sum_cons, ih, Function.comp, entryOfVal,
      List.length_cons]; omega

/-- **The bridge between the two developments.** For the null codec, the bytes the writer
    development assigns to the blocks `B` (each a list of values, one log entry `(enc v, 1)` per
    value) are the `fileBody` the reader development reads. -/
theorem blocksBytes_eq_fileBody (c : Codec) (hc : c.isNull = true) (sync : Bytes)
    (B : List (List α)) :
    blocksBytes c sync ((B.map (List.map (entryOfVal enc))).map blockOf) = fileBody enc sync B := by
  simp only [blocksBytes, fileBody, List.map_map]
  congr 1
  apply List.map_congr_left
  intro vs _
  simp only [Function.comp, blockOf_map_entryOfVal, Ocf.blockBytes, Theorems.blockBytes, codecData,
    hc, if_true]

theorem blockData_length_le_of_mem (B : List (List α)) (b : List α) (h : b ∈ B) :
    (blockData enc b).length ≤ (blockData enc B.flatten).length := by
  induction B with
  | nil => cases h
  | cons x B ih =>
    simp only [blockData, List.flatten_cons, List.map_append, List.flatten_append,
      List.length_append] at ih ⊢
    rcases List.mem_cons.1 h with rfl | h
    · omega
    · have := ih h; omega

theorem blockOk_of_total (B : List (List α)) (hn : B.flatten.length < 2 ^ 63)
    (hs : (blockData enc B.flatten).length < 2 ^ 63) : ∀ b ∈ B, BlockOk enc b := by
  intro b hb
  have h1 := (List.sublist_flatten_of_mem hb).length_le
  have h2 := blockData_length_le_of_mem enc B b hb
  constructor <;> (unfold Spec.InI64; omega)

/-- The writer half of the round trips: every call returned what it should, and the blocks the
    (abstract) writer sealed are the images of a partition `B` of the values written, each block
    non-empty; the sink holds the header followed by those blocks. -/
theorem wrun_partition (c : Codec) (dbg : Bool) (hdr sync : Bytes) (approx : Nat)
    (ops : List (VOp α)) (fin : WOp) (hfin : fin = .finishBlock ∨ fin = .intoInner ∨ fin = .drop)
    (w : WState) (h0 : Rep c hdr sync approx {} w) :
    (wrun c dbg w (ops.map (VOp.toWOp enc) ++ [fin])).1
        = (ops.map (VOp.toWOp enc) ++ [fin]).map expected ∧
    ∃ B : List (List α), B.flatten = valuesOf ops ∧ (∀ b ∈ B, b ≠ []) ∧
      (arun approx {} (ops.map (VOp.toWOp enc) ++ [fin])).sealed
        = B.map (List.map (entryOfVal enc)) ∧
      (wrun c dbg w (ops.map (VOp.toWOp enc) ++ [fin])).2.sink.data
        = hdr ++ blocksBytes c sync ((B.map (List.map (entryOfVal enc))).map blockOf) := by
  have hops : ∀ op ∈ ops.map (VOp.toWOp enc), op ≠ .intoInner := by
    intro op hop
    obtain ⟨o, _, rfl⟩ := List.mem_map.1 hop
    exact toWOp_ne_intoInner enc o
  obtain ⟨hres, hsink, -⟩ := C15_run_finished_general c dbg hdr sync approx _ fin hops hfin w h0
  obtain ⟨_, hflat⟩ := C15_run_finished approx (ops.map (VOp.toWOp enc)) fin hfin
    (by
      intro b k hm
      obtain ⟨o, _, ho⟩ := List.mem_map.1 hm
      cases o <;> simp [VOp.toWOp] at ho)
  have hpos : SealedPos (arun approx {} (ops.map (VOp.toWOp enc) ++ [fin])) :=
    arun_sealedPos approx {} _ (by intro b hb; simp at hb)
  rw [flatMap_entryOf_toWOp] at hflat
  obtain ⟨B, hB, hBflat⟩ := exists_partition_of_flatten_eq_map (entryOfVal enc) _ _ hflat
  rw [hB] at hsink
  have hne : ∀ b ∈ B, b ≠ [] := by
    intro b hb hnil
    have := hpos (b.map (entryOfVal enc)) (by rw [hB]; exact List.mem_map_of_mem hb)
    rw [hnil] at this
    simp at this
  exact ⟨hres, B, hBflat, hne, hB, hsink⟩

/-- **C05 (write then read, null codec, slice back-end).**
    A freshly built writer `w` (its sink holds the header `hdr`, nothing else happened: `Rep … {} w`;
    the sink accepts everything) is driven through any history `ops` of values that serialize
    (`write v`, to `enc v`), values that fail, and explicit `finish_block`s, closed by
    `finish_block`, `into_inner` or `Drop`. Then:
    * every call returned `Ok`, except the failing values which returned their error;
    * the sink holds `hdr` followed by `fileBody enc sync blocks` for some partition `blocks` of
      the values written successfully, in order (`blocks.flatten = valuesOf ops`);
    * a reader (null codec, slice back-end) opened on the bytes after the header, with any datum
      deserializer that decodes what `enc` wrote, yields exactly those values, in order, then
      end of stream — within `N + 1` calls of `next`, `N` the number of values.
    The number of values and their total size fit an `i64`. -/
theorem C05_roundtrip_null_slice (c : Codec) (hc : c.isNull = true) (d : Decomp)
    (hn : d.isNull = true) (datum : RState → Except DeErr α × RState) (hd : DatumOk enc datum)
    (dbg : Bool) (hdr sync : Bytes) (hsy : sync.length = 16) (approx : Nat)
    (ops : List (VOp α)) (fin : WOp) (hfin : fin = .finishBlock ∨ fin = .intoInner ∨ fin = .drop)
    (w : WState) (h0 : Rep c hdr sync approx {} w)
    (hcount : (valuesOf ops).length < 2 ^ 63)
    (hsize : (blockData enc (valuesOf ops)).length < 2 ^ 63) :
    let run := wrun c dbg w (ops.map (VOp.toWOp enc) ++ [fin])
    run.1 = (ops.map (VOp.toWOp enc) ++ [fin]).map expected ∧
    (∃ blocks : List (List α), blocks.flatten = valuesOf ops ∧ (∀ b ∈ blocks, b ≠ []) ∧
        run.2.sink.data = hdr ++ fileBody enc sync blocks) ∧
    readAll d datum ((valuesOf ops).length + 1) (openSlice sync (run.2.sink.data.drop hdr.length))
      = (valuesOf ops, .eos) := by
  intro run
  obtain ⟨hres, B, hBflat, hne, _, hsink⟩ :=
    wrun_partition enc c dbg hdr sync approx ops fin hfin w h0
  rw [blocksBytes_eq_fileBody enc c hc] at hsink
  have hok : ∀ b ∈ B, BlockOk enc b :=
    blockOk_of_total enc B (by rw [hBflat]; exact hcount) (by rw [hBflat]; exact hsize)
  refine ⟨hres, ⟨B, hBflat, hne, hsink⟩, ?_⟩
  show readAll d datum _ (openSlice sync (List.drop hdr.length run.2.sink.data)) = _
  have hdrop : List.drop hdr.length run.2.sink.data = fileBody enc sync B := by
    show List.drop hdr.length (wrun c dbg w (ops.map (VOp.toWOp enc) ++ [fin])).2.sink.data = _
    rw [hsink, List.drop_left]
  rw [hdrop, ← hBflat]
  exact readAll_valid enc hn hsy hd B hok

end RoundTrip

/-! ### An abstract codec (law L1 as a hypothesis) -/

/-- **C05 (one compressed block is opened correctly).** Slice back-end, a codec that is neither
    null nor snappy, `decompress (compress data) = some data` (law L1, a hypothesis): on
    `count, size, compress data, sync, rest` the reader enters the block — `count` values to read
    from the decompressed bytes `data` — and remembers that `sync ++ rest` follows.  (With
    `C05_leaveBlock_codec`: the `sl := true` steps of `Stream.enterBlock_ok_codec` /
    `Stream.leaveBlock_ok`, Lemmas/OcfStream.lean, with the final state spelled out.) -/
theorem C05_enterBlock_codec (c : Codec) (d : Decomp) (hnn : d.isNull = false)
    (hns : d.isSnappy = false) (count : Nat) (data sync rest : Bytes)
    (hL1 : d.decompress (c.compress data) = some data)
    (hcnt : Spec.InI64 (count : Int)) (hsz : Spec.InI64 ((c.compress data).length : Int))
    (r : Reader) (hos : r.outer.isSlice = true)
    (hr : r.outer.rest = encodeVarI64 count ++ (encodeVarI64 (c.compress data).length ++
      (c.compress data ++ (sync ++ rest)))) :
    enterBlock d r =
      (.ok (), { r with st := .inBlock count,
                        outer := { r.outer with rest := c.compress data ++ (sync ++ rest) },
                        after := sync ++ rest, blkLimit := (c.compress data).length,
                        blk := plainReader data 8192 }) := by
  rw [enterBlock_eq, readVarint_encode hos hcnt hr]
  simp only [show ¬ ((count : Int) < 0) by omega, if_false]
  rw [readVarint_encode (by exact hos) hsz rfl]
  simp only [show ¬ (((c.compress data).length : Int) < 0) by omega, if_false, Int.toNat_natCast]
  unfold enterTail blockView plainView
  simp only [hnn, hns, Bool.false_eq_true, if_false, List.length_append, gt_iff_lt]
  rw [if_neg (by omega)]
  simp only [List.take_left', hL1, List.drop_left', Int.toNat_natCast]

/-- **C05 (… and left correctly).** Once the decompressed bytes are consumed entirely, leaving the
    block checks the marker and positions the reader on what follows it. -/
theorem C05_leaveBlock_codec (d : Decomp) (hnn : d.isNull = false) (sync rest : Bytes)
    (hsy : sync.length = 16) (r : Reader) (hblk : r.blk.rest = [])
    (hos : r.outer.isSlice = true) (hol : r.outer.limit = none)
    (hafter : r.after = sync ++ rest) (hsync : r.sync = sync) :
    leaveBlock d r =
      (.ok (), { r with st := .notInBlock,
                        outer := { r.outer with rest := rest, avail := 0 } }) := by
  have hlo : leftover d r = false := by simp [leftover, hnn, hblk]
  have hot : leaveOuter d r = { r.outer with rest := r.after, avail := 0 } := by
    simp [leaveOuter, hnn]
  have h16 : 16 ≤ r.after.length := by rw [hafter]; simp; omega
  rw [leaveBlock_eq, hlo, hot,
    readExact_slice (by exact hos) (by exact hol) (by exact h16)]
  have ht : r.after.take 16 = r.sync := by
    rw [hafter, hsync, ← hsy, List.take_left']
    rfl
  have hd : r.after.drop 16 = rest := by
    rw [hafter, ← hsy, List.drop_left']
    rfl
  simp only [ht, hd, ne_eq, not_true_eq_false, if_false, Bool.false_eq_true, Nat.zero_sub]

/-- **C05 (one block, abstract codec).** The two together: from a reader (slice back-end)
    positioned on `count, size, compress data, sync, rest`, `enterBlock` yields `inBlock count`
    with the block back-end holding exactly `data`; and from any later state of that reader in
    which the `count` datums have consumed exactly `data` (block back-end empty, state
    `inBlock 0`, everything else as `enterBlock` left it), `leaveBlock` succeeds and returns to
    `notInBlock` positioned at `rest`. -/
theorem C05_roundtrip_codec (c : Codec) (d : Decomp) (hnn : d.isNull = false)
    (hns : d.isSnappy = false) (count : Nat) (data sync rest : Bytes) (hsy : sync.length = 16)
    (hL1 : d.decompress (c.compress data) = some data)
    (hcnt : Spec.InI64 (count : Int)) (hsz : Spec.InI64 ((c.compress data).length : Int))
    (r : Reader) (hos : r.outer.isSlice = true) (hol : r.outer.limit = none)
    (hsync : r.sync = sync)
    (hr : r.outer.rest = encodeVarI64 count ++ encodeVarI64 (c.compress data).length ++
      c.compress data ++ sync ++ rest) :
    ∃ r₁, enterBlock d r = (.ok (), r₁) ∧ r₁.st = .inBlock count ∧ r₁.blk.rest = data ∧
      r₁.after = sync ++ rest ∧
      ∀ blk' lim', blk'.rest = [] →
        ∃ r₂, leaveBlock d { r₁ with st := .inBlock 0, blk := blk', blkLimit := lim' } = (.ok (), r₂) ∧
          r₂.st = .notInBlock ∧ r₂.outer.rest = rest ∧ r₂.outer.isSlice = true ∧
          r₂.outer.limit = none ∧ r₂.sync = sync ∧ r₂.pretendEof = r.pretendEof := by
  have hr' : r.outer.rest = encodeVarI64 count ++ (encodeVarI64 (c.compress data).length ++
      (c.compress data ++ (sync ++ rest))) := by rw [hr]; simp only [List.append_assoc]
  refine ⟨_, C05_enterBlock_codec c d hnn hns count data sync rest hL1 hcnt hsz r hos hr',
    rfl, rfl, rfl, ?_⟩
  intro blk' lim' hb
  refine ⟨_, C05_leaveBlock_codec d hnn sync rest hsy _ hb hos hol rfl hsync, rfl, rfl, hos, hol,
    hsync, rfl⟩

/-! #### The whole file, abstract codec -/

section CodecFile
variable {α : Type} (enc : α → Bytes) (c : Codec)

/-- a block as the writer lays it out with codec `c` -/
def blockBytesC (sync : Bytes) (vals : List α) : Bytes :=
  encodeVarI64 vals.length ++ encodeVarI64 (c.compress (blockData enc vals)).length ++
    c.compress (blockData enc vals) ++ sync

/-- the file after its header: `Cut.fileBodyW` for `wire b := c.compress (blockData enc b)` -/
def fileBodyC (sync : Bytes) (blocks : List (List α)) : Bytes :=
  (blocks.map (blockBytesC enc c sync)).flatten

/-- count and compressed size fit an `i64`: `Cut.BlockOkW` for the same `wire` -/
def BlockOkC (vals : List α) : Prop :=
  Spec.InI64 (vals.length : Int) ∧ Spec.InI64 ((c.compress (blockData enc vals)).length : Int)

/-- the datum deserializer decodes what `enc` wrote, on the back-end over decompressed bytes -/
def DatumOkR (datum : RState → Except DeErr α × RState) : Prop :=
  ∀ (s : RState) (v : α) (y : Bytes), s.isSlice = false → s.rest = enc v ++ y →
    ∃ s', datum s = (.ok v, s') ∧ s'.rest = y ∧ s'.isSlice = false

variable {enc c}
variable {d : Decomp} {sync : Bytes}

theorem DatumOkR.okP {datum : RState → Except DeErr α × RState} (hd : DatumOkR enc datum) :
    Cut.DatumOkP enc (fun _ => True) (fun s => s.isSlice = false) id id datum :=
  fun s v y _ hs hr => by
    obtain ⟨s', e1, e2, e3⟩ := hd s v y hs hr
    exact ⟨v, s', e1, rfl, e2, e3⟩

/-- **Reading a whole valid file, abstract codec** (slice back-end for the file; law L1 a
    hypothesis), for a datum deserializer that keeps an invariant `P` of the reader over the
    decompressed block: from the states satisfying `P`, on the values satisfying `Q`, it returns (up
    to `proj`/`tgt`) the value, leaves the rest and re-establishes `P`.  The uncut case of
    `Cut.run_start` for the framing `wire b := c.compress (blockData enc b)`. -/
theorem readAll_valid_codec {γ β : Type} {datum : RState → Except DeErr γ × RState} {proj : γ → β}
    {tgt : α → β} {Q : α → Prop} {P : RState → Prop}
    (hnn : d.isNull = false) (hns : d.isSnappy = false)
    (hL1 : ∀ x, d.decompress (c.compress x) = some x) (hsy : sync.length = 16)
    (hd : Cut.DatumOkP enc Q P proj tgt datum)
    (bs : List (List α)) (hbs : ∀ b ∈ bs, BlockOkC enc c b)
    (hP0 : ∀ b ∈ bs, P (plainReader (blockData enc b) 8192)) (hq : ∀ v ∈ bs.flatten, Q v) :
    (readAll d datum (bs.flatten.length + 1) (openSlice sync (fileBodyC enc c sync bs))).1.map proj
      = bs.flatten.map tgt ∧
    (readAll d datum (bs.flatten.length + 1) (openSlice sync (fileBodyC enc c sync bs))).2
      = .eos := by
  have hw : Cut.Wire enc (fun b => c.compress (blockData enc b)) d false := .ofL1 enc hnn hns hL1
  have hx : Cut.XStart (fun b => c.compress (blockData enc b)) true 0 sync
      (openSlice sync (fileBodyC enc c sync bs)) bs (fileBodyC enc c sync bs).length :=
    Cut.XStart.ofSlice _ sync _ 0 bs _ (List.take_length).symm
  obtain ⟨h1, h2, -⟩ := Cut.readAll_xstart (sl := true) (C := fun _ => True)
    (k := bs.flatten.length + 1) hw ⟨nofun, nofun⟩ hsy hd nofun bs hbs (fun _ => hP0) hq hx
    (Nat.lt_succ_self _)
  have he : Cut.expStart enc (fun b => c.compress (blockData enc b)) true false bs
      (fileBodyC enc c sync bs).length = (bs.flatten, .eos) :=
    Cut.expStart_whole hw hsy bs _ (Nat.le_refl _)
  rw [he] at h1 h2
  rw [Real.readAll_eq_stream]
  exact ⟨h1, by rw [h2 rfl]; rfl⟩

variable (enc c)

theorem blocksBytes_eq_fileBodyC (hc : c.isNull = false) (sync : Bytes) (B : List (List α)) :
    blocksBytes c sync ((B.map (List.map (entryOfVal enc))).map blockOf)
      = fileBodyC enc c sync B := by
  simp only [blocksBytes, fileBodyC, List.map_map]
  congr 1
  apply List.map_congr_left
  intro vs _
  simp only [Function.comp, blockOf_map_entryOfVal, Ocf.blockBytes, blockBytesC, codecData,
    hc, Bool.false_eq_true, if_false]

/-- **C05 (write then read, abstract codec, slice back-end).** As `C05_roundtrip_null_slice`, for
    a writer codec `c` and a reader codec `d` (neither null nor snappy) related by law L1
    `decompress (compress x) = some x` — a hypothesis. The sizes that must fit an `i64` are those
    of the compressed blocks (hypothesis `hok` on the partition the writer chose). -/
theorem C05_roundtrip_codec_file (hc : c.isNull = false) (d : Decomp)
    (hnn : d.isNull = false) (hns : d.isSnappy = false)
    (hL1 : ∀ x, d.decompress (c.compress x) = some x)
    (datum : RState → Except DeErr α × RState) (hd : DatumOkR enc datum)
    (dbg : Bool) (hdr sync : Bytes) (hsy : sync.length = 16) (approx : Nat)
    (ops : List (VOp α)) (fin : WOp) (hfin : fin = .finishBlock ∨ fin = .intoInner ∨ fin = .drop)
    (w : WState) (h0 : Rep c hdr sync approx {} w)
    (hok : ∀ blocks : List (List α), blocks.flatten = valuesOf ops →
      ∀ b ∈ blocks, BlockOkC enc c b) :
    let run := wrun c dbg w (ops.map (VOp.toWOp enc) ++ [fin])
    run.1 = (ops.map (VOp.toWOp enc) ++ [fin]).map expected ∧
    (∃ blocks : List (List α), blocks.flatten = valuesOf ops ∧ (∀ b ∈ blocks, b ≠ []) ∧
        run.2.sink.data = hdr ++ fileBodyC enc c sync blocks) ∧
    readAll d datum ((valuesOf ops).length + 1) (openSlice sync (run.2.sink.data.drop hdr.length))
      = (valuesOf ops, .eos) := by
  intro run
  obtain ⟨hres, B, hBflat, hne, _, hsink⟩ :=
    wrun_partition enc c dbg hdr sync approx ops fin hfin w h0
  rw [blocksBytes_eq_fileBodyC enc c hc] at hsink
  refine ⟨hres, ⟨B, hBflat, hne, hsink⟩, ?_⟩
  show readAll d datum _ (openSlice sync (List.drop hdr.length run.2.sink.data)) = _
  have hdrop : List.drop hdr.length run.2.sink.data = fileBodyC enc c sync B := by
    show List.drop hdr.length (wrun c dbg w (ops.map (VOp.toWOp enc) ++ [fin])).2.sink.data = _
    rw [hsink, List.drop_left]
  rw [hdrop, ← hBflat]
  obtain ⟨h1, h2⟩ := readAll_valid_codec hnn hns hL1 hsy (DatumOkR.okP hd)
    B (hok B hBflat) (fun _ _ => rfl) (fun _ _ => trivial)
  rw [List.map_id, List.map_id] at h1
  exact Prod.ext h1 h2

end CodecFile

end Avro.Theorems
