import AvroModel.Lemmas.RenderPcf
import AvroModel.Lemmas.LiteralEq
/-
C09, global statement: "the JSON a schema reports for itself denotes the schema in use", at the
level of the specification's Parsing Canonical Form.

`C09_render_has_graph_pcf`: for EVERY node graph `S` (shared nodes, cycles through named types,
logical types anywhere, any arrangement of namespaces; no restriction to trees / acyclic graphs /
unshared unnamed nodes) in which the names are what the crate's `Name` type can hold (`Name.WF`),
whenever the renderer succeeds: the rendered document `j` has no forward reference, the
specification's own transformation is defined on `j`, and its text is exactly what the crate's
canonical-form writer computes from the graph, for every `fuel' ≥ fuel` (the writer recurses
exactly like the renderer).

Each clause of `Name.WF` is NECESSARY (`C09_wf_needed_*`).  "Distinct named nodes have distinct
fullnames" is NOT needed here (`C09_distinct_not_needed`; the parser rejects such a document,
which is why the corollary in `Theorems/C09globalC08.lean` has the hypothesis
`parseJson j n = .ok S'`).  There is no hypothesis on logical types (dropped by [STRIP] /
[PRIMITIVES]); a union carrying a logical type, a cycle through unnamed nodes, a key out of bounds
make `renderJson` fail, so `hrender` covers them.

The proof is `RenderPcf.render_has_graph_pcf` (`Lemmas/RenderPcf.lean`: `render_canonTree` with
`canonicalForm_of_canonTree`), which states the hypothesis with `RenderPcf.NameWF`, clause for
clause `Name.WF` (`nameWF_iff`), and of the nodes reachable from the root only
(`RenderPcf.ReachNamesWF`).
-/
namespace Avro.Theorems
open Avro Avro.Impl Avro.Spec.Pcf Avro.RenderPcf

theorem C09_render_has_graph_pcf (S : SchemaMut) (fuel : Nat) (j : Json)
    (hwf : ∀ (i : Nat) (node : RawNode) (nm : Name),
      S[i]? = some node → nameOf node.type = some nm → nm.WF)
    (hrender : renderJson S fuel = .ok j) :
    noForwardRefs j = true ∧
    ∃ text, parsingCanonicalForm j = some text ∧
      ∀ fuel', fuel ≤ fuel' → canonicalForm S fuel' = .ok text :=
  render_has_graph_pcf S fuel j
    (fun i node nm _ hi hn => (nameWF_iff nm).mpr (hwf i node nm hi hn)) hrender

/-- The same with the decidable form of the hypothesis (`namesWFb S` evaluates `nameWFb` on the
    name of every record / enum / fixed node). -/
theorem C09_render_has_graph_pcf_dec (S : SchemaMut) (fuel : Nat) (j : Json)
    (hwf : namesWFb S = true) (hrender : renderJson S fuel = .ok j) :
    noForwardRefs j = true ∧
    ∃ text, parsingCanonicalForm j = some text ∧
      ∀ fuel', fuel ≤ fuel' → canonicalForm S fuel' = .ok text :=
  render_has_graph_pcf S fuel j ((RenderPcf.namesWFb_iff S).mp hwf).reach hrender

theorem namesWFb_iff (S : SchemaMut) :
    namesWFb S = true ↔ ∀ (i : Nat) (node : RawNode) (nm : Name),
      S[i]? = some node → nameOf node.type = some nm → nm.WF :=
  (RenderPcf.namesWFb_iff S).trans
    ⟨fun h i node nm hi hn => (nameWF_iff nm).mp (h i node nm hi hn),
     fun h i node nm hi hn => (nameWF_iff nm).mpr (h i node nm hi hn)⟩

/-! ### evaluation on concrete graphs -/

def renderedPcf (S : SchemaMut) (fuel : Nat) : Option String :=
  match renderJson S fuel with
  | .ok j => parsingCanonicalForm j
  | .error _ => none

def renderedNoForwardRefs (S : SchemaMut) (fuel : Nat) : Bool :=
  match renderJson S fuel with
  | .ok j => noForwardRefs j
  | .error _ => false

def graphPcf (S : SchemaMut) (fuel : Nat) : Option String :=
  match canonicalForm S fuel with
  | .ok t => some t
  | .error _ => none

/-- The main statement in terms of these three functions. -/
theorem C09_global_eval (S : SchemaMut) (fuel : Nat) (hwf : namesWFb S = true)
    (hok : (renderedPcf S fuel).isSome = true) :
    renderedNoForwardRefs S fuel = true ∧ renderedPcf S fuel = graphPcf S fuel := by
  unfold renderedPcf at hok
  unfold renderedNoForwardRefs renderedPcf graphPcf
  cases hr : renderJson S fuel with
  | error e => rw [hr] at hok; cases hok
  | ok j =>
    obtain ⟨h1, text, h2, h3⟩ := C09_render_has_graph_pcf_dec S fuel j hwf hr
    simp only [h1, h2, h3 fuel (Nat.le_refl _), and_self]

/-- For the hypothesis `hok` it is enough that the renderer succeeds: the specification's
    transformation is then defined on what it wrote. -/
theorem renderedPcf_isSome (S : SchemaMut) (fuel : Nat) (hwf : namesWFb S = true)
    (h : (renderJson S fuel).isOk = true) : (renderedPcf S fuel).isSome = true := by
  unfold renderedPcf
  cases hr : renderJson S fuel with
  | error e => rw [hr] at h; cases h
  | ok j =>
    obtain ⟨-, text, h2, -⟩ := C09_render_has_graph_pcf_dec S fuel j hwf hr
    simp only [h2, Option.isSome_some]

/-! #### non-vacuity 1: a recursive record in a namespace, an enum of another namespace that is
referenced from both namespaces, a shared unnamed node -/

/-- `ns.Node { value: long, next: [null, ns.Node], color: other.Color, more: array<other.Color>,
    box: other.Box { c: other.Color, n: [null, ns.Node], again: array<other.Color> } }` — the
    union node 2 and the array node 4 are shared. -/
def graphRecursive : SchemaMut := #[
  ⟨.record ⟨"ns.Node", "Node", some "ns"⟩
      [("value", 1), ("next", 2), ("color", 3), ("more", 4), ("box", 6)], none⟩,
  ⟨.long, none⟩,
  ⟨.union [5, 0], none⟩,
  ⟨.enum ⟨"other.Color", "Color", some "other"⟩ ["R", "G"], none⟩,
  ⟨.array 3, none⟩,
  ⟨.null, none⟩,
  ⟨.record ⟨"other.Box", "Box", some "other"⟩ [("c", 3), ("n", 2), ("again", 4)], none⟩]

theorem C09_global_example_recursive :
    namesWFb graphRecursive = true ∧
    renderedNoForwardRefs graphRecursive 30 = true ∧
    renderedPcf graphRecursive 30 = graphPcf graphRecursive 30 ∧
    graphPcf graphRecursive 30 = some
      "{\"name\":\"ns.Node\",\"type\":\"record\",\"fields\":[{\"name\":\"value\",\"type\":\"long\"},{\"name\":\"next\",\"type\":[\"null\",\"ns.Node\"]},{\"name\":\"color\",\"type\":{\"name\":\"other.Color\",\"type\":\"enum\",\"symbols\":[\"R\",\"G\"]}},{\"name\":\"more\",\"type\":{\"type\":\"array\",\"items\":\"other.Color\"}},{\"name\":\"box\",\"type\":{\"name\":\"other.Box\",\"type\":\"record\",\"fields\":[{\"name\":\"c\",\"type\":\"other.Color\"},{\"name\":\"n\",\"type\":[\"null\",\"ns.Node\"]},{\"name\":\"again\",\"type\":{\"type\":\"array\",\"items\":\"other.Color\"}}]}}]}" := by
  have hwf : namesWFb graphRecursive = true := by decide +kernel
  obtain ⟨h2, h3⟩ := C09_global_eval graphRecursive 30 hwf
    (renderedPcf_isSome _ _ hwf (by decide +kernel))
  refine ⟨hwf, h2, h3, ?_⟩
  -- the expected text is compared through its UTF-8 bytes (`Lemmas/LiteralEq.lean`)
  apply eq_some_ofList_of_utf8
  decide +kernel

/-- what the renderer writes for it: at the root (enclosing namespace: none) the fullname
    `ns.Node`; inside `ns` the recursive reference is `Node`, the enum is `other.Color`; inside
    `other` the enum is `Color` and the outer record is `ns.Node` -/
example : renderJson graphRecursive 30 = .ok
    (.obj [("type", .str "record"), ("name", .str "ns.Node"), ("fields", .arr [
      .obj [("name", .str "value"), ("type", .str "long")],
      .obj [("name", .str "next"), ("type", .arr [.str "null", .str "Node"])],
      .obj [("name", .str "color"), ("type", .obj [("type", .str "enum"),
        ("name", .str "other.Color"), ("symbols", .arr [.str "R", .str "G"])])],
      .obj [("name", .str "more"), ("type",
        .obj [("type", .str "array"), ("items", .str "other.Color")])],
      .obj [("name", .str "box"), ("type", .obj [("type", .str "record"),
        ("name", .str "other.Box"), ("fields", .arr [
          .obj [("name", .str "c"), ("type", .str "Color")],
          .obj [("name", .str "n"), ("type", .arr [.str "null", .str "ns.Node"])],
          .obj [("name", .str "again"), ("type",
            .obj [("type", .str "array"), ("items", .str "Color")])]])])]])]) := by
  rfl

/-! #### non-vacuity 2: logical types on primitives and on a fixed, a name without namespace
under a namespaced parent (`"namespace": ""`), a named type whose short name is a type keyword -/

/-- `a.R { d: int(date), f: a.F = fixed(12, duration), g: a.F, dec: bytes(decimal 10,2),
    kw: enum "int" (no namespace), kw2: that enum again, kw3: a.string = fixed(1), kw4: a.string }` -/
def graphLogical : SchemaMut := #[
  ⟨.record ⟨"a.R", "R", some "a"⟩
      [("d", 1), ("f", 2), ("g", 2), ("dec", 3), ("kw", 4), ("kw2", 4), ("kw3", 5), ("kw4", 5)],
    none⟩,
  ⟨.int, some .date⟩,
  ⟨.fixed ⟨"a.F", "F", some "a"⟩ 12, some .duration⟩,
  ⟨.bytes, some (.decimal 2 10)⟩,
  ⟨.enum ⟨"int", "int", none⟩ ["x"], none⟩,
  ⟨.fixed ⟨"a.string", "string", some "a"⟩ 1, some (.unknown "my-type")⟩]

example : renderJson graphLogical 30 = .ok
    (.obj [("type", .str "record"), ("name", .str "a.R"), ("fields", .arr [
      .obj [("name", .str "d"), ("type",
        .obj [("logicalType", .str "date"), ("type", .str "int")])],
      .obj [("name", .str "f"), ("type", .obj [("logicalType", .str "duration"),
        ("type", .str "fixed"), ("name", .str "F"), ("size", .nat 12)])],
      .obj [("name", .str "g"), ("type", .str "F")],
      .obj [("name", .str "dec"), ("type", .obj [("logicalType", .str "decimal"),
        ("type", .str "bytes"), ("scale", .nat 2), ("precision", .nat 10)])],
      .obj [("name", .str "kw"), ("type", .obj [("type", .str "enum"), ("namespace", .str ""),
        ("name", .str "int"), ("symbols", .arr [.str "x"])])],
      .obj [("name", .str "kw2"), ("type", .str ".int")],
      .obj [("name", .str "kw3"), ("type", .obj [("logicalType", .str "my-type"),
        ("type", .str "fixed"), ("name", .str "string"), ("size", .nat 1)])],
      .obj [("name", .str "kw4"), ("type", .str "a.string")]])]) := by
  rfl

theorem C09_global_example_logical :
    namesWFb graphLogical = true ∧
    renderedNoForwardRefs graphLogical 30 = true ∧
    renderedPcf graphLogical 30 = graphPcf graphLogical 30 ∧
    graphPcf graphLogical 30 = some
      "{\"name\":\"a.R\",\"type\":\"record\",\"fields\":[{\"name\":\"d\",\"type\":\"int\"},{\"name\":\"f\",\"type\":{\"name\":\"a.F\",\"type\":\"fixed\",\"size\":12}},{\"name\":\"g\",\"type\":\"a.F\"},{\"name\":\"dec\",\"type\":\"bytes\"},{\"name\":\"kw\",\"type\":{\"name\":\"int\",\"type\":\"enum\",\"symbols\":[\"x\"]}},{\"name\":\"kw2\",\"type\":\"int\"},{\"name\":\"kw3\",\"type\":{\"name\":\"a.string\",\"type\":\"fixed\",\"size\":1}},{\"name\":\"kw4\",\"type\":\"a.string\"}]}" := by
  have hwf : namesWFb graphLogical = true := by decide +kernel
  obtain ⟨h2, h3⟩ := C09_global_eval graphLogical 30 hwf
    (renderedPcf_isSome _ _ hwf (by decide +kernel))
  refine ⟨hwf, h2, h3, ?_⟩
  apply eq_some_ofList_of_utf8
  decide +kernel

/-- The general theorem applied to a concrete graph (nothing evaluated but `namesWFb`). -/
example (j : Json) (h : renderJson graphLogical 30 = .ok j) (fuel' : Nat) (hf : 30 ≤ fuel') :
    noForwardRefs j = true ∧
      ∃ text, parsingCanonicalForm j = some text ∧ canonicalForm graphLogical fuel' = .ok text := by
  obtain ⟨h1, text, h2, h3⟩ :=
    C09_render_has_graph_pcf_dec graphLogical 30 j (by decide +kernel) h
  exact ⟨h1, text, h2, h3 fuel' hf⟩

/-! ### the hypothesis on names is needed, clause by clause -/

/-- `ns = none` but `fq ≠ short`: the renderer writes `short`, the canonical form `fq`. -/
def graphBadFq : SchemaMut := #[⟨.enum ⟨"a.b", "c", none⟩ ["X"], none⟩]

theorem C09_wf_needed_fq :
    namesWFb graphBadFq = false ∧
    renderedPcf graphBadFq 5 = some "{\"name\":\"c\",\"type\":\"enum\",\"symbols\":[\"X\"]}" ∧
    graphPcf graphBadFq 5 = some "{\"name\":\"a.b\",\"type\":\"enum\",\"symbols\":[\"X\"]}" ∧
    renderedPcf graphBadFq 5 ≠ graphPcf graphBadFq 5 := by
  refine ⟨by decide +kernel, ?_, ?_, by decide +kernel⟩ <;>
    (apply eq_some_ofList_of_utf8; decide +kernel)

/-- a dot in the short name (`fq = short = "a.b"`, `ns = none`): the record itself is read back
    as `a.b`, but its fields are rendered in the namespace `none` and read in the namespace `a`. -/
def graphBadShort : SchemaMut := #[
  ⟨.record ⟨"a.b", "a.b", none⟩ [("f", 1)], none⟩,
  ⟨.enum ⟨"E", "E", none⟩ ["X"], none⟩]

theorem C09_wf_needed_short_dot :
    namesWFb graphBadShort = false ∧
    renderedPcf graphBadShort 9 = some
      "{\"name\":\"a.b\",\"type\":\"record\",\"fields\":[{\"name\":\"f\",\"type\":{\"name\":\"a.E\",\"type\":\"enum\",\"symbols\":[\"X\"]}}]}" ∧
    graphPcf graphBadShort 9 = some
      "{\"name\":\"a.b\",\"type\":\"record\",\"fields\":[{\"name\":\"f\",\"type\":{\"name\":\"E\",\"type\":\"enum\",\"symbols\":[\"X\"]}}]}" ∧
    renderedPcf graphBadShort 9 ≠ graphPcf graphBadShort 9 := by
  refine ⟨by decide +kernel, ?_, ?_, by decide +kernel⟩ <;>
    (apply eq_some_ofList_of_utf8; decide +kernel)

/-- namespace `some ""` (`fq = ".x"`): written as the dotted name `.x`, read as `x` without
    namespace. -/
def graphBadEmptyNs : SchemaMut := #[⟨.fixed ⟨".x", "x", some ""⟩ 4, none⟩]

theorem C09_wf_needed_empty_ns :
    namesWFb graphBadEmptyNs = false ∧
    renderedPcf graphBadEmptyNs 5 = some "{\"name\":\"x\",\"type\":\"fixed\",\"size\":4}" ∧
    graphPcf graphBadEmptyNs 5 = some "{\"name\":\".x\",\"type\":\"fixed\",\"size\":4}" ∧
    renderedPcf graphBadEmptyNs 5 ≠ graphPcf graphBadEmptyNs 5 := by
  refine ⟨by decide +kernel, ?_, ?_, by decide +kernel⟩ <;>
    (apply eq_some_ofList_of_utf8; decide +kernel)

/-- `ns = some "n"` but `fq ≠ "n.x"`: inside the namespace `n` the renderer writes the short name. -/
def graphBadNsFq : SchemaMut := #[
  ⟨.record ⟨"n.R", "R", some "n"⟩ [("f", 1)], none⟩,
  ⟨.enum ⟨"q", "x", some "n"⟩ ["X"], none⟩]

theorem C09_wf_needed_ns_fq :
    namesWFb graphBadNsFq = false ∧
    renderedPcf graphBadNsFq 9 = some
      "{\"name\":\"n.R\",\"type\":\"record\",\"fields\":[{\"name\":\"f\",\"type\":{\"name\":\"n.x\",\"type\":\"enum\",\"symbols\":[\"X\"]}}]}" ∧
    graphPcf graphBadNsFq 9 = some
      "{\"name\":\"n.R\",\"type\":\"record\",\"fields\":[{\"name\":\"f\",\"type\":{\"name\":\"q\",\"type\":\"enum\",\"symbols\":[\"X\"]}}]}" ∧
    renderedPcf graphBadNsFq 9 ≠ graphPcf graphBadNsFq 9 := by
  refine ⟨by decide +kernel, ?_, ?_, by decide +kernel⟩ <;>
    (apply eq_some_ofList_of_utf8; decide +kernel)

/-! ### distinct fullnames are not needed here -/

/-- Two different enums both named `E`, each met twice: both writers write each in full at its
    first visit and `"E"` afterwards; the specification's transformation does not look at what a
    name refers to.  (The document is not a valid schema; `parseJson` rejects it, see
    `Theorems/C09globalC08.lean`.) -/
def graphDupNames : SchemaMut := #[
  ⟨.record ⟨"R", "R", none⟩ [("a", 1), ("b", 2), ("c", 1), ("d", 2)], none⟩,
  ⟨.enum ⟨"E", "E", none⟩ ["A"], none⟩,
  ⟨.enum ⟨"E", "E", none⟩ ["B"], none⟩]

theorem C09_distinct_not_needed :
    namesWFb graphDupNames = true ∧
    renderedNoForwardRefs graphDupNames 12 = true ∧
    renderedPcf graphDupNames 12 = graphPcf graphDupNames 12 ∧
    graphPcf graphDupNames 12 = some
      "{\"name\":\"R\",\"type\":\"record\",\"fields\":[{\"name\":\"a\",\"type\":{\"name\":\"E\",\"type\":\"enum\",\"symbols\":[\"A\"]}},{\"name\":\"b\",\"type\":{\"name\":\"E\",\"type\":\"enum\",\"symbols\":[\"B\"]}},{\"name\":\"c\",\"type\":\"E\"},{\"name\":\"d\",\"type\":\"E\"}]}" := by
  have hwf : namesWFb graphDupNames = true := by decide +kernel
  obtain ⟨h2, h3⟩ := C09_global_eval graphDupNames 12 hwf
    (renderedPcf_isSome _ _ hwf (by decide +kernel))
  refine ⟨hwf, h2, h3, ?_⟩
  apply eq_some_ofList_of_utf8
  decide +kernel

/-! ### where the two writers do differ: which graphs they accept -/

/-- The two walks differ in what they *accept*: the renderer refuses a union that carries a
    logical type (`C09_union_logical_err`), the canonical-form writer does not look at logical
    types.  (Whatever the renderer writes the canonical-form writer writes too:
    `Renders.canonTree` with `pcf_of_canonTree`.) -/
theorem C09_union_logical_only_pcf :
    graphPcf #[⟨.union [1], some .date⟩, ⟨.int, none⟩] 5 = some "[\"int\"]" ∧
    renderedPcf #[⟨.union [1], some .date⟩, ⟨.int, none⟩] 5 = none := by
  refine ⟨by decide +kernel, by decide +kernel⟩

end Avro.Theorems
