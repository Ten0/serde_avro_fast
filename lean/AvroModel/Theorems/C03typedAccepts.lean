import AvroModel.Lemmas.TypedAccepts
import AvroModel.Theorems.C03typed
/-
C03 — typed targets: WHEN a typed read SUCCEEDS (acceptance half, recursive fragment).

`C03_typed_value` (C03typed.lean) says what a successful typed read returns, for every request;
`C03_typed_accepts_shallow_partial` gives acceptance for a shallow fragment only.  Here: acceptance
for the natural recursive fragment `fits S k h node` (`Lemmas/TypedAccepts.lean`, decidable):

  * `any`, `ignored`          fit every node;
  * `i64`                     fits `int`, `date`, `time-millis`, `long`, `time-micros`,
                              `timestamp-millis`, `timestamp-micros`;
  * `f64` fits `double`; `str` fits `string`, `uuid`; `bytes` fits `bytes`, `fixed`;
  * `option h`                fits a union `[null, T]` / `[T, null]` when `h` fits `T`;
  * `seq h`                   fits `array T` when `h` fits `T`;
  * `map str h`, `map any h`  fit `map T` when `h` fits `T`;
  * `struct fs`               fits a record when every field of `fs` names a record field and every
                              record field is read with a request that fits its node — the request
                              listed for its name in `fs`, `ignored` if there is none.
-/
namespace Avro.Theorems
open Avro Avro.Spec Avro.Impl

/-- **C03, typed targets: acceptance**, on the exact decoder alone, with the sharp fuel bound
    `3 * size v`. -/
theorem C03_typed_accepts_impl_layouts (cfg : DeConfig) (S : Schema) (node : Node) (h : Hint)
    (k : Nat) (v : Spec.Value) (bytes rest : Bytes) (o : Out) (depth fuelX : Nat) (favor : Bool)
    (hdec : Spec.decodeX Limits.impl S fuelX node bytes = some (v, rest))
    (hobs : Spec.observe S node v = some o)
    (hdepth : Spec.depthOf v ≤ depth) (hseq : Spec.maxLen v ≤ cfg.maxSeqSize)
    (fuel : Nat) (hfuel : 3 * Spec.size v ≤ fuel)
    (hfit : fits S k h node = true)
    (s : RState) (hs : s.isSlice = true) (hl : s.limit = none) (ha : s.avail = 0)
    (hr : s.rest = bytes) :
    ∃ o', de deExtModel cfg S fuel node depth favor h s = (.ok o', { s with rest := rest }) ∧
      consistent o' o := by
  obtain ⟨o', ho'⟩ := typed_accepts_layouts cfg S k h v node bytes rest o depth fuelX fuel favor hdec
    hobs hdepth hseq hfuel hfit
  have hrun := ho'.run s hs hl ha hr
  exact ⟨o', hrun,
    (C03_typed_value cfg S node h v bytes rest o depth fuelX fuel favor hdec hobs s _ o' hs hl ha hr
      hrun).1⟩

/-- **C03, typed targets: acceptance.**  On a valid layout (`hdec`) within the implementation's
    limits and with exact block byte sizes (`hexact`), whose value the deserializer can represent
    (`hobs`), within the depth budget and `max_seq_size`, with the fuel of `C03_de_refines_spec`:
    every request that fits the node (`hfit`) SUCCEEDS — for every `favor` flag — consumes exactly
    the datum, and returns something consistent with the encoded value. -/
theorem C03_typed_accepts (cfg : DeConfig) (S : Schema) (node : Node) (h : Hint) (k : Nat)
    (v : Spec.Value) (bytes rest : Bytes) (o : Out) (depth fuelS fuelX : Nat) (favor : Bool)
    (hdec : Spec.decode S fuelS node bytes = some (v, rest))
    (hobs : Spec.observe S node v = some o)
    (hexact : (Spec.decodeX Limits.impl S fuelX node bytes).isSome = true)
    (hdepth : Spec.depthOf v ≤ depth) (hseq : Spec.maxLen v ≤ cfg.maxSeqSize)
    (fuel : Nat) (hfuel : Spec.size v * 4 + 8 ≤ fuel)
    (hfit : fits S k h node = true)
    (s : RState) (hs : s.isSlice = true) (hl : s.limit = none) (ha : s.avail = 0)
    (hr : s.rest = bytes) :
    ∃ o', de deExtModel cfg S fuel node depth favor h s = (.ok o', { s with rest := rest }) ∧
      consistent o' o :=
  C03_typed_accepts_impl_layouts cfg S node h k v bytes rest o depth fuelX favor
    (C12_decodeX_of_spec hdec hexact) hobs hdepth hseq fuel (by omega) hfit s hs hl ha hr

theorem C03_typed_accepts_run (cfg : DeConfig) (S : Schema) (node : Node) (h : Hint) (k : Nat)
    (v : Spec.Value) (bytes rest : Bytes) (o : Out) (depth fuelS fuelX : Nat)
    (hdec : Spec.decode S fuelS node bytes = some (v, rest))
    (hobs : Spec.observe S node v = some o)
    (hexact : (Spec.decodeX Limits.impl S fuelX node bytes).isSome = true)
    (hdepth : Spec.depthOf v ≤ depth) (hseq : Spec.maxLen v ≤ cfg.maxSeqSize)
    (fuel : Nat) (hfuel : Spec.size v * 4 + 8 ≤ fuel)
    (hfit : fits S k h node = true)
    (s : RState) (hs : s.isSlice = true) (hl : s.limit = none) (ha : s.avail = 0)
    (hr : s.rest = bytes) :
    ∃ o', de deExtModel cfg S fuel node depth false h s = (.ok o', { s with rest := rest }) := by
  obtain ⟨o', h1, _⟩ := C03_typed_accepts cfg S node h k v bytes rest o depth fuelS fuelX false hdec
    hobs hexact hdepth hseq fuel hfuel hfit s hs hl ha hr
  exact ⟨o', h1⟩

/-! ### Non-vacuity -/

/-- the struct target `struct T { c: i64, b: Option<i64>, a: Vec<i64> }` fits the record
    `{a: array<int>, b: union {null, long}, c: long}` of `C12typed.lean` … -/
example : fits c12TypedSchema 3 c12TypedHint c12TypedNode = true := by decide

/-- … and so does the one that lacks `a` (read as `ignored`) -/
example : fits c12TypedSchema 3 c12TypedHintNoA c12TypedNode = true := by decide

/-- `fits` is not trivial -/
example : fits c12TypedSchema 3 (.struct [("c", .str)]) c12TypedNode = false ∧
    fits c12TypedSchema 3 (.struct [("zz", .any)]) c12TypedNode = false ∧
    fits c12TypedSchema 9 (.option .i64) .long = false ∧
    fits c12TypedSchema 9 (.seq .str) (.array 0) = false := by decide

/-- every hypothesis of `C03_typed_accepts` instantiated on the record
    `{a: [1, 2, 3] (two blocks, one sized), b: union branch 1 = 5, c: 7}` and the struct target above:
    the typed read succeeds, leaves `2a`, and returns something consistent with the encoded value -/
example : ∃ o', de deExtModel {} c12TypedSchema 100 c12TypedNode 64 false c12TypedHint
      { rest := c12TypedBytes } = (.ok o', { rest := [0x2a] }) ∧
    consistent o' (.map [(.str "a" false, .seq [.i32 1, .i32 2, .i32 3]),
                         (.str "b" false, .i64 5), (.str "c" false, .i64 7)]) :=
  C03_typed_accepts {} c12TypedSchema c12TypedNode c12TypedHint 3
    (.record [.array [.int 1, .int 2, .int 3], .union 1 (.long 5), .long 7]) c12TypedBytes [0x2a] _
    64 10 10 false (by rfl) (by rfl) (by rfl) (by decide) (by decide) 100 (by decide) (by decide)
    { rest := c12TypedBytes } rfl rfl rfl rfl

/-- the same for the target without `a`: the sized block is jumped over -/
example : ∃ o', de deExtModel {} c12TypedSchema 100 c12TypedNode 64 false c12TypedHintNoA
      { rest := c12TypedBytes } = (.ok o', { rest := [0x2a] }) :=
  C03_typed_accepts_run {} c12TypedSchema c12TypedNode c12TypedHintNoA 3
    (.record [.array [.int 1, .int 2, .int 3], .union 1 (.long 5), .long 7]) c12TypedBytes [0x2a] _
    64 10 10 (by rfl) (by rfl) (by rfl) (by decide) (by decide) 100 (by decide) (by decide)
    { rest := c12TypedBytes } rfl rfl rfl rfl

/-! ### The hypotheses -/

/-- `array<int>` = `[1]` in one block that announces 4 bytes for its 1-byte item, then the end
    marker -/
def c03WrongSizeArr : Bytes := [0x01, 0x08, 0x02, 0x00]

/-- **Exact block sizes are necessary** (this is the one hypothesis that differs from those of
    `C03_de_refines_spec`).  `c03WrongSizeArr` satisfies every hypothesis of `C03_de_refines_spec`
    (`Spec.decode` and `decodeL Limits.impl` accept it as `[1]`, and the self-describing read
    succeeds), the request `ignored` fits, and the typed read FAILS (it jumps 4 bytes, 2 are left).
    Likewise for a struct request that omits the field (`c12WrongSize` of `C12layouts.lean` with
    one more announced byte would do; here the record `{a: array<int>}` and `struct {}`). -/
theorem C03_typed_accepts_needs_exact_sizes :
    Spec.decode #[.int] 10 (.array 0) c03WrongSizeArr = some (.array [.int 1], []) ∧
    Spec.decodeL Limits.impl #[.int] 10 (.array 0) c03WrongSizeArr = some (.array [.int 1], []) ∧
    Spec.decodeX Limits.impl #[.int] 10 (.array 0) c03WrongSizeArr = none ∧
    de deExtModel {} #[.int] 50 (.array 0) 64 false .any { rest := c03WrongSizeArr } =
      (.ok (.seq [.i32 1]), { rest := [] }) ∧
    fits #[.int] 0 .ignored (.array 0) = true ∧
    (de deExtModel {} #[.int] 50 (.array 0) 64 false .ignored { rest := c03WrongSizeArr }).1 =
      .error .custom ∧
    fits #[.int, .array 0] 1 (.struct []) (.record c12Rec [("a", 1)]) = true ∧
    (de deExtModel {} #[.int, .array 0] 50 (.record c12Rec [("a", 1)]) 64 false (.struct [])
      { rest := c03WrongSizeArr }).1 = .error .custom := by
  exact ⟨by rfl, by rfl, by rfl, NVB.resEq_of (by decide +kernel), by rfl,
    NVB.fstEq_of (by decide +kernel), by rfl, NVB.fstEq_of (by decide +kernel)⟩

/-- **`fits` is needed**: on valid inputs, requests that do not fit do not succeed as such — `str` on
    a `long` hands `visit_i64` to the string visitor (the model's read returns `i64 5`; a real
    `String` target rejects it), a 1-tuple on a 2-element array and an enum target without the
    branch's name are errors of the read itself. -/
theorem C03_typed_accepts_needs_fits :
    (fits #[] 9 .str .long = false ∧
     (de deExtModel {} #[] 9 .long 64 false .str { rest := [0x0a] }).1 = .ok (.i64 5)) ∧
    (fits #[.int] 9 (.tuple 1 .any) (.array 0) = false ∧
     (de deExtModel {} #[.int] 50 (.array 0) 64 false (.tuple 1 .any) { rest := c12Arr12 }).1 =
       .error .custom) ∧
    (fits c12TypedSchema 9 (.enum [("Null", .unit)]) (.union [2, 3]) = false ∧
     (de deExtModel {} c12TypedSchema 50 (.union [2, 3]) 64 false (.enum [("Null", .unit)])
       { rest := [0x02, 0x0a] }).1 = .error .custom) := by
  exact ⟨⟨by rfl, NVB.fstEq_of (by decide +kernel)⟩, ⟨by rfl, NVB.fstEq_of (by decide +kernel)⟩,
    ⟨by rfl, NVB.fstEq_of (by decide +kernel)⟩⟩

end Avro.Theorems
