import AvroModel.Lemmas.SerCanonical
import AvroModel.Theorems.C01de
/-
C01 — the glue step between C02 and `C01_de_accepts`, and the end-to-end datum round trip.

`C01_ser_canonical`: what the serializer writes IS the canonical specification encoding
`Spec.encode S node v` of a value `v` the presentation denotes (C02 only says the bytes *decode* to
`v`).  Two layouts of the crate are legal but not canonical, and the counterexamples below show
that they have to be excluded.  The block writer starts a block of `len.unwrap_or(0)` items, fails
at `end` if fewer came, and opens one further block PER surplus element: a `seq`/`map` whose
advertised length does not cover its elements (`Canon.lenCovers`) gives several blocks on an
`array`/`map` node.  `serialize_integer` strips leading `0x00` bytes only (`stripZeros`): `-1` on a
`decimal`/`bytes` node is written on 16 bytes `0xFF`.  Each is excluded by "the presentation does
not do X (`Canon.svCanon f sv`), or `f` permits X and no node of the schema is of the kind on which
X is not canonical (`Canon.nodeAllows f`)".  `svCanon` is syntactic and does not see the node,
which is what the permissions `f : Canon.Allow` are for: with `f.openMap` any `serialize_map(None)`
— serde's `flatten` — is accepted, provided the schema has no `map` node.

`C01_roundtrip_impl`: `ser` followed by the implementation's deserializer with a dynamically typed
target (composition with `C01_de_accepts`).
-/
namespace Avro.Theorems
open Avro Avro.Impl Avro.Spec

/-! ### Part 1: the serializer writes the canonical encoding -/

/-- **C01 glue.**  Under the hypotheses of `C02_sound_strong`, for a presentation whose sequences
    advertise their length (`svCanon`), a successful `ser` appends exactly `Spec.encode S node v`
    for a value `v` that the presentation denotes.  `f` lists what the presentation is permitted
    (negative integers, `seq`/`map` with an uncovering length); nodes on which a permitted
    presentation would not be canonical are excluded from the schema (`nodeAllows`). -/
theorem C01_ser_canonical (f : Canon.Allow) (ext : Ext) (allowSlow : Bool)
    (S : Schema) (node : Node) (sv : SV) (s : SerState)
    (hok : (ser ext allowSlow S node sv s).1 = .ok ())
    (hs : Good s) (hS : SchemaOK S) (hnode : NodeOK S node) (hsv : svOK sv = true)
    (hext : ExtOK ext)
    (hcanon : Canon.svCanon f sv = true)
    (hallowS : ∀ (k : Nat) (n : Node), S[k]? = some n → Canon.nodeAllows f n = true)
    (hallowN : Canon.nodeAllows f node = true) :
    ∃ s' v bytes, ser ext allowSlow S node sv s = (.ok (), s') ∧ s'.out = s.out ++ bytes ∧ Good s' ∧
      Spec.encode S node v = some bytes ∧
      Spec.denotes (denExtOf ext) S node sv v = true :=
  Canon.ser_canon_aux (fun k n hk => ⟨hS k n hk, hallowS k n hk⟩) hext sv hsv hcanon node s
    ⟨hnode, hallowN⟩ hs hok

/-- No permission asked (`{}`: no negative integer, every `seq`/`map` advertises a covering
    length): exactly the hypotheses of `C02_sound_strong` plus `svCanon {} sv`. -/
theorem C01_ser_canonical_strict (ext : Ext) (allowSlow : Bool) (S : Schema)
    (node : Node) (sv : SV) (s : SerState)
    (hok : (ser ext allowSlow S node sv s).1 = .ok ())
    (hs : Good s) (hS : SchemaOK S) (hnode : NodeOK S node) (hsv : svOK sv = true)
    (hext : ExtOK ext) (hcanon : Canon.svCanon {} sv = true) :
    ∃ s' v bytes, ser ext allowSlow S node sv s = (.ok (), s') ∧ s'.out = s.out ++ bytes ∧ Good s' ∧
      Spec.encode S node v = some bytes ∧
      Spec.denotes (denExtOf ext) S node sv v = true :=
  C01_ser_canonical {} ext allowSlow S node sv s hok hs hS hnode hsv hext hcanon
    (fun _ n _ => Canon.nodeAllows_strict n) (Canon.nodeAllows_strict node)

/-- The same with the decidable schema checks of `C02_sound_partial`. -/
theorem C01_ser_canonical_checks (f : Canon.Allow) (ext : Ext) (allowSlow : Bool)
    (S : Schema) (node : Node) (sv : SV) (o : Bytes) (p : Pool)
    (hok : (ser ext allowSlow S node sv { out := o, budget := none, pool := p }).1 = .ok ())
    (hp : PoolClean p) (hk : S.keysInBounds = true) (hd : schemaNamesDistinct S = true)
    (hsmall : schemaSmall S = true) (hnn : schemaNoNestedUnion S = true)
    (hnode : nodeOKb S node = true)
    (hsv : svOK sv = true) (hext : ExtOK ext)
    (hcanon : Canon.svCanon f sv = true)
    (hallowS : Canon.schemaAllows f S = true) (hallowN : Canon.nodeAllows f node = true) :
    ∃ v bytes,
      (ser ext allowSlow S node sv { out := o, budget := none, pool := p }).2.out = o ++ bytes ∧
      Spec.encode S node v = some bytes ∧
      Spec.denotes (denExtOf ext) S node sv v = true ∧
      PoolClean (ser ext allowSlow S node sv { out := o, budget := none, pool := p }).2.pool := by
  obtain ⟨s', v, bytes, hrun, hout, hg, henc, hden⟩ :=
    C01_ser_canonical f ext allowSlow S node sv { out := o, budget := none, pool := p } hok
      ⟨rfl, hp⟩ (SchemaOK.of_checks hk hd hsmall hnn) (NodeOK.of_check hnode) hsv hext hcanon
      (fun _ _ hk' => all_of_getElem? hallowS hk') hallowN
  exact ⟨v, bytes, by rw [hrun]; exact hout, henc, hden, by rw [hrun]; exact hg.2⟩

/-- The canonical encoding is in particular decodable: `C01_ser_canonical` implies the conclusion
    of `C02_sound_strong` for the same value. -/
theorem C01_canonical_decodes (S : Schema) (node : Node) (v : Value) (bytes : Bytes)
    (h : Spec.encode S node v = some bytes) :
    ∀ fuel, Spec.size v ≤ fuel → ∀ rest, Spec.decode S fuel node (bytes ++ rest) = some (v, rest) :=
  fun fuel hf rest => Spec.decode_encode S node v bytes rest h fuel hf

/-! ### Part 2: `ser` then `de` -/

/-- **C01, end to end.**  Serializing a presentation and deserializing the bytes written (followed
    by anything) with the untyped target yields `Spec.observe` of a value `v` the presentation
    denotes, and leaves exactly what followed.  The side conditions of `C01_de_accepts` that
    speak about the value (`observe` defined, nesting depth, sequence lengths, fuel) are stated on
    that `v`; the one about decimals on `fixed` is stated on the schema. -/
theorem C01_roundtrip_impl (f : Canon.Allow) (ext : Ext) (allowSlow : Bool)
    (S : Schema) (node : Node) (sv : SV) (s₀ : SerState)
    (hok : (ser ext allowSlow S node sv s₀).1 = .ok ())
    (hs : Good s₀) (hS : SchemaOK S) (hnode : NodeOK S node) (hsv : svOK sv = true)
    (hext : ExtOK ext)
    (hcanon : Canon.svCanon f sv = true)
    (hallowS : ∀ (k : Nat) (n : Node), S[k]? = some n → Canon.nodeAllows f n = true)
    (hallowN : Canon.nodeAllows f node = true)
    (hfixS : Schema.fixedDecFits S) (hfixN : node.fixedDecFits = true) :
    ∃ s' bytes v, ser ext allowSlow S node sv s₀ = (.ok (), s') ∧ s'.out = s₀.out ++ bytes ∧
      Spec.encode S node v = some bytes ∧
      Spec.denotes (denExtOf ext) S node sv v = true ∧
      ∀ (cfg : DeConfig) (depth : Nat) (o : Out), Spec.observe S node v = some o →
        Spec.depthOf v ≤ depth → Spec.maxLen v ≤ cfg.maxSeqSize →
        ∀ fuel, Spec.size v * 4 + 8 ≤ fuel → ∀ (rest : Bytes) (r : RState),
          r.isSlice = true → r.limit = none → r.avail = 0 → r.rest = bytes ++ rest →
          de deExtModel cfg S fuel node depth false .any r = (.ok o, { r with rest := rest }) := by
  obtain ⟨s', v, bytes, hrun, hout, _, henc, hden⟩ :=
    C01_ser_canonical f ext allowSlow S node sv s₀ hok hs hS hnode hsv hext hcanon hallowS hallowN
  refine ⟨s', bytes, v, hrun, hout, henc, hden, ?_⟩
  intro cfg depth o hobs hdepth hseq fuel hfuel rest r hsl hl ha hr
  exact C01_de_accepts_schema cfg S node v bytes rest o depth henc hobs hfixS hfixN hdepth hseq
    fuel hfuel r hsl hl ha hr

/-- The round trip with the limits stated on the presentation: if every value the presentation
    denotes is observable and within the deserializer's depth and length limits, then `de` on the
    bytes `ser` wrote returns the observation of such a value and leaves `rest`. -/
theorem C01_roundtrip_impl_bounded (f : Canon.Allow) (ext : Ext) (allowSlow : Bool)
    (cfg : DeConfig) (S : Schema) (node : Node) (sv : SV) (s₀ : SerState) (depth : Nat)
    (hok : (ser ext allowSlow S node sv s₀).1 = .ok ())
    (hs : Good s₀) (hS : SchemaOK S) (hnode : NodeOK S node) (hsv : svOK sv = true)
    (hext : ExtOK ext)
    (hcanon : Canon.svCanon f sv = true)
    (hallowS : ∀ (k : Nat) (n : Node), S[k]? = some n → Canon.nodeAllows f n = true)
    (hallowN : Canon.nodeAllows f node = true)
    (hfixS : Schema.fixedDecFits S) (hfixN : node.fixedDecFits = true)
    (hlim : ∀ v, Spec.denotes (denExtOf ext) S node sv v = true →
      (Spec.observe S node v).isSome = true ∧ Spec.depthOf v ≤ depth ∧
        Spec.maxLen v ≤ cfg.maxSeqSize) :
    ∃ s' bytes v o, ser ext allowSlow S node sv s₀ = (.ok (), s') ∧ s'.out = s₀.out ++ bytes ∧
      Spec.denotes (denExtOf ext) S node sv v = true ∧ Spec.observe S node v = some o ∧
      ∀ fuel, Spec.size v * 4 + 8 ≤ fuel → ∀ rest : Bytes,
        de deExtModel cfg S fuel node depth false .any { rest := bytes ++ rest } =
          (.ok o, { rest := rest }) := by
  obtain ⟨s', bytes, v, hrun, hout, _, hden, hde⟩ :=
    C01_roundtrip_impl f ext allowSlow S node sv s₀ hok hs hS hnode hsv hext hcanon hallowS hallowN
      hfixS hfixN
  obtain ⟨hobs, hdepth, hseq⟩ := hlim v hden
  obtain ⟨o, ho⟩ := Option.isSome_iff_exists.1 hobs
  refine ⟨s', bytes, v, o, hrun, hout, hden, ho, ?_⟩
  intro fuel hfuel rest
  exact hde cfg depth o ho hdepth hseq fuel hfuel rest { rest := bytes ++ rest } rfl rfl rfl rfl

/-! ### The two extra hypotheses are needed -/

theorem encode_injective {S : Schema} {n : Node} {v v' : Value} {bytes : Bytes}
    (h : Spec.encode S n v = some bytes) (h' : Spec.encode S n v' = some bytes) : v = v' := by
  have h1 := Spec.decode_encode_nil S n v bytes h (max (Spec.size v) (Spec.size v')) (by omega)
  have h2 := Spec.decode_encode_nil S n v' bytes h' (max (Spec.size v) (Spec.size v')) (by omega)
  rw [h1] at h2
  simpa using h2

theorem not_canonical_of_decode {S : Schema} {n : Node} {bytes : Bytes} {v0 : Value} (fuel : Nat)
    (hdec : Spec.decode S fuel n bytes = some (v0, []))
    (hne : Spec.encode S n v0 ≠ some bytes) : ∀ v, Spec.encode S n v ≠ some bytes := by
  intro v hv
  have h1 := Spec.decode_encode_nil S n v bytes hv (max fuel (Spec.size v)) (by omega)
  have h2 := Spec.decode_fuel_mono S fuel (max fuel (Spec.size v)) n bytes _ hdec (by omega)
  rw [h1] at h2
  simp only [Option.some.injEq, Prod.mk.injEq, and_true] at h2
  subst h2
  exact hne hv

namespace C01glue

theorem el1 : encodeLong 1 = [2] := by simp [encodeLong, zigzag, encodeNat]
theorem el2 : encodeLong 2 = [4] := by simp [encodeLong, zigzag, encodeNat]
theorem elm3 : encodeLong (-3) = [5] := by simp [encodeLong, zigzag, encodeNat]
theorem el16 : encodeLong 16 = [32] := by simp [encodeLong, zigzag, encodeNat]
theorem dl0 (rest : Bytes) : decodeLong (0 :: rest) = some (0, rest) := by
  simp [decodeLong, decodeNat, unzigzag]
theorem dl2 (rest : Bytes) : decodeLong (2 :: rest) = some (1, rest) := by
  simp [decodeLong, decodeNat, unzigzag]
theorem dl4 (rest : Bytes) : decodeLong (4 :: rest) = some (2, rest) := by
  simp [decodeLong, decodeNat, unzigzag]

/-- an external library that satisfies `ExtOK` (no decimal conversions) -/
def ext1 : Ext :=
  { asF32 := fun _ => 0, decFromF64 := fun _ => none, decParse := fun _ => none,
    decRescale := fun _ _ => (0, 0) }

theorem ext1_ok : ExtOK ext1 :=
  ⟨fun _ _ _ => by simp [ext1, inI128], fun _ _ h => by simp [ext1] at h, fun _ _ h => by simp [ext1] at h⟩

theorem good_empty : Good {} := ⟨rfl, by simp [PoolClean]⟩

end C01glue
open C01glue

def Sarr : Schema := #[.int]

theorem Sarr_ok : SchemaOK Sarr :=
  SchemaOK.of_checks (by simp [Schema.keysInBounds, Sarr, Node.children])
    (by simp [schemaNamesDistinct, Sarr, nodeNamesDistinct]) (by simp [schemaSmall, Sarr, nodeSmall])
    (by simp [schemaNoNestedUnion, Sarr, nodeNoNestedUnion])

theorem Sarr_array_ok : NodeOK Sarr (.array 0) :=
  NodeOK.of_check (by simp [nodeOKb, Sarr, Node.children, nodeNamesDistinct, nodeSmall,
    nodeNoNestedUnion])

theorem Sarr_noncanonical : ∀ v, Spec.encode Sarr (.array 0) v ≠ some [2, 2, 2, 4, 0] := by
  have h0 : Sarr[0]? = some .int := by decide
  refine not_canonical_of_decode (v0 := .array [.int 1, .int 2]) 5 ?_ ?_
  · simp [decode, decodeBlocks, decodeItems, nodeOf, h0, decodeBlockHeader, dl2, dl4, dl0, InI32]
  · simp [encode, encodeItems, nodeOf, h0, InI32, el1, el2]

/-- Counterexample A (`serialize_seq(None)` on an array): every hypothesis of `C01_ser_canonical`
    except `svCanon` holds, `ser` succeeds, and writes one block per element: `[2,2, 2,4, 0]`
    (`Spec.decode` reads it back as `[1, 2]`, whose canonical encoding is `[4, 2, 4, 0]`). -/
theorem C01_counterexample_seq_none :
    ser ext1 false Sarr (.array 0) (.seq none [.int .i32 1, .int .i32 2]) {} =
      (.ok (), { out := [2, 2, 2, 4, 0] }) ∧
    Good {} ∧ SchemaOK Sarr ∧ NodeOK Sarr (.array 0) ∧
    svOK (.seq none [.int .i32 1, .int .i32 2]) = true ∧ ExtOK ext1 ∧
    Canon.svCanon {} (.seq none [.int .i32 1, .int .i32 2]) = false ∧
    ∀ v, Spec.encode Sarr (.array 0) v ≠ some [2, 2, 2, 4, 0] := by
  exact ⟨run_eq_of (by decide +kernel), good_empty, Sarr_ok, Sarr_array_ok, by decide, ext1_ok,
    by decide, Sarr_noncanonical⟩

/-- Counterexample B (an advertised length that does not cover the elements): `seq (some 1)` with
    two elements writes a block of one and then a second block. -/
theorem C01_counterexample_seq_short :
    ser ext1 false Sarr (.array 0) (.seq (some 1) [.int .i32 1, .int .i32 2]) {} =
      (.ok (), { out := [2, 2, 2, 4, 0] }) ∧
    svOK (.seq (some 1) [.int .i32 1, .int .i32 2]) = true ∧
    Canon.svCanon {} (.seq (some 1) [.int .i32 1, .int .i32 2]) = false ∧
    ∀ v, Spec.encode Sarr (.array 0) v ≠ some [2, 2, 2, 4, 0] := by
  exact ⟨run_eq_of (by decide +kernel), by decide, by decide, Sarr_noncanonical⟩

/-- Without `svCanon` the statement of `C01_ser_canonical` is false. -/
theorem C01_ser_canonical_needs_svCanon :
    ¬ (∀ (ext : Ext) (allowSlow : Bool) (S : Schema) (node : Node) (sv : SV) (s : SerState),
      (ser ext allowSlow S node sv s).1 = .ok () → Good s → SchemaOK S → NodeOK S node →
      svOK sv = true → ExtOK ext →
      ∃ s' v bytes, ser ext allowSlow S node sv s = (.ok (), s') ∧ s'.out = s.out ++ bytes ∧
        Spec.encode S node v = some bytes) := by
  intro h
  obtain ⟨hrun, hg, hS, hn, hsv, hext, _, hne⟩ := C01_counterexample_seq_none
  obtain ⟨s', v, bytes, hrun', hout, henc⟩ := h ext1 false Sarr (.array 0) _ {} (by rw [hrun]) hg hS hn hsv hext
  rw [hrun] at hrun'
  simp only [Prod.mk.injEq, true_and] at hrun'
  subst hrun'
  simp only [List.nil_append] at hout
  subst hout
  exact hne v henc

/-- `serialize_seq(None)` with a single element is the one case without an advertised length in
    which the layout is canonical, and `svCanon` accepts it. -/
example : Canon.svCanon {} (.seq none [.int .i32 7]) = true := by decide

def Smap : Schema := #[.int]

/-- Counterexample C (`serialize_map(None)` on a map): again one block per entry. -/
theorem C01_counterexample_map_none :
    ser ext1 false Smap (.map 0) (.map none [(.str "", .int .i32 1), (.str "", .int .i32 2)]) {} =
      (.ok (), { out := [2, 0, 2, 2, 0, 4, 0] }) ∧
    Canon.svCanon {} (.map none [(.str "", .int .i32 1), (.str "", .int .i32 2)]) = false ∧
    ∀ v, Spec.encode Smap (.map 0) v ≠ some [2, 0, 2, 2, 0, 4, 0] := by
  have h0 : Smap[0]? = some .int := by decide
  have hu : utf8 "" = [] := by decide
  refine ⟨run_eq_of (by decide +kernel), by decide, ?_⟩
  · have hds : ∀ rest, decodeString (0 :: rest) = some ("", rest) := by
      intro rest
      have := decodeString_lenPrefixed "" (by rw [hu]; decide) rest
      simpa [lenPrefixed, hu, encodeLong_zero] using this
    refine not_canonical_of_decode (v0 := .map [("", .int 1), ("", .int 2)]) 5 ?_ ?_
    · simp [decode, decodeMapBlocks, decodeMapItems, nodeOf, h0, decodeBlockHeader, dl2, dl4, dl0,
        hds, InI32]
    · simp [encode, encodeEntries, nodeOf, h0, InI32, el1, el2, encodeLong_zero, lenPrefixed, hu]

def nodeDB : Node := .decimal 0 10 .bytes

/-- Counterexample D (a negative integer on a `decimal`/`bytes` node): `serialize_i32(-1)` writes
    the sixteen bytes `0xFF` of the `i128` (only leading zero bytes are stripped); the canonical
    encoding of `decimal -1` is `[2, 0xFF]`. All other hypotheses hold, `svCanon { negInt := true }` included. -/
theorem C01_counterexample_negative_decimal :
    ser ext1 false #[] nodeDB (.int .i32 (-1)) {} = (.ok (), { out := 32 :: List.replicate 16 255 }) ∧
    Good {} ∧ SchemaOK #[] ∧ NodeOK #[] nodeDB ∧ svOK (.int .i32 (-1)) = true ∧
    Canon.svCanon { negInt := true } (.int .i32 (-1)) = true ∧ Canon.svCanon {} (.int .i32 (-1)) = false ∧
    Canon.nodeAllows { negInt := true } nodeDB = false ∧
    ∀ v, Spec.encode #[] nodeDB v ≠ some (32 :: List.replicate 16 255) := by
  refine ⟨run_eq_of (by decide +kernel), good_empty, ?_, ?_, by decide, by decide, by decide,
    by decide, ?_⟩
  · intro k n hk; simp at hk
  · exact NodeOK.of_check (by simp [nodeOKb, nodeDB, Node.children, nodeNamesDistinct, nodeSmall,
      nodeNoNestedUnion])
  · have e : (32 :: List.replicate 16 255 : Bytes) = lenPrefixed (List.replicate 16 255) ++ [] := by
      simp [lenPrefixed, el16]
    have hv : fromTwosComplementBE (List.replicate 16 255) = -1 := by decide
    refine not_canonical_of_decode (v0 := .decimal (-1)) 1 ?_ ?_
    · rw [e]
      simp only [decode, nodeDB, decodeBytes_lenPrefixed _
        (by decide : (List.replicate 16 (255 : UInt8)).length < 2 ^ 63), hv, Option.map_some]
    · have hm : minimalLen (-1) = 1 := by decide
      have ht : twosComplementBE 1 (-1) = some [255] := by decide
      simp [encode, nodeDB, hm, ht, lenPrefixed, el1]

/-- Without the condition on negative integers the statement is false as well (counterexample D
    above), `svCanon { negInt := true }` granted. -/
theorem C01_ser_canonical_needs_nonneg :
    ¬ (∀ (ext : Ext) (allowSlow : Bool) (S : Schema) (node : Node) (sv : SV) (s : SerState),
      (ser ext allowSlow S node sv s).1 = .ok () → Good s → SchemaOK S → NodeOK S node →
      svOK sv = true → ExtOK ext → Canon.svCanon { negInt := true } sv = true →
      ∃ s' v bytes, ser ext allowSlow S node sv s = (.ok (), s') ∧ s'.out = s.out ++ bytes ∧
        Spec.encode S node v = some bytes) := by
  intro h
  obtain ⟨hrun, hg, hS, hn, hsv, hcn, _, _, hne⟩ := C01_counterexample_negative_decimal
  obtain ⟨s', v, bytes, hrun', hout, henc⟩ :=
    h ext1 false #[] nodeDB _ {} (by rw [hrun]) hg hS hn hsv ext1_ok hcn
  rw [hrun] at hrun'
  simp only [Prod.mk.injEq, true_and] at hrun'
  subst hrun'
  simp only [List.nil_append] at hout
  subst hout
  exact hne v henc

/-! ### Non-vacuity: a record with an array and a union, fields presented out of order -/

def nmR : Name := { fq := "R", short := "R", ns := none }

/-- `record R { a : array<long>, u : union { null, string } }` -/
def Sx : Schema :=
  #[.record nmR [("a", 1), ("u", 3)], .array 2, .long, .union [4, 5], .null, .string]

def nodeR : Node := .record nmR [("a", 1), ("u", 3)]

/-- `R { u: Some("x"), a: vec![1i64, -3] }` with `u` presented first (it is buffered) -/
def svR : SV :=
  .struct "R" [("u", .some (.str "x")), ("a", .seq (some 2) [.int .i64 1, .int .i64 (-3)])]

def vR : Value := .record [.array [.long 1, .long (-3)], .union 1 (.string "x")]

theorem Sx_ok : SchemaOK Sx :=
  SchemaOK.of_checks (by simp [Schema.keysInBounds, Sx, Node.children])
    (by simp [schemaNamesDistinct, Sx, nodeNamesDistinct]) (by simp [schemaSmall, Sx, nodeSmall])
    (by simp [schemaNoNestedUnion, Sx, nodeNoNestedUnion])

theorem nodeR_ok : NodeOK Sx nodeR :=
  NodeOK.of_check (by simp [nodeOKb, nodeR, Sx, Node.children, nodeNamesDistinct, nodeSmall,
    nodeNoNestedUnion])

theorem Sx_allows (f : Canon.Allow) (h : f.openSeq = false) :
    ∀ (k : Nat) (n : Node), Sx[k]? = some n → Canon.nodeAllows f n = true := by
  intro k n hk
  have : Canon.schemaAllows f Sx = true := by simp [Canon.schemaAllows, Sx, Canon.nodeAllows, h]
  exact all_of_getElem? this hk

theorem Sx_fixedDecFits : Schema.fixedDecFits Sx := by
  intro k n hk
  have : Sx.all Node.fixedDecFits = true := by simp [Sx, Node.fixedDecFits]
  exact all_of_getElem? this hk

theorem svR_run : (ser ext1 false Sx nodeR svR {}).2.out = [4, 2, 5, 0, 2, 2, 120] := by
  decide +kernel

theorem vR_encode : Spec.encode Sx nodeR vR = some [4, 2, 5, 0, 2, 2, 120] := by
  have h1 : Sx[1]? = some (.array 2) := by decide
  have h2 : Sx[2]? = some .long := by decide
  have h3 : Sx[3]? = some (.union [4, 5]) := by decide
  have h5 : Sx[5]? = some .string := by decide
  have hx : utf8 "x" = [120] := by decide
  simp [vR, nodeR, encode, encodeFields, encodeItems, nodeOf, h1, h2, h3, h5, InI64, el1, el2, elm3,
    lenPrefixed, hx]

/-- Part 1 on the example: all hypotheses are met (`negInt`: the negative `-3` is allowed since
    the schema has no `decimal`), so the bytes written are a canonical encoding. -/
example : ∃ s' v bytes, ser ext1 false Sx nodeR svR {} = (.ok (), s') ∧ s'.out = [] ++ bytes ∧
    Good s' ∧ Spec.encode Sx nodeR v = some bytes ∧
    Spec.denotes (denExtOf ext1) Sx nodeR svR v = true :=
  C01_ser_canonical { negInt := true } ext1 false Sx nodeR svR {} (by rfl) good_empty Sx_ok
    nodeR_ok (by decide) ext1_ok (by decide) (Sx_allows _ rfl) (by decide)

/-- `serialize_map(None)` with two entries (serde `flatten`) onto the record: accepted with the
    `openMap` permission, the schema having no `map` node. -/
example : ∃ s' v bytes,
    ser ext1 false Sx nodeR
      (.map none [(.str "u", .none), (.str "a", .seq (some 1) [.int .i64 7])]) {} = (.ok (), s') ∧
    s'.out = [] ++ bytes ∧ Good s' ∧ Spec.encode Sx nodeR v = some bytes ∧
    Spec.denotes (denExtOf ext1) Sx nodeR
      (.map none [(.str "u", .none), (.str "a", .seq (some 1) [.int .i64 7])]) v = true :=
  C01_ser_canonical { openMap := true } ext1 false Sx nodeR _ {} (by rfl) good_empty Sx_ok
    nodeR_ok (by decide) ext1_ok (by decide) (Sx_allows _ rfl) (by decide)

/-- Part 2 on the example, made fully concrete: the value is `vR` (the canonical encoding
    determines it), so deserializing what `ser` wrote, followed by any `rest`, returns exactly
    `observe vR` and leaves `rest`. -/
example (rest : Bytes) :
    ∃ s', ser ext1 false Sx nodeR svR {} = (.ok (), s') ∧ s'.out = [4, 2, 5, 0, 2, 2, 120] ∧
      Spec.denotes (denExtOf ext1) Sx nodeR svR vR = true ∧
      de deExtModel {} Sx 100 nodeR 64 false .any { rest := s'.out ++ rest } =
        (.ok (.map [(.str "a" false, .seq [.i64 1, .i64 (-3)]), (.str "u" false, .str "x" true)]),
          { rest := rest }) := by
  obtain ⟨s', bytes, v, hrun, hout, henc, hden, hde⟩ :=
    C01_roundtrip_impl { negInt := true } ext1 false Sx nodeR svR {} (by rfl) good_empty Sx_ok
      nodeR_ok (by decide) ext1_ok (by decide) (Sx_allows _ rfl) (by decide) Sx_fixedDecFits (by decide)
  have hb : bytes = [4, 2, 5, 0, 2, 2, 120] := by
    have := svR_run
    rw [hrun] at this
    simpa [hout] using this
  subst hb
  have hv : v = vR := encode_injective henc vR_encode
  subst hv
  refine ⟨s', hrun, by simpa using hout, hden, ?_⟩
  have hout' : s'.out = [4, 2, 5, 0, 2, 2, 120] := by simpa using hout
  rw [hout']
  exact hde {} 64 _ (by rfl) (by decide) (by decide) 100 (by decide) rest _ rfl rfl rfl rfl

end Avro.Theorems
