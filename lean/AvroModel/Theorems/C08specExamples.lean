import AvroModel.Theorems.C08spec
/-
C08: the documents of `C08spec.lean` evaluated — the crate's canonical form (parser model, writer
model) and the specification's transformation, compared as texts.
-/
namespace Avro.Theorems
open Avro Avro.Impl Avro.Spec.Pcf Avro.PcfSpec

/-- The transformation on the tree, for the same document (definitional unfolding). -/
example : canon none docForwardRef =
    some (.obj [("name", .str "R"), ("type", .str "record"), ("fields", .arr [
      .obj [("name", .str "a"), ("type", .str "E")],
      .obj [("name", .str "b"), ("type",
        .obj [("name", .str "E"), ("type", .str "enum"), ("symbols", .arr [.str "A"])])]])]) := by
  rfl

example :
    noForwardRefs docNamespaces = true ∧
    crateCanonicalText docNamespaces 30 40 = parsingCanonicalForm docNamespaces ∧
    parsingCanonicalForm docNamespaces = some
      "{\"name\":\"a.b.R\",\"type\":\"record\",\"fields\":[{\"name\":\"f\",\"type\":{\"type\":\"array\",\"items\":{\"name\":\"a.b.E\",\"type\":\"enum\",\"symbols\":[\"A\",\"B\"]}}},{\"name\":\"g\",\"type\":[\"null\",\"a.b.E\",\"a.b.R\",\"a.b.R\",{\"name\":\"F\",\"type\":\"fixed\",\"size\":4},{\"name\":\"x.y.G\",\"type\":\"fixed\",\"size\":16}]},{\"name\":\"h\",\"type\":{\"type\":\"map\",\"values\":\"F\"}},{\"name\":\"i\",\"type\":\"long\"},{\"name\":\"j\",\"type\":\"x.y.G\"}]}" := by
  refine ⟨docNamespaces_noForwardRefs,
    crateCanonicalText_eq_spec docNamespaces_parses docNamespaces_noForwardRefs (by decide), ?_⟩
  apply parsingCanonicalForm_eq_ofList
  decide +kernel

example :
    noForwardRefs docRecursive = true ∧
    crateCanonicalText docRecursive 30 40 = parsingCanonicalForm docRecursive ∧
    parsingCanonicalForm docRecursive = some
      "{\"name\":\"ns.Node\",\"type\":\"record\",\"fields\":[{\"name\":\"value\",\"type\":\"long\"},{\"name\":\"next\",\"type\":[\"null\",\"ns.Node\"]}]}" := by
  have hnf : noForwardRefs docRecursive = true := by decide +kernel
  refine ⟨hnf, crateCanonicalText_eq_spec (by decide +kernel) hnf (by decide), ?_⟩
  apply parsingCanonicalForm_eq_ofList
  decide +kernel

example :
    noForwardRefs docNested = true ∧
    crateCanonicalText docNested 30 40 = parsingCanonicalForm docNested ∧
    parsingCanonicalForm docNested = some
      "{\"name\":\"o.Outer\",\"type\":\"record\",\"fields\":[{\"name\":\"x\",\"type\":{\"name\":\"i.Inner\",\"type\":\"record\",\"fields\":[{\"name\":\"e\",\"type\":{\"name\":\"i.E\",\"type\":\"enum\",\"symbols\":[\"S\"]}},{\"name\":\"again\",\"type\":\"i.E\"},{\"name\":\"up\",\"type\":{\"type\":\"array\",\"items\":\"o.Outer\"}}]}},{\"name\":\"y\",\"type\":\"i.Inner\"},{\"name\":\"z\",\"type\":{\"name\":\"o.E\",\"type\":\"enum\",\"symbols\":[\"T\"]}},{\"name\":\"w\",\"type\":[\"o.E\",\"i.E\"]}]}" := by
  refine ⟨docNested_noForwardRefs,
    crateCanonicalText_eq_spec (by decide +kernel) docNested_noForwardRefs (by decide), ?_⟩
  apply parsingCanonicalForm_eq_ofList
  decide +kernel

/-- [PRIMITIVES], whatever the other attributes. -/
example :
    crateCanonicalText (.obj [("type", .str "int")]) 3 5 = some "\"int\"" ∧
    parsingCanonicalForm (.obj [("type", .str "int")]) = some "\"int\"" ∧
    crateCanonicalText (.obj [("logicalType", .str "date"), ("type", .str "int")]) 3 5 = some "\"int\"" ∧
    parsingCanonicalForm (.obj [("logicalType", .str "date"), ("type", .str "int")]) = some "\"int\"" ∧
    crateCanonicalText (.str "bytes") 3 5 = some "\"bytes\"" ∧
    parsingCanonicalForm (.str "bytes") = some "\"bytes\"" := by
  refine ⟨by decide +kernel, by decide +kernel, by decide +kernel, by decide +kernel,
    by decide +kernel, by decide +kernel⟩

/-- Outside the specification (and outside `noForwardRefs`, which only counts `record`, `enum`
    and `fixed` definitions): the parser also registers the `name` of an object of any other
    type, so that a "reference" to a named `int` is accepted and written as the type itself,
    where the transformation of the document leaves the name. -/
example :
    let doc : Json := .obj [("type", .str "record"), ("name", .str "R"), ("fields", .arr [
      .obj [("name", .str "a"), ("type", .obj [("type", .str "int"), ("name", .str "foo")])],
      .obj [("name", .str "b"), ("type", .str "foo")]])]
    noForwardRefs doc = false ∧
    crateCanonicalText doc 30 40 = some
      "{\"name\":\"R\",\"type\":\"record\",\"fields\":[{\"name\":\"a\",\"type\":\"int\"},{\"name\":\"b\",\"type\":\"int\"}]}" ∧
    parsingCanonicalForm doc = some
      "{\"name\":\"R\",\"type\":\"record\",\"fields\":[{\"name\":\"a\",\"type\":\"int\"},{\"name\":\"b\",\"type\":\"foo\"}]}" := by
  refine ⟨by decide +kernel, by decide +kernel, ?_⟩
  apply parsingCanonicalForm_eq_ofList
  decide +kernel

/-- The general theorem applied to a concrete document. -/
example (S : SchemaMut) (h : parseJson docNested 30 = .ok S) (fuel : Nat) (hf : 32 ≤ fuel) :
    ∃ text, parsingCanonicalForm docNested = some text ∧ canonicalForm S fuel = .ok text := by
  obtain ⟨text, h1, h2⟩ := C08_pcf_is_spec_text docNested 30 S h docNested_noForwardRefs
  exact ⟨text, h1, h2 fuel hf⟩

end Avro.Theorems
