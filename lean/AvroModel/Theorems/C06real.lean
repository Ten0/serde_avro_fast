import AvroModel.Theorems.C05real
/-
C06 (the reader does not depend on the block boundaries) with the REAL datum deserializer.

`C06_reads_any_partition` and `C06_reads_single_block` (`Theorems/C06.lean`) are stated for an
abstract `datum` under `DatumOk enc datum`, which the real deserializer model
`de deExtModel cfg S fuel node depth false .any` does not satisfy (see the head of
`Theorems/C05real.lean`); they remain true, for hypothetical deserializers only.  Here the same
statements for the real `de`, the values written being `GoodVal`:
two files holding the same values partitioned differently into blocks read the same -
  * through the slice back-end: exactly, as the observations of the values, then end of stream;
  * through streaming readers, each under ANY refill schedule of its own and any allocation cap at
    least the length of its file: the same up to the `borrowed` flags (`unborrow`);
  * and the slice and the streaming reader agree with each other up to `unborrow`.
Corollaries of `C05_reads_whole_file_real`, i.e. of the two truncation theorems of
`C17stream.lean` at full length.
-/
namespace Avro.Theorems
open Avro Avro.Impl Avro.Impl.Ocf Avro.Theorems.Real

/-- **C06 (any partition into blocks, the real datum deserializer).** Null codec. -/
theorem C06_reads_any_partition_real (d : Decomp) (hn : d.isNull = true)
    (cfg : DeConfig) (S : Schema) (node : Node) (depth fuel : Nat)
    (sync : Bytes) (hsy : sync.length = 16)
    (blocks₁ blocks₂ : List (List Spec.Value)) (heq : blocks₁.flatten = blocks₂.flatten)
    (h1 : ∀ b ∈ blocks₁, BlockOk (encD S node) b) (h2 : ∀ b ∈ blocks₂, BlockOk (encD S node) b)
    (hgood : ∀ v ∈ blocks₁.flatten, GoodVal cfg S node depth fuel v) :
    let enc := encD S node
    let datum := de deExtModel cfg S fuel node depth false .any
    let file₁ := fileBody enc sync blocks₁
    let file₂ := fileBody enc sync blocks₂
    let N₁ := blocks₁.flatten.length
    let N₂ := blocks₂.flatten.length
    -- slice back-end: exactly the same, namely the observations
    readAll d datum (N₁ + 1) (openSlice sync file₁) = readAll d datum (N₂ + 1) (openSlice sync file₂) ∧
    readAll d datum (N₁ + 1) (openSlice sync file₁) = (blocks₁.flatten.map (obsD S node), .eos) ∧
    -- streaming readers, a schedule and an allocation cap each: the same up to `unborrow`
    ∀ (sched₁ : List Nat) (last₁ M₁ : Nat) (sched₂ : List Nat) (last₂ M₂ : Nat),
      file₁.length ≤ M₁ → file₂.length ≤ M₂ →
      (readAll d datum (N₁ + 1) (Stream.openReader sync file₁ sched₁ last₁ M₁)).1.map unborrow
        = (readAll d datum (N₂ + 1) (Stream.openReader sync file₂ sched₂ last₂ M₂)).1.map unborrow ∧
      (readAll d datum (N₁ + 1) (Stream.openReader sync file₁ sched₁ last₁ M₁)).1.map unborrow
        = blocks₁.flatten.map (fun v => unborrow (obsD S node v)) ∧
      (readAll d datum (N₁ + 1) (Stream.openReader sync file₁ sched₁ last₁ M₁)).2 = .eos ∧
      (readAll d datum (N₂ + 1) (Stream.openReader sync file₂ sched₂ last₂ M₂)).2 = .eos := by
  intro enc datum file₁ file₂ N₁ N₂
  obtain ⟨s1, r1⟩ := C05_reads_whole_file_real d hn cfg S node depth fuel sync hsy blocks₁ h1 hgood
  obtain ⟨s2, r2⟩ := C05_reads_whole_file_real d hn cfg S node depth fuel sync hsy blocks₂ h2
    (by rw [← heq]; exact hgood)
  refine ⟨?_, s1, ?_⟩
  · show readAll d datum (blocks₁.flatten.length + 1) _ = readAll d datum (blocks₂.flatten.length + 1) _
    rw [s1, s2, heq]
  · intro sched₁ last₁ M₁ sched₂ last₂ M₂ hM₁ hM₂
    obtain ⟨a1, a2⟩ := r1 sched₁ last₁ M₁ hM₁
    obtain ⟨b1, b2⟩ := r2 sched₂ last₂ M₂ hM₂
    refine ⟨?_, a1, a2, b2⟩
    show (readAll d datum (blocks₁.flatten.length + 1) _).1.map unborrow
      = (readAll d datum (blocks₂.flatten.length + 1) _).1.map unborrow
    rw [a1, b1, heq]

/-- **C06 (one block holding everything reads like any other partition, the real datum
    deserializer)** - empty blocks included: a block of count 0 and size 0 is legal and skipped.
    Slice back-end: equality; streaming readers: equality up to `unborrow`. -/
theorem C06_reads_single_block_real (d : Decomp) (hn : d.isNull = true)
    (cfg : DeConfig) (S : Schema) (node : Node) (depth fuel : Nat)
    (sync : Bytes) (hsy : sync.length = 16)
    (blocks : List (List Spec.Value)) (h1 : ∀ b ∈ blocks, BlockOk (encD S node) b)
    (h2 : BlockOk (encD S node) blocks.flatten)
    (hgood : ∀ v ∈ blocks.flatten, GoodVal cfg S node depth fuel v) :
    let enc := encD S node
    let datum := de deExtModel cfg S fuel node depth false .any
    let file := fileBody enc sync blocks
    let single := fileBody enc sync [blocks.flatten]
    let N := blocks.flatten.length
    readAll d datum (N + 1) (openSlice sync file) = readAll d datum (N + 1) (openSlice sync single) ∧
    ∀ (sched₁ : List Nat) (last₁ M₁ : Nat) (sched₂ : List Nat) (last₂ M₂ : Nat),
      file.length ≤ M₁ → single.length ≤ M₂ →
      (readAll d datum (N + 1) (Stream.openReader sync file sched₁ last₁ M₁)).1.map unborrow
        = (readAll d datum (N + 1) (Stream.openReader sync single sched₂ last₂ M₂)).1.map unborrow ∧
      (readAll d datum (N + 1) (Stream.openReader sync file sched₁ last₁ M₁)).2 = .eos ∧
      (readAll d datum (N + 1) (Stream.openReader sync single sched₂ last₂ M₂)).2 = .eos := by
  intro enc datum file single N
  have hflat : blocks.flatten = [blocks.flatten].flatten := by simp
  obtain ⟨e1, _, e3⟩ := C06_reads_any_partition_real d hn cfg S node depth fuel sync hsy blocks
    [blocks.flatten] hflat h1 (by intro b hb; simp at hb; subst hb; exact h2) hgood
  have hN : [blocks.flatten].flatten.length = N := by simp [N]
  constructor
  · have := e1
    simp only [hN] at this
    exact this
  · intro sched₁ last₁ M₁ sched₂ last₂ M₂ hM₁ hM₂
    obtain ⟨a1, _, a3, a4⟩ := e3 sched₁ last₁ M₁ sched₂ last₂ M₂ hM₁ hM₂
    simp only [hN] at a1 a4
    exact ⟨a1, a3, a4⟩

/-- The slice and the streaming reader agree on a well-formed file up to `unborrow` - C11 at the
    container level (`C11_container_wellformed`), in the vocabulary of `C05.lean` / `C06.lean`. -/
theorem C06_slice_reader_agree_real (d : Decomp) (hn : d.isNull = true)
    (cfg : DeConfig) (S : Schema) (node : Node) (depth fuel : Nat)
    (sync : Bytes) (hsy : sync.length = 16)
    (blocks : List (List Spec.Value)) (h1 : ∀ b ∈ blocks, BlockOk (encD S node) b)
    (hgood : ∀ v ∈ blocks.flatten, GoodVal cfg S node depth fuel v)
    (sched : List Nat) (lastChunk M : Nat)
    (hM : (fileBody (encD S node) sync blocks).length ≤ M) :
    let datum := de deExtModel cfg S fuel node depth false .any
    let file := fileBody (encD S node) sync blocks
    (readAll d datum (blocks.flatten.length + 1)
        (Stream.openReader sync file sched lastChunk M)).1.map unborrow
      = (readAll d datum (blocks.flatten.length + 1) (openSlice sync file)).1.map unborrow := by
  intro datum file
  obtain ⟨s1, r1⟩ := C05_reads_whole_file_real d hn cfg S node depth fuel sync hsy blocks h1 hgood
  rw [s1, (r1 sched lastChunk M hM).1, List.map_map]
  rfl

/-! ### Non-vacuity -/

namespace C06real
open C17stream

/-- the two-block file `[[1, 2], [300]]` of `C17stream.lean` and the single-block file
    `[[1, 2, 300]]` read the same with the real `de`: 1, 2, 300, end of stream -/
theorem ex_single :
    readAll exNull exDatum 4 (openSlice exSync (fileBody exEnc exSync exBlocks))
      = readAll exNull exDatum 4 (openSlice exSync (fileBody exEnc exSync [exBlocks.flatten])) ∧
    readAll exNull exDatum 4 (openSlice exSync (fileBody exEnc exSync exBlocks))
      = ([.i32 1, .i32 2, .i32 300], .eos) := by
  have hb : BlockOk exEnc exBlocks.flatten := (Real.blockOk_iff _ _).1 (by decide +kernel)
  have h := (C06_reads_single_block_real exNull rfl {} #[.int] .int 64 20 exSync rfl exBlocks
    exBlockOk hb exGood).1
  have h' := (C05_reads_whole_file_real exNull rfl {} #[.int] .int 64 20 exSync rfl exBlocks
    exBlockOk exGood).1
  exact ⟨h, by rw [← C05real.exObs]; exact h'⟩

end C06real

end Avro.Theorems
