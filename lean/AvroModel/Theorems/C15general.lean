import AvroModel.Theorems.C15
/-
C15, general case: `push_serialized(bytes, n)` with ANY count `n ≥ 0`.

`C15_run_finished` (`Theorems/C15.lean`) assumes that every `push_serialized` of the history counts
at least one object.  `push_serialized(bytes, 0)` with non-empty `bytes` is a caller error
(`writer/mod.rs`, doc comment of `push_serialized`: "`n_elements` is the number of elements that
were serialized in the provided slice"), but nothing in the code rejects it: the bytes go to the
block buffer, the count stays as it was (`WriterInner::push_serialized`, mod.rs:553-579).

True for every history (`C15_run_finished_general`, `C15_run_finished_general_parses`): the framing.
Every call returns `Ok` (failing values: their error); the sink holds the header and exactly the
blocks of the abstract writer (`astep` is defined for every count: a count-0 push contributes the
entry `(bytes, 0)`), each counting at least one object, its count the SUM of the counts of its
entries; the file parses under `Spec.Ocf.parse`.

Lost: (L1) the data of a block is the concatenation of `count` datum encodings only if every entry
pushed is itself well counted (`C15_blocks_well_counted`, `C15_zero_count_breaks_block_contents`);
(L2) after `finish_block` / `into_inner` / `Drop` what stays in the buffer is a list of count-0
entries, whose bytes are written only if a later call adds a counted entry to the same block and are
silently dropped with the writer otherwise (`C15_zero_count_bytes_dropped`): `hpush` of
`C15_run_finished` is necessary.  `push_serialized(&[], 0)` changes nothing observable and can be
erased from a history (`C15_zero_count_empty_noop`, `C15_zero_count_empty_erasable`).
-/
namespace Avro.Theorems
open Avro Avro.Impl Avro.Impl.Ocf

/-! ### The abstract writer after a finishing call, any counts -/

/-- = `arun_finished` (Lemmas/OcfWriterGeneral.lean) -/
theorem C15_arun_finished_general (approx : Nat) (ops : List WOp) (fin : WOp)
    (hfin : fin = .finishBlock ∨ fin = .intoInner ∨ fin = .drop) :
    let a := arun approx {} (ops ++ [fin])
    a = aseal (arun approx {} ops) ∧
      a.sealed.flatten ++ a.buffered = ops.flatMap entryOf ∧
      SealedPos a ∧ AllZero a.buffered :=
  arun_finished approx ops fin hfin

/-- Accounting: the block counts add up to the counts given by the caller, the block data followed
    by the bytes still buffered are all the bytes given by the caller. -/
theorem C15_arun_finished_accounting (approx : Nat) (ops : List WOp) (fin : WOp)
    (hfin : fin = .finishBlock ∨ fin = .intoInner ∨ fin = .drop) :
    let a := arun approx {} (ops ++ [fin])
    ((a.sealed.map blockOf).map (·.1)).sum = cntOf (ops.flatMap entryOf) ∧
      ((a.sealed.map blockOf).map (·.2)).flatten ++ bufOf a.buffered
        = bufOf (ops.flatMap entryOf) := by
  intro a
  obtain ⟨_, hlog, _, hz⟩ := C15_arun_finished_general approx ops fin hfin
  have hz' : cntOf a.buffered = 0 := (cntOf_eq_zero_iff _).2 hz
  constructor
  · rw [← hlog, cntOf_append, hz', cntOf_flatten]
    simp only [blockOf, List.map_map, Function.comp_def, Nat.add_zero]
    rfl
  · rw [← hlog, bufOf_append, bufOf_flatten]
    simp only [blockOf, List.map_map, Function.comp_def]
    rfl

/-! ### The writer model after a finishing call, any counts -/

/-- **C15, general case.**  A freshly built writer `w` (`Rep … {} w`: the header `hdr` is in the
    all-accepting sink, nothing else happened) is driven through ANY history `ops` of `serialize`
    (succeeding or failing), `push_serialized(bytes, n)` with any `n ≥ 0`, `finish_block`, `Drop`,
    closed by `fin ∈ {finish_block, into_inner, Drop}`.  Then
    * every call returned `Ok`, failing values their serialization error;
    * the sink holds `hdr` followed by the blocks of the abstract writer, one `(Σ counts, ++ bytes)`
      per sealed list of entries;
    * nothing is pending, the object counter is 0, and the buffer holds exactly the bytes of the
      entries the abstract writer still has buffered — all of them count-0 pushes;
    * blocks written ++ entries buffered = the entries accepted, in order; every block counts at
      least one object. -/
theorem C15_run_finished_general (c : Codec) (dbg : Bool) (hdr sync : Bytes) (approx : Nat)
    (ops : List WOp) (fin : WOp)
    (hops : ∀ op ∈ ops, op ≠ .intoInner)
    (hfin : fin = .finishBlock ∨ fin = .intoInner ∨ fin = .drop)
    (w : WState) (h0 : Rep c hdr sync approx {} w) :
    let a := arun approx {} (ops ++ [fin])
    let r := wrun c dbg w (ops ++ [fin])
    r.1 = (ops ++ [fin]).map expected ∧
      r.2.sink.data = hdr ++ blocksBytes c sync (a.sealed.map blockOf) ∧
      r.2.pending = none ∧ r.2.n = 0 ∧ r.2.buf = bufOf a.buffered ∧
      a.sealed.flatten ++ a.buffered = ops.flatMap entryOf ∧
      SealedPos a ∧ AllZero a.buffered := by
  intro a r
  obtain ⟨_, hlog, hpos, hz⟩ := C15_arun_finished_general approx ops fin hfin
  obtain ⟨h1, h2⟩ := wrun_rep c dbg hdr sync approx ops hops {} w h0
  have ha : a = astep approx (arun approx {} ops) fin := arun_snoc approx {} ops fin
  have key : ∃ w', Rep c hdr sync approx a w' ∧ r.1 = (ops ++ [fin]).map expected ∧
      r.2.sink.data = w'.sink.data ∧ r.2.pending = w'.pending ∧ r.2.n = w'.n ∧
      r.2.buf = w'.buf := by
    show ∃ w', _ ∧ (wrun c dbg w (ops ++ [fin])).1 = _ ∧ (wrun c dbg w (ops ++ [fin])).2.sink.data = _ ∧
      (wrun c dbg w (ops ++ [fin])).2.pending = _ ∧ (wrun c dbg w (ops ++ [fin])).2.n = _ ∧
      (wrun c dbg w (ops ++ [fin])).2.buf = _
    rw [wrun_append_singleton, ha]
    by_cases hi : fin = .intoInner
    · subst hi
      obtain ⟨w', hw, hrep⟩ := wstep_intoInner_rep c dbg hdr sync approx _ _ h2
      rw [hw]
      exact ⟨w', hrep, by simp [h1, expected], rfl, rfl, rfl, rfl⟩
    · obtain ⟨w', hw, hrep⟩ := wstep_rep c dbg hdr sync approx _ _ fin hi h2
      rw [hw]
      refine ⟨w', hrep, ?_, rfl, rfl, rfl, rfl⟩
      rcases hfin with h | h | h <;> subst h <;> simp [h1, expected]
  obtain ⟨w', hrep, hr1, hr2, hr3, hr4, hr5⟩ := key
  refine ⟨hr1, ?_, ?_, ?_, ?_, hlog, hpos, hz⟩
  · rw [hr2, hrep.inv.sink_eq, hrep.sync_eq]
  · rw [hr3, hrep.inv.pending_none]
  · rw [hr4, hrep.n_eq]; exact (cntOf_eq_zero_iff _).2 hz
  · rw [hr5, hrep.buf_eq]

/-- **… and the sink still parses as a complete container file**, whatever the counts given to
    `push_serialized`: the independent parser of the specification reads the metadata, the marker,
    exactly the blocks of the abstract writer — count: the sum of the counts of the block's
    entries; data: what the codec stores for the concatenation of their bytes —, no trailing
    bytes, no bad marker.

    Hypotheses: `hmeta`, `hsync` describe the header (see `C15_header_parses`); `hb` is the range
    of the two `long`s of a block header (`n_elements_in_block as i64`, the data length): see
    `C15_general_count_bound_necessary` for what happens beyond. -/
theorem C15_run_finished_general_parses (c : Codec) (dbg : Bool) (metaBytes sync : Bytes)
    (md : List (Bytes × Bytes)) (approx : Nat) (ops : List WOp) (fin : WOp)
    (hops : ∀ op ∈ ops, op ≠ .intoInner)
    (hfin : fin = .finishBlock ∨ fin = .intoInner ∨ fin = .drop)
    (w : WState) (h0 : Rep c (Spec.Ocf.magic ++ metaBytes ++ sync) sync approx {} w)
    (hmeta : MetaParses metaBytes md) (hsync : sync.length = 16)
    (hb : ∀ b ∈ (arun approx {} (ops ++ [fin])).sealed,
      cntOf b < 2 ^ 63 ∧ (codecData c (bufOf b)).length < 2 ^ 63) :
    let a := arun approx {} (ops ++ [fin])
    Spec.Ocf.parse (wrun c dbg w (ops ++ [fin])).2.sink.data =
      some { metadata := md, sync := sync,
             blocks := a.sealed.map (fun b => { count := cntOf b, data := codecData c (bufOf b) }),
             trailing := 0, badSync := false } := by
  intro a
  obtain ⟨_, hs, _⟩ := C15_run_finished_general c dbg _ sync approx ops fin hops hfin w h0
  rw [hs, parse_file c metaBytes sync md (a.sealed.map blockOf) hmeta hsync]
  · simp [blockOf, List.map_map, Function.comp_def]
  · intro b hb'
    simp only [List.mem_map] at hb'
    obtain ⟨es, hes, rfl⟩ := hb'
    exact hb es hes

/-- The same with bounds on the history instead of on the blocks, null codec: the counts given
    by the caller add up to less than `2^63` and so do the lengths of the bytes accepted. -/
theorem C15_run_finished_general_parses_null (c : Codec) (hc : c.isNull = true) (dbg : Bool)
    (metaBytes sync : Bytes)
    (md : List (Bytes × Bytes)) (approx : Nat) (ops : List WOp) (fin : WOp)
    (hops : ∀ op ∈ ops, op ≠ .intoInner)
    (hfin : fin = .finishBlock ∨ fin = .intoInner ∨ fin = .drop)
    (w : WState) (h0 : Rep c (Spec.Ocf.magic ++ metaBytes ++ sync) sync approx {} w)
    (hmeta : MetaParses metaBytes md) (hsync : sync.length = 16)
    (hcnt : cntOf (ops.flatMap entryOf) < 2 ^ 63)
    (hlen : (bufOf (ops.flatMap entryOf)).length < 2 ^ 63) :
    let a := arun approx {} (ops ++ [fin])
    Spec.Ocf.parse (wrun c dbg w (ops ++ [fin])).2.sink.data =
      some { metadata := md, sync := sync,
             blocks := a.sealed.map (fun b => { count := cntOf b, data := bufOf b }),
             trailing := 0, badSync := false } := by
  intro a
  obtain ⟨_, hlog, _, _⟩ := C15_arun_finished_general approx ops fin hfin
  have hcd : ∀ d, codecData c d = d := fun d => by simp [codecData, hc]
  have := C15_run_finished_general_parses c dbg metaBytes sync md approx ops fin hops hfin w h0
    hmeta hsync (by
      intro b hb
      have h1 := cntOf_le_of_mem_flatten _ b hb
      have h2 := bufOf_length_le_of_mem_flatten _ b hb
      have h3 : cntOf (arun approx {} (ops ++ [fin])).sealed.flatten ≤ cntOf (ops.flatMap entryOf) := by
        rw [← hlog, cntOf_append]; omega
      have h4 : (bufOf (arun approx {} (ops ++ [fin])).sealed.flatten).length
          ≤ (bufOf (ops.flatMap entryOf)).length := by
        rw [← hlog, bufOf_append, List.length_append]; omega
      rw [hcd]
      omega)
  simpa only [hcd] using this

/-! ### `C15_run_finished` is the special case `n ≥ 1` -/

/-- Is `C15_run_finished` (same statement), whose proof is `arun_finished` + `AllPos`: if every
    `push_serialized` counted at least one object, "what is still buffered counts for nothing"
    means that nothing is buffered. -/
theorem C15_run_finished_of_general (approx : Nat) (ops : List WOp) (fin : WOp)
    (hfin : fin = .finishBlock ∨ fin = .intoInner ∨ fin = .drop)
    (hpush : ∀ b k, WOp.push b k ∈ ops → 1 ≤ k) :
    let a := arun approx {} (ops ++ [fin])
    a.buffered = [] ∧ a.sealed.flatten = ops.flatMap entryOf :=
  C15_run_finished approx ops fin hfin hpush

/-- The existing theorem and the corollary have literally the same statement (the equation
    type-checks only because the two types coincide; it holds by proof irrelevance). -/
example : @C15_run_finished = @C15_run_finished_of_general := rfl

/-! ### What is lost -/

section Lost
variable {V : Type} (enc : V → Bytes)

/-- (L1), the positive side: after ANY history (finished or not), if every entry accepted is well
    counted — its bytes are the concatenation of the encodings of as many values as its count —
    then so is every block written: its data is the concatenation of `count` encodings.  A value
    serialized by the writer itself is one encoding with count 1; the condition is on the
    `push_serialized` calls. -/
theorem C15_blocks_well_counted (approx : Nat) (ops : List WOp)
    (h : ∀ e ∈ ops.flatMap entryOf, IsConcat enc e.1 e.2) :
    ∀ b ∈ (arun approx {} ops).sealed, IsConcat enc (blockOf b).2 (blockOf b).1 := by
  intro b hb
  apply isConcat_entries
  intro e he
  apply h
  have := mem_log_of_mem_sealed _ b hb e he
  rw [arun_log] at this
  simpa [AState.log] using this

/-- A count-0 push is well counted exactly when it pushes nothing. -/
theorem C15_zero_count_well_counted_iff (bytes : Bytes) :
    (∀ e ∈ entryOf (.push bytes 0), IsConcat enc e.1 e.2) ↔ bytes = [] := by
  simp [entryOf, isConcat_zero_iff]

end Lost

/-- No single `long` is encoded as `[2, 4]` (these are the two `long`s 1 and 2). -/
theorem not_isConcat_long_2_4 : ¬ IsConcat Spec.encodeLong [2, 4] 1 := by
  rintro ⟨vs, h1, h2⟩
  match vs, h1 with
  | [v], _ =>
    simp only [List.map_cons, List.map_nil, List.flatten_cons, List.flatten_nil,
      List.append_nil] at h2
    have h3 := Spec.decodeNat_encodeNat (Spec.zigzag v) []
    rw [List.append_nil] at h3
    unfold Spec.encodeLong at h2
    rw [← h2] at h3
    simp [Spec.decodeNat] at h3

theorem encodeLong_one : Spec.encodeLong 1 = [2] := by
  simp [Spec.encodeLong, Spec.zigzag, Spec.encodeNat]

theorem encodeLong_two : Spec.encodeLong 2 = [4] := by
  simp [Spec.encodeLong, Spec.zigzag, Spec.encodeNat]

/-- (L1), concretely (schema `"long"`, block size 100): `push_serialized(&[2], 0)` — the encoding
    of the `long` 1, given with the wrong count 0 — then `serialize(2i64)` (one byte, `[4]`), then
    `finish_block`.  One block is written; its header says 1 object, its data `[2, 4]` holds two:
    the data of the block is NOT the concatenation of `count` datum encodings, although the file
    parses (`C15_zero_count_example_parses`). -/
theorem C15_zero_count_breaks_block_contents :
    let a := arun 100 {}
      ([.push (Spec.encodeLong 1) 0, .value (some (Spec.encodeLong 2))] ++ [.finishBlock])
    a.sealed.map blockOf = [(1, [2, 4])] ∧ a.buffered = [] ∧
      ¬ IsConcat Spec.encodeLong (1, ([2, 4] : Bytes)).2 (1, ([2, 4] : Bytes)).1 ∧
      IsConcat Spec.encodeLong [2, 4] 2 := by
  rw [encodeLong_one, encodeLong_two]
  refine ⟨by decide, by decide, not_isConcat_long_2_4,
    ⟨[1, 2], rfl, by simp [encodeLong_one, encodeLong_two]⟩⟩

/-- (L2), concretely: `push_serialized(&[7], 0)` then `Drop` (or `finish_block`, or `into_inner`).
    No block is written, the call returned `Ok`, and the byte stays in the buffer: it is dropped
    with the writer.  In particular the conclusion of `C15_run_finished` fails: its hypothesis
    `hpush` is necessary. -/
theorem C15_run_finished_hpush_necessary (approx : Nat) (fin : WOp)
    (hfin : fin = .finishBlock ∨ fin = .intoInner ∨ fin = .drop) :
    let ops : List WOp := [.push [7] 0]
    let a := arun approx {} (ops ++ [fin])
    a.sealed = [] ∧ a.buffered = [([7], 0)] ∧
      ¬ (a.buffered = [] ∧ a.sealed.flatten = ops.flatMap entryOf) := by
  intro ops a
  have ha : a = { sealed := [], buffered := [([7], 0)] } := by
    show arun approx {} ([WOp.push [7] 0] ++ [fin]) = _
    rcases hfin with h | h | h <;> subst h <;>
      simp [arun, astep, asealIf, aseal, aadd, cntOf, bufOf]
  rw [ha]
  simp

/-- (L2) on the writer model: after `push_serialized(&[7], 0)` and `Drop` on a fresh writer,
    the sink holds the header only and the byte is still in the buffer. -/
theorem C15_zero_count_bytes_dropped (c : Codec) (dbg : Bool) (hdr sync : Bytes) (approx : Nat)
    (w : WState) (h0 : Rep c hdr sync approx {} w) :
    (wrun c dbg w ([.push [7] 0] ++ [.drop])).1 = [.ok (), .ok ()] ∧
      (wrun c dbg w ([.push [7] 0] ++ [.drop])).2.sink.data = hdr ∧
      (wrun c dbg w ([.push [7] 0] ++ [.drop])).2.buf = [7] ∧
      (wrun c dbg w ([.push [7] 0] ++ [.drop])).2.n = 0 := by
  obtain ⟨h1, h2, _, h4, h5, _⟩ := C15_run_finished_general c dbg hdr sync approx [.push [7] 0] .drop
    (by simp) (by simp) w h0
  obtain ⟨hs, hb, _⟩ := C15_run_finished_hpush_necessary approx .drop (by simp)
  refine ⟨by simpa [expected] using h1, ?_, ?_, h4⟩
  · rw [h2, hs]; simp [blocksBytes]
  · rw [h5, hb]; rfl

/-! ### `push_serialized(&[], 0)` -/

theorem postAdd_after_preFlush (c : Codec) (w w₁ : WState) (h : preFlush c w = (.ok (), w₁)) :
    postAdd c w₁ = (.ok (), w₁) := by
  have hflush : ∀ (x y : WState), flushFinishedBlock c x = (.ok (), y) → y.pending = none :=
    fun x y hx => (flushFinishedBlock_ok c x y hx).1
  have hflush' : ∀ (x y : WState), flushFinishedBlock c x = (.ok (), y) →
      (y.buf = [] ∧ y.n = x.n) ∨ y = x :=
    fun x y hx => (flushFinishedBlock_ok c x y hx).2
  have hfin : ∀ (x y : WState), finishBlock c x = (.ok (), y) → y.pending = none ∧ y.n = 0 := by
    intro x y hx
    unfold finishBlock at hx
    cases hi : innerFinishBlock c x with
    | mk r x' =>
      rw [hi] at hx
      cases r with
      | error e => simp at hx
      | ok u =>
        simp only at hx
        refine ⟨hflush x' y hx, ?_⟩
        have hn : x'.n = 0 := by
          unfold innerFinishBlock at hi
          split at hi
          · split at hi
            · simp at hi
            · simp only [Prod.mk.injEq, true_and] at hi; subst hi; rfl
          · simp only [Prod.mk.injEq, true_and] at hi; subst hi; omega
        rcases hflush' x' y hx with ⟨_, h2⟩ | h2
        · rw [h2, hn]
        · rw [h2, hn]
  have hpn : w₁.pending = none ∧ (w₁.buf.length ≥ w₁.approx → w₁.n = 0) := by
    unfold preFlush at h
    cases hf : flushFinishedBlock c w with
    | mk r x =>
      rw [hf] at h
      cases r with
      | error e => simp at h
      | ok u =>
        simp only at h
        split at h
        · have := hfin x w₁ h
          exact ⟨this.1, fun _ => this.2⟩
        · rename_i hlt
          simp only [Prod.mk.injEq, true_and] at h
          subst h
          exact ⟨hflush w x hf, fun hge => absurd hge hlt⟩
  obtain ⟨hp, hq⟩ := hpn
  unfold postAdd
  by_cases hge : w₁.buf.length ≥ w₁.approx
  · have hn : ¬ (w₁.n > 0) := by have := hq hge; omega
    simp only [hge, if_true, innerFinishBlock, hn, if_false, flushFinishedBlock, hp]
  · simp only [hge, if_false, flushFinishedBlock, hp]

/-- **`push_serialized(&[], 0)` changes nothing observable.**  In ANY state, with ANY sink: the
    call runs the prefix common to `serialize` and `push_serialized` (flush a block left pending by
    an earlier failed write, close the current block if it is already large enough) and nothing
    else: it ends in exactly the state a failing `serialize` ends in
    (`C15_failed_value_invisible`), and returns `Ok` where that one returns its error. -/
theorem C15_zero_count_empty_noop (c : Codec) (dbg : Bool) (w : WState) :
    wstep c dbg w (.push [] 0) =
      match preFlush c w with
      | (.error e, w₁) => (.error e, w₁)
      | (.ok _, w₁) => (.ok (), w₁) := by
  simp only [wstep, withValue_eq]
  cases h : preFlush c w with
  | mk r w₁ =>
    cases r with
    | error e => rfl
    | ok u =>
      simp only [List.append_nil, Nat.add_zero]
      exact postAdd_after_preFlush c w w₁ h

/-- … in particular its state is that of a failing value, whatever happened before. -/
theorem C15_zero_count_empty_as_failed_value (c : Codec) (dbg : Bool) (w : WState) :
    (wstep c dbg w (.push [] 0)).2 = (wstep c dbg w (.value none)).2 := by
  rw [C15_zero_count_empty_noop, C15_failed_value_invisible]
  cases preFlush c w with
  | mk r w₁ => cases r <;> rfl

/-- Between two calls (nothing pending, the buffer below the block size or counting nothing —
    which is the case after every call, `astep_quiet`) it changes nothing at all: same buffer,
    same count, same sink, not a single write call. -/
theorem C15_zero_count_empty_noop_quiet (c : Codec) (dbg : Bool) (w : WState)
    (hp : w.pending = none) (hq : w.buf.length ≥ w.approx → w.n = 0) :
    wstep c dbg w (.push [] 0) = (.ok (), w) := by
  have hpre : preFlush c w = (.ok (), w) := by
    unfold preFlush
    simp only [flushFinishedBlock, hp]
    split
    · rename_i hge
      have hn : ¬ (w.n > 0) := by have := hq hge; omega
      simp only [finishBlock, innerFinishBlock, hn, if_false, flushFinishedBlock, hp]
    · rfl
  rw [C15_zero_count_empty_noop, hpre]

/-- The abstract writer: the entry `([], 0)` is appended to the buffered entries, nothing is
    closed; the buffer's bytes and count are unchanged. -/
theorem C15_zero_count_empty_astep (approx : Nat) (a : AState) (hq : Quiet approx a) :
    astep approx a (.push [] 0) = { a with buffered := a.buffered ++ [([], 0)] } ∧
      bufOf (a.buffered ++ [([], 0)]) = bufOf a.buffered ∧
      cntOf (a.buffered ++ [([], 0)]) = cntOf a.buffered := by
  have hb : bufOf (a.buffered ++ [([], 0)]) = bufOf a.buffered := by simp [bufOf_snoc]
  have hc : cntOf (a.buffered ++ [([], 0)]) = cntOf a.buffered := by simp [cntOf_snoc]
  refine ⟨?_, hb, hc⟩
  have hq' : Quiet approx (aadd a ([], 0)) := by
    unfold Quiet aadd
    simp only [hb, hc]
    exact hq
  simp only [astep, asealIf_of_quiet approx a hq, asealIf_of_quiet approx _ hq']
  rfl

/-- the call `push_serialized(&[], 0)` -/
def isEmptyPush : WOp → Bool
  | .push [] 0 => true
  | _ => false

theorem isEmptyPush_iff (op : WOp) : isEmptyPush op = true ↔ op = .push [] 0 := by
  unfold isEmptyPush
  split
  · simp
  · rename_i h
    constructor
    · intro h'; cases h'
    · intro h'; exact absurd h' (h)

def eraseEmptyPushes (ops : List WOp) : List WOp := ops.filter fun op => !isEmptyPush op

/-- **Erasing.**  On a freshly built writer (all-accepting sink), the calls
    `push_serialized(&[], 0)` can be erased from any history: the final state of the writer — sink,
    buffer, count, everything — is the same. -/
theorem C15_zero_count_empty_erasable (c : Codec) (dbg : Bool) (hdr sync : Bytes) (approx : Nat)
    (ops : List WOp) (hops : ∀ op ∈ ops, op ≠ .intoInner) (w : WState)
    (h0 : Rep c hdr sync approx {} w) :
    (wrun c dbg w (eraseEmptyPushes ops)).2 = (wrun c dbg w ops).2 := by
  suffices key : ∀ (ops : List WOp) (a : AState) (w : WState), (∀ op ∈ ops, op ≠ .intoInner) →
      Rep c hdr sync approx a w → Quiet approx a →
      (wrun c dbg w (eraseEmptyPushes ops)).2 = (wrun c dbg w ops).2 from
    key ops {} w hops h0 (quiet_init approx)
  intro ops
  induction ops with
  | nil => intros; rfl
  | cons op ops ih =>
    intro a w hops hrep hq
    have hops' : ∀ o ∈ ops, o ≠ .intoInner := fun o ho => hops o (List.mem_cons_of_mem _ ho)
    obtain ⟨w', hw, hrep'⟩ := wstep_rep c dbg hdr sync approx a w op (hops op (by simp)) hrep
    have hq' : Quiet approx (astep approx a op) := astep_quiet approx a op
    cases he : isEmptyPush op with
    | true =>
      have := (isEmptyPush_iff op).1 he
      subst this
      have hnoop : wstep c dbg w (.push [] 0) = (.ok (), w) :=
        C15_zero_count_empty_noop_quiet c dbg w hrep.inv.pending_none (by
          rw [hrep.buf_eq, hrep.approx_eq, hrep.n_eq]; exact hq)
      have her : eraseEmptyPushes (WOp.push [] 0 :: ops) = eraseEmptyPushes ops := by
        simp [eraseEmptyPushes, isEmptyPush]
      rw [her, wrun_cons, hnoop]
      exact ih a w hops' hrep hq
    | false =>
      have her : eraseEmptyPushes (op :: ops) = op :: eraseEmptyPushes ops := by
        simp [eraseEmptyPushes, he]
      rw [her, wrun_cons, wrun_cons, hw]
      exact ih _ w' hops' hrep' hq'

/-! ### Concrete instances, and the range of the count -/

/-- A freshly built writer satisfies the hypothesis `Rep … {} w` of the theorems above. -/
theorem C15_rep_fresh (c : Codec) (hdr sync : Bytes) (approx : Nat) :
    Rep c hdr sync approx {} { sync := sync, approx := approx, sink := { data := hdr } } :=
  ⟨⟨rfl, by simp, by simp [blocksBytes]⟩, rfl, rfl, rfl, rfl, rfl⟩

namespace C15Ex

def nullCodec : Codec := { name := "null", compress := id, isNull := true }
def sync : Bytes := [1, 2, 3, 4, 5, 6, 7, 8, 9, 10, 11, 12, 13, 14, 15, 16]
def schemaJson : Bytes := "\"long\"".toUTF8.data.toList
def codecName : Bytes := "null".toUTF8.data.toList
def entries : List (Bytes × Bytes) :=
  [("avro.schema".toUTF8.data.toList, schemaJson), ("avro.codec".toUTF8.data.toList, codecName)]
def hdr : Bytes := headerBytes schemaJson codecName [] sync
def w0 : WState := { sync := sync, approx := 100, sink := { data := hdr } }
/-- `push_serialized(&[2], 0)` (wrong count), `serialize(2i64)`, a failing value -/
def ops : List WOp := [.push [2] 0, .value (some [4]), .value none]

theorem hdr_eq : hdr = Spec.Ocf.magic ++ metaBytesOf entries ++ sync ∧
    MetaParses (metaBytesOf entries) entries :=
  C15_header_parses schemaJson codecName [] sync (by decide) (by decide) (by simp)

theorem rep0 : Rep nullCodec (Spec.Ocf.magic ++ metaBytesOf entries ++ sync) sync 100 {} w0 := by
  rw [← hdr_eq.1]
  exact C15_rep_fresh nullCodec hdr sync 100

theorem arun_ops : arun 100 {} (ops ++ [.finishBlock]) =
    { sealed := [[([2], 0), ([4], 1)]], buffered := [] } := by
  simp [ops, arun, astep, asealIf, aseal, aadd, cntOf, bufOf]

end C15Ex

open C15Ex in
/-- Non-vacuity of `C15_run_finished_general` and `C15_run_finished_general_parses`, on the
    history of (L1): a real header (schema `"long"`, null codec), `push_serialized(&[2], 0)`,
    `serialize(2)`, a failing value, `finish_block`.  The calls return `Ok, Ok, Err, Ok`; the sink
    is the header followed by ONE block `02 04 02 04 <marker>` (count 1, size 2, data `02 04`);
    the specification parser reads a complete file with that block. -/
theorem C15_zero_count_example_parses :
    (wrun nullCodec false w0 (ops ++ [.finishBlock])).1 = [.ok (), .ok (), .error .custom, .ok ()] ∧
    (wrun nullCodec false w0 (ops ++ [.finishBlock])).2.sink.data
      = hdr ++ ([2, 4, 2, 4] ++ C15Ex.sync) ∧
    (wrun nullCodec false w0 (ops ++ [.finishBlock])).2.buf = [] ∧
    Spec.Ocf.parse (wrun nullCodec false w0 (ops ++ [.finishBlock])).2.sink.data =
      some { metadata := entries, sync := C15Ex.sync, blocks := [{ count := 1, data := [2, 4] }],
             trailing := 0, badSync := false } := by
  have hops : ∀ op ∈ ops, op ≠ .intoInner := by simp [ops]
  obtain ⟨h1, h2, _, _, h5, _⟩ := C15_run_finished_general nullCodec false _ C15Ex.sync 100 ops
    .finishBlock hops (by simp) w0 rep0
  have h6 := C15_run_finished_general_parses nullCodec false (metaBytesOf entries) C15Ex.sync
    entries 100 ops .finishBlock hops (by simp) w0 rep0 hdr_eq.2 rfl (by
      rw [arun_ops]
      intro b hb
      simp only [List.mem_singleton] at hb
      subst hb
      simp [cntOf, bufOf, codecData, nullCodec])
  rw [arun_ops] at h2 h5 h6
  refine ⟨by simpa [ops, expected] using h1, ?_, h5, ?_⟩
  · rw [h2, ← hdr_eq.1]
    have e1 : encodeVarI64 1 = [2] := by
      rw [encodeVarI64_eq_spec 1 (by decide)]; exact encodeLong_one
    have e2 : encodeVarI64 2 = [4] := by
      rw [encodeVarI64_eq_spec 2 (by decide)]; exact encodeLong_two
    simp [blocksBytes, blockBytes, blockOf, cntOf, bufOf, codecData, nullCodec, e1, e2]
  · rw [h6]
    simp [cntOf, bufOf, codecData, nullCodec]

/-- **The range hypothesis on the counts is necessary.**  `n_elements_in_block` is a `u64` written
    as `n_elements_in_block as i64` (mod.rs:591-594): `push_serialized(&[2], 2^63)` then
    `finish_block` writes a block whose count field is the `long` `-2^63`.  All calls return `Ok`,
    but the sink is NOT a complete container file: the specification parser reads no block and
    sees the whole block as trailing bytes. -/
theorem C15_general_count_bound_necessary (c : Codec) (dbg : Bool) (metaBytes sync : Bytes)
    (md : List (Bytes × Bytes)) (approx : Nat) (w : WState)
    (h0 : Rep c (Spec.Ocf.magic ++ metaBytes ++ sync) sync approx {} w)
    (hmeta : MetaParses metaBytes md) (hsync : sync.length = 16) :
    (wrun c dbg w ([.push [2] (2 ^ 63)] ++ [.finishBlock])).1 = [.ok (), .ok ()] ∧
    Spec.Ocf.parse (wrun c dbg w ([.push [2] (2 ^ 63)] ++ [.finishBlock])).2.sink.data =
      some { metadata := md, sync := sync, blocks := [],
             trailing := (blockBytes c sync (2 ^ 63, [2])).length, badSync := false } ∧
    0 < (blockBytes c sync (2 ^ 63, [2])).length := by
  obtain ⟨h1, h2, _⟩ := C15_run_finished_general c dbg _ sync approx [.push [2] (2 ^ 63)]
    .finishBlock (by simp) (by simp) w h0
  have ha : (arun approx {} ([WOp.push [2] (2 ^ 63)] ++ [.finishBlock])).sealed.map blockOf
      = [(2 ^ 63, [2])] := by
    simp [arun, astep, asealIf, aseal, aadd, cntOf, bufOf, blockOf]
    split <;> simp
  rw [ha] at h2
  refine ⟨by simpa [expected] using h1, ?_, ?_⟩
  · rw [h2, parse_header_append metaBytes sync md _ hmeta hsync]
    have hb : blocksBytes c sync [(2 ^ 63, [2])] =
        Spec.encodeLong (-9223372036854775808) ++
          (encodeVarI64 (codecData c [2]).length ++ codecData c [2] ++ sync) := by
      simp only [blocksBytes, List.map_cons, List.map_nil, List.flatten_cons, List.flatten_nil,
        List.append_nil, blockBytes, encodeVarI64_two_pow_63, List.append_assoc]
    have hlen : (blockBytes c sync (2 ^ 63, [2])).length = (blocksBytes c sync [(2 ^ 63, [2])]).length := by
      simp [blocksBytes]
    rw [hlen, hb, parseBlocks_negative_count sync _ (by unfold Spec.InI64; omega) (by omega)]
  · simp only [blockBytes, List.length_append, hsync]; omega

end Avro.Theorems
