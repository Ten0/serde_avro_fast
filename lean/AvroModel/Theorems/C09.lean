import AvroModel.Lemmas.SchemaRender
import AvroModel.Lemmas.Renders
/-
C09: the JSON reported for a schema built or edited programmatically is a regenerated document
that parses back to an isomorphic graph; a graph that cannot be expressed (a cycle through
unnamed types only) makes the regeneration fail.

This file has the local facts the round trip rests on, for *every* arrangement of (enclosing
namespace, name): what a `schema::Name` can hold (`Name.WF`); the members written by
`serialize_name` and the string written by `str_for_ref` are read back as the same name; logical
types and their parameters are carried by the written members; regeneration fails on a cycle
through unnamed nodes and on a union carrying a logical type.
-/
namespace Avro.Theorems
open Avro Avro.Impl

/-! ### well-formed names -/

/-- `Name::from_fully_qualified_name` always yields a well-formed name: the short name has no
    dot, no namespace means `fq = short`, a namespace is non-empty and `fq = ns.short`.
    (`".x"` ↦ no namespace; `"a..x"` ↦ namespace `"a."`; `"x."` ↦ short name `""`.) -/
theorem C09_ofFq_wf (s : String) : (Name.ofFq s).WF := Name.ofFq_wf s

/-- … and every well-formed name is obtained that way (from its own `fq`). -/
theorem C09_wf_iff (n : Name) : n.WF ↔ ∃ s, n = Name.ofFq s := Name.wf_iff n

example : Name.ofFq ".x" = ⟨"x", "x", none⟩ := by decide
example : Name.ofFq "a..x" = ⟨"a..x", "x", some "a."⟩ := by decide
example : Name.ofFq "x." = ⟨"x.", "", some "x"⟩ := by decide

/-- The name of every definition the parser registers is well-formed (the enclosing namespace
    is `none` at the root and the namespace of such a key below, never `some ""`). -/
theorem C09_defKey_wf (nm : String) (nsAttr enclosing : Option String)
    (henc : enclosing ≠ some "") : (defKey nm nsAttr enclosing).toName.WF :=
  defKey_toName_wf nm nsAttr enclosing henc

/-- The namespace handed to the fields of a record is the namespace of its name, on both sides
    (`registerFields … k.ns` / `renderFields … name.ns`). -/
theorem C09_toName_ns (k : NameKey) : k.toName.ns = k.ns := NameKey.toName_ns k

/-- `s.rsplit_once('.')` of `ns.short` when `short` has no dot. -/
theorem C09_rsplitDot_join (x short : String) (h : NoDot short) :
    rsplitDot (x ++ "." ++ short) = some (x, short) := rsplitDot_dotted x short h

/-! ### namespace-relative spelling -/

/-- **Definition spelling.** For every well-formed `name` and every enclosing namespace
    `parentNs`, the members written by `serialize_name` contain a `"name"` string `nm` and an
    optional `"namespace"` string `nsAttr` such that the parser's rule for definitions, applied
    in the same enclosing namespace, gives back `name`.  Three cases: same namespace (short name,
    inherits), no namespace under a namespaced parent (`"namespace": ""`), otherwise the dotted
    fullname. -/
theorem C09_def_spelling_roundtrip (name : Name) (h : name.WF) (parentNs : Option String) :
    ∃ nm nsAttr, readStr (nameMembers parentNs name) "name" = .ok (some nm) ∧
      readStr (nameMembers parentNs name) "namespace" = .ok nsAttr ∧
      (defKey nm nsAttr parentNs).toName = name :=
  def_spelling_roundtrip name h parentNs

/-- **Reference spelling.** The string written by `str_for_ref` (bare short name / `"." ++ fq`
    for a name without namespace / fullname) is resolved by the parser's reference rule, in the
    same enclosing namespace, to the same name. -/
theorem C09_ref_spelling_roundtrip (name : Name) (h : name.WF) (parentNs : Option String) :
    (refKey (refString parentNs name) parentNs).toName = name :=
  ref_spelling_roundtrip name h parentNs

/-- The reference string is *read as a reference* when it is not a type keyword … -/
theorem C09_ref_is_reference (name : Name) (parentNs : Option String) (fuel : Nat)
    (h : RawType.ofString (refString parentNs name) = none) :
    rawOfJson (fuel + 1) (.str (refString parentNs name)) = .ok (.ref (refString parentNs name)) := by
  simp [rawOfJson, h]

/-- … **corner** (defect D20, repaired): with the spelling the crate used before the repair
    (`refStringOld`), a named type referenced from its own namespace whose short name is a type
    keyword was written as that keyword and read back as the type, not as a reference. -/
theorem C09_ref_keyword_corner (name : Name) (fuel : Nat) (t : RawType)
    (h : RawType.ofString name.short = some t) :
    rawOfJson (fuel + 1) (.str (refStringOld name.ns name)) = .ok (.type t) := by
  simp [rawOfJson, refStringOld, h]

/-- Instance that was replayed on the crate: the (well-formed) name `int` without namespace. -/
theorem C09_ref_keyword_example :
    (⟨"int", "int", none⟩ : Name).WF ∧
      rawOfJson 1 (.str (refStringOld none ⟨"int", "int", none⟩)) = .ok (.type .int) := by
  refine ⟨⟨by unfold NoDot; decide, fun _ => rfl, fun x hx => by cases hx⟩, ?_⟩
  exact C09_ref_keyword_corner ⟨"int", "int", none⟩ 0 .int (by decide)

/-- After the repair the string written for a reference is **always** read as a reference:
    either it is a bare short name that is not a type name, or it contains a dot. -/
theorem C09_ref_always_reference (name : Name) (h : name.WF) (parentNs : Option String) (fuel : Nat) :
    rawOfJson (fuel + 1) (.str (refString parentNs name)) = .ok (.ref (refString parentNs name)) :=
  C09_ref_is_reference name parentNs fuel (refString_not_typeName name h parentNs)

/-! ### logical types -/

/-- The members written by `serialize_type_and_logical_type` carry the type name, and the
    logical type with its parameters, back through the parser — for every logical type the crate
    can spell unambiguously (`unknown n` with `n` not one of the nine known names; decimal
    parameters within `u32` / `usize`). -/
theorem C09_logical_members_roundtrip (t : String) (l : Option LogicalType)
    (h : ∀ lt, l = some lt → lt.Expressible) :
    member (typeMembers t l) "type" = .ok (some (.str t)) ∧
      logicalOfMembers (typeMembers t l) = .ok l := by
  refine ⟨?_, logical_members_roundtrip t l h⟩
  cases l with
  | none => simp [typeMembers, member]
  | some lt => cases lt <;> simp [typeMembers, member]

/-- The side condition is needed: `unknown "uuid"` is written like `uuid`. -/
example : logicalOfMembers (typeMembers "string" (some (.unknown "uuid"))) = .ok (some .uuid) := by
  rw [logicalOfMembers_eq _ (some "uuid") none none]
  · simp [logicalOf, logicalAttrs]
  all_goals (simp [typeMembers, readStr, readNat, member]; rfl)

/-- **Whole object.** In the object regenerated for a record / enum / fixed node — the members of
    `serialize_type_and_logical_type`, then those of `serialize_name`, then `fields` / `symbols` /
    `size` — the parser reads back the type name, the logical type and the name exactly. -/
theorem C09_object_roundtrip (t : String) (l : Option LogicalType) (parentNs : Option String)
    (name : Name) (rest : List (String × Json))
    (hl : ∀ lt, l = some lt → lt.Expressible) (hn : name.WF)
    (hrest : ∀ p ∈ rest, p.1 ∉ typeKeys ++ nameKeys) :
    let ms := typeMembers t l ++ nameMembers parentNs name ++ rest
    member ms "type" = .ok (some (.str t)) ∧ logicalOfMembers ms = .ok l ∧
      ∃ nm nsAttr, readStr ms "name" = .ok (some nm) ∧ readStr ms "namespace" = .ok nsAttr ∧
        (defKey nm nsAttr parentNs).toName = name := by
  intro ms
  have hm := member_object t l parentNs name rest hrest
  obtain ⟨h1, h2⟩ := C09_logical_members_roundtrip t l hl
  obtain ⟨nm, nsAttr, h3, h4, h5⟩ := C09_def_spelling_roundtrip name hn parentNs
  refine ⟨?_, ?_, nm, nsAttr, ?_, ?_, h5⟩
  · rw [(hm "type").1 (by decide)]; exact h1
  · unfold logicalOfMembers readStr at h2 ⊢
    rw [(hm "logicalType").1 (by decide), (hm "precision").1 (by decide),
      (hm "scale").1 (by decide)]
    exact h2
  · unfold readStr at h3 ⊢
    rw [(hm "name").2 (by decide)]; exact h3
  · unfold readStr at h4 ⊢
    rw [(hm "namespace").2 (by decide)]; exact h4

/-! ### graphs that cannot be expressed -/

/-- `no_cycle_guard`: if `render` is (re-)entered on an array/map/union key whose cell holds the
    current generation (or more), it fails. -/
theorem C09_render_reenter (S : SchemaMut) (fuel k : Nat) (ns : Option String) (st : RenderState)
    (hu : isUnnamedKey S k = true) (hg : st.nWritten ≤ st.get k) :
    render S (fuel + 1) k ns st = .error .custom :=
  render_reenter S fuel k ns st hu hg

/-- Direct cases, every fuel ≥ 3: an array / map / union that is its own child, and the two-node
    cycle array → map → array. -/
theorem C09_unnamed_cycle_err (fuel : Nat) (h : 3 ≤ fuel) :
    renderJson #[⟨.array 0, none⟩] fuel = .error .custom ∧
    renderJson #[⟨.map 0, none⟩] fuel = .error .custom ∧
    renderJson #[⟨.union [0], none⟩] fuel = .error .custom ∧
    renderJson #[⟨.array 1, none⟩, ⟨.map 0, none⟩] fuel = .error .custom := by
  refine ⟨?_, ?_, ?_, ?_⟩ <;>
    exact renderJson_of_le (fuel := 3) (by rfl) NP_custom h

/-- General statement: if the root belongs to a set of keys in which every member is an array,
    map or union with a child in the set (from the root one can walk forever through unnamed
    nodes only), regeneration fails with an error — for every sufficient fuel. -/
theorem C09_unnamed_cycle_err_general (S : SchemaMut) (C : Nat → Prop) (hC : UnnamedClosed S C)
    (h0 : C 0) (fuel : Nat) (hf : renderBound S ≤ fuel) : renderJson S fuel = .error .custom := by
  cases hr : renderJson S fuel with
  | error e => rw [renderJson_total S fuel hf e hr]
  | ok j => exact absurd hr (RenderPcf.renderJson_unnamed_cycle_never_ok S C hC h0 fuel j)

/-- … and it never succeeds, whatever the fuel. -/
theorem C09_unnamed_cycle_never_ok (S : SchemaMut) (C : Nat → Prop) (hC : UnnamedClosed S C)
    (h0 : C 0) (fuel : Nat) (j : Json) : renderJson S fuel ≠ .ok j :=
  RenderPcf.renderJson_unnamed_cycle_never_ok S C hC h0 fuel j

/-- A union node carrying a logical type makes the regeneration fail. -/
theorem C09_union_logical_err (S : SchemaMut) (fuel k : Nat) (ns : Option String)
    (st : RenderState) (vs : List Nat) (l : LogicalType)
    (h : S[k]? = some ⟨.union vs, some l⟩) :
    render S (fuel + 1) k ns st = .error .custom :=
  render_union_logical S fuel k ns st vs l h

end Avro.Theorems
