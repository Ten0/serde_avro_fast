import AvroModel.Theorems.NonVacuityA
import AvroModel.Theorems.NonVacuityB
import AvroModel.Theorems.NonVacuityC
import AvroModel.Theorems.NonVacuityD
import AvroModel.Theorems.NonVacuityE
import AvroModel.Theorems.NonVacuityE2
import AvroModel.Theorems.NonVacuityF
/-
Non-vacuity audit of the registered property theorems: index.

Each `NonVacuity<X>.lean` instantiates headline theorems of its properties on concrete instances
with the functions that are really run (`ser`, `de deExtModel`, `parseJson`, `renderJson`,
`canonicalForm`, `freeze`, `wrun`, `readAll`, `schemaMut` …), every hypothesis proved, and proves
as theorems the cases in which a hypothesis is NOT met by the function the driver runs.

  NonVacuityA   C01 C02 C03     (the driver's own `ExtTable.toExt`)
  NonVacuityB   C04 C11 C12 C18
  NonVacuityC   C05 C06 C15 C16 C17
  NonVacuityD   C07 C08
  NonVacuityE   C09 C10 C19     (SchemaRender side)
  NonVacuityE2  C09_reparsed_*  (SchemaParse side)
  NonVacuityF   C13 C14 C20

Stronger hypotheses that what is really run does NOT meet; they are why the registered theorems
have the hypotheses they have:
  * `ExtOK ext` (C01, C02): with an unconditional `rescale` clause it is false for
    `ExtTable.toExt t`, every table `t` (`NonVacuityA.toExt_not_ExtOK_unconditional`).  The clause
    is conditional on the argument fitting `i128`, and then every table the driver's parser accepts
    meets it (`Theorems.pExtEntries_ExtOK`).
  * `st1.Le stF` (C07_order_independent_ref, C07_forward_ref_eq_late_lookup, C07_backward_ref_stable,
    C07_node_stable): false for the final registration state of a nested reference
    (`NonVacuityD.le_to_final_state_fails`).  The theorems ask `PState.LeNU` (names / unresolved)
    resp. `PState.LeExcept op` (all slots but the enclosing placeholders), met by the final state of
    a real `registerNode` run (`NonVacuityD.leX_1_F`, `leNU_1_F`).
  * `NamesWf.hash_inj` / `NameInj` (C20_names_distinct_global, C20_names_distinct_of_nameInj_global
    only): false for every hash with finitely many values, the driver's included
    (`NVF20.namesWf_unmeetable_by_finite_hash`).  C20_names_distinct / C20_names_distinct_of_nameInj
    ask injectivity on finite lists of keys computed from the build, met by the driver's hash
    (`NVF20.names_distinct_driverHash_closed`).
  * `hserv` of the lemma `recordValue_inv` (every node, every unlimited state): false for the real
    field serializer (`NVF.recordValue_invariant_hserv_unmeetable`).  C13_recordValue_invariant asks
    it at the field's node and clean pools; `C13_recordValue_invariant_ser` discharges that for the
    real `ser`.

Registered statements whose content is easy to misjudge:
  * `C03_block_sizes_checked`: "a first block header with a negative count and a negative byte size
    is never deserialized into a value", instance in NonVacuityA.
  * `C13_flush_invariant`: between two fields the flush loop does nothing, instance in NonVacuityF.
  * `C18_accepts_slice` does not mention the writer; `C18_write_read`, `C18_write_read_msg`
    (Theorems/C18full.lean) compose it with `C18_frame` and `C01_roundtrip_impl` for the real `ser`
    and `de`; instance `NVB.cyc_write_read`.

Fuel.  The driver's fuels are model definitions (`Avro.Impl.deFuel`, `Avro.Impl.graphFuel`,
`Lemmas/DriverFuel.lean`), used by `Driver/Main.lean` and by the audit files.
  * `de`: `deFuelBase` alone can be below `fuelBound`, the lower end of the fuel range of the C04
    theorems (`NVB.driver_fuel_base_insufficient`: out of fuel on a valid input).  The driver passes
    `deFuel = max deFuelBase fuelBound`, and `Theorems/C04fuel.lean` concludes at it
    (`NVB.driver_fuel_sufficient`: the same instance, `Ok`).
  * `canonicalForm` / `renderJson` / `freeze` / `schemaFingerprint`: the range `n + 2 ≤ fuel` in the
    conclusions of C07_valid_parses_*, C08_pcf_is_spec*, C09_reparsed_* need not contain
    `graphFuel S` (`NonVacuityD.padded_fuel_gap`, `NonVacuityE2` `gEnum`).  `Theorems/GraphFuel.lean`
    has the corollaries that conclude at `graphFuel S` itself.
-/
