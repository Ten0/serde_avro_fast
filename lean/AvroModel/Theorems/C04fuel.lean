import AvroModel.Lemmas.DriverFuel
import AvroModel.Theorems.C04
/-
C04 at the fuel the test driver uses for every call of `de`, `Avro.Impl.deFuel`
(`Lemmas/DriverFuel.lean`; `Driver/Main.lean`: `deOne`, `runSingle`, `runOcfr` use that very
definition). `deFuel cfg S hint depth len ≥ fuelBound cfg S hint depth` unconditionally
(`fuelBound_le_deFuel`), so the driver's run is the run at every fuel in the range of the C04
theorems, and every theorem with a hypothesis `fuelBound … ≤ fuel` transfers to it. The first
component `deFuelBase` alone can be below `fuelBound` (audit `NonVacuityB`: a 760-field record with
`max_seq_size = 0`, where the model says `panic` and the crate `Ok`). C01 / C03 at this fuel are
`NonVacuityA.C01_de_accepts_at_driverFuel`, `NonVacuityA.C03_de_refines_spec_at_driverFuel`; from a
successful `freeze` to a run without `panic`: `NonVacuityE.frozen_no_panic`.
-/
namespace Avro.Theorems
open Avro Avro.Impl

/-- The driver's run of `de` is the run at every fuel `≥ fuelBound`. -/
theorem C04_fuel_independent_at_deFuel (ext : DeExt) (cfg : DeConfig) (S : Schema) (fuel : Nat)
    (k : Nat) (node : Node) (hk : S[k]? = some node) (depth : Nat) (favor : Bool) (h : Hint)
    (len : Nat) (hf : fuelBound cfg S h depth ≤ fuel) :
    de ext cfg S (deFuel cfg S h depth len) node depth favor h
      = de ext cfg S fuel node depth favor h := by
  rw [C04_fuel_independent_root ext cfg S _ k node hk depth favor h (fuelBound_le_deFuel cfg S h depth len),
    C04_fuel_independent_root ext cfg S fuel k node hk depth favor h hf]

/-- The driver's run of `de` is the run at the bound itself. -/
theorem C04_deFuel_eq_fuelBound (ext : DeExt) (cfg : DeConfig) (S : Schema)
    (k : Nat) (node : Node) (hk : S[k]? = some node) (depth : Nat) (favor : Bool) (h : Hint)
    (len : Nat) :
    de ext cfg S (deFuel cfg S h depth len) node depth favor h
      = de ext cfg S (fuelBound cfg S h depth) node depth favor h :=
  C04_fuel_independent_at_deFuel ext cfg S _ k node hk depth favor h len (Nat.le_refl _)

/-- The driver's run of `de` does not depend on the input-length component of the driver's
    formula. -/
theorem C04_deFuel_len_irrelevant (ext : DeExt) (cfg : DeConfig) (S : Schema)
    (k : Nat) (node : Node) (hk : S[k]? = some node) (depth : Nat) (favor : Bool) (h : Hint)
    (len len' : Nat) :
    de ext cfg S (deFuel cfg S h depth len) node depth favor h
      = de ext cfg S (deFuel cfg S h depth len') node depth favor h :=
  C04_fuel_independent_at_deFuel ext cfg S _ k node hk depth favor h len
    (fuelBound_le_deFuel cfg S h depth len')

/-- The driver's model never ends in the `panic` class (schema keys in bounds, which `freeze`
    guarantees: `C19_frozen_usable`). -/
theorem C04_no_panic_at_deFuel (ext : DeExt) (cfg : DeConfig) (S : Schema)
    (hS : S.keysInBounds = true) (k : Nat) (node : Node) (hk : S[k]? = some node) (depth : Nat)
    (favor : Bool) (h : Hint) (len : Nat) (s : RState) :
    (de ext cfg S (deFuel cfg S h depth len) node depth favor h s).1 ≠ .error .panic :=
  C04_no_panic_root ext cfg S hS _ k node hk depth favor h (fuelBound_le_deFuel cfg S h depth len) s

theorem C04_ok_or_err_at_deFuel (ext : DeExt) (cfg : DeConfig) (S : Schema)
    (hS : S.keysInBounds = true) (k : Nat) (node : Node) (hk : S[k]? = some node) (depth : Nat)
    (favor : Bool) (h : Hint) (len : Nat) (s : RState) :
    (∃ o, (de ext cfg S (deFuel cfg S h depth len) node depth favor h s).1 = .ok o) ∨
    (de ext cfg S (deFuel cfg S h depth len) node depth favor h s).1 = .error .custom ∨
    (de ext cfg S (deFuel cfg S h depth len) node depth favor h s).1 = .error .io :=
  C04_ok_or_err ext cfg S hS _ k node hk depth favor h (fuelBound_le_deFuel cfg S h depth len) s

end Avro.Theorems
