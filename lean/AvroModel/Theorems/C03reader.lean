import AvroModel.Theorems.C03layouts
import AvroModel.Lemmas.ReaderTransfer
import AvroModel.Theorems.ExampleDataA
/-
C03 on the STREAMING-READER back-end (`isSlice = false`), for every refill schedule: the slice
statements of `Theorems/C03layouts.lean` as corollaries through C11 (`Lemmas/ReaderTransfer.lean`),
the slice theorem being applied to `sliceOf r`.  The conventions, shared by the other `*reader`
files (each with a proved example at the end of this file):
  * state hypotheses `r.isSlice = false`, `r.limit = none`, `r.avail ≤ r.rest.length`,
    `r.rest.length ≤ r.maxAlloc` (`avail = 0` is NOT asked: the buffer may be part-way through a
    chunk; the last one says that `max_alloc_size`, which only the reader consults, allows what is
    left, as in C11);
  * the value is the expected one UP TO the `borrowed` flags (`unborrow`): the slice lends strings
    and byte strings, the reader copies them (`C03reader_value_not_equal`);
  * `r'.rest` is exactly the same suffix; the rest of the final state depends on the schedule
    (`C03reader_final_state_depends_on_schedule`), so the statements say `ReaderOK r'` where the
    slice theorems say `s' = { s with rest := … }`: the hypotheses again, so the statements chain
    from one datum to the next;
  * "is an error" transfers, WHICH error does not (C11 relates `custom` and `io`:
    `C03reader_error_class_differs`); `C03_invalid_is_err_class_reader` still holds because C04's
    totality is back-end independent.
-/
namespace Avro.Theorems
open Avro Avro.Spec Avro.Impl

/-- **C03, acceptance (all layouts), streaming reader.**  The statement of `C03_de_refines_spec`
    for a reader state with any refill schedule: the deserializer accepts every layout the
    specification decoder accepts (within the two numeric limits), returns `observe v` up to the
    `borrowed` flags and consumes exactly what the specification decoder consumed. -/
theorem C03_de_refines_spec_reader (cfg : DeConfig) (S : Schema) (node : Node) (v : Spec.Value)
    (bytes rest : Bytes) (o : Out) (depth fuelS fuelL : Nat)
    (hdec : Spec.decode S fuelS node bytes = some (v, rest))
    (hobs : Spec.observe S node v = some o)
    (hlim : (Spec.decodeL Limits.impl S fuelL node bytes).isSome = true)
    (hdepth : Spec.depthOf v ≤ depth) (hseq : Spec.maxLen v ≤ cfg.maxSeqSize)
    (fuel : Nat) (hfuel : Spec.size v * 4 + 8 ≤ fuel)
    (r : RState) (hs : r.isSlice = false) (hl : r.limit = none) (ha : r.avail ≤ r.rest.length)
    (hm : r.rest.length ≤ r.maxAlloc) (hr : r.rest = bytes) :
    ∃ o' r', de deExtModel cfg S fuel node depth false .any r = (.ok o', r') ∧
      unborrow o' = unborrow o ∧ r'.rest = rest ∧ ReaderOK r' :=
  de_reader_of_slice deExtModel cfg S fuel node depth false .any ⟨hs, hl, ha, hm⟩
    (C03_de_refines_spec cfg S node v bytes rest o depth fuelS fuelL hdec hobs hlim hdepth hseq fuel
      hfuel (sliceOf r) rfl hl rfl hr)

/-- The same with the fuel bound `3 * size v`. -/
theorem C03_de_refines_spec_fuel3_reader (cfg : DeConfig) (S : Schema) (node : Node)
    (v : Spec.Value) (bytes rest : Bytes) (o : Out) (depth fuelS fuelL : Nat)
    (hdec : Spec.decode S fuelS node bytes = some (v, rest))
    (hobs : Spec.observe S node v = some o)
    (hlim : (Spec.decodeL Limits.impl S fuelL node bytes).isSome = true)
    (hdepth : Spec.depthOf v ≤ depth) (hseq : Spec.maxLen v ≤ cfg.maxSeqSize)
    (fuel : Nat) (hfuel : 3 * Spec.size v ≤ fuel)
    (r : RState) (hs : r.isSlice = false) (hl : r.limit = none) (ha : r.avail ≤ r.rest.length)
    (hm : r.rest.length ≤ r.maxAlloc) (hr : r.rest = bytes) :
    ∃ o' r', de deExtModel cfg S fuel node depth false .any r = (.ok o', r') ∧
      unborrow o' = unborrow o ∧ r'.rest = rest ∧ ReaderOK r' :=
  de_reader_of_slice deExtModel cfg S fuel node depth false .any ⟨hs, hl, ha, hm⟩
    (C03_de_refines_spec_fuel3 cfg S node v bytes rest o depth fuelS fuelL hdec hobs hlim hdepth hseq
      fuel hfuel (sliceOf r) rfl hl rfl hr)

/-- The same stated on the limited decoder alone. -/
theorem C03_de_accepts_impl_layouts_reader (cfg : DeConfig) (S : Schema) (node : Node)
    (v : Spec.Value) (bytes rest : Bytes) (o : Out) (depth fuelS : Nat)
    (hdec : Spec.decodeL Limits.impl S fuelS node bytes = some (v, rest))
    (hobs : Spec.observe S node v = some o)
    (hdepth : Spec.depthOf v ≤ depth) (hseq : Spec.maxLen v ≤ cfg.maxSeqSize)
    (fuel : Nat) (hfuel : 3 * Spec.size v ≤ fuel)
    (r : RState) (hs : r.isSlice = false) (hl : r.limit = none) (ha : r.avail ≤ r.rest.length)
    (hm : r.rest.length ≤ r.maxAlloc) (hr : r.rest = bytes) :
    ∃ o' r', de deExtModel cfg S fuel node depth false .any r = (.ok o', r') ∧
      unborrow o' = unborrow o ∧ r'.rest = rest ∧ ReaderOK r' :=
  de_reader_of_slice deExtModel cfg S fuel node depth false .any ⟨hs, hl, ha, hm⟩
    (C03_de_accepts_impl_layouts cfg S node v bytes rest o depth fuelS hdec hobs hdepth hseq fuel
      hfuel (sliceOf r) rfl hl rfl hr)

/-- **C03, soundness, streaming reader.**  Whatever the deserializer accepts from a reader with
    any refill schedule, `decodeL Limits.impl` accepts, with a value whose observation is what the
    target received (up to the `borrowed` flags: `o₀` is `observe v`, the reader delivers its
    strings copied) and with exactly the same remainder.  No hypothesis on the schema, the
    configuration, the fuel or the input. -/
theorem C03_de_sound_reader (cfg : DeConfig) (S : Schema) (node : Node) (depth fuel : Nat)
    (r r' : RState) (o : Out)
    (hs : r.isSlice = false) (hl : r.limit = none) (ha : r.avail ≤ r.rest.length)
    (hm : r.rest.length ≤ r.maxAlloc)
    (h : de deExtModel cfg S fuel node depth false .any r = (.ok o, r')) :
    ∃ v fuelS o₀, Spec.decodeL Limits.impl S fuelS node r.rest = some (v, r'.rest) ∧
      Spec.observe S node v = some o₀ ∧ unborrow o = unborrow o₀ ∧ ReaderOK r' := by
  obtain ⟨o₀, sl', hsl, ho, hrest, hok⟩ :=
    de_slice_of_reader deExtModel cfg S fuel node depth false .any ⟨hs, hl, ha, hm⟩ h
  obtain ⟨v, fS, hv, hobs, _⟩ :=
    C03_de_sound cfg S node depth fuel (sliceOf r) sl' o₀ rfl hl rfl hsl
  exact ⟨v, fS, o₀, by rw [hrest]; exact hv, hobs, ho, hok⟩

/-- **C03, soundness against the specification decoder, streaming reader.** -/
theorem C03_de_rejects_invalid_reader (cfg : DeConfig) (S : Schema) (node : Node)
    (depth fuel : Nat) (r r' : RState) (o : Out)
    (hs : r.isSlice = false) (hl : r.limit = none) (ha : r.avail ≤ r.rest.length)
    (hm : r.rest.length ≤ r.maxAlloc)
    (h : de deExtModel cfg S fuel node depth false .any r = (.ok o, r')) :
    ∃ v fuelS o₀, Spec.decode S fuelS node r.rest = some (v, r'.rest) ∧
      Spec.observe S node v = some o₀ ∧ unborrow o = unborrow o₀ := by
  obtain ⟨v, fS, o₀, hv, hobs, ho, _⟩ := C03_de_sound_reader cfg S node depth fuel r r' o hs hl ha hm h
  exact ⟨v, fS, o₀, C03_decodeL_impl_sub_spec S fS node r.rest _ hv, hobs, ho⟩

/-- **C03, invalid input is an error, streaming reader**: an input the specification decoder
    rejects with every amount of fuel is never deserialized into a value, whatever the refill
    schedule.  (Transfers completely: the conclusion does not mention the error class.) -/
theorem C03_invalid_is_err_reader (cfg : DeConfig) (S : Schema) (node : Node) (depth fuel : Nat)
    (r : RState) (hs : r.isSlice = false) (hl : r.limit = none) (ha : r.avail ≤ r.rest.length)
    (hm : r.rest.length ≤ r.maxAlloc)
    (hinv : ∀ fuelS, Spec.decode S fuelS node r.rest = none) (o : Out) :
    (de deExtModel cfg S fuel node depth false .any r).1 ≠ .ok o :=
  de_reader_not_ok deExtModel cfg S fuel node depth false .any ⟨hs, hl, ha, hm⟩
    (C03_invalid_is_err cfg S node depth fuel (sliceOf r) rfl hl rfl hinv) o

/-- Lax form (input rejected even without the sign check on block byte sizes). -/
theorem C03_invalid_is_err_lax_reader (cfg : DeConfig) (S : Schema) (node : Node)
    (depth fuel : Nat)
    (r : RState) (hs : r.isSlice = false) (hl : r.limit = none) (ha : r.avail ≤ r.rest.length)
    (hm : r.rest.length ≤ r.maxAlloc)
    (hinv : ∀ fuelS, Spec.decodeL Limits.specLax S fuelS node r.rest = none) (o : Out) :
    (de deExtModel cfg S fuel node depth false .any r).1 ≠ .ok o :=
  de_reader_not_ok deExtModel cfg S fuel node depth false .any ⟨hs, hl, ha, hm⟩
    (C03_invalid_is_err_lax cfg S node depth fuel (sliceOf r) rfl hl rfl hinv) o

/-- A first block header with a negative count and a NEGATIVE byte size is refused, whatever the
    refill schedule. -/
theorem C03_block_sizes_checked_reader (cfg : DeConfig) (S : Schema) (node : Node) (k : Nat)
    (hnode : node = .array k ∨ node = .map k) (depth fuel : Nat)
    (r : RState) (hs : r.isSlice = false) (hl : r.limit = none) (ha : r.avail ≤ r.rest.length)
    (hm : r.rest.length ≤ r.maxAlloc)
    (c size : Int) (rest1 rest2 : Bytes)
    (h1 : Spec.decodeLong r.rest = some (c, rest1)) (hc : c < 0)
    (h2 : Spec.decodeLong rest1 = some (size, rest2)) (hsz : size < 0) (o : Out) :
    (de deExtModel cfg S fuel node depth false .any r).1 ≠ .ok o :=
  de_reader_not_ok deExtModel cfg S fuel node depth false .any ⟨hs, hl, ha, hm⟩
    (C03_block_sizes_checked cfg S node k hnode depth fuel (sliceOf r) rfl hl rfl c size rest1 rest2
      h1 hc h2 hsz) o

/-- With C04's totality (which holds for every state, hence for the reader): for a well-formed
    schema and at least `fuelBound` units of fuel the outcome on invalid input is an `Err` of the
    custom class or of the I/O class — WHICH of the two may differ from the slice back-end
    (`C03reader_error_class_differs`). -/
theorem C03_invalid_is_err_class_reader (cfg : DeConfig) (S : Schema) (hS : S.keysInBounds = true)
    (k : Nat) (node : Node) (hk : S[k]? = some node) (depth fuel : Nat)
    (hf : fuelBound cfg S .any depth ≤ fuel)
    (r : RState) (hs : r.isSlice = false) (hl : r.limit = none) (ha : r.avail ≤ r.rest.length)
    (hm : r.rest.length ≤ r.maxAlloc)
    (hinv : ∀ fuelS, Spec.decode S fuelS node r.rest = none) :
    (de deExtModel cfg S fuel node depth false .any r).1 = .error .custom ∨
    (de deExtModel cfg S fuel node depth false .any r).1 = .error .io := by
  rcases C04_ok_or_err deExtModel cfg S hS fuel k node hk depth false .any hf r with ⟨o, ho⟩ | h
  · exact absurd ho (C03_invalid_is_err_reader cfg S node depth fuel r hs hl ha hm hinv o)
  · exact h

/-! ### Non-vacuity -/

namespace ReaderNV
open Avro.Theorems.NVB

def nmP : Name := { fq := "p", short := "p", ns := none }

/-- `0: record p { s: string, xs: array<int> }`, `1: string`, `2: array<int>`, `3: int` -/
def SP : Schema := #[.record nmP [("s", 1), ("xs", 2)], .string, .array 3, .int]
def nodeP : Node := .record nmP [("s", 1), ("xs", 2)]

/-- `s = "hey"` (length 3, three bytes); `xs = [1, 2, 3]` in TWO blocks: `count 1`, item `1`;
    `count -2`, `byte size 2`, items `2`, `3`; end marker. -/
def layP : Bytes := [0x06, 0x68, 0x65, 0x79, 0x02, 0x02, 0x03, 0x04, 0x04, 0x06, 0x00]
def vP : Value := .record [.string "hey", .array [.int 1, .int 2, .int 3]]

/-- `observe vP`: the string is handed out BORROWED … -/
def oP : Out :=
  .map [(.str "s" false, .str "hey" true), (.str "xs" false, .seq [.i32 1, .i32 2, .i32 3])]
/-- … what a reader delivers: the string is COPIED. -/
def oPr : Out :=
  .map [(.str "s" false, .str "hey" false), (.str "xs" false, .seq [.i32 1, .i32 2, .i32 3])]

/-- A streaming reader over `layP` followed by the byte `07`: nothing buffered, the refills
    deliver 1, 2, 3 bytes and then one byte at a time; allocation cap 64 bytes. -/
def rP : RState :=
  { isSlice := false, rest := layP ++ [7], avail := 0, sched := [1, 2, 3], lastChunk := 1,
    maxAlloc := 64 }

theorem layP_decodes : Spec.decode SP 10 nodeP (layP ++ [7]) = some (vP, [7]) := by rfl
theorem layP_decodesL : Spec.decodeL Limits.impl SP 10 nodeP (layP ++ [7]) = some (vP, [7]) := by
  rfl
theorem vP_observe : Spec.observe SP nodeP vP = some oP := by rfl

/-- the layout is not the canonical one (which has a single block) -/
example : Spec.encode SP nodeP vP =
    some [0x06, 0x68, 0x65, 0x79, 0x06, 0x02, 0x04, 0x06, 0x00] := by decide +kernel

/-- **`C03_de_refines_spec_reader`**, every hypothesis discharged. -/
theorem rP_refines : ∃ o' r', de deExtModel {} SP 100 nodeP 64 false .any rP = (.ok o', r') ∧
    unborrow o' = unborrow oP ∧ r'.rest = [7] ∧ ReaderOK r' :=
  C03_de_refines_spec_reader {} SP nodeP vP (layP ++ [7]) [7] oP 64 10 10 layP_decodes vP_observe
    (by rw [layP_decodesL]; rfl) (by decide +kernel) (by decide +kernel) 100 (by decide +kernel)
    rP rfl rfl (by decide) (by decide) rfl

/-- The run itself, by evaluation: the value is `oPr`, the byte `07` is left, the schedule is used
    up, the 3-byte string did not fit the 2-byte refill and went through the scratch buffer. -/
theorem rP_run : de deExtModel {} SP 100 nodeP 64 false .any rP =
    (.ok oPr, { rP with rest := [7], avail := 0, sched := [], scratch := 3 }) :=
  resEq_of (by decide +kernel)

/-- **`C03_de_sound_reader`** on that run. -/
example : ∃ v fuelS o₀, Spec.decodeL Limits.impl SP fuelS nodeP (layP ++ [7]) = some (v, [7]) ∧
    Spec.observe SP nodeP v = some o₀ ∧ unborrow oPr = unborrow o₀ ∧
    ReaderOK { rP with rest := [7], avail := 0, sched := [], scratch := 3 } :=
  C03_de_sound_reader {} SP nodeP 64 100 rP _ oPr rfl rfl (by decide) (by decide) rP_run

/-- **`C03_de_rejects_invalid_reader`** on that run. -/
example : ∃ v fuelS o₀, Spec.decode SP fuelS nodeP (layP ++ [7]) = some (v, [7]) ∧
    Spec.observe SP nodeP v = some o₀ ∧ unborrow oPr = unborrow o₀ :=
  C03_de_rejects_invalid_reader {} SP nodeP 64 100 rP _ oPr rfl rfl (by decide) (by decide) rP_run

/-- `NonVacuityA.badI` (the union index in the second block of an array is out of range) behind a
    reader with refills 1, 2, 3, 1, 1, … -/
def rBad : RState :=
  { isSlice := false, rest := NonVacuityA.badI, avail := 0, sched := [1, 2, 3], lastChunk := 1 }

/-- **`C03_invalid_is_err_reader`**, at any fuel. -/
example (fuel : Nat) (o : Out) :
    (de deExtModel {} NonVacuityA.SI fuel NonVacuityA.nodeI 64 false .any rBad).1 ≠ .ok o :=
  C03_invalid_is_err_reader {} NonVacuityA.SI NonVacuityA.nodeI 64 fuel rBad rfl rfl (by decide)
    (by decide) NonVacuityA.badI_invalid o

/-- **`C03_invalid_is_err_class_reader`** on the same input. -/
example :
    (de deExtModel {} NonVacuityA.SI (fuelBound {} NonVacuityA.SI .any 64) NonVacuityA.nodeI 64
      false .any rBad).1 = .error .custom ∨
    (de deExtModel {} NonVacuityA.SI (fuelBound {} NonVacuityA.SI .any 64) NonVacuityA.nodeI 64
      false .any rBad).1 = .error .io :=
  C03_invalid_is_err_class_reader {} NonVacuityA.SI (by decide +kernel) 0 NonVacuityA.nodeI
    (by decide +kernel) 64 _ (Nat.le_refl _) rBad rfl rfl (by decide) (by decide)
    NonVacuityA.badI_invalid

/-- **`C03_block_sizes_checked_reader`**: count -1, byte size -1, delivered one byte at a time. -/
example (fuel : Nat) (o : Out) :
    (de deExtModel {} NonVacuityA.SI fuel NonVacuityA.nodeI 64 false .any
      { isSlice := false, rest := [0x01, 0x01, 0x00, 0x00], avail := 0, sched := [],
        lastChunk := 1 }).1 ≠ .ok o :=
  C03_block_sizes_checked_reader {} NonVacuityA.SI NonVacuityA.nodeI 1 (.inl rfl) 64 fuel _
    rfl rfl (by decide) (by decide) (-1) (-1) [0x01, 0x00, 0x00] [0x00, 0x00] (by decide +kernel)
    (by decide) (by decide +kernel) (by decide) o

/-! ### Why the reader statements are weaker in three places -/

/-- **The value is NOT equal to `observe v`, only equal up to `unborrow`.**  On the slice the
    deserializer returns `oP` (`"hey"` borrowed); on the reader `oPr` (`"hey"` copied).  So the
    conclusion `de … r = (.ok o, _)` of the slice theorem is false on the reader. -/
theorem C03reader_value_not_equal :
    de deExtModel {} SP 100 nodeP 64 false .any (sliceOf rP) =
      (.ok oP, { sliceOf rP with rest := [7] }) ∧
    (de deExtModel {} SP 100 nodeP 64 false .any rP).1 = .ok oPr ∧
    oPr ≠ oP ∧ unborrow oPr = unborrow oP := by
  refine ⟨resEq_of (by decide +kernel), by rw [rP_run], ?_, ?_⟩
  · simp [oPr, oP]
  · simp [oPr, oP, unborrow, unborrowP, unborrowL]

/-- **The final state depends on the schedule**, beyond `rest`: with refills of 1, 2, 3, 1, … the
    run ends with an empty buffer, the schedule used up and a 3-byte scratch buffer; when the
    first refill delivers everything it ends with one byte buffered and no scratch buffer.  In
    neither case is the final state `{ r with rest := [7] }`, the form the slice theorems give. -/
theorem C03reader_final_state_depends_on_schedule :
    (de deExtModel {} SP 100 nodeP 64 false .any rP).2 =
      { rP with rest := [7], avail := 0, sched := [], scratch := 3 } ∧
    (de deExtModel {} SP 100 nodeP 64 false .any { rP with sched := [], lastChunk := 100 }).2 =
      { rP with rest := [7], avail := 1, sched := [], lastChunk := 100, scratch := 0 } ∧
    (de deExtModel {} SP 100 nodeP 64 false .any rP).2 ≠ { rP with rest := [7] } ∧
    (de deExtModel {} SP 100 nodeP 64 false .any { rP with sched := [], lastChunk := 100 }).2 ≠
      { ({ rP with sched := [], lastChunk := 100 } : RState) with rest := [7] } := by
  refine ⟨by rw [rP_run], by decide +kernel, by decide +kernel, by decide +kernel⟩

/-- **The error class is not the same**: a string announcing 5 bytes of which 2 are there.  The
    slice sees at once that the input is too short (`custom`), the reader runs into the end of the
    stream (`io`).  Both are errors — which is what `C03_invalid_is_err_reader` says. -/
theorem C03reader_error_class_differs :
    (de deExtModel {} SP 100 .string 64 false .any
      { isSlice := true, rest := [0x0a, 0x68, 0x65] }).1 = .error .custom ∧
    (de deExtModel {} SP 100 .string 64 false .any
      { isSlice := false, rest := [0x0a, 0x68, 0x65], avail := 0, sched := [1, 2, 3],
        lastChunk := 1 }).1 = .error .io :=
  ⟨fstEq_of (by decide +kernel), fstEq_of (by decide +kernel)⟩

end ReaderNV

end Avro.Theorems
