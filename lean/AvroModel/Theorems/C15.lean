import AvroModel.Lemmas.OcfWriterGeneral
/-
C15: whenever a writer call has returned without error, the bytes delivered so far form a
complete, valid container file whose contents are a prefix of the successfully serialized
values, in order; after an explicit flush / finishing / dropping, the file contains all of them
exactly once.  A value whose serialization fails contributes no bytes and no count.

Statements are for the all-accepting sink (`sink.sched = []`); `C15_run_benign` extends the end
result to every benign schedule through `wrun_sim` (what C16 is).  The abstract writer `AState` / `astep` and the
invariant `Rep` that ties it to the model are described at the head of `Lemmas/OcfWriter.lean`.
-/
namespace Avro.Theorems
open Avro Avro.Impl Avro.Impl.Ocf

/-! ### A value that fails to serialize -/

/-- `serialize` of a value that does not fit the schema: only the part of the call that runs
    before the value is looked at has an effect (flush a pending block, close a block that is
    already large enough); then the call fails and nothing of the value remains. Holds for every
    sink and every state. -/
theorem C15_failed_value_invisible (c : Codec) (dbg : Bool) (w : WState) :
    wstep c dbg w (.value none) =
      match preFlush c w with
      | (.error e, w₁) => (.error e, w₁)
      | (.ok _, w₁) => (.error .custom, w₁) := by
  simp only [wstep, Option.map_none, withValue_eq]
  cases preFlush c w with
  | mk r w₁ => cases r <;> rfl

/-- The same prefix is run when the value is serialized successfully. -/
theorem C15_value_prefix (c : Codec) (dbg : Bool) (w : WState) (d : Bytes) :
    wstep c dbg w (.value (some d)) =
      match preFlush c w with
      | (.error e, w₁) => (.error e, w₁)
      | (.ok _, w₁) => postAdd c { w₁ with buf := w₁.buf ++ d, n := w₁.n + 1 } := by
  simp only [wstep, Option.map_some, withValue_eq]
  cases preFlush c w with
  | mk r w₁ => cases r <;> rfl

/-- Between calls (nothing pending) and below the block size, a failing value changes nothing at
    all: buffer, count and sink are untouched. -/
theorem C15_failed_value_noop (c : Codec) (dbg : Bool) (w : WState) (hp : w.pending = none)
    (hlt : w.buf.length < w.approx) :
    wstep c dbg w (.value none) = (.error .custom, w) := by
  have : ¬ (w.buf.length ≥ w.approx) := by omega
  simp only [C15_failed_value_invisible, preFlush, flushFinishedBlock, hp, this, if_false]

/-- In a state satisfying the invariant, a failing value returns the serialization error and adds
    no entry to the log (no bytes, no count); at most the current block is closed. -/
theorem C15_failed_value_no_count (c : Codec) (dbg : Bool) (hdr sync : Bytes) (approx : Nat)
    (a : AState) (w : WState) (h : Rep c hdr sync approx a w) :
    ∃ w', wstep c dbg w (.value none) = (.error .custom, w') ∧
      Rep c hdr sync approx (asealIf approx a) w' ∧ (asealIf approx a).log = a.log :=
  let ⟨w', h1, h2⟩ := wstep_rep c dbg hdr sync approx a w (.value none) (by simp) h
  ⟨w', h1, h2, asealIf_log approx a⟩

/-! ### The invariant is preserved by every call -/

/-- Every call on a state represented by `a` returns `Ok` (the serialization error for a failing
    value), never panics, and ends in a state represented by `astep approx a op`. -/
theorem C15_rep_step (c : Codec) (dbg : Bool) (hdr sync : Bytes) (approx : Nat) (a : AState)
    (w : WState) (op : WOp) (hop : op ≠ .intoInner) (h : Rep c hdr sync approx a w) :
    ∃ w', wstep c dbg w op = (expected op, w') ∧ Rep c hdr sync approx (astep approx a op) w' :=
  wstep_rep c dbg hdr sync approx a w op hop h

/-- `into_inner`: the current block is written, the sink is handed over. -/
theorem C15_intoInner_step (c : Codec) (dbg : Bool) (hdr sync : Bytes) (approx : Nat) (a : AState)
    (w : WState) (h : Rep c hdr sync approx a w) :
    ∃ w', wstep c dbg w .intoInner = (.ok (), { w' with taken := true }) ∧
      Rep c hdr sync approx (aseal a) w' :=
  wstep_intoInner_rep c dbg hdr sync approx a w h

/-- After `into_inner`, `Drop` does nothing. -/
theorem C15_drop_after_intoInner (c : Codec) (dbg : Bool) (w : WState) (h : w.taken = true) :
    wstep c dbg w .drop = (.ok (), w) := by
  simp [wstep, h]

/-- The same, unbundled: `Inv` with the abstract log tracked separately. -/
theorem C15_inv_step (c : Codec) (dbg : Bool) (hdr : Bytes) (a : AState) (w : WState) (op : WOp)
    (hop : op ≠ .intoInner)
    (hinv : Inv c hdr (a.sealed.map blockOf) w)
    (hbuf : w.buf = bufOf a.buffered) (hn : w.n = cntOf a.buffered) (hs : w.sink.sched = []) :
    let r := wstep c dbg w op
    let a' := astep w.approx a op
    r.1 = expected op ∧ r.1 ≠ .error .panic ∧
      Inv c hdr (a'.sealed.map blockOf) r.2 ∧
      r.2.buf = bufOf a'.buffered ∧ r.2.n = cntOf a'.buffered ∧
      r.2.pending = none ∧ r.2.sink.sched = [] ∧ r.2.sync = w.sync ∧ r.2.approx = w.approx ∧
      a'.log = a.log ++ entryOf op := by
  intro r a'
  obtain ⟨w', h1, h2⟩ := wstep_rep c dbg hdr w.sync w.approx a w op hop ⟨hinv, hbuf, hn, hs, rfl, rfl⟩
  have hr : r = (expected op, w') := h1
  rw [hr]
  refine ⟨rfl, ?_, h2.inv, h2.buf_eq, h2.n_eq, h2.inv.pending_none, h2.sched_nil, h2.sync_eq,
    h2.approx_eq, astep_log _ a op⟩
  cases op with
  | value d => cases d <;> simp [expected]
  | _ => simp [expected]

/-! What the abstract transition does. -/

/-- A value (or pushed bytes) goes to the end of the buffered list; when the buffer reaches the
    block size, the whole buffered list becomes ONE block whose count is the number buffered. -/
theorem C15_astep_value (approx : Nat) (a : AState) (d : Bytes)
    (hlt : (bufOf a.buffered).length < approx) :
    astep approx a (.value (some d)) =
      if (bufOf a.buffered ++ d).length ≥ approx then
        { sealed := a.sealed ++ [a.buffered ++ [(d, 1)]], buffered := [] }
      else { a with buffered := a.buffered ++ [(d, 1)] } := by
  have h1 : ¬ ((bufOf a.buffered).length ≥ approx) := by omega
  simp only [astep, asealIf, h1, if_false, aadd, bufOf_snoc, aseal, cntOf_snoc]
  split
  · have : cntOf a.buffered + 1 > 0 := by omega
    simp only [this, if_true]
  · rfl

theorem C15_blockOf_snoc (es : List Entry) (d : Bytes) :
    blockOf (es ++ [(d, 1)]) = (cntOf es + 1, bufOf es ++ d) := by
  simp [blockOf, bufOf_snoc, cntOf_snoc]

/-- `finish_block`, `into_inner`, `Drop`: everything buffered (if it counts at least one value)
    becomes a block. -/
theorem C15_astep_finish (approx : Nat) (a : AState) (op : WOp)
    (hop : op = .finishBlock ∨ op = .intoInner ∨ op = .drop) :
    astep approx a op =
      if cntOf a.buffered > 0 then { sealed := a.sealed ++ [a.buffered], buffered := [] } else a := by
  rcases hop with h | h | h <;> subst h <;> rfl

/-- A failing value adds nothing to the abstract state below the block size. -/
theorem C15_astep_failed (approx : Nat) (a : AState) (hlt : (bufOf a.buffered).length < approx) :
    astep approx a (.value none) = a := by
  have h1 : ¬ ((bufOf a.buffered).length ≥ approx) := by omega
  simp only [astep, asealIf, h1, if_false]

/-! ### Whole histories -/

/-- After any history of calls (before `into_inner`) on a freshly built writer — the header is
    in the sink, nothing buffered —: every call returned `Ok`, except failing values which
    returned their serialization error; the state is represented by `arun approx {} ops`, whose
    log (blocks written, then entries buffered) is exactly the list of successful values, in
    order; every block written counts at least one value. -/
theorem C15_run (c : Codec) (dbg : Bool) (hdr sync : Bytes) (approx : Nat) (ops : List WOp)
    (hops : ∀ op ∈ ops, op ≠ .intoInner) (w : WState) (h0 : Rep c hdr sync approx {} w) :
    let a := arun approx {} ops
    (wrun c dbg w ops).1 = ops.map expected ∧
      Rep c hdr sync approx a (wrun c dbg w ops).2 ∧
      a.sealed.flatten ++ a.buffered = ops.flatMap entryOf ∧
      SealedPos a := by
  intro a
  obtain ⟨h1, h2⟩ := wrun_rep c dbg hdr sync approx ops hops {} w h0
  refine ⟨h1, h2, ?_, arun_sealedPos approx {} ops (by intro b hb; simp at hb)⟩
  have := arun_log approx {} ops
  simpa [AState.log] using this

/-- The bytes delivered are the header followed by the blocks written, which hold a prefix of
    the successful values. -/
theorem C15_run_sink (c : Codec) (dbg : Bool) (hdr sync : Bytes) (approx : Nat) (ops : List WOp)
    (hops : ∀ op ∈ ops, op ≠ .intoInner) (w : WState) (h0 : Rep c hdr sync approx {} w) :
    let a := arun approx {} ops
    (wrun c dbg w ops).2.sink.data = hdr ++ blocksBytes c sync (a.sealed.map blockOf) ∧
      a.sealed.flatten <+: ops.flatMap entryOf := by
  intro a
  obtain ⟨_, h2, h3, _⟩ := C15_run c dbg hdr sync approx ops hops w h0
  refine ⟨?_, ⟨a.buffered, h3⟩⟩
  have := h2.inv.sink_eq
  rw [h2.sync_eq] at this
  exact this

/-- After an explicit `finish_block` / `Drop` at the end of the history, no counted value is left
    in the buffer; if every `push_serialized` counted at least one value, the buffer is empty and
    the blocks written hold all the successful values exactly once, in order. -/
theorem C15_run_finished (approx : Nat) (ops : List WOp) (fin : WOp)
    (hfin : fin = .finishBlock ∨ fin = .intoInner ∨ fin = .drop)
    (hpush : ∀ b k, WOp.push b k ∈ ops → 1 ≤ k) :
    let a := arun approx {} (ops ++ [fin])
    a.buffered = [] ∧ a.sealed.flatten = ops.flatMap entryOf := by
  intro a
  obtain ⟨_, hlog, _, hz⟩ := arun_finished approx ops fin hfin
  have hpos : AllPos (ops.flatMap entryOf) := by
    intro e he
    simp only [List.mem_flatMap] at he
    obtain ⟨op, hop, he⟩ := he
    cases op with
    | value d =>
      cases d with
      | none => simp [entryOf] at he
      | some d => simp only [entryOf, List.mem_singleton] at he; subst he; exact Nat.le_refl _
    | push b k =>
      simp only [entryOf, List.mem_singleton] at he; subst he; exact hpush b k hop
    | finishBlock => simp [entryOf] at he
    | intoInner => simp [entryOf] at he
    | drop => simp [entryOf] at he
  have hnil : a.buffered = [] :=
    eq_nil_of_cntOf_eq_zero _ (fun e he => hpos e (hlog ▸ List.mem_append_right _ he))
      ((cntOf_eq_zero_iff _).2 hz)
  exact ⟨hnil, by rw [← hlog, hnil, List.append_nil]⟩

/-! ### The sink parses as a complete container file -/

/-- In every state reached, the independent parser of the specification reads the sink as a
    complete file: the header's metadata and marker, exactly the blocks written (count, data as
    stored by the codec), no trailing bytes, no bad marker. -/
theorem C15_sink_parses (c : Codec) (metaBytes sync : Bytes) (md : List (Bytes × Bytes))
    (approx : Nat) (a : AState) (w : WState)
    (h : Rep c (Spec.Ocf.magic ++ metaBytes ++ sync) sync approx a w)
    (hmeta : MetaParses metaBytes md) (hsync : sync.length = 16)
    (hb : ∀ b ∈ a.sealed, cntOf b < 2 ^ 63 ∧ (codecData c (bufOf b)).length < 2 ^ 63) :
    Spec.Ocf.parse w.sink.data =
      some { metadata := md, sync := w.sync,
             blocks := a.sealed.map (fun b => { count := cntOf b, data := codecData c (bufOf b) }),
             trailing := 0, badSync := false } := by
  have hd := h.inv.sink_eq
  rw [h.sync_eq] at hd ⊢
  rw [hd, parse_file c metaBytes sync md (a.sealed.map blockOf) hmeta hsync]
  · simp [blockOf, List.map_map, Function.comp_def]
  · intro b hb'
    simp only [List.mem_map] at hb'
    obtain ⟨es, hes, rfl⟩ := hb'
    exact hb es hes

/-- Stated directly on `Inv`, for an arbitrary list of blocks. -/
theorem C15_inv_parses (c : Codec) (metaBytes : Bytes) (md : List (Bytes × Bytes))
    (blocks : List (Nat × Bytes)) (w : WState)
    (h : Inv c (Spec.Ocf.magic ++ metaBytes ++ w.sync) blocks w)
    (hmeta : MetaParses metaBytes md) (hsync : w.sync.length = 16)
    (hb : ∀ b ∈ blocks, b.1 < 2 ^ 63 ∧ (codecData c b.2).length < 2 ^ 63) :
    Spec.Ocf.parse w.sink.data =
      some { metadata := md, sync := w.sync,
             blocks := blocks.map (fun b => { count := b.1, data := codecData c b.2 }),
             trailing := 0, badSync := false } := by
  rw [h.sink_eq]
  exact parse_file c metaBytes w.sync md blocks hmeta hsync hb

/-- The block part alone. -/
theorem C15_blocks_parse (c : Codec) (sync : Bytes) (hsync : sync.length = 16)
    (blocks : List (Nat × Bytes))
    (hb : ∀ b ∈ blocks, b.1 < 2 ^ 63 ∧ (codecData c b.2).length < 2 ^ 63)
    (fuel : Nat) (hf : blocks.length < fuel) :
    Spec.Ocf.parseBlocks sync fuel (blocksBytes c sync blocks) =
      (blocks.map (fun b => { count := b.1, data := codecData c b.2 }), 0, false) :=
  parseBlocks_blocksBytes c sync hsync blocks hb fuel hf

/-- The header the model's `build_with_user_metadata` writes satisfies the hypothesis on the
    header: it is magic, a metadata map the specification parser reads as the schema, the codec
    name and the user entries, then the marker. -/
theorem C15_header_parses (schemaJson codecName : Bytes) (userMeta : List (Bytes × Bytes))
    (sync : Bytes)
    (hs : schemaJson.length < 2 ^ 63) (hc : codecName.length < 2 ^ 63)
    (hu : ∀ e ∈ userMeta, e.1.length < 2 ^ 63 ∧ e.2.length < 2 ^ 63) :
    let entries := ("avro.schema".toUTF8.data.toList, schemaJson) ::
        ("avro.codec".toUTF8.data.toList, codecName) :: userMeta
    headerBytes schemaJson codecName userMeta sync
        = Spec.Ocf.magic ++ metaBytesOf entries ++ sync ∧
      MetaParses (metaBytesOf entries) entries := by
  intro entries
  refine ⟨headerBytes_eq schemaJson codecName userMeta sync, metaParses_metaBytesOf entries ?_⟩
  intro e he
  simp only [entries, List.mem_cons] at he
  rcases he with rfl | rfl | he
  · exact ⟨by show "avro.schema".toUTF8.data.toList.length < 2 ^ 63; decide, hs⟩
  · exact ⟨by show "avro.codec".toUTF8.data.toList.length < 2 ^ 63; decide, hc⟩
  · exact hu e he

/-! ### Benign schedules (through C16) -/

/-- With any benign schedule of partial writes and interruptions, the calls return the same
    results and the sink ends up with the same complete file. -/
theorem C15_run_benign (c : Codec) (dbg : Bool) (hdr sync : Bytes) (approx : Nat) (ops : List WOp)
    (hops : ∀ op ∈ ops, op ≠ .intoInner) (w : WState) (hb : Benign w.sink.sched)
    (h0 : Rep c hdr sync approx {} (core w)) :
    let a := arun approx {} ops
    (wrun c dbg w ops).1 = ops.map expected ∧
      (wrun c dbg w ops).2.sink.data = hdr ++ blocksBytes c sync (a.sealed.map blockOf) ∧
      (wrun c dbg w ops).2.pending = none := by
  intro a
  obtain ⟨h1, h2⟩ := wrun_sim c dbg ops w (core w) (Sim.of_core w hb)
  obtain ⟨h3, h4⟩ := wrun_rep c dbg hdr sync approx ops hops {} (core w) h0
  have hc := (core_eq_iff _ _).1 h2.core_eq
  refine ⟨by rw [h1, h3], ?_, ?_⟩
  · rw [hc.2.2.2.2.2.2.1, h4.inv.sink_eq, h4.sync_eq]
  · rw [hc.2.2.1, h4.inv.pending_none]

end Avro.Theorems
