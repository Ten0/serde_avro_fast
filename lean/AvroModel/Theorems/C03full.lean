import AvroModel.Theorems.C03
import AvroModel.Theorems.C03layouts
import AvroModel.Theorems.C03typed
import AvroModel.Theorems.C03typedAccepts
/-
C03 — decoder conformance, all parts together: the varint level and prefix-freeness of the canonical
encoding (`C03.lean`); the deserializer refines the specification decoder on every legal layout and
is sound against it, with the two documented limits as proved discrepancies (`C03layouts.lean`); what
a typed read returns is `consistent` with the self-describing read (`C03typed.lean`); when a typed
read succeeds: the fragment `fits` (`C03typedAccepts.lean`).
-/
