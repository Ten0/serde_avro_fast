import AvroModel.Theorems.C09globalC08
import AvroModel.Theorems.GraphFuel
import AvroModel.Theorems.NonVacuityE
import AvroModel.Lemmas.ExceptEq
/-
Non-vacuity audit, area E, parser side of C09 (`C09_reparsed_has_same_pcf`,
`C09_reparsed_canonicalForm_eq` and their corollaries `*_at_graphFuel` of
`Theorems/GraphFuel.lean`): the hypothesis "the rendered document parses" instantiated with the
real parser model on the graph `gE` of `NonVacuityE.lean`, at the driver's parameters (the real
`Avro.Impl.graphFuel`, `n = 4 * jsonSize j + 8`); a renderable graph with well-formed names whose
document the parser rejects (unconditional record cycle); and a graph where the fuel range of the
original conclusion misses the driver's fuel while the `_at_graphFuel` corollary concludes at it.
-/
namespace Avro.NonVacuityE2
open Avro Avro.Impl Avro.Theorems Avro.Spec.Pcf Avro.NonVacuityE

def gE2 : SchemaMut := #[
  ⟨.record ⟨"ns.Node", "Node", some "ns"⟩
      [("value", 1), ("next", 2), ("color", 4), ("more", 5), ("top", 6), ("top2", 6), ("box", 7)], none⟩,
  ⟨.long, some .timestampMicros⟩,
  ⟨.union [3, 0], none⟩,
  ⟨.null, none⟩,
  ⟨.enum ⟨"other.Color", "Color", some "other"⟩ ["R", "G"], none⟩,
  ⟨.array 4, none⟩,
  ⟨.fixed ⟨"Top", "Top", none⟩ 16, some (.decimal 2 10)⟩,
  ⟨.record ⟨"other.Box", "Box", some "other"⟩ [("c", 4), ("n", 8), ("t", 6), ("again", 10)], none⟩,
  ⟨.union [9, 0], none⟩,
  ⟨.null, none⟩,
  ⟨.array 4, none⟩]

/-- the driver's `jsonSize` (`Driver/Parse.lean`, a `partial def` there); the same function as
    `NonVacuityD.jsonSizeT` (`Lemmas/DriverSchemaFuel.lean`) -/
def jsonSize : Json → Nat
  | .arr items => 1 + sizeL items
  | .obj ms => 1 + sizeM ms
  | _ => 1
where
  sizeL : List Json → Nat
    | [] => 0
    | j :: r => jsonSize j + sizeL r
  sizeM : List (String × Json) → Nat
    | [] => 0
    | (_, j) :: r => jsonSize j + sizeM r

example : 4 * jsonSize jE + 8 = 256 := by decide +kernel

def parseOpt (j : Json) (n : Nat) : Option SchemaMut :=
  match parseJson j n with | .ok S => some S | .error _ => none

theorem jE_parse : parseJson jE 256 = .ok gE2 := by decide +kernel

example : ∃ text, parsingCanonicalForm jE = some text ∧
      (∀ fuel', graphFuel gE ≤ fuel' → canonicalForm gE fuel' = .ok text) ∧
      (∀ fuel'', 256 + 2 ≤ fuel'' → canonicalForm gE2 fuel'' = .ok text) :=
  C09_reparsed_has_same_pcf gE (graphFuel gE) jE 256 gE2
    ((RenderPcf.namesWFb_iff gE).mp gE_wfb) gE_render jE_parse

example : canonicalForm gE2 (graphFuel gE2) = canonicalForm gE (graphFuel gE) :=
  C09_reparsed_canonicalForm_eq gE (graphFuel gE) jE 256 gE2 gE_wfb gE_render jE_parse
    (graphFuel gE) (graphFuel gE2) (Nat.le_refl _) (by decide +kernel)

/-- the corollaries at the driver's fuel: no arithmetic side condition left -/
example : ∃ text, parsingCanonicalForm jE = some text ∧
      canonicalForm gE (graphFuel gE) = .ok text ∧ canonicalForm gE2 (graphFuel gE2) = .ok text :=
  C09_reparsed_has_same_pcf_at_graphFuel gE jE 256 gE2
    ((RenderPcf.namesWFb_iff gE).mp gE_wfb) gE_render jE_parse

example : canonicalForm gE2 (graphFuel gE2) = canonicalForm gE (graphFuel gE) :=
  C09_reparsed_canonicalForm_eq_at_graphFuel gE jE 256 gE2 gE_wfb gE_render jE_parse

example : schemaFingerprint gE2 (graphFuel gE2) = schemaFingerprint gE (graphFuel gE) :=
  C09_reparsed_fingerprint_eq_at_graphFuel gE jE 256 gE2 gE_wfb gE_render jE_parse

example : ∃ text, parsingCanonicalForm jE = some text ∧ canonicalForm gE2 (graphFuel gE2) = .ok text :=
  C08_pcf_is_spec_text_at_graphFuel jE 256 gE2 jE_parse
    (C09_render_has_graph_pcf_at_graphFuel gE jE gE_wf gE_render).1


/-- hparse is not implied by hwf + hrender: a record that contains itself unconditionally renders, and the parser's cycle check rejects the document -/
def gSelf : SchemaMut := #[⟨.record ⟨"n.R", "R", some "n"⟩ [("f", 0), ("g", 1)], none⟩, ⟨.int, none⟩]
def jSelf : Json := .obj [("type", .str "record"), ("name", .str "n.R"), ("fields", .arr [
  .obj [("name", .str "f"), ("type", .str "R")], .obj [("name", .str "g"), ("type", .str "int")]])]

example : RenderPcf.namesWFb gSelf = true := by decide +kernel
example : renderJson gSelf (graphFuel gSelf) = .ok jSelf := by rfl
example : 4 * jsonSize jSelf + 8 = 48 := by decide +kernel
example : parseOpt jSelf 48 = none := by decide +kernel
example : (match parseJson jSelf 48 with | .error .cycle => true | _ => false) = true := by decide +kernel

/-- the fuel range of the conclusion (`n + 2 ≤ fuel''`) need not contain the driver's fuel -/
def gEnum : SchemaMut := #[⟨.enum ⟨"E", "E", none⟩
  ["a", "b", "c", "d", "e", "f", "g", "h", "i", "j", "k", "l", "m", "n", "o"], none⟩]
def jEnum : Json := .obj [("type", .str "enum"), ("name", .str "E"), ("symbols", .arr
  [.str "a", .str "b", .str "c", .str "d", .str "e", .str "f", .str "g", .str "h", .str "i", .str "j",
   .str "k", .str "l", .str "m", .str "n", .str "o"])]

theorem gEnum_wf : RenderPcf.NamesWF gEnum := (RenderPcf.namesWFb_iff gEnum).mp (by decide +kernel)
theorem gEnum_render : renderJson gEnum (graphFuel gEnum) = .ok jEnum := by rfl
theorem jEnum_parse : parseJson jEnum (4 * jsonSize jEnum + 8) = .ok gEnum := by decide +kernel
example : 4 * jsonSize jEnum + 8 = 84 ∧ graphFuel gEnum = 82 := by decide +kernel

example : ∃ text, parsingCanonicalForm jEnum = some text ∧
      (∀ fuel', graphFuel gEnum ≤ fuel' → canonicalForm gEnum fuel' = .ok text) ∧
      (∀ fuel'', 4 * jsonSize jEnum + 8 + 2 ≤ fuel'' → canonicalForm gEnum fuel'' = .ok text) :=
  C09_reparsed_has_same_pcf gEnum (graphFuel gEnum) jEnum _ gEnum
    gEnum_wf gEnum_render jEnum_parse

example : ¬ (4 * jsonSize jEnum + 8 + 2 ≤ graphFuel gEnum) := by decide +kernel

/-- … and the corollaries at the driver's fuel do conclude there (82, outside `86 ≤ fuel''`) -/
example : ∃ text, parsingCanonicalForm jEnum = some text ∧
      canonicalForm gEnum (graphFuel gEnum) = .ok text ∧
      canonicalForm gEnum (graphFuel gEnum) = .ok text :=
  C09_reparsed_has_same_pcf_at_graphFuel gEnum jEnum _ gEnum
    gEnum_wf gEnum_render jEnum_parse

example : ∃ c, canon none jEnum = some c ∧ canonicalForm gEnum (graphFuel gEnum) = .ok (print c) :=
  C08_pcf_is_spec_at_graphFuel jEnum _ gEnum jEnum_parse (by decide +kernel)

/-- `C07_valid_parses_checked_at_graphFuel` on the same document at the driver's `n` -/
example : ∃ S text, parseJson jEnum (4 * jsonSize jEnum + 8) = .ok S ∧
      parsingCanonicalForm jEnum = some text ∧ canonicalForm S (graphFuel S) = .ok text :=
  C07_valid_parses_checked_at_graphFuel jEnum _ (by decide +kernel) (by decide +kernel)
    (by decide +kernel) (by decide +kernel)

end Avro.NonVacuityE2
