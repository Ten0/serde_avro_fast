import AvroModel.Lemmas.SerDecodable
/-
C02 (encoder soundness): whenever serialization returns Ok, the bytes written are an Avro binary
encoding of the logical value the presentation denotes.  Leaf theorems first (there the bytes are
exactly `Spec.encode`), then the composite theorem over `ser` (the bytes decode to that value; when
they are exactly `Spec.encode` is C01, `Theorems/C01glue.lean`).
-/
namespace Avro.Theorems
open Avro Avro.Impl Avro.Spec

theorem C02_bool (S : Schema) (b : Bool) (s : SerState) (h : s.budget = none) :
    (serBool S .boolean b s).1 = .ok () ∧
    (serBool S .boolean b s).2.out = s.out ++ [if b then 1 else 0] ∧
    Spec.encode S .boolean (.bool b) = some [if b then 1 else 0] := by
  simp [serBool, viaUnion, writeAll_none _ s h, Spec.encode]

theorem guarded_varint {c : Prop} [Decidable c] {m : SerM Unit} {i : Int} (s : SerState)
    (hm : m = if c then writeVarI64 i else SerM.fail .custom) (hi : c → InI64 i)
    (h : s.budget = none) :
    ((m s).1 = .ok () ↔ c) ∧ (c → (m s).2.out = s.out ++ Spec.encodeLong i) ∧
      (¬ c → m s = (.error .custom, s)) := by
  subst hm
  by_cases hc : c
  · simp [hc, writeVarI64_spec i (hi hc) s h]
  · simp [hc, SerM.fail]

theorem C02_int (S : Schema) (node : Node) (t : IntTy) (v : Int) (s : SerState)
    (hn : node = .int ∨ node = .date ∨ node = .timeMillis) (h : s.budget = none) :
    ((serInteger S node t v s).1 = .ok () ↔ (-(2:Int)^31 ≤ v ∧ v ≤ 2^31 - 1)) ∧
    ((-(2:Int)^31 ≤ v ∧ v ≤ 2^31 - 1) →
      (serInteger S node t v s).2.out = s.out ++ Spec.encodeLong v ∧
      Spec.encode S node (.int v) = some (Spec.encodeLong v)) ∧
    (¬ (-(2:Int)^31 ≤ v ∧ v ≤ 2^31 - 1) → serInteger S node t v s = (.error .custom, s)) := by
  have hr : (-(2:Int)^31 ≤ v ∧ v ≤ 2^31 - 1) ↔ (-2147483648 ≤ v ∧ v ≤ 2147483647) := by
    constructor <;> intro ⟨a, b⟩ <;> constructor <;> omega
  rw [hr]
  obtain ⟨h1, h2, h3⟩ := guarded_varint (c := -2147483648 ≤ v ∧ v ≤ 2147483647) (i := v) s
    (m := serInteger S node t v) (by rcases hn with rfl | rfl | rfl <;> rfl)
    (fun hc => by unfold InI64; omega) h
  refine ⟨h1, fun hc => ⟨h2 hc, ?_⟩, h3⟩
  have h32 : InI32 v := hc
  rcases hn with rfl | rfl | rfl <;> simp [Spec.encode, h32]

theorem C02_long (S : Schema) (node : Node) (t : IntTy) (v : Int) (s : SerState)
    (hn : node = .long ∨ node = .timeMicros ∨ node = .timestampMillis ∨ node = .timestampMicros)
    (h : s.budget = none) :
    ((serInteger S node t v s).1 = .ok () ↔ (-(2:Int)^63 ≤ v ∧ v ≤ 2^63 - 1)) ∧
    ((-(2:Int)^63 ≤ v ∧ v ≤ 2^63 - 1) →
      (serInteger S node t v s).2.out = s.out ++ Spec.encodeLong v ∧
      Spec.encode S node (.long v) = some (Spec.encodeLong v)) ∧
    (¬ (-(2:Int)^63 ≤ v ∧ v ≤ 2^63 - 1) → serInteger S node t v s = (.error .custom, s)) := by
  have hr : (-(2:Int)^63 ≤ v ∧ v ≤ 2^63 - 1) ↔
      (-9223372036854775808 ≤ v ∧ v ≤ 9223372036854775807) := by
    constructor <;> intro ⟨a, b⟩ <;> constructor <;> omega
  rw [hr]
  obtain ⟨h1, h2, h3⟩ :=
    guarded_varint (c := -9223372036854775808 ≤ v ∧ v ≤ 9223372036854775807) (i := v) s
      (m := serInteger S node t v) (by rcases hn with rfl | rfl | rfl | rfl <;> rfl) (fun hc => hc) h
  refine ⟨h1, fun hc => ⟨h2 hc, ?_⟩, h3⟩
  have hi : InI64 v := hc
  rcases hn with rfl | rfl | rfl | rfl <;> simp [Spec.encode, hi]

theorem C02_enum_int (S : Schema) (nm : Name) (syms : List String) (t : IntTy) (v : Int)
    (s : SerState) (hs : syms.length < 2 ^ 63) (h : s.budget = none) :
    ((serInteger S (.enum nm syms) t v s).1 = .ok () ↔ (0 ≤ v ∧ v < syms.length)) ∧
    ((0 ≤ v ∧ v < syms.length) →
      ∃ bytes, Spec.encode S (.enum nm syms) (.enum v.toNat) = some bytes ∧
      (serInteger S (.enum nm syms) t v s).2.out = s.out ++ bytes) ∧
    (¬ (0 ≤ v ∧ v < syms.length) → serInteger S (.enum nm syms) t v s = (.error .custom, s)) := by
  obtain ⟨h1, h2, h3⟩ := guarded_varint (c := 0 ≤ v ∧ v < syms.length) (i := v) s
    (m := serInteger S (.enum nm syms) t v) rfl (fun hc => by unfold InI64; omega) h
  refine ⟨h1, fun hc => ⟨_, ?_, h2 hc⟩, h3⟩
  have h4 : v.toNat < syms.length ∧ v.toNat < 2 ^ 63 := by omega
  have h5 : ((v.toNat : Nat) : Int) = v := by omega
  simp [Spec.encode, h4, h5]

theorem C02_enum_str (ext : Ext) (nm : Name) (syms : List String) (str : String) (s : SerState)
    (hs : syms.length < 2 ^ 63) (h : s.budget = none) :
    ((serStrAt ext (.enum nm syms) str s).1 = .ok () ↔ ∃ d, lookupLast syms str = some d) ∧
    (∀ d, lookupLast syms str = some d →
      (serStrAt ext (.enum nm syms) str s).2.out = s.out ++ Spec.encodeLong d ∧
      syms[d]? = some str ∧
      ∀ S, Spec.encode S (.enum nm syms) (.enum d) = some (Spec.encodeLong d)) ∧
    (lookupLast syms str = none → serStrAt ext (.enum nm syms) str s = (.error .custom, s)) := by
  cases hl : lookupLast syms str with
  | none => simp [serStrAt, hl, SerM.fail]
  | some d =>
    have hd := lookupLast_lt hl
    have hi : InI64 (d : Int) := inI64_of_lt (by omega)
    have h1 : d < syms.length ∧ d < 2 ^ 63 := by omega
    have h2 := lookupLast_some hl
    refine ⟨by simp [serStrAt, hl, writeVarI64_spec _ hi s h], ?_, by simp⟩
    intro d' hd'
    simp only [Option.some.injEq] at hd'; subst hd'
    exact ⟨by simp [serStrAt, hl, writeVarI64_spec _ hi s h], h2, by simp [Spec.encode, h1]⟩

theorem C02_float (S : Schema) (bits : BitVec 32) (s : SerState) (h : s.budget = none) :
    (serF32 S .float bits s).1 = .ok () ∧
    (serF32 S .float bits s).2.out = s.out ++ leBytes 4 bits.toNat ∧
    Spec.encode S .float (.float bits) = some (leBytes 4 bits.toNat) := by
  simp [serF32, viaUnion, writeAll_none _ s h, Spec.encode]

theorem C02_float_of_f64 (ext : Ext) (S : Schema) (bits : BitVec 64) (s : SerState)
    (h : s.budget = none) :
    (serF64 ext S .float bits s).1 = .ok () ∧
    (serF64 ext S .float bits s).2.out = s.out ++ leBytes 4 (ext.asF32 bits).toNat ∧
    Spec.encode S .float (.float (ext.asF32 bits)) = some (leBytes 4 (ext.asF32 bits).toNat) := by
  simp [serF64, viaUnion, writeAll_none _ s h, Spec.encode]

theorem C02_double (ext : Ext) (S : Schema) (bits : BitVec 64) (s : SerState) (h : s.budget = none) :
    (serF64 ext S .double bits s).1 = .ok () ∧
    (serF64 ext S .double bits s).2.out = s.out ++ leBytes 8 bits.toNat ∧
    Spec.encode S .double (.double bits) = some (leBytes 8 bits.toNat) := by
  simp [serF64, viaUnion, writeAll_none _ s h, Spec.encode]

theorem C02_string (ext : Ext) (S : Schema) (str : String) (s : SerState)
    (hl : (Spec.utf8 str).length < 2 ^ 63) (h : s.budget = none) :
    (serStrAt ext .string str s).1 = .ok () ∧
    (serStrAt ext .string str s).2.out = s.out ++ Spec.lenPrefixed (Spec.utf8 str) ∧
    Spec.encode S .string (.string str) = some (Spec.lenPrefixed (Spec.utf8 str)) := by
  simp [serStrAt, strBytes_eq_utf8, writeLengthDelimited_none _ hl s h, Spec.encode, hl]

theorem C02_bytes (S : Schema) (b : Bytes) (s : SerState)
    (hl : b.length < 2 ^ 63) (h : s.budget = none) :
    (serBytes S .bytes b s).1 = .ok () ∧
    (serBytes S .bytes b s).2.out = s.out ++ Spec.lenPrefixed b ∧
    Spec.encode S .bytes (.bytes b) = some (Spec.lenPrefixed b) := by
  simp [serBytes, viaUnion, writeLengthDelimited_none _ hl s h, Spec.encode, hl]

theorem C02_bytes_on_string (S : Schema) (b : Bytes) (s : SerState)
    (hl : b.length < 2 ^ 63) (h : s.budget = none) :
    ((serBytes S .string b s).1 = .ok () ↔ validUtf8 b = true) ∧
    (validUtf8 b = true →
      (serBytes S .string b s).2.out = s.out ++ Spec.lenPrefixed b ∧
      ∃ str, Spec.utf8 str = b ∧
        Spec.encode S .string (.string str) = some (Spec.lenPrefixed b)) ∧
    (validUtf8 b = false → serBytes S .string b s = (.error .custom, s)) := by
  cases hv : validUtf8 b with
  | false => simp [serBytes, viaUnion, hv, SerM.fail]
  | true =>
    obtain ⟨str, rfl⟩ := (validUtf8_iff b).1 hv
    simp only [serBytes, viaUnion, hv, if_true, writeLengthDelimited_none _ hl s h, true_and,
      forall_const, reduceCtorEq, false_implies, and_true]
    exact ⟨str, rfl, by simp [Spec.encode, hl]⟩

theorem C02_fixed (S : Schema) (nm : Name) (size : Nat) (b : Bytes) (s : SerState)
    (h : s.budget = none) :
    ((serBytes S (.fixed nm size) b s).1 = .ok () ↔ b.length = size) ∧
    (b.length = size →
      (serBytes S (.fixed nm size) b s).2.out = s.out ++ b ∧
      Spec.encode S (.fixed nm size) (.fixed b) = some b) ∧
    (b.length ≠ size → serBytes S (.fixed nm size) b s = (.error .custom, s)) := by
  by_cases hb : b.length = size
  · simp [serBytes, viaUnion, hb, writeAll_none _ s h, Spec.encode]
  · have : size ≠ b.length := by omega
    simp [serBytes, viaUnion, this, hb, SerM.fail]

/-- Integer presented to a `decimal` node with `bytes` representation (repaired defect D5):
    the mantissa written is sign-correct. -/
theorem C02_decimal_int_bytes (scale : Nat) (v : Int) (s : SerState) (h : s.budget = none)
    (hok : (serIntegerAsDecimal scale .bytes v s).1 = .ok ()) :
    ∃ m : Bytes, (serIntegerAsDecimal scale .bytes v s).2.out = s.out ++ Spec.lenPrefixed m ∧
      Spec.fromTwosComplementBE m = v * (10 : Int) ^ scale ∧
      ∀ S prec rest, Spec.decode S 1 (.decimal scale prec .bytes) (Spec.lenPrefixed m ++ rest) =
        some (.decimal (v * (10 : Int) ^ scale), rest) := by
  obtain ⟨h128, he⟩ := serIntegerAsDecimal_bytes scale v s h hok
  have hv := stripped_sound h128
  refine ⟨_, by rw [he], hv, ?_⟩
  intro S prec rest
  simp [Spec.decode, decodeBytes_lenPrefixed _
    (Nat.lt_of_le_of_lt (stripped_length_le (v * 10 ^ scale)) (by decide)) rest, hv]

/-- Integer presented to a `decimal` node with `fixed` representation (repaired defect D6):
    only sign extension is dropped. -/
theorem C02_decimal_int_fixed (scale : Nat) (nm : Name) (size : Nat) (v : Int) (s : SerState)
    (h : s.budget = none)
    (hok : (serIntegerAsDecimal scale (.fixed nm size) v s).1 = .ok ()) :
    size ≤ 16 ∧ ∃ m : Bytes, m.length = size ∧
      (serIntegerAsDecimal scale (.fixed nm size) v s).2.out = s.out ++ m ∧
      Spec.fromTwosComplementBE m = v * (10 : Int) ^ scale ∧
      ∀ S prec rest, Spec.decode S 1 (.decimal scale prec (.fixed nm size)) (m ++ rest) =
        some (.decimal (v * (10 : Int) ^ scale), rest) := by
  obtain ⟨h16, m, hl, he, hv⟩ := serIntegerAsDecimal_fixed scale nm size v s h hok
  refine ⟨h16, m, hl, by rw [he], hv, ?_⟩
  intro S prec rest
  simp [Spec.decode, takeN_append_of_length m rest hl, hv]

/-! The facts of `Lemmas/` that the evidence of C02 lists, under `Avro.Theorems`. -/

theorem i128be_roundtrip {n : Int} (h : inI128 n = true) :
    Spec.fromTwosComplementBE (i128be n) = n := Avro.i128be_roundtrip h

theorem stripZeros_sound (bs : Bytes) :
    Spec.fromTwosComplementBE (bs.drop (stripZeros bs)) = Spec.fromTwosComplementBE bs :=
  Avro.stripZeros_sound bs

theorem lookupLast_some {xs : List String} {name : String} {i : Nat}
    (h : lookupLast xs name = some i) : xs[i]? = some name := Impl.lookupLast_some h

/-- `viaUnion` on a union node: either no branch is registered for the key (`custom` error,
    nothing written), or the discriminant of the selected branch is written and the
    continuation runs on the branch node. -/
theorem C02_union_discriminant {α : Type} (S : Schema) (vs : List Nat) (key : LookupKey)
    (f : Node → SerM α) (s : SerState) (h : s.budget = none) :
    (unnamedLookup key (branchNodes S vs) = none ∧
      viaUnion S (.union vs) key f s = (.error .custom, s)) ∨
    (∃ d k, unnamedLookup key (branchNodes S vs) = some d ∧ d < vs.length ∧ vs[d]? = some k ∧
      ((S[k]? = none ∧ viaUnion S (.union vs) key f s =
          (.error .panic, { s with out := s.out ++ encodeVarI64 d })) ∨
       (∃ n, S[k]? = some n ∧ viaUnion S (.union vs) key f s =
          f n { s with out := s.out ++ encodeVarI64 d }))) :=
  viaUnion_union S vs key f s h

theorem unnamed_never_union {key : LookupKey} {bs : List Node} {d : Nat}
    (h : unnamedLookup key bs = some d) : ∀ vs', bs[d]? ≠ some (.union vs') :=
  Avro.unnamed_never_union h

/-! ### Composite theorem -/

/-- Strong form: from any state whose writer cannot fail and whose pool is clean, a successful
    `ser` appends bytes that the specification decoder reads back (followed by any trailing input,
    with any sufficiently large fuel) as a value that the presentation denotes; the final state
    again has an infallible writer and a clean pool. -/
theorem C02_sound_strong (ext : Ext) (allowSlow : Bool) (S : Schema) (node : Node)
    (sv : SV) (s : SerState)
    (hok : (ser ext allowSlow S node sv s).1 = .ok ())
    (hs : Good s) (hS : SchemaOK S) (hnode : NodeOK S node) (hsv : svOK sv = true)
    (hext : ExtOK ext) :
    ∃ s' v bytes, ser ext allowSlow S node sv s = (.ok (), s') ∧ s'.out = s.out ++ bytes ∧ Good s' ∧
      (∃ N, ∀ fuel, N ≤ fuel → ∀ rest, Spec.decode S fuel node (bytes ++ rest) = some (v, rest)) ∧
      Spec.denotes (denExtOf ext) S node sv v = true :=
  ser_sound_aux hS hext sv hsv node s hnode hs hok

/-- C02, composite statement.  Beyond the hypotheses the property lists (properties.jsonl, C02:
    `PoolClean`, `keysInBounds`, `schemaNamesDistinct`) the theorem needs, and the counterexamples below show that it needs:
    * `nodeOKb S node`: the top-level node satisfies what is checked of the nodes of `S`
      (children in bounds, …) — `node` need not be a member of `S`;
    * `schemaNoNestedUnion S`: no union has a union as an immediate branch (Avro rule);
    * `svOK sv`: every integer lies in the range of its Rust type and every length is below
      `2 ^ 63`;
    * `schemaSmall S`: unions and enums have fewer than `2 ^ 63` branches/symbols;
    * `ExtOK ext`: `rust_decimal` mantissas fit `i128` (parsed / converted ones, and rescaled
      ones when the argument did), scales fit a `long`; met by the test driver's parameter
      tables (`toExt_ExtOK`, Theorems/C01driver.lean). -/
theorem C02_sound_partial (ext : Ext) (allowSlow : Bool) (S : Schema) (node : Node)
    (sv : SV) (o : Bytes) (p : Pool)
    (hok : (ser ext allowSlow S node sv { out := o, budget := none, pool := p }).1 = .ok ())
    (hp : PoolClean p) (hk : S.keysInBounds = true) (hd : schemaNamesDistinct S = true)
    (hsmall : schemaSmall S = true) (hnn : schemaNoNestedUnion S = true)
    (hnode : nodeOKb S node = true)
    (hsv : svOK sv = true) (hext : ExtOK ext) :
    ∃ v bytes,
      (ser ext allowSlow S node sv { out := o, budget := none, pool := p }).2.out = o ++ bytes ∧
      (∃ N, ∀ fuel, N ≤ fuel → Spec.decode S fuel node bytes = some (v, [])) ∧
      Spec.denotes (denExtOf ext) S node sv v = true ∧
      PoolClean (ser ext allowSlow S node sv { out := o, budget := none, pool := p }).2.pool := by
  obtain ⟨s', v, bytes, hrun, hout, hg, ⟨N, hN⟩, hden⟩ :=
    C02_sound_strong ext allowSlow S node sv { out := o, budget := none, pool := p } hok
      ⟨rfl, hp⟩ (SchemaOK.of_checks hk hd hsmall hnn) (NodeOK.of_check hnode) hsv hext
  refine ⟨v, bytes, by rw [hrun]; exact hout, ⟨N, fun fuel hf => ?_⟩, hden, by rw [hrun]; exact hg.2⟩
  have := hN fuel hf []
  rwa [List.append_nil] at this

/-- "A value `S` cannot represent yields `Err`": if the presentation denotes no value at the node,
    serialization does not return `Ok` (contrapositive of `C02_sound_partial`). -/
theorem C02_unrepresentable_err (ext : Ext) (allowSlow : Bool) (S : Schema) (node : Node)
    (sv : SV) (o : Bytes) (p : Pool)
    (hp : PoolClean p) (hk : S.keysInBounds = true) (hd : schemaNamesDistinct S = true)
    (hsmall : schemaSmall S = true) (hnn : schemaNoNestedUnion S = true)
    (hnode : nodeOKb S node = true)
    (hsv : svOK sv = true) (hext : ExtOK ext)
    (hnone : ∀ v, Spec.denotes (denExtOf ext) S node sv v = false) :
    (ser ext allowSlow S node sv { out := o, budget := none, pool := p }).1 ≠ .ok () := by
  intro hok
  obtain ⟨v, _, _, _, hv, _⟩ :=
    C02_sound_partial ext allowSlow S node sv o p hok hp hk hd hsmall hnn hnode hsv hext
  rw [hnone v] at hv
  exact absurd hv (by simp)

/-! ### Why the extra hypotheses are needed -/

def ext0 : Ext :=
  { asF32 := fun _ => 0, decFromF64 := fun _ => none, decParse := fun _ => none,
    decRescale := fun d _ => d }

def nmE : Name := { fq := "E", short := "E", ns := none }

/-- A `char` on an enum: `serialize_char('A')` on `enum E {A}` succeeds (it goes through
    `serialize_str`) and writes the index of `"A"`; `Spec.denotes` reads a `char` as an enum
    symbol, so the presentation denotes that symbol. -/
theorem C02_char_enum :
    ser ext0 false #[] (.enum nmE ["A"]) (.char 'A') { out := [], budget := none, pool := {} }
      = (.ok (), { out := Spec.encodeLong 0, budget := none, pool := {} }) ∧
    Spec.denotes (denExtOf ext0) #[] (.enum nmE ["A"]) (.char 'A') (.enum 0) = true ∧
    svOK (.char 'A') = true ∧ nodeOKb #[] (.enum nmE ["A"]) = true := by
  refine ⟨run_eq_of (by decide +kernel), ?_, rfl, by decide⟩
  rw [denotes_char]
  decide

/-- … and the composite theorem covers it: no condition on enum symbols or on `char`s. -/
example (ext : Ext) (hext : ExtOK ext) (o : Bytes) :
    ∃ v bytes,
      (ser ext false #[] (.enum nmE ["A"]) (.char 'A') { out := o, budget := none, pool := {} }).2.out
        = o ++ bytes ∧
      (∃ N, ∀ fuel, N ≤ fuel → Spec.decode #[] fuel (.enum nmE ["A"]) bytes = some (v, [])) ∧
      Spec.denotes (denExtOf ext) #[] (.enum nmE ["A"]) (.char 'A') v = true := by
  have hok : (ser ext false #[] (.enum nmE ["A"]) (.char 'A')
      { out := o, budget := none, pool := {} }).1 = .ok () := by
    have : lookupLast ["A"] "A" = some 0 := by decide
    simp [ser, serStr, viaUnion, serStrAt, this, writeVarI64, writeAll]
  obtain ⟨v, bytes, h1, h2, h3, _⟩ :=
    C02_sound_partial ext false #[] (.enum nmE ["A"]) (.char 'A') o {} hok ⟨by simp, by simp⟩
      (by simp [Schema.keysInBounds]) (by simp [schemaNamesDistinct]) (by simp [schemaSmall])
      (by simp [schemaNoNestedUnion]) (by decide) rfl hext
  exact ⟨v, bytes, h1, h2, h3⟩

/-- Counterexample 1 (top-level node with a dangling child): `None` on `union [#0]` over the empty
    schema succeeds (the missing branch is treated as `null` by the lookup table). -/
theorem C02_counterexample_dangling_node :
    (ser ext0 false #[] (.union [0]) .none { out := [], budget := none, pool := {} }).1 = .ok () ∧
    ∀ v, Spec.denotes (denExtOf ext0) #[] (.union [0]) .none v = false := by
  constructor
  · exact eq_ok_of_isOk (by decide +kernel)
  · intro v
    rw [denotes_none]
    cases v <;> try rfl
    rename_i idx y
    simp [denotesAtLeaf, unionBranch]
    cases idx <;> simp

/-- Counterexample 2 (an integer outside the range of its Rust type is not a presentation). -/
theorem C02_counterexample_int_range :
    (ser ext0 false #[] .int (.int .i8 1000) { out := [], budget := none, pool := {} }).1 = .ok () ∧
    ∀ v, Spec.denotes (denExtOf ext0) #[] .int (.int .i8 1000) v = false := by
  constructor
  · exact eq_ok_of_isOk (by decide +kernel)
  · intro v
    rw [denotes_int]
    cases v <;> rfl

def S4 : Schema := #[.union [1], .map 2, .null]

/-- Counterexample 3 (a union nested directly in a union, selected by the name `"Union"`):
    the serializer writes both discriminants, `Spec.denotes` refuses nested unions for
    struct presentations. -/
theorem C02_counterexample_nested_union :
    (ser ext0 false S4 (.union [0]) (.struct "Union" []) { out := [], budget := none, pool := {} }).1
      = .ok () ∧
    S4.keysInBounds = true ∧ schemaNamesDistinct S4 = true ∧
    ∀ v, Spec.denotes (denExtOf ext0) S4 (.union [0]) (.struct "Union" []) v = false := by
  refine ⟨?_, by simp [Schema.keysInBounds, S4, Node.children], by simp [schemaNamesDistinct, S4, nodeNamesDistinct], ?_⟩
  · exact eq_ok_of_isOk (by decide +kernel)
  · intro v
    rw [denotes_struct]
    cases v <;> try rfl
    rename_i idx y
    have h3 : S4[0]? = some (.union [1]) := by decide
    cases idx with
    | zero => simp [structDispatch, unionBranch, h3]
    | succ i => simp [structDispatch, unionBranch]

/-- The composite statement with only the hypotheses `PoolClean`, `keysInBounds` and
    `schemaNamesDistinct` is false (by counterexample 1: over the empty schema the three hypotheses
    hold trivially, and they say nothing of the start node). -/
theorem C02_sound_literal_false :
    ¬ (∀ (ext : Ext) (allowSlow : Bool) (S : Schema) (node : Node) (sv : SV) (o : Bytes) (p : Pool),
      (ser ext allowSlow S node sv { out := o, budget := none, pool := p }).1 = .ok () →
      PoolClean p → S.keysInBounds = true → schemaNamesDistinct S = true →
      ∃ v bytes,
        (ser ext allowSlow S node sv { out := o, budget := none, pool := p }).2.out = o ++ bytes ∧
        (∃ N, ∀ fuel, N ≤ fuel → Spec.decode S fuel node bytes = some (v, [])) ∧
        Spec.denotes (denExtOf ext) S node sv v = true) := by
  intro h
  obtain ⟨h1, h5⟩ := C02_counterexample_dangling_node
  obtain ⟨v, _, _, _, hv⟩ := h ext0 false #[] (.union [0]) .none [] {} h1 ⟨by simp, by simp⟩
    (by simp [Schema.keysInBounds]) (by simp [schemaNamesDistinct])
  rw [h5 v] at hv
  exact absurd hv (by simp)

end Avro.Theorems
