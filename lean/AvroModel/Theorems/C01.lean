import AvroModel.Lemmas.SpecRoundTrip
import AvroModel.Lemmas.Varint
import AvroModel.Impl.Ser
/-
C01, datum round trip. Here: for every schema graph (cyclic or not), node, conforming value and
trailing bytes the specification's decoder inverts the specification's encoder
(`C01_spec_roundtrip`), and the implementation's varint writer / reader are the specification's on
the whole i64 range (`C01_varint_*`). What ties the implementation to the specification codec is C02
(`Theorems/C02.lean`: what `ser` writes is a specification encoding of what the presentation
denotes) and C03/C11 (`de` on either back-end); their composition, `ser` then `de`, with its side
conditions, is `C01_roundtrip_impl` (`Theorems/C01glue.lean`). `C01_roundtrip_statement` below
(whatever `ser` writes, `Spec.decode` accepts, without any side condition) is a definition only: it
is NOT proved anywhere; the correspondence stream `datum-rt` judges it on every generated case with
the executable oracle `decode ∘ ser`, `denotes`, `observe`.
-/
namespace Avro.Theorems
open Avro Avro.Spec Avro.Impl

/-- decode (encode v ++ rest) = (v, rest), with the explicit fuel `Spec.size v`. -/
theorem C01_spec_roundtrip (S : Schema) (n : Node) (v : Value) (enc rest : Bytes)
    (h : Spec.encode S n v = some enc) (fuel : Nat) (hf : Spec.size v ≤ fuel) :
    Spec.decode S fuel n (enc ++ rest) = some (v, rest) :=
  Spec.decode_encode S n v enc rest h fuel hf

/-- The crate's `i64::encode_var` is the specification's zig-zag varint on the whole range. -/
theorem C01_varint_encode (i : Int) (h : Spec.InI64 i) : Impl.encodeVarI64 i = Spec.encodeLong i :=
  encodeVarI64_eq_spec i h

/-- … and `i64::decode_var` inverts it, consuming exactly the encoding. -/
theorem C01_varint_roundtrip (i : Int) (h : Spec.InI64 i) (rest : Bytes) :
    Impl.decodeVarI64 (Impl.encodeVarI64 i ++ rest) = some (i, (Impl.encodeVarI64 i).length) :=
  decodeVarI64_encode i h rest

/-- The bit-level zig-zag of the implementation (two's complement `BitVec 64`, including
    `i64::MIN` / `i64::MAX`) is the arithmetic zig-zag of the specification. -/
theorem C01_zigzag_bits (i : Int) (h : Spec.InI64 i) :
    (Impl.zigzagBV (BitVec.ofInt 64 i)).toNat = Spec.zigzag i := zigzagBV_toNat i h

/-- Not proved (see the head of the file); judged on samples by the stream `datum-rt`. -/
def C01_roundtrip_statement : Prop :=
  ∀ (ext : Ext) (S : Schema) (n : Node) (sv : SV) (o : Bytes) (p : Pool),
    (ser ext false S n sv { out := o, budget := none, pool := p }).1 = .ok () →
    ∃ bytes, (ser ext false S n sv { out := o, budget := none, pool := p }).2.out = o ++ bytes ∧
      ∃ v fuel, Spec.decode S fuel n bytes = some (v, [])

/-- Non-vacuity: the hypothesis `encode … = some enc` is met by a non-trivial value
    (a union branch holding an array of longs). -/
example :
    (Spec.encode #[.union [1, 2], .null, .array 3, .long] (.union [1, 2])
      (.union 1 (.array [.long 1, .long (-3)]))).isSome = true := by
  simp [Spec.encode, Spec.encodeItems, Spec.nodeOf, Spec.InI64]

end Avro.Theorems
