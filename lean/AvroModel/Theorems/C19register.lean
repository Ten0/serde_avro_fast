import AvroModel.Lemmas.CycleCheck
import AvroModel.Lemmas.RegisterFuel
import AvroModel.Lemmas.ValidParsesRead
import AvroModel.Lemmas.ValidParsesReg
import AvroModel.Lemmas.ValidParsesGas
import AvroModel.Lemmas.DriverSchemaFuel
/-
C19 (schema construction is total), the registration pass of the parser.

`parseJson j nodeCount` runs `registerNode (nodeCount + 2) raw none {}` on the raw tree read from
the document; `registerNode` and its companions signal "out of fuel" with `.error .panic`.  With
`rawBound raw ≤ fuel` (`Lemmas/RegisterFuel.lean`: the depth of the raw tree as `registerNode`
walks it) they never return the marker, their only error is `custom`, and the result does not
depend on the fuel; the bound is attained (`C19_register_bound_sharp`).  Since
`rawBound raw ≤ sizeRaw raw ≤ schemaSize j ≤ 4 * jsonSize j + 8`, the driver's `nodeCount`
(`Driver/Main.lean`; `jsonSize` is a `partial def` there, transcribed structurally as
`NonVacuityD.jsonSizeT`) always suffices, and `parseJson` is total above `registerNeed j - 2`, a
function of the document only.
-/
namespace Avro.Theorems
open Avro Avro.Impl Avro.Spec Avro.ValidParses
open Avro.Theorems.NonVacuityD (jsonSizeT driverFuel schemaSize_le_driver_fuel)

/-- `Avro.Impl.rawBound` (`Lemmas/RegisterFuel.lean`, where it is defined and described), under
    the name the statements below use. -/
abbrev rawBound : RawSchema → Nat := Avro.Impl.rawBound

/-! ### `registerNode` and companions -/

/-- **C19, registration**: with `rawBound raw` units of fuel `registerNode` never reports "out of
    fuel", for every enclosing namespace and every state. -/
theorem C19_register_total (raw : RawSchema) (ns : Option String) (st : PState) (fuel : Nat)
    (h : rawBound raw ≤ fuel) : registerNode fuel raw ns st ≠ .error .panic := by
  intro he
  have := (register_errors fuel).1 raw ns st _ h he
  cases this

/-- … its only error is `custom` (`SchemaError` of the crate) … -/
theorem C19_register_errors (raw : RawSchema) (ns : Option String) (st : PState) (fuel : Nat)
    (e : SchemaErr) (h : rawBound raw ≤ fuel) (he : registerNode fuel raw ns st = .error e) :
    e = .custom :=
  (register_errors fuel).1 raw ns st e h he

/-- … and its result — key, state or error — does not depend on the fuel. -/
theorem C19_register_fuel_irrelevant (raw : RawSchema) (ns : Option String) (st : PState)
    (fuel fuel' : Nat) (h : rawBound raw ≤ fuel) (h' : rawBound raw ≤ fuel') :
    registerNode fuel raw ns st = registerNode fuel' raw ns st := by
  exact registerNode_fuel_irrelevant h h' ns st

/-- The same for the three mutual companions. -/
theorem C19_register_companions_total (fuel : Nat) :
    (∀ t o of oi ov ns st, 1 + bodyBound t of oi ov ≤ fuel →
      registerObject fuel t o of oi ov ns st ≠ .error .panic) ∧
    (∀ l ns st, rawBoundList l ≤ fuel → registerList fuel l ns st ≠ .error .panic) ∧
    (∀ l ns st, rawBoundFields l ≤ fuel → registerFields fuel l ns st ≠ .error .panic) := by
  obtain ⟨-, hO, hL, hF⟩ := register_errors fuel
  refine ⟨?_, ?_, ?_⟩
  · intro t o of oi ov ns st h he; cases hO _ _ _ _ _ _ _ _ h he
  · intro l ns st h he; cases hL _ _ _ _ h he
  · intro l ns st h he; cases hF _ _ _ _ h he

theorem C19_register_companions_fuel_irrelevant (fuel fuel' : Nat) :
    (∀ t o of oi ov ns st, 1 + bodyBound t of oi ov ≤ fuel → 1 + bodyBound t of oi ov ≤ fuel' →
      registerObject fuel t o of oi ov ns st = registerObject fuel' t o of oi ov ns st) ∧
    (∀ l ns st, rawBoundList l ≤ fuel → rawBoundList l ≤ fuel' →
      registerList fuel l ns st = registerList fuel' l ns st) ∧
    (∀ l ns st, rawBoundFields l ≤ fuel → rawBoundFields l ≤ fuel' →
      registerFields fuel l ns st = registerFields fuel' l ns st) := by
  exact ⟨fun _ _ _ _ _ ns st h h' => registerObject_fuel_irrelevant h h' ns st,
    fun _ ns st h h' => registerList_fuel_irrelevant h h' ns st,
    fun _ ns st h h' => registerFields_fuel_irrelevant h h' ns st⟩

/-! #### non-vacuity, sharpness, necessity of the hypothesis -/

/-- `{"type":"record","name":"R","fields":[{"name":"a","type":"int"},
      {"name":"b","type":{"type":"array","items":["null","R"]}}]}` as the raw tree -/
def rawRec : RawSchema :=
  .object { type := .record, logicalType := none, name := some "R", nsAttr := none,
            symbols := none, size := none, precision := none, scale := none }
    (some [("a", .type .int),
      ("b", .object { type := .array, logicalType := none, name := none, nsAttr := none,
                      symbols := none, size := none, precision := none, scale := none }
        none (some (.union [.type .null, .ref "R"])) none)])
    none none

theorem rawRec_bound : rawBound rawRec = 10 := by decide

/-- `C19_register_total` / `C19_register_fuel_irrelevant` instantiated: a successful run. -/
example : registerNode 10 rawRec none {} ≠ .error .panic ∧
    registerNode 10 rawRec none {} = registerNode 1000 rawRec none {} ∧
    (match registerNode 10 rawRec none {} with
      | .ok (.idx 0, st) => st.nodes.size == 5 && st.unresolved.isEmpty && st.names.length == 1
      | _ => false) = true :=
  ⟨C19_register_total rawRec none {} 10 (by decide),
   C19_register_fuel_irrelevant rawRec none {} 10 1000 (by decide) (by decide),
   by decide +kernel⟩

/-- … and a failing one (`R` is already in the name table): the error is `custom`, with the least
    and with any larger fuel. -/
example : registerNode 10 rawRec none { names := [(⟨none, "R"⟩, 7)] } = .error .custom ∧
    registerNode 12345 rawRec none { names := [(⟨none, "R"⟩, 7)] } = .error .custom := by
  have h : registerNode 10 rawRec none { names := [(⟨none, "R"⟩, 7)] } = .error .custom := by
    decide +kernel
  exact ⟨h, by rw [← C19_register_fuel_irrelevant rawRec none _ 10 12345 (by decide) (by decide)]; exact h⟩

/-- **The bound is attained**: one unit less than `rawBound` and the marker is returned — so the
    hypothesis `rawBound raw ≤ fuel` of `C19_register_total` cannot be weakened to
    `rawBound raw ≤ fuel + 1`, and `C19_register_fuel_irrelevant` fails below the bound. -/
theorem C19_register_bound_sharp :
    registerNode (rawBound rawRec - 1) rawRec none {} = .error .panic ∧
    registerNode (rawBound rawRec - 1) rawRec none {} ≠ registerNode (rawBound rawRec) rawRec none {} := by
  refine ⟨by decide +kernel, by decide +kernel⟩

/-- `rawBound` is an upper bound for *every* state, not the exact consumption in each: an error
    of the crate met before the deep part hides it (here an `enum` without a name, then three
    nested unions). -/
example : rawBound (.union [.type .enum, .union [.union [.union [.type .int]]]]) = 11 ∧
    registerNode 4 (.union [.type .enum, .union [.union [.union [.type .int]]]]) none {}
      = .error .custom := by
  refine ⟨by decide, by decide +kernel⟩

/-! ### the bound against the node counts of C07 and of the driver -/

/-- the raw tree read from `j` needs at most `schemaSize j` (`Spec/ValidDoc.lean`, a function of
    the document only) -/
theorem C19_rawBound_le_schemaSize (j : Json) (gas : Nat) (raw : RawSchema)
    (hraw : rawOfJson gas j = .ok raw) : rawBound raw ≤ schemaSize j :=
  Nat.le_trans (rawBound_le_sizeRaw raw) (read_size hraw)

/-- **The driver's `nodeCount`** (`Driver/Main.lean`: `4 * jsonSize j + 8`, `jsonSize` one per JSON
    value) is at least `rawBound raw` (a fortiori `rawBound raw - 2`, what `parseJson` needs, since
    it adds `2`). -/
theorem C19_rawBound_le_driver_fuel (j : Json) (gas : Nat) (raw : RawSchema)
    (hraw : rawOfJson gas j = .ok raw) : rawBound raw ≤ 4 * jsonSizeT j + 8 :=
  Nat.le_trans (C19_rawBound_le_schemaSize j gas raw hraw) (schemaSize_le_driver_fuel j)

/-! ### `parseJson` -/

/-- What the registration pass of `parseJson` needs on the document `j` (a function of `j` only):
    `rawBound` of the raw tree `rawOfJson` reads from it with the gas `parseJson` hands it; `0` if
    the document is not read. -/
def registerNeed (j : Json) : Nat :=
  match rawOfJson (rawGas j) j with
  | .ok raw => rawBound raw
  | .error _ => 0

theorem registerNeed_le_schemaSize (j : Json) : registerNeed j ≤ schemaSize j := by
  unfold registerNeed
  split
  · rename_i raw hraw; exact C19_rawBound_le_schemaSize j _ raw hraw
  · exact Nat.zero_le _

theorem registerNeed_le_driver_fuel (j : Json) : registerNeed j ≤ 4 * jsonSizeT j + 8 :=
  Nat.le_trans (registerNeed_le_schemaSize j) (schemaSize_le_driver_fuel j)

/-- what `parseJson` does with the outcome of the registration pass -/
def parseTail (r : Except SchemaErr (PKey × PState)) : Except SchemaErr SchemaMut :=
  match r with
  | .error e => .error e
  | .ok (_, st) =>
    match resolveKeys st with
    | .error e => .error e
    | .ok S =>
      match checkForCycles S with
      | .error e => .error e
      | .ok _ => .ok S

theorem parseJson_eq_tail (j : Json) (n : Nat) :
    parseJson j n =
      if jsonNesting j > 127 then .error .json
      else match rawOfJson (rawGas j) j with
        | .error e => .error e
        | .ok raw => parseTail (registerNode (n + 2) raw none {}) := by
  unfold parseJson parseTail
  rfl

theorem parseTail_errors {r : Except SchemaErr (PKey × PState)} {e : SchemaErr}
    (hr : ∀ e, r = .error e → e = .custom) (h : parseTail r = .error e) :
    e = .custom ∨ e = .cycle := by
  cases r with
  | error e' => simp only [parseTail] at h; cases h; exact Or.inl (hr _ rfl)
  | ok p =>
    obtain ⟨k, st⟩ := p
    simp only [parseTail] at h
    cases hres : resolveKeys st with
    | error e' => rw [hres] at h; cases h; exact Or.inl (resolveKeys_error hres)
    | ok S =>
      rw [hres] at h
      simp only [] at h
      cases hc : checkForCycles S with
      | error e' =>
        rw [hc] at h; cases h
        exact Or.inr (error_eq_of_NP (checkForCycles_no_panic S)
          (fun _ => checkForCycles_error S) hc)
      | ok u => rw [hc] at h; cases h

/-- **C19, `parseJson`, in terms of the raw tree**: if `raw` is the tree read from `j` and
    `rawBound raw ≤ nodeCount + 2`, then `parseJson j nodeCount` never returns the fuel marker, its
    errors are `json` (not a schema document / nested too deep), `custom` (registration, late
    resolution) or `cycle`, and the result is the same for every larger `nodeCount`. -/
theorem C19_parseJson_register_fuel (j : Json) (raw : RawSchema) (n : Nat)
    (hraw : rawOfJson (rawGas j) j = .ok raw) (hn : rawBound raw ≤ n + 2) :
    parseJson j n ≠ .error .panic ∧
    (∀ e, parseJson j n = .error e → e = .json ∨ e = .custom ∨ e = .cycle) ∧
    (∀ n', n ≤ n' → parseJson j n' = parseJson j n) := by
  have herr : ∀ e, parseJson j n = .error e → e = .json ∨ e = .custom ∨ e = .cycle := by
    intro e he
    rw [parseJson_eq_tail, hraw] at he
    split at he
    · cases he; exact Or.inl rfl
    · simp only [] at he
      rcases parseTail_errors (fun e' h' => C19_register_errors raw none {} (n + 2) e' hn h') he
        with rfl | rfl
      · exact Or.inr (Or.inl rfl)
      · exact Or.inr (Or.inr rfl)
  refine ⟨?_, herr, ?_⟩
  · intro he
    rcases herr _ he with h | h | h <;> cases h
  · intro n' hle
    rw [parseJson_eq_tail, parseJson_eq_tail, hraw]
    simp only []
    rw [C19_register_fuel_irrelevant raw none {} (n' + 2) (n + 2) (by omega) hn]

/-- **C19, `parseJson` is total**: above `registerNeed j - 2` — a fortiori above `schemaSize j - 2`,
    both explicit functions of the document only — `parseJson j nodeCount` never returns the fuel
    marker, fails only with `json`, `custom` or `cycle`, and does not depend on `nodeCount`.  No
    hypothesis on the document: any JSON value. -/
theorem C19_parseJson_total_need (j : Json) (n : Nat) (hn : registerNeed j ≤ n + 2) :
    parseJson j n ≠ .error .panic ∧
    (∀ e, parseJson j n = .error e → e = .json ∨ e = .custom ∨ e = .cycle) ∧
    (∀ n', n ≤ n' → parseJson j n' = parseJson j n) := by
  cases hraw : rawOfJson (rawGas j) j with
  | ok raw =>
    exact C19_parseJson_register_fuel j raw n hraw (by simpa [registerNeed, hraw] using hn)
  | error e0 =>
    have h0 : e0 = .json := rawOfJson_error hraw
    subst h0
    have hval : ∀ m, parseJson j m = .error .json := by
      intro m
      rw [parseJson_eq_tail, hraw]
      split <;> rfl
    refine ⟨?_, ?_, ?_⟩
    · rw [hval]; intro h; cases h
    · intro e he; rw [hval] at he; cases he; exact Or.inl rfl
    · intro n' _; rw [hval, hval]

theorem C19_parseJson_total (j : Json) (n : Nat) (hn : schemaSize j ≤ n + 2) :
    parseJson j n ≠ .error .panic ∧
    (∀ e, parseJson j n = .error e → e = .json ∨ e = .custom ∨ e = .cycle) ∧
    (∀ n', n ≤ n' → parseJson j n' = parseJson j n) :=
  C19_parseJson_total_need j n (Nat.le_trans (registerNeed_le_schemaSize j) hn)

/-- Any two `nodeCount`s above the bound give the same result. -/
theorem C19_parseJson_fuel_irrelevant (j : Json) (n n' : Nat) (hn : registerNeed j ≤ n + 2)
    (hn' : registerNeed j ≤ n' + 2) : parseJson j n = parseJson j n' := by
  rcases Nat.le_total n n' with h | h
  · exact ((C19_parseJson_total_need j n hn).2.2 n' h).symm
  · exact (C19_parseJson_total_need j n' hn').2.2 n h

/-- **As the driver runs the parser** (`parseJson j (4 * jsonSize j + 8)`): never the fuel marker,
    and the same result as with any larger `nodeCount` — for every JSON value. -/
theorem C19_parseJson_driver_total (j : Json) :
    parseJson j (driverFuel j) ≠ .error .panic ∧
    (∀ e, parseJson j (driverFuel j) = .error e → e = .json ∨ e = .custom ∨ e = .cycle) ∧
    (∀ n', driverFuel j ≤ n' → parseJson j n' = parseJson j (driverFuel j)) :=
  C19_parseJson_total j (driverFuel j)
    (Nat.le_trans (schemaSize_le_driver_fuel j) (Nat.le_add_right _ 2))

/-! #### non-vacuity and necessity -/

/-- the document of `rawRec` -/
def docRec : Json :=
  .obj [("type", .str "record"), ("name", .str "R"),
    ("fields", .arr [
      .obj [("name", .str "a"), ("type", .str "int")],
      .obj [("name", .str "b"),
        ("type", .obj [("type", .str "array"), ("items", .arr [.str "null", .str "R"])])]])]

theorem docRec_raw : rawOfJson (rawGas docRec) docRec = .ok rawRec := by rfl

theorem docRec_need : registerNeed docRec = 10 ∧ schemaSize docRec = 15 ∧ driverFuel docRec = 64 := by
  refine ⟨by decide +kernel, by decide +kernel, by decide +kernel⟩

/-- `C19_parseJson_register_fuel` on `docRec` at the least `nodeCount` (8): parses, and every
    larger `nodeCount` (the driver's 64 for one) gives the same graph. -/
example : (match parseJson docRec 8 with | .ok S => S.size == 5 | .error _ => false) = true ∧
    parseJson docRec (driverFuel docRec) = parseJson docRec 8 ∧
    parseJson docRec 8 ≠ .error .panic := by
  have h := C19_parseJson_register_fuel docRec rawRec 8 docRec_raw (by decide)
  exact ⟨by decide +kernel, h.2.2 _ (by decide +kernel), h.1⟩

/-- **Necessity of the bound**: with `nodeCount = 7` (`registerNeed docRec - 3`) the model runs out
    of fuel on the same document: `parseJson` is *not* independent of `nodeCount` below the bound. -/
theorem C19_parseJson_bound_sharp :
    parseJson docRec 7 = .error .panic ∧ parseJson docRec 7 ≠ parseJson docRec 8 := by
  refine ⟨by decide +kernel, by decide +kernel⟩

/-- The three error classes of `C19_parseJson_total` are all met (with the driver's `nodeCount`):
    `json` (a number is not a schema), `custom` (unknown reference), `cycle` (a record containing
    itself unconditionally). -/
example :
    parseJson (.nat 3) (driverFuel (.nat 3)) = .error .json ∧
    parseJson (.str "Nope") (driverFuel (.str "Nope")) = .error .custom ∧
    parseJson (.obj [("type", .str "record"), ("name", .str "R"),
        ("fields", .arr [.obj [("name", .str "a"), ("type", .str "R")]])]) 80 = .error .cycle := by
  refine ⟨by decide +kernel, by decide +kernel, by decide +kernel⟩


/-! ### the recursion depth of `register_node` in the crate

The model's fuel also pays for the position in a union / field list; the crate iterates there and
its call stack grows only with the nesting `rawDepth` of the raw tree (`Lemmas/ValidParsesGas.lean`),
which `serde_json`'s recursion limit bounds: no unbounded recursion in `register_node`. -/

/-- The raw tree read from a document is nested at most one deeper than the arrays / objects of
    the document … -/
theorem C19_register_depth_le_nesting (j : Json) (gas : Nat) (raw : RawSchema)
    (hraw : rawOfJson gas j = .ok raw) : rawDepth raw ≤ jsonNesting j + 1 :=
  read_depth hraw

/-- … hence at most 128 nested `register_node` calls on any document `parseJson` (`serde_json`)
    accepts. -/
theorem C19_register_depth_bounded (j : Json) (n : Nat) (S : SchemaMut)
    (h : parseJson j n = .ok S) :
    ∃ raw, rawOfJson (rawGas j) j = .ok raw ∧ rawDepth raw ≤ 128 := by
  rw [parseJson_eq_tail] at h
  split at h
  · cases h
  · rename_i hnest
    cases hraw : rawOfJson (rawGas j) j with
    | error e => rw [hraw] at h; cases h
    | ok raw =>
      have := read_depth hraw
      exact ⟨raw, rfl, by omega⟩

/-- non-vacuity (`docRec`: 5 nested containers, 4 nested raw nodes), and the `+ 1` is attained
    (`[["int"]]`: 2 nested arrays, 3 nested raw nodes) -/
example : jsonNesting docRec = 5 ∧ rawDepth rawRec = 4 ∧
    (∃ raw, rawOfJson (rawGas docRec) docRec = .ok raw ∧ rawDepth raw ≤ 128) ∧
    jsonNesting (.arr [.arr [.str "int"]]) = 2 ∧
    rawOfJson 9 (.arr [.arr [.str "int"]]) = .ok (.union [.union [.type .int]]) ∧
    rawDepth (.union [.union [.type .int]]) = 3 := by
  refine ⟨by decide, by decide, ?_, by decide, by rfl, by decide⟩
  have hp : (match parseJson docRec 8 with | .ok _ => true | .error _ => false) = true := by
    decide +kernel
  cases h : parseJson docRec 8 with
  | error e => rw [h] at hp; cases hp
  | ok S => exact C19_register_depth_bounded docRec 8 S h

end Avro.Theorems
