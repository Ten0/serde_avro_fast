import AvroModel.Theorems.C17stream
/-
C11 at the container level (null codec): a well-formed object container file read through the
slice back-end and through a streaming reader - ANY refill schedule, the source's buffer tracked
exactly across blocks (`Ocf.srcAfterBlock`), `max_alloc_size` at least the file (`hM`) - yields
the same values (up to the `borrowed` flags, which C11 lets differ) and both end with end of
stream. A corollary of the two truncation theorems of `C17stream.lean` at the full length; twin:
`C06_slice_reader_agree_real`, read off `C05_reads_whole_file_real` (the same corollary with the values).
For damaged input the two back-ends do differ (findings D16 / D19); that is why this is stated
for well-formed files.
-/
namespace Avro.Theorems
open Avro Avro.Impl Avro.Impl.Ocf Avro.Theorems.Stream

theorem C11_container_wellformed (d : Decomp) (hn : d.isNull = true)
    (cfg : DeConfig) (S : Schema) (node : Node) (depth fuel : Nat)
    (sync : Bytes) (hsy : sync.length = 16)
    (blocks : List (List Spec.Value)) (hbs : ∀ b ∈ blocks, BlockOk (encD S node) b)
    (hgood : ∀ v ∈ blocks.flatten, GoodVal cfg S node depth fuel v)
    (sched : List Nat) (lastChunk M : Nat)
    (hM : (fileBody (encD S node) sync blocks).length ≤ M) :
    let datum := de deExtModel cfg S fuel node depth false .any
    let file := fileBody (encD S node) sync blocks
    let viaReader := readAll d datum (blocks.flatten.length + 1) (openReader sync file sched lastChunk M)
    let viaSlice := readAll d datum (blocks.flatten.length + 1) (openSlice sync file)
    viaReader.1.map unborrow = viaSlice.1.map unborrow ∧ viaReader.2 = .eos ∧ viaSlice.2 = .eos := by
  intro datum file viaReader viaSlice
  have hr := (C17_yields_prefix_null_stream d hn cfg S node depth fuel sync hsy blocks hbs hgood
    file.length sched lastChunk M (by rw [List.take_of_length_le (Nat.le_refl _)]; exact hM)).2.2
    (Nat.le_refl _)
  have hs := (C17_yields_prefix_null_slice_de d hn cfg S node depth fuel sync hsy blocks hbs hgood
    file.length).2.2 (Nat.le_refl _)
  rw [List.take_of_length_le (Nat.le_refl _)] at hr hs
  refine ⟨?_, hr.2, ?_⟩
  · show viaReader.1.map unborrow = viaSlice.1.map unborrow
    have : viaSlice = (blocks.flatten.map (obsD S node), .eos) := hs
    rw [this, hr.1, List.map_map]
    rfl
  · show viaSlice.2 = .eos
    have : viaSlice = (blocks.flatten.map (obsD S node), .eos) := hs
    rw [this]

end Avro.Theorems
