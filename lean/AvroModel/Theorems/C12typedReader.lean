import AvroModel.Theorems.C12typed
import AvroModel.Theorems.C12reader
import AvroModel.Theorems.C04
/-
C12 / C11 — typed targets consume exactly the datum, on the STREAMING-READER back-end, for every
refill schedule: `Theorems/C12typed.lean` (slice back-end, EVERY request `h`, valid layouts
`Spec.decodeX Limits.impl`) transferred through C11 as in `Theorems/C12reader.lean`.

About the final state `r'` the slice form `r' = { r with rest := rest }` is FALSE
(`TypedReaderNV.C12typedReader_state_depends_on_schedule`,
`TypedReaderNV.C12typedReader_typed_any_states_differ`: `avail`, `sched` and `scratch` depend on the
refill schedule and on the request).  What is stated: `r'.rest = rest`; `ReaderOK r'` (the
hypotheses again, so the next datum can be read under the same theorem); `r'.maxAlloc = r.maxAlloc`
and `r'.scratch ≤ max r.scratch r.maxAlloc` (C04).  Only successful runs are looked at, so no
hypothesis on the depth budget, `max_seq_size`, the fuel or the `favor` flag is needed.

`hexact` is necessary in `C12_typed_same_rest_as_any_reader`
(`TypedReaderNV.C12typedReader_exact_needed`); the cap hypothesis `hm` is necessary for `ReaderOK r'`
(`TypedReaderNV.C12typedReader_alloc_needed`; for `r'.rest = rest` alone it is what C11 asks,
`SimD.alloc`, and no counterexample is known without it).
-/
namespace Avro.Theorems
open Avro Avro.Spec Avro.Impl

/-- **C12, typed targets, every request, streaming reader.**  For EVERY request `h`, every schema,
    node, configuration, depth budget, fuel and `favor` flag, on every valid layout with exact block
    sizes, for a reader state with ANY refill schedule: if the typed read succeeds, it leaves
    exactly `rest`, in a state that is again `ReaderOK`, with the same allocation cap and a scratch
    buffer no larger than the cap (or than it was). -/
theorem C12_typed_consumes_all_reader (cfg : DeConfig) (S : Schema) (node : Node) (h : Hint)
    (v : Spec.Value) (bytes rest : Bytes) (depth fuelX fuel : Nat) (favor : Bool)
    (hdec : Spec.decodeX Limits.impl S fuelX node bytes = some (v, rest))
    (r r' : RState) (o : Out)
    (hs : r.isSlice = false) (hl : r.limit = none) (ha : r.avail ≤ r.rest.length)
    (hm : r.rest.length ≤ r.maxAlloc) (hr : r.rest = bytes)
    (hrun : de deExtModel cfg S fuel node depth favor h r = (.ok o, r')) :
    r'.rest = rest ∧ ReaderOK r' ∧ r'.maxAlloc = r.maxAlloc ∧
      r'.scratch ≤ max r.scratch r.maxAlloc := by
  obtain ⟨o₀, sl', hsl, _, hrest, hok'⟩ :=
    de_slice_of_reader deExtModel cfg S fuel node depth favor h ⟨hs, hl, ha, hm⟩ hrun
  have hsl' := C12_typed_consumes_all cfg S node h v bytes rest depth fuelX fuel favor hdec
    (sliceOf r) sl' o₀ rfl hl rfl hr hsl
  have hmem := C04_scratch_bounded deExtModel cfg S fuel node depth favor h r
  rw [hrun] at hmem
  exact ⟨by rw [hrest, hsl'], hok', hmem.1, hmem.2⟩

/-- the same with `ReaderOK r` as one hypothesis -/
theorem C12_typed_consumes_all_reader' (cfg : DeConfig) (S : Schema) (node : Node) (h : Hint)
    (v : Spec.Value) (bytes rest : Bytes) (depth fuelX fuel : Nat) (favor : Bool)
    (hdec : Spec.decodeX Limits.impl S fuelX node bytes = some (v, rest))
    (r r' : RState) (o : Out) (hok : ReaderOK r) (hr : r.rest = bytes)
    (hrun : de deExtModel cfg S fuel node depth favor h r = (.ok o, r')) :
    r'.rest = rest ∧ ReaderOK r' ∧ r'.maxAlloc = r.maxAlloc ∧
      r'.scratch ≤ max r.scratch r.maxAlloc :=
  C12_typed_consumes_all_reader cfg S node h v bytes rest depth fuelX fuel favor hdec r r' o
    hok.reader hok.nolimit hok.avail hok.alloc hr hrun

/-- in particular the remaining input is `rest` -/
theorem C12_typed_consumes_all_reader_rest (cfg : DeConfig) (S : Schema) (node : Node) (h : Hint)
    (v : Spec.Value) (bytes rest : Bytes) (depth fuelX fuel : Nat) (favor : Bool)
    (hdec : Spec.decodeX Limits.impl S fuelX node bytes = some (v, rest))
    (r r' : RState) (o : Out)
    (hs : r.isSlice = false) (hl : r.limit = none) (ha : r.avail ≤ r.rest.length)
    (hm : r.rest.length ≤ r.maxAlloc) (hr : r.rest = bytes)
    (hrun : de deExtModel cfg S fuel node depth favor h r = (.ok o, r')) :
    r'.rest = rest :=
  (C12_typed_consumes_all_reader cfg S node h v bytes rest depth fuelX fuel favor hdec r r' o
    hs hl ha hm hr hrun).1

/-- `C12_typed_consumes_all_reader` with the hypotheses in the shape of
    `C12_skip_all_layouts_reader`: `Spec.decode` accepts the input as `(v, rest)`, and it is within
    the implementation's limits with exact block sizes. -/
theorem C12_typed_consumes_all_reader_spec (cfg : DeConfig) (S : Schema) (node : Node) (h : Hint)
    (v : Spec.Value) (bytes rest : Bytes) (depth fuelS fuelX fuel : Nat) (favor : Bool)
    (hdec : Spec.decode S fuelS node bytes = some (v, rest))
    (hexact : (Spec.decodeX Limits.impl S fuelX node bytes).isSome = true)
    (r r' : RState) (o : Out)
    (hs : r.isSlice = false) (hl : r.limit = none) (ha : r.avail ≤ r.rest.length)
    (hm : r.rest.length ≤ r.maxAlloc) (hr : r.rest = bytes)
    (hrun : de deExtModel cfg S fuel node depth favor h r = (.ok o, r')) :
    r'.rest = rest ∧ ReaderOK r' ∧ r'.maxAlloc = r.maxAlloc ∧
      r'.scratch ≤ max r.scratch r.maxAlloc := by
  have hx := C12_decodeX_of_spec hdec hexact
  exact C12_typed_consumes_all_reader cfg S node h v bytes rest depth fuelX fuel favor hx r r' o
    hs hl ha hm hr hrun

/-- **The reader run and the slice run.**  Under the same hypotheses the slice back-end over the same
    bytes (`sliceOf r`) succeeds too, with a value equal to `o` up to the `borrowed` flags, and ends
    in the state `C12_typed_consumes_all` gives. -/
theorem C12_typed_reader_matches_slice (cfg : DeConfig) (S : Schema) (node : Node) (h : Hint)
    (v : Spec.Value) (bytes rest : Bytes) (depth fuelX fuel : Nat) (favor : Bool)
    (hdec : Spec.decodeX Limits.impl S fuelX node bytes = some (v, rest))
    (r r' : RState) (o : Out)
    (hs : r.isSlice = false) (hl : r.limit = none) (ha : r.avail ≤ r.rest.length)
    (hm : r.rest.length ≤ r.maxAlloc) (hr : r.rest = bytes)
    (hrun : de deExtModel cfg S fuel node depth favor h r = (.ok o, r')) :
    ∃ o₀, de deExtModel cfg S fuel node depth favor h (sliceOf r) =
        (.ok o₀, { sliceOf r with rest := rest }) ∧
      unborrow o = unborrow o₀ ∧ r'.rest = rest := by
  obtain ⟨o₀, sl', hsl, ho, hrest, _⟩ :=
    de_slice_of_reader deExtModel cfg S fuel node depth favor h ⟨hs, hl, ha, hm⟩ hrun
  have hsl' := C12_typed_consumes_all cfg S node h v bytes rest depth fuelX fuel favor hdec
    (sliceOf r) sl' o₀ rfl hl rfl hr hsl
  subst hsl'
  exact ⟨o₀, hsl, ho, hrest⟩

/-- **C12, streaming reader: typed read vs `.any` read.**  For EVERY request: a successful typed
    read and a successful self-describing read from the same reader state (any refill schedule)
    leave the same remaining input — so whatever is read next is read from the same bytes — and
    both final states are `ReaderOK`.  The depth budgets, fuels and `favor` flags of the two runs
    are independent.  (The two final STATES differ in general:
    `C12typedReader_typed_any_states_differ`.) -/
theorem C12_typed_same_rest_as_any_reader (cfg : DeConfig) (S : Schema) (node : Node) (h : Hint)
    (depth depth' fuel fuel' : Nat) (favor : Bool)
    (r r₁ r₂ : RState) (o₁ o₂ : Out)
    (hs : r.isSlice = false) (hl : r.limit = none) (ha : r.avail ≤ r.rest.length)
    (hm : r.rest.length ≤ r.maxAlloc)
    (hexact : ∃ fuelX, (Spec.decodeX Limits.impl S fuelX node r.rest).isSome = true)
    (htyped : de deExtModel cfg S fuel node depth favor h r = (.ok o₁, r₁))
    (hany : de deExtModel cfg S fuel' node depth' false .any r = (.ok o₂, r₂)) :
    r₁.rest = r₂.rest ∧ ReaderOK r₁ ∧ ReaderOK r₂ := by
  obtain ⟨fuelX, hx⟩ := hexact
  obtain ⟨⟨v, rest⟩, hx⟩ := Option.isSome_iff_exists.1 hx
  obtain ⟨h₁, ok₁, _⟩ := C12_typed_consumes_all_reader cfg S node h v r.rest rest depth fuelX fuel
    favor hx r r₁ o₁ hs hl ha hm rfl htyped
  obtain ⟨h₂, ok₂, _⟩ := C12_typed_consumes_all_reader cfg S node .any v r.rest rest depth' fuelX
    fuel' false hx r r₂ o₂ hs hl ha hm rfl hany
  exact ⟨by rw [h₁, h₂], ok₁, ok₂⟩

/-- … and more generally any two successful typed reads (requests `h`, `h'`) of the same datum. -/
theorem C12_typed_same_rest_reader (cfg : DeConfig) (S : Schema) (node : Node) (h h' : Hint)
    (depth depth' fuel fuel' : Nat) (favor favor' : Bool)
    (r r₁ r₂ : RState) (o₁ o₂ : Out)
    (hs : r.isSlice = false) (hl : r.limit = none) (ha : r.avail ≤ r.rest.length)
    (hm : r.rest.length ≤ r.maxAlloc)
    (hexact : ∃ fuelX, (Spec.decodeX Limits.impl S fuelX node r.rest).isSome = true)
    (h₁ : de deExtModel cfg S fuel node depth favor h r = (.ok o₁, r₁))
    (h₂ : de deExtModel cfg S fuel' node depth' favor' h' r = (.ok o₂, r₂)) :
    r₁.rest = r₂.rest := by
  obtain ⟨fuelX, hx⟩ := hexact
  obtain ⟨⟨v, rest⟩, hx⟩ := Option.isSome_iff_exists.1 hx
  rw [C12_typed_consumes_all_reader_rest cfg S node h v r.rest rest depth fuelX fuel favor hx r r₁
      o₁ hs hl ha hm rfl h₁,
    C12_typed_consumes_all_reader_rest cfg S node h' v r.rest rest depth' fuelX fuel' favor' hx r r₂
      o₂ hs hl ha hm rfl h₂]

/-! ### Non-vacuity: one byte per refill -/

namespace TypedReaderNV
open Avro.Theorems.NVB

/-- `c12Arr12` (`{a: [1, 2], b: 7}` for `record r {a: array<int>, b: int}`) followed by `2a`, behind
    a reader that delivers ONE byte per refill (`sched = []`, `lastChunk = 1`), cap 64 bytes. -/
def rT : RState :=
  { isSlice := false, rest := c12Arr12 ++ [0x2a], avail := 0, sched := [], lastChunk := 1,
    maxAlloc := 64 }

/-- the Rust target `struct R { a: (i32, i32), b: i32 }` -/
def hT : Hint := .struct [("a", .tuple 2 .any), ("b", .any)]

theorem rT_ok : ReaderOK rT := ⟨rfl, rfl, by decide, by decide⟩

/-- the layout is valid, the datum ends before `2a` -/
theorem rT_exact : Spec.decodeX Limits.impl c12Schema 10 c12TupleRec (c12Arr12 ++ [0x2a]) =
    some (.record [.array [.int 1, .int 2], .int 7], [0x2a]) := by rfl

/-- the typed run, by evaluation: the 2-tuple has read the end-of-array marker, `b = 7`, `2a` is
    left; the buffer is empty (every byte was delivered alone and consumed) -/
theorem rT_run : de deExtModel {} c12Schema 50 c12TupleRec 64 false hT rT =
    (.ok (.map [(.str "a" false, .seq [.i32 1, .i32 2]), (.str "b" false, .i32 7)]),
      { rT with rest := [0x2a], avail := 0 }) :=
  resEq_of (by decide +kernel)

/-- **`C12_typed_consumes_all_reader`**, every hypothesis discharged; it says where the read ends
    without looking at the run (and `rT_run` shows that the premise `hrun` is met). -/
theorem rT_instance (o : Out) (r' : RState)
    (hrun : de deExtModel {} c12Schema 50 c12TupleRec 64 false hT rT = (.ok o, r')) :
    r'.rest = [0x2a] ∧ ReaderOK r' ∧ r'.maxAlloc = 64 ∧ r'.scratch ≤ 64 :=
  C12_typed_consumes_all_reader {} c12Schema c12TupleRec hT _ (c12Arr12 ++ [0x2a]) [0x2a] 64 10 50
    false rT_exact rT r' o rfl rfl (by decide) (by decide) rfl hrun

/-- … applied to the run -/
example : ({ rT with rest := [0x2a], avail := 0 } : RState).rest = [0x2a] ∧
    ReaderOK { rT with rest := [0x2a], avail := 0 } ∧
    ({ rT with rest := [0x2a], avail := 0 } : RState).maxAlloc = 64 ∧
    ({ rT with rest := [0x2a], avail := 0 } : RState).scratch ≤ 64 :=
  rT_instance _ _ rT_run

/-- the self-describing run from the same state -/
theorem rT_any_run : de deExtModel {} c12Schema 50 c12TupleRec 64 false .any rT =
    (.ok (.map [(.str "a" false, .seq [.i32 1, .i32 2]), (.str "b" false, .i32 7)]),
      { rT with rest := [0x2a], avail := 0 }) :=
  resEq_of (by decide +kernel)

/-- **`C12_typed_same_rest_as_any_reader`**, every hypothesis discharged on the two runs. -/
example : ({ rT with rest := [0x2a], avail := 0 } : RState).rest =
      ({ rT with rest := [0x2a], avail := 0 } : RState).rest ∧
    ReaderOK { rT with rest := [0x2a], avail := 0 } ∧
    ReaderOK { rT with rest := [0x2a], avail := 0 } :=
  C12_typed_same_rest_as_any_reader {} c12Schema c12TupleRec hT 64 64 50 50 false rT _ _ _ _
    rfl rfl (by decide) (by decide) ⟨10, by rw [show rT.rest = c12Arr12 ++ [0x2a] from rfl, rT_exact]; rfl⟩
    rT_run rT_any_run

/-- **`C12_typed_reader_matches_slice`** on the run. -/
example : ∃ o₀, de deExtModel {} c12Schema 50 c12TupleRec 64 false hT (sliceOf rT) =
      (.ok o₀, { sliceOf rT with rest := [0x2a] }) ∧
    unborrow (.map [(.str "a" false, .seq [.i32 1, .i32 2]), (.str "b" false, .i32 7)]) =
      unborrow o₀ ∧
    ({ rT with rest := [0x2a], avail := 0 } : RState).rest = [0x2a] :=
  C12_typed_reader_matches_slice {} c12Schema c12TupleRec hT _ (c12Arr12 ++ [0x2a]) [0x2a] 64 10 50
    false rT_exact rT _ _ rfl rfl (by decide) (by decide) rfl rT_run

/-- a 1-tuple for `a` is an error on the reader too (the array has two items) -/
example : (de deExtModel {} c12Schema 50 c12TupleRec 64 false
    (.struct [("a", .tuple 1 .any), ("b", .any)]) rT).1 = .error .custom :=
  fstEq_of (by decide +kernel)

/-! ### Why the conclusion is not a state equality, and why `hexact` is needed -/

/-- the same bytes behind a reader whose first refill delivers 4 bytes, the following ones 1 -/
def rT4 : RState := { rT with sched := [4] }

/-- **The slice form `r' = { r with rest := rest }` is false on the reader, and the final state
    depends on the refill schedule** (beyond `rest`): with a 4-byte first refill the schedule has been
    used up; both runs satisfy every hypothesis of `C12_typed_consumes_all_reader`, both leave `2a`.
    With a schedule whose refill covers the end of the datum `avail` is not `0` either. -/
theorem C12typedReader_state_depends_on_schedule :
    (de deExtModel {} c12Schema 50 c12TupleRec 64 false hT rT).2 =
      { rT with rest := [0x2a], avail := 0 } ∧
    (de deExtModel {} c12Schema 50 c12TupleRec 64 false hT rT4).2 =
      { rT4 with rest := [0x2a], avail := 0, sched := [] } ∧
    (de deExtModel {} c12Schema 50 c12TupleRec 64 false hT rT4).2 ≠ { rT4 with rest := [0x2a] } ∧
    (de deExtModel {} c12Schema 50 c12TupleRec 64 false hT { rT with lastChunk := 6 }).2 =
      { rT with lastChunk := 6, rest := [0x2a], avail := 1 } ∧
    (de deExtModel {} c12Schema 50 c12TupleRec 64 false hT { rT with lastChunk := 6 }).2 ≠
      { ({ rT with lastChunk := 6 } : RState) with rest := [0x2a] } := by
  refine ⟨by rw [rT_run], by decide +kernel, by decide +kernel, by decide +kernel, by decide +kernel⟩

/-- **A typed read and the `.any` read from the same reader state end in different states** (same
    `rest`): on `ReaderNV.rQ` (`["hey"]` in a block written with its byte size, the string
    straddling two refills) the `.any` read copies the string through a 3-byte scratch buffer, the
    typed read `Option<IgnoredAny>` jumps over the block and allocates nothing.  So
    `C12_typed_same_rest_as_any_reader` cannot conclude `r₁ = r₂` (the slice theorem
    `C12_typed_same_state_as_any_all` does). -/
theorem C12typedReader_typed_any_states_differ :
    de deExtModel {} ReaderNV.SQ 100 (.array 1) 64 false .any ReaderNV.rQ =
      (.ok (.seq [.str "hey" false]),
        { ReaderNV.rQ with rest := [7], avail := 0, sched := [], scratch := 3 }) ∧
    de deExtModel {} ReaderNV.SQ 100 (.array 1) 64 false (.option .ignored) ReaderNV.rQ =
      (.ok (.some .unit),
        { ReaderNV.rQ with rest := [7], avail := 0, sched := [], scratch := 0 }) ∧
    (de deExtModel {} ReaderNV.SQ 100 (.array 1) 64 false (.option .ignored) ReaderNV.rQ).2 ≠
      (de deExtModel {} ReaderNV.SQ 100 (.array 1) 64 false .any ReaderNV.rQ).2 :=
  ⟨ReaderNV.C12reader_skip_state_differs.2.1, resEq_of (by decide +kernel), by decide +kernel⟩

/-- `c12WrongSize` (`a`: one block announcing byte size 2 for a 1-byte item; `b`; then `06`) behind
    the one-byte-per-refill reader -/
def rW : RState := { rT with rest := c12WrongSize }

/-- **`hexact` is necessary in `C12_typed_same_rest_as_any_reader`** (and `hdec` on `decodeX`, not
    on `Spec.decode`, in `C12_typed_consumes_all_reader`).  `Spec.decode` accepts `c12WrongSize`
    (leaving `06`), `decodeX` refuses it; from the same `ReaderOK` state the `.any` read and the
    typed read `struct { b }` both SUCCEED and leave different inputs. -/
theorem C12typedReader_exact_needed :
    ReaderOK rW ∧
    Spec.decode c12Schema 10 c12TupleRec rW.rest =
      some (.record [.array [.int 1], .int 0], [0x06]) ∧
    Spec.decodeX Limits.impl c12Schema 10 c12TupleRec rW.rest = none ∧
    de deExtModel {} c12Schema 50 c12TupleRec 64 false .any rW =
      (.ok (.map [(.str "a" false, .seq [.i32 1]), (.str "b" false, .i32 0)]),
        { rW with rest := [0x06], avail := 0 }) ∧
    de deExtModel {} c12Schema 50 c12TupleRec 64 false (.struct [("b", .any)]) rW =
      (.ok (.map [(.str "a" false, .unit), (.str "b" false, .i32 3)]),
        { rW with rest := [], avail := 0 }) ∧
    (de deExtModel {} c12Schema 50 c12TupleRec 64 false (.struct [("b", .any)]) rW).2.rest ≠
      (de deExtModel {} c12Schema 50 c12TupleRec 64 false .any rW).2.rest := by
  refine ⟨⟨rfl, rfl, by decide, by decide⟩, by rfl, by rfl, resEq_of (by decide +kernel),
    resEq_of (by decide +kernel), by decide +kernel⟩

/-- **The cap hypothesis `hm` is necessary for the conclusion `ReaderOK r'`.**  A reader whose cap
    (`max_alloc_size`) is smaller than what is left: every other hypothesis holds, the read of an
    `int` succeeds and leaves exactly `rest`, but the final state does not satisfy `ReaderOK` (its
    `alloc` component), so the theorem could not be applied to the next datum. -/
theorem C12typedReader_alloc_needed :
    let r : RState := { isSlice := false, rest := [0x02, 0x2a], maxAlloc := 0 }
    r.isSlice = false ∧ r.limit = none ∧ r.avail ≤ r.rest.length ∧ ¬ r.rest.length ≤ r.maxAlloc ∧
    Spec.decodeX Limits.impl #[.int] 5 .int r.rest = some (.int 1, [0x2a]) ∧
    de deExtModel {} #[.int] 50 .int 64 false .i64 r =
      (.ok (.i32 1), { r with rest := [0x2a], avail := 0 }) ∧
    ¬ ReaderOK (de deExtModel {} #[.int] 50 .int 64 false .i64 r).2 := by
  refine ⟨rfl, rfl, by decide, by decide, by rfl, resEq_of (by decide +kernel), ?_⟩
  intro h
  exact absurd h.alloc (by decide +kernel)

end TypedReaderNV

end Avro.Theorems
