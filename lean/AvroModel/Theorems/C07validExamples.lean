import AvroModel.Theorems.C07valid
/-
C07, totality, on concrete documents (the theorems are in `Theorems/C07valid.lean`):

* tightness: for each conjunct of `ValidDoc` and each further hypothesis a document that violates
  only it and is rejected;
* findings: documents the specification allows and the parser model rejects;
* documents of every width (`wideRecord n`, `wideUnion n`);
* non-vacuity: concrete valid documents, the theorem instantiated.
-/
namespace Avro.Theorems
open Avro Avro.Impl Avro.Spec Avro.Spec.Pcf Avro.PcfSpec Avro.ValidParses

/-- 1. `shape`: an array without `items` (the other missing attributes: `C07_rejects_missing_*`). -/
example : verdict (.obj [("type", .str "array")]) 100 =
    ⟨false, true, true, true, true, true, some .custom⟩ := by decide +kernel

example : verdict (.obj [("type", .str "fixed"), ("name", .str "F")]) 100 =
    ⟨false, true, true, true, true, true, some .custom⟩ := by decide +kernel

example : verdict (.obj [("type", .str "record"), ("fields", .arr [])]) 100 =
    ⟨false, true, true, true, true, true, some .custom⟩ := by decide +kernel

/-- 2. `noForwardRefs`: a reference to a name that is defined nowhere is rejected
    (`C07_rejects_unknown_ref`) ... -/
example : verdict (.obj [("type", .str "array"), ("items", .str "Foo")]) 100 =
    ⟨true, false, true, true, true, true, some .custom⟩ := by decide +kernel

/-- ... whereas a reference that merely PRECEDES its definition is accepted by the crate ("we
    support even if it's unordered"): there the parser is more liberal than the specification,
    `ValidDoc` is sufficient but not necessary, and the canonical form is no longer the
    specification's (`C08_forward_ref_differs`). -/
example : verdict docForwardRef 100 = ⟨true, false, true, true, true, true, none⟩ := by
  decide +kernel

/-- 3. `namesDistinct`: two definitions of the fullname `E` (`C07_rejects_duplicate`). -/
example : verdict (.arr [
      .obj [("type", .str "enum"), ("name", .str "E"), ("symbols", .arr [.str "A"])],
      .obj [("type", .str "enum"), ("name", .str "E"), ("symbols", .arr [.str "B"])]]) 100 =
    ⟨true, true, false, true, true, true, some .custom⟩ := by decide +kernel

/-- 4. `wellTyped`: a member given twice. -/
example : verdict (.obj [("type", .str "int"), ("type", .str "int")]) 100 =
    ⟨true, true, true, false, true, true, some .json⟩ := by decide +kernel

example : ValidDoc (nestedArrays 127) = true ∧ jsonNesting (nestedArrays 127) = 127 ∧
    verdict (nestedArrays 127) 300 = ⟨true, true, true, true, true, true, none⟩ :=
  ⟨nestedArrays_valid _, nestedArrays_nesting _, nestedArrays_accepted (by omega) (by omega)⟩

example : ValidDoc (nestedArrays 128) = true ∧ jsonNesting (nestedArrays 128) = 128 ∧
    verdict (nestedArrays 128) 300 = ⟨true, true, true, true, false, true, some .json⟩ :=
  ⟨nestedArrays_valid _, nestedArrays_nesting _, nestedArrays_rejected (by omega) (by omega)⟩

/-- `serde_json` checks the depth also while it skips a member the schema reader ignores: a
    perfectly good schema with a deeply nested `doc` is rejected. -/
def deepValue : Nat → Json
  | 0 => .null
  | n + 1 => .arr [deepValue n]

example : verdict (.obj [("type", .str "int"), ("doc", deepValue 126)]) 100 =
      ⟨true, true, true, true, true, true, none⟩ ∧
    verdict (.obj [("type", .str "int"), ("doc", deepValue 127)]) 100 =
      ⟨true, true, true, true, false, true, some .json⟩ := by
  refine ⟨by decide +kernel, by decide +kernel⟩

/-- the registration fuel: `schemaSize (nestedArrays 2) = 6`; with 3 the model runs out of fuel
    (`panic` is the model's out-of-fuel, not an outcome of the crate) -/
example : verdict (nestedArrays 2) 3 = ⟨true, true, true, true, true, false, some .panic⟩ ∧
    verdict (nestedArrays 2) 6 = ⟨true, true, true, true, true, true, none⟩ := by
  refine ⟨by decide +kernel, by decide +kernel⟩

theorem C07_self_record_not_ranked : ¬ NoUnconditionalCycle docSelfRecord := by
  -- a ranking would make the parser accept the document (`C07_valid_parses`); it does not
  intro hc
  obtain ⟨S, hS⟩ := C07_valid_parses docSelfRecord 100 (by decide +kernel) (by decide +kernel)
    (by decide +kernel) hc
  have : (parseJson docSelfRecord 100).toBool = false := by decide +kernel
  rw [hS] at this
  cases this

example : verdict docSelfRecord 100 = ⟨true, true, true, true, true, true, some .cycle⟩ := by
  decide +kernel

/-- two records that contain each other -/
example : verdict (.obj [("type", .str "record"), ("name", .str "A"),
      ("fields", .arr [.obj [("name", .str "b"), ("type",
        .obj [("type", .str "record"), ("name", .str "B"),
          ("fields", .arr [.obj [("name", .str "a"), ("type", .str "A")]])])]])]) 100 =
    ⟨true, true, true, true, true, true, some .cycle⟩ := by decide +kernel

/-! ### findings: allowed by the specification, rejected by the parser

Each is a document on which only the part of `ValidDoc` that goes BEYOND the specification
fails (see the header of `Spec/ValidDoc.lean`), and which the parser model rejects. -/

/-- (a) `name` on a type that is not a named type is metadata for the specification; the parser
    enters it into the name table: two of them collide. -/
example : verdict (.arr [.obj [("type", .str "int"), ("name", .str "a")],
                         .obj [("type", .str "long"), ("name", .str "a")]]) 100 =
    ⟨true, true, false, true, true, true, some .custom⟩ := by decide +kernel

/-- (b) a member the specification defines for another type is read with the type it has there:
    `{"type":"int","items":5}`. -/
example : verdict (.obj [("type", .str "int"), ("items", .nat 5)]) 100 =
    ⟨true, true, true, false, true, true, some .json⟩ := by decide +kernel

/-- (b) `scale` beyond 32 bits. -/
example : verdict (.obj [("type", .str "bytes"), ("logicalType", .str "decimal"),
      ("precision", .nat 4), ("scale", .nat 4294967296)]) 100 =
    ⟨true, true, true, false, true, true, some .json⟩ := by decide +kernel

/-- (c) an invalid logical type ("implementations should ignore the logical type and use the
    underlying Avro type"): `decimal` without `precision`. -/
example : verdict (.obj [("type", .str "bytes"), ("logicalType", .str "decimal")]) 100 =
    ⟨true, true, true, false, true, true, some .custom⟩ := by decide +kernel

/-- (d) only primitive type names are reserved: a record may be called `record`; the reference
    to it is taken for a complex type without its object. -/
example : verdict (.obj [("type", .str "record"), ("name", .str "record"),
      ("fields", .arr [.obj [("name", .str "next"),
        ("type", .arr [.str "null", .str "record"])]])]) 100 =
    ⟨true, true, true, false, true, true, some .custom⟩ := by decide +kernel

/-- Width does not count (`serde_json` counts nesting only, and the model's depth fuel is not
    spent on list elements): a record with 200 fields and a union with 200 branches are
    accepted. -/
def wideRecord (n : Nat) : Json :=
  .obj [("type", .str "record"), ("name", .str "W"),
    ("fields", .arr ((List.range n).map fun i =>
      .obj [("name", .str ("f" ++ toString i)), ("type", .str "int")]))]

/-- (not a valid union for the specification — the crate does not check that — but a wide one) -/
def wideUnion (n : Nat) : Json := .arr (List.replicate n (.str "int"))

/-! the walks of `ValidDoc` on `n` branches `"int"` and on `n` fields of type `"int"` -/

section
variable (n : Nat) (enc : Option String)

theorem ints_nesting : jsonNestingList (List.replicate n (.str "int")) = 0 := by
  induction n with
  | zero => rfl
  | succ n ih => simp [List.replicate_succ, jsonNestingList, jsonNesting, ih]

theorem ints_size : sizeList (List.replicate n (.str "int")) = 3 * n := by
  induction n with
  | zero => rfl
  | succ n ih => simp [List.replicate_succ, sizeList, schemaSize, ih]; omega

theorem ints_shape : (canonList enc (List.replicate n (.str "int"))).isSome = true := by
  induction n with
  | zero => rfl
  | succ n ih =>
    obtain ⟨cs, hcs⟩ := Option.isSome_iff_exists.mp ih
    simp (decide := true) [List.replicate_succ, canonList, canon, hcs]

theorem ints_scan (D : List Fullname) : scanList enc (List.replicate n (.str "int")) D = some D := by
  induction n with
  | zero => rfl
  | succ n ih => simp (decide := true) [List.replicate_succ, scanList, scan, ih]

theorem ints_defs : defsList enc (List.replicate n (.str "int")) = [] := by
  induction n with
  | zero => rfl
  | succ n ih => simp [List.replicate_succ, defsList, definedNamesIn, ih]

theorem ints_wellTyped : wtList (List.replicate n (.str "int")) = true := by
  induction n with
  | zero => rfl
  | succ n ih => simp (decide := true) [List.replicate_succ, wtList, wellTyped, ih]

theorem ints_ranked (rank : Fullname → Nat) :
    rankedList rank enc (List.replicate n (.str "int")) = true := by
  induction n with
  | zero => rfl
  | succ n ih => simp [List.replicate_succ, rankedList, ranked, ih]

end

theorem wideUnion_nesting (n : Nat) : jsonNesting (wideUnion n) = 1 := by
  simp [wideUnion, jsonNesting, ints_nesting]

theorem wideUnion_size (n : Nat) : schemaSize (wideUnion n) = 3 * n + 1 := by
  simp [wideUnion, schemaSize, ints_size]; omega

theorem wideUnion_valid (n : Nat) : ValidDoc (wideUnion n) = true := by
  have := Option.isSome_iff_exists.mp (ints_shape n none)
  obtain ⟨cs, hcs⟩ := this
  simp [ValidDoc, shape, noForwardRefs, namesDistinct, definedNames, wideUnion, canon, scan,
    definedNamesIn, wellTyped, hcs, ints_scan, ints_defs, ints_wellTyped, nodupB]

/-- Width does not count: a union of `n` branches is accepted, for every `n`. -/
theorem wideUnion_accepted {n m : Nat} (hm : 3 * n + 1 ≤ m) :
    verdict (wideUnion n) m = ⟨true, true, true, true, true, true, none⟩ :=
  verdict_of_valid (wideUnion_valid n) (by rw [wideUnion_nesting]; decide)
    (by rw [wideUnion_size]; exact hm) ⟨fun _ => 0, by simp [wideUnion, ranked, ints_ranked]⟩

def intField (i : Nat) : Json := .obj [("name", .str ("f" ++ toString i)), ("type", .str "int")]

section
variable (l : List Nat) (enc : Option String)

theorem intFields_nesting : jsonNestingList (l.map intField) = min 1 l.length := by
  induction l with
  | nil => rfl
  | cons i l ih =>
    simp [intField, jsonNestingList, jsonNesting, jsonNestingMembers, ih] at ih ⊢; omega

theorem intFields_size : sizeFields (l.map intField) = 3 * l.length := by
  induction l with
  | nil => rfl
  | cons i l ih =>
    simp (decide := true) [intField, sizeFields, sizeAttr, schemaSize, ih]; omega

theorem intFields_shape : (canonFields enc (l.map intField)).isSome = true := by
  induction l with
  | nil => rfl
  | cons i l ih =>
    obtain ⟨cs, hcs⟩ := Option.isSome_iff_exists.mp ih
    simp (decide := true) [intField, canonFields, canonAttr, canon, strAttr, attr, hcs]

theorem intFields_scan (D : List Fullname) : scanFields enc (l.map intField) D = some D := by
  induction l with
  | nil => rfl
  | cons i l ih => simp (decide := true) [intField, scanFields, scanAttr, scan, ih]

theorem intFields_defs : defsFields enc (l.map intField) = [] := by
  induction l with
  | nil => rfl
  | cons i l ih => simp (decide := true) [intField, defsFields, defsAttr, definedNamesIn, ih]

theorem intFields_wellTyped : wtFields (l.map intField) = true := by
  induction l with
  | nil => rfl
  | cons i l ih =>
    simp (decide := true) [intField, wtFields, keyOnce, strAttr, attr, wtReq, wellTyped, ih]

theorem intFields_ranked (rank : Fullname → Nat) (owner : Fullname) :
    rankedFields rank owner (l.map intField) = true := by
  induction l with
  | nil => rfl
  | cons i l ih =>
    simp (decide := true) [intField, rankedFields, rankedFieldType, directBelow, ranked, ih]

end

theorem wideRecord_eq (n : Nat) : wideRecord n = .obj [("type", .str "record"),
    ("name", .str "W"), ("fields", .arr ((List.range n).map intField))] := rfl

theorem wideRecord_nesting {n : Nat} (hn : 0 < n) : jsonNesting (wideRecord n) = 3 := by
  simp [wideRecord_eq, jsonNesting, jsonNestingMembers, intFields_nesting]; omega

theorem wideRecord_size (n : Nat) : schemaSize (wideRecord n) = 3 * n + 2 := by
  simp (decide := true) [wideRecord_eq, schemaSize, sizeAttr, sizeFieldsAttr, intFields_size]
  omega

theorem wideRecord_valid (n : Nat) : ValidDoc (wideRecord n) = true := by
  obtain ⟨cs, hcs⟩ := Option.isSome_iff_exists.mp
    (intFields_shape (List.range n) (fullnameOfDef "W" none none).1)
  simp (decide := true) [ValidDoc, shape, noForwardRefs, namesDistinct, definedNames,
    wideRecord_eq, canon, fieldsAttr, scan, scanFieldsAttr, definedNamesIn, defsFieldsAttr,
    wellTyped, scalarsOk, wtOpt, wtFieldsAttr, knownKeys, keyOnce, strAttr, natAttr, attr,
    isTypeName, isPrimitive, primitiveNames, complexNames, optStrAttr, optNatAttr,
    optSymbolsAttr, hcs, intFields_scan, intFields_defs, intFields_wellTyped, nodupB]

/-- Width does not count: a record of `n` fields is accepted, for every `n`. -/
theorem wideRecord_accepted {n m : Nat} (hn : 0 < n) (hm : 3 * n + 2 ≤ m) :
    verdict (wideRecord n) m = ⟨true, true, true, true, true, true, none⟩ :=
  verdict_of_valid (wideRecord_valid n) (by rw [wideRecord_nesting hn]; decide)
    (by rw [wideRecord_size]; exact hm)
    ⟨fun _ => 0, by
      simp (decide := true) [wideRecord_eq, ranked, rankedFieldsAttr, strAttr, attr,
        intFields_ranked]⟩

example : jsonNesting (wideRecord 200) = 3 := wideRecord_nesting (by decide)

example : verdict (wideRecord 200) 1000 = ⟨true, true, true, true, true, true, none⟩ :=
  wideRecord_accepted (by decide) (by decide)

example : jsonNesting (wideUnion 200) = 1 := wideUnion_nesting _

example : verdict (wideUnion 200) 1000 = ⟨true, true, true, true, true, true, none⟩ :=
  wideUnion_accepted (by decide)

/-! ### non-vacuity -/

theorem docNamespaces_valid : ValidDoc docNamespaces = true := by decide +kernel

theorem docRecursive_valid : ValidDoc docRecursive = true := by decide +kernel

theorem docNested_valid : ValidDoc docNested = true := by decide +kernel

/-- Namespaces inherited through an array, a union and a map, `"namespace": ""`, a dotted name
    overriding the `namespace` attribute, references by simple name / fullname / leading dot,
    logical types (`decimal` with precision, `timestamp-micros`), members in any order, `doc`. -/
example : ValidDoc docNamespaces = true ∧ jsonNesting docNamespaces = 6 ∧
    schemaSize docNamespaces = 38 ∧ verdict docNamespaces 38 =
      ⟨true, true, true, true, true, true, none⟩ ∧
    definedNames docNamespaces =
      [(some "a.b", "R"), (some "a.b", "E"), (none, "F"), (some "x.y", "G")] := by
  have hd : jsonNesting docNamespaces = 6 := by decide +kernel
  have hn : schemaSize docNamespaces = 38 := by decide +kernel
  exact ⟨docNamespaces_valid, hd, hn,
    verdict_of_valid docNamespaces_valid (by rw [hd]; decide) (Nat.le_of_eq hn)
      (noUnconditionalCycleB_sound (by decide +kernel)),
    by decide +kernel⟩

/-- rankings: in `docRecursive` the record contains itself only through a union; in `docNested`
    `Outer` directly contains `Inner`, which directly contains the enum `i.E`. -/
theorem docRecursive_acyclic : NoUnconditionalCycle docRecursive :=
  ⟨fun _ => 0, by decide +kernel⟩

theorem docNested_acyclic : NoUnconditionalCycle docNested :=
  ⟨fun fn => if fn.2 = "Outer" then 2 else if fn.2 = "Inner" then 1 else 0, by decide +kernel⟩

/-- A recursive record under a union. -/
example : ValidDoc docRecursive = true ∧ verdict docRecursive 13 =
      ⟨true, true, true, true, true, true, none⟩ ∧
    definedNames docRecursive = [(some "ns", "Node")] :=
  ⟨docRecursive_valid,
    verdict_of_valid docRecursive_valid (by decide +kernel) (by decide +kernel) docRecursive_acyclic,
    by decide +kernel⟩

/-- Nested records with their own namespaces, the same simple name in two namespaces. -/
example : ValidDoc docNested = true ∧ verdict docNested 30 =
      ⟨true, true, true, true, true, true, none⟩ ∧
    definedNames docNested =
      [(some "o", "Outer"), (some "i", "Inner"), (some "i", "E"), (some "o", "E")] :=
  ⟨docNested_valid,
    verdict_of_valid docNested_valid (by decide +kernel) (by decide +kernel) docNested_acyclic,
    by decide +kernel⟩

/-- An unknown logical type is accepted; `decimal` on a fixed, `scale` omitted. -/
def docLogical : Json :=
  .obj [("type", .str "record"), ("name", .str "com.example.Amounts"), ("namespace", .str "ignored"),
    ("fields", .arr [
      .obj [("name", .str "a"), ("type",
        .obj [("type", .str "fixed"), ("name", .str "Dec"), ("size", .nat 8),
          ("logicalType", .str "decimal"), ("precision", .nat 18)])],
      .obj [("name", .str "b"), ("type",
        .obj [("type", .str "string"), ("logicalType", .str "made-up")])],
      .obj [("name", .str "c"), ("type", .arr [.str "null", .str "Dec", .str "com.example.Dec"])],
      .obj [("name", .str "d"), ("type",
        .obj [("type", .str "map"), ("values", .str "Amounts")]), ("default", .obj [])]])]

theorem docLogical_valid : ValidDoc docLogical = true := by decide +kernel

theorem docLogical_acyclic : NoUnconditionalCycle docLogical :=
  ⟨fun fn => if fn.2 = "Amounts" then 1 else 0, by decide +kernel⟩

example : ValidDoc docLogical = true ∧ verdict docLogical 40 =
      ⟨true, true, true, true, true, true, none⟩ ∧
    definedNames docLogical = [(some "com.example", "Amounts"), (some "com.example", "Dec")] ∧
    parsingCanonicalForm docLogical = some
      "{\"name\":\"com.example.Amounts\",\"type\":\"record\",\"fields\":[{\"name\":\"a\",\"type\":{\"name\":\"com.example.Dec\",\"type\":\"fixed\",\"size\":8}},{\"name\":\"b\",\"type\":\"string\"},{\"name\":\"c\",\"type\":[\"null\",\"com.example.Dec\",\"com.example.Dec\"]},{\"name\":\"d\",\"type\":{\"type\":\"map\",\"values\":\"com.example.Amounts\"}}]}" := by
  refine ⟨docLogical_valid,
    verdict_of_valid docLogical_valid (by decide +kernel) (by decide +kernel) docLogical_acyclic,
    by decide +kernel, ?_⟩
  apply parsingCanonicalForm_eq_ofList
  decide +kernel

/-- The theorem on concrete documents: accepted, and the canonical form of what was parsed is the
    specification's. -/
example : ∃ S text, parseJson docNested 30 = .ok S ∧
    parsingCanonicalForm docNested = some text ∧
    ∀ fuel, 32 ≤ fuel → canonicalForm S fuel = .ok text :=
  C07_valid_parses_and_resolves docNested 30 docNested_valid (by decide +kernel)
    (by decide +kernel) docNested_acyclic

/-- ... with every hypothesis evaluated. -/
example : ∃ S text, parseJson docNamespaces 38 = .ok S ∧
    parsingCanonicalForm docNamespaces = some text ∧
    ∀ fuel, 40 ≤ fuel → canonicalForm S fuel = .ok text :=
  C07_valid_parses_checked docNamespaces 38 docNamespaces_valid (by decide +kernel)
    (by decide +kernel) (by decide +kernel)

example : noUnconditionalCycleB docSelfRecord = false := by decide +kernel

example (n : Nat) (hn : 13 ≤ n) : ∃ S, parseJson docRecursive n = .ok S :=
  C07_valid_parses docRecursive n docRecursive_valid (by decide +kernel)
    (Nat.le_trans (by decide +kernel) hn) docRecursive_acyclic

example (n : Nat) (hn : 40 ≤ n) : ∃ S, parseJson docLogical n = .ok S :=
  C07_valid_parses docLogical n docLogical_valid (by decide +kernel)
    (Nat.le_trans (by decide +kernel) hn) docLogical_acyclic

end Avro.Theorems
