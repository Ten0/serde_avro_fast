import AvroModel.Theorems.C09
import AvroModel.Theorems.C09global
/-
C09: the local spelling lemmas (`C09.lean`) and the global statement `C09_render_has_graph_pcf`
(`C09global.lean`).  Its composition with C08 (`C09globalC08.lean`) and the unconditional round trip
(`C09parses.lean`) are not imported here.
-/
