import AvroModel.Theorems.C17stream
import AvroModel.Lemmas.CutClassOcf
import AvroModel.Lemmas.CutClassIo
/-
C17, the part `Theorems/C17stream.lean` leaves open: WHICH error a truncated object container file
produces, and exactly which values come before it — null codec, the real datum deserializer
`de … .any`, reader back-end under any chunk schedule and slice back-end.

The file after its header, `fileBody enc sync blocks`, is cut after `m` bytes; `cutWhere enc blocks m`
says where the cut falls (`Cut.Where`: `clean` — at a block boundary or at/after the end of the file,
exactly these: `C17_cutWhere_clean_iff` —, `header`, `data`, `marker`).  What the model says:

  READER back-end: `clean` → all values of the complete blocks, then end of stream; every other cut
  → an error of class `io` (`UnexpectedEof`: the failed varint read, the failed `read_exact` /
  `read_slice` inside a datum, the failed `read_exact` of the marker), after the values of the
  complete blocks and — for `data`/`marker` — the values of the cut block whose encodings are
  entirely present (`fitting`); after the error the reader reports end of stream for ever.

  SLICE back-end: `header` → class `custom` (`decode_var` returned `None`: "All bytes have MSB
  set … (Reached EOF)"); `data` → class `custom` (`SliceRead::take` refuses the whole block: none
  of its values is delivered); `marker` → class `io` (`read_const_size_buf` goes through
  `io::Read::read_exact`, also on a slice) after ALL the values of the block; then end of stream
  for ever.

Hypothesis beyond those of `C17_yields_prefix_null_stream`:
  `hM : (fileBody …).length ≤ M` — the allocation cap covers the UNCUT file (there: the cut file).
  Needed: a string whose declared length exceeds `max_alloc` and which is not buffered is
  refused with a `custom` error before any read is attempted (`alloc_cap_needed`).
No condition on the schema: the truncation simulation (`Lemmas/CutClassDe.lean`,
`Lemmas/CutClassBig.lean`) covers every node kind, the inside of the `io::Take` of a `big-decimal`
included (`Theorems/C17classBig.lean` has the details and a file of big-decimals).
-/
namespace Avro.Theorems
open Avro Avro.Impl Avro.Theorems.Stream Avro.Theorems.Cut
open Avro.Impl.Ocf hiding RdInv
open Avro.Impl.OcfS (RdInv)

/-- no `big-decimal` at `node` nor anywhere in the schema -/
def NoBigDecimal (S : Schema) (node : Node) : Prop :=
  node ≠ .bigDecimal ∧ ∀ k : Nat, S[k]? ≠ some Node.bigDecimal

variable {cfg : DeConfig} {S : Schema} {node : Node} {depth fuel : Nat}

/-! ### The datum deserializer on a cut encoding -/

/-- **C17 (error class of `de` on a cut value, reader back-end, any chunk schedule), every
    schema.** The input is the canonical encoding of a good value followed by anything, cut
    strictly inside the encoding; the allocation cap covers the uncut input: `de … .any` fails
    with an I/O error. -/
theorem C17_datum_cut_io_all (cfg : DeConfig) (S : Schema) (node : Node) (depth fuel : Nat)
    (v : Spec.Value) (hv : GoodVal cfg S node depth fuel v)
    (M : Nat) (s : RState) (hb : BOk M s) (y : Bytes) (j : Nat)
    (hr : s.rest = (encD S node v ++ y).take j) (hM : (encD S node v ++ y).length ≤ M)
    (hj : j < (encD S node v).length) :
    ∃ s', de deExtModel cfg S fuel node depth false .any s = (.error .io, s') :=
  de_cut_reader_io cfg S node v _ _ depth fuel hv.enc_eq hv.obs_eq hv.fix hv.depth hv.seq
    hv.fuel M s hb y j hr hM hj

/-- what follows the value plays no part (`y := []`): the cap has to cover the value -/
theorem de_datumCutCls_io (cfg : DeConfig) (S : Schema) (node : Node) (depth fuel M : Nat) :
    DatumCutCls (encD S node) M
      (fun v => GoodVal cfg S node depth fuel v ∧ (encD S node v).length ≤ M) (· = .io)
      (de deExtModel cfg S fuel node depth false .any) :=
  fun s v j hv hk hj hr => by
    obtain ⟨s', h⟩ := C17_datum_cut_io_all cfg S node depth fuel v hv.1 M s hk.toBOk [] j
      (by rw [List.append_nil]; exact hr) (by rw [List.append_nil]; exact hv.2) hj
    exact ⟨_, s', h, rfl⟩

/-- … in particular for a schema without `big-decimal` -/
theorem C17_datum_cut_io (cfg : DeConfig) (S : Schema) (node : Node) (depth fuel : Nat)
    (hnb : NoBigDecimal S node) (v : Spec.Value) (hv : GoodVal cfg S node depth fuel v)
    (M : Nat) (s : RState) (hb : BOk M s) (y : Bytes) (j : Nat)
    (hr : s.rest = (encD S node v ++ y).take j) (hM : (encD S node v ++ y).length ≤ M)
    (hj : j < (encD S node v).length) :
    ∃ s', de deExtModel cfg S fuel node depth false .any s = (.error .io, s') :=
  C17_datum_cut_io_all cfg S node depth fuel v hv M s hb y j hr hM hj

/-- The allocation cap must cover the value: a 5-byte byte string (`0A` then five bytes) of which
    one byte is present, cap 3 — the reader refuses the length (`custom`) before attempting the
    read that would hit the end; with cap 5 the read is attempted and fails (`io`). -/
theorem alloc_cap_needed :
    (de deExtModel {} #[.bytes] 20 .bytes 64 false .any
      { isSlice := false, rest := [10, 104], maxAlloc := 3 }).1 = .error .custom ∧
    (de deExtModel {} #[.bytes] 20 .bytes 64 false .any
      { isSlice := false, rest := [10, 104], maxAlloc := 5 }).1 = .error .io := by
  constructor <;>
  simp [de, deAny, readBytes, readLen, readVarint, fillBuf, decodeVar, decodeVarI64, decodeVarU64,
    decodeVarU64Aux, readSlice, readExactR, readSome, consume, bind, pure, DeM.fail, Prod.map,
    show (unzigzagBV (BitVec.ofNat 64 10)).toInt = 5 by decide]

/-! ### The streaming reader on a cut file -/

/-- **C17 (a cut file, exactly): null codec, reader back-end, any chunk schedule, the real datum
    deserializer, every schema.**  Hypotheses of `C17_yields_prefix_null_stream` and the cap `M`
    covering the uncut file.  Reading until the run stops yields, up to the `borrowed` flags,
    exactly `cutVals … false blocks m` — the values of the complete blocks and the values of the
    cut block that are entirely present — and ends as `cutEnd false (cutWhere … blocks m)` says;
    after an error the reader pretends end of stream. -/
theorem C17_cut_exact_stream_all (d : Decomp) (hn : d.isNull = true)
    (cfg : DeConfig) (S : Schema) (node : Node) (depth fuel : Nat)
    (sync : Bytes) (hsy : sync.length = 16)
    (blocks : List (List Spec.Value)) (hbs : ∀ b ∈ blocks, BlockOk (encD S node) b)
    (hgood : ∀ v ∈ blocks.flatten, GoodVal cfg S node depth fuel v)
    (m : Nat) (sched : List Nat) (lastChunk M : Nat)
    (hM : (fileBody (encD S node) sync blocks).length ≤ M) :
    Res unborrow (fun v => unborrow (obsD S node v))
      (readAllR d (de deExtModel cfg S fuel node depth false .any) (blocks.flatten.length + 1)
        (openReader sync ((fileBody (encD S node) sync blocks).take m) sched lastChunk M))
      (cutVals (encD S node) false blocks m, cutEnd false (cutWhere (encD S node) blocks m)) := by
  exact run_open_io hn hsy
    (DatumCutOk.okP
      (DatumCutOk.mono (de_datumCutOk_reader cfg S node depth fuel M) fun _ h => h.1))
    (fun _ => de_datumCutCls_io cfg S node depth fuel M) blocks hbs
    (fun v hv => ⟨hgood v hv, Nat.le_trans (length_le_fileBody _ sync hv) hM⟩) m sched lastChunk
    (fun _ => by rw [List.length_take]; omega)

/-- **C17 (the error class on the streaming reader), every schema.**  The file cut anywhere but at
    a block boundary / the end (`cutWhere … ≠ clean`, see `C17_cutWhere_clean_iff`): the values
    delivered are exactly `cutVals`, then comes an error of class `io`, then end of stream for
    ever. -/
theorem C17_cut_error_class_stream_all (d : Decomp) (hn : d.isNull = true)
    (cfg : DeConfig) (S : Schema) (node : Node) (depth fuel : Nat)
    (sync : Bytes) (hsy : sync.length = 16)
    (blocks : List (List Spec.Value)) (hbs : ∀ b ∈ blocks, BlockOk (encD S node) b)
    (hgood : ∀ v ∈ blocks.flatten, GoodVal cfg S node depth fuel v)
    (m : Nat) (sched : List Nat) (lastChunk M : Nat)
    (hM : (fileBody (encD S node) sync blocks).length ≤ M)
    (hcut : cutWhere (encD S node) blocks m ≠ .clean) :
    (readAll d (de deExtModel cfg S fuel node depth false .any) (blocks.flatten.length + 1)
        (openReader sync ((fileBody (encD S node) sync blocks).take m) sched lastChunk M)).1.map
          unborrow
      = (cutVals (encD S node) false blocks m).map (fun v => unborrow (obsD S node v)) ∧
    (readAll d (de deExtModel cfg S fuel node depth false .any) (blocks.flatten.length + 1)
        (openReader sync ((fileBody (encD S node) sync blocks).take m) sched lastChunk M)).2
      = .err .io ∧
    (∀ rf, rf = (readAllR d (de deExtModel cfg S fuel node depth false .any)
        (blocks.flatten.length + 1)
        (openReader sync ((fileBody (encD S node) sync blocks).take m) sched lastChunk M)).2.2 →
      next d (de deExtModel cfg S fuel node depth false .any) rf = (.ok none, rf)) := by
  obtain ⟨h1, h2, h3⟩ := C17_cut_exact_stream_all d hn cfg S node depth fuel sync hsy blocks hbs
    hgood m sched lastChunk M hM
  rw [readAllR_eq]
  rw [cutEnd_reader _ hcut] at h2 h3
  refine ⟨h1, h2, ?_⟩
  rintro rf rfl
  exact next_pretendEof _ _ _ (h3 _ rfl)

/-- **C17 (where a cut is clean).**  `cutWhere … = clean` exactly when the cut removes nothing or
    falls on a block boundary (after the complete sync marker of the `i`-th block, `i = 0`: before
    the first block). -/
theorem C17_cutWhere_clean_iff {V : Type} (enc : V → Bytes) (sync : Bytes) (hsy : sync.length = 16)
    (blocks : List (List V)) (m : Nat) :
    cutWhere enc blocks m = .clean ↔
      ((fileBody enc sync blocks).length ≤ m ∨
        ∃ i, i ≤ blocks.length ∧ m = (fileBody enc sync (blocks.take i)).length) :=
  cutWhere_clean_iff enc sync hsy blocks m

/-- **C17 (a cut at a block boundary is a clean end of stream), reader back-end, every schema.**
    The file cut after its first `i` blocks: the values of these blocks, all of them, then end of
    stream, no error (the reader cannot tell the file from a complete one). -/
theorem C17_cut_at_boundary_clean_all (d : Decomp) (hn : d.isNull = true)
    (cfg : DeConfig) (S : Schema) (node : Node) (depth fuel : Nat)
    (sync : Bytes) (hsy : sync.length = 16)
    (blocks : List (List Spec.Value)) (hbs : ∀ b ∈ blocks, BlockOk (encD S node) b)
    (hgood : ∀ v ∈ blocks.flatten, GoodVal cfg S node depth fuel v)
    (i : Nat) (hi : i ≤ blocks.length) (sched : List Nat) (lastChunk M : Nat)
    (hM : (fileBody (encD S node) sync blocks).length ≤ M) :
    (readAll d (de deExtModel cfg S fuel node depth false .any) (blocks.flatten.length + 1)
        (openReader sync ((fileBody (encD S node) sync blocks).take
          (fileBody (encD S node) sync (blocks.take i)).length) sched lastChunk M)).1.map unborrow
      = (blocks.take i).flatten.map (fun v => unborrow (obsD S node v)) ∧
    (readAll d (de deExtModel cfg S fuel node depth false .any) (blocks.flatten.length + 1)
        (openReader sync ((fileBody (encD S node) sync blocks).take
          (fileBody (encD S node) sync (blocks.take i)).length) sched lastChunk M)).2 = .eos := by
  obtain ⟨h1, h2, _⟩ := C17_cut_exact_stream_all d hn cfg S node depth fuel sync hsy blocks hbs
    hgood (fileBody (encD S node) sync (blocks.take i)).length sched lastChunk M hM
  rw [readAllR_eq]
  have hc : cutWhere (encD S node) blocks (fileBody (encD S node) sync (blocks.take i)).length
      = .clean := (cutWhere_clean_iff _ sync hsy blocks _).2 (.inr ⟨i, hi, rfl⟩)
  rw [hc] at h2
  rw [cutVals_boundary _ false sync hsy] at h1
  exact ⟨h1, h2⟩

/-- … and conversely: the run ends with end of stream ONLY IF the cut is at a block boundary or
    removes nothing; every schema. -/
theorem C17_clean_only_at_boundary_all (d : Decomp) (hn : d.isNull = true)
    (cfg : DeConfig) (S : Schema) (node : Node) (depth fuel : Nat)
    (sync : Bytes) (hsy : sync.length = 16)
    (blocks : List (List Spec.Value)) (hbs : ∀ b ∈ blocks, BlockOk (encD S node) b)
    (hgood : ∀ v ∈ blocks.flatten, GoodVal cfg S node depth fuel v)
    (m : Nat) (sched : List Nat) (lastChunk M : Nat)
    (hM : (fileBody (encD S node) sync blocks).length ≤ M)
    (heos : (readAll d (de deExtModel cfg S fuel node depth false .any)
        (blocks.flatten.length + 1)
        (openReader sync ((fileBody (encD S node) sync blocks).take m) sched lastChunk M)).2
      = .eos) :
    (fileBody (encD S node) sync blocks).length ≤ m ∨
      ∃ i, i ≤ blocks.length ∧ m = (fileBody (encD S node) sync (blocks.take i)).length := by
  apply (cutWhere_clean_iff _ sync hsy blocks m).1
  apply Classical.byContradiction
  intro hcut
  have := (C17_cut_error_class_stream_all d hn cfg S node depth fuel sync hsy blocks hbs hgood m
    sched lastChunk M hM hcut).2.1
  rw [this] at heos
  cases heos

/-! The same for a schema without `big-decimal` (`NoBigDecimal`), a hypothesis the theorems above do
not need. -/

theorem C17_cut_exact_stream (d : Decomp) (hn : d.isNull = true)
    (cfg : DeConfig) (S : Schema) (node : Node) (depth fuel : Nat) (hnb : NoBigDecimal S node)
    (sync : Bytes) (hsy : sync.length = 16)
    (blocks : List (List Spec.Value)) (hbs : ∀ b ∈ blocks, BlockOk (encD S node) b)
    (hgood : ∀ v ∈ blocks.flatten, GoodVal cfg S node depth fuel v)
    (m : Nat) (sched : List Nat) (lastChunk M : Nat)
    (hM : (fileBody (encD S node) sync blocks).length ≤ M) :
    Res unborrow (fun v => unborrow (obsD S node v))
      (readAllR d (de deExtModel cfg S fuel node depth false .any) (blocks.flatten.length + 1)
        (openReader sync ((fileBody (encD S node) sync blocks).take m) sched lastChunk M))
      (cutVals (encD S node) false blocks m, cutEnd false (cutWhere (encD S node) blocks m)) :=
  C17_cut_exact_stream_all d hn cfg S node depth fuel sync hsy blocks hbs hgood m sched lastChunk M hM

theorem C17_cut_error_class_stream (d : Decomp) (hn : d.isNull = true)
    (cfg : DeConfig) (S : Schema) (node : Node) (depth fuel : Nat) (hnb : NoBigDecimal S node)
    (sync : Bytes) (hsy : sync.length = 16)
    (blocks : List (List Spec.Value)) (hbs : ∀ b ∈ blocks, BlockOk (encD S node) b)
    (hgood : ∀ v ∈ blocks.flatten, GoodVal cfg S node depth fuel v)
    (m : Nat) (sched : List Nat) (lastChunk M : Nat)
    (hM : (fileBody (encD S node) sync blocks).length ≤ M)
    (hcut : cutWhere (encD S node) blocks m ≠ .clean) :
    (readAll d (de deExtModel cfg S fuel node depth false .any) (blocks.flatten.length + 1)
        (openReader sync ((fileBody (encD S node) sync blocks).take m) sched lastChunk M)).1.map
          unborrow
      = (cutVals (encD S node) false blocks m).map (fun v => unborrow (obsD S node v)) ∧
    (readAll d (de deExtModel cfg S fuel node depth false .any) (blocks.flatten.length + 1)
        (openReader sync ((fileBody (encD S node) sync blocks).take m) sched lastChunk M)).2
      = .err .io ∧
    (∀ rf, rf = (readAllR d (de deExtModel cfg S fuel node depth false .any)
        (blocks.flatten.length + 1)
        (openReader sync ((fileBody (encD S node) sync blocks).take m) sched lastChunk M)).2.2 →
      next d (de deExtModel cfg S fuel node depth false .any) rf = (.ok none, rf)) :=
  C17_cut_error_class_stream_all d hn cfg S node depth fuel sync hsy blocks hbs hgood m sched lastChunk
    M hM hcut

theorem C17_cut_at_boundary_clean (d : Decomp) (hn : d.isNull = true)
    (cfg : DeConfig) (S : Schema) (node : Node) (depth fuel : Nat) (hnb : NoBigDecimal S node)
    (sync : Bytes) (hsy : sync.length = 16)
    (blocks : List (List Spec.Value)) (hbs : ∀ b ∈ blocks, BlockOk (encD S node) b)
    (hgood : ∀ v ∈ blocks.flatten, GoodVal cfg S node depth fuel v)
    (i : Nat) (hi : i ≤ blocks.length) (sched : List Nat) (lastChunk M : Nat)
    (hM : (fileBody (encD S node) sync blocks).length ≤ M) :
    (readAll d (de deExtModel cfg S fuel node depth false .any) (blocks.flatten.length + 1)
        (openReader sync ((fileBody (encD S node) sync blocks).take
          (fileBody (encD S node) sync (blocks.take i)).length) sched lastChunk M)).1.map unborrow
      = (blocks.take i).flatten.map (fun v => unborrow (obsD S node v)) ∧
    (readAll d (de deExtModel cfg S fuel node depth false .any) (blocks.flatten.length + 1)
        (openReader sync ((fileBody (encD S node) sync blocks).take
          (fileBody (encD S node) sync (blocks.take i)).length) sched lastChunk M)).2 = .eos :=
  C17_cut_at_boundary_clean_all d hn cfg S node depth fuel sync hsy blocks hbs hgood i hi sched
    lastChunk M hM

/-- … in particular for a schema without `big-decimal` -/
theorem C17_clean_only_at_boundary (d : Decomp) (hn : d.isNull = true)
    (cfg : DeConfig) (S : Schema) (node : Node) (depth fuel : Nat) (hnb : NoBigDecimal S node)
    (sync : Bytes) (hsy : sync.length = 16)
    (blocks : List (List Spec.Value)) (hbs : ∀ b ∈ blocks, BlockOk (encD S node) b)
    (hgood : ∀ v ∈ blocks.flatten, GoodVal cfg S node depth fuel v)
    (m : Nat) (sched : List Nat) (lastChunk M : Nat)
    (hM : (fileBody (encD S node) sync blocks).length ≤ M)
    (heos : (readAll d (de deExtModel cfg S fuel node depth false .any)
        (blocks.flatten.length + 1)
        (openReader sync ((fileBody (encD S node) sync blocks).take m) sched lastChunk M)).2
      = .eos) :
    (fileBody (encD S node) sync blocks).length ≤ m ∨
      ∃ i, i ≤ blocks.length ∧ m = (fileBody (encD S node) sync (blocks.take i)).length :=
  C17_clean_only_at_boundary_all d hn cfg S node depth fuel sync hsy blocks hbs hgood m sched lastChunk M
    hM heos

/-! ### The slice back-end on a cut file -/

/-- **C17 (a cut file, exactly): null codec, SLICE back-end, the real datum deserializer.**
    The values delivered are exactly (not only up to `borrowed`) the `observe`s of
    `cutVals … true blocks m` — the complete blocks, and the cut block only if all its data is
    present (the cut is in its marker) — and the run ends as `cutEnd true (cutWhere …)` says:
    `custom` for a cut in a count / size / data, `io` for a cut in a marker. After an error the
    reader pretends end of stream. No hypothesis on the schema: on a slice the datum deserializer
    never sees a cut block. -/
theorem C17_cut_exact_slice (d : Decomp) (hn : d.isNull = true)
    (cfg : DeConfig) (S : Schema) (node : Node) (depth fuel : Nat)
    (sync : Bytes) (hsy : sync.length = 16)
    (blocks : List (List Spec.Value)) (hbs : ∀ b ∈ blocks, BlockOk (encD S node) b)
    (hgood : ∀ v ∈ blocks.flatten, GoodVal cfg S node depth fuel v) (m : Nat) :
    Res id (obsD S node)
      (readAllR d (de deExtModel cfg S fuel node depth false .any) (blocks.flatten.length + 1)
        (openSlice sync ((fileBody (encD S node) sync blocks).take m)))
      (cutVals (encD S node) true blocks m, cutEnd true (cutWhere (encD S node) blocks m)) := by
  rw [openSlice_eq]
  exact run_open_io hn hsy (DatumCutOk.okP (de_datumCutOk_slice cfg S node depth fuel _)) nofun
    blocks hbs hgood m [] 1 nofun

/-- **C17 (the error class on the slice back-end).** -/
theorem C17_cut_error_class_slice (d : Decomp) (hn : d.isNull = true)
    (cfg : DeConfig) (S : Schema) (node : Node) (depth fuel : Nat)
    (sync : Bytes) (hsy : sync.length = 16)
    (blocks : List (List Spec.Value)) (hbs : ∀ b ∈ blocks, BlockOk (encD S node) b)
    (hgood : ∀ v ∈ blocks.flatten, GoodVal cfg S node depth fuel v) (m : Nat)
    (hcut : cutWhere (encD S node) blocks m ≠ .clean) :
    readAll d (de deExtModel cfg S fuel node depth false .any) (blocks.flatten.length + 1)
        (openSlice sync ((fileBody (encD S node) sync blocks).take m))
      = ((cutVals (encD S node) true blocks m).map (obsD S node),
         .err (if cutWhere (encD S node) blocks m = .marker then .io else .custom)) ∧
    (∀ rf, rf = (readAllR d (de deExtModel cfg S fuel node depth false .any)
        (blocks.flatten.length + 1)
        (openSlice sync ((fileBody (encD S node) sync blocks).take m))).2.2 →
      next d (de deExtModel cfg S fuel node depth false .any) rf = (.ok none, rf)) := by
  obtain ⟨h1, h2, h3⟩ := C17_cut_exact_slice d hn cfg S node depth fuel sync hsy blocks hbs
    hgood m
  rw [readAllR_eq]
  rw [List.map_id] at h1
  have he : cutEnd true (cutWhere (encD S node) blocks m)
      = .err (if cutWhere (encD S node) blocks m = .marker then .io else .custom) := by
    cases hw : cutWhere (encD S node) blocks m with
    | clean => exact absurd hw hcut
    | header => rfl
    | data => rfl
    | marker => rfl
  rw [he] at h2 h3
  refine ⟨Prod.ext h1 h2, ?_⟩
  rintro rf rfl
  exact next_pretendEof _ _ _ (h3 _ rfl)

/-- a cut at a block boundary on the slice back-end: the complete blocks, end of stream -/
theorem C17_cut_at_boundary_clean_slice (d : Decomp) (hn : d.isNull = true)
    (cfg : DeConfig) (S : Schema) (node : Node) (depth fuel : Nat)
    (sync : Bytes) (hsy : sync.length = 16)
    (blocks : List (List Spec.Value)) (hbs : ∀ b ∈ blocks, BlockOk (encD S node) b)
    (hgood : ∀ v ∈ blocks.flatten, GoodVal cfg S node depth fuel v)
    (i : Nat) (hi : i ≤ blocks.length) :
    readAll d (de deExtModel cfg S fuel node depth false .any) (blocks.flatten.length + 1)
        (openSlice sync ((fileBody (encD S node) sync blocks).take
          (fileBody (encD S node) sync (blocks.take i)).length))
      = ((blocks.take i).flatten.map (obsD S node), .eos) := by
  obtain ⟨h1, h2, _⟩ := C17_cut_exact_slice d hn cfg S node depth fuel sync hsy blocks hbs
    hgood (fileBody (encD S node) sync (blocks.take i)).length
  rw [readAllR_eq]
  have hc : cutWhere (encD S node) blocks (fileBody (encD S node) sync (blocks.take i)).length
      = .clean := (cutWhere_clean_iff _ sync hsy blocks _).2 (.inr ⟨i, hi, rfl⟩)
  rw [hc] at h2
  rw [cutVals_boundary _ true sync hsy, List.map_id] at h1
  exact Prod.ext h1 h2

/-! ### Non-vacuity: one cut of each kind, on the example file of `C17stream`

`exFile` = `04 04 02 04` marker(16) `02 04 D8 04` marker(16): two blocks, the ints `[1, 2]` and
`[300]`; 40 bytes; block boundaries at 0, 20, 40. -/

namespace C17class
open C17stream

theorem exWhere :
    cutWhere exEnc exBlocks 0 = .clean ∧ cutWhere exEnc exBlocks 1 = .header ∧
    cutWhere exEnc exBlocks 2 = .data ∧ cutWhere exEnc exBlocks 3 = .data ∧
    cutWhere exEnc exBlocks 4 = .marker ∧ cutWhere exEnc exBlocks 19 = .marker ∧
    cutWhere exEnc exBlocks 20 = .clean ∧ cutWhere exEnc exBlocks 21 = .header ∧
    cutWhere exEnc exBlocks 23 = .data ∧ cutWhere exEnc exBlocks 30 = .marker ∧
    cutWhere exEnc exBlocks 40 = .clean ∧ cutWhere exEnc exBlocks 41 = .clean := by
  simp [cutWhere, hdr, Stream.blockData, exBlocks, exEnc1, exEnc2, exEnc300, exVar1, exVar2]

/-- which values are delivered: the reader delivers the first value of a cut block, the slice
    refuses the block -/
theorem exVals :
    cutVals exEnc false exBlocks 3 = [.int 1] ∧ cutVals exEnc true exBlocks 3 = [] ∧
    cutVals exEnc false exBlocks 23 = [.int 1, .int 2] ∧
    cutVals exEnc true exBlocks 30 = [.int 1, .int 2, .int 300] := by
  simp [cutVals, fitting, hdr, Stream.blockData, exBlocks, exEnc1, exEnc2, exEnc300, exVar1, exVar2]

theorem exLen : (fileBody exEnc exSync exBlocks).length = 40 := by
  show exFile.length = 40
  rw [exFile_eq]; rfl

/-- the general theorems apply to the example: every cut that is not clean, every chunk
    schedule — class `io` on the reader … -/
theorem ex_class_stream (m : Nat) (sched : List Nat) (lastChunk : Nat)
    (h : cutWhere exEnc exBlocks m ≠ .clean) :
    (readAll exNull exDatum 4 (openReader exSync (exFile.take m) sched lastChunk 1000)).2
      = .err .io :=
  (C17_cut_error_class_stream_all exNull rfl {} #[.int] .int 64 20 exSync rfl exBlocks
    exBlockOk exGood m sched lastChunk 1000 (by rw [show encD #[.int] .int = exEnc from rfl, exLen]; omega) h).2.1

/-- … and `custom` or `io` on the slice -/
theorem ex_class_slice (m : Nat) (h : cutWhere exEnc exBlocks m ≠ .clean) :
    (readAll exNull exDatum 4 (openSlice exSync (exFile.take m))).2
      = .err (if cutWhere exEnc exBlocks m = .marker then .io else .custom) :=
  congrArg Prod.snd (C17_cut_error_class_slice exNull rfl {} #[.int] .int 64 20 exSync rfl
    exBlocks exBlockOk exGood m h).1

theorem ex_boundary (sched : List Nat) (lastChunk : Nat) :
    (readAll exNull exDatum 4 (openReader exSync (exFile.take 20) sched lastChunk 1000)).2
      = .eos := by
  have h := (C17_cut_at_boundary_clean_all exNull rfl {} #[.int] .int 64 20 exSync rfl exBlocks
    exBlockOk exGood 1 (by decide) sched lastChunk 1000
    (by rw [show encD #[.int] .int = exEnc from rfl, exLen]; omega)).2
  have e : (fileBody (encD #[.int] .int) exSync (exBlocks.take 1)).length = 20 := by
    show (fileBody exEnc exSync (exBlocks.take 1)).length = 20
    simp [fileBody, Stream.blockBytes, Stream.blockData, exBlocks, exEnc1, exEnc2, exVar2, exSync]
  rw [e] at h
  exact h

/-- Direct evaluation, reader back-end, chunks of 1, 2, then 3 bytes: a cut between count and
    size (1), in the data (3), in the marker (10), at the block boundary (20), in the second
    block's size (21). -/
theorem ex_eval_stream :
    readAll exNull exDatum 4 (openReader exSync (exFile.take 1) [1, 2] 3 1000) = ([], .err .io) ∧
    readAll exNull exDatum 4 (openReader exSync (exFile.take 3) [1, 2] 3 1000)
      = ([.i32 1], .err .io) ∧
    readAll exNull exDatum 4 (openReader exSync (exFile.take 10) [1, 2] 3 1000)
      = ([.i32 1, .i32 2], .err .io) ∧
    readAll exNull exDatum 4 (openReader exSync (exFile.take 20) [1, 2] 3 1000)
      = ([.i32 1, .i32 2], .eos) ∧
    readAll exNull exDatum 4 (openReader exSync (exFile.take 21) [1, 2] 3 1000)
      = ([.i32 1, .i32 2], .err .io) :=
  ⟨run_eq_of (by decide +kernel), run_eq_of (by decide +kernel), run_eq_of (by decide +kernel),
    run_eq_of (by decide +kernel), run_eq_of (by decide +kernel)⟩

/-- Direct evaluation, slice back-end: `custom` in a header (1) and in the data (3, the block is
    refused: no value), `io` in the marker (10, both values delivered first), clean at 20. -/
theorem ex_eval_slice :
    readAll exNull exDatum 4 (openSlice exSync (exFile.take 1)) = ([], .err .custom) ∧
    readAll exNull exDatum 4 (openSlice exSync (exFile.take 3)) = ([], .err .custom) ∧
    readAll exNull exDatum 4 (openSlice exSync (exFile.take 10)) = ([.i32 1, .i32 2], .err .io) ∧
    readAll exNull exDatum 4 (openSlice exSync (exFile.take 20)) = ([.i32 1, .i32 2], .eos) :=
  ⟨run_eq_of (by decide +kernel), run_eq_of (by decide +kernel), run_eq_of (by decide +kernel),
    run_eq_of (by decide +kernel)⟩

end C17class

end Avro.Theorems
