import AvroModel.Lemmas.DeriveRel
/-
C20 — derived schemas fit their types.  Theorems over the model of `serde_avro_derive`
(`Impl/Derive.lean`): the builder's reuse discipline and the type → Avro-type mapping.
(The other parts of C20 are indexed in `Theorems/C20full.lean`.)
-/
namespace Avro.Theorems
open Avro Avro.Impl Avro.Impl.Derive

/-- `find_or_build` on a type whose lookup type is already registered returns the registered node
    and leaves the builder untouched: a type is built once, however often it is referred to. -/
theorem C20_findOrBuild_reuses (P : Prog) (hash : Key → String) (fuel : Nat) (t : Ty) (s : BState)
    (key : Key) (idx : Nat) (hk : lookupKey P (fuel + 1) t = some key) (hb : s.built.lookup key = some idx) :
    findOrBuild P hash (fuel + 1) t s = some (idx, s) :=
  (Builds.found hk hb).ran

/-- A type not yet registered is registered *before* it is built (reserve-then-fill: a recursive
    reference met while building it resolves to the node being built), and gets the next index. -/
theorem C20_findOrBuild_registers_first (P : Prog) (hash : Key → String) (fuel : Nat) (t : Ty) (s : BState)
    (key : Key) (hk : lookupKey P (fuel + 1) t = some key) (hb : s.built.lookup key = none)
    (idx : Nat) (s' : BState) (h : findOrBuild P hash (fuel + 1) t s = some (idx, s')) :
    idx = s.nodes.size ∧ idx < s'.nodes.size ∧
      ∃ u, appendSchema P hash fuel t { s with built := (key, s.nodes.size) :: s.built } = some (u, s') := by
  cases Builds.of_ran _ (.find t idx) _ _ h with
  | found hk' hb' => rw [hk] at hk'; cases hk'; rw [hb] at hb'; cases hb'
  | built hk' _ ha hlt => rw [hk] at hk'; cases hk'; exact ⟨rfl, hlt, (), ha.ran⟩

/-- Pointers and references are transparent for the lookup type (and so for node reuse). -/
theorem C20_ptr_transparent (P : Prog) (fuel : Nat) (t : Ty) :
    lookupKey P (fuel + 1) (.ptr t) = lookupKey P fuel t :=
  rfl

/-- The integer types map to the Avro type that holds their whole range except `u64`/`usize`,
    which map to `long` (values above `i64::MAX` are outside the property's domain). -/
theorem C20_int_mapping (P : Prog) (fuel : Nat) :
    lookupKey P (fuel + 1) .i8 = some [.int] ∧ lookupKey P (fuel + 1) .i16 = some [.int] ∧
    lookupKey P (fuel + 1) .u16 = some [.int] ∧ lookupKey P (fuel + 1) .i32 = some [.int] ∧
    lookupKey P (fuel + 1) .u32 = some [.long] ∧ lookupKey P (fuel + 1) .u64 = some [.long] ∧
    lookupKey P (fuel + 1) .usize = some [.long] ∧ lookupKey P (fuel + 1) .i64 = some [.long] :=
  ⟨rfl, rfl, rfl, rfl, rfl, rfl, rfl, rfl⟩

/-- `Option<T>` is the union of null and `T`, both through `find_or_build`, in the reserved slot. -/
theorem C20_option_is_union (P : Prog) (hash : Key → String) (fuel : Nat) (t : Ty) (s s' : BState) (u : Unit)
    (h : appendSchema P hash (fuel + 1) (.option t) s = some (u, s')) :
    ∃ a b, s'.nodes[s.nodes.size]? = some (plain (.union [a, b])) := by
  cases Builds.of_ran _ (.append (.option t)) _ _ h with
  | leaf hl => cases hl
  | wrap hw => cases hw
  | @option _ _ a b _ _ _ _ _ _ hset =>
    obtain ⟨hlt, rfl⟩ := setNode_some hset
    exact ⟨a, b, by simp [Array.set!, hlt]⟩

end Avro.Theorems
