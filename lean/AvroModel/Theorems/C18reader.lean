import AvroModel.Theorems.C18
import AvroModel.Theorems.C01reader
import AvroModel.Theorems.ExampleDataB
import AvroModel.Lemmas.C18Reader
/-
C18 on the STREAMING-READER back-end (`from_single_object_reader`,
/repo/serde_avro_fast/src/single_object_encoding.rs:32-43): `read_exact` of the 10-byte header on
an `impl BufRead` — here a reader state `r` with ANY refill schedule, buffer position and scratch
size —, `check_header`, then `from_datum_reader` on the same reader.  (`Theorems/C18.lean` and
`Theorems/C18full.lean` are about the slice.)

The rejections and the acceptance are readings of `fromSingleObject_reader_spec`
(Lemmas/C18Reader.lean: the reader branch is ONE `if checkHeader …` at ONE state `r'` that depends
on the refill schedule only) and of the header check (`checkHeader_iff`, `checkHeader_ten`,
`header_take`, Theorems/C18.lean); slice ⇔ reader is `fromSingleObject_rel` (C11 carried through
the header); write then read composes `C18_frame`, `C18_accepts_reader` and
`C01_roundtrip_impl_reader`.

Conventions as in `Theorems/C03reader.lean`; of the state hypotheses the first three fields of
`ReaderOK` are asked, the fourth, the allocation cap, only when a datum is read, and then only for
what follows the header.
-/
namespace Avro.Theorems
open Avro Avro.Impl Avro.Spec

universe u

/-- **C18, short header, streaming reader.**  Fewer than 10 bytes before the end of the stream:
    the I/O error of `read_exact`, for ANY refill schedule; the outcome — error and final state —
    does not depend on `datum` (nor on `fp`): no datum read is attempted. -/
theorem C18_short_header_err_reader (r : RState) (hs : r.isSlice = false) (hl : r.limit = none)
    (ha : r.avail ≤ r.rest.length) (hlen : r.rest.length < 10) :
    ∃ r', Frame r r' ∧ ∀ (α : Type u) (fp : Bytes) (datum : RState → Except DeErr α × RState),
      fromSingleObject fp datum r = (.error .io, r') :=
  (fromSingleObject_reader_spec r hs ha).1 (by rw [eff_of_limit_none hl]; exact hlen)

/-- **C18, wrong marker, streaming reader.**  The first two bytes are not `C3 01`: the custom
    error of `check_header`, at the state `r'` reached by reading the 10 header bytes (which
    depends on the schedule only); the outcome does not depend on `datum` (nor on `fp`). -/
theorem C18_marker_err_reader (r : RState) (hs : r.isSlice = false) (hl : r.limit = none)
    (ha : r.avail ≤ r.rest.length) (hlen : 10 ≤ r.rest.length)
    (hm : (r.rest.take 10).take 2 ≠ [0xC3, 0x01]) :
    ∃ r', Adv 10 r r' ∧ Frame r r' ∧
      ∀ (α : Type u) (fp : Bytes) (datum : RState → Except DeErr α × RState),
        fromSingleObject fp datum r = (.error .custom, r') := by
  obtain ⟨r', a, f, e⟩ :=
    (fromSingleObject_reader_spec r hs ha).2 (by rw [eff_of_limit_none hl]; exact hlen)
  exact ⟨r', a, f, fun α fp datum => by
    rw [e α fp datum, if_neg fun h => hm ((checkHeader_iff _ _).1 h).1]⟩

/-- **C18, wrong fingerprint, streaming reader.**  Bytes 2..10 are not the schema's fingerprint:
    a message written under a schema with another fingerprint is never decoded; the outcome does
    not depend on `datum`. -/
theorem C18_fingerprint_err_reader (fp : Bytes) (r : RState) (hs : r.isSlice = false)
    (hl : r.limit = none) (ha : r.avail ≤ r.rest.length) (hlen : 10 ≤ r.rest.length)
    (hf : ((r.rest.take 10).drop 2).take 8 ≠ fp) :
    ∃ r', Adv 10 r r' ∧ Frame r r' ∧
      ∀ (α : Type u) (datum : RState → Except DeErr α × RState),
        fromSingleObject fp datum r = (.error .custom, r') := by
  obtain ⟨r', a, f, e⟩ :=
    (fromSingleObject_reader_spec r hs ha).2 (by rw [eff_of_limit_none hl]; exact hlen)
  exact ⟨r', a, f, fun α datum => by
    rw [e α fp datum, if_neg fun h => hf ((checkHeader_iff _ _).1 h).2]⟩

/-- The three rejections in the form of the slice theorems (`Theorems/C18.lean`), for a state
    satisfying `ReaderOK`. -/
theorem C18_short_header_err_reader_fst {α : Type u} (fp : Bytes)
    (datum : RState → Except DeErr α × RState) (r : RState) (hr : ReaderOK r)
    (hlen : r.rest.length < 10) : (fromSingleObject fp datum r).1 = .error .io := by
  obtain ⟨r', _, e⟩ := C18_short_header_err_reader r hr.reader hr.nolimit hr.avail hlen
  rw [e α fp datum]

theorem C18_marker_err_reader_fst {α : Type u} (fp : Bytes)
    (datum : RState → Except DeErr α × RState) (r : RState) (hr : ReaderOK r)
    (hlen : 10 ≤ r.rest.length) (hm : (r.rest.take 10).take 2 ≠ [0xC3, 0x01]) :
    (fromSingleObject fp datum r).1 = .error .custom := by
  obtain ⟨r', _, _, e⟩ := C18_marker_err_reader r hr.reader hr.nolimit hr.avail hlen hm
  rw [e α fp datum]

theorem C18_fingerprint_err_reader_fst {α : Type u} (fp : Bytes)
    (datum : RState → Except DeErr α × RState) (r : RState) (hr : ReaderOK r)
    (hlen : 10 ≤ r.rest.length) (hf : ((r.rest.take 10).drop 2).take 8 ≠ fp) :
    (fromSingleObject fp datum r).1 = .error .custom := by
  obtain ⟨r', _, _, e⟩ := C18_fingerprint_err_reader fp r hr.reader hr.nolimit hr.avail hlen hf
  rw [e α datum]

/-- **C18, acceptance, streaming reader.**  On a well-formed header the datum deserializer runs
    on exactly what follows the header: there is ONE state `r'`, the same for every `datum`
    (it depends on the refill schedule), with `payload` left, still the reader back-end, no
    `Take`, a well-formed buffer, the same allocation cap, scratch size and `lastChunk`, and what
    is left of the schedule, such that `fromSingleObject fp datum r = datum r'`. -/
theorem C18_accepts_reader (fp : Bytes) (r : RState) (hs : r.isSlice = false)
    (hl : r.limit = none) (ha : r.avail ≤ r.rest.length) (payload : Bytes) (hfp : fp.length = 8)
    (hr : r.rest = [0xC3, 0x01] ++ fp ++ payload) :
    ∃ r', r'.rest = payload ∧ r'.isSlice = false ∧ r'.limit = none ∧ r'.avail ≤ r'.rest.length ∧
      r'.maxAlloc = r.maxAlloc ∧ Frame r r' ∧
      ∀ (α : Type u) (datum : RState → Except DeErr α × RState),
        fromSingleObject fp datum r = datum r' := by
  obtain ⟨h10, hd⟩ := header_take (payload := payload) hfp
  rw [← hr] at h10 hd
  obtain ⟨r', a, f, e⟩ := (fromSingleObject_reader_spec r hs ha).2
    (by rw [eff_of_limit_none hl, hr]; simp [hfp])
  have hs' : r'.isSlice = false := a.isSlice.trans hs
  refine ⟨r', by rw [a.rest, hd], hs', by rw [a.limit, hl]; rfl, a.wf hs', a.maxAlloc, f,
    fun α datum => ?_⟩
  rw [e α fp datum, h10, (checkHeader_ten (by simp [hfp])).2 rfl, if_pos rfl]

/-- … in particular from a state satisfying `ReaderOK` the datum deserializer is started on a
    state satisfying `ReaderOK`. -/
theorem C18_accepts_reader_ok (fp : Bytes) (r : RState) (hr : ReaderOK r) (payload : Bytes)
    (hfp : fp.length = 8) (hrest : r.rest = [0xC3, 0x01] ++ fp ++ payload) :
    ∃ r', r'.rest = payload ∧ ReaderOK r' ∧ Frame r r' ∧
      ∀ (α : Type u) (datum : RState → Except DeErr α × RState),
        fromSingleObject fp datum r = datum r' := by
  obtain ⟨r', h1, h2, h3, h4, h5, h6, h7⟩ :=
    C18_accepts_reader fp r hr.reader hr.nolimit hr.avail payload hfp hrest
  refine ⟨r', h1, ⟨h2, h3, h4, ?_⟩, h6, h7⟩
  have := hr.alloc
  rw [h5, h1]
  rw [hrest] at this
  simp only [List.length_append] at this
  omega

/-- **Conversely**: the streaming reader delivers a value only from an input that starts with
    `C3 01` and the schema's fingerprint, and then it is `datum`'s, run on a state over exactly
    what follows (`fp` is then 8 bytes long). -/
theorem C18_reader_ok_only_if_header {α : Type u} (fp : Bytes)
    (datum : RState → Except DeErr α × RState) (r : RState) (hs : r.isSlice = false)
    (hl : r.limit = none) (ha : r.avail ≤ r.rest.length) (a : α) (rf : RState)
    (hok : fromSingleObject fp datum r = (.ok a, rf)) :
    ∃ payload r', r.rest = [0xC3, 0x01] ++ fp ++ payload ∧ fp.length = 8 ∧ r'.rest = payload ∧
      datum r' = (.ok a, rf) := by
  have hsp := fromSingleObject_reader_spec r hs ha
  rw [eff_of_limit_none hl] at hsp
  by_cases hlen : 10 ≤ r.rest.length
  · obtain ⟨r', adv, _, e⟩ := hsp.2 hlen
    rw [e α fp datum] at hok
    have hten : (r.rest.take 10).length = 10 := by rw [List.length_take]; omega
    by_cases hc : checkHeader fp (r.rest.take 10) = true
    · rw [if_pos hc] at hok
      have h10 := (checkHeader_ten hten).1 hc
      refine ⟨r.rest.drop 10, r', by rw [← h10, List.take_append_drop], ?_, adv.rest, hok⟩
      rw [h10] at hten; simpa using hten
    · rw [if_neg hc] at hok; cases hok
  · obtain ⟨r', _, e⟩ := hsp.1 (by omega)
    rw [e α fp datum] at hok; cases hok

/-- **C11 for `from_single_object_*`**, with the real datum deserializer: from a reader state and
    the slice state over the same bytes both fail, or both succeed with values equal up to
    `unborrow` and related final states (`RelD`, `Lemmas/SliceReader.lean`). -/
theorem C18_reader_slice_rel (ext : DeExt) (cfg : DeConfig) (S : Schema) (fuel : Nat) (fp : Bytes)
    (node : Node) (depth : Nat) (favor : Bool) (h : Hint) :
    RelD true true Ro (fromSingleObject fp (de ext cfg S fuel node depth favor h))
      (fromSingleObject fp (de ext cfg S fuel node depth favor h)) :=
  fromSingleObject_rel fp ((deRel_all ext cfg S fuel).de node depth favor h trivial)

/-- **Transfer, slice ⇒ reader**: what `from_single_object_slice` returns on the remaining bytes,
    `from_single_object_reader` returns up to `unborrow`, for any refill schedule. -/
theorem C18_reader_of_slice (ext : DeExt) (cfg : DeConfig) (S : Schema) (fuel : Nat) (fp : Bytes)
    (node : Node) (depth : Nat) (favor : Bool) (h : Hint)
    {r : RState} (hr : ReaderOK r) {o : Out} {sl' : RState}
    (hsl : fromSingleObject fp (de ext cfg S fuel node depth favor h) (sliceOf r) = (.ok o, sl')) :
    ∃ o' r', fromSingleObject fp (de ext cfg S fuel node depth favor h) r = (.ok o', r') ∧
      unborrow o' = unborrow o ∧ r'.rest = sl'.rest ∧ ReaderOK r' :=
  (C18_reader_slice_rel ext cfg S fuel fp node depth favor h).reader_of_slice hr hsl

/-- **Transfer, reader ⇒ slice.** -/
theorem C18_slice_of_reader (ext : DeExt) (cfg : DeConfig) (S : Schema) (fuel : Nat) (fp : Bytes)
    (node : Node) (depth : Nat) (favor : Bool) (h : Hint)
    {r : RState} (hr : ReaderOK r) {o : Out} {r' : RState}
    (hrd : fromSingleObject fp (de ext cfg S fuel node depth favor h) r = (.ok o, r')) :
    ∃ o' sl', fromSingleObject fp (de ext cfg S fuel node depth favor h) (sliceOf r) = (.ok o', sl') ∧
      unborrow o = unborrow o' ∧ r'.rest = sl'.rest ∧ ReaderOK r' :=
  (C18_reader_slice_rel ext cfg S fuel fp node depth favor h).slice_of_reader hr hrd

/- Write then read is not `C18_reader_of_slice` applied to `C18_write_read`: `ReaderOK r` would ask
   the allocation cap to cover the 10 header bytes too; here it covers the datum and what follows. -/

/-- **C18, write then read, streaming reader.**  `toSingleObject fp (ser …)` on an unlimited
    writer, for a presentation under the side conditions of `C01_roundtrip_impl`, appends
    `C3 01 ++ fp ++ bytes` with `bytes = Spec.encode S node v` for a value `v` that `sv` denotes
    (as `C18_write_read`); and `fromSingleObject fp (de …)` on EVERY streaming-reader state over
    that message followed by anything — any refill schedule `r.sched` / `r.lastChunk`, any buffer
    position, any scratch size, an allocation cap that covers what follows the header — returns
    `Spec.observe S node v` up to the `borrowed` flags and leaves exactly what followed, in a
    state from which the next message can be read (`ReaderOK r'`). -/
theorem C18_write_read_reader (f : Canon.Allow) (ext : Ext) (allowSlow : Bool)
    (S : Schema) (node : Node) (sv : SV) (fp : Bytes) (hfp : fp.length = 8) (s₀ : SerState)
    (hok : (toSingleObject fp (ser ext allowSlow S node sv) s₀).1 = .ok ())
    (hs : Good s₀) (hS : SchemaOK S) (hnode : NodeOK S node) (hsv : svOK sv = true)
    (hext : ExtOK ext)
    (hcanon : Canon.svCanon f sv = true)
    (hallowS : ∀ (k : Nat) (n : Node), S[k]? = some n → Canon.nodeAllows f n = true)
    (hallowN : Canon.nodeAllows f node = true)
    (hfixS : Schema.fixedDecFits S) (hfixN : node.fixedDecFits = true) :
    ∃ s' bytes v, toSingleObject fp (ser ext allowSlow S node sv) s₀ = (.ok (), s') ∧
      s'.out = s₀.out ++ ([0xC3, 0x01] ++ fp ++ bytes) ∧
      Spec.encode S node v = some bytes ∧
      Spec.denotes (denExtOf ext) S node sv v = true ∧
      ∀ (cfg : DeConfig) (depth : Nat) (o : Out), Spec.observe S node v = some o →
        Spec.depthOf v ≤ depth → Spec.maxLen v ≤ cfg.maxSeqSize →
        ∀ fuel, Spec.size v * 4 + 8 ≤ fuel → ∀ (rest : Bytes) (r : RState),
          r.isSlice = false → r.limit = none → r.avail ≤ r.rest.length →
          (bytes ++ rest).length ≤ r.maxAlloc →
          r.rest = [0xC3, 0x01] ++ fp ++ bytes ++ rest →
          ∃ o' r', fromSingleObject fp (de deExtModel cfg S fuel node depth false .any) r =
              (.ok o', r') ∧
            unborrow o' = unborrow o ∧ r'.rest = rest ∧ ReaderOK r' := by
  have hframe := C18_frame fp (ser ext allowSlow S node sv) s₀ hs.1
  rw [hframe] at hok ⊢
  have hs1 : Good { s₀ with out := s₀.out ++ [0xC3, 0x01] ++ fp } := ⟨hs.1, hs.2⟩
  obtain ⟨s', bytes, v, hrun, hout, henc, hden, hde⟩ :=
    C01_roundtrip_impl_reader f ext allowSlow S node sv _ hok hs1 hS hnode hsv hext hcanon hallowS
      hallowN hfixS hfixN
  refine ⟨s', bytes, v, hrun, ?_, henc, hden, ?_⟩
  · rw [hout]; simp [List.append_assoc]
  · intro cfg depth o hobs hdepth hseq fuel hfuel rest r hsl hl ha hm hr
    obtain ⟨r₁, h1, h2, h3, h4, h5, _, h7⟩ :=
      C18_accepts_reader fp r hsl hl ha (bytes ++ rest) hfp (by rw [hr]; simp [List.append_assoc])
    rw [h7 Out]
    exact hde cfg depth o hobs hdepth hseq fuel hfuel rest r₁ h2 h3 h4 (by rw [h1, h5]; exact hm) h1

/-- The message on its own: written on the empty `Vec`, read back through a FRESH reader over
    exactly the message, with an arbitrary chunk schedule (`sched`, then `lastChunk` forever),
    scratch size and an allocation cap covering the datum; the limits are stated on the
    presentation (as in `C18_write_read_msg`).  The reader returns the observation of a value the
    presentation denotes, up to the `borrowed` flags, and consumes everything. -/
theorem C18_write_read_msg_reader (f : Canon.Allow) (ext : Ext) (allowSlow : Bool) (cfg : DeConfig)
    (S : Schema) (node : Node) (sv : SV) (fp : Bytes) (hfp : fp.length = 8) (depth : Nat)
    (hok : (toSingleObject fp (ser ext allowSlow S node sv) {}).1 = .ok ())
    (hS : SchemaOK S) (hnode : NodeOK S node) (hsv : svOK sv = true)
    (hext : ExtOK ext)
    (hcanon : Canon.svCanon f sv = true)
    (hallowS : ∀ (k : Nat) (n : Node), S[k]? = some n → Canon.nodeAllows f n = true)
    (hallowN : Canon.nodeAllows f node = true)
    (hfixS : Schema.fixedDecFits S) (hfixN : node.fixedDecFits = true)
    (hlim : ∀ v, Spec.denotes (denExtOf ext) S node sv v = true →
      (Spec.observe S node v).isSome = true ∧ Spec.depthOf v ≤ depth ∧
        Spec.maxLen v ≤ cfg.maxSeqSize) :
    ∃ s' v o, toSingleObject fp (ser ext allowSlow S node sv) {} = (.ok (), s') ∧
      Spec.denotes (denExtOf ext) S node sv v = true ∧ Spec.observe S node v = some o ∧
      ∀ fuel, Spec.size v * 4 + 8 ≤ fuel →
        ∀ (sched : List Nat) (lastChunk maxAlloc scratch : Nat), s'.out.length ≤ maxAlloc + 10 →
        ∃ o' r', fromSingleObject fp (de deExtModel cfg S fuel node depth false .any)
            { isSlice := false, rest := s'.out, avail := 0, sched := sched,
              lastChunk := lastChunk, maxAlloc := maxAlloc, scratch := scratch, limit := none } =
            (.ok o', r') ∧
          unborrow o' = unborrow o ∧ r'.rest = [] ∧ ReaderOK r' := by
  obtain ⟨s', bytes, v, hrun, hout, _, hden, hrd⟩ :=
    C18_write_read_reader f ext allowSlow S node sv fp hfp {} hok C01glue.good_empty hS hnode hsv
      hext hcanon hallowS hallowN hfixS hfixN
  obtain ⟨hobs, hdepth, hseq⟩ := hlim v hden
  obtain ⟨o, ho⟩ := Option.isSome_iff_exists.1 hobs
  refine ⟨s', v, o, hrun, hden, ho, ?_⟩
  intro fuel hfuel sched lastChunk maxAlloc scratch hm
  have hout' : s'.out = [0xC3, 0x01] ++ fp ++ bytes ++ [] := by rw [hout]; simp
  refine hrd cfg depth o ho hdepth hseq fuel hfuel [] _ rfl rfl (Nat.zero_le _) ?_ hout'
  rw [hout'] at hm
  simp only [List.length_append, hfp, List.length_cons, List.length_nil] at hm ⊢
  omega

/-! ### Non-vacuity (data: `Theorems/ExampleDataB.lean`) -/

namespace C18ReaderNV
open Avro.Theorems.NVB Avro.NonVacuityA Avro.Theorems.ReaderNV Driver

/-- a fresh streaming reader over `bs`, EVERYTHING about the schedule left as a parameter -/
def rd (bs : Bytes) (sched : List Nat) (lastChunk maxAlloc scratch : Nat) : RState :=
  { isSlice := false, rest := bs, avail := 0, sched := sched, lastChunk := lastChunk,
    maxAlloc := maxAlloc, scratch := scratch, limit := none }

/-- **`C18_short_header_err_reader`**: 9 of the 19 bytes of the message, any schedule -/
example (sched : List Nat) (lastChunk maxAlloc scratch : Nat) :
    (fromSingleObject cycFp cycDatum (rd (cycMsg.take 9) sched lastChunk maxAlloc scratch)).1 =
      .error .io := by
  obtain ⟨r', _, e⟩ := C18_short_header_err_reader
    (rd (cycMsg.take 9) sched lastChunk maxAlloc scratch) rfl rfl (Nat.zero_le _)
    (by show (cycMsg.take 9).length < 10; decide)
  rw [e Out cycFp cycDatum]

/-- **`C18_marker_err_reader`**: the marker `C3 02`, any schedule -/
example (sched : List Nat) (lastChunk maxAlloc scratch : Nat) :
    (fromSingleObject cycFp cycDatum
      (rd ([0xC3, 0x02] ++ cycFp ++ cycBytes) sched lastChunk maxAlloc scratch)).1 =
      .error .custom := by
  obtain ⟨r', _, _, e⟩ := C18_marker_err_reader
    (rd ([0xC3, 0x02] ++ cycFp ++ cycBytes) sched lastChunk maxAlloc scratch) rfl rfl
    (Nat.zero_le _) (by show 10 ≤ ([0xC3, 0x02] ++ cycFp ++ cycBytes : Bytes).length; decide)
    (by show (([0xC3, 0x02] ++ cycFp ++ cycBytes : Bytes).take 10).take 2 ≠ _; decide +kernel)
  rw [e Out cycFp cycDatum]

/-- **`C18_fingerprint_err_reader`**: the message read under the schema with the field `tags`
    renamed (`otherFp`, `NonVacuityB`), any schedule -/
example (sched : List Nat) (lastChunk maxAlloc scratch : Nat) :
    (fromSingleObject otherFp cycDatum (rd cycMsg sched lastChunk maxAlloc scratch)).1 =
      .error .custom := by
  obtain ⟨r', _, _, e⟩ := C18_fingerprint_err_reader otherFp
    (rd cycMsg sched lastChunk maxAlloc scratch) rfl rfl (Nat.zero_le _)
    (by show 10 ≤ cycMsg.length; decide)
    (by show ((cycMsg.take 10).drop 2).take 8 ≠ otherFp; decide +kernel)
  rw [e Out cycDatum]

/-- … and in the `ReaderOK` form, on the reader with refills 1, 2, 3, 1, 1, … -/
example : (fromSingleObject otherFp cycDatum (rd123 cycMsg 64)).1 = .error .custom :=
  C18_fingerprint_err_reader_fst otherFp cycDatum (rd123 cycMsg 64)
    ⟨rfl, rfl, Nat.zero_le _, by decide⟩ (by decide) (by decide +kernel)

/-- **`C18_accepts_reader`** with the real `de` as the datum parameter, any schedule -/
example (sched : List Nat) (lastChunk maxAlloc scratch : Nat) :
    ∃ r', r'.rest = cycBytes ∧ r'.isSlice = false ∧ r'.limit = none ∧
      r'.avail ≤ r'.rest.length ∧ r'.maxAlloc = maxAlloc ∧
      fromSingleObject cycFp cycDatum (rd cycMsg sched lastChunk maxAlloc scratch) =
        cycDatum r' := by
  obtain ⟨r', h1, h2, h3, h4, h5, _, h7⟩ := C18_accepts_reader cycFp
    (rd cycMsg sched lastChunk maxAlloc scratch) rfl rfl (Nat.zero_le _) cycBytes rfl rfl
  exact ⟨r', h1, h2, h3, h4, h5, h7 Out cycDatum⟩

/-- `cycOut` with the one borrowed string (`"a"`) copied: what the reader delivers -/
def cycOutR : Out :=
  .map [(.str "value" false, .i64 1),
        (.str "next" false, .map [(.str "value" false, .i64 2), (.str "next" false, .unit),
                                  (.str "tags" false, .seq [])]),
        (.str "tags" false, .seq [.str "a" false])]

/-- The run on `cycMsg ++ [9, 9]` with refills 1, 2, 3, 1, 1, …, by evaluation: the value is
    `cycOutR` (`cycOut` with the string copied), `[9, 9]` is left, the schedule is used up. -/
theorem cyc_run : fromSingleObject cycFp (de deExtModel {} cycS 100 cycRoot 64 false .any)
      (rd123 (cycMsg ++ [9, 9]) 64) =
    (.ok cycOutR, { rd123 [9, 9] 64 with avail := 0, sched := [] }) :=
  resEq_of (by decide +kernel)

/-- **`C18_reader_ok_only_if_header`** on the successful run `cyc_run`. -/
theorem cyc_run_header : ∃ payload r',
    cycMsg ++ [9, 9] = [0xC3, 0x01] ++ cycFp ++ payload ∧ cycFp.length = 8 ∧ r'.rest = payload ∧
      de deExtModel {} cycS 100 cycRoot 64 false .any r' =
        (.ok cycOutR, { rd123 [9, 9] 64 with avail := 0, sched := [] }) :=
  C18_reader_ok_only_if_header cycFp _ (rd123 (cycMsg ++ [9, 9]) 64) rfl rfl (Nat.zero_le _) _ _
    cyc_run

/-- **`C18_write_read_reader`**, every hypothesis discharged on the cyclic schema: whatever
    follows the message, for EVERY streaming-reader state over it (any schedule, buffer position,
    scratch size; an allocation cap covering what follows the header) and any fuel above
    `4 * size + 8`, the reader returns `cycOut` up to the `borrowed` flags and leaves what
    followed. -/
theorem cyc_write_read_reader (rest : Bytes) (fuel : Nat) (hfuel : 4 * Spec.size cycV + 8 ≤ fuel)
    (r : RState) (hs : r.isSlice = false) (hl : r.limit = none) (ha : r.avail ≤ r.rest.length)
    (hm : (cycBytes ++ rest).length ≤ r.maxAlloc)
    (hr : r.rest = (toSingleObject cycFp (ser extNone false cycS cycRoot sv1) {}).2.out ++ rest) :
    ∃ o' r', fromSingleObject cycFp (de deExtModel {} cycS fuel cycRoot 64 false .any) r =
        (.ok o', r') ∧ unborrow o' = unborrow cycOut ∧ r'.rest = rest ∧ ReaderOK r' := by
  obtain ⟨s', bytes, v, hrun, hout, henc, hden, hrd⟩ :=
    C18_write_read_reader {} extNone false cycS cycRoot sv1 cycFp rfl {} (by rw [cyc_write])
      C01glue.good_empty
      cycS_ok cycRoot_ok (by decide +kernel) extNone_ok (by decide +kernel)
      (fun _ n _ => Canon.nodeAllows_strict n) (Canon.nodeAllows_strict _) cycS_fixedDecFits
      (by decide +kernel)
  rw [hrun] at hr
  rw [cyc_write] at hrun
  obtain rfl : s' = { out := cycMsg } := (Prod.mk.inj hrun).2.symm
  obtain rfl : bytes = cycBytes := by simpa [cycMsg] using hout.symm
  obtain rfl : v = cycV := encode_injective henc cycV_encode
  exact hrd {} 64 cycOut cycV_observe (by decide +kernel) (by decide +kernel) fuel (by omega)
    rest r hs hl ha hm (by rw [hr, hout]; simp [List.append_assoc])

/-- … in particular on the reader of `cyc_run` (where the value is computed: `cycOutR`) -/
example : ∃ o' r', fromSingleObject cycFp (de deExtModel {} cycS 100 cycRoot 64 false .any)
      (rd123 (cycMsg ++ [9, 9]) 64) = (.ok o', r') ∧
    unborrow o' = unborrow cycOut ∧ r'.rest = [9, 9] ∧ ReaderOK r' :=
  cyc_write_read_reader [9, 9] 100 (by decide +kernel) _ rfl rfl (Nat.zero_le _) (by decide)
    (by rw [cyc_write]; rfl)

/-- the canonical form of `union [null, array<long>]` (`NonVacuityA.SU`) and its CRC-64-AVRO
    fingerprint, little endian (the specification's, `C18_fingerprint_is_crc`) -/
def pcfU : String := "[\"null\",{\"type\":\"array\",\"items\":\"long\"}]"
def fpU : Bytes := Spec.fingerprintLE pcfU.toUTF8.data.toList
theorem fpU_length : fpU.length = 8 := by decide +kernel

/-- **`C18_write_read_msg_reader`** on `Some(vec![1i64, -3])` for `union [null, array<long>]`
    (its `hlim` — over EVERY value the presentation denotes — is `NonVacuityA.svU_denotes_only`):
    the schedule, scratch size and cap are universally quantified in the conclusion; the tightest
    depth and sequence limits. -/
example : ∃ s' v o, toSingleObject fpU (ser ({} : ExtTable).toExt false SU nodeU svU) {} =
      (.ok (), s') ∧
    Spec.denotes (denExtOf ({} : ExtTable).toExt) SU nodeU svU v = true ∧
    Spec.observe SU nodeU v = some o ∧
    ∀ fuel, Spec.size v * 4 + 8 ≤ fuel →
      ∀ (sched : List Nat) (lastChunk maxAlloc scratch : Nat), s'.out.length ≤ maxAlloc + 10 →
      ∃ o' r', fromSingleObject fpU
          (de deExtModel { maxSeqSize := 2, allowedDepth := 2 } SU fuel nodeU 2 false .any)
          { isSlice := false, rest := s'.out, avail := 0, sched := sched,
            lastChunk := lastChunk, maxAlloc := maxAlloc, scratch := scratch, limit := none } =
          (.ok o', r') ∧
        unborrow o' = unborrow o ∧ r'.rest = [] ∧ ReaderOK r' :=
  C18_write_read_msg_reader { negInt := true } ({} : ExtTable).toExt false
    { maxSeqSize := 2, allowedDepth := 2 } SU nodeU svU fpU fpU_length 2
    (eq_ok_of_isOk (by decide +kernel)) SU_ok nodeU_ok
    (by decide +kernel) empty_ok (by decide +kernel) SU_allows_negInt (by decide +kernel)
    SU_fixedDecFits (by decide +kernel) (svU_lim _)

/-! #### Why the statements differ from the slice ones -/

/-- **The error class differs** for the short header: on 9 bytes `from_single_object_slice`
    gives the custom error ("Slice is too short …"), `from_single_object_reader` the I/O error of
    `read_exact` (single_object_encoding.rs:14-16 / 38-40).  The two header-mismatch errors are
    `custom` on both back-ends. -/
theorem C18reader_error_class_differs :
    (fromSingleObject cycFp cycDatum { isSlice := true, rest := cycMsg.take 9 }).1 = .error .custom ∧
    (fromSingleObject cycFp cycDatum (rd123 (cycMsg.take 9) 64)).1 = .error .io :=
  ⟨C18_short_header_err_slice cycFp cycDatum _ rfl (by decide),
   C18_short_header_err_reader_fst cycFp cycDatum _ ⟨rfl, rfl, Nat.zero_le _, by decide⟩
    (by decide)⟩

/-- **The value is `observe v` only up to `unborrow`**: from the slice `cycOut` (the tag `"a"`
    borrowed: `NVB.cyc_write_read`), from the reader `cycOutR` (copied). -/
theorem C18reader_value_not_equal :
    (fromSingleObject cycFp (de deExtModel {} cycS 100 cycRoot 64 false .any)
      (sliceOf (rd123 (cycMsg ++ [9, 9]) 64))).1 = .ok cycOut ∧
    (fromSingleObject cycFp (de deExtModel {} cycS 100 cycRoot 64 false .any)
      (rd123 (cycMsg ++ [9, 9]) 64)).1 = .ok cycOutR ∧
    cycOutR ≠ cycOut ∧ unborrow cycOutR = unborrow cycOut := by
  refine ⟨fstEq_of (by decide +kernel), by rw [cyc_run], ?_, ?_⟩
  · simp [cycOutR, cycOut]
  · simp [cycOutR, cycOut, unborrow, unborrowP, unborrowL]

/-- **The state `r'` on which `datum` is started depends on the schedule** (so `C18_accepts_reader`
    cannot give it in closed form as `C18_accepts_slice` does): after the header, with refills
    1, 2, 3, 1, 1, … the buffer is empty and the schedule used up; when the first refill
    delivers everything, 9 bytes are buffered.  (`datum := fun s => (.ok (), s)` returns the
    state it is started on.) -/
theorem C18reader_datum_state_depends_on_schedule :
    (fromSingleObject cycFp (fun s => (.ok (), s)) (rd123 cycMsg 64)).2 =
      { rd123 cycBytes 64 with avail := 0, sched := [] } ∧
    (fromSingleObject cycFp (fun s => (.ok (), s))
        { rd123 cycMsg 64 with sched := [], lastChunk := 100 }).2 =
      { rd123 cycBytes 64 with avail := 9, sched := [], lastChunk := 100 } := by
  constructor <;> decide +kernel

/-- **`fp.length = 8` cannot be dropped** from `C18_accepts_reader` (as from
    `C18_accepts_slice`): with the empty "fingerprint" the input `C3 01 ++ [] ++ payload` is
    rejected. -/
theorem C18reader_fp_length_needed :
    (rd123 ([0xC3, 0x01] ++ [] ++ cycFp ++ cycBytes) 64).rest =
      [0xC3, 0x01] ++ [] ++ (cycFp ++ cycBytes) ∧
    (fromSingleObject [] cycDatum (rd123 ([0xC3, 0x01] ++ [] ++ cycFp ++ cycBytes) 64)).1 =
      .error .custom :=
  ⟨by simp [rd123], fstEq_of (by decide +kernel)⟩

/-- **`r.limit = none` cannot be dropped** from `C18_accepts_reader`: under a `Take` of 5 bytes
    the header `read_exact` fails although the message is right (the model's `readExact` goes
    through the `Take`; the crate never calls `from_single_object_reader` under one). -/
theorem C18reader_nolimit_needed :
    (fromSingleObject cycFp cycDatum { rd123 cycMsg 64 with limit := some 5 }).1 = .error .io :=
  fstEq_of (by decide +kernel)

/-- **The allocation cap cannot be dropped** from `C18_write_read_reader`: the message for the
    string `"hey"` (schema `"string"`, any fingerprint) read with `max_alloc = 2`, one byte per
    refill: the 3-byte string does not fit the buffer and may not be allocated.  With a cap of 4
    bytes (the datum: what `C18_write_read_reader` asks for) it is read. -/
theorem C18reader_alloc_needed :
    (fromSingleObject cycFp (de deExtModel {} #[.string] 100 .string 64 false .any)
      { isSlice := false, rest := [0xC3, 0x01] ++ cycFp ++ [0x06, 0x68, 0x65, 0x79], avail := 0,
        sched := [], lastChunk := 1, maxAlloc := 2 }).1 = .error .custom ∧
    (fromSingleObject cycFp (de deExtModel {} #[.string] 100 .string 64 false .any)
      { isSlice := false, rest := [0xC3, 0x01] ++ cycFp ++ [0x06, 0x68, 0x65, 0x79], avail := 0,
        sched := [], lastChunk := 1, maxAlloc := 4 }).1 = .ok (.str "hey" false) :=
  ⟨fstEq_of (by decide +kernel), fstEq_of (by decide +kernel)⟩

end C18ReaderNV

end Avro.Theorems
