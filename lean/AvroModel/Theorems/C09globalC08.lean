import AvroModel.Lemmas.RenderPcf
import AvroModel.Theorems.C08spec
/-
C09 (global) composed with C08 (`C08_pcf_is_spec`): **the re-parsed schema has the canonical form
of the schema in use.**

If the JSON rendered for a node graph `S` is accepted by the parser, the graph `S'` the parser
builds has the same Parsing Canonical Form text (hence the same fingerprints) as `S`.

The hypothesis on names is stated with `RenderPcf.NameWF` / `RenderPcf.namesWFb` (clause for
clause `Avro.Impl.Name.WF`, see `RenderPcf.nameWF_iff`).
-/
namespace Avro.Theorems
open Avro Avro.Impl Avro.Spec.Pcf

/-- **The graph in use and the re-parsed graph have the same canonical tree**: the specification's
    transformation of the rendered document. -/
theorem C09_reparsed_same_canonTree (S : SchemaMut) (fuel : Nat) (j : Json) (n : Nat)
    (S' : SchemaMut) (hwf : RenderPcf.ReachNamesWF S)
    (hrender : renderJson S fuel = .ok j) (hparse : parseJson j n = .ok S') :
    ∃ c m m' W W', canon none j = some c ∧ m ≤ fuel ∧ m' ≤ n + 2 ∧
      RenderPcf.CanonTree S m [] (.node 0) (.one c) W ∧
      RenderPcf.CanonTree S' m' [] (.node 0) (.one c) W' := by
  obtain ⟨hnf, c, m, W, hc, hm, hcan⟩ := RenderPcf.render_canonTree S fuel j hwf hrender
  obtain ⟨c', m', W', hc', hm', hcan'⟩ := C08_parsed_canonTree j n S' hparse hnf
  rw [hc] at hc'
  cases hc'
  exact ⟨c, m, m', W, W', hc, hm, hm', hcan, hcan'⟩

/-- **C09 ∘ C08.**  `fuel`: the renderer's; `n`: the parser's node-count parameter. -/
theorem C09_reparsed_has_same_pcf (S : SchemaMut) (fuel : Nat) (j : Json) (n : Nat)
    (S' : SchemaMut)
    (hwf : ∀ (i : Nat) (node : RawNode) (nm : Name),
      S[i]? = some node → RenderPcf.nameOf node.type = some nm → RenderPcf.NameWF nm)
    (hrender : renderJson S fuel = .ok j) (hparse : parseJson j n = .ok S') :
    ∃ text, parsingCanonicalForm j = some text ∧
      (∀ fuel', fuel ≤ fuel' → canonicalForm S fuel' = .ok text) ∧
      (∀ fuel'', n + 2 ≤ fuel'' → canonicalForm S' fuel'' = .ok text) := by
  obtain ⟨c, m, m', W, W', hc, hm, hm', hcan, hcan'⟩ :=
    C09_reparsed_same_canonTree S fuel j n S' (RenderPcf.NamesWF.reach hwf) hrender hparse
  exact ⟨print c, by simp only [parsingCanonicalForm, hc, Option.map_some],
    fun f hf => RenderPcf.canonicalForm_of_canonTree hcan f (Nat.le_trans hm hf),
    fun f hf => RenderPcf.canonicalForm_of_canonTree hcan' f (Nat.le_trans hm' hf)⟩

/-- In one equation. -/
theorem C09_reparsed_canonicalForm_eq (S : SchemaMut) (fuel : Nat) (j : Json) (n : Nat)
    (S' : SchemaMut) (hwf : RenderPcf.namesWFb S = true)
    (hrender : renderJson S fuel = .ok j) (hparse : parseJson j n = .ok S')
    (fuel' fuel'' : Nat) (h' : fuel ≤ fuel') (h'' : n + 2 ≤ fuel'') :
    canonicalForm S' fuel'' = canonicalForm S fuel' := by
  obtain ⟨text, -, h2, h3⟩ :=
    C09_reparsed_has_same_pcf S fuel j n S' ((RenderPcf.namesWFb_iff S).mp hwf) hrender hparse
  rw [h2 fuel' h', h3 fuel'' h'']

/-! ### concrete graphs -/

/-- render, parse again, canonical form of the result -/
def reparsedPcf (S : SchemaMut) (fuel n fuel'' : Nat) : Option String :=
  match renderJson S fuel with
  | .error _ => none
  | .ok j =>
    match parseJson j n with
    | .error _ => none
    | .ok S' =>
      match canonicalForm S' fuel'' with
      | .ok t => some t
      | .error _ => none

/-- `graphPcf` of `Theorems/C09global.lean`. This module does not import that one, so the three
    definitions the examples name are copies, primed. -/
def graphPcf' (S : SchemaMut) (fuel : Nat) : Option String :=
  match canonicalForm S fuel with
  | .ok t => some t
  | .error _ => none

/-- `graphRecursive` of `Theorems/C09global.lean` -/
def graphRecursive' : SchemaMut := #[
  ⟨.record ⟨"ns.Node", "Node", some "ns"⟩
      [("value", 1), ("next", 2), ("color", 3), ("more", 4), ("box", 6)], none⟩,
  ⟨.long, none⟩,
  ⟨.union [5, 0], none⟩,
  ⟨.enum ⟨"other.Color", "Color", some "other"⟩ ["R", "G"], none⟩,
  ⟨.array 3, none⟩,
  ⟨.null, none⟩,
  ⟨.record ⟨"other.Box", "Box", some "other"⟩ [("c", 3), ("n", 2), ("again", 4)], none⟩]

/-- `graphLogical` of `Theorems/C09global.lean` -/
def graphLogical' : SchemaMut := #[
  ⟨.record ⟨"a.R", "R", some "a"⟩
      [("d", 1), ("f", 2), ("g", 2), ("dec", 3), ("kw", 4), ("kw2", 4), ("kw3", 5), ("kw4", 5)],
    none⟩,
  ⟨.int, some .date⟩,
  ⟨.fixed ⟨"a.F", "F", some "a"⟩ 12, some .duration⟩,
  ⟨.bytes, some (.decimal 2 10)⟩,
  ⟨.enum ⟨"int", "int", none⟩ ["x"], none⟩,
  ⟨.fixed ⟨"a.string", "string", some "a"⟩ 1, some (.unknown "my-type")⟩]

/-- `C09_reparsed_canonicalForm_eq` in terms of these functions: once the three stages are seen to
    succeed, the two texts need not be computed to be known equal. -/
theorem reparsedPcf_eq_graphPcf' (S : SchemaMut) (fuel n fuel'' : Nat)
    (hwf : RenderPcf.namesWFb S = true) (hf : n + 2 ≤ fuel'')
    (hok : (reparsedPcf S fuel n fuel'').isSome = true) :
    reparsedPcf S fuel n fuel'' = graphPcf' S fuel := by
  unfold reparsedPcf at hok ⊢
  unfold graphPcf'
  cases hr : renderJson S fuel with
  | error e => rw [hr] at hok; cases hok
  | ok j =>
    cases hp : parseJson j n with
    | error e => rw [hr] at hok; simp only [hp] at hok; cases hok
    | ok S' =>
      simp only [hp,
        C09_reparsed_canonicalForm_eq S fuel j n S' hwf hr hp fuel fuel'' (Nat.le_refl _) hf]

example :
    (reparsedPcf graphRecursive' 30 30 40).isSome = true ∧
    reparsedPcf graphRecursive' 30 30 40 = graphPcf' graphRecursive' 30 ∧
    (reparsedPcf graphLogical' 30 30 40).isSome = true ∧
    reparsedPcf graphLogical' 30 30 40 = graphPcf' graphLogical' 30 := by
  have hR : (reparsedPcf graphRecursive' 30 30 40).isSome = true := by decide +kernel
  have hL : (reparsedPcf graphLogical' 30 30 40).isSome = true := by decide +kernel
  exact ⟨hR, reparsedPcf_eq_graphPcf' _ _ _ _ (by decide +kernel) (by decide) hR,
    hL, reparsedPcf_eq_graphPcf' _ _ _ _ (by decide +kernel) (by decide) hL⟩

/-- Two different enums with the same fullname: the rendered document has the canonical form of
    the graph (`C09_distinct_not_needed`), but the parser rejects it (name defined twice) — the
    hypothesis `hparse` is where distinctness of names comes in. -/
example :
    reparsedPcf #[
      ⟨.record ⟨"R", "R", none⟩ [("a", 1), ("b", 2), ("c", 1), ("d", 2)], none⟩,
      ⟨.enum ⟨"E", "E", none⟩ ["A"], none⟩,
      ⟨.enum ⟨"E", "E", none⟩ ["B"], none⟩] 12 30 40 = none := by
  decide +kernel

end Avro.Theorems
