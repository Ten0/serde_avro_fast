import AvroModel.Theorems.C07
import AvroModel.Lemmas.PcfSpecGraph
import AvroModel.Lemmas.PcfCanon
import AvroModel.Lemmas.ExceptEq
/-
C08 (canonical form = the specification's Parsing Canonical Form).

`Spec/Pcf.lean` transcribes the specification's transformation of the JSON document
(`Spec.Pcf.canon`, `Spec.Pcf.print`); `C08_pcf_is_spec`: for every document the parser accepts and
in which every reference comes after (or inside) the definition it refers to
(`Spec.Pcf.noForwardRefs`, decidable), the canonical form the crate computes from the node graph
is the text of that transformation.  With a forward reference the crate writes the definition at
its first *visit*, i.e. in place of the reference (`C08_forward_ref_differs`).
-/
namespace Avro.Theorems
open Avro Avro.Impl Avro.Spec.Pcf Avro.PcfSpec

/-- **The graph the parser builds unfolds to the specification's transformation of the
    document**: the canonical tree of its root (`CanonTree`, `Lemmas/CanonTree.lean`), of a height
    within the registration fuel, is `canon none j`. -/
theorem C08_parsed_canonTree (j : Json) (n : Nat) (S : SchemaMut)
    (hparse : parseJson j n = .ok S) (hnf : noForwardRefs j = true) :
    ∃ c m W', canon none j = some c ∧ m ≤ n + 2 ∧
      RenderPcf.CanonTree S m [] (.node 0) (.one c) W' := by
  obtain ⟨raw, k, st, -, hraw, hreg, -, hS, -⟩ := C07_parse_ok j n S hparse
  obtain ⟨hcanon, hscan⟩ := raw_of_json_spec hraw none
  unfold noForwardRefs at hnf
  rw [hscan] at hnf
  obtain ⟨D', hD'⟩ := Option.isSome_iff_exists.mp hnf
  have hk : k = .idx 0 := by
    rcases registerNode_key hreg with ⟨r, rfl⟩ | hk
    · simp [scanRaw] at hD'
    · simpa using hk
  subst hk
  have hS' : S = graphOf st := hS
  subst hS'
  obtain ⟨c, m, W', hc, hm, hcan⟩ := canonTree_of_register hreg hD'
  exact ⟨c, m, W', by rw [hcanon, hc], hm, hcan⟩

/-- **C08**: parse the document `j` (registration fuel `n + 2`, as `parseJson` takes it); if it
    has no forward reference, the specification's transformation is defined on `j` and the
    crate's canonical form (any fuel `≥ n + 2`) is its text. -/
theorem C08_pcf_is_spec (j : Json) (n : Nat) (S : SchemaMut)
    (hparse : parseJson j n = .ok S) (hnf : noForwardRefs j = true) :
    ∃ c, canon none j = some c ∧
      ∀ fuel, n + 2 ≤ fuel → canonicalForm S fuel = .ok (print c) := by
  obtain ⟨c, m, W', hc, hm, hcan⟩ := C08_parsed_canonTree j n S hparse hnf
  exact ⟨c, hc, fun fuel hf =>
    RenderPcf.canonicalForm_of_canonTree hcan fuel (Nat.le_trans hm hf)⟩

/-- The same, on texts. -/
theorem C08_pcf_is_spec_text (j : Json) (n : Nat) (S : SchemaMut)
    (hparse : parseJson j n = .ok S) (hnf : noForwardRefs j = true) :
    ∃ text, parsingCanonicalForm j = some text ∧
      ∀ fuel, n + 2 ≤ fuel → canonicalForm S fuel = .ok text := by
  obtain ⟨c, hc, h⟩ := C08_pcf_is_spec j n S hparse hnf
  exact ⟨print c, by simp [parsingCanonicalForm, hc], h⟩

/-! ### concrete documents (kernel evaluation of the parser model, the writer model and the
specification's transformation) -/

/-- the crate on a document: parse (registration fuel `n`), then write the canonical form (fuel
    `fuel`).  The concrete documents here, in `C08specExamples.lean` and in `C08injective.lean`
    are run at `30 40`; the numbers carry no meaning: any `n` at which the parse succeeds and any
    `fuel ≥ n + 2` give the specification's text (`crateCanonicalText_eq_spec`). -/
def crateCanonicalText (j : Json) (n fuel : Nat) : Option String :=
  match parseJson j n with
  | .ok S => (match canonicalForm S fuel with | .ok t => some t | .error _ => none)
  | .error _ => none

/-- `C08_pcf_is_spec_text` for `crateCanonicalText`: on an accepted document without forward
    reference nothing but the parse has to be evaluated. -/
theorem crateCanonicalText_eq_spec {j : Json} {n fuel : Nat} (hp : (parseJson j n).isOk = true)
    (hnf : noForwardRefs j = true) (hf : n + 2 ≤ fuel) :
    crateCanonicalText j n fuel = parsingCanonicalForm j := by
  obtain ⟨S, hS⟩ := exists_ok_of_isOk hp
  obtain ⟨text, h₁, h₂⟩ := C08_pcf_is_spec_text j n S hS hnf
  simp only [crateCanonicalText, hS, h₂ fuel hf, h₁]

/-- … and the text is compared through the characters of the canonical structure
    (`parsingCanonicalForm_eq_ofList`). -/
theorem crateCanonicalText_eq_ofList {j : Json} {n fuel : Nat} {l : List Char}
    (hp : (parseJson j n).isOk = true) (hnf : noForwardRefs j = true) (hf : n + 2 ≤ fuel)
    (h : (canonOf j).map Canon.chars = some l) :
    crateCanonicalText j n fuel = some (String.ofList l) :=
  (crateCanonicalText_eq_spec hp hnf hf).trans (parsingCanonicalForm_eq_ofList h)

/-- A record whose first field refers to an enum defined in its second field. -/
def docForwardRef : Json :=
  .obj [("type", .str "record"), ("name", .str "R"),
    ("fields", .arr [
      .obj [("name", .str "a"), ("type", .str "E")],
      .obj [("name", .str "b"), ("type",
        .obj [("type", .str "enum"), ("name", .str "E"), ("symbols", .arr [.str "A"])])]])]

/-- With a forward reference the crate writes the definition where the reference is (first
    visit of the node) and the name where the definition is; the specification transforms the
    document in place.  Hence the hypothesis `noForwardRefs` of `C08_pcf_is_spec`. -/
theorem C08_forward_ref_differs :
    noForwardRefs docForwardRef = false ∧
    crateCanonicalText docForwardRef 30 40 = some
      "{\"name\":\"R\",\"type\":\"record\",\"fields\":[{\"name\":\"a\",\"type\":{\"name\":\"E\",\"type\":\"enum\",\"symbols\":[\"A\"]}},{\"name\":\"b\",\"type\":\"E\"}]}" ∧
    parsingCanonicalForm docForwardRef = some
      "{\"name\":\"R\",\"type\":\"record\",\"fields\":[{\"name\":\"a\",\"type\":\"E\"},{\"name\":\"b\",\"type\":{\"name\":\"E\",\"type\":\"enum\",\"symbols\":[\"A\"]}}]}" ∧
    crateCanonicalText docForwardRef 30 40 ≠ parsingCanonicalForm docForwardRef := by
  refine ⟨by decide +kernel, by decide +kernel, ?_, by decide +kernel⟩
  apply parsingCanonicalForm_eq_ofList
  decide +kernel

/-- Namespaces: inherited through an array, a union and a map; `"namespace": ""` is the null
    namespace; a dotted name wins over the `namespace` attribute; references by simple name, by
    fullname and with a leading dot; `doc`, `logicalType`, `precision` dropped; members given in
    another order. -/
def docNamespaces : Json :=
  .obj [("fields", .arr [
      .obj [("type", .obj [("items",
          .obj [("symbols", .arr [.str "A", .str "B"]), ("name", .str "E"), ("type", .str "enum")]),
          ("type", .str "array")]), ("name", .str "f")],
      .obj [("name", .str "g"), ("type", .arr [.str "null", .str "E", .str "a.b.R", .str "R",
        .obj [("type", .str "fixed"), ("name", .str "F"), ("namespace", .str ""), ("size", .nat 4)],
        .obj [("type", .str "fixed"), ("name", .str "x.y.G"), ("namespace", .str "zzz"),
          ("size", .nat 16), ("logicalType", .str "decimal"), ("precision", .nat 10)]])],
      .obj [("name", .str "h"), ("doc", .str "a map"),
        ("type", .obj [("type", .str "map"), ("values", .str ".F")])],
      .obj [("name", .str "i"),
        ("type", .obj [("type", .str "long"), ("logicalType", .str "timestamp-micros")])],
      .obj [("name", .str "j"), ("type", .str "x.y.G")]]),
    ("doc", .str "x"), ("namespace", .str "a.b"), ("name", .str "R"), ("type", .str "record")]

theorem docNamespaces_noForwardRefs : noForwardRefs docNamespaces = true := by decide +kernel

theorem docNamespaces_parses : (parseJson docNamespaces 30).isOk = true := by decide +kernel

/-- A recursive record (the reference is inside the definition), in a namespace. -/
def docRecursive : Json :=
  .obj [("type", .str "record"), ("name", .str "Node"), ("namespace", .str "ns"),
    ("fields", .arr [
      .obj [("name", .str "value"), ("type", .str "long")],
      .obj [("name", .str "next"), ("type", .arr [.str "null", .str "Node"])]])]

/-- Nested records: the inner record has its own namespace, which its fields inherit; after it
    the outer namespace applies again. -/
def docNested : Json :=
  .obj [("type", .str "record"), ("name", .str "Outer"), ("namespace", .str "o"),
    ("fields", .arr [
      .obj [("name", .str "x"), ("type",
        .obj [("type", .str "record"), ("name", .str "Inner"), ("namespace", .str "i"),
          ("fields", .arr [
            .obj [("name", .str "e"), ("type",
              .obj [("type", .str "enum"), ("name", .str "E"), ("symbols", .arr [.str "S"])])],
            .obj [("name", .str "again"), ("type", .str "E")],
            .obj [("name", .str "up"), ("type", .obj [("type", .str "array"), ("items", .str "o.Outer")])]])])],
      .obj [("name", .str "y"), ("type", .str "i.Inner")],
      .obj [("name", .str "z"), ("type",
        .obj [("type", .str "enum"), ("name", .str "E"), ("symbols", .arr [.str "T"])])],
      .obj [("name", .str "w"), ("type", .arr [.str "E", .str "i.E"])]])]

theorem docNested_noForwardRefs : noForwardRefs docNested = true := by decide +kernel

end Avro.Theorems
