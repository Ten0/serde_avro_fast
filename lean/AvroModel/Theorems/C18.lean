import AvroModel.Impl.Single
import AvroModel.Theorems.C08
/-
C18 — single-object encoding: marker + fingerprint + datum, verified on read.
-/
namespace Avro.Theorems
open Avro Avro.Impl

/-- Framing: on a writer that does not fail, the output is exactly `C3 01 ++ fp ++ datum bytes`,
    and serialization succeeds iff the datum serializer does. -/
theorem C18_frame (fp : Bytes) (datum : SerState → Except SerErr Unit × SerState) (s : SerState)
    (hb : s.budget = none) :
    toSingleObject fp datum s = datum { s with out := s.out ++ [0xC3, 0x01] ++ fp } := by
  unfold toSingleObject writeAll singleMarker
  simp [hb, List.append_assoc]

/-- The fingerprint written is the CRC-64-AVRO (specification) of the canonical form, little endian. -/
theorem C18_fingerprint_is_crc (S : SchemaMut) (fuel : Nat) (text : String)
    (h : canonicalForm S fuel = .ok text) :
    schemaFingerprint S fuel = .ok (Spec.fingerprintLE text.toUTF8.data.toList) := by
  unfold schemaFingerprint; rw [h]; simp [C08_fingerprint_bytes]

theorem checkHeader_iff (fp h : Bytes) :
    checkHeader fp h = true ↔ h.take 2 = [0xC3, 0x01] ∧ (h.drop 2).take 8 = fp := by
  unfold checkHeader singleMarker
  rw [Bool.and_eq_true, decide_eq_true_iff, decide_eq_true_iff]

theorem checkHeader_ten {fp h : Bytes} (hh : h.length = 10) :
    checkHeader fp h = true ↔ h = [0xC3, 0x01] ++ fp := by
  rw [checkHeader_iff]
  constructor
  · rintro ⟨h1, h2⟩
    rw [← List.take_append_drop 2 h, h1, ← h2, List.take_of_length_le (by simp [hh])]
  · rintro rfl
    have : fp.length = 8 := by simpa using hh
    exact ⟨rfl, by simp [← this]⟩

theorem header_take {fp payload : Bytes} (hfp : fp.length = 8) :
    ([0xC3, 0x01] ++ fp ++ payload).take 10 = [0xC3, 0x01] ++ fp ∧
    ([0xC3, 0x01] ++ fp ++ payload).drop 10 = payload := by
  have : ([0xC3, 0x01] ++ fp : Bytes).length = 10 := by simp [hfp]
  exact ⟨by rw [← this, List.take_left], by rw [← this, List.drop_left]⟩

/-- Input shorter than the 10-byte header is an error (slice: class `custom`; on the reader
    `C18_short_header_err_reader`, class `io`). -/
theorem C18_short_header_err_slice {α} (fp : Bytes) (datum : RState → Except DeErr α × RState)
    (s : RState) (hs : s.isSlice = true) (hl : s.rest.length < 10) :
    (fromSingleObject fp datum s).1 = .error .custom := by
  unfold fromSingleObject; simp [hs, hl]

/-- A header whose first two bytes are not `C3 01` is rejected (slice). -/
theorem C18_marker_err_slice {α} (fp : Bytes) (datum : RState → Except DeErr α × RState)
    (s : RState) (hs : s.isSlice = true) (hl : 10 ≤ s.rest.length)
    (hm : (s.rest.take 10).take 2 ≠ [0xC3, 0x01]) :
    (fromSingleObject fp datum s).1 = .error .custom := by
  unfold fromSingleObject checkHeader singleMarker
  have : ¬ s.rest.length < 10 := by omega
  simp [hs, this, hm]

/-- A fingerprint that is not the schema's is rejected: a message written under a schema with
    another fingerprint is never decoded (slice). -/
theorem C18_fingerprint_err_slice {α} (fp : Bytes) (datum : RState → Except DeErr α × RState)
    (s : RState) (hs : s.isSlice = true) (hl : 10 ≤ s.rest.length)
    (hf : ((s.rest.take 10).drop 2).take 8 ≠ fp) :
    (fromSingleObject fp datum s).1 = .error .custom := by
  unfold fromSingleObject checkHeader
  have : ¬ s.rest.length < 10 := by omega
  simp [hs, this, hf]

/-- On a well-formed header the datum deserializer runs on exactly what follows the header. -/
theorem C18_accepts_slice {α} (fp : Bytes) (datum : RState → Except DeErr α × RState)
    (s : RState) (hs : s.isSlice = true) (payload : Bytes) (hfp : fp.length = 8)
    (hr : s.rest = [0xC3, 0x01] ++ fp ++ payload) :
    fromSingleObject fp datum s = datum { s with rest := payload } := by
  obtain ⟨h10, hd⟩ := header_take (payload := payload) hfp
  rw [← hr] at h10 hd
  have hlen : ¬ s.rest.length < 10 := by rw [hr]; simp [hfp]
  have hc : checkHeader fp ([0xC3, 0x01] ++ fp) = true := (checkHeader_ten (by simp [hfp])).2 rfl
  unfold fromSingleObject
  rw [if_pos hs, if_neg hlen, h10, hc, hd]
  rfl

end Avro.Theorems
