import AvroModel.Theorems.C13full
import AvroModel.Theorems.C14
import AvroModel.Theorems.C20full
import AvroModel.Lemmas.SchemaRender
import AvroModel.Lemmas.OutEq
/-
Non-vacuity audit, area F: properties C13 (record field reordering machine), C14 (buffer pool
reuse / no assert panics), C20 (derive macro / SchemaBuilder), on the real model functions (`ser`,
`recordValue`, `flushBuffered`, `schemaMut`, `findOrBuild`, `hasShape`).

Findings, each proved below:
* `recordValue_invariant_hserv_unmeetable`: the `hserv` of the lemma `recordValue_inv` (every node,
  every unlimited state) is false for the serializer the machine is really run with;
  `C13_recordValue_invariant` asks it at the field's node and clean pools, and
  `C13_recordValue_invariant_ser` discharges that for the real `ser`.
* `C13_flush_invariant` states that under `RecInv` the flush loop does nothing; the working form is
  `C13_flush_establishes`.
* `namesWf_unmeetable_by_finite_hash`, `nameInj_unmeetable_by_finite_hash`, `driverHash_not_namesWf`:
  the GLOBAL `NamesWf.hash_inj` / `NameInj` cannot be met by a hash with finitely many values,
  neither the crate's 64-bit SipHash nor the driver's `"H" ++ index`; `C20_names_distinct` /
  `C20_names_distinct_of_nameInj` ask injectivity only on the keys the build registers, which the
  driver's hash meets (`names_distinct_driverHash_closed`, and for any program
  `names_distinct_driverHash`).
* a dangling union branch key reads as `.null` (`branchNodes`: `S[k]?.getD .null`), so omitting a
  field whose node is `union [99]` "succeeds"; harmless for frozen schemas (no dangling keys).
-/
namespace Avro.Theorems

namespace NVF
open Avro Avro.Impl

/-- The "every presented value serializes on its own" hypothesis of the C13 theorems, reduced to
    a closed decidable statement about the REAL `ser`. -/
theorem hvals_of_all (ext : Ext) (allowSlow : Bool) (S : Schema) (fields : List (String × Nat))
    (vals : Nat → SV) (order : List Nat)
    (h : (order.all fun i =>
      match fields[i]? with
      | some f =>
        (match S[f.2]? with
          | some node => decide ((ser ext allowSlow S node (vals i) {}).1 = .ok ())
          | none => true)
      | none => true) = true) :
    ∀ i ∈ order, ∀ f node, fields[i]? = some f → S[f.2]? = some node →
      ∃ t, ser ext allowSlow S node (vals i) {} = (.ok (), t) := by
  intro i hi f node hf hn
  have := List.all_eq_true.mp h i hi
  simp only [hf, hn, decide_eq_true_eq] at this
  exact exists_of_fst_ok this

theorem hnull_of_all (S : Schema) (fields : List (String × Nat)) (order : List Nat)
    (h : ∀ i : Fin fields.length, i.1 ∈ order ∨ fieldNullable S fields[i].2 = true) :
    ∀ i f, fields[i]? = some f → i ∉ order → fieldNullable S f.2 = true := by
  intro i f hf hi
  obtain ⟨hlt, rfl⟩ := List.getElem?_eq_some_iff.mp hf
  rcases h ⟨i, hlt⟩ with h | h
  · exact (hi h).elim
  · exact h

theorem hkeys_of_all (S : Schema) (fields : List (String × Nat))
    (h : (fields.all fun f => (S[f.2]?).isSome) = true) :
    ∀ f ∈ fields, ∃ node, S[f.2]? = some node := by
  intro f hf
  have := List.all_eq_true.mp h f hf
  exact Option.isSome_iff_exists.mp this

/-! ## C13 — a record with a nullable union, an array and a NESTED RECORD field

`R { a : int, b : ["null","string"], c : array<int>, d : I }`, `I { x : long, y : boolean }`.
The value of `d` is itself presented out of order, so serializing it (into a side buffer of the
outer record when `d` is presented early) pops a super-buffer and a buffer from the shared pool. -/

def extD : Ext :=
  { asF32 := fun _ => 0, decFromF64 := fun _ => none, decParse := fun _ => none,
    decRescale := fun d _ => d }
def nmR : Name := ⟨"R", "R", none⟩
def nmI : Name := ⟨"I", "I", none⟩
def fldsI : List (String × Nat) := [("x", 7), ("y", 8)]
def flds : List (String × Nat) := [("a", 1), ("b", 2), ("c", 5), ("d", 6)]
def S : Schema := #[.record nmR flds, .int, .union [3, 4], .null, .string, .array 1,
  .record nmI fldsI, .long, .boolean]

/-- `d` out of order inside as well. -/
def dVal : SV := .struct "I" [("y", .bool true), ("x", .int .i64 5)]
def cVal : SV := .seq (some 2) [.int .i32 1, .int .i32 2]

def vals1 : Nat → SV
  | 0 => .int .i32 3
  | 2 => cVal
  | 3 => dVal
  | _ => .unit

def vals2 : Nat → SV
  | 0 => .int .i32 3
  | 1 => .none
  | 2 => cVal
  | 3 => dVal
  | _ => .unit

def valsAll : Nat → SV
  | 0 => .int .i32 3
  | 1 => .some (.str "x")
  | 2 => cVal
  | 3 => dVal
  | _ => .unit

theorem flds_nodup : (flds.map (·.1)).Nodup := by decide
theorem flds_keys : ∀ f ∈ flds, ∃ node, S[f.2]? = some node := hkeys_of_all S flds (by decide)

theorem vals1_ok : ∀ i ∈ [3, 2, 0], ∀ f node, flds[i]? = some f → S[f.2]? = some node →
    ∃ t, ser extD false S node (vals1 i) {} = (.ok (), t) :=
  hvals_of_all extD false S flds vals1 _ (by decide +kernel)

theorem vals2_ok : ∀ i ∈ [2, 1, 0, 3], ∀ f node, flds[i]? = some f → S[f.2]? = some node →
    ∃ t, ser extD false S node (vals2 i) {} = (.ok (), t) :=
  hvals_of_all extD false S flds vals2 _ (by decide +kernel)

theorem valsAll_ok : ∀ i f node, flds[i]? = some f → S[f.2]? = some node →
    ∃ t, ser extD false S node (valsAll i) {} = (.ok (), t) := by
  intro i f node hf hn
  have hlt : i < flds.length := (List.getElem?_eq_some_iff.mp hf).1
  exact hvals_of_all extD false S flds valsAll [0, 1, 2, 3] (by decide +kernel) i
    (by have : i < 4 := hlt; simp only [List.mem_cons, List.not_mem_nil, or_false]; omega) f node hf hn

/-- The nested value does use the pool: serialized from the empty state it leaves a buffer and a
    super-buffer behind. -/
example : (ser extD false S (.record nmI fldsI) dVal {}).2.pool =
    { buffers := [{ cap := true, data := [] }], superBuffers := [{ cap := true, slots := [] }] } := by
  decide +kernel

/-- A clean, non-empty pool and a non-empty unlimited writer to start from. -/
def s0 : SerState :=
  { out := [0xAA], budget := none,
    pool := { buffers := [{ cap := true, data := [] }, { cap := false, data := [] }],
              superBuffers := [{ cap := true, slots := [] }] } }
theorem s0_clean : PoolClean s0.pool := by simp [PoolClean, s0]

example : presOf flds vals1 [3, 2, 0] = [("d", dVal), ("c", cVal), ("a", .int .i32 3)] := rfl
example : strKeyEntries (presOf flds vals2 [2, 1, 0, 3]) =
    [(.str "c", cVal), (.str "b", .none), (.str "a", .int .i32 3), (.str "d", dVal)] := rfl

/-- `C13_presentation_independent`, struct `{d, c, a}` against map `{c, b: None, a, d}`. -/
theorem pres_indep :
    (ser extD false S (.record nmR flds) (.struct "R" (presOf flds vals1 [3, 2, 0])) s0).1 = .ok () ∧
    (ser extD false S (.record nmR flds)
      (.map (some 4) (strKeyEntries (presOf flds vals2 [2, 1, 0, 3]))) s0).1 = .ok () ∧
    (ser extD false S (.record nmR flds) (.struct "R" (presOf flds vals1 [3, 2, 0])) s0).2.out =
      (ser extD false S (.record nmR flds)
        (.map (some 4) (strKeyEntries (presOf flds vals2 [2, 1, 0, 3]))) s0).2.out ∧
    (ser extD false S (.record nmR flds) (.struct "R" (presOf flds vals1 [3, 2, 0])) s0).2.out =
      s0.out ++ (List.range flds.length).flatMap (fieldBytes extD false S flds vals1 [3, 2, 0]) ∧
    PoolClean (ser extD false S (.record nmR flds)
      (.struct "R" (presOf flds vals1 [3, 2, 0])) s0).2.pool ∧
    PoolClean (ser extD false S (.record nmR flds)
      (.map (some 4) (strKeyEntries (presOf flds vals2 [2, 1, 0, 3]))) s0).2.pool := by
  have h := C13_presentation_independent extD false S nmR flds flds_nodup flds_keys
    (.struct "R") (.map (some 4)) vals1 vals2 [3, 2, 0] [2, 1, 0, 3] (by decide) (by decide)
    (by decide) (by decide) vals1_ok vals2_ok
    (hnull_of_all S flds _ (by decide)) (hnull_of_all S flds _ (by decide))
    (by intro i h1 h2
        simp only [List.mem_cons, List.not_mem_nil, or_false] at h1
        rcases h1 with rfl | rfl | rfl <;> rfl)
    (by decide) (by decide)
    s0 rfl s0_clean
  simp only [RecPresKind.sv] at h
  exact h

/-- … and what the common bytes are (direct kernel evaluation of the real `ser`): prefix, `a = 3`,
    `b` null branch, `c = [1, 2]` as one block, `d = {x: 5, y: true}` in schema order. -/
example :
    (ser extD false S (.record nmR flds) (.struct "R" (presOf flds vals1 [3, 2, 0])) s0).2.out =
      [0xAA, 6, 0, 4, 2, 4, 0, 10, 1] ∧
    (ser extD false S (.record nmR flds)
      (.map (some 4) (strKeyEntries (presOf flds vals2 [2, 1, 0, 3]))) s0).2.out =
      [0xAA, 6, 0, 4, 2, 4, 0, 10, 1] := by decide +kernel

/-- `C13_order_independent` / `C13_record_bytes`: all four fields, order `d, b, a, c`. -/
theorem order_indep :
    (ser extD false S (.record nmR flds) (.struct "R" (presOf flds valsAll [3, 1, 0, 2])) s0).1 = .ok () ∧
    (ser extD false S (.record nmR flds)
      (.struct "R" (presOf flds valsAll (List.range flds.length))) s0).1 = .ok () ∧
    (ser extD false S (.record nmR flds) (.struct "R" (presOf flds valsAll [3, 1, 0, 2])) s0).2.out =
      (ser extD false S (.record nmR flds)
        (.struct "R" (presOf flds valsAll (List.range flds.length))) s0).2.out :=
  C13_order_independent extD false S nmR flds valsAll flds_nodup flds_keys valsAll_ok "R" [3, 1, 0, 2]
    (by decide) s0 rfl s0_clean

/-- `C13_kind_independent` / `C13_structVariant_presentation` on the same record: the struct-variant
    presentation `{d, c, a}` has the result AND final state of the struct presentation (any state:
    here a finite budget that is overrun). -/
example : ser extD false S (.record nmR flds)
      (.structVariant "E" 1 "V" (presOf flds vals1 [3, 2, 0])) { s0 with budget := some 3 } =
    ser extD false S (.record nmR flds) (.struct "R" (presOf flds vals1 [3, 2, 0]))
      { s0 with budget := some 3 } :=
  C13_kind_independent extD false S nmR flds (.structVariant "E" 1 "V") "R" _ _

example : (ser extD false S (.record nmR flds)
      (.structVariant "E" 1 "V" (presOf flds vals1 [3, 2, 0])) { s0 with budget := some 3 }).1 =
    .error .io := by decide +kernel

def encAll : Nat → Bytes
  | 0 => [6]
  | 1 => [2, 2, 120]
  | 2 => [4, 2, 4, 0]
  | 3 => [10, 1]
  | _ => []

/-- they are what the real `ser` writes for the values `valsAll` -/
theorem valsAll_enc : ∀ i f node, flds[i]? = some f → S[f.2]? = some node →
    ∃ t, ser extD false S node (valsAll i) {} = (.ok (), t) ∧ t.out = encAll i := by
  intro i f node hf hn
  have hlt : i < 4 := (List.getElem?_eq_some_iff.mp hf).1
  obtain ⟨t, ht⟩ := valsAll_ok i f node hf hn
  refine ⟨t, ht, ?_⟩
  have ho : t.out = (ser extD false S node (valsAll i) {}).2.out := by rw [ht]
  rw [ho]
  rcases i with _ | _ | _ | _ | i
  all_goals first
    | omega
    | (simp only [flds, List.getElem?_cons_zero, List.getElem?_cons_succ, Option.some.injEq] at hf
       subst hf
       simp only [S] at hn
       have hn' := Option.some.inj hn
       subst hn'
       decide +kernel)

/-- `C13_record_bytes` with explicit encodings (the `henc` hypothesis is about the real `ser`). -/
example : ∃ s', ser extD false S (.record nmR flds) (.struct "R" (presOf flds valsAll [2, 3, 1, 0])) s0 =
      (.ok (), s') ∧
    s'.out = s0.out ++ (List.range flds.length).flatMap encAll ∧ s'.budget = none ∧
    PoolClean s'.pool :=
  C13_record_bytes extD false S nmR flds encAll valsAll flds_nodup flds_keys valsAll_enc
    "R" [2, 3, 1, 0] (by decide) s0 rfl s0_clean

example : (List.range flds.length).flatMap encAll = [6, 2, 2, 120, 4, 2, 4, 0, 10, 1] := by decide

/-- `C13_omitted_nullable`: `{d, c, a}` against the completed in-order presentation. -/
example :
    let partialRun := ser extD false S (.record nmR flds) (.struct "R" (presOf flds vals1 [3, 2, 0])) s0
    let fullRun := ser extD false S (.record nmR flds)
      (.struct "R" (presOf flds (completeVals vals1 [3, 2, 0]) (List.range flds.length))) s0
    partialRun.1 = .ok () ∧ fullRun.1 = .ok () ∧
      partialRun.2.out =
        s0.out ++ (List.range flds.length).flatMap (fieldBytes extD false S flds vals1 [3, 2, 0]) ∧
      fullRun.2.out = partialRun.2.out ∧
      PoolClean partialRun.2.pool ∧ PoolClean fullRun.2.pool :=
  C13_omitted_nullable extD false S nmR flds vals1 flds_nodup flds_keys [3, 2, 0] (by decide)
    (by decide) vals1_ok (hnull_of_all S flds _ (by decide)) "R" s0 rfl s0_clean

/-! ### Rejections, with nested values around the offending field -/

example : ∃ e, (ser extD false S (.record nmR flds)
    (.struct "R" [("d", dVal), ("zz", cVal), ("a", .int .i32 3)]) s0).1 = .error e :=
  C13_unknown_field_err extD false S nmR flds "R" _ s0 "zz" (by decide) (by decide)

example : ∃ e, (ser extD false S (.record nmR flds)
    (.struct "R" [("d", dVal), ("c", cVal), ("d", dVal), ("a", .int .i32 3)]) s0).1 = .error e :=
  C13_duplicate_field_err extD false S nmR flds flds_nodup "R" _ s0 (by decide)

example : ∃ e, (ser extD false S (.record nmR flds)
    (.struct "R" [("d", dVal), ("a", .int .i32 3)]) s0).1 = .error e :=
  C13_missing_required_err extD false S nmR flds "R" _ s0 2 ("c", 5) rfl (by decide) (by decide)

/-- After the duplicate (first copy of `d` still buffered, with the nested record's buffers in
    use) the pool is clean: `C13_pool_clean`; and explicitly. -/
example : PoolClean (ser extD false S (.record nmR flds)
    (.struct "R" [("d", dVal), ("c", cVal), ("d", dVal), ("a", .int .i32 3)]) s0).2.pool :=
  C13_pool_clean extD false S _ _ s0 s0_clean

example : (ser extD false S (.record nmR flds)
    (.struct "R" [("d", dVal), ("c", cVal), ("d", dVal), ("a", .int .i32 3)]) s0).1 = .error .custom ∧
  (ser extD false S (.record nmR flds)
    (.struct "R" [("d", dVal), ("c", cVal), ("d", dVal), ("a", .int .i32 3)]) s0).2.pool =
    { buffers := [{ cap := true, data := [] }, { cap := true, data := [] }],
      superBuffers := [{ cap := true, slots := [] }, { cap := true, slots := [] }] } := by
  decide +kernel

/-! ### The machine invariant -/

/-- A state in the middle of a record: `a` written, `b` and `c` waiting in their slots. -/
def rsMid : RecordState :=
  { current := 1, buffers := { cap := true, slots :=
      [none, some { cap := true, data := [2, 2, 120] }, some { cap := true, data := [4, 2, 4, 0] }] } }
def sMid : SerState := { out := [0xAA, 6], budget := none, pool := {} }

/-- a property of the occupied slots, from a check of the finitely many slots -/
theorem forall_slots {β : Type} {slots : List (Option β)} {P : Nat → β → Prop}
    (h : ∀ i : Fin slots.length, ∀ b ∈ slots[i], P i b) :
    ∀ i b, slots[i]? = some (some b) → P i b := by
  intro i b hb
  obtain ⟨hlt, e⟩ := List.getElem?_eq_some_iff.mp hb
  exact h ⟨i, hlt⟩ b (by simp [e])

theorem rsMid_invW : RecInvW flds encAll [0xAA] rsMid sMid :=
  ⟨by decide, forall_slots (by decide), by decide⟩

/-- It is not `RecInv` (the slot at `current` is occupied): the weak form is the one that holds
    when the loop is entered. -/
example : ¬ RecInv flds encAll [0xAA] rsMid sMid := by
  intro h
  have := (h.2.1 1 _ rfl).1
  simp [rsMid] at this

/-- `C13_flush_establishes` on it: the loop writes `b`, `c` and stops at `d`. -/
example : ∃ rs' s', flushBuffered 3 rsMid sMid = (.ok rs', s') ∧ s'.budget = none ∧
    RecInv flds encAll [0xAA] rs' s' ∧ rsMid.current ≤ rs'.current ∧
    ∀ i, RecDone rsMid i → RecDone rs' i :=
  C13_flush_establishes flds encAll [0xAA] 3 rsMid sMid rfl (by decide) rsMid_invW

example : (flushBuffered 3 rsMid sMid).2.out = [0xAA, 6, 2, 2, 120, 4, 2, 4, 0] := by decide +kernel

def rsWait : RecordState :=
  { current := 1, buffers := { cap := true, slots :=
      [none, none, some { cap := true, data := [4, 2, 4, 0] }] } }

theorem rsWait_inv : RecInv flds encAll [0xAA] rsWait sMid :=
  ⟨by decide, forall_slots (by decide), by decide⟩

/-- `C13_flush_invariant`: between two fields (slot at `current` empty, a later slot occupied) the
    loop leaves machine and writer unchanged, with any fuel -/
example (fuel : Nat) : flushBuffered fuel rsWait sMid = (.ok rsWait, sMid) :=
  C13_flush_invariant flds encAll [0xAA] fuel rsWait sMid rsWait_inv

theorem rsWait_slotInv : SlotInv rsWait := forall_slots (by decide)

example : fieldIdx flds rsWait "a" = .error .custom :=
  C13_duplicate_written (f := ("a", 1)) flds_nodup rsWait_slotInv (i := 0) rfl (by decide)

example (s : SerState) : fieldIdx flds rsWait "c" = .ok 2 ∧
    ∃ rs', recordValue S flds rsWait 2 (fun node => ser extD false S node cVal) s =
      (.error (.custom, rs'), s) :=
  C13_duplicate_buffered (f := ("c", 5)) (node := .array 1) flds_nodup rsWait_slotInv (i := 2) rfl rfl
    (b := { cap := true, data := [4, 2, 4, 0] }) rfl _ s

/-! ### `C13_recordValue_invariant`: why its `hserv` is not that of `recordValue_inv`

`recordValue` is called by `serFields` with `serv := fun node => ser ext allowSlow S node v`.
The `hserv` of the lemma `recordValue_inv` asks this to succeed with the same bytes on EVERY node
and EVERY unlimited state (dirty pools included).  No value does: on the empty union every
serializer call fails.  (The instance of `C13_recordValue_invariant` with the real `ser` follows.) -/

theorem ser_union_nil_fails (ext : Ext) (allowSlow : Bool) (S : Schema) :
    ∀ (v : SV) (s : SerState), (ser ext allowSlow S (.union []) v s).1 = .error .custom
  | .bool _, _ => rfl
  | .int _ _, _ => rfl
  | .f32 _, _ => rfl
  | .f64 _, _ => rfl
  | .char _, _ => rfl
  | .str _, _ => rfl
  | .bytes _, _ => rfl
  | .none, _ => rfl
  | .some v, s => by rw [ser]; exact ser_union_nil_fails ext allowSlow S v s
  | .unit, _ => rfl
  | .unitStruct _, _ => rfl
  | .unitVariant _ _ variant, s => by
    rw [ser]
    unfold serUnitVariant nullVariantBranch
    by_cases h : variant = "Null" <;> simp [h, namedLookup, namedLookup.go, branchNodes] <;> rfl
  | .newtypeStruct _ v, s => by
    rw [ser]
    exact ser_union_nil_fails ext allowSlow S v s
  | .newtypeVariant _ _ _ v, s => by
    rw [ser]
    exact ser_union_nil_fails ext allowSlow S v s
  | .seq _ _, _ => rfl
  | .tuple _, _ => rfl
  | .tupleStruct _ _, _ => rfl
  | .tupleVariant _ _ _ _, _ => rfl
  | .map _ _, _ => rfl
  | .struct _ _, _ => rfl
  | .structVariant _ _ _ _, _ => rfl

/-- The hypothesis `hserv` of `recordValue_inv`, for the serializer the machine is really run with,
    is false — for every value, schema, field index and encoding table. -/
theorem recordValue_invariant_hserv_unmeetable (ext : Ext) (allowSlow : Bool) (S : Schema) (v : SV)
    (enc : Nat → Bytes) (idx : Nat) :
    ¬ (∀ node s, s.budget = none →
        ∃ s', (fun node => ser ext allowSlow S node v) node s = (.ok (), s') ∧
          s'.out = s.out ++ enc idx ∧ s'.budget = none) := by
  intro h
  obtain ⟨s', h1, _⟩ := h (.union []) {} rfl
  have := ser_union_nil_fails ext allowSlow S v {}
  simp only at h1
  rw [h1] at this
  cases this

/-- … also when restricted to the field's own node: with a dirty pool a nested record panics. -/
example : (ser extD false S (.record nmI fldsI) dVal
    { out := [], budget := none,
      pool := { buffers := [{ cap := true, data := [1] }], superBuffers := [] } }).1 = .error .panic := by
  decide +kernel

/-- `Except.toBool`; with `exists_of_okT`, the device of `NVB.exists_ok_of_toBool`
    (`Lemmas/OutEq.lean`): a run is shown to succeed by evaluation, its value and final state are named
    by the run -/
def okT {ε α : Type} : Except ε α → Bool
  | .ok _ => true
  | .error _ => false

theorem exists_of_okT {σ α : Type} {x : Except (SerErr × σ) α × SerState} (h : okT x.1 = true) :
    ∃ a s', x = (.ok a, s') :=
  NVB.exists_ok_of_toBool ((by cases x.1 <;> rfl : x.1.toBool = okT x.1) ▸ h)

/-- `C13_recordValue_invariant_ser` (hence `C13_recordValue_invariant`, whose hypothesis it
    discharges with `ser_appends`) with the REAL serializer: `d` (the nested record) presented
    first, from the initial state with the (non-empty, clean) pool of `s0`. -/
example : ∃ rs' s',
    recordValue S flds { current := 0, buffers := { cap := false, slots := [] } } 3
      (fun node => ser extD false S node dVal) s0 = (.ok rs', s') ∧
    RecInv flds encAll s0.out rs' s' ∧ s'.budget = none ∧ RecDone rs' 3 := by
  obtain ⟨rs', s', hok⟩ := exists_of_okT (x := recordValue S flds
    { current := 0, buffers := { cap := false, slots := [] } } 3
    (fun node => ser extD false S node dVal) s0) (by decide +kernel)
  have h := C13_recordValue_invariant_ser extD false flds encAll s0.out S
    { current := 0, buffers := { cap := false, slots := [] } } 3 dVal s0 rs' s' rfl s0_clean
    (Nat.zero_le _) (valsAll_enc 3)
    ⟨by simp, fun i b hib => by simp at hib, Nat.zero_le _⟩ hok
  exact ⟨rs', s', hok, h.1, h.2.1, h.2.2 3 (.inr rfl)⟩

/-! ### A conclusion that holds thanks to a totalised definition

`branchNodes` reads a dangling branch key as `.null` (`S[k]?.getD .null`), and `serUnit` /
`recordEnd` do not resolve the key: a record field whose node is a union with a DANGLING branch
is "nullable", and `C13_partial_bytes` concludes that omitting it succeeds.  Harmless for frozen
schemas (no dangling keys there; `hkeys` only covers the field keys, not the branch keys). -/
example : fieldNullable #[.record nmR [("a", 1)], .union [99]] 1 = true := by decide

example : (ser extD false #[.record nmR [("a", 1)], .union [99]] (.record nmR [("a", 1)])
    (.struct "R" []) {}).1 = .ok () ∧
  (ser extD false #[.record nmR [("a", 1)], .union [99]] (.record nmR [("a", 1)])
    (.struct "R" []) {}).2.out = [0] := by decide +kernel

/-! ## C14 — failing serializations at depth 2, with a finite budget, on a non-empty clean pool -/

def s4 : SerState := { s0 with budget := some 4 }
theorem s4_clean : PoolClean s4.pool := s0_clean

/-- `d` (nested record, buffered), `a` (direct), `c` (buffered): at the end `b` is filled in, the
    flush of `c` overruns the budget half-way. -/
def vIo : SV := .struct "R" [("d", dVal), ("a", .int .i32 3), ("c", cVal)]
/-- A type error at depth 2, inside a value that is being written to a side buffer, while the
    inner record itself has a field waiting in a buffer. -/
def dBad : SV := .struct "I" [("y", .bool true), ("x", .str "oops")]
def vBad : SV := .struct "R" [("c", cVal), ("d", dBad), ("a", .int .i32 3)]

example : PoolClean (ser extD false S (.record nmR flds) vIo s4).2.pool :=
  C14_pool_clean extD false S _ vIo s4 s4_clean
example : PoolClean (ser extD false S (.record nmR flds) vBad s4).2.pool :=
  C14_pool_clean extD false S _ vBad s4 s4_clean
example : PoolClean (ser extD false S (.record nmR flds) (.struct "R" (presOf flds valsAll [3, 1, 0, 2])) s0).2.pool :=
  C14_pool_clean extD false S _ _ s0 s0_clean

/-- What these runs are (kernel evaluation): an I/O error after 4 bytes (the two buffers taken
    by the flush are dropped, not pooled), resp. a custom error with nothing written. -/
example :
    (ser extD false S (.record nmR flds) vIo s4).1 = .error .io ∧
    (ser extD false S (.record nmR flds) vIo s4).2.out = [0xAA, 6, 0, 4, 2] ∧
    (ser extD false S (.record nmR flds) vIo s4).2.budget = some 0 ∧
    (ser extD false S (.record nmR flds) vIo s4).2.pool =
      { buffers := [{ cap := true, data := [] }],
        superBuffers := [{ cap := true, slots := [] }, { cap := true, slots := [] }] } := by
  decide +kernel

example :
    (ser extD false S (.record nmR flds) vBad s4).1 = .error .custom ∧
    (ser extD false S (.record nmR flds) vBad s4).2.out = [0xAA] ∧
    (ser extD false S (.record nmR flds) vBad s4).2.budget = some 4 ∧
    (ser extD false S (.record nmR flds) vBad s4).2.pool =
      { buffers := [{ cap := true, data := [] }, { cap := true, data := [] }],
        superBuffers := [{ cap := true, slots := [] }, { cap := true, slots := [] }] } := by
  decide +kernel

/-- `C14_pool_irrelevant` on the I/O failure: same error, bytes, budget as with the empty pool. -/
example :
    (ser extD false S (.record nmR flds) vIo { out := [0xAA], budget := some 4, pool := s0.pool }).1 =
      (ser extD false S (.record nmR flds) vIo { out := [0xAA], budget := some 4, pool := {} }).1 ∧
    (ser extD false S (.record nmR flds) vIo { out := [0xAA], budget := some 4, pool := s0.pool }).2.out =
      (ser extD false S (.record nmR flds) vIo { out := [0xAA], budget := some 4, pool := {} }).2.out ∧
    (ser extD false S (.record nmR flds) vIo { out := [0xAA], budget := some 4, pool := s0.pool }).2.budget =
      (ser extD false S (.record nmR flds) vIo { out := [0xAA], budget := some 4, pool := {} }).2.budget :=
  C14_pool_irrelevant extD false S _ vIo [0xAA] (some 4) s0.pool s0_clean

/-- `C14_pool_prefix_irrelevant`, success case with a budget that is just enough (9 bytes). -/
def pOther : Pool := { buffers := [], superBuffers := [{ cap := false, slots := [] }, { cap := true, slots := [] }] }
theorem pOther_clean : PoolClean pOther := by simp [PoolClean, pOther]

example :
    (ser extD false S (.record nmR flds) vIo { out := [1, 2] ++ [3], budget := some 8, pool := s0.pool }).1 =
      (ser extD false S (.record nmR flds) vIo { out := [3], budget := some 8, pool := pOther }).1 ∧
    (ser extD false S (.record nmR flds) vIo { out := [1, 2] ++ [3], budget := some 8, pool := s0.pool }).2.out =
      [1, 2] ++ (ser extD false S (.record nmR flds) vIo { out := [3], budget := some 8, pool := pOther }).2.out ∧
    (ser extD false S (.record nmR flds) vIo { out := [1, 2] ++ [3], budget := some 8, pool := s0.pool }).2.budget =
      (ser extD false S (.record nmR flds) vIo { out := [3], budget := some 8, pool := pOther }).2.budget := by
  -- `[1, 2] ++ [3]` is typed `List UInt8` here and `Bytes` in the theorem; left to itself the
  -- unifier evaluates both runs of `ser` under the projections before it compares the arguments
  with_reducible exact
    C14_pool_prefix_irrelevant extD false S _ vIo [1, 2] [3] (some 8) s0.pool pOther s0_clean pOther_clean

example : (ser extD false S (.record nmR flds) vIo { out := [3], budget := some 8, pool := pOther }).1 = .ok () ∧
    (ser extD false S (.record nmR flds) vIo { out := [3], budget := some 8, pool := pOther }).2.budget = some 0 := by
  decide +kernel

/-- `C14_no_assert_panic_of_get` for the root of `S`: `S.keysInBounds` holds, so the disjunction
    is its first member. -/
example : (ser extD false S (.record nmR flds) vIo s4).1 ≠ .error .panic := by
  rcases C14_no_assert_panic_of_get extD false S 0 _ rfl vIo s4 s4_clean with h | h
  · exact h
  · exact (h (by decide +kernel)).elim

example : (ser extD false S (.record nmR flds) vBad s4).1 ≠ .error .panic := by
  rcases C14_no_assert_panic_partial extD false S _ vBad s4 s4_clean
    (NodeOK.of_get (S := S) (k := 0) (by decide +kernel) rfl) with h | h
  · exact h
  · exact (h (by decide +kernel)).elim

example : (popBuffer s0).1 ≠ .error .panic ∧ (popSuperBuffer s0).1 ≠ .error .panic :=
  C14_pop_never_panics s0 s0_clean

/-- The hypothesis `PoolClean` is needed (and so not decorative): on a dirty pool the `assert!` fires. -/
example : (popBuffer { pool := { buffers := [{ cap := true, data := [1] }] } }).1 = .error .panic := rfl

end NVF

/-! # C20 -/

namespace NVF20
open Avro Avro.Impl Avro.Impl.Derive Avro.Theorems.DeriveFits

/-! ## A program with a generic record instantiated twice, a unit enum, a `Vec` field and a record
recursive through `Option<Box<_>>`; the driver's fuel `64 * (P.size + 4)` -/

def progF : Prog := #[
  { ident := "Pair", nparams := 1, modulePath := "m", body := .record [
      { name := "a", ty := .param 0 }, { name := "b", ty := .vec (.param 0) } ] },
  { ident := "Color", modulePath := "m", body := .unitEnum ["Red", "Green"] },
  { ident := "Tree", modulePath := "m", body := .record [
      { name := "value", ty := .i32 },
      { name := "ints", ty := .named 0 [.i64] },
      { name := "strs", ty := .named 0 [.string] },
      { name := "color", ty := .named 1 [] },
      { name := "kids", ty := .vec (.named 2 []) },
      { name := "next", ty := .option (.ptr (.named 2 [])) } ] } ]

/-- the driver's fuel -/
def fuelF : Nat := 64 * (progF.size + 4)
example : fuelF = 448 := by decide

def leaf (v : Int) (c : Nat) (cn : String) : SV :=
  .struct "Tree" [
    ("value", .int .i32 v),
    ("ints", .struct "Pair" [("a", .int .i64 (-1)), ("b", .seq (some 0) [])]),
    ("strs", .struct "Pair" [("a", .str ""), ("b", .seq (some 1) [.str "z"])]),
    ("color", .unitVariant "Color" c cn),
    ("kids", .seq (some 0) []),
    ("next", .none)]

def treeVal : SV :=
  .struct "Tree" [
    ("value", .int .i32 7),
    ("ints", .struct "Pair" [("a", .int .i64 1), ("b", .seq (some 2) [.int .i64 2, .int .i64 3])]),
    ("strs", .struct "Pair" [("a", .str "x"), ("b", .seq (some 1) [.str "yy"])]),
    ("color", .unitVariant "Color" 1 "Green"),
    ("kids", .seq (some 2) [leaf 1 0 "Red", leaf 2 1 "Green"]),
    ("next", .some (leaf 3 0 "Red"))]

/-- `Option.isSome_iff_exists`, in the direction used below -/
theorem exists_of_isSome {α} {o : Option α} (h : o.isSome = true) : ∃ a, o = some a :=
  Option.isSome_iff_exists.mp h

theorem progF_fitWfG : DeriveG.FitWfG progF (.named 2 []) = true := by decide +kernel
theorem treeVal_shape : hasShape progF fuelF (.named 2 []) treeVal = true := by decide +kernel
example : (schemaMut progF DeriveNames.hashDemo fuelF (.named 2 [])).isSome = true := by decide +kernel
theorem progF_builds : ∃ Sm, schemaMut progF DeriveNames.hashDemo fuelF (.named 2 []) = some Sm :=
  exists_of_isSome (by decide +kernel)


def extD : Avro.Impl.Ext :=
  { asF32 := fun _ => 0, decFromF64 := fun _ => none, decParse := fun _ => none,
    decRescale := fun d _ => d }

/-- `C20_fits_generic`, closed: the driver's fuel, an injective hash, a non-trivial value. -/
theorem fits_generic_closed (ext : Avro.Impl.Ext) :
    ∃ Sm, schemaMut progF DeriveNames.hashDemo fuelF (.named 2 []) = some Sm ∧
      (ser ext false (freezeNodes Sm) ((freezeNodes Sm)[0]!) treeVal {}).1 = .ok () := by
  obtain ⟨Sm, h⟩ := progF_builds
  exact ⟨Sm, h, C20_fits_generic ext progF _ fuelF _ Sm fuelF treeVal h progF_fitWfG treeVal_shape⟩

/-- … and what the run is, by kernel evaluation of the real `ser` on the built schema. -/
example : (schemaMut progF DeriveNames.hashDemo fuelF (.named 2 [])).map (fun Sm =>
      (ser extD false (freezeNodes Sm) ((freezeNodes Sm)[0]!) treeVal {}).2.out) =
    some [14, 2, 4, 4, 6, 0, 2, 120, 2, 4, 121, 121, 0, 2, 4, 2, 1, 0, 0, 2, 2, 122, 0, 0, 0, 0, 4, 1,
      0, 0, 2, 2, 122, 0, 2, 0, 0, 0, 2, 6, 1, 0, 0, 2, 2, 122, 0, 0, 0, 0] := by decide +kernel

/-- `C20_names_distinct_global` needs the global `NamesWf` (met by the injective `hashDemo`; the
    instance of `C20_names_distinct` proper with the driver's non-injective hash is
    `names_distinct_driverHash_closed` below): -/
theorem progF_namesWf : NamesWf progF DeriveNames.hashDemo where
  newtype_nongeneric := by rw [prog_forall_iff]; decide +kernel
  generic_union_safe := by rw [prog_forall_iff]; decide +kernel
  logical_dupSafe := by rw [prog_forall_iff]; decide +kernel
  field_names_nodup := by rw [prog_forall_iff]; decide +kernel
  variant_idents_nodup := by rw [prog_forall_iff]; decide +kernel
  start_ok := by rw [prog_forall_iff]; decide +kernel
  distinct := by simp only [prog_forall_iff]; decide +kernel
  no_u8_array := by rw [prog_forall_iff]; decide +kernel
  generic_prefix_free := by simp only [prog_forall_iff]; decide +kernel
  hash_inj := DeriveNames.hashDemo_inj
  hash_nodot := DeriveNames.hashDemo_nodot

theorem inv_closed :
    ∃ Sm, schemaMut progF DeriveNames.hashDemo fuelF (.named 2 []) = some Sm ∧
      Sm.keysInBounds = true ∧ 0 < Sm.size ∧ (definedNames Sm).Nodup ∧
      (∀ f, Realizes progF (freezeNodes Sm) f (.named 2 []) 0) := by
  obtain ⟨Sm, h⟩ := progF_builds
  exact ⟨Sm, h, C20_keys_in_bounds _ _ _ _ Sm h, C20_root_is_node_zero _ _ _ _ Sm h,
    C20_names_distinct_global _ _ _ _ Sm h progF_namesWf,
    (C20_schema_realizes_generic _ _ _ _ Sm h progF_fitWfG).2⟩

/-- `C20_names_distinct_of_nameInj_global` (hypotheses `StructWf`, `NameInj`) on the same build. -/
example (Sm : SchemaMut) (h : schemaMut progF DeriveNames.hashDemo fuelF (.named 2 []) = some Sm) :
    (definedNames Sm).Nodup :=
  C20_names_distinct_of_nameInj_global _ _ _ _ Sm h progF_namesWf.toStructWf
    (DeriveNames.nameInj_of_textWf progF_namesWf.toTextWf)

example : (schemaMut progF DeriveNames.hashDemo fuelF (.named 2 [])).map definedNames =
    some ["m.Tree", "m.Pair_nyxxydid", "m.Pair_nyxxygig", "m.Color"] := by decide +kernel


/-! ## `C20_fits` (fragment `FitWf`) and `C20_fits_unions_text` (`FitWfU` + `UnionNamesText`) closed on
the programs of `Theorems/C20fits.lean` (which proves `FitWf` / `FitWfU` for them but builds no
schema and gives no value) -/

def innerVal : SV :=
  .struct "Inner" [
    ("name", .str "n"),
    ("data", .bytes [1, 2]),
    ("key", .bytes [1, 2, 3, 4]),
    ("ratio", .some (.f64 0)),
    ("deep", .map (some 1) [(.str "k", .seq (some 2) [.none, .some (.newtypeStruct "Wrapper" (.int .u64 5))])]),
    ("created", .int .u64 1700000000000),
    ("day", .int .i32 19000),
    ("uid", .str "00000000-0000-0000-0000-000000000000"),
    ("lease", .bytes (List.replicate 12 1)),
    ("score", .f64 0)]

def treeLeaf : SV :=
  .struct "Tree" [
    ("value", .int .i32 (-1)),
    ("next", .none),
    ("children", .seq (some 0) []),
    ("tags", .map (some 0) []),
    ("color", .none),
    ("id", .newtypeStruct "Wrapper" (.int .u64 0)),
    ("digest", .none)]

def treeVal2 : SV :=
  .struct "Tree" [
    ("value", .int .i32 7),
    ("next", .some treeLeaf),
    ("children", .seq (some 2) [treeLeaf, treeLeaf]),
    ("tags", .map (some 1) [(.str "t", innerVal)]),
    ("color", .some (.unitVariant "Color" 2 "Null")),
    ("id", .newtypeStruct "Wrapper" (.int .u64 9)),
    ("digest", .some (.newtypeStruct "Digest" (.bytes (List.replicate 16 7))))]

def fuelE : Nat := 64 * (exampleProg.size + 4)
theorem treeVal2_shape : hasShape exampleProg fuelE (.named 0 []) treeVal2 = true := by decide +kernel

theorem fits_closed (ext : Avro.Impl.Ext) :
    ∃ Sm, schemaMut exampleProg (fun _ => "unused") fuelE (.named 0 []) = some Sm ∧
      (ser ext false (freezeNodes Sm) ((freezeNodes Sm)[0]!) treeVal2 {}).1 = .ok () := by
  obtain ⟨Sm, h⟩ := exists_of_isSome
    (by decide +kernel : (schemaMut exampleProg (fun _ => "unused") fuelE (.named 0 [])).isSome = true)
  exact ⟨Sm, h, C20_fits ext exampleProg _ fuelE _ Sm fuelE treeVal2 h exampleProg_fitWf treeVal2_shape⟩

def shapesVal : SV := .seq (some 4) [
  .newtypeVariant "Shape" 0 "Double" (.f64 1),
  .unitVariant "Shape" 2 "Null",
  .newtypeVariant "Shape" 1 "Inner" innerVal,
  .newtypeVariant "Shape" 0 "Double" (.f64 2)]

def fuelU : Nat := 64 * (exampleProgU.size + 4)
theorem exampleProgU_text : UnionNamesText exampleProgU = true := by decide +kernel
theorem shapesVal_shape : hasShape exampleProgU fuelU (.vec (.named 5 [])) shapesVal = true := by decide +kernel

theorem fits_unions_closed (ext : Avro.Impl.Ext) :
    ∃ s, builderState exampleProgU (fun _ => "unused") fuelU (.vec (.named 5 [])) = some s ∧
      schemaMut exampleProgU (fun _ => "unused") fuelU (.vec (.named 5 [])) = some s.nodes ∧
      (ser ext false (freezeNodes s.nodes) ((freezeNodes s.nodes)[0]!) shapesVal {}).1 = .ok () := by
  cases h : builderState exampleProgU (fun _ => "unused") fuelU (.vec (.named 5 [])) with
  | none =>
    have : (schemaMut exampleProgU (fun _ => "unused") fuelU (.vec (.named 5 []))).isSome = true := by
      decide +kernel
    rw [schemaMut_eq_builderState, h] at this
    cases this
  | some s =>
    exact ⟨s, rfl, C20_fits_unions_text ext exampleProgU _ fuelU _ s fuelU shapesVal h
      exampleProgU_fitWfU exampleProgU_text shapesVal_shape⟩


/-! ## Generic instantiations, fuel, builder invariants -/

/-- Distinct instantiations, distinct names (`C20_generic_instantiations_distinct`). -/
example : typeName progF[0] ++ "_" ++ DeriveNames.hashDemo [.generic 0 2, .long, .vec, .long] ≠
    typeName progF[0] ++ "_" ++ DeriveNames.hashDemo [.generic 0 2, .string, .vec, .string] :=
  C20_generic_instantiations_distinct progF[0] DeriveNames.hashDemo DeriveNames.hashDemo_inj _ _ (by decide)

example : lookupKey progF fuelF (.named 0 [.i64]) = some [.generic 0 2, .long, .vec, .long] ∧
    lookupKey progF fuelF (.named 0 [.string]) = some [.generic 0 2, .string, .vec, .string] := by
  decide +kernel

/-- `C20_fuel_irrelevant`: the driver's fuel and a much smaller sufficient one. -/
example : ∃ S, schemaMut progF DeriveNames.hashDemo fuelF (.named 2 []) = some S ∧
    schemaMut progF DeriveNames.hashDemo 30 (.named 2 []) = some S := by
  obtain ⟨S, h⟩ := progF_builds
  obtain ⟨S', h'⟩ := exists_of_isSome
    (by decide +kernel : (schemaMut progF DeriveNames.hashDemo 30 (.named 2 [])).isSome = true)
  exact ⟨S, h, C20_fuel_irrelevant _ _ _ _ _ S S' h h' ▸ h'⟩

/-- … and a fuel that does not suffice gives `none` (the hypothesis `schemaMut … = some S` is a
    real condition on the fuel). -/
example : schemaMut progF DeriveNames.hashDemo 5 (.named 2 []) = none := by decide +kernel

/-- the same device for an `Option` of a pair: `k1`, `s1`, `k2`, `s2` below are named by the runs of
    `findOrBuild`, which are only evaluated to see that they succeed -/
theorem eq_some_pair {α β} {o : Option (α × β)} (d : α × β) (h : o.isSome = true) :
    o = some ((o.getD d).1, (o.getD d).2) := by
  cases o with
  | none => cases h
  | some a => rfl

/-- First `find_or_build::<Tree>()` on a fresh builder … -/
def k1 : Nat := ((findOrBuild progF DeriveNames.hashDemo fuelF (.named 2 []) {}).getD (0, {})).1
def s1 : BState := ((findOrBuild progF DeriveNames.hashDemo fuelF (.named 2 []) {}).getD (0, {})).2
theorem r1_eq : findOrBuild progF DeriveNames.hashDemo fuelF (.named 2 []) {} = some (k1, s1) := by
  unfold k1 s1
  exact @eq_some_pair _ _ (findOrBuild progF DeriveNames.hashDemo fuelF (.named 2 []) {}) (0, {})
    (by decide +kernel)
/-- … then `find_or_build::<Vec<Pair<i64>>>()` on the resulting (non-empty) state. -/
def k2 : Nat := ((findOrBuild progF DeriveNames.hashDemo (446 + 1) (.vec (.named 0 [.i64])) s1).getD (0, {})).1
def s2 : BState := ((findOrBuild progF DeriveNames.hashDemo (446 + 1) (.vec (.named 0 [.i64])) s1).getD (0, {})).2
theorem r2_eq : findOrBuild progF DeriveNames.hashDemo (446 + 1) (.vec (.named 0 [.i64])) s1 = some (k2, s2) := by
  unfold k2 s2
  exact @eq_some_pair _ _ (findOrBuild progF DeriveNames.hashDemo (446 + 1) (.vec (.named 0 [.i64])) s1) (0, {})
    (by decide +kernel)

/-- `C20_findOrBuild_keeps_invariant` twice: `Good.empty` starts it, the second call starts from
    the (non-empty) state the first one ended in. -/
theorem good_r1 : Derive.Good [] s1 ∧ (k1 < s1.nodes.size ∨ k1 ∈ ([] : List Nat)) :=
  C20_findOrBuild_keeps_invariant progF _ fuelF _ {} s1 k1 [] r1_eq Derive.Good.empty
theorem good_r2 : Derive.Good [] s2 ∧ (k2 < s2.nodes.size ∨ k2 ∈ ([] : List Nat)) :=
  C20_findOrBuild_keeps_invariant progF _ _ _ s1 s2 k2 [] r2_eq good_r1.1

/-- The second call added exactly one node (the array) and found `Pair<i64>` again. -/
example : s1.nodes.size = 12 ∧ s2.nodes.size = 13 ∧ k2 = 12 ∧
    s2.nodes[12]? = some (plain (.array 2)) := by decide +kernel

/-- `C20_findOrBuild_append_only` for it. -/
example : AppendOnly s1 s2 :=
  C20_findOrBuild_append_only progF _ _ _ s1 s2 k2 r2_eq

/-- `C20_built_once_reuse`: asked again (any larger fuel), found, builder unchanged. -/
example : findOrBuild progF DeriveNames.hashDemo 1000 (.vec (.named 0 [.i64])) s2 = some (k2, s2) :=
  C20_built_once_reuse progF _ 446 1000 (by decide) _ s1 s2 k2 r2_eq


/-! ## The demands of the GLOBAL `NamesWf` / `NameInj` on `hash` (hypotheses of the corollaries
`C20_names_distinct_global`, `C20_names_distinct_of_nameInj_global`) -/

theorem no_inj_nat_fin : ∀ (n : Nat) (f : Nat → Fin n), ¬ (∀ i j, f i = f j → i = j)
  | 0, f, _ => (f 0).elim0
  | n + 1, f, hinj => by
    have hne : ∀ i, (f (i + 1)).val ≠ (f 0).val := fun i h => by
      have := hinj _ _ (Fin.ext h); omega
    let g : Nat → Fin n := fun i =>
      if h : (f (i + 1)).val < (f 0).val then ⟨(f (i + 1)).val, by have := (f 0).isLt; omega⟩
      else ⟨(f (i + 1)).val - 1, by have h1 := (f (i + 1)).isLt; have h2 := hne i; omega⟩
    apply no_inj_nat_fin n g
    intro i j hij
    have hi := hne i
    have hj := hne j
    have : (f (i + 1)).val = (f (j + 1)).val := by
      have hv := congrArg Fin.val hij
      simp only [g] at hv
      split at hv <;> split at hv <;> simp only at hv <;> omega
    have := hinj _ _ (Fin.ext this)
    omega

/-- `NamesWf.hash_inj` (injectivity on ALL keys) cannot be met by a hash with finitely many values —
    such as the crate's (a 64-bit SipHash rendered as text): for it `C20_names_distinct_global`
    says nothing, for any program.  (`C20_names_distinct` itself asks `NamesWfOn` on the
    generic-record keys the build registers; see the next section.) -/
theorem namesWf_unmeetable_by_finite_hash (P : Prog) (n : Nat) (h : Key → Fin n)
    (render : Fin n → String) : ¬ NamesWf P (fun k => render (h k)) := by
  intro hW
  refine no_inj_nat_fin n (fun i => h [.self i]) ?_
  intro i j hij
  have := hW.hash_inj [.self i] [.self j] (congrArg render hij)
  simpa using this

example (P : Prog) (h : Key → UInt64) (render : UInt64 → String) :
    ¬ NamesWf P (fun k => render (h k)) := by
  intro hW
  exact namesWf_unmeetable_by_finite_hash P UInt64.size (fun k => (h k).toFin)
    (fun x => render (UInt64.ofFin x)) (by simpa using hW)

/-- The hash the driver builds the compared schema with (`Driver/Main.lean`, `runDerive`):
    `"H" ++ index of the key's text in the list of labels`.  Whatever the labels and the rendering
    of keys, it is not injective (every unlabelled key gets `"H<labels.length>"`). -/
def driverHash (keyStr : Key → String) (labels : List String) (k : Key) : String :=
  "H" ++ toString (labels.idxOf (keyStr k))

theorem driverHash_not_namesWf (P : Prog) (keyStr : Key → String) (labels : List String) :
    ¬ NamesWf P (driverHash keyStr labels) :=
  namesWf_unmeetable_by_finite_hash P (labels.length + 1)
    (fun k => ⟨labels.idxOf (keyStr k), Nat.lt_succ_of_le List.idxOf_le_length⟩)
    (fun x => "H" ++ toString x.val)

/-- `NameInj` (the weaker hypothesis of `C20_names_distinct_of_nameInj_global`) fails the same way
    as soon as the program has a generic record: two of its (possible) instantiations share a
    name.  (`C20_names_distinct_of_nameInj` itself asks `NameInjOn` on the built keys.) -/
theorem nameInj_unmeetable_by_finite_hash (P : Prog) (id : Nat) (d : Decl) (fs : List Field)
    (hP : P[id]? = some d) (hb : d.body = .record fs) (hn : d.nparams ≠ 0)
    (n : Nat) (h : Key → Fin n) (render : Fin n → String) :
    ¬ DeriveNames.NameInj P (fun k => render (h k)) := by
  intro hI
  refine no_inj_nat_fin n (fun i => h [.generic id i]) ?_
  intro i j hij
  have e : DeriveNames.recName d (fun k => render (h k)) [.generic id i] =
      DeriveNames.recName d (fun k => render (h k)) [.generic id j] := by
    simp only [DeriveNames.recName, hn, if_false]
    rw [show h [.generic id i] = h [.generic id j] from hij]
  have := hI (.top [.generic id i]) (.top [.generic id j]) _
    (DeriveNames.Named.record hP hb (.inr ⟨hn, i, [], rfl⟩))
    (by rw [e]; exact DeriveNames.Named.record hP hb (.inr ⟨hn, j, [], rfl⟩))
  simpa using this

example (keyStr : Key → String) (labels : List String) :
    ¬ DeriveNames.NameInj progF (driverHash keyStr labels) :=
  nameInj_unmeetable_by_finite_hash progF 0 _ _ rfl rfl (by decide) (labels.length + 1)
    (fun k => ⟨labels.idxOf (keyStr k), Nat.lt_succ_of_le List.idxOf_le_length⟩)
    (fun x => "H" ++ toString x.val)


/-! ## The restricted hypotheses (`NamesWfOn` on `genericRecordKeys`, `NameInjOn` on `builtKeys`) are
met by the hash the driver runs the model with -/

theorem toDigitsCore_nodot : ∀ (fuel n : Nat) (ds : List Char), '.' ∉ ds →
    '.' ∉ Nat.toDigitsCore 10 fuel n ds
  | 0, _, ds, h => by simpa [Nat.toDigitsCore] using h
  | fuel + 1, n, ds, h => by
    have hd : '.' ∉ Nat.digitChar (n % 10) :: ds := by
      simp only [List.mem_cons, not_or]
      exact ⟨(Nat.digitChar_ne '.' rfl).symm, h⟩
    simp only [Nat.toDigitsCore]
    split
    · exact hd
    · exact toDigitsCore_nodot fuel _ _ hd

theorem toString_nat_nodot (n : Nat) : '.' ∉ (toString n).toList := by
  simp only [Nat.toString_eq_repr, Nat.toList_repr, Nat.toDigits]
  exact toDigitsCore_nodot _ _ _ (by simp)

theorem toString_nat_inj {n m : Nat} (h : toString n = toString m) : n = m := by
  have := congrArg String.toList h
  simp only [Nat.toString_eq_repr, Nat.toList_repr] at this
  exact DeriveNames.repr_inj this

theorem driverHash_nodot (keyStr : Key → String) (labels : List String) (k : Key) :
    '.' ∉ (driverHash keyStr labels k).toList := by
  unfold driverHash
  rw [String.toList_append]
  intro hm
  rcases List.mem_append.1 hm with hm | hm
  · revert hm; decide
  · exact toString_nat_nodot _ hm

/-- The driver's hash is injective on every list of keys on which the rendering `keyStr` is
    injective and whose renderings are all labelled.  (The driver extracts `labels` from a first build in which
    `hash k` embeds `keyStr k`: every key whose hash enters a name is labelled.) -/
theorem driverHash_injOn (keyStr : Key → String) (labels : List String) (Ks : List Key)
    (hinj : ∀ k ∈ Ks, ∀ k' ∈ Ks, keyStr k = keyStr k' → k = k')
    (hlab : ∀ k ∈ Ks, keyStr k ∈ labels) :
    (∀ k ∈ Ks, ∀ k' ∈ Ks, driverHash keyStr labels k = driverHash keyStr labels k' → k = k') ∧
    (∀ k ∈ Ks, '.' ∉ (driverHash keyStr labels k).toList) := by
  refine ⟨fun k hk k' hk' h => ?_, fun k _ => driverHash_nodot keyStr labels k⟩
  unfold driverHash at h
  have hi := toString_nat_inj ((String.append_right_inj _).mp h)
  have h1 := List.idxOf_lt_length_iff.2 (hlab k hk)
  have h2 := List.idxOf_lt_length_iff.2 (hlab k' hk')
  have e1 := List.getElem_idxOf h1
  have e2 := List.getElem_idxOf h2
  refine hinj k hk k' hk' ?_
  rw [← e1, ← e2]
  simp only [hi]

/-- Only `hash_inj` and `hash_nodot` speak of the hash: the other fields of `NamesWfOn` carry over
    from any hash (and any list of keys) to any other. -/
theorem namesWfOn_withHash {P : Prog} {h0 h : Key → String} {Ks0 Ks : List Key}
    (hW : NamesWfOn P h0 Ks0) (hinj : ∀ k ∈ Ks, ∀ k' ∈ Ks, h k = h k' → k = k')
    (hdot : ∀ k ∈ Ks, '.' ∉ (h k).toList) : NamesWfOn P h Ks :=
  { toStructWf := hW.toStructWf
    start_ok := hW.start_ok, distinct := hW.distinct, no_u8_array := hW.no_u8_array
    generic_prefix_free := hW.generic_prefix_free, hash_inj := hinj, hash_nodot := hdot }

/-- `C20_names_distinct` for ANY program built with the driver's hash: the program-text conditions
    (`NamesWfOn` on the empty list: its two fields about the hash are void, the others do not
    mention the hash), a rendering injective on the generic-record keys the build registers, all
    of them labelled. -/
theorem names_distinct_driverHash (P : Prog) (keyStr : Key → String) (labels : List String)
    (fuel : Nat) (root : Ty) (S : SchemaMut) (h0 : Key → String)
    (h : schemaMut P (driverHash keyStr labels) fuel root = some S) (hW : NamesWfOn P h0 [])
    (hinj : ∀ k ∈ DeriveNames.genericRecordKeys P (driverHash keyStr labels) fuel root,
      ∀ k' ∈ DeriveNames.genericRecordKeys P (driverHash keyStr labels) fuel root,
      keyStr k = keyStr k' → k = k')
    (hlab : ∀ k ∈ DeriveNames.genericRecordKeys P (driverHash keyStr labels) fuel root,
      keyStr k ∈ labels) : (definedNames S).Nodup := by
  obtain ⟨h1, h2⟩ := driverHash_injOn keyStr labels _ hinj hlab
  exact C20_names_distinct P _ fuel root S h (namesWfOn_withHash hW h1 h2)

/-! ### Closed instance: `progF`, the driver's fuel, the driver's hash -/

/-- The lookup keys of the two instantiations `Pair<i64>`, `Pair<String>`. -/
def kLong : Key := [.generic 0 2, .long, .vec, .long]
def kStr : Key := [.generic 0 2, .string, .vec, .string]

/-- A concrete (kernel-computable, injective: `hashDemo_inj`) rendering of keys, standing for the
    driver's `toString (repr k)`. -/
def keyStrF : Key → String := DeriveNames.hashDemo

/-- What the driver's first build yields as labels: the renderings of the keys whose hash occurs
    in a defined name, in order of first appearance (`m.Pair_⟦…long…⟧` before
    `m.Pair_⟦…string…⟧`). -/
def labelsF : List String := [keyStrF kLong, keyStrF kStr]

/-- The driver's extraction of the labels from the names of its first build (`Driver/Main.lean`,
    `runDerive`), which embeds `keyStr k` between `⟦` and `⟧`.  (`String.splitOn` does not reduce
    in the kernel, so the agreement with `labelsF` is checked by evaluation only.) -/
def driverLabels (names : List String) : List String :=
  names.foldl (fun acc nm =>
      ((nm.splitOn "⟦").drop 1).foldl (fun acc p =>
        let k := (p.splitOn "⟧").headD ""
        if acc.contains k then acc else acc ++ [k]) acc) []

#guard (schemaMut progF (fun k => "⟦" ++ keyStrF k ++ "⟧") fuelF (.named 2 [])).map
    (fun S => driverLabels (definedNames S)) == some labelsF

/-- The hash of the driver's second build. -/
def hashF : Key → String := driverHash keyStrF labelsF

/-- It is not injective: every unlabelled key gets `"H2"`. -/
example : hashF [.self 0] = hashF [.self 1] ∧ hashF [.self 0] = "H2" ∧ hashF kLong = "H0" ∧
    hashF kStr = "H1" := by decide +kernel

/-- The keys the build registers (all of them), and those of generic records. -/
example : DeriveNames.builtKeys progF hashF fuelF (.named 2 []) =
    [[.unit], [.option, .self 2], [.vec, .self 2], [.self 1], [.vec, .string], [.string], kStr,
     [.vec, .long], [.long], kLong, [.int], [.self 2]] := by decide +kernel

theorem genericRecordKeys_progF :
    DeriveNames.genericRecordKeys progF hashF fuelF (.named 2 []) = [kStr, kLong] := by
  decide +kernel

/-- The hypothesis of `C20_names_distinct` with the driver's hash: the program-text fields as in
    `progF_namesWf`, the two fields about the hash from `driverHash_injOn`. -/
theorem progF_namesWfOn_driverHash :
    NamesWfOn progF hashF (DeriveNames.genericRecordKeys progF hashF fuelF (.named 2 [])) := by
  have hh := driverHash_injOn keyStrF labelsF [kStr, kLong]
    (fun k _ k' _ => DeriveNames.hashDemo_inj k k') (by decide +kernel)
  rw [genericRecordKeys_progF]
  exact namesWfOn_withHash (progF_namesWf.on []) hh.1 hh.2

/-- … the two fields about the hash are also decidable outright. -/
example : (∀ k ∈ DeriveNames.genericRecordKeys progF hashF fuelF (.named 2 []),
      ∀ k' ∈ DeriveNames.genericRecordKeys progF hashF fuelF (.named 2 []),
      hashF k = hashF k' → k = k') ∧
    (∀ k ∈ DeriveNames.genericRecordKeys progF hashF fuelF (.named 2 []),
      '.' ∉ (hashF k).toList) := by decide +kernel

/-- `C20_names_distinct`, closed, with the hash the driver really runs the model with. -/
theorem names_distinct_driverHash_closed :
    ∃ Sm, schemaMut progF hashF fuelF (.named 2 []) = some Sm ∧ (definedNames Sm).Nodup := by
  obtain ⟨Sm, h⟩ := exists_of_isSome
    (by decide +kernel : (schemaMut progF hashF fuelF (.named 2 [])).isSome = true)
  exact ⟨Sm, h, C20_names_distinct _ _ _ _ Sm h progF_namesWfOn_driverHash⟩

example : (schemaMut progF hashF fuelF (.named 2 [])).map definedNames =
    some ["m.Tree", "m.Pair_H0", "m.Pair_H1", "m.Color"] := by decide +kernel

/-- `C20_names_distinct_of_nameInj` (hypotheses `StructWf`, `NameInjOn` on the built keys) with
    the driver's hash, `NameInjOn` obtained from `nameInjOn_of_textWfOn`. -/
theorem progF_nameInjOn_driverHash :
    DeriveNames.NameInjOn progF hashF (fun k => k ∈ DeriveNames.builtKeys progF hashF fuelF (.named 2 [])) :=
  DeriveNames.nameInjOn_of_textWfOn progF_namesWfOn_driverHash.toTextWfOn
    (fun _ hk hg => List.mem_filter.2 ⟨hk, hg⟩)

example (Sm : SchemaMut) (h : schemaMut progF hashF fuelF (.named 2 []) = some Sm) :
    (definedNames Sm).Nodup :=
  C20_names_distinct_of_nameInj _ _ _ _ Sm h progF_namesWfOn_driverHash.toStructWf
    progF_nameInjOn_driverHash

/-- The restricted injectivity is needed: a hash that collides on the two registered
    generic-record keys defines `m.Pair_X` twice (and fails `NamesWfOn.hash_inj` there). -/
example : (schemaMut progF (fun _ => "X") fuelF (.named 2 [])).map definedNames =
    some ["m.Tree", "m.Pair_X", "m.Pair_X", "m.Color"] := by decide +kernel

example : ¬ NamesWfOn progF (fun _ => "X")
    (DeriveNames.genericRecordKeys progF (fun _ => "X") fuelF (.named 2 [])) := by
  intro h
  have e : DeriveNames.genericRecordKeys progF (fun _ => "X") fuelF (.named 2 []) = [kStr, kLong] := by
    decide +kernel
  have := h.hash_inj kStr (by rw [e]; decide) kLong (by rw [e]; decide) rfl
  revert this; decide

/-- … while the global hypotheses stay out of reach of that hash. -/
example : ¬ NamesWf progF hashF := driverHash_not_namesWf progF keyStrF labelsF

/-- The general form on the same instance (any labels covering the two keys would do). -/
example (Sm : SchemaMut) (h : schemaMut progF hashF fuelF (.named 2 []) = some Sm) :
    (definedNames Sm).Nodup :=
  names_distinct_driverHash progF keyStrF labelsF fuelF _ Sm DeriveNames.hashDemo h (progF_namesWf.on [])
    (fun k _ k' _ => DeriveNames.hashDemo_inj k k')
    (by rw [show DeriveNames.genericRecordKeys progF (driverHash keyStrF labelsF) fuelF (.named 2 []) =
          [kStr, kLong] from genericRecordKeys_progF]; decide +kernel)

/-- C14 on a derived schema: `C20_keys_in_bounds` + `freezeNodes_keysInBounds` discharge the second
    disjunct of `C14_no_assert_panic_of_get` — no serializer call tree at all (of the type or
    not) panics at the root of a derived schema, on any clean pool, any budget. -/
example (ext : Avro.Impl.Ext) (hash : Key → String) (fuel : Nat) (Sm : SchemaMut)
    (h : schemaMut progF hash fuel (.named 2 []) = some Sm) (sv : SV) (s : SerState)
    (hc : PoolClean s.pool) :
    ∃ node, (freezeNodes Sm)[0]? = some node ∧
      (ser ext false (freezeNodes Sm) node sv s).1 ≠ .error .panic := by
  have hsz : 0 < (freezeNodes Sm).size := by
    rw [freezeNodes_size]; exact C20_root_is_node_zero _ _ _ _ Sm h
  have hget : (freezeNodes Sm)[0]? = some (freezeNodes Sm)[0] := Array.getElem?_eq_getElem hsz
  refine ⟨(freezeNodes Sm)[0], hget, ?_⟩
  rcases C14_no_assert_panic_of_get ext false (freezeNodes Sm) 0 _ hget sv s hc with h' | h'
  · exact h'
  · exact (h' (freezeNodes_keysInBounds Sm (C20_keys_in_bounds _ _ _ _ Sm h))).elim

end NVF20

end Avro.Theorems
