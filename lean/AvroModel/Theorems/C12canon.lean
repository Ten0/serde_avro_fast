import AvroModel.Theorems.C01de
import AvroModel.Theorems.C12
import AvroModel.Lemmas.CanonExact
import AvroModel.Theorems.C12layouts
/-
C12 — canonical encodings satisfy the hypothesis `hexact` of `C12_skip_all_layouts`.

`C12_skip_all_layouts` (Theorems/C12layouts.lean) needs
    hexact : (Spec.decodeX Limits.impl S fuelX node bytes).isSome
(the input is within the implementation's numeric limits and every announced block byte size is
exact).  Here: every canonical encoding (`Spec.encode`: one block without a byte size per
non-empty array/map, then the end marker; minimal varints) is accepted by `decodeX Limits.impl`,
which returns the encoded value itself and exactly the trailing bytes, with the fuel `Spec.size v`
of `C01_spec_roundtrip` — as soon as the decimals of the value occupy at most 16 bytes
(`Spec.decFits Limits.impl`).  That condition is necessary and sufficient
(`C12_canonical_exact_iff`); it follows from the side conditions `hobs`, `hfix` of
`C01_de_accepts` / `C12_skip_canonical` and is strictly weaker (`C12_canon_exact_beyond_observe`).

Consequently the canonical case of C12 is a corollary of the all-layouts theorem
(`C12_skip_canonical`, Theorems/C12.lean, is `C12_skip_exact_layouts` on the run of `decodeX` that
`C12_canonical_is_exact` gives; `C12_skip_canonical_via_layouts` repeats its statement), and skipping
and reading a canonical encoding end in the same state (`C12_skip_agrees_with_read_canonical`,
`C12_skip_follows_read_canonical`).
-/
namespace Avro.Theorems
open Avro Avro.Spec Avro.Impl

/-! ### Canonical encodings are exact -/

/-- **Canonical encodings are exact, any limits.**  For limits `L` that admit 10-byte varints
    (`hV`; a canonical varint of a 64-bit number has at most 10 bytes) and a value whose decimals
    fit `L.maxDecimal` (`hfit`), the exact-size decoder returns the encoded value and exactly the
    trailing bytes, with every fuel `≥ Spec.size v`. -/
theorem C12_canonical_is_exact_limits (L : Limits) (hV : fitsOpt L.maxVarint 10 = true)
    (S : Schema) (n : Node) (v : Spec.Value) (enc rest : Bytes)
    (henc : Spec.encode S n v = some enc) (hfit : Spec.decFits L S n v = true)
    (fuelX : Nat) (hfuel : Spec.size v ≤ fuelX) :
    Spec.decodeX L S fuelX n (enc ++ rest) = some (v, rest) :=
  Spec.decodeX_encode L hV S n v enc rest henc hfit fuelX hfuel

/-- **Canonical encodings are exact** (the implementation's limits, sharp hypothesis): the only
    condition besides conformance (`henc`) is that every decimal of `v` occupies at most 16 bytes
    (`decFits Limits.impl`: on `bytes` the minimal two's-complement length of the unscaled value,
    on `fixed` the size of the fixed).  Lengths, counts and indices `< 2^63` are part of `henc`. -/
theorem C12_canonical_is_exact_fits (S : Schema) (n : Node) (v : Spec.Value) (enc rest : Bytes)
    (henc : Spec.encode S n v = some enc) (hfit : Spec.decFits Limits.impl S n v = true)
    (fuelX : Nat) (hfuel : Spec.size v ≤ fuelX) :
    Spec.decodeX Limits.impl S fuelX n (enc ++ rest) = some (v, rest) :=
  Spec.decodeX_encode Limits.impl rfl S n v enc rest henc hfit fuelX hfuel

/-- **Canonical encodings are exact**, under the side conditions of `C01_de_accepts` and
    `C12_skip_canonical`: `hobs` (`rust_decimal` can represent every decimal of `v`, hence
    `|unscaled| < 2^96`, at most 13 bytes) and `hfix` (a decimal on a `fixed` has at most 16
    bytes).  `decodeX` returns exactly `v` (no normalisation is needed: the canonical layout — one
    block without a byte size, then the end marker — decodes to the encoded list). -/
theorem C12_canonical_is_exact (S : Schema) (n : Node) (v : Spec.Value) (enc rest : Bytes)
    (henc : Spec.encode S n v = some enc) (hobs : (Spec.observe S n v).isSome = true)
    (hfix : Spec.fixedDecOk S n v = true)
    (fuelX : Nat) (hfuel : Spec.size v ≤ fuelX) :
    Spec.decodeX Limits.impl S fuelX n (enc ++ rest) = some (v, rest) :=
  Spec.decodeX_impl_encode S n v enc rest henc hobs hfix fuelX hfuel

/-- with some fuel (namely `Spec.size v`) -/
theorem C12_canonical_is_exact_exists (S : Schema) (n : Node) (v : Spec.Value) (enc rest : Bytes)
    (henc : Spec.encode S n v = some enc) (hobs : (Spec.observe S n v).isSome = true)
    (hfix : Spec.fixedDecOk S n v = true) :
    ∃ fuelX, Spec.decodeX Limits.impl S fuelX n (enc ++ rest) = some (v, rest) :=
  ⟨Spec.size v, C12_canonical_is_exact S n v enc rest henc hobs hfix _ (Nat.le_refl _)⟩

/-- the hypothesis `hexact` of `C12_skip_all_layouts`, as it is stated there -/
theorem C12_canonical_hexact (S : Schema) (n : Node) (v : Spec.Value) (enc rest : Bytes)
    (henc : Spec.encode S n v = some enc) (hobs : (Spec.observe S n v).isSome = true)
    (hfix : Spec.fixedDecOk S n v = true) :
    (Spec.decodeX Limits.impl S (Spec.size v) n (enc ++ rest)).isSome = true := by
  rw [C12_canonical_is_exact S n v enc rest henc hobs hfix _ (Nat.le_refl _)]
  rfl

/-- … and the hypothesis `hlim` of `C03_de_refines_spec`, with explicit fuel (`C03_canonical_within_limits`
    gives some fuel) -/
theorem C12_canonical_hlim (S : Schema) (n : Node) (v : Spec.Value) (enc rest : Bytes)
    (henc : Spec.encode S n v = some enc) (hfit : Spec.decFits Limits.impl S n v = true)
    (fuelL : Nat) (hfuel : Spec.size v ≤ fuelL) :
    Spec.decodeL Limits.impl S fuelL n (enc ++ rest) = some (v, rest) :=
  Spec.decodeX_sub _ S fuelL n _ _ (C12_canonical_is_exact_fits S n v enc rest henc hfit fuelL hfuel)

/-! ### The canonical case of C12 as a corollary of the all-layouts theorem -/

/-- the statement of `C12_skip_canonical_fuel3` -/
theorem C12_skip_canonical_via_layouts_fuel3 (cfg : DeConfig) (S : Schema) (n : Node)
    (v : Spec.Value) (enc rest : Bytes) (depth : Nat)
    (henc : Spec.encode S n v = some enc) (hobs : (Spec.observe S n v).isSome = true)
    (hfix : Spec.fixedDecOk S n v = true)
    (hdepth : Spec.depthOf v ≤ depth) (hseq : Spec.maxLen v ≤ cfg.maxSeqSize)
    (fuel : Nat) (hfuel : 3 * Spec.size v ≤ fuel)
    (s : RState) (hs : s.isSlice = true) (hl : s.limit = none) (ha : s.avail = 0)
    (hr : s.rest = enc ++ rest) :
    de deExtModel cfg S fuel n depth false .ignored s = (.ok .unit, { s with rest := rest }) :=
  C12_skip_canonical_fuel3 cfg S n v enc rest depth henc hobs hfix hdepth hseq fuel hfuel s hs hl ha hr

/-- **C12 (skipping a canonical encoding), via the all-layouts theorem.**  Word for word the
    statement of `C12_skip_canonical` (Theorems/C12.lean), which is the all-layouts theorem
    (`C12_skip_exact_layouts`) applied to `C12_canonical_is_exact` (there `decodeX_canonical`). -/
theorem C12_skip_canonical_via_layouts (cfg : DeConfig) (S : Schema) (n : Node) (v : Spec.Value)
    (enc rest : Bytes) (depth : Nat)
    (henc : Spec.encode S n v = some enc) (hobs : (Spec.observe S n v).isSome = true)
    (hfix : Spec.fixedDecOk S n v = true)
    (hdepth : Spec.depthOf v ≤ depth) (hseq : Spec.maxLen v ≤ cfg.maxSeqSize)
    (fuel : Nat) (hfuel : Spec.size v * 4 + 8 ≤ fuel)
    (s : RState) (hs : s.isSlice = true) (hl : s.limit = none) (ha : s.avail = 0)
    (hr : s.rest = enc ++ rest) :
    de deExtModel cfg S fuel n depth false .ignored s = (.ok .unit, { s with rest := rest }) :=
  C12_skip_canonical cfg S n v enc rest depth henc hobs hfix hdepth hseq fuel hfuel s hs hl ha hr

/-! ### Skipping and reading a canonical encoding end in the same state -/

/-- **C12 on canonical encodings: both reads, explicitly.**  The full read delivers the
    observation of `v`, the skipping read delivers `unit`, and both end in the state
    `{ s with rest := rest }`: exactly the encoding has been consumed and nothing else changed.
    (`C01_de_accepts` and `C12_skip_canonical`, both from the all-layouts theorems.) -/
theorem C12_skip_agrees_with_read_canonical (cfg : DeConfig) (S : Schema) (n : Node)
    (v : Spec.Value) (enc rest : Bytes) (o : Out) (depth : Nat)
    (henc : Spec.encode S n v = some enc) (hobs : Spec.observe S n v = some o)
    (hfix : Spec.fixedDecOk S n v = true)
    (hdepth : Spec.depthOf v ≤ depth) (hseq : Spec.maxLen v ≤ cfg.maxSeqSize)
    (fuel : Nat) (hfuel : Spec.size v * 4 + 8 ≤ fuel)
    (s : RState) (hs : s.isSlice = true) (hl : s.limit = none) (ha : s.avail = 0)
    (hr : s.rest = enc ++ rest) :
    de deExtModel cfg S fuel n depth false .any s = (.ok o, { s with rest := rest }) ∧
    de deExtModel cfg S fuel n depth false .ignored s = (.ok .unit, { s with rest := rest }) ∧
    (de deExtModel cfg S fuel n depth false .ignored s).2 =
      (de deExtModel cfg S fuel n depth false .any s).2 := by
  have h1 := C01_de_accepts cfg S n v enc rest o depth henc hobs hfix hdepth hseq fuel hfuel s hs hl
    ha hr
  have h2 := C12_skip_canonical cfg S n v enc rest depth henc (by rw [hobs]; rfl) hfix hdepth hseq
    fuel hfuel s hs hl ha hr
  refine ⟨h1, h2, ?_⟩
  rw [h1, h2]

/-- The same-state half alone, with `hobs` as in `C12_skip_canonical` (the statement of
    `C12_skip_same_rest`, Theorems/C12.lean, from the all-layouts theorems). -/
theorem C12_skip_same_state_canonical (cfg : DeConfig) (S : Schema) (n : Node) (v : Spec.Value)
    (enc rest : Bytes) (depth : Nat)
    (henc : Spec.encode S n v = some enc) (hobs : (Spec.observe S n v).isSome = true)
    (hfix : Spec.fixedDecOk S n v = true)
    (hdepth : Spec.depthOf v ≤ depth) (hseq : Spec.maxLen v ≤ cfg.maxSeqSize)
    (fuel : Nat) (hfuel : Spec.size v * 4 + 8 ≤ fuel)
    (s : RState) (hs : s.isSlice = true) (hl : s.limit = none) (ha : s.avail = 0)
    (hr : s.rest = enc ++ rest) :
    (de deExtModel cfg S fuel n depth false .ignored s).2 =
      (de deExtModel cfg S fuel n depth false .any s).2 :=
  C12_skip_same_rest cfg S n v enc rest depth henc hobs hfix hdepth hseq fuel hfuel s hs hl ha hr

/-- **C12 on canonical encodings, in the form of the property, with no side condition on the
    value.**  If the full read succeeds on an input that starts with the canonical encoding of `v`
    at `n`, the skipping read succeeds and ends in the *same state* `s₁`, which is the state after
    exactly the encoding; what the full read delivered is the observation of `v`.  That the
    decimals of `v` fit, that `v` fits the depth budget and `max_seq_size`: all of it follows from
    the success of the full read (`de_sound_bounds`, `decFits_of_decodeL`).  `fuel` and `fuelR`
    are independent. -/
theorem C12_skip_follows_read_canonical (cfg : DeConfig) (S : Schema) (n : Node) (v : Spec.Value)
    (enc rest : Bytes) (depth fuelR : Nat) (s s₁ : RState) (o : Out)
    (hs : s.isSlice = true) (hl : s.limit = none) (ha : s.avail = 0)
    (hr : s.rest = enc ++ rest) (henc : Spec.encode S n v = some enc)
    (hread : de deExtModel cfg S fuelR n depth false .any s = (.ok o, s₁))
    (fuel : Nat) (hfuel : 3 * Spec.size v ≤ fuel) :
    de deExtModel cfg S fuel n depth false .ignored s = (.ok .unit, s₁) ∧
      Spec.observe S n v = some o ∧ s₁.rest = rest := by
  obtain ⟨v', fS, hv', _, _, _, _⟩ := de_sound_bounds cfg S n depth fuelR s s₁ o hs hl ha hread
  rw [hr] at hv'
  have hfit := Spec.decFits_of_decodeL Limits.impl S n v enc rest henc fS _ hv'
  have hx := C12_canonical_is_exact_fits S n v enc rest henc hfit _ (Nat.le_refl _)
  rw [← hr] at hx
  exact C12_skip_agrees_with_read cfg S n depth fuelR s s₁ o hs hl ha hread v rest _ hx fuel hfuel

/-! ### The hypothesis on decimals is necessary and sufficient -/

/-- **`decFits` is exactly the condition.**  For a value with a canonical encoding `enc`: the
    exact-size decoder with the implementation's limits accepts `enc ++ rest` (with some fuel) if
    and only if every decimal of the value occupies at most 16 bytes. -/
theorem C12_canonical_exact_iff (S : Schema) (n : Node) (v : Spec.Value) (enc rest : Bytes)
    (henc : Spec.encode S n v = some enc) :
    (∃ fuelX, (Spec.decodeX Limits.impl S fuelX n (enc ++ rest)).isSome = true) ↔
      Spec.decFits Limits.impl S n v = true := by
  constructor
  · rintro ⟨fuelX, h⟩
    obtain ⟨r, hr⟩ := Option.isSome_iff_exists.1 h
    exact Spec.decFits_of_decodeX Limits.impl S n v enc rest henc fuelX r hr
  · intro hfit
    exact ⟨Spec.size v, by
      rw [C12_canonical_is_exact_fits S n v enc rest henc hfit _ (Nat.le_refl _)]; rfl⟩

/-- the same for any limits that admit 10-byte varints, and for `decodeL` (no size check) as well:
    on canonical encodings `decodeX L` and `decodeL L` accept the same values -/
theorem C12_canonical_exact_iff_limits (L : Limits) (hV : fitsOpt L.maxVarint 10 = true)
    (S : Schema) (n : Node) (v : Spec.Value) (enc rest : Bytes)
    (henc : Spec.encode S n v = some enc) :
    ((∃ fuelX, Spec.decodeX L S fuelX n (enc ++ rest) = some (v, rest)) ↔
      Spec.decFits L S n v = true) ∧
    ((∃ fuelL, (Spec.decodeL L S fuelL n (enc ++ rest)).isSome = true) ↔
      Spec.decFits L S n v = true) := by
  refine ⟨⟨?_, ?_⟩, ⟨?_, ?_⟩⟩
  · rintro ⟨fuelX, h⟩
    exact Spec.decFits_of_decodeX L S n v enc rest henc fuelX _ h
  · intro hfit
    exact ⟨Spec.size v, C12_canonical_is_exact_limits L hV S n v enc rest henc hfit _ (Nat.le_refl _)⟩
  · rintro ⟨fuelL, h⟩
    obtain ⟨r, hr⟩ := Option.isSome_iff_exists.1 h
    exact Spec.decFits_of_decodeL L S n v enc rest henc fuelL r hr
  · intro hfit
    exact ⟨Spec.size v, by
      rw [Spec.decodeX_sub _ S _ n _ _
        (C12_canonical_is_exact_limits L hV S n v enc rest henc hfit _ (Nat.le_refl _))]; rfl⟩

/-- the rejecting half of `C12_canonical_exact_iff_limits`: a decimal that does not fit is refused with
    every fuel, whatever follows -/
theorem C12_canonical_not_exact (L : Limits) (S : Schema) (n : Node) (v : Spec.Value) (enc : Bytes)
    (henc : Spec.encode S n v = some enc) (hnf : Spec.decFits L S n v = false) (fuelX : Nat)
    (rest : Bytes) : Spec.decodeX L S fuelX n (enc ++ rest) = none := by
  cases hx : Spec.decodeX L S fuelX n (enc ++ rest) with
  | none => rfl
  | some r =>
    have := Spec.decFits_of_decodeX L S n v enc rest henc fuelX r hx
    rw [hnf] at this
    cases this

/-- **`hfix` is necessary** (in `C12_canonical_is_exact`): `decimal 0` on a 17-byte `fixed` has a
    canonical encoding and an observation, and no fuel makes `decodeX Limits.impl` accept it. -/
theorem C12_canon_fixed17_not_exact :
    Spec.encode #[] (.decimal 0 40 (.fixed nm17 17)) (.decimal 0) = some (List.replicate 17 0) ∧
    (Spec.observe #[] (.decimal 0 40 (.fixed nm17 17)) (.decimal 0)).isSome = true ∧
    Spec.fixedDecOk #[] (.decimal 0 40 (.fixed nm17 17)) (.decimal 0) = false ∧
    Spec.decFits Limits.impl #[] (.decimal 0 40 (.fixed nm17 17)) (.decimal 0) = false ∧
    (∀ fuelX rest, Spec.decodeX Limits.impl #[] fuelX (.decimal 0 40 (.fixed nm17 17))
      (List.replicate 17 0 ++ rest) = none) := by
  have henc : Spec.encode #[] (.decimal 0 40 (.fixed nm17 17)) (.decimal 0) =
      some (List.replicate 17 0) := by decide
  have hnf : Spec.decFits Limits.impl #[] (.decimal 0 40 (.fixed nm17 17)) (.decimal 0) = false := by
    decide
  exact ⟨henc, by decide +kernel, by decide, hnf, C12_canonical_not_exact _ _ _ _ _ henc hnf⟩

/-- **`hobs` cannot simply be dropped** (in `C12_canonical_is_exact`): the decimal `2^127` on
    `bytes` has a canonical encoding (17 bytes `00 80 00 … 00`, after the length `34`), meets
    `hfix`, and no fuel makes `decodeX Limits.impl` accept it.  What is needed of `hobs` is
    `decFits` (here `false`), no more (`C12_canon_exact_beyond_observe`). -/
theorem C12_canon_wide_decimal_not_exact :
    Spec.encode #[] (.decimal 0 40 .bytes) (.decimal (2 ^ 127)) =
      some (34 :: 0 :: 128 :: List.replicate 15 0) ∧
    Spec.fixedDecOk #[] (.decimal 0 40 .bytes) (.decimal (2 ^ 127)) = true ∧
    Spec.observe #[] (.decimal 0 40 .bytes) (.decimal (2 ^ 127)) = none ∧
    Spec.decFits Limits.impl #[] (.decimal 0 40 .bytes) (.decimal (2 ^ 127)) = false ∧
    (∀ fuelX rest, Spec.decodeX Limits.impl #[] fuelX (.decimal 0 40 .bytes)
      (34 :: 0 :: 128 :: List.replicate 15 0 ++ rest) = none) := by
  have henc : Spec.encode #[] (.decimal 0 40 .bytes) (.decimal (2 ^ 127)) =
      some (34 :: 0 :: 128 :: List.replicate 15 0) := by decide +kernel
  have hnf : Spec.decFits Limits.impl #[] (.decimal 0 40 .bytes) (.decimal (2 ^ 127)) = false := by
    decide
  exact ⟨henc, by decide, Option.isNone_iff_eq_none.1 (by decide +kernel), hnf,
    C12_canonical_not_exact _ _ _ _ _ henc hnf⟩

/-- `decFits` is strictly weaker than `hobs ∧ hfix`: the decimal `2^96` on a 13-byte `fixed`
    (`C12_skip_big_decimal_rejected`: no observation, skipping it fails in `rust_decimal`) is
    within the limits, and `decodeX Limits.impl` returns it. -/
theorem C12_canon_exact_beyond_observe (rest : Bytes) :
    Spec.observe #[] (.decimal 0 40 (.fixed nm13 13)) (.decimal (2 ^ 96)) = none ∧
    Spec.decFits Limits.impl #[] (.decimal 0 40 (.fixed nm13 13)) (.decimal (2 ^ 96)) = true ∧
    Spec.decodeX Limits.impl #[] 1 (.decimal 0 40 (.fixed nm13 13))
      ((1 :: List.replicate 12 0) ++ rest) = some (.decimal (2 ^ 96), rest) := by
  refine ⟨C12_skip_big_decimal_rejected.2.1, by decide, ?_⟩
  exact C12_canonical_is_exact_fits #[] _ _ _ rest C12_skip_big_decimal_rejected.1 (by decide) 1
    (by decide)

/-! ### Non-vacuity on a concrete non-trivial value -/

def c12cRec : Name := { fq := "r", short := "r", ns := none }

/-- `0: int`, `1: array<int>`, `2: decimal(10, 2)` on `bytes`, `3: null`, `4: map<long>`,
    `5: long`, `6: union [null, map<long>]`, `7: record r {a: array<int>, d: decimal, u: union}` -/
def c12cSchema : Schema :=
  #[.int, .array 0, .decimal 2 10 .bytes, .null, .map 5, .long, .union [3, 4],
    .record c12cRec [("a", 1), ("d", 2), ("u", 6)]]

def c12cNode : Node := .record c12cRec [("a", 1), ("d", 2), ("u", 6)]

/-- `{a: [1, 2, 3], d: 12.34, u: {"k": -1}}` -/
def c12cValue : Spec.Value :=
  .record [.array [.int 1, .int 2, .int 3], .decimal 1234, .union 1 (.map [("k", .long (-1))])]

/-- `a`: count 3, items 1 2 3, end; `d`: length 2, `04 d2`; `u`: branch 1, count 1, key "k",
    value -1, end -/
def c12cBytes : Bytes :=
  [0x06, 0x02, 0x04, 0x06, 0x00, 0x04, 0x04, 0xd2, 0x02, 0x02, 0x02, 0x6b, 0x01, 0x00]

theorem c12c_encode : Spec.encode c12cSchema c12cNode c12cValue = some c12cBytes := by
  decide +kernel

theorem c12c_observe : (Spec.observe c12cSchema c12cNode c12cValue).isSome = true := by
  decide +kernel

theorem c12c_fix : Spec.fixedDecOk c12cSchema c12cNode c12cValue = true := by decide

theorem c12c_size : Spec.size c12cValue = 20 := by decide

/-- the hypotheses of `C12_canonical_is_exact` are met by `c12cValue`; one trailing byte -/
example : Spec.decodeX Limits.impl c12cSchema 20 c12cNode (c12cBytes ++ [0x2a]) =
    some (c12cValue, [0x2a]) :=
  C12_canonical_is_exact c12cSchema c12cNode c12cValue c12cBytes [0x2a] c12c_encode c12c_observe
    c12c_fix 20 (by rw [c12c_size]; decide)

/-- … of `C12_canonical_is_exact_fits` and of the equivalence -/
example : Spec.decFits Limits.impl c12cSchema c12cNode c12cValue = true := by decide

example : ∃ fuelX, (Spec.decodeX Limits.impl c12cSchema fuelX c12cNode (c12cBytes ++ [0x2a])).isSome
    = true :=
  (C12_canonical_exact_iff c12cSchema c12cNode c12cValue c12cBytes [0x2a] c12c_encode).2
    (by decide)

/-- … of `C12_skip_canonical_via_layouts`: the record is skipped, the trailing byte is left -/
example : de deExtModel {} c12cSchema 92 c12cNode 64 false .ignored
      { rest := c12cBytes ++ [0x2a] } = (.ok .unit, { rest := [0x2a] }) :=
  C12_skip_canonical_via_layouts {} c12cSchema c12cNode c12cValue c12cBytes [0x2a] 64 c12c_encode
    c12c_observe c12c_fix (by decide) (by decide) 92 (by rw [c12c_size]; decide)
    { rest := c12cBytes ++ [0x2a] } rfl rfl rfl rfl

/-- … of `C12_skip_agrees_with_read_canonical` -/
example : ∃ o,
    de deExtModel {} c12cSchema 92 c12cNode 64 false .any { rest := c12cBytes ++ [0x2a] } =
      (.ok o, { rest := [0x2a] }) ∧
    de deExtModel {} c12cSchema 92 c12cNode 64 false .ignored { rest := c12cBytes ++ [0x2a] } =
      (.ok .unit, { rest := [0x2a] }) := by
  obtain ⟨o, ho⟩ := Option.isSome_iff_exists.1 c12c_observe
  have := C12_skip_agrees_with_read_canonical {} c12cSchema c12cNode c12cValue c12cBytes [0x2a] o
    64 c12c_encode ho c12c_fix (by decide) (by decide) 92 (by rw [c12c_size]; decide)
    { rest := c12cBytes ++ [0x2a] } rfl rfl rfl rfl
  exact ⟨o, this.1, this.2.1⟩

/-- … and of `C12_skip_follows_read_canonical` (the full read is the one above; the skipping read
    runs with another fuel) -/
example : de deExtModel {} c12cSchema 60 c12cNode 64 false .ignored
      { rest := c12cBytes ++ [0x2a] } = (.ok .unit, { rest := [0x2a] }) := by
  obtain ⟨o, ho⟩ := Option.isSome_iff_exists.1 c12c_observe
  have hread := (C12_skip_agrees_with_read_canonical {} c12cSchema c12cNode c12cValue c12cBytes
    [0x2a] o 64 c12c_encode ho c12c_fix (by decide) (by decide) 92 (by rw [c12c_size]; decide)
    { rest := c12cBytes ++ [0x2a] } rfl rfl rfl rfl).1
  exact (C12_skip_follows_read_canonical {} c12cSchema c12cNode c12cValue c12cBytes [0x2a] 64 92
    { rest := c12cBytes ++ [0x2a] } { rest := [0x2a] } o rfl rfl rfl rfl c12c_encode hread 60
    (by rw [c12c_size]; decide)).1

end Avro.Theorems
