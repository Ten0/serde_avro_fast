import AvroModel.Lemmas.PcfInjective
import AvroModel.Theorems.C08spec
import AvroModel.Theorems.C18
/-
C08 (injectivity of the canonical form): "two schemas have the same Parsing Canonical Form only if
they agree in names, field order, symbols, sizes and structure".

The specification's transformation is `Canon.text ∘ canonOf` (`C08_pcf_factors`; `Canon`, the
canonical STRUCTURE of a document: `Lemmas/PcfCanon.lean`), and `Canon.text` is injective under the
decidable condition `CanonNamesOk`: no `"` inside a fullname, field name or symbol (the printer —
like the crate and the reference implementation — writes strings RAW between quotes), and no
reference whose fullname is a primitive type name.  Avro names are `[A-Za-z_][A-Za-z0-9_]*`
separated by dots and a primitive type name cannot be defined, so the condition holds for every
schema valid in the sense of the specification.  Both parts are necessary (`C08_quote_needed`,
`C08_primitive_name_needed`); the crate does not validate names, and the model shows two pairs of
accepted documents with one canonical form and two structures (`C08_crate_collision_quote`,
`C08_crate_collision_primitive_name`).
-/
namespace Avro.Theorems
open Avro Avro.Impl Avro.Spec.Pcf

/-- The strings of the structure contain no `"` and no reference bears a primitive type name. -/
def CanonNamesOk (c : Canon) : Prop := c.namesOk = true

instance (c : Canon) : Decidable (CanonNamesOk c) := by unfold CanonNamesOk; infer_instance

/-- The same condition on a document: on its canonical structure, if it has one. -/
def DocNamesOk (j : Json) : Prop := ∀ c, canonOf j = some c → CanonNamesOk c

instance (j : Json) : Decidable (DocNamesOk j) :=
  match h : canonOf j with
  | none => isTrue (by intro c hc; rw [h] at hc; cases hc)
  | some c =>
    if hc : CanonNamesOk c then isTrue (by intro c' hc'; rw [h] at hc'; cases hc'; exact hc)
    else isFalse (fun hall => hc (hall c h))

/-! ### factorisation -/

/-- **C08_pcf_factors**: the specification's transformation of a document is defined exactly where
    the canonical structure is, and its text is the text of the structure. -/
theorem C08_pcf_factors (j : Json) :
    parsingCanonicalForm j = (canonOf j).map Canon.text :=
  parsingCanonicalForm_eq j

/-- … in the form "for every document on which the transformation is defined". -/
theorem C08_pcf_factors_some {j : Json} {t : String} (h : parsingCanonicalForm j = some t) :
    ∃ c, canonOf j = some c ∧ t = c.text := by
  rw [C08_pcf_factors] at h
  cases hc : canonOf j with
  | none => rw [hc] at h; cases h
  | some c => rw [hc] at h; exact ⟨c, rfl, by simpa using h.symm⟩

/-- the tree version: `canon` is the JSON tree of the structure -/
theorem C08_canon_factors (enc : Option String) (j : Json) :
    canon enc j = (canonOfIn enc j).map Canon.toJson :=
  canon_factors enc j

/-! ### injectivity of the printer -/

/-- **C08_canon_text_injective**: the text determines the structure. -/
theorem C08_canon_text_injective {c₁ c₂ : Canon} (h₁ : CanonNamesOk c₁) (h₂ : CanonNamesOk c₂)
    (h : c₁.text = c₂.text) : c₁ = c₂ :=
  Canon.text_injective h₁ h₂ h

/-- The text is self-delimiting: a parser reads the structure back and stops at its end. -/
theorem C08_canon_parse_text (c : Canon) (h : CanonNamesOk c) (rest : List Char) :
    Canon.parse (c.text.toList ++ rest) = some (c, rest) := by
  rw [Canon.toList_text]; exact Canon.parse_chars c rest h

/-- More: the text of a structure followed by anything determines the structure and what
    follows (the grammar is unambiguous and prefix-free). -/
theorem C08_canon_text_prefix_free {c₁ c₂ : Canon} {r₁ r₂ : List Char}
    (h₁ : CanonNamesOk c₁) (h₂ : CanonNamesOk c₂)
    (h : c₁.text.toList ++ r₁ = c₂.text.toList ++ r₂) : c₁ = c₂ ∧ r₁ = r₂ := by
  rw [Canon.toList_text, Canon.toList_text] at h
  exact Canon.chars_append_injective h₁ h₂ h

/-- Without the condition on `"`: an enum with the ONE symbol `a","b` and an enum with the TWO
    symbols `a`, `b` have the same text. -/
theorem C08_quote_needed :
    (Canon.enum "E" ["a\",\"b"]).text = (Canon.enum "E" ["a", "b"]).text ∧
    Canon.enum "E" ["a\",\"b"] ≠ Canon.enum "E" ["a", "b"] ∧
    ¬ CanonNamesOk (Canon.enum "E" ["a\",\"b"]) ∧ CanonNamesOk (Canon.enum "E" ["a", "b"]) := by
  refine ⟨congrArg String.ofList (by decide +kernel), ?_, by decide +kernel, by decide +kernel⟩
  intro h
  injection h with _ h
  injection h with h _
  exact absurd h (by decide)

/-- Without the condition on references: a reference to a named type whose fullname is `int`
    and the primitive `int` have the same text. -/
theorem C08_primitive_name_needed :
    (Canon.ref "int").text = (Canon.prim .int).text ∧ Canon.ref "int" ≠ Canon.prim .int ∧
    ¬ CanonNamesOk (Canon.ref "int") ∧ CanonNamesOk (Canon.prim .int) := by
  refine ⟨by decide +kernel, ?_, by decide +kernel, by decide +kernel⟩
  intro h; cases h

/-! ### the specification's transformation -/

/-- **C08_pcf_injective**: two documents with the same Parsing Canonical Form have the same
    canonical structure. -/
theorem C08_pcf_injective {j₁ j₂ : Json} {t : String}
    (h₁ : parsingCanonicalForm j₁ = some t) (h₂ : parsingCanonicalForm j₂ = some t)
    (ok₁ : DocNamesOk j₁) (ok₂ : DocNamesOk j₂) :
    canonOf j₁ = canonOf j₂ := by
  obtain ⟨c₁, e₁, rfl⟩ := C08_pcf_factors_some h₁
  obtain ⟨c₂, e₂, e⟩ := C08_pcf_factors_some h₂
  rw [e₁, e₂, C08_canon_text_injective (ok₁ c₁ e₁) (ok₂ c₂ e₂) e]

/-- Conversely (no condition): the same structure gives the same text. -/
theorem C08_same_structure_same_pcf {j₁ j₂ : Json} (h : canonOf j₁ = canonOf j₂) :
    parsingCanonicalForm j₁ = parsingCanonicalForm j₂ := by
  rw [C08_pcf_factors, C08_pcf_factors, h]

/-- Same text iff same structure, for a document on which the transformation is defined (`d₁`:
    two undefined forms are equal and say nothing about structures). -/
theorem C08_pcf_eq_iff {j₁ j₂ : Json} (ok₁ : DocNamesOk j₁) (ok₂ : DocNamesOk j₂)
    (d₁ : (parsingCanonicalForm j₁).isSome = true) :
    parsingCanonicalForm j₁ = parsingCanonicalForm j₂ ↔ canonOf j₁ = canonOf j₂ := by
  constructor
  · intro h
    obtain ⟨t, ht⟩ := Option.isSome_iff_exists.mp d₁
    exact C08_pcf_injective ht (h ▸ ht) ok₁ ok₂
  · exact C08_same_structure_same_pcf

/-- At document level both parts of `DocNamesOk` are needed: a dotted reference with an empty
    namespace part (`.int`) denotes the fullname `int`. -/
theorem C08_pcf_not_injective_without_hypothesis :
    parsingCanonicalForm (.str ".int") = parsingCanonicalForm (.str "int") ∧
    canonOf (.str ".int") = some (.ref "int") ∧ canonOf (.str "int") = some (.prim .int) := by
  refine ⟨by decide +kernel, rfl, rfl⟩

/-! ### the crate: parser model, then canonical-form writer model -/

/-- **C08_crate_pcf_injective**: two accepted documents without forward reference whose canonical
    forms, as the crate computes them from the node graph, coincide, have the same canonical
    structure. -/
theorem C08_crate_pcf_injective {j₁ j₂ : Json} {n₁ n₂ f₁ f₂ : Nat} {S₁ S₂ : SchemaMut} {t : String}
    (p₁ : parseJson j₁ n₁ = .ok S₁) (p₂ : parseJson j₂ n₂ = .ok S₂)
    (nf₁ : noForwardRefs j₁ = true) (nf₂ : noForwardRefs j₂ = true)
    (hf₁ : n₁ + 2 ≤ f₁) (hf₂ : n₂ + 2 ≤ f₂)
    (t₁ : canonicalForm S₁ f₁ = .ok t) (t₂ : canonicalForm S₂ f₂ = .ok t)
    (ok₁ : DocNamesOk j₁) (ok₂ : DocNamesOk j₂) :
    ∃ c, canonOf j₁ = some c ∧ canonOf j₂ = some c ∧ t = c.text := by
  obtain ⟨u₁, e₁, g₁⟩ := C08_pcf_is_spec_text j₁ n₁ S₁ p₁ nf₁
  obtain ⟨u₂, e₂, g₂⟩ := C08_pcf_is_spec_text j₂ n₂ S₂ p₂ nf₂
  have h₁ := g₁ f₁ hf₁; rw [t₁] at h₁; cases h₁
  have h₂ := g₂ f₂ hf₂; rw [t₂] at h₂; cases h₂
  obtain ⟨c, hc, ht⟩ := C08_pcf_factors_some e₁
  exact ⟨c, hc, (C08_pcf_injective e₁ e₂ ok₁ ok₂) ▸ hc, ht⟩

/-- **C08_same_structure_same_fingerprint**: two accepted documents without forward reference and
    with the same canonical structure have the same canonical form, which is the text of the
    structure, and the same fingerprint, which is the CRC-64-AVRO of that text (little endian);
    neither computation fails. -/
theorem C08_same_structure_same_fingerprint {j₁ j₂ : Json} {n₁ n₂ f₁ f₂ : Nat} {S₁ S₂ : SchemaMut}
    (p₁ : parseJson j₁ n₁ = .ok S₁) (p₂ : parseJson j₂ n₂ = .ok S₂)
    (nf₁ : noForwardRefs j₁ = true) (nf₂ : noForwardRefs j₂ = true)
    (hf₁ : n₁ + 2 ≤ f₁) (hf₂ : n₂ + 2 ≤ f₂)
    (h : canonOf j₁ = canonOf j₂) :
    ∃ c, canonOf j₁ = some c ∧
      canonicalForm S₁ f₁ = .ok c.text ∧ canonicalForm S₂ f₂ = .ok c.text ∧
      schemaFingerprint S₁ f₁ = .ok (Spec.fingerprintLE c.text.toUTF8.data.toList) ∧
      schemaFingerprint S₂ f₂ = .ok (Spec.fingerprintLE c.text.toUTF8.data.toList) := by
  obtain ⟨u₁, e₁, g₁⟩ := C08_pcf_is_spec_text j₁ n₁ S₁ p₁ nf₁
  obtain ⟨u₂, e₂, g₂⟩ := C08_pcf_is_spec_text j₂ n₂ S₂ p₂ nf₂
  obtain ⟨c, hc, rfl⟩ := C08_pcf_factors_some e₁
  have e₂' : u₂ = c.text := by
    rw [← C08_same_structure_same_pcf h, e₁] at e₂
    exact (Option.some.inj e₂).symm
  subst e₂'
  exact ⟨c, hc, g₁ f₁ hf₁, g₂ f₂ hf₂, C18_fingerprint_is_crc S₁ f₁ _ (g₁ f₁ hf₁),
    C18_fingerprint_is_crc S₂ f₂ _ (g₂ f₂ hf₂)⟩

/-- Same canonical form (as the crate computes it) iff same canonical structure. -/
theorem C08_crate_pcf_eq_iff {j₁ j₂ : Json} {n₁ n₂ f₁ f₂ : Nat} {S₁ S₂ : SchemaMut}
    (p₁ : parseJson j₁ n₁ = .ok S₁) (p₂ : parseJson j₂ n₂ = .ok S₂)
    (nf₁ : noForwardRefs j₁ = true) (nf₂ : noForwardRefs j₂ = true)
    (hf₁ : n₁ + 2 ≤ f₁) (hf₂ : n₂ + 2 ≤ f₂)
    (ok₁ : DocNamesOk j₁) (ok₂ : DocNamesOk j₂) :
    canonicalForm S₁ f₁ = canonicalForm S₂ f₂ ↔ canonOf j₁ = canonOf j₂ := by
  constructor
  · intro h
    obtain ⟨u₁, -, g₁⟩ := C08_pcf_is_spec_text j₁ n₁ S₁ p₁ nf₁
    have t₁ := g₁ f₁ hf₁
    obtain ⟨c, h₁, h₂, -⟩ := C08_crate_pcf_injective p₁ p₂ nf₁ nf₂ hf₁ hf₂ t₁ (h ▸ t₁) ok₁ ok₂
    rw [h₁, h₂]
  · intro h
    obtain ⟨c, -, t₁, t₂, -⟩ := C08_same_structure_same_fingerprint p₁ p₂ nf₁ nf₂ hf₁ hf₂ h
    rw [t₁, t₂]

/-! ### the conditions are needed for the crate too: it does not validate names

Two pairs of documents that the parser model accepts, without forward reference, to which the
writer model gives ONE canonical form (hence one fingerprint) although their canonical structures
differ. -/

/-- an enum with the one symbol `a","b` -/
def docQuoteOne : Json :=
  .obj [("type", .str "enum"), ("name", .str "E"), ("symbols", .arr [.str "a\",\"b"])]

/-- an enum with the two symbols `a`, `b` -/
def docQuoteTwo : Json :=
  .obj [("type", .str "enum"), ("name", .str "E"), ("symbols", .arr [.str "a", .str "b"])]

theorem C08_crate_collision_quote :
    noForwardRefs docQuoteOne = true ∧ noForwardRefs docQuoteTwo = true ∧
    crateCanonicalText docQuoteOne 30 40 = some "{\"name\":\"E\",\"type\":\"enum\",\"symbols\":[\"a\",\"b\"]}" ∧
    crateCanonicalText docQuoteTwo 30 40 = some "{\"name\":\"E\",\"type\":\"enum\",\"symbols\":[\"a\",\"b\"]}" ∧
    canonOf docQuoteOne = some (.enum "E" ["a\",\"b"]) ∧
    canonOf docQuoteTwo = some (.enum "E" ["a", "b"]) ∧
    ¬ DocNamesOk docQuoteOne ∧ DocNamesOk docQuoteTwo := by
  have nf₁ : noForwardRefs docQuoteOne = true := by decide +kernel
  have nf₂ : noForwardRefs docQuoteTwo = true := by decide +kernel
  refine ⟨nf₁, nf₂, ?_, ?_, rfl, rfl, by decide +kernel, by decide +kernel⟩
  · exact crateCanonicalText_eq_ofList (by decide +kernel) nf₁ (by decide) (by decide +kernel)
  · exact crateCanonicalText_eq_ofList (by decide +kernel) nf₂ (by decide) (by decide +kernel)

/-- a record named `int` (a primitive type name: invalid for the specification, accepted by the
    crate) whose field is a union of `null` and the record itself, referred to as `.int` -/
def docRecordIntSelf : Json :=
  .obj [("type", .str "record"), ("name", .str "int"), ("fields", .arr [
    .obj [("name", .str "a"), ("type", .arr [.str "null", .str ".int"])]])]

/-- the same record whose field is a union of `null` and the primitive `int` -/
def docRecordIntPrim : Json :=
  .obj [("type", .str "record"), ("name", .str "int"), ("fields", .arr [
    .obj [("name", .str "a"), ("type", .arr [.str "null", .str "int"])]])]

theorem C08_crate_collision_primitive_name :
    noForwardRefs docRecordIntSelf = true ∧ noForwardRefs docRecordIntPrim = true ∧
    crateCanonicalText docRecordIntSelf 30 40 = some
      "{\"name\":\"int\",\"type\":\"record\",\"fields\":[{\"name\":\"a\",\"type\":[\"null\",\"int\"]}]}" ∧
    crateCanonicalText docRecordIntPrim 30 40 = some
      "{\"name\":\"int\",\"type\":\"record\",\"fields\":[{\"name\":\"a\",\"type\":[\"null\",\"int\"]}]}" ∧
    canonOf docRecordIntSelf = some (.record "int" [("a", .union [.prim .null, .ref "int"])]) ∧
    canonOf docRecordIntPrim = some (.record "int" [("a", .union [.prim .null, .prim .int])]) ∧
    ¬ DocNamesOk docRecordIntSelf ∧ DocNamesOk docRecordIntPrim := by
  have nf₁ : noForwardRefs docRecordIntSelf = true := by decide +kernel
  have nf₂ : noForwardRefs docRecordIntPrim = true := by decide +kernel
  refine ⟨nf₁, nf₂, ?_, ?_, rfl, rfl, by decide +kernel, by decide +kernel⟩
  · exact crateCanonicalText_eq_ofList (by decide +kernel) nf₁ (by decide) (by decide +kernel)
  · exact crateCanonicalText_eq_ofList (by decide +kernel) nf₂ (by decide) (by decide +kernel)

/-! ### non-vacuity: a document with a record, an enum, a fixed, a union, an array, a map and
repeated names (`docNamespaces` of `C08spec.lean`), and another document, written differently
(fullnames everywhere, no metadata, members in canonical order), with the same structure -/

/-- the canonical structure of `docNamespaces` -/
def canonNamespaces : Canon :=
  .record "a.b.R" [
    ("f", .array (.enum "a.b.E" ["A", "B"])),
    ("g", .union [.prim .null, .ref "a.b.E", .ref "a.b.R", .ref "a.b.R",
      .fixed "F" 4, .fixed "x.y.G" 16]),
    ("h", .map (.ref "F")),
    ("i", .prim .long),
    ("j", .ref "x.y.G")]

/-- `docNamespaces` written plainly -/
def docNamespacesPlain : Json :=
  .obj [("name", .str "a.b.R"), ("type", .str "record"), ("fields", .arr [
    .obj [("name", .str "f"), ("type", .obj [("type", .str "array"), ("items",
      .obj [("name", .str "a.b.E"), ("type", .str "enum"), ("symbols", .arr [.str "A", .str "B"])])])],
    .obj [("name", .str "g"), ("type", .arr [.str "null", .str "a.b.E", .str "a.b.R", .str "a.b.R",
      .obj [("name", .str ".F"), ("type", .str "fixed"), ("size", .nat 4)],
      .obj [("name", .str "x.y.G"), ("type", .str "fixed"), ("size", .nat 16)]])],
    .obj [("name", .str "h"), ("type", .obj [("type", .str "map"), ("values", .str ".F")])],
    .obj [("name", .str "i"), ("type", .str "long")],
    .obj [("name", .str "j"), ("type", .str "x.y.G")]])]

theorem canonOf_docNamespaces : canonOf docNamespaces = some canonNamespaces := by
  decide +kernel

theorem canonOf_docNamespacesPlain : canonOf docNamespacesPlain = some canonNamespaces := by
  decide +kernel

theorem canonNamespaces_ok : CanonNamesOk canonNamespaces := by decide +kernel

example : canonNamespaces.text =
    "{\"name\":\"a.b.R\",\"type\":\"record\",\"fields\":[{\"name\":\"f\",\"type\":{\"type\":\"array\",\"items\":{\"name\":\"a.b.E\",\"type\":\"enum\",\"symbols\":[\"A\",\"B\"]}}},{\"name\":\"g\",\"type\":[\"null\",\"a.b.E\",\"a.b.R\",\"a.b.R\",{\"name\":\"F\",\"type\":\"fixed\",\"size\":4},{\"name\":\"x.y.G\",\"type\":\"fixed\",\"size\":16}]},{\"name\":\"h\",\"type\":{\"type\":\"map\",\"values\":\"F\"}},{\"name\":\"i\",\"type\":\"long\"},{\"name\":\"j\",\"type\":\"x.y.G\"}]}" := by
  apply Canon.text_eq_ofList
  decide +kernel

/-- `C08_pcf_factors` on the document -/
example : parsingCanonicalForm docNamespaces = some canonNamespaces.text := by
  rw [C08_pcf_factors, canonOf_docNamespaces]; rfl

/-- `C08_canon_parse_text` on the document -/
example : Canon.parse canonNamespaces.text.toList = some (canonNamespaces, []) := by
  simpa using C08_canon_parse_text canonNamespaces canonNamespaces_ok []

/-- `C08_canon_text_injective` applied: any structure with acceptable names and that text IS the
    structure of the document -/
example (c : Canon) (hc : CanonNamesOk c) (h : c.text = canonNamespaces.text) :
    c = canonNamespaces :=
  C08_canon_text_injective hc canonNamespaces_ok h

theorem docNamespaces_ok : DocNamesOk docNamespaces := by
  intro c hc; rw [canonOf_docNamespaces] at hc; cases hc; exact canonNamespaces_ok

theorem docNamespacesPlain_ok : DocNamesOk docNamespacesPlain := by
  intro c hc; rw [canonOf_docNamespacesPlain] at hc; cases hc; exact canonNamespaces_ok

/-- `C08_pcf_injective` with all its hypotheses on two different documents -/
example : canonOf docNamespaces = canonOf docNamespacesPlain :=
  C08_pcf_injective (t := canonNamespaces.text)
    (by rw [C08_pcf_factors, canonOf_docNamespaces]; rfl)
    (by rw [C08_pcf_factors, canonOf_docNamespacesPlain]; rfl)
    docNamespaces_ok docNamespacesPlain_ok

theorem docNamespacesPlain_noForwardRefs : noForwardRefs docNamespacesPlain = true := by
  decide +kernel

/-- the parser model accepts both documents -/
theorem docNamespaces_parse :
    (∃ S, parseJson docNamespaces 30 = .ok S) ∧ (∃ S, parseJson docNamespacesPlain 30 = .ok S) :=
  ⟨exists_ok_of_isOk docNamespaces_parses, exists_ok_of_isOk (by decide +kernel)⟩

/-- `C08_same_structure_same_fingerprint` and `C08_crate_pcf_injective` with all their hypotheses:
    the two documents are accepted, have no forward reference, the same structure; the crate gives
    them one canonical form and one fingerprint. -/
example : ∃ S₁ S₂, parseJson docNamespaces 30 = .ok S₁ ∧ parseJson docNamespacesPlain 30 = .ok S₂ ∧
    canonicalForm S₁ 40 = .ok canonNamespaces.text ∧ canonicalForm S₂ 40 = .ok canonNamespaces.text ∧
    schemaFingerprint S₁ 40 = schemaFingerprint S₂ 40 ∧
    ∃ fp, schemaFingerprint S₁ 40 = .ok fp := by
  obtain ⟨⟨S₁, p₁⟩, ⟨S₂, p₂⟩⟩ := docNamespaces_parse
  obtain ⟨c, hc, t₁, t₂, g₁, g₂⟩ :=
    C08_same_structure_same_fingerprint (f₁ := 40) (f₂ := 40) p₁ p₂ docNamespaces_noForwardRefs
      docNamespacesPlain_noForwardRefs (by decide) (by decide)
      (canonOf_docNamespaces.trans canonOf_docNamespacesPlain.symm)
  rw [canonOf_docNamespaces] at hc
  cases hc
  exact ⟨S₁, S₂, p₁, p₂, t₁, t₂, g₁.trans g₂.symm, _, g₁⟩

example (S₁ S₂ : SchemaMut) (t : String)
    (p₁ : parseJson docNamespaces 30 = .ok S₁) (p₂ : parseJson docNamespacesPlain 30 = .ok S₂)
    (t₁ : canonicalForm S₁ 40 = .ok t) (t₂ : canonicalForm S₂ 40 = .ok t) :
    ∃ c, canonOf docNamespaces = some c ∧ canonOf docNamespacesPlain = some c ∧ t = c.text :=
  C08_crate_pcf_injective p₁ p₂ docNamespaces_noForwardRefs docNamespacesPlain_noForwardRefs
    (by decide) (by decide) t₁ t₂ docNamespaces_ok docNamespacesPlain_ok

end Avro.Theorems
