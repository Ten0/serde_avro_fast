import AvroModel.Theorems.C12
import AvroModel.Theorems.C12layouts
import AvroModel.Theorems.C12canon
import AvroModel.Theorems.C12typed
/-
C12 — skipping consumes exactly what reading would, all parts together: on the canonical layout, and
a struct target lacking fields (`C12.lean`); on every valid layout, where "valid" includes that an
announced block byte size is the size of the block's items (`C12layouts.lean`); every canonical
encoding is such a layout, exactly when its decimals occupy at most 16 bytes (`C12canon.lean`); the
same for typed targets (`C12typed.lean`).
-/
