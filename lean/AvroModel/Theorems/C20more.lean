import AvroModel.Theorems.C20fits
import AvroModel.Lemmas.DeriveNames
/-
C20, the hypothesis on variant names from the program text, and generic records.

`C20_fits_unions` assumes `UnionNames P s`, a statement about the *built* schema (each variant's
serde name selects its own branch by name).  Here the hypothesis is a decidable condition on the
program text, `UnionNamesText P`: every variant's `serdeName` is one of the names under which its
own branch is registered in the by-name table of the union (`variantNames`, from `branchNames` of
`Lemmas/DeriveBranchNames.lean`) and of no other variant's branch.  With it a `FitWfU` program lies in
the widest fragment (`FitWfU_toWU`), whence `C20_fits_unions_text`; `UnionNames` follows from it too
(`C20_unionNames_of_text`).

The fragment is that of `FitWfU` (`variantOk`): payloads without logical-type attribute that are
not `[u8; N]` as written in the variant (a `[u8; N]` payload would own a `fixed` named
`ownedName d (.newtypeVariant v.ident) ""`; `FitWfU` and hence these theorems do not cover it).
-/
namespace Avro.Theorems
open Avro Avro.Impl Avro.Impl.Derive Avro.Theorems.DeriveFits

/-! ### The condition on the program text -/

/-- Names under which the union branch built for variant `v` is registered. -/
def variantNames (P : Prog) (v : Variant) : Option (List String) :=
  match v.field with
  | none => some ["Null"]
  | some fd => branchNames P (P.size + 1) fd.ty

/-- The variant's serde name is a name of its own branch. -/
def variantOwn (P : Prog) (v : Variant) : Bool :=
  match variantNames P v with
  | some L => L.contains v.serdeName
  | none => false

/-- The branch of variant `w` is not registered under `name`. -/
def variantFree (P : Prog) (name : String) (w : Variant) : Bool :=
  match variantNames P w with
  | some L => !L.contains name
  | none => false

/-- `earlier` are the variants before the ones listed. -/
def unionText (P : Prog) : List Variant → List Variant → Bool
  | _, [] => true
  | earlier, v :: rest =>
    variantOwn P v && (earlier ++ rest).all (variantFree P v.serdeName) &&
      unionText P (earlier ++ [v]) rest

/-- For every enum that maps to a union and every variant: the serde name is a lookup name of the
    variant's own branch and of no other variant's branch. -/
def UnionNamesText (P : Prog) : Bool :=
  P.all fun d => match d.body with
    | .union vs => unionText P [] vs
    | _ => true

/-- The fullname is always among the names of a named branch (a non-empty name that does not
    start with a dot is its own fullname; `Name.ofFq` splits at the last dot). -/
theorem fullname_mem_nmNames {s : String} (h : DeriveNames.okStart s = true) :
    (nmNames (Name.ofFq s)).contains s = true := by
  have := DeriveNames.fqOf_eq h
  unfold DeriveNames.fqOf at this
  simp [nmNames, this]

/-- A variant whose payload is (a pointer to) a declared record and whose serde name is the
    record's fullname `typeName d` names its own branch. -/
theorem variantOwn_record_fullname {P : Prog} {v : Variant} {fd : Field} {id : Nat} {args : List Ty}
    {d : Decl} {fs : List Field} (hf : v.field = some fd) (hp : Derive.peel fd.ty = .named id args)
    (hd : P[id]? = some d) (hb : d.body = .record fs) (hs : v.serdeName = typeName d)
    (hok : DeriveNames.okStart (typeName d) = true) : variantOwn P v = true := by
  unfold variantOwn variantNames
  rw [hf]
  dsimp only
  unfold branchNames
  simp only [hp, hd, hb, hs]
  exact fullname_mem_nmNames hok

/-! ### The condition is that of the widest fragment

On a `FitWfU` program the names of a branch are those the tower reads (`variantNames_toW`), so
`UnionNamesText` is `DeriveWU.UnionNamesTextW` and the program lies in `FitWfWU` (`FitWfU_toWU`). -/

section toW
variable {P : Prog} (hP : ∀ (id : Nat) (d : Decl), P[id]? = some d → declOk true P d = true)
include hP

theorem branchNames_toW : ∀ (n : Nat) (t : Ty) (L : List String), branchNames P n t = some L →
    tyOk P t = true → ∀ m, n ≤ m → DeriveWU.branchNamesW P m t = some L := by
  intro n
  induction n with
  | zero => intro t L h; simp [branchNames] at h
  | succ n ih =>
    intro t L h ht m hm
    obtain ⟨m, rfl⟩ : ∃ m', m = m' + 1 := ⟨m - 1, by omega⟩
    have ht' := tyOk_peel P ht
    unfold branchNames at h
    unfold DeriveWU.branchNamesW
    generalize Derive.peel t = u at h ht'
    cases u with
    | named id args =>
      simp only [tyOk, Bool.and_eq_true, List.isEmpty_iff, decide_eq_true_eq] at ht'
      obtain ⟨rfl, hid⟩ := ht'
      have hd : P[id]? = some P[id] := Array.getElem?_eq_getElem hid
      have hdok := hP id _ hd
      generalize P[id] = d at hd hdok
      simp only [hd] at h ⊢
      unfold declOk at hdok
      cases hb : d.body with
      | record fs =>
        simp only [hb, Bool.and_eq_true, decide_eq_true_eq] at hdok h ⊢
        simpa [hdok.1.1] using h
      | unitEnum vs => simpa [hb] using h
      | union vs => simpa [hb] using h
      | newtype fd =>
        simp only [hb, Bool.and_eq_true, plainFieldOk] at hdok h ⊢
        obtain ⟨⟨_, hl, hty⟩, _⟩ := hdok
        simp only [hl, if_true] at h ⊢
        split
        · rename_i hdir
          simp only [hdir, if_true] at h
          rw [subst_nil]
          exact ih fd.ty L h hty m (by omega)
        · rename_i hdir
          simpa [hdir] using h
    | _ => first | exact h | simp at h

theorem variantNames_toW {id : Nat} {d : Decl} {vs : List Variant} (hd : P[id]? = some d)
    (hb : d.body = .union vs) {v : Variant} (hv : v ∈ vs) {L : List String}
    (h : variantNames P v = some L) : DeriveWU.variantNamesW P d v = some L := by
  have hdok := hP id d hd
  simp only [declOk, hb, Bool.true_and, Bool.and_eq_true, decide_eq_true_eq, List.all_eq_true] at hdok
  obtain ⟨hn, hvs⟩ := hdok
  have hvok := hvs v hv
  unfold variantOk at hvok
  unfold variantNames at h
  unfold DeriveWU.variantNamesW
  cases hf : v.field with
  | none => rw [hf] at h; exact h
  | some fd =>
    rw [hf] at h hvok
    simp only [plainFieldOk, Bool.and_eq_true] at hvok
    dsimp only at h ⊢
    rw [if_pos hvok.2]
    unfold DeriveWU.payloadNames
    rw [if_pos hn]
    exact branchNames_toW hP _ fd.ty L h hvok.1.2 _ (DeriveW.wideFuel_ge P .unit)

theorem variantOwn_toW {id : Nat} {d : Decl} {vs : List Variant} (hd : P[id]? = some d)
    (hb : d.body = .union vs) {v : Variant} (hv : v ∈ vs) (h : variantOwn P v = true) :
    DeriveWU.variantOwnW P d v = true := by
  unfold variantOwn at h
  unfold DeriveWU.variantOwnW
  cases hL : variantNames P v with
  | none => simp [hL] at h
  | some L => rw [variantNames_toW hP hd hb hv hL]; simpa [hL] using h

theorem variantFree_toW {id : Nat} {d : Decl} {vs : List Variant} (hd : P[id]? = some d)
    (hb : d.body = .union vs) {name : String} {w : Variant} (hw : w ∈ vs) (h : variantFree P name w = true) :
    DeriveWU.variantFreeW P d name w = true := by
  unfold variantFree at h
  unfold DeriveWU.variantFreeW
  cases hL : variantNames P w with
  | none => simp [hL] at h
  | some L => rw [variantNames_toW hP hd hb hw hL]; simpa [hL] using h

theorem unionText_toW {id : Nat} {d : Decl} {vs : List Variant} (hd : P[id]? = some d)
    (hb : d.body = .union vs) : ∀ (rest earlier : List Variant), (∀ w ∈ earlier ++ rest, w ∈ vs) →
    unionText P earlier rest = true → DeriveWU.unionTextW P d earlier rest = true
  | [], _, _, _ => rfl
  | v :: rest, earlier, hsub, h => by
    simp only [unionText, Bool.and_eq_true, List.all_eq_true] at h
    simp only [DeriveWU.unionTextW, Bool.and_eq_true, List.all_eq_true]
    refine ⟨⟨variantOwn_toW hP hd hb (hsub v (by simp)) h.1.1, fun w hw => ?_⟩,
      unionText_toW hd hb rest (earlier ++ [v]) (fun w hw => hsub w (by simpa using hw)) h.2⟩
    refine variantFree_toW hP hd hb (hsub w ?_) (h.1.2 w hw)
    simp only [List.mem_append, List.mem_cons] at hw ⊢
    exact hw.imp_right .inr

theorem UnionNamesText_toW (hnames : UnionNamesText P = true) : DeriveWU.UnionNamesTextW P = true := by
  simp only [UnionNamesText, Array.all_eq_true] at hnames
  simp only [DeriveWU.UnionNamesTextW, Array.all_eq_true]
  intro i hi
  have := hnames i hi
  have hd : P[i]? = some P[i] := Array.getElem?_eq_getElem hi
  cases hb : P[i].body with
  | union vs =>
    simp only [hb] at this
    exact unionText_toW hP hd hb vs [] (fun w hw => by simpa using hw) this
  | _ => rfl

end toW

/-- **The fragment of `C20_fits_unions_text` is part of `FitWfWU`.** -/
theorem FitWfU_toWU {P : Prog} {root : Ty} (h : FitWfU P root = true) (hnames : UnionNamesText P = true) :
    DeriveWU.FitWfWU P root = true := by
  simp only [DeriveWU.FitWfWU, Bool.and_eq_true, Bool.or_eq_true]
  exact ⟨.inl (.inl (.inl (DeriveWU.FitWfU_toWithU h))), UnionNamesText_toW (FitWfU_decls h) hnames⟩

/-- **C20 (fits), with enums that map to unions, hypothesis on the program text.**  For a
    program of the fragment `FitWfU` that satisfies `UnionNamesText`, every value of the root
    type serializes under the derived schema. -/
theorem C20_fits_unions_text (ext : Avro.Impl.Ext) (P : Prog) (hash : Key → String) (fuel : Nat) (root : Ty)
    (s : BState) (f : Nat) (sv : SV)
    (hbuild : builderState P hash fuel root = some s) (hwf : FitWfU P root = true)
    (hnames : UnionNamesText P = true) (hs : hasShape P f root sv = true) :
    schemaMut P hash fuel root = some s.nodes ∧
    (ser ext false (freezeNodes s.nodes) ((freezeNodes s.nodes)[0]!) sv {}).1 = .ok () :=
  have hm := schemaMut_of_builderState hbuild
  ⟨hm, C20_fits_of_realizes ext P _ root f sv
    (C20_schema_realizes_widerU P hash fuel root s.nodes hm (FitWfU_toWU hwf hnames)) hs⟩

/-- The same from `schemaMut` (`T::schema_mut()`) directly. -/
theorem C20_fits_unions_text' (ext : Avro.Impl.Ext) (P : Prog) (hash : Key → String) (fuel : Nat) (root : Ty)
    (Sm : SchemaMut) (f : Nat) (sv : SV)
    (hbuild : schemaMut P hash fuel root = some Sm) (hwf : FitWfU P root = true)
    (hnames : UnionNamesText P = true) (hs : hasShape P f root sv = true) :
    (ser ext false (freezeNodes Sm) ((freezeNodes Sm)[0]!) sv {}).1 = .ok () := by
  obtain ⟨s, hb, rfl⟩ := builderState_of_schemaMut hbuild
  exact (C20_fits_unions_text ext P hash fuel root s f sv hb hwf hnames hs).2

/-! ### The hypothesis of `C20_fits_unions` from the program text

`UnionNames`, the naming condition of `C20_fits_unions` on the built schema, follows from the
condition on the text; `namedLookup` lets the last registration win, so "of no *later* variant's
branch" (`UnionNamesTextLast`) is enough. -/

def unionTextLast (P : Prog) : List Variant → Bool
  | [] => true
  | v :: rest => variantOwn P v && rest.all (variantFree P v.serdeName) && unionTextLast P rest

def UnionNamesTextLast (P : Prog) : Bool :=
  P.all fun d => match d.body with
    | .union vs => unionTextLast P vs
    | _ => true

theorem unionText_last (P : Prog) : ∀ (vs earlier : List Variant), unionText P earlier vs = true →
    unionTextLast P vs = true
  | [], _, _ => rfl
  | v :: rest, earlier, h => by
    simp only [unionText, Bool.and_eq_true, List.all_append] at h
    simp only [unionTextLast, Bool.and_eq_true]
    exact ⟨⟨h.1.1, h.1.2.2⟩, unionText_last P rest _ h.2⟩

theorem UnionNamesText.toLast {P : Prog} (h : UnionNamesText P = true) : UnionNamesTextLast P = true := by
  simp only [UnionNamesText, UnionNamesTextLast, Array.all_eq_true] at h ⊢
  intro i hi
  have := h i hi
  cases hb : P[i].body <;> simp only [hb] at this ⊢
  exact unionText_last P _ _ this

theorem unionTextLast_toW {P : Prog}
    (hP : ∀ (id : Nat) (d : Decl), P[id]? = some d → declOk true P d = true) {id : Nat} {d : Decl} {vs : List Variant} (hd : P[id]? = some d)
    (hb : d.body = .union vs) : ∀ rest : List Variant, (∀ w ∈ rest, w ∈ vs) →
    unionTextLast P rest = true → DeriveWU.unionTextLastW P d rest = true
  | [], _, _ => rfl
  | v :: rest, hsub, h => by
    simp only [unionTextLast, Bool.and_eq_true, List.all_eq_true] at h
    simp only [DeriveWU.unionTextLastW, Bool.and_eq_true, List.all_eq_true]
    exact ⟨⟨variantOwn_toW hP hd hb (hsub v (by simp)) h.1.1,
        fun w hw => variantFree_toW hP hd hb (hsub w (by simp [hw])) (h.1.2 w hw)⟩,
      unionTextLast_toW hP hd hb rest (fun w hw => hsub w (by simp [hw])) h.2⟩

/-- **`UnionNames` from the program text.**  For a program of the fragment `FitWfU` that satisfies
    `UnionNamesTextLast`, the final builder state satisfies `UnionNames`. -/
theorem C20_unionNames_of_textLast (P : Prog) (hash : Key → String) (fuel : Nat) (root : Ty) (s : BState)
    (htext : UnionNamesTextLast P = true) (hwf : FitWfU P root = true)
    (hbuild : builderState P hash fuel root = some s) : UnionNames P s := by
  have hU := FitWfU_decls hwf
  have hwf' := DeriveWU.FitWfU_toWithU hwf
  obtain ⟨c, hf⟩ := findOrBuild_of_builderState hbuild
  have hinv := (DeriveWU.invU_of_build hwf' hf).1
  intro id d vs i ks hd hb hreg hnode
  -- the text condition for this enum
  have htx : DeriveWU.unionTextLastW P d vs = true := by
    have := all_of_getElem? htext hd
    simp only [hb] at this
    exact unionTextLast_toW hU hd hb vs (fun _ h => h) this
  -- the union node, as the invariant describes it
  have hdn : DeriveWU.DoneU P s [.self id] i := hinv.done_of_nil hreg
  simp only [DeriveWU.DoneU, DeriveWU.KeyNodeU, hd, hb] at hdn
  obtain ⟨ks', hnode', hlen, hall⟩ := hdn
  obtain rfl : ks' = ks := by rw [hnode] at hnode'; simpa [plain] using hnode'.symm
  refine DeriveWU.union_lookup_of_text (DeriveWU.FitWfWithU_decls hwf') hinv htx
    (fun _ => rfl) hlen hall (fun w hw fd hfd => ?_)
  have := hU id d hd
  simp only [declOk, hb, Bool.true_and, Bool.and_eq_true, List.all_eq_true] at this
  have hw := this.2 w hw
  simp only [variantOk, hfd, plainFieldOk, Bool.and_eq_true] at hw
  rw [subst_nil]
  exact ⟨_, DeriveWU.tyOk_toW_of_U hU (DeriveW.wideFuel_ge P root) _ _ hw.1.2⟩

/-- **`UnionNames` from the program text** (the condition with "no other variant"). -/
theorem C20_unionNames_of_text (P : Prog) (hash : Key → String) (fuel : Nat) (root : Ty) (s : BState)
    (htext : UnionNamesText P = true) (hwf : FitWfU P root = true)
    (hbuild : builderState P hash fuel root = some s) : UnionNames P s :=
  C20_unionNames_of_textLast P hash fuel root s (UnionNamesText.toLast htext) hwf hbuild

/-! ### Non-vacuity (union enums)

`enum E { #[serde(rename = "Null")] Nothing, #[serde(rename = "String")] S(String),
#[serde(rename = "m.Rec")] R(Rec) }` with `struct Rec { x: i32 }` in module `m`. -/

def unionProg : Prog := #[
  { ident := "Rec", modulePath := "m", body := .record [{ name := "x", ty := .i32 }] },
  { ident := "E", modulePath := "m", body := .union [
      { ident := "Nothing", serdeName := "Null", field := none },
      { ident := "S", serdeName := "String", field := some { name := "0", ty := .string } },
      { ident := "R", serdeName := "m.Rec", field := some { name := "0", ty := .named 0 [] } } ] } ]

theorem unionProg_text : UnionNamesText unionProg = true := by decide +kernel

theorem unionProg_fitWfU : FitWfU unionProg (.vec (.named 1 [])) = true := by decide +kernel

/-- Non-vacuity of the inclusion. -/
example : DeriveWU.FitWfWU unionProg (.vec (.named 1 [])) = true := FitWfU_toWU unionProg_fitWfU unionProg_text

/-- The short name works as well as the fullname; a name of another branch does not. -/
example : UnionNamesText (unionProg.modify 1 fun d => { d with body := .union [
      { ident := "Nothing", serdeName := "Null", field := none },
      { ident := "S", serdeName := "String", field := some { name := "0", ty := .string } },
      { ident := "R", serdeName := "Rec", field := some { name := "0", ty := .named 0 [] } } ] }) = true := by
  decide +kernel

example : UnionNamesText (unionProg.modify 1 fun d => { d with body := .union [
      { ident := "Nothing", serdeName := "Null", field := none },
      { ident := "S", serdeName := "String", field := some { name := "0", ty := .string } },
      { ident := "T", serdeName := "String", field := some { name := "0", ty := .ptr .str } } ] }) = false := by
  decide +kernel

/-- The schema is built, and values of each variant are values of the type. -/
example : (schemaMut unionProg (fun _ => "") 30 (.vec (.named 1 []))).isSome = true := by decide +kernel

example : hasShape unionProg 5 (.vec (.named 1 [])) (.seq (some 3) [
    .unitVariant "E" 0 "Null",
    .newtypeVariant "E" 1 "String" (.str "a"),
    .newtypeVariant "E" 2 "m.Rec" (.struct "Rec" [("x", .int .i32 7)])]) = true := by decide +kernel

/-- Every value of `Vec<E>` serializes under the derived schema. -/
example (ext : Avro.Impl.Ext) (hash : Key → String) (fuel : Nat) (Sm : SchemaMut) (f : Nat) (sv : SV)
    (hbuild : schemaMut unionProg hash fuel (.vec (.named 1 [])) = some Sm)
    (hs : hasShape unionProg f (.vec (.named 1 [])) sv = true) :
    (ser ext false (freezeNodes Sm) ((freezeNodes Sm)[0]!) sv {}).1 = .ok () :=
  C20_fits_unions_text' ext unionProg hash fuel _ Sm f sv hbuild unionProg_fitWfU unionProg_text hs

/-! ## Generic records

`FitWfG` (`Lemmas/DeriveGeneric.lean`) extends `FitWf` (`FitWf_toG`) with generic record
declarations, instantiated with closed argument types of the fragment.  The builder substitutes
the arguments and names the record `typeName d ++ "_" ++ hash key`.  Two instantiations with the
same lookup type (`Pair<i32>`, `Pair<&i16>`) share a node: that the shared node realizes both rests
on the token lists of `lookupKey` being prefix codes (`DeriveG.Coded`, `flatten_unique`).  No
hypothesis on `hash`.  Not covered by `FitWfG`: generic newtypes and generic union enums
(`Theorems/C20wider.lean`, `Theorems/C20widerU.lean`). -/

open Avro.Theorems.DeriveG in
/-- For a program of the fragment `FitWfG`, the schema `schema_mut()` builds for the root type
    realizes it at node 0, to every depth. -/
theorem C20_schema_realizes_generic (P : Prog) (hash : Key → String) (fuel : Nat) (root : Ty) (Sm : SchemaMut)
    (hbuild : schemaMut P hash fuel root = some Sm) (hwf : FitWfG P root = true) :
    0 < (freezeNodes Sm).size ∧ ∀ f, Realizes P (freezeNodes Sm) f root 0 :=
  C20_schema_realizes_widerU P hash fuel root Sm hbuild (DeriveWU.FitWfW_toWU (DeriveW.FitWfG_toW hwf))

/-- **C20 (fits), with generic records.**  For a program of the fragment `FitWfG`, every value of
    the root type serializes under the schema derived for it. -/
theorem C20_fits_generic (ext : Avro.Impl.Ext) (P : Prog) (hash : Key → String) (fuel : Nat) (root : Ty)
    (Sm : SchemaMut) (f : Nat) (sv : SV)
    (hbuild : schemaMut P hash fuel root = some Sm) (hwf : DeriveG.FitWfG P root = true)
    (hs : hasShape P f root sv = true) :
    (ser ext false (freezeNodes Sm) ((freezeNodes Sm)[0]!) sv {}).1 = .ok () :=
  C20_fits_of_realizes ext P _ root f sv (C20_schema_realizes_generic P hash fuel root Sm hbuild hwf) hs

/-! ### Non-vacuity (generic records)

`struct Pair<T> { a: T, b: Vec<T> }` instantiated with `i32`, with `String`, and (below
`Option<Box<_>>`) with `Pair<&i16>` — whose lookup type coincides with that of `Pair<i32>` —
inside `struct Root`. -/

def genericProg : Prog := #[
  { ident := "Pair", nparams := 1, modulePath := "m", body := .record [
      { name := "a", ty := .param 0 }, { name := "b", ty := .vec (.param 0) } ] },
  { ident := "Root", modulePath := "m", body := .record [
      { name := "ints", ty := .named 0 [.i32] },
      { name := "strs", ty := .named 0 [.string] },
      { name := "nested", ty := .option (.ptr (.named 0 [.named 0 [.ptr .i16]])) } ] } ]

theorem genericProg_fitWfG : DeriveG.FitWfG genericProg (.named 1 []) = true := by decide +kernel

/-- It is not in the fragment without generics. -/
example : FitWf genericProg (.named 1 []) = false := by decide +kernel

/-- The schema is built (three record nodes `m.Pair_<hash>`; `Pair<&i16>` reuses `Pair<i32>`). -/
example : ((schemaMut genericProg DeriveNames.hashDemo 30 (.named 1 [])).map (·.size)) = some 11 := by
  decide +kernel

example : hasShape genericProg 8 (.named 1 []) (.struct "Root" [
    ("ints", .struct "Pair" [("a", .int .i32 1), ("b", .seq (some 2) [.int .i32 2, .int .i32 3])]),
    ("strs", .struct "Pair" [("a", .str "x"), ("b", .seq (some 0) [])]),
    ("nested", .some (.struct "Pair" [
      ("a", .struct "Pair" [("a", .int .i16 1), ("b", .seq (some 0) [])]),
      ("b", .seq (some 0) [])]))]) = true := by decide +kernel

/-- Every value of `Root` serializes under the derived schema. -/
example (ext : Avro.Impl.Ext) (hash : Key → String) (fuel : Nat) (Sm : SchemaMut) (f : Nat) (sv : SV)
    (hbuild : schemaMut genericProg hash fuel (.named 1 []) = some Sm)
    (hs : hasShape genericProg f (.named 1 []) sv = true) :
    (ser ext false (freezeNodes Sm) ((freezeNodes Sm)[0]!) sv {}).1 = .ok () :=
  C20_fits_generic ext genericProg hash fuel _ Sm f sv hbuild genericProg_fitWfG hs

/-- Fields with logical-type attributes in a generic record:
    `struct Stamped<T> { #[avro_schema(logical_type = "timestamp-millis")] at: i64,
    #[avro_schema(logical_type = "duration")] lease: [u8; 12], v: HashMap<String, T> }`,
    instantiated with `Pair<f64>` inside `struct Log { log: Vec<Stamped<Pair<f64>>> }`. -/
def genericProgL : Prog := #[
  { ident := "Pair", nparams := 1, modulePath := "m", body := .record [
      { name := "a", ty := .param 0 }, { name := "b", ty := .vec (.param 0) } ] },
  { ident := "Log", modulePath := "m", body := .record [
      { name := "log", ty := .vec (.named 2 [.named 0 [.f64]]) } ] },
  { ident := "Stamped", nparams := 1, modulePath := "m", body := .record [
      { name := "at", ty := .i64, attr := { logical := some "timestamp-millis" } },
      { name := "lease", ty := .byteArray 12, attr := { logical := some "duration" } },
      { name := "v", ty := .hashMap (.param 0) } ] } ]

open Avro.Theorems.DeriveG in
theorem genericProgL_fitWfG : FitWfG genericProgL (.named 1 []) = true := by decide +kernel

example : hasShape genericProgL 8 (.named 1 []) (.struct "Log" [
    ("log", .seq (some 1) [.struct "Stamped" [
      ("at", .int .i64 1700000000000),
      ("lease", .bytes (List.replicate 12 0)),
      ("v", .map (some 1) [(.str "k", .struct "Pair" [("a", .f64 0), ("b", .seq (some 0) [])])])]])]) = true := by
  decide +kernel

example (ext : Avro.Impl.Ext) (hash : Key → String) (fuel : Nat) (Sm : SchemaMut) (f : Nat) (sv : SV)
    (hbuild : schemaMut genericProgL hash fuel (.named 1 []) = some Sm)
    (hs : hasShape genericProgL f (.named 1 []) sv = true) :
    (ser ext false (freezeNodes Sm) ((freezeNodes Sm)[0]!) sv {}).1 = .ok () :=
  C20_fits_generic ext genericProgL hash fuel _ Sm f sv hbuild genericProgL_fitWfG hs

end Avro.Theorems
