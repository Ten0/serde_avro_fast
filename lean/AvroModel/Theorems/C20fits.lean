import AvroModel.Lemmas.DeriveFits
import AvroModel.Lemmas.DeriveWiderU
import AvroModel.Theorems.C20inv
/-
C20 — "every value of a type that derives the schema builder serializes under the derived
schema": the schema built by `schemaMut` (`T::schema_mut()`) fits the serializer-call trees
(`hasShape`) that serde's derived `Serialize` presents for `T`.  `Realizes P S f t i`
(Lemmas/DeriveRealizes.lean): node `i` of the frozen schema `S` is the Avro type of `t`, to depth `f`; a
value of `t` serializes at a node realizing `t` (any program; Lemmas/DeriveFits.lean), and the schema
built for the root type realizes it at node 0 (`C20_schema_realizes_marks`; Lemmas/DeriveWiderU.lean):
the two halves meet here and nowhere below.  The builder invariant is carried once, for the widest
fragment; the theorems of this file and of `C20more`, `C20wider`, `C20widerU` are its instances.

The fragment `FitWf`: all primitive types, `String`/`&str`, byte vectors/slices, `[u8; N]`, `Vec`,
`HashMap`/`BTreeMap`, pointers, `Option<T>` for `T` whose node is neither null nor a union (seen
through pointers and forwarding newtypes), non-generic records (recursive ones included) whose
fields are plain or carry a logical-type attribute on a leaf type that the frozen node accepts,
unit-only enums, newtypes that forward to a non-`Option` type, non-generic newtypes of `[u8; N]`
(a named `fixed`); no struct called `Null`.  Not covered: generic declarations, logical-type
attributes on newtype/variant fields or on non-leaf types.

Outside the fragment the property fails in the model (confirmed by evaluation): a struct
called `Null` whose Avro name is overridden, or a newtype `Null(T)`, inside an `Option` (by-name
selection picks the null branch); a newtype over `Option<T>` whose name is a lookup name of `T`'s
branch, e.g. `struct Int(Option<i32>)` with `Int(None)`; `Option<()>` and `Option<Option<T>>`;
`Option<i64>` with `logical_type = "timestamp-millis"` (the chosen type drops the `Option`);
`logical_type = "decimal"` on `Vec<u8>` (the decimal node rejects raw bytes).
-/
namespace Avro.Theorems
open Avro Avro.Impl Avro.Impl.Derive Avro.Theorems.DeriveFits

/-- If node `i` realizes `t`, every call tree of a value of `t` is accepted by the
    datum serializer at node `i`, from any unlimited writer with a clean pool, and leaves such a
    state.  No restriction on the program beyond what `Realizes` says about the schema. -/
theorem C20_fits_given_realizes (ext : Avro.Impl.Ext) (allowSlow : Bool) (P : Prog) (S : Schema) (f : Nat)
    (t : Ty) (i : Nat) (sv : SV) (node : Node) (hnode : S[i]? = some node)
    (hr : Realizes P S f t i) (hs : hasShape P f t sv = true)
    (st : SerState) (hb : st.budget = none) (hc : PoolClean st.pool) :
    ∃ st', ser ext allowSlow S node sv st = (.ok (), st') ∧ st'.budget = none ∧ PoolClean st'.pool := by
  obtain ⟨_, st', h1, h2, _⟩ := fits_all ext allowSlow P S f t i sv node hr hs (Mode.direct node hnode) st ⟨hb, hc⟩
  exact ⟨st', h1, h2.1, h2.2⟩

/-- The same inside an `Option`: at the union `[null, i]` the value is written as branch 1. -/
theorem C20_fits_under_option (ext : Avro.Impl.Ext) (allowSlow : Bool) (P : Prog) (S : Schema) (f : Nat)
    (t : Ty) (a i : Nat) (sv : SV) (ha : S[a]? = some .null) (hp : PlainAt S i)
    (hr : Realizes P S f t i) (hs : hasShape P f t sv = true)
    (st : SerState) (hb : st.budget = none) (hc : PoolClean st.pool) :
    ∃ st', ser ext allowSlow S (.union [a, i]) sv st = (.ok (), st') ∧ st'.budget = none ∧
      PoolClean st'.pool := by
  obtain ⟨_, st', h1, h2, _⟩ := fits_all ext allowSlow P S f t i sv _ hr hs (Mode.under a ha hp) st ⟨hb, hc⟩
  exact ⟨st', h1, h2.1, h2.2⟩

/-- Without union enums the hypothesis on variant names is void. -/
theorem UnionNames.of_fitWf {P : Prog} {root : Ty} (h : FitWf P root = true) (s : BState) :
    UnionNames P s := by
  intro id d vs i ks hd hb
  have := FitWf_decls h id d hd
  simp [declOk, hb] at this

/-- The builder state `schema_mut()` ends in (its nodes are the schema). -/
def builderState (P : Prog) (hash : Key → String) (fuel : Nat) (root : Ty) : Option BState :=
  (findOrBuild P hash fuel root {}).map (·.2)

theorem schemaMut_eq_builderState (P : Prog) (hash : Key → String) (fuel : Nat) (root : Ty) :
    schemaMut P hash fuel root = (builderState P hash fuel root).map (·.nodes) := by
  unfold schemaMut builderState
  cases findOrBuild P hash fuel root {} <;> rfl

theorem schemaMut_of_builderState {P : Prog} {hash : Key → String} {fuel : Nat} {root : Ty} {s : BState}
    (h : builderState P hash fuel root = some s) : schemaMut P hash fuel root = some s.nodes := by
  rw [schemaMut_eq_builderState, h]; rfl

theorem findOrBuild_of_builderState {P : Prog} {hash : Key → String} {fuel : Nat} {root : Ty} {s : BState}
    (h : builderState P hash fuel root = some s) : ∃ c, findOrBuild P hash fuel root {} = some (c, s) := by
  unfold builderState at h
  cases hf : findOrBuild P hash fuel root {} with
  | none => simp [hf] at h
  | some r =>
    obtain ⟨c, s'⟩ := r
    exact ⟨c, by simpa [hf] using h⟩

theorem builderState_of_schemaMut {P : Prog} {hash : Key → String} {fuel : Nat} {root : Ty} {Sm : SchemaMut}
    (h : schemaMut P hash fuel root = some Sm) : ∃ s, builderState P hash fuel root = some s ∧ s.nodes = Sm := by
  rw [schemaMut_eq_builderState] at h
  cases hs : builderState P hash fuel root with
  | none => simp [hs] at h
  | some s => exact ⟨s, rfl, by simpa [hs] using h⟩

/-- For every fragment at once: for a program that checks against a table of marks
    (`DeriveWU.FitWfWithU`: generic records and newtypes, enums that map to unions) and whose final
    builder state satisfies the naming condition `DeriveWU.UnionNamesU`, the schema built for the root
    type realizes it at node 0, to every depth (so also for recursive types). -/
theorem C20_schema_realizes_marks (P : Prog) (hash : Key → String) (fuel : Nat) (root : Ty) (s : BState)
    (M : DeriveW.Marks) (K : Nat)
    (hbuild : builderState P hash fuel root = some s) (hwf : DeriveWU.FitWfWithU P M K root = true)
    (hnames : DeriveWU.InvU P [] s → DeriveWU.UnionNamesU P M s) :
    0 < (freezeNodes s.nodes).size ∧ ∀ f, Realizes P (freezeNodes s.nodes) f root 0 := by
  obtain ⟨c, hf⟩ := findOrBuild_of_builderState hbuild
  obtain ⟨rfl, hsz⟩ := C20_root_key_zero P hash fuel root c s hf
  exact ⟨by rw [freezeNodes_size]; exact hsz, DeriveWU.realizes_of_build hwf hf hnames⟩

/-- At the root: under a schema whose node 0 realizes the root type, every value of the
    root type serializes, from an unlimited writer with an empty pool. -/
theorem C20_fits_of_realizes (ext : Avro.Impl.Ext) (P : Prog) (S : Schema) (root : Ty) (f : Nat) (sv : SV)
    (hr : 0 < S.size ∧ ∀ f, Realizes P S f root 0) (hs : hasShape P f root sv = true) :
    (ser ext false S (S[0]!) sv {}).1 = .ok () := by
  have hnode : S[0]? = some (S[0]!) := by simp [getElem!_pos, hr.1]
  obtain ⟨st', h, _⟩ := C20_fits_given_realizes ext false P S f root 0 sv _ hnode (hr.2 f) hs {} rfl PoolClean.empty
  rw [h]

/-- For the counterexamples: a value that evaluation shows rejected does not serialize. -/
theorem not_fits_of_eval {ext : Avro.Impl.Ext} {P : Prog} {hash : Key → String} {fuel : Nat} {root : Ty} {sv : SV}
    (h : ((schemaMut P hash fuel root).map fun Sm =>
      match (ser ext false (freezeNodes Sm) ((freezeNodes Sm)[0]!) sv {}).1 with
      | .ok _ => true
      | .error _ => false) = some false) :
    ∃ Sm, schemaMut P hash fuel root = some Sm ∧
      (ser ext false (freezeNodes Sm) ((freezeNodes Sm)[0]!) sv {}).1 ≠ .ok () := by
  cases hs : schemaMut P hash fuel root with
  | none => simp [hs] at h
  | some Sm =>
    refine ⟨Sm, rfl, fun hok => ?_⟩
    simp [hs, hok] at h

/-- `C20_schema_realizes_marks` with the naming condition read off the program text (`DeriveWU.UnionNamesTextW`). -/
theorem C20_schema_realizes_withU (P : Prog) (hash : Key → String) (fuel : Nat) (root : Ty) (Sm : SchemaMut)
    (M : DeriveW.Marks) (K : Nat)
    (hbuild : schemaMut P hash fuel root = some Sm) (hwf : DeriveWU.FitWfWithU P M K root = true)
    (hnames : DeriveWU.UnionNamesTextW P = true) :
    0 < (freezeNodes Sm).size ∧ ∀ f, Realizes P (freezeNodes Sm) f root 0 := by
  obtain ⟨s, hs, rfl⟩ := builderState_of_schemaMut hbuild
  exact C20_schema_realizes_marks P hash fuel root s M K hs hwf
    fun hinv => .of_text (DeriveWU.FitWfWithU_decls hwf) hinv hnames

/-- `C20_schema_realizes_marks` for the widest fragment, `DeriveWU.FitWfWU`: `FitWf`, `FitWfG`, `FitWfW`
    are part of it, `FitWfU` with `UnionNamesText` (`Theorems/C20widerU.lean`). -/
theorem C20_schema_realizes_widerU (P : Prog) (hash : Key → String) (fuel : Nat) (root : Ty) (Sm : SchemaMut)
    (hbuild : schemaMut P hash fuel root = some Sm) (hwf : DeriveWU.FitWfWU P root = true) :
    0 < (freezeNodes Sm).size ∧ ∀ f, Realizes P (freezeNodes Sm) f root 0 := by
  obtain ⟨⟨M, K, hwf'⟩, hnames⟩ := DeriveWU.FitWfWU_with hwf
  exact C20_schema_realizes_withU P hash fuel root Sm M K hbuild hwf' hnames

/-- With enums that map to unions: for a program of the fragment `FitWfU` whose final
    builder state satisfies the hypothesis on variant names, the schema built for the root type
    realizes it at node 0, to every depth. -/
theorem C20_schema_realizes_unions (P : Prog) (hash : Key → String) (fuel : Nat) (root : Ty) (s : BState)
    (hbuild : builderState P hash fuel root = some s) (hwf : FitWfU P root = true)
    (hnames : UnionNames P s) :
    0 < (freezeNodes s.nodes).size ∧ ∀ f, Realizes P (freezeNodes s.nodes) f root 0 :=
  C20_schema_realizes_marks P hash fuel root s _ _ hbuild (DeriveWU.FitWfU_toWithU hwf)
    fun _ => .of_unionNames (FitWfU_decls hwf) hnames

/-- For a program of the fragment, the schema `schema_mut()` builds for the root type
    realizes it at node 0, to every depth (so also for recursive types). -/
theorem C20_schema_realizes (P : Prog) (hash : Key → String) (fuel : Nat) (root : Ty) (Sm : SchemaMut)
    (hbuild : schemaMut P hash fuel root = some Sm) (hwf : FitWf P root = true) :
    0 < (freezeNodes Sm).size ∧ ∀ f, Realizes P (freezeNodes Sm) f root 0 := by
  obtain ⟨s, hs, rfl⟩ := builderState_of_schemaMut hbuild
  exact C20_schema_realizes_unions P hash fuel root s hs (FitWf_toU hwf) (UnionNames.of_fitWf hwf s)

/-- **C20 (fits).**  For a program of the fragment `FitWf`, every value of the root type — any
    serializer-call tree `sv` with `hasShape P f root sv` — serializes under the schema derived
    for it: the datum serializer on the frozen schema, started at the root node (node 0) with an
    unlimited writer and an empty pool, returns `Ok`. -/
theorem C20_fits (ext : Avro.Impl.Ext) (P : Prog) (hash : Key → String) (fuel : Nat) (root : Ty) (Sm : SchemaMut)
    (f : Nat) (sv : SV)
    (hbuild : schemaMut P hash fuel root = some Sm) (hwf : FitWf P root = true)
    (hs : hasShape P f root sv = true) :
    (ser ext false (freezeNodes Sm) ((freezeNodes Sm)[0]!) sv {}).1 = .ok () :=
  C20_fits_of_realizes ext P _ root f sv (C20_schema_realizes P hash fuel root Sm hbuild hwf) hs

/-- **C20 (fits), with enums that map to unions.**  As `C20_fits`, for the fragment `FitWfU`,
    under the hypothesis `UnionNames` on the built schema: each variant's serde name is a lookup
    name of exactly its own branch (so that by-name selection picks it), unit variants being
    called `Null`. -/
theorem C20_fits_unions (ext : Avro.Impl.Ext) (P : Prog) (hash : Key → String) (fuel : Nat) (root : Ty) (s : BState)
    (f : Nat) (sv : SV)
    (hbuild : builderState P hash fuel root = some s) (hwf : FitWfU P root = true)
    (hnames : UnionNames P s) (hs : hasShape P f root sv = true) :
    schemaMut P hash fuel root = some s.nodes ∧
    (ser ext false (freezeNodes s.nodes) ((freezeNodes s.nodes)[0]!) sv {}).1 = .ok () :=
  ⟨schemaMut_of_builderState hbuild,
    C20_fits_of_realizes ext P _ root f sv (C20_schema_realizes_unions P hash fuel root s hbuild hwf hnames) hs⟩

/-! ### A program of the fragment

`Tree` is recursive through `Option<Box<_>>`, `Vec<_>` and `HashMap<String, _>`, refers to the
nested record `Inner` (which has fields with logical-type attributes), the unit-only enum `Color` (with a `Null` variant, inside an `Option`) and
the forwarding newtype `Wrapper(Box<u64>)` and the named fixed `Digest([u8; 16])`. -/

def exampleProg : Prog := #[
  { ident := "Tree", modulePath := "m", body := .record [
      { name := "value", ty := .i32 },
      { name := "next", ty := .option (.ptr (.named 0 [])) },
      { name := "children", ty := .vec (.named 0 []) },
      { name := "tags", ty := .hashMap (.named 1 []) },
      { name := "color", ty := .option (.named 2 []) },
      { name := "id", ty := .named 3 [] },
      { name := "digest", ty := .option (.named 4 []) } ] },
  { ident := "Inner", modulePath := "m", body := .record [
      { name := "name", ty := .string },
      { name := "data", ty := .byteVec },
      { name := "key", ty := .byteArray 4 },
      { name := "ratio", ty := .option .f64 },
      { name := "deep", ty := .btreeMap (.vec (.option (.named 3 []))) },
      { name := "created", ty := .u64, attr := { logical := some "timestamp-millis" } },
      { name := "day", ty := .ptr .i32, attr := { logical := some "date" } },
      { name := "uid", ty := .string, attr := { logical := some "uuid" } },
      { name := "lease", ty := .byteArray 12, attr := { logical := some "duration" } },
      { name := "score", ty := .f64, attr := { logical := some "decimal", scale := some 2 } } ] },
  { ident := "Color", modulePath := "m", body := .unitEnum ["Red", "Green", "Null"] },
  { ident := "Wrapper", modulePath := "m", body := .newtype { name := "0", ty := .ptr .u64 } },
  { ident := "Digest", modulePath := "m", body := .newtype { name := "0", ty := .byteArray 16 } } ]

theorem exampleProg_fitWf : FitWf exampleProg (.named 0 []) = true := by decide +kernel

/-- With an enum that maps to a union: `Shape` is `Circle(f64) | Named(Inner) | Null`. -/
def exampleProgU : Prog := exampleProg.push
  { ident := "Shape", modulePath := "m", body := .union [
      { ident := "Circle", serdeName := "Double", field := some { name := "0", ty := .f64 } },
      { ident := "Named", serdeName := "Inner", field := some { name := "0", ty := .named 1 [] } },
      { ident := "Null", serdeName := "Null", field := none } ] }

theorem exampleProgU_fitWfU : FitWfU exampleProgU (.vec (.named 5 [])) = true := by decide +kernel

end Avro.Theorems
