import AvroModel.Theorems.C01glue
import Driver.Parse
import AvroModel.Theorems.C01driver
import AvroModel.Lemmas.ExceptEq
/-
Sample data of the non-vacuity audit of C01–C03 (`Theorems/NonVacuityA.lean`) that the reader
back-end instances share: the driver's parameter table `tB`; the frozen schema `SB` (namespaced
record with array, union, enum, decimal on bytes and on fixed) with a presentation `svB`, its
value, bytes and the checks of the serializer theorems on it; `SU` (`[null, array<long>]`) with
the only value `svU` denotes; `SI` with an input whose second block has a bad union index.
-/
namespace Avro.NonVacuityA
open Avro Avro.Impl Avro.Spec Avro.Theorems Driver

/-- A table as the harness ships it: `"1.5".parse::<Decimal>()` and its `rescale(2)`.  It passes the
    range check the driver's parser applies (`ExtTable.ok`), hence `ExtOK tB.toExt` (`tB_ok`, by
    `Theorems.toExt_ExtOK`). -/
def tB : ExtTable :=
  { dparse := [("1.5", some (15, 1))], rescale := [((15, 1, 2), (150, 2))] }

theorem tB_ok : ExtOK tB.toExt := toExt_ExtOK tB (by decide)

/-- the default (empty) table, the one the `schema-case` command and most streams use -/
theorem empty_ok : ExtOK ({} : ExtTable).toExt := toExt_ExtOK_empty

def nmR : Name := Name.ofFq "ns.R"
def nmE : Name := Name.ofFq "ns.E"
def nmF : Name := Name.ofFq "ns.F"

/-- the editable schema the driver is handed -/
def smB : SchemaMut := #[
  ⟨.record nmR [("a", 1), ("u", 3), ("d", 6), ("e", 7), ("f", 8)], none⟩,
  ⟨.array 2, none⟩, ⟨.long, none⟩, ⟨.union [4, 5], none⟩, ⟨.null, none⟩, ⟨.string, none⟩,
  ⟨.bytes, some (.decimal 2 10)⟩, ⟨.enum nmE ["A", "B"], none⟩,
  ⟨.fixed nmF 4, some (.decimal 1 9)⟩]

/-- what the driver runs on -/
def SB : Schema := freezeNodes smB
def nodeB : Node := .record nmR [("a", 1), ("u", 3), ("d", 6), ("e", 7), ("f", 8)]

theorem SB_eq : SB = #[nodeB, .array 2, .long, .union [4, 5], .null, .string,
    .decimal 2 10 .bytes, .enum nmE ["A", "B"], .decimal 1 9 (.fixed nmF 4)] := by
  decide +kernel

/-- fields out of order (`u`, `d`, `e`, `f` are buffered), `d` through `rust_decimal`'s parser and
    `rescale`, `f` an integer on a decimal on `fixed`, `e` a unit variant -/
def svB : SV :=
  .struct "R" [("u", .some (.str "x")), ("d", .str "1.5"), ("e", .unitVariant "E" 1 "B"),
    ("f", .int .i32 7), ("a", .seq (some 2) [.int .i64 1, .int .i64 3])]

def vB : Value :=
  .record [.array [.long 1, .long 3], .union 1 (.string "x"), .decimal 150, .enum 1, .decimal 70]
def oB : Out := .map [(.str "a" false, .seq [.i64 1, .i64 3]), (.str "u" false, .str "x" true),
  (.str "d" false, .str "1.50" false), (.str "e" false, .str "B" false),
  (.str "f" false, .str "7.0" false)]
def bytesB : Bytes := [4, 2, 6, 0, 2, 2, 120, 4, 0, 150, 2, 0, 0, 0, 70]

/-- the run, evaluated once: result, bytes, and the four side buffers and the super-buffer it
    hands back to the pool -/
theorem svB_run : ser tB.toExt false SB nodeB svB {} =
    (.ok (), { out := bytesB, pool := { buffers := List.replicate 4 { cap := true, data := [] },
                                        superBuffers := [{ cap := true, slots := [] }] } }) := by
  decide +kernel
theorem svB_ok : (ser tB.toExt false SB nodeB svB {}).1 = .ok () := by rw [svB_run]
theorem svB_out : (ser tB.toExt false SB nodeB svB {}).2.out = bytesB := by rw [svB_run]

theorem vB_encode : Spec.encode SB nodeB vB = some bytesB := by decide +kernel
theorem vB_observe : Spec.observe SB nodeB vB = some oB := by rw [SB_eq]; rfl
theorem SB_fixedDecFits : Schema.fixedDecFits SB := fun _ _ hk =>
  all_of_getElem? (by decide +kernel : SB.all Node.fixedDecFits = true) hk
theorem SB_allows : ∀ (k : Nat) (n : Node), SB[k]? = some n → Canon.nodeAllows {} n = true :=
  fun _ n _ => Canon.nodeAllows_strict n
/-- the decidable checks of the `*_partial` / `*_checks` forms, on the `freezeNodes` output -/
theorem SB_checks : SB.keysInBounds = true ∧ schemaNamesDistinct SB = true ∧ schemaSmall SB = true ∧
    schemaNoNestedUnion SB = true ∧ nodeOKb SB nodeB = true ∧ svOK svB = true := by decide +kernel
theorem SB_ok : SchemaOK SB :=
  SchemaOK.of_checks SB_checks.1 SB_checks.2.1 SB_checks.2.2.1 SB_checks.2.2.2.1
theorem nodeB_ok : Avro.NodeOK SB nodeB := NodeOK.of_check SB_checks.2.2.2.2.1

def SU : Schema := #[.union [1, 2], .null, .array 3, .long]
def nodeU : Node := .union [1, 2]
def svU : SV := .some (.seq (some 2) [.int .i64 1, .int .i64 (-3)])
def vU : Value := .union 1 (.array [.long 1, .long (-3)])

theorem denotes_long_int {ext : DenExt} {S : Schema} {t : IntTy} {x : Int} {v : Value}
    (h : Spec.denotes ext S .long (.int t x) v = true) : v = .long x := by
  rw [denotes_int] at h
  cases v <;> simp [denotesAtLeaf, denotesLeaf] at h
  simp [h.2]

theorem svU_denotes_only (ext : DenExt) (v : Value)
    (h : Spec.denotes ext SU nodeU svU v = true) : v = vU := by
  rw [svU, denotes_some, denotes_seq] at h
  have h1 : SU[1]? = some .null := by decide
  have h2 : SU[2]? = some (.array 3) := by decide
  have h3 : SU[3]? = some .long := by decide
  cases v <;> simp [seqDispatch, nodeU, unionBranch] at h
  rename_i idx y
  match idx with
  | 0 => simp [h1] at h
  | 1 =>
    simp [h2, nameAgrees] at h
    cases y <;> simp [h3] at h
    rename_i items
    match items with
    | [] => simp [denotesList] at h
    | [_] => simp [denotesList] at h
    | [a, b] =>
      simp only [denotesList, Bool.and_eq_true, and_true] at h
      rw [denotes_long_int h.1, denotes_long_int h.2]; rfl
    | _ :: _ :: _ :: _ => simp [denotesList] at h
  | n + 2 => simp at h

theorem SU_ok : SchemaOK SU :=
  SchemaOK.of_checks (by decide +kernel) (by decide +kernel) (by decide +kernel) (by decide +kernel)

theorem SU_fixedDecFits : Schema.fixedDecFits SU := fun _ _ hk =>
  all_of_getElem? (by decide +kernel : SU.all Node.fixedDecFits = true) hk

theorem nodeU_ok : Avro.NodeOK SU nodeU := NodeOK.of_check (by decide +kernel)

/-- `svU` holds the negative `-3`: the permission `negInt` is needed, and `SU` (no `decimal`) allows it -/
theorem SU_allows_negInt :
    ∀ (k : Nat) (n : Node), SU[k]? = some n → Canon.nodeAllows { negInt := true } n = true :=
  fun _ _ hk => all_of_getElem? (p := Canon.nodeAllows { negInt := true })
    (by decide +kernel : SU.all (Canon.nodeAllows { negInt := true }) = true) hk

/-- every value `svU` denotes is observable, of depth and sequence length at most 2 -/
theorem svU_lim (ext : DenExt) (v : Value) (h : Spec.denotes ext SU nodeU svU v = true) :
    (Spec.observe SU nodeU v).isSome = true ∧ Spec.depthOf v ≤ 2 ∧ Spec.maxLen v ≤ 2 := by
  rw [svU_denotes_only ext v h]
  exact ⟨by rfl, by decide +kernel, by decide +kernel⟩

def SI : Schema := #[.array 1, .union [2, 3], .null, .string]
def nodeI : Node := .array 1
/-- block of one `null`; block of -1 item with byte size 1 whose union index is 2 -/
def badI : Bytes := [0x02, 0x00, 0x01, 0x02, 0x04, 0x00]

theorem badI_invalid : ∀ fuelS, Spec.decode SI fuelS nodeI badI = none := by
  have hh1 : decodeBlockHeader badI = some (1, [0x00, 0x01, 0x02, 0x04, 0x00]) := by decide +kernel
  have hh2 : decodeBlockHeader [0x01, 0x02, 0x04, 0x00] = some (1, [0x04, 0x00]) := by
    decide +kernel
  have hl0 : decodeLen [0x00, 0x01, 0x02, 0x04, 0x00] = some (0, [0x01, 0x02, 0x04, 0x00]) := by
    decide +kernel
  have hl2 : decodeLen [0x04, 0x00] = some (2, [0x00]) := by decide +kernel
  have h1 : SI[1]? = some (.union [2, 3]) := by decide
  have h2 : SI[2]? = some .null := by decide
  intro f
  rcases f with _ | _ | _ | _ | _ | f <;>
    simp [Spec.decode, nodeI, nodeOf, h1, h2, decodeBlocks, decodeItems, hh1, hh2, hl0, hl2]

end Avro.NonVacuityA
