import AvroModel.Theorems.C08
import AvroModel.Theorems.C08pcf
import AvroModel.Theorems.C18
import AvroModel.Theorems.C08spec
import AvroModel.Theorems.C08specExamples
import AvroModel.Theorems.C08injective
/-
C08 — all parts together: the checksum (`C08.lean`), the canonical-form writer (`C08pcf.lean`), the
fingerprint stored at freeze time is the CRC-64-AVRO of the canonical form (`C18.lean`), the canonical
form the crate writes is the specification's transformation of the document (`C08spec.lean`, its
documents evaluated on both sides in `C08specExamples.lean`), and it determines the canonical
structure of the document (`C08injective.lean`).
-/
