import AvroModel.Impl.Single
import AvroModel.Spec.Observe
import AvroModel.Lemmas.DriverFuel
import AvroModel.Lemmas.ValueEq
import AvroModel.Lemmas.SerRepr
import AvroModel.Lemmas.SliceBase
/-
Sample data of the non-vacuity audit of C04, C11, C12, C18 (`Theorems/NonVacuityB.lean`) that the
reader back-end instances share: the cyclic schema `cycS` built through `freezeNodes`, one value of
it as bytes, presentation, specification value and observation, its single-object message; a union
with a unit variant (`uvS`).
-/
namespace Avro.Theorems.NVB
open Avro Avro.Impl Avro.Theorems

/-- the fuel `Driver/Main.lean` (`deOne`, `runSingle`, `runOcfr`) gives the datum deserializer:
    `Avro.Impl.deFuel` (`Lemmas/DriverFuel.lean`); the hint (last, default `.any`) is the hint of
    the call of `de` -/
abbrev driverFuel (cfg : DeConfig) (S : Schema) (depth len : Nat) (hint : Hint := .any) : Nat :=
  deFuel cfg S hint depth len

def nmNode : Name := { fq := "ns.Node", short := "Node", ns := some "ns" }

/-- `0: record ns.Node { value: long (timestamp-micros), next: [null, Node], tags: array<uuid> }`:
    recursive through the union at key 1. -/
def cycSM : SchemaMut := #[
  { type := .record nmNode [("value", 5), ("next", 1), ("tags", 3)], logical := none },
  { type := .union [2, 0], logical := none },
  { type := .null, logical := none },
  { type := .array 4, logical := none },
  { type := .string, logical := some .uuid },
  { type := .long, logical := some .timestampMicros }]

def cycS : Schema := freezeNodes cycSM
def cycRoot : Node := .record nmNode [("value", 5), ("next", 1), ("tags", 3)]

theorem cycS_eq : cycS = #[cycRoot, .union [2, 0], .null, .array 4, .uuid, .timestampMicros] := by
  decide +kernel


/-- `{value: 1, next: {value: 2, next: null, tags: []}, tags: ["a"]}` -/
def cycBytes : Bytes := [0x02, 0x02, 0x04, 0x00, 0x00, 0x02, 0x02, 0x61, 0x00]

/-- the value of `cycBytes` read by a self-describing target -/
def cycOut : Out :=
  .map [(.str "value" false, .i64 1),
        (.str "next" false, .map [(.str "value" false, .i64 2), (.str "next" false, .unit),
                                  (.str "tags" false, .seq [])]),
        (.str "tags" false, .seq [.str "a" true])]

/-- `0: [null, array<int>]`, `1: null`, `2: array<int>`, `3: int` -/
def uvS : Schema := #[.union [1, 2], .null, .array 3, .int]
/-- branch 1 (the array), `[1, 2, 3]` in two blocks: count -2 with exact byte size 2, count 1 -/
def uvBytes : Bytes := [0x02, 0x03, 0x04, 0x02, 0x04, 0x02, 0x06, 0x00]
def uvVariants : List (String × VariantHint) := [("Null", .unit), ("Array", .unit), ("Int", .newtype .i64)]

theorem uv_dec : Spec.decode uvS 20 (.union [1, 2]) (uvBytes ++ [0x2a])
    = some (.union 1 (.array [.int 1, .int 2, .int 3]), [0x2a]) := decEq_of (by decide +kernel)

/-- the external parameters of the serializer as the driver's empty table gives them, except
    `asF32` (a constant here; no decimal / float conversion is involved in the values below) -/
def extNone : Ext :=
  { asF32 := fun _ => 0, decFromF64 := fun _ => none, decParse := fun _ => none,
    decRescale := fun d _ => d }

/-- the serde presentation of `cycV` below (a Rust
    `struct Node { value, next: Option<Box<Node>>, tags }`) -/
def sv1 : SV :=
  .struct "Node" [("value", .int .i64 1),
    ("next", .some (.struct "Node" [("value", .int .i64 2), ("next", .none), ("tags", .seq (some 0) [])])),
    ("tags", .seq (some 1) [.str "a"])]

/-- the fingerprint of the schema, as the model's `schemaFingerprint` computes it -/
def cycFp : Bytes := [96, 195, 243, 53, 39, 47, 234, 129]

def cycMsg : Bytes := [0xC3, 0x01] ++ cycFp ++ cycBytes
theorem cyc_write : toSingleObject cycFp (ser extNone false cycS cycRoot sv1) {} =
    (.ok (), { out := cycMsg }) := by decide +kernel

/-- the datum deserializer as `runSingle` of the driver instantiates it -/
def cycDatum (st : RState) : Except DeErr Out × RState :=
  de deExtModel {} cycS (driverFuel {} cycS 64 st.rest.length) cycRoot 64 false .any st

/-- the value `sv1` denotes, its canonical encoding and its observation -/
def cycV : Spec.Value :=
  .record [.long 1, .union 1 (.record [.long 2, .union 0 .null, .array []]), .array [.string "a"]]
theorem cycV_encode : Spec.encode cycS cycRoot cycV = some cycBytes := by decide +kernel
theorem cycV_observe : Spec.observe cycS cycRoot cycV = some cycOut := by rw [cycS_eq]; rfl

theorem extNone_ok : ExtOK extNone :=
  ⟨fun _ _ h => h, fun _ _ h => by simp [extNone] at h, fun _ _ h => by simp [extNone] at h⟩

theorem cycS_ok : SchemaOK cycS :=
  SchemaOK.of_checks (by decide +kernel) (by decide +kernel) (by decide +kernel) (by decide +kernel)
theorem cycRoot_ok : Avro.NodeOK cycS cycRoot := NodeOK.of_check (by decide +kernel)
theorem cycS_fixedDecFits : Schema.fixedDecFits cycS := fun _ _ hk =>
  all_of_getElem? (by decide +kernel : cycS.all Node.fixedDecFits = true) hk

/-- the fingerprint of `cycSM` with the field `tags` renamed `labels`
    (`otherFp_eq`, `Theorems/NonVacuityB.lean`) -/
def otherFp : Bytes := [189, 178, 166, 100, 155, 159, 177, 241]

end Avro.Theorems.NVB
