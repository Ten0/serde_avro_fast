import AvroModel.Lemmas.RecordFull
import AvroModel.Lemmas.SerTriples
/-
C13: the bytes of a record do not depend on the order in which its fields are presented.
`field_idx` is sound, and the reordering machine keeps the invariant "the writer holds the fields
before `current` in schema order; every occupied slot is a later field's exact encoding".
-/
namespace Avro.Theorems
open Avro Avro.Impl

/-- C13.4: `field_idx` returns the index of a field with the requested name, never before the
    field currently waited for. -/
theorem C13_fieldIdx_sound {fields : List (String × Nat)} {rs : RecordState} {name : String}
    {i : Nat} (h : fieldIdx fields rs name = .ok i) :
    (∃ k, fields[i]? = some (name, k)) ∧ i ≥ rs.current :=
  fieldIdx_sound h

/-- C13.5 (flush loop between two fields): under the full invariant `RecInv` — the slot of the
    field currently waited for is empty — the loop has nothing to do: it succeeds, whatever the
    fuel and the writer, and returns the machine and the writer UNCHANGED (so it trivially keeps
    the invariant).  The form that does work is `C13_flush_establishes`. -/
theorem C13_flush_invariant (fields : List (String × Nat)) (enc : Nat → Bytes) (base : Bytes)
    (fuel : Nat) (rs : RecordState) (s : SerState) (hinv : RecInv fields enc base rs s) :
    flushBuffered fuel rs s = (.ok rs, s) := by
  cases fuel with
  | zero => simp [flushBuffered]
  | succ fuel =>
    unfold flushBuffered
    split
    · rename_i b hb
      have := (hinv.2.1 _ b hb).1
      omega
    · rfl

/-- C13.5 (flush loop, the form that does the work): entered right after field `current-1` was
    written, i.e. with the weak invariant `RecInvW` (the slot at `current` may be occupied), with
    an unlimited writer and fuel covering the slots, the loop succeeds, re-establishes `RecInv`,
    only advances `current`, and forgets no presented field. -/
theorem C13_flush_establishes (fields : List (String × Nat)) (enc : Nat → Bytes) (base : Bytes)
    (fuel : Nat) (rs : RecordState) (s : SerState) (hb : s.budget = none)
    (hfuel : rs.buffers.slots.length ≤ fuel + rs.current) (hinv : RecInvW fields enc base rs s) :
    ∃ rs' s', flushBuffered fuel rs s = (.ok rs', s') ∧ s'.budget = none ∧
      RecInv fields enc base rs' s' ∧ rs.current ≤ rs'.current ∧
      ∀ i, RecDone rs i → RecDone rs' i := by
  obtain ⟨rs', s', h1, h2, h3, h4⟩ := flushBuffered_inv fields enc base fuel rs s hb hfuel hinv
  exact ⟨rs', s', h1, h2, h3, h4, fun i => (flushBuffered_done (congrArg Prod.fst h1) i).mpr⟩

/-- C13.5 (`serialize_field`): with a value serializer that, ON THE NODE OF FIELD `idx` and on an
    unlimited writer WITH A CLEAN POOL, appends exactly `enc idx`, `recordValue` preserves the
    invariant and marks field `idx` presented.  (`recordValue_inv` asks this of `serv` on EVERY node
    and EVERY unlimited state, which the real `fun node => ser ext allowSlow S node v` cannot
    deliver: it fails on `union []` and panics on a dirty pool.  The present hypothesis it meets:
    `C13_recordValue_invariant_ser`.) -/
theorem C13_recordValue_invariant (fields : List (String × Nat)) (enc : Nat → Bytes) (base : Bytes)
    (S : Schema) (rs : RecordState) (idx : Nat) (serv : Node → SerM Unit) (s : SerState)
    (rs' : RecordState) (s' : SerState)
    (hb : s.budget = none) (hc : PoolClean s.pool) (hidx : rs.current ≤ idx)
    (hserv : ∀ f node s, fields[idx]? = some f → S[f.2]? = some node → s.budget = none →
      PoolClean s.pool →
      ∃ s', serv node s = (.ok (), s') ∧ s'.out = s.out ++ enc idx ∧ s'.budget = none)
    (hinv : RecInv fields enc base rs s)
    (hok : recordValue S fields rs idx serv s = (.ok rs', s')) :
    RecInv fields enc base rs' s' ∧ s'.budget = none ∧
      (∀ i, RecDone rs i ∨ i = idx → RecDone rs' i) :=
  recordValue_inv_gen Avro.PoolClean (fun _ _ _ => popBuffer_clean)
    fields enc base S rs idx serv s rs' s' hb (PoolClean.iff_base.1 hc) hidx
    (fun f node s hf hn hb hc => hserv f node s hf hn hb (PoolClean.iff_base.2 hc)) hinv hok

/-- The same for the value serializer the machine is really run with (`serFields` calls
    `recordValue … (fun node => ser ext allowSlow S node v)`): it is enough that the value
    serializes ON ITS OWN (from the empty unlimited writer) on the node of field `idx`, to
    `enc idx`. -/
theorem C13_recordValue_invariant_ser (ext : Ext) (allowSlow : Bool)
    (fields : List (String × Nat)) (enc : Nat → Bytes) (base : Bytes)
    (S : Schema) (rs : RecordState) (idx : Nat) (v : SV) (s : SerState)
    (rs' : RecordState) (s' : SerState)
    (hb : s.budget = none) (hc : PoolClean s.pool) (hidx : rs.current ≤ idx)
    (hv : ∀ f node, fields[idx]? = some f → S[f.2]? = some node →
      ∃ t, ser ext allowSlow S node v {} = (.ok (), t) ∧ t.out = enc idx)
    (hinv : RecInv fields enc base rs s)
    (hok : recordValue S fields rs idx (fun node => ser ext allowSlow S node v) s = (.ok rs', s')) :
    RecInv fields enc base rs' s' ∧ s'.budget = none ∧
      (∀ i, RecDone rs i ∨ i = idx → RecDone rs' i) :=
  C13_recordValue_invariant fields enc base S rs idx (fun node => ser ext allowSlow S node v) s rs' s'
    hb hc hidx
    (fun f node s0 hf hnode hb0 hc0 => by
      obtain ⟨t, ht, hto⟩ := hv f node hf hnode
      obtain ⟨s1, h1, h2, h3⟩ := ser_appends ext allowSlow S node v t ht s0 hb0
        (PoolClean.iff_base.1 hc0)
      exact ⟨s1, h1, by rw [h2, hto], h3⟩)
    hinv hok

/-- C13.6, explicit form.  A record with pairwise distinct field names whose field value `i`
    serializes on its own (from the empty unlimited writer) to `enc i`: presenting all fields as
    a struct in any order `order` (a permutation of `0 .. n-1`; `presOf` pairs each index with its
    schema name and value) succeeds and appends exactly `enc 0 ++ ... ++ enc (n-1)`, on any
    unlimited writer and any clean pool.  Field values are arbitrary (not only leaves): the
    side-buffer run of a value is related to its in-place run by the simulation of
    `Lemmas/SerSim.lean`. -/
theorem C13_record_bytes (ext : Ext) (allowSlow : Bool) (S : Schema) (nm : Name)
    (fields : List (String × Nat)) (enc : Nat → Bytes) (vals : Nat → SV)
    (hnd : (fields.map (·.1)).Nodup)
    (hkeys : ∀ f ∈ fields, ∃ node, S[f.2]? = some node)
    (henc : ∀ i f node, fields[i]? = some f → S[f.2]? = some node →
      ∃ t, ser ext allowSlow S node (vals i) {} = (.ok (), t) ∧ t.out = enc i)
    (name : String) (order : List Nat) (hperm : order.Perm (List.range fields.length))
    (s : SerState) (hb : s.budget = none) (hc : PoolClean s.pool) :
    ∃ s', ser ext allowSlow S (.record nm fields) (.struct name (presOf fields vals order)) s =
        (.ok (), s') ∧
      s'.out = s.out ++ (List.range fields.length).flatMap enc ∧ s'.budget = none ∧
      PoolClean s'.pool :=
  -- the presentation that omits nothing
  (ser_record_partial ext allowSlow S nm fields enc vals hnd hkeys order
    (hperm.nodup_iff.mpr List.nodup_range) (fun _ hi => List.mem_range.mp (hperm.mem_iff.mp hi))
    (fun i _ => henc i)
    (fun _ _ hf hi => (hi (hperm.mem_iff.mpr (List.mem_range.mpr
      (List.getElem?_eq_some_iff.mp hf).1))).elim)
    name s hb (PoolClean.iff_base.1 hc)).imp fun _ h =>
      ⟨h.1, h.2.1, h.2.2.1, PoolClean.iff_base.2 h.2.2.2⟩

/-- C13.6: any permutation of a struct presentation yields the same result and the same output
    bytes as the in-order presentation `presOf fields vals (List.range n)`, provided every field
    value serializes successfully on its own. -/
theorem C13_order_independent (ext : Ext) (allowSlow : Bool) (S : Schema) (nm : Name)
    (fields : List (String × Nat)) (vals : Nat → SV)
    (hnd : (fields.map (·.1)).Nodup)
    (hkeys : ∀ f ∈ fields, ∃ node, S[f.2]? = some node)
    (hvals : ∀ i f node, fields[i]? = some f → S[f.2]? = some node →
      ∃ t, ser ext allowSlow S node (vals i) {} = (.ok (), t))
    (name : String) (order : List Nat) (hperm : order.Perm (List.range fields.length))
    (s : SerState) (hb : s.budget = none) (hc : PoolClean s.pool) :
    (ser ext allowSlow S (.record nm fields) (.struct name (presOf fields vals order)) s).1 =
      .ok () ∧
    (ser ext allowSlow S (.record nm fields)
      (.struct name (presOf fields vals (List.range fields.length))) s).1 = .ok () ∧
    (ser ext allowSlow S (.record nm fields) (.struct name (presOf fields vals order)) s).2.out =
      (ser ext allowSlow S (.record nm fields)
        (.struct name (presOf fields vals (List.range fields.length))) s).2.out := by
  let enc : Nat → Bytes := fun i =>
    match fields[i]? with
    | some f =>
      match S[f.2]? with
      | some node => (ser ext allowSlow S node (vals i) {}).2.out
      | none => []
    | none => []
  have henc : ∀ i f node, fields[i]? = some f → S[f.2]? = some node →
      ∃ t, ser ext allowSlow S node (vals i) {} = (.ok (), t) ∧ t.out = enc i := by
    intro i f node hf hnode
    obtain ⟨t, ht⟩ := hvals i f node hf hnode
    exact ⟨t, ht, by simp only [enc, hf, hnode, ht]⟩
  obtain ⟨s1, e1, o1, _⟩ := C13_record_bytes ext allowSlow S nm fields enc vals hnd hkeys henc
    name order hperm s hb hc
  obtain ⟨s2, e2, o2, _⟩ := C13_record_bytes ext allowSlow S nm fields enc vals hnd hkeys henc
    name (List.range fields.length) (List.Perm.refl _) s hb hc
  rw [e1, e2]
  exact ⟨rfl, rfl, by rw [o1, o2]⟩

end Avro.Theorems
