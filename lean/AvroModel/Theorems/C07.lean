import AvroModel.Lemmas.RegisterRel
import AvroModel.Lemmas.CycleCheck
/-
C07: schema parsing — the name keys against the specification's fullnames (`Spec/Names.lean`,
written from the text), rejection classes, preservation, order independence of references, the
cycle check, the whole parse.
-/
namespace Avro.Theorems
open Avro Avro.Impl

/-! ### name keys are the fullnames of the specification -/

/-- The key under which a definition is registered is the fullname the specification assigns. -/
theorem C07_defKey_is_spec (name : String) (nsAttr enc : Option String) :
    (defKey name nsAttr enc).ns = (Spec.fullnameOfDef name nsAttr enc).1 ∧
    (defKey name nsAttr enc).name = (Spec.fullnameOfDef name nsAttr enc).2 :=
  defKey_is_spec name nsAttr enc

/-- The key looked up for a reference is the fullname the specification assigns. -/
theorem C07_refKey_is_spec (reference : String) (enc : Option String) :
    (refKey reference enc).ns = (Spec.fullnameOfRef reference enc).1 ∧
    (refKey reference enc).name = (Spec.fullnameOfRef reference enc).2 :=
  refKey_is_spec reference enc

/-- Every legal spelling of a fullname `(ns, name)` — as a reference or as a definition —
    yields the same key. `name` is a simple name (no dot). -/
theorem C07_ref_matches_def (ns name : String) (hn : '.' ∉ name.toList) (hns : ns ≠ "")
    (enc a : Option String) :
    -- references
    refKey (ns ++ "." ++ name) enc = ⟨some ns, name⟩ ∧
    refKey ("." ++ name) enc = ⟨none, name⟩ ∧
    refKey name enc = ⟨enc, name⟩ ∧
    -- definitions: dotted name (any `namespace` attribute `a` is ignored)
    defKey (ns ++ "." ++ name) a enc = ⟨some ns, name⟩ ∧
    defKey ("." ++ name) a enc = ⟨none, name⟩ ∧
    -- definitions: `namespace` attribute, including the empty string
    defKey name (some ns) enc = ⟨some ns, name⟩ ∧
    defKey name (some "") enc = ⟨none, name⟩ ∧
    -- definitions: inherited
    defKey name none enc = ⟨enc, name⟩ := by
  have h0 : rsplitDot ("." ++ name) = some ("", name) := by
    have := rsplitDot_dotted "" name hn
    simpa using this
  refine ⟨?_, ?_, ?_, ?_, ?_, ?_, ?_, ?_⟩
  · simp [refKey, rsplitDot_dotted ns name hn, nonEmpty_of_ne hns]
  · simp [refKey, h0, nonEmpty_eq_none_iff.2 rfl]
  · simp [refKey, rsplitDot_nodot name hn]
  · simp [defKey, rsplitDot_dotted ns name hn, nonEmpty_of_ne hns]
  · simp [defKey, h0, nonEmpty_eq_none_iff.2 rfl]
  · simp [defKey, rsplitDot_nodot name hn, nonEmpty_of_ne hns]
  · simp [defKey, rsplitDot_nodot name hn, nonEmpty_eq_none_iff.2 rfl]
  · simp [defKey, rsplitDot_nodot name hn]

/-- Keys produced by the parser are well formed: the simple name has no dot and the namespace is
    never the empty string (given that of the enclosing namespace). -/
theorem C07_defKey_wf (name : String) (nsAttr enc : Option String) (henc : enc ≠ some "") :
    '.' ∉ (defKey name nsAttr enc).name.toList ∧ (defKey name nsAttr enc).ns ≠ some "" :=
  defKey_wf name nsAttr enc henc

theorem C07_refKey_wf (reference : String) (enc : Option String) (henc : enc ≠ some "") :
    '.' ∉ (refKey reference enc).name.toList ∧ (refKey reference enc).ns ≠ some "" := by
  simp only [refKey, rsplitDot_eq]
  cases h : Spec.splitLastDot reference.toList with
  | some p =>
    obtain ⟨a, b⟩ := p
    obtain ⟨-, hb, -⟩ := splitLastDot_some h
    simpa [String.toList_ofList, hb] using nonEmpty_ne_some_empty _
  | none =>
    exact ⟨by simpa using splitLastDot_none_iff.mp h, by simpa using henc⟩

/-! ### the `Name` built by the parser -/

theorem C07_toName_fq (k : NameKey) :
    (k.toName).fq = match k.ns with | none => k.name | some ns => ns ++ "." ++ k.name := by
  unfold NameKey.toName
  cases k.ns <;> rfl

/-- The fullname text of the specification is the `fq` of the crate's `Name`. -/
theorem C07_toName_fq_spec (k : NameKey) : (k.toName).fq = Spec.fullnameText (k.ns, k.name) :=
  k.toName_fq_spec

/-- For a well-formed key (simple name without dot, namespace not the empty string) the `Name`
    the parser builds is the one `Name::from_fully_qualified_name` builds from its fullname. -/
theorem C07_toName_ofFq (k : NameKey) (hn : '.' ∉ k.name.toList) (hns : k.ns ≠ some "") :
    Name.ofFq (k.toName).fq = k.toName := by
  obtain ⟨ns, name⟩ := k
  cases ns with
  | none =>
    simp only [NameKey.toName, Name.ofFq, rfindDot_none_iff.mpr hn]
  | some ns =>
    have hne : ns ≠ "" := fun e => hns (by simp [e])
    have hl : (ns ++ "." ++ name).toList = ns.toList ++ '.' :: name.toList := by
      simp [String.toList_append]
    have hpos : ns.toList.length ≠ 0 := by
      intro h
      exact hne (String.toList_eq_nil_iff.mp (List.eq_nil_of_length_eq_zero h))
    simp only [NameKey.toName, Name.ofFq, hl, rfindDot_append hn]
    obtain ⟨m, hm⟩ := Nat.exists_eq_succ_of_ne_zero hpos
    rw [hm]
    simp only [Name.mk.injEq, true_and, Option.some.injEq]
    rw [← hm]
    simp [String.ofList_toList]

/-- The side condition on the namespace is needed: with `ns = some ""` the parser's `Name` keeps
    the leading dot while `from_fully_qualified_name` strips it. -/
theorem C07_toName_ofFq_counterexample :
    Name.ofFq (NameKey.toName ⟨some "", "a"⟩).fq ≠ NameKey.toName ⟨some "", "a"⟩ := by
  decide


/-! ### rejection classes -/

/-- Unknown reference: a pending reference whose key is not in the final name table. -/
theorem C07_rejects_unknown_ref (st : PState) (k : NameKey) (hk : k ∈ st.unresolved)
    (h : st.names.lookup k = none) : resolveKeys st = .error .custom := by
  unfold resolveKeys
  rw [mapM_option_none _ _ k hk h]

/-- Duplicate definition of a fullname. The lookup happens after the node slot was reserved;
    reserving does not touch the name table, so the condition is on `st.names`. -/
theorem C07_rejects_duplicate (fuel : Nat) (t : RawType) (o : RawAttrs) (name : String)
    (hname : o.name = some name)
    (of : Option (List (String × RawSchema))) (oi ov : Option RawSchema) (enc : Option String)
    (st : PState) (hdup : (st.names.lookup (defKey name o.nsAttr enc)).isSome) :
    registerObject (fuel + 1) t (some o) of oi ov enc st = .error .custom := by
  simp [registerObject, hname, hdup]

/-- All the missing-attribute cases in one statement: whatever fails in the name step fails with
    `custom`, and after it the table `bodyOf` has no entry (`bodyOf_error_iff`). -/
theorem C07_rejects_missing_attribute (fuel : Nat) (t : RawType) (object : Option RawAttrs)
    (of : Option (List (String × RawSchema))) (oi ov : Option RawSchema) (enc : Option String)
    (st : PState)
    (h : (t = .array ∧ oi = none) ∨ (t = .map ∧ ov = none) ∨ (t = .record ∧ of = none) ∨
         (t = .enum ∧ object.bind (·.symbols) = none) ∨ (t = .fixed ∧ object.bind (·.size) = none) ∨
         ((t = .record ∨ t = .enum ∨ t = .fixed) ∧ object.bind (·.name) = none) ∨
         ((t = .array ∨ t = .map ∨ t = .record ∨ t = .enum ∨ t = .fixed) ∧ object = none ∧
            of = none ∧ oi = none ∧ ov = none)) :
    registerObject (fuel + 1) t object of oi ov enc st = .error .custom := by
  rw [registerObject_succ]
  cases hn : nameStep object enc st with
  | error e => rw [nameStep_error hn]; rfl
  | ok p =>
    obtain ⟨nk, st1⟩ := p
    have hk : object.bind (·.name) = none → nk = none := fun h => by rw [nameStep_key hn, h]; rfl
    have : ∃ e, bodyOf t object of oi ov enc nk = .error e := by
      rw [bodyOf_error_iff]
      rcases h with h | h | h | h | h | ⟨ht, hn⟩ | ⟨rfl | rfl | ht, rfl, rfl, rfl, rfl⟩
      · exact .inl h
      · exact .inr (.inl h)
      · exact .inr (.inr (.inl h))
      · exact .inr (.inr (.inr (.inl h)))
      · exact .inr (.inr (.inr (.inr (.inl h))))
      · exact .inr (.inr (.inr (.inr (.inr ⟨ht, hk hn⟩))))
      · exact .inl ⟨rfl, rfl⟩
      · exact .inr (.inl ⟨rfl, rfl⟩)
      · exact .inr (.inr (.inr (.inr (.inr ⟨ht, hk rfl⟩))))
    obtain ⟨e, he⟩ := this
    simp only [andThen, bodyOf_error he]

/-- `array` without `items`. -/
theorem C07_rejects_missing_items (fuel : Nat) (object : Option RawAttrs)
    (of : Option (List (String × RawSchema))) (ov : Option RawSchema) (enc : Option String)
    (st : PState) :
    registerObject (fuel + 1) .array object of none ov enc st = .error .custom :=
  C07_rejects_missing_attribute _ _ _ _ _ _ _ _ (.inl ⟨rfl, rfl⟩)

/-- `map` without `values`. -/
theorem C07_rejects_missing_values (fuel : Nat) (object : Option RawAttrs)
    (of : Option (List (String × RawSchema))) (oi : Option RawSchema) (enc : Option String)
    (st : PState) :
    registerObject (fuel + 1) .map object of oi none enc st = .error .custom :=
  C07_rejects_missing_attribute _ _ _ _ _ _ _ _ (.inr (.inl ⟨rfl, rfl⟩))

/-- `record` / `enum` / `fixed` without `name`. -/
theorem C07_rejects_missing_name (fuel : Nat) (t : RawType)
    (ht : t = .record ∨ t = .enum ∨ t = .fixed) (o : RawAttrs) (hname : o.name = none)
    (of : Option (List (String × RawSchema))) (oi ov : Option RawSchema) (enc : Option String)
    (st : PState) :
    registerObject (fuel + 1) t (some o) of oi ov enc st = .error .custom :=
  C07_rejects_missing_attribute _ _ _ _ _ _ _ _ (.inr (.inr (.inr (.inr (.inr (.inl ⟨ht, hname⟩))))))

/-- `record` without `fields`. -/
theorem C07_rejects_missing_fields (fuel : Nat) (object : Option RawAttrs)
    (oi ov : Option RawSchema) (enc : Option String) (st : PState) :
    registerObject (fuel + 1) .record object none oi ov enc st = .error .custom :=
  C07_rejects_missing_attribute _ _ _ _ _ _ _ _ (.inr (.inr (.inl ⟨rfl, rfl⟩)))

/-- `enum` without `symbols`. -/
theorem C07_rejects_missing_symbols (fuel : Nat) (o : RawAttrs) (hs : o.symbols = none)
    (of : Option (List (String × RawSchema))) (oi ov : Option RawSchema) (enc : Option String)
    (st : PState) :
    registerObject (fuel + 1) .enum (some o) of oi ov enc st = .error .custom :=
  C07_rejects_missing_attribute _ _ _ _ _ _ _ _ (.inr (.inr (.inr (.inl ⟨rfl, hs⟩))))

/-- `fixed` without `size`. -/
theorem C07_rejects_missing_size (fuel : Nat) (o : RawAttrs) (hs : o.size = none)
    (of : Option (List (String × RawSchema))) (oi ov : Option RawSchema) (enc : Option String)
    (st : PState) :
    registerObject (fuel + 1) .fixed (some o) of oi ov enc st = .error .custom :=
  C07_rejects_missing_attribute _ _ _ _ _ _ _ _ (.inr (.inr (.inr (.inr (.inl ⟨rfl, hs⟩)))))

/-- A complex type without its object. -/
theorem C07_rejects_no_object (fuel : Nat) (t : RawType)
    (ht : t = .array ∨ t = .map ∨ t = .record ∨ t = .enum ∨ t = .fixed)
    (enc : Option String) (st : PState) :
    registerObject (fuel + 1) t none none none none enc st = .error .custom :=
  C07_rejects_missing_attribute _ _ _ _ _ _ _ _
    (.inr (.inr (.inr (.inr (.inr (.inr ⟨ht, rfl, rfl, rfl, rfl⟩))))))

/-- A complex type given as a bare string (`"array"`, `"record"`, ...). -/
theorem C07_rejects_bare_complex (fuel : Nat) (t : RawType)
    (ht : t = .array ∨ t = .map ∨ t = .record ∨ t = .enum ∨ t = .fixed)
    (enc : Option String) (st : PState) :
    registerNode (fuel + 2) (.type t) enc st = .error .custom := by
  simp only [registerNode]
  exact C07_rejects_no_object fuel t ht enc st


/-! ### preservation -/

/-- `registerFields` keeps field names and their order. -/
theorem C07_registerFields_names (fuel : Nat) (fields : List (String × RawSchema))
    (ns : Option String) (st : PState) (fs : List (String × PKey)) (st' : PState)
    (h : registerFields fuel fields ns st = .ok (fs, st')) :
    fs.map (·.1) = fields.map (·.1) :=
  registerFields_names h

/-- A successfully registered record: its node carries the fullname of the specification, the
    fields are registered in the record's namespace, in order, with their names; the logical
    type is `logicalOf` of the attributes. -/
theorem C07_preserves_record (fuel : Nat) (o : RawAttrs) (fields : List (String × RawSchema))
    (oi ov : Option RawSchema) (enc : Option String) (st : PState) (k : PKey) (st' : PState)
    (h : registerObject (fuel + 1) .record (some o) (some fields) oi ov enc st = .ok (k, st')) :
    ∃ name fs lt st1 st2,
      o.name = some name ∧
      k = .idx st.nodes.size ∧
      logicalOf o = .ok lt ∧
      registerFields fuel fields (defKey name o.nsAttr enc).ns st1 = .ok (fs, st2) ∧
      fs.map (·.1) = fields.map (·.1) ∧
      st'.nodes[st.nodes.size]? =
        some { type := .record (defKey name o.nsAttr enc).toName fs, logical := lt } := by
  obtain ⟨nk, st1, ty, st2, lt, hn, hb, hl, hk, hnode⟩ := registerObject_node h
  obtain ⟨-, -, hnk⟩ := nameStep_ok hn
  rcases hnk with ⟨rfl, -, -⟩ | ⟨o', name, ho, hname, rfl, -, -⟩
  · obtain ⟨_, _, _, h, -⟩ := bodyStep_record hb; cases h
  · cases ho
    obtain ⟨_, _, fs, h, hf, hr, rfl⟩ := bodyStep_record hb
    cases h; cases hf
    exact ⟨name, fs, lt, st1, st2, hname, hk, hl, hr,
      C07_registerFields_names _ _ _ _ _ _ hr, hnode⟩

/-- A successfully registered enum: symbols copied verbatim. -/
theorem C07_preserves_enum (fuel : Nat) (o : RawAttrs) (of : Option (List (String × RawSchema)))
    (oi ov : Option RawSchema) (enc : Option String) (st : PState) (k : PKey) (st' : PState)
    (h : registerObject (fuel + 1) .enum (some o) of oi ov enc st = .ok (k, st')) :
    ∃ name syms lt,
      o.name = some name ∧ o.symbols = some syms ∧
      k = .idx st.nodes.size ∧
      logicalOf o = .ok lt ∧
      st'.nodes[st.nodes.size]? =
        some { type := .enum (defKey name o.nsAttr enc).toName syms, logical := lt } := by
  obtain ⟨nk, st1, ty, st2, lt, hn, hb, hl, hk, hnode⟩ := registerObject_node h
  obtain ⟨-, -, hnk⟩ := nameStep_ok hn
  rcases hnk with ⟨rfl, -, -⟩ | ⟨o', name, ho, hname, rfl, -, -⟩
  · obtain ⟨_, _, h, -⟩ := bodyStep_enum hb; cases h
  · cases ho
    obtain ⟨_, syms, h, hs, rfl, -⟩ := bodyStep_enum hb
    cases h
    exact ⟨name, syms, lt, hname, hs, hk, hl, hnode⟩

/-- A successfully registered fixed: size copied verbatim. -/
theorem C07_preserves_fixed (fuel : Nat) (o : RawAttrs) (of : Option (List (String × RawSchema)))
    (oi ov : Option RawSchema) (enc : Option String) (st : PState) (k : PKey) (st' : PState)
    (h : registerObject (fuel + 1) .fixed (some o) of oi ov enc st = .ok (k, st')) :
    ∃ name size lt,
      o.name = some name ∧ o.size = some size ∧
      k = .idx st.nodes.size ∧
      logicalOf o = .ok lt ∧
      st'.nodes[st.nodes.size]? =
        some { type := .fixed (defKey name o.nsAttr enc).toName size, logical := lt } := by
  obtain ⟨nk, st1, ty, st2, lt, hn, hb, hl, hk, hnode⟩ := registerObject_node h
  obtain ⟨-, -, hnk⟩ := nameStep_ok hn
  rcases hnk with ⟨rfl, -, -⟩ | ⟨o', name, ho, hname, rfl, -, -⟩
  · obtain ⟨_, _, h, -⟩ := bodyStep_fixed hb; cases h
  · cases ho
    obtain ⟨_, size, h, hs, rfl, -⟩ := bodyStep_fixed hb
    cases h
    exact ⟨name, size, lt, hname, hs, hk, hl, hnode⟩

/-- Arrays do not change the enclosing namespace: the items are registered in `enc`. -/
theorem C07_preserves_array (fuel : Nat) (object : Option RawAttrs)
    (of : Option (List (String × RawSchema))) (items : RawSchema) (ov : Option RawSchema)
    (enc : Option String) (st : PState) (k : PKey) (st' : PState)
    (h : registerObject (fuel + 1) .array object of (some items) ov enc st = .ok (k, st')) :
    ∃ ki lt st1 st2,
      k = .idx st.nodes.size ∧
      registerNode fuel items enc st1 = .ok (ki, st2) ∧
      st'.nodes[st.nodes.size]? = some { type := .array ki, logical := lt } := by
  obtain ⟨nk, st1, ty, st2, lt, hn, hb, hl, hk, hnode⟩ := registerObject_node h
  obtain ⟨_, ki, h, hr, rfl⟩ := bodyStep_array hb
  cases h
  exact ⟨ki, lt, st1, st2, hk, hr, hnode⟩

/-- Maps do not change the enclosing namespace. -/
theorem C07_preserves_map (fuel : Nat) (object : Option RawAttrs)
    (of : Option (List (String × RawSchema))) (oi : Option RawSchema) (values : RawSchema)
    (enc : Option String) (st : PState) (k : PKey) (st' : PState)
    (h : registerObject (fuel + 1) .map object of oi (some values) enc st = .ok (k, st')) :
    ∃ kv lt st1 st2,
      k = .idx st.nodes.size ∧
      registerNode fuel values enc st1 = .ok (kv, st2) ∧
      st'.nodes[st.nodes.size]? = some { type := .map kv, logical := lt } := by
  obtain ⟨nk, st1, ty, st2, lt, hn, hb, hl, hk, hnode⟩ := registerObject_node h
  obtain ⟨_, kv, h, hr, rfl⟩ := bodyStep_map hb
  cases h
  exact ⟨kv, lt, st1, st2, hk, hr, hnode⟩

/-- Unions do not change the enclosing namespace; branches are registered in order. -/
theorem C07_preserves_union (fuel : Nat) (branches : List RawSchema)
    (enc : Option String) (st : PState) (k : PKey) (st' : PState)
    (h : registerNode (fuel + 1) (.union branches) enc st = .ok (k, st')) :
    ∃ keys st2,
      k = .idx st.nodes.size ∧
      registerList fuel branches enc
        { st with nodes := st.nodes.push { type := .null, logical := none } } = .ok (keys, st2) ∧
      st'.nodes[st.nodes.size]? = some { type := .union keys, logical := none } := by
  obtain ⟨keys, st2, hl, rfl, rfl⟩ := registerNode_union_ok h
  refine ⟨keys, st2, rfl, hl, ?_⟩
  have := (registerList_reg hl).le.size
  simp only [Array.size_push] at this
  have : st.nodes.size < st2.nodes.size := by omega
  simp [this]

/-- Logical types: `decimal` keeps precision and scale, `scale` defaulting to 0. -/
theorem C07_logical_decimal (o : RawAttrs) (p : Nat) (hl : o.logicalType = some "decimal")
    (hp : o.precision = some p) :
    logicalOf o = .ok (some (.decimal (o.scale.getD 0) p)) := by
  simp [logicalOf, hl, hp]

theorem C07_logical_none (o : RawAttrs) (hl : o.logicalType = none) : logicalOf o = .ok none := by
  simp [logicalOf, hl]

/-- The named logical types map to their annotation, anything else is kept as `unknown`. -/
theorem C07_logical_table (o : RawAttrs) :
    (o.logicalType = some "uuid" → logicalOf o = .ok (some .uuid)) ∧
    (o.logicalType = some "date" → logicalOf o = .ok (some .date)) ∧
    (o.logicalType = some "time-millis" → logicalOf o = .ok (some .timeMillis)) ∧
    (o.logicalType = some "time-micros" → logicalOf o = .ok (some .timeMicros)) ∧
    (o.logicalType = some "timestamp-millis" → logicalOf o = .ok (some .timestampMillis)) ∧
    (o.logicalType = some "timestamp-micros" → logicalOf o = .ok (some .timestampMicros)) ∧
    (o.logicalType = some "duration" → logicalOf o = .ok (some .duration)) ∧
    (o.logicalType = some "big-decimal" → logicalOf o = .ok (some .bigDecimal)) := by
  refine ⟨?_, ?_, ?_, ?_, ?_, ?_, ?_, ?_⟩ <;> intro h <;> simp [logicalOf, h]


/-! ### order independence -/

/-- Late resolution, explicitly: the result of `resolveKeys` is the node vector with every child
    key sent through `resolveKey` (a resolved index stays; pending slot `j` becomes the final
    table entry of the `j`-th unresolved reference). -/
theorem C07_resolveKeys_eq (st : PState) (S : SchemaMut) (h : resolveKeys st = .ok S) :
    S = st.nodes.map fun n =>
      { logical := n.logical, type := resolveType (resolveKey st) n.type } :=
  resolveKeys_ok h

/-- `resolveKeys` succeeds exactly when every pending reference is defined in the final table. -/
theorem C07_resolveKeys_ok_iff (st : PState) :
    (∃ S, resolveKeys st = .ok S) ↔ ∀ k ∈ st.unresolved, (st.names.lookup k).isSome := by
  constructor
  · rintro ⟨S, h⟩ k hk
    cases hl : st.names.lookup k with
    | some i => rfl
    | none => rw [C07_rejects_unknown_ref st k hk hl] at h; cases h
  · intro h
    obtain ⟨r, hr⟩ := mapM_option_isSome (fun k => st.names.lookup k) _ h
    unfold resolveKeys
    rw [hr]
    exact ⟨_, rfl⟩

/-- Registration of the rest of the document only extends the state. -/
theorem C07_register_extends (fuel : Nat) (raw : RawSchema) (enc : Option String)
    (st : PState) (k : PKey) (st' : PState) (h : registerNode fuel raw enc st = .ok (k, st')) :
    st.Le st' :=
  (registerNode_reg h).le

/-- A reference, registered at any point (state `st`), in a document whose registration ends in
    state `stF` where its fullname is bound to node `i`: after late resolution the child key is
    `i` — whether the definition came before the reference (`.idx`) or after it (`.pending`).

    `hle : st1.LeNU stF` (bindings persist, pending references are appended) is what relates the
    state in which a NESTED reference was registered to the FINAL state of the document
    (`Lemmas/SchemaParse.lean`, "states INSIDE an unfinished registration"); `st1.Le stF` would be
    false there: the placeholder slots of the enclosing nodes are overwritten. -/
theorem C07_order_independent_ref (fuel : Nat) (r : String) (enc : Option String)
    (st st1 stF : PState) (k : PKey) (i : Nat)
    (h : registerNode (fuel + 1) (.ref r) enc st = .ok (k, st1))
    (hle : st1.LeNU stF)
    (hdef : stF.names.lookup (refKey r enc) = some i) :
    resolveKey stF k = i := by
  rcases registerNode_ref_ok h with ⟨i', hl, rfl, rfl⟩ | ⟨-, rfl, rfl⟩
  · have := hle.names _ _ hl
    rw [hdef] at this
    simpa [resolveKey] using this.symm
  · obtain ⟨l, hl⟩ := hle.unres
    simp only at hl
    simp [resolveKey, hl, hdef]

/-- In particular a forward reference (pending slot `j`) resolves to exactly the index a lookup
    made after the definition returns. -/
theorem C07_forward_ref_eq_late_lookup (fuel : Nat) (r : String) (enc : Option String)
    (st st1 stF : PState) (j i : Nat)
    (h : registerNode (fuel + 1) (.ref r) enc st = .ok (.pending j, st1))
    (hle : st1.LeNU stF)
    (hdef : stF.names.lookup (refKey r enc) = some i) :
    resolveKey stF (.pending j) = i ∧
    registerNode (fuel + 1) (.ref r) enc stF = .ok (.idx i, stF) := by
  refine ⟨C07_order_independent_ref fuel r enc st st1 stF _ i h hle hdef, ?_⟩
  simp [registerNode, hdef]

/-- A backward reference: the index found at registration time is still the binding of the
    fullname at the end (bindings are never overwritten — duplicates are rejected). -/
theorem C07_backward_ref_stable (fuel : Nat) (r : String) (enc : Option String)
    (st st1 stF : PState) (i : Nat)
    (h : registerNode (fuel + 1) (.ref r) enc st = .ok (.idx i, st1))
    (hle : st1.LeNU stF) :
    stF.names.lookup (refKey r enc) = some i := by
  rcases registerNode_ref_ok h with ⟨i', hl, hk, rfl⟩ | ⟨-, hk, -⟩
  · cases hk; exact hle.names _ _ hl
  · cases hk

/-- A definition binds its fullname to its own node index (and, by `PState.LeNU.names`, the
    binding is never changed afterwards): so a reference whose fullname (per the specification)
    equals that of the definition resolves to the definition's node. -/
theorem C07_def_binds (fuel : Nat) (t : RawType) (o : RawAttrs) (name : String)
    (hname : o.name = some name) (of : Option (List (String × RawSchema)))
    (oi ov : Option RawSchema) (enc : Option String) (st : PState) (k : PKey) (st' : PState)
    (h : registerObject (fuel + 1) t (some o) of oi ov enc st = .ok (k, st')) :
    st'.names.lookup (defKey name o.nsAttr enc) = some st.nodes.size := by
  obtain ⟨nk, st1, b, kks, st2, lt, hn, -, hkids, -, -, rfl⟩ := registerObject_reg h
  obtain ⟨-, -, hnk⟩ := nameStep_ok hn
  rcases hnk with ⟨-, -, ho | ⟨o', ho, hnone⟩⟩ | ⟨o', name', ho, hname', -, -, hnames⟩
  · cases ho
  · cases ho; rw [hname] at hnone; cases hnone
  · cases ho
    rw [hname] at hname'; cases hname'
    apply hkids.le.names
    rw [hnames]
    simp

/-- A node written during registration is still there at the end, so the preservation statements
    hold of the final node vector — provided its slot `i` is not one of the slots `op` that are
    still placeholders in `st'` (those of the nodes that ENCLOSE the node just completed: they are
    overwritten when their own registration completes).  With `op = []` it is `st'.Le stF`. -/
theorem C07_node_stable (op : List Nat) (st' stF : PState) (hle : st'.LeExcept op stF) (i : Nat)
    (n : PNode) (hop : i ∉ op) (hn : st'.nodes[i]? = some n) : stF.nodes[i]? = some n := by
  have hi : i < st'.nodes.size := by
    cases Nat.lt_or_ge i st'.nodes.size with
    | inl h => exact h
    | inr h => rw [Array.getElem?_eq_none h] at hn; cases hn
  rw [hle.nodes i hi hop, hn]

/-- The form for a state related by `Le` (a complete later call, `C07_register_extends`). -/
theorem C07_node_stable_le (st' stF : PState) (hle : st'.Le stF) (i : Nat) (n : PNode)
    (hn : st'.nodes[i]? = some n) : stF.nodes[i]? = some n :=
  C07_node_stable [] st' stF hle.toLeExcept i n (by simp) hn

/-- A node in slot `i` of a state `st'` reached while the body of an enclosing object was
    registered (`st'.Le st2`, `st2` the state at the end of that body) survives the completion of
    the enclosing object, `i` not being that object's own slot `stO.nodes.size`. -/
theorem C07_node_survives_enclosing {fuel t object ofields oitems ovalues enc} {stO : PState} {kE stE}
    (hE : registerObject (fuel + 1) t object ofields oitems ovalues enc stO = .ok (kE, stE))
    (st' : PState) (i : Nat) (n : PNode) (hi : i ≠ stO.nodes.size)
    (hn : st'.nodes[i]? = some n)
    (hbody : ∀ nk st1 ty st2, nameStep object enc stO = .ok (nk, st1) →
      bodyStep fuel t object ofields oitems ovalues enc nk st1 = .ok (ty, st2) → st'.Le st2) :
    stE.nodes[i]? = some n := by
  obtain ⟨nk, st1, ty, st2, hn1, hb, hin⟩ := registerObject_inner hE
  exact C07_node_stable _ st' stE (hin [] st' (hbody nk st1 ty st2 hn1 hb).toLeExcept) i n
    (by simpa using hi) hn


/-! ### records that unconditionally contain themselves -/

/-- Soundness of the cycle check: if it passes, there is no cycle through record → record field
    edges (`recEdge S i j`: `i`, `j` records and `j` the type of a field of `i`).  Out-of-fuel is
    an error, never a false "ok", so no fuel hypothesis is needed. -/
theorem C07_cycle_check_sound (S : SchemaMut) (h : checkForCycles S = .ok ()) :
    ¬ ∃ i, Relation.TransGen (recEdge S) i i := by
  rintro ⟨i, p⟩
  obtain ⟨L, sL, allL⟩ := checkForCycles_ok_topo S h
  obtain ⟨b, e, -⟩ := transGen_head p
  exact sL.acyclic (allL i e.1) p

/-- The only errors of the cycle check are `cycle` and (model fuel) `panic`. -/
theorem C07_cycle_check_errors (S : SchemaMut) (e : SchemaErr) (h : checkForCycles S = .error e) :
    e = .cycle ∨ e = .panic :=
  checkForCycles_error S h

/-- The fuel of the cycle check always suffices (`(S.size + 2) * (maxWidth S + 2)`): it never
    reports the model's out-of-fuel `panic`. -/
theorem C07_cycle_check_no_panic (S : SchemaMut) : checkForCycles S ≠ .error .panic :=
  checkForCycles_no_panic S

/-- The `cycle` error is never spurious, and every record cycle is reported as `cycle`. -/
theorem C07_cycle_check_iff (S : SchemaMut) :
    (checkForCycles S = .error .cycle ↔ ∃ i, Relation.TransGen (recEdge S) i i) ∧
    (checkForCycles S = .ok () ↔ ¬ ∃ i, Relation.TransGen (recEdge S) i i) := by
  refine ⟨checkForCycles_eq_cycle_iff S, C07_cycle_check_sound S, ?_⟩
  intro hno
  cases h : checkForCycles S with
  | ok u => rfl
  | error e =>
    rcases C07_cycle_check_errors S e h with rfl | rfl
    · exact absurd ((checkForCycles_eq_cycle_iff S).mp h) hno
    · exact absurd h (C07_cycle_check_no_panic S)

/-- Any record cycle is rejected with the `cycle` error. -/
theorem C07_rejects_cycle (S : SchemaMut) (i : Nat) (p : Relation.TransGen (recEdge S) i i) :
    checkForCycles S = .error .cycle :=
  (checkForCycles_eq_cycle_iff S).mpr ⟨i, p⟩

/-- A record with a field whose type is the record itself is rejected, wherever it sits in the
    schema. -/
theorem C07_rejects_self_record (S : SchemaMut) (i : Nat) (nm : Name)
    (fs : List (String × Nat)) (lg : Option LogicalType)
    (hi : S[i]? = some { type := .record nm fs, logical := lg })
    (f : String) (hf : (f, i) ∈ fs) :
    checkForCycles S = .error .cycle := by
  have hrec : isRecord S i = true := by simp [isRecord, hi]
  have hkeys : i ∈ recordFieldKeys S i := by
    simp only [recordFieldKeys, hi, List.mem_map]
    exact ⟨(f, i), hf, rfl⟩
  exact C07_rejects_cycle S i (.single ⟨hrec, hrec, hkeys⟩)

/-- Two records that contain each other are rejected. -/
theorem C07_rejects_two_cycle (S : SchemaMut) (a b : Nat) (nmA nmB : Name)
    (fsA fsB : List (String × Nat)) (lgA lgB : Option LogicalType)
    (ha : S[a]? = some { type := .record nmA fsA, logical := lgA })
    (hb : S[b]? = some { type := .record nmB fsB, logical := lgB })
    (f g : String) (hf : (f, b) ∈ fsA) (hg : (g, a) ∈ fsB) :
    checkForCycles S = .error .cycle := by
  have hra : isRecord S a = true := by simp [isRecord, ha]
  have hrb : isRecord S b = true := by simp [isRecord, hb]
  have hab : b ∈ recordFieldKeys S a := by
    simp only [recordFieldKeys, ha, List.mem_map]; exact ⟨(f, b), hf, rfl⟩
  have hba : a ∈ recordFieldKeys S b := by
    simp only [recordFieldKeys, hb, List.mem_map]; exact ⟨(g, a), hg, rfl⟩
  exact C07_rejects_cycle S a (.tail (.single ⟨hra, hrb, hab⟩) ⟨hrb, hra, hba⟩)

/-- A self-reference that goes through a union, array or map (a *conditional* containment, e.g.
    the linked list `{"next": ["null", "Node"]}`) is not a `recEdge`, hence not rejected: only
    record → record field edges count. -/
theorem C07_accepts_conditional_self :
    checkForCycles #[{ type := .record ⟨"Node", "Node", none⟩ [("next", 1)], logical := none },
                     { type := .union [2, 0], logical := none },
                     { type := .null, logical := none }] = .ok () := by
  rfl

/-! ### whole parse -/

/-- What a successful parse guarantees: the document is within the recursion limit of
    `serde_json`, the stages all succeeded, every pending reference was defined, the result is
    the late-resolved node vector and it has no record cycle. -/
theorem C07_parse_ok (j : Json) (n : Nat) (S : SchemaMut) (h : parseJson j n = .ok S) :
    ∃ raw k st,
      jsonNesting j ≤ 127 ∧
      rawOfJson (rawGas j) j = .ok raw ∧
      registerNode (n + 2) raw none {} = .ok (k, st) ∧
      (∀ key ∈ st.unresolved, (st.names.lookup key).isSome) ∧
      S = (st.nodes.map fun nd =>
        { logical := nd.logical, type := resolveType (resolveKey st) nd.type }) ∧
      ¬ ∃ i, Relation.TransGen (recEdge S) i i := by
  unfold parseJson at h
  split at h
  · cases h
  · rename_i hnest
    split at h
    · cases h
    · rename_i raw hraw
      split at h
      · cases h
      · rename_i k st hreg
        split at h
        · cases h
        · rename_i S' hres
          split at h
          · cases h
          · rename_i u hcyc
            simp only [Except.ok.injEq] at h
            subst h
            refine ⟨raw, k, st, by omega, hraw, hreg, ?_, resolveKeys_ok hres,
              C07_cycle_check_sound _ hcyc⟩
            exact (C07_resolveKeys_ok_iff st).mp ⟨_, hres⟩

/-- Conversely: if the document is within the recursion limit, the stages before the cycle check
    succeed, every pending reference is defined and the resolved graph has no record cycle,
    parsing succeeds with the late-resolved node vector (the cycle check neither runs out of fuel
    nor reports a spurious cycle). -/
theorem C07_parse_succeeds (j : Json) (n : Nat) (raw : RawSchema) (k : PKey) (st : PState)
    (hnest : jsonNesting j ≤ 127)
    (hraw : rawOfJson (rawGas j) j = .ok raw)
    (hreg : registerNode (n + 2) raw none {} = .ok (k, st))
    (hres : ∀ key ∈ st.unresolved, (st.names.lookup key).isSome)
    (hacyc : ¬ ∃ i, Relation.TransGen
      (recEdge (st.nodes.map fun nd =>
        { logical := nd.logical, type := resolveType (resolveKey st) nd.type })) i i) :
    parseJson j n = .ok (st.nodes.map fun nd =>
      { logical := nd.logical, type := resolveType (resolveKey st) nd.type }) := by
  obtain ⟨S, hS⟩ := (C07_resolveKeys_ok_iff st).mpr hres
  have hSeq := resolveKeys_ok hS
  rw [← hSeq] at hacyc ⊢
  have hc := (C07_cycle_check_iff S).2.mpr hacyc
  have hn : ¬ jsonNesting j > 127 := by omega
  simp only [parseJson, hn, if_false, hraw, hreg, hS, hc]

/-- A document whose arrays / objects are nested more than 127 deep is rejected (the recursion
    limit of `serde_json`), whatever it contains. -/
theorem C07_rejects_deep (j : Json) (n : Nat) (h : 127 < jsonNesting j) :
    parseJson j n = .error .json := by
  simp [parseJson, h]

end Avro.Theorems
