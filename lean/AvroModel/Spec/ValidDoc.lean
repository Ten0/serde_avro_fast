import AvroModel.Spec.Pcf
/-
"A schema document that is valid per the Avro specification", as a decidable predicate on the
JSON document, written from the specification (Avro 1.11, sections "Schema Declaration", "Names",
"Logical Types") plus — clearly separated — the few further demands the modelled parser makes of a
document.  Only the *type* `Avro.Impl.Json` of the implementation model is used.

`ValidDoc j` is the conjunction of

1. `shape`            `Spec.Pcf.canon none j` is defined: "j has the shape of a schema" (a JSON
                      string, a JSON array of schemas, or a JSON object whose `type` is a type name
                      and that has the attributes the specification requires of that type:
                      record → name, fields (each an object with name and type); enum → name,
                      symbols (array of strings); fixed → name, size; array → items; map → values).
2. `noForwardRefs`    "References to previously defined names": every reference follows, or is
                      inside, the definition of the fullname it denotes.
3. `namesDistinct`    "A schema or protocol may not contain multiple definitions of a fullname":
                      the list `definedNames` of the fullnames defined in the document has no
                      repetition.
4. `wellTyped`        what the *parser* (a derived `serde` reader of a struct with the members
                      type, logicalType, name, namespace, fields, symbols, items, values, size,
                      precision, scale) demands of EVERY schema object, whatever its type.

What is deliberately NOT in `ValidDoc`, although the specification demands it: the alphabet of
names and namespaces, of enum symbols; unions containing no union and at most one schema of each
unnamed type / name; no duplicate enum symbols, no duplicate field names; `default` values of the
field's type, `order`, `aliases`; `size`/`precision`/`scale` consistency of `decimal`.  The crate
checks none of them; leaving them out makes `ValidDoc` WEAKER, i.e. `C07_valid_parses` (every
`ValidDoc` document is accepted) STRONGER: it then speaks of more documents than the valid ones.

Where `ValidDoc` is STRONGER than the specification (documents the specification allows — or can
be read to allow — and the parser model rejects; each with a concrete document in
`Theorems/C07validExamples.lean`, section "findings"):

 (a) `definedNames` also lists the `name` of an object that is not a record, enum or fixed
     (`{"type":"int","name":"x"}`): the specification treats such a `name` as metadata, the parser
     enters it into the name table, so that two of them collide.
 (b) `wellTyped`: a member that the specification defines for another type is still read with its
     type there (`{"type":"int","items":5}`, `{"type":"string","size":"big"}` are rejected), and
     a member of the eleven may occur only once in an object; `size`, `precision` fit 64 bits,
     `scale` 32 bits.
 (c) `wellTyped`: `"logicalType":"decimal"` requires `precision` (the specification: "If a logical
     type is invalid [...] implementations should ignore the logical type and use the underlying
     Avro type").
 (d) `wellTyped`: a reference may not be spelled `array`, `map`, `record`, `enum` or `fixed`:
     only *primitive* type names are reserved by the specification, so a record may be named
     `record` and be referred to by that name; the parser takes the bare string for a complex type
     without its object and rejects it.

Separate hypotheses of the theorem (parameters of the parser, not of the document's validity):
`jsonNesting j ≤ 127` (the recursion limit of `serde_json`: arrays / objects nested at most 127 deep),
`schemaSize j ≤ n` (fuel of the registration), and `NoUnconditionalCycle j` (the specification
allows `record R { f : R }`; the crate rejects a record that unconditionally contains itself
since no finite value of it exists; `noUnconditionalCycleB` is a decidable test for it).
-/
namespace Avro.Spec
open Avro.Impl (Json)
open Avro.Spec.Pcf

/-! ### 3. definitions of fullnames -/

mutual

/-- The fullnames defined in the schema document `j` met in the enclosing namespace `enc`, in
    document order (a definition before the definitions inside it).  As `Spec.Pcf.scan` it
    follows `items` of an array, `values` of a map, the `type` of the fields of a record, the
    branches of a union.  See (a) above: the `name` of *any* schema object counts. -/
def definedNamesIn (enc : Option String) : Json → List Fullname
  | .arr branches => defsList enc branches
  | .obj ms =>
    match strAttr "type" ms with
    | none => []
    | some t =>
      match strAttr "name" ms with
      | some name =>
        fullnameOfDef name (strAttr "namespace" ms) enc ::
          (if t = "array" then defsAttr enc "items" ms
           else if t = "map" then defsAttr enc "values" ms
           else if t = "record" then
             defsFieldsAttr (fullnameOfDef name (strAttr "namespace" ms) enc).1 ms
           else [])
      | none =>
        if t = "array" then defsAttr enc "items" ms
        else if t = "map" then defsAttr enc "values" ms
        else []
  | _ => []

def defsList (enc : Option String) : List Json → List Fullname
  | [] => []
  | j :: rest => definedNamesIn enc j ++ defsList enc rest

def defsAttr (enc : Option String) (key : String) : List (String × Json) → List Fullname
  | [] => []
  | (k, v) :: rest => if k = key then definedNamesIn enc v else defsAttr enc key rest

def defsFieldsAttr (enc : Option String) : List (String × Json) → List Fullname
  | [] => []
  | (k, v) :: rest =>
    if k = "fields" then
      match v with
      | .arr fields => defsFields enc fields
      | _ => []
    else defsFieldsAttr enc rest

def defsFields (enc : Option String) : List Json → List Fullname
  | [] => []
  | .obj fm :: rest => defsAttr enc "type" fm ++ defsFields enc rest
  | _ :: rest => defsFields enc rest

end

/-- The fullnames defined in a schema document. -/
def definedNames (j : Json) : List Fullname := definedNamesIn none j

/-- Boolean test of `List.Nodup`. -/
def nodupB : List Fullname → Bool
  | [] => true
  | a :: l => !l.contains a && nodupB l

/-- "A schema [...] may not contain multiple definitions of a fullname." -/
def namesDistinct (j : Json) : Bool := nodupB (definedNames j)

/-! ### 4. what the parser demands of every schema object -/

/-- names of the complex types -/
def complexNames : List String := ["array", "map", "record", "enum", "fixed"]

/-- a type name: what the `type` attribute of a schema object may be -/
def isTypeName (s : String) : Bool := isPrimitive s || complexNames.contains s

/-- the member `key` occurs at most once -/
def keyOnce (key : String) (ms : List (String × Json)) : Bool :=
  decide ((ms.filter fun p => p.1 = key).length ≤ 1)

def isNull : Json → Bool
  | .null => true
  | _ => false

/-- absent, `null`, or a string -/
def optStrAttr (key : String) (ms : List (String × Json)) : Bool :=
  match attr key ms with
  | none => true
  | some .null => true
  | some (.str _) => true
  | some _ => false

/-- absent, `null`, or a non-negative integer that fits -/
def optNatAttr (key : String) (max : Nat) (ms : List (String × Json)) : Bool :=
  match attr key ms with
  | none => true
  | some .null => true
  | some (.nat n) => decide (n ≤ max)
  | some _ => false

/-- absent, `null`, or an array of strings -/
def optSymbolsAttr (ms : List (String × Json)) : Bool :=
  match attr "symbols" ms with
  | none => true
  | some .null => true
  | some (.arr items) => (strings items).isSome
  | some _ => false

/-- the members the parser reads -/
def knownKeys : List String :=
  ["type", "logicalType", "name", "namespace", "fields", "symbols", "items", "values", "size",
   "precision", "scale"]

/-- the scalar members of a schema object: each of the eleven at most once; `type` a type name;
    `logicalType`, `name`, `namespace` strings; `symbols` strings; `size`, `precision` (64 bits),
    `scale` (32 bits) non-negative integers; a `decimal` has a `precision`. -/
def scalarsOk (ms : List (String × Json)) : Bool :=
  knownKeys.all (fun k => keyOnce k ms) &&
  (match strAttr "type" ms with
    | some t => isTypeName t
    | none => false) &&
  optStrAttr "logicalType" ms && optStrAttr "name" ms && optStrAttr "namespace" ms &&
  optSymbolsAttr ms &&
  optNatAttr "size" (2 ^ 64 - 1) ms && optNatAttr "precision" (2 ^ 64 - 1) ms &&
  optNatAttr "scale" (2 ^ 32 - 1) ms &&
  (!(strAttr "logicalType" ms == some "decimal") || (natAttr "precision" ms).isSome)

mutual

/-- every JSON object in schema position (including the `items`, `values`, `fields` of an object
    whose type does not use them) is read by the parser as a schema object -/
def wellTyped : Json → Bool
  | .str s => !complexNames.contains s
  | .arr branches => wtList branches
  | .obj ms => scalarsOk ms && wtOpt "items" ms && wtOpt "values" ms && wtFieldsAttr ms
  | _ => false

def wtList : List Json → Bool
  | [] => true
  | j :: rest => wellTyped j && wtList rest

/-- the member `key` (first occurrence), if present and not `null`, is a schema -/
def wtOpt (key : String) : List (String × Json) → Bool
  | [] => true
  | (k, v) :: rest => if k = key then isNull v || wellTyped v else wtOpt key rest

/-- the member `fields`, if present and not `null`, is an array of field objects -/
def wtFieldsAttr : List (String × Json) → Bool
  | [] => true
  | (k, v) :: rest =>
    if k = "fields" then
      match v with
      | .null => true
      | .arr fields => wtFields fields
      | _ => false
    else wtFieldsAttr rest

/-- field objects: `name` (a string) and `type` (a schema), each exactly once -/
def wtFields : List Json → Bool
  | [] => true
  | .obj fm :: rest =>
    keyOnce "name" fm && keyOnce "type" fm && (strAttr "name" fm).isSome && wtReq "type" fm &&
      wtFields rest
  | _ :: _ => false

/-- the member `key` is present and a schema -/
def wtReq (key : String) : List (String × Json) → Bool
  | [] => false
  | (k, v) :: rest => if k = key then wellTyped v else wtReq key rest

end

/-! ### the predicate -/

/-- 1. the document has the shape of a schema -/
def shape (j : Json) : Bool := (canon none j).isSome

/-- A schema document the parser must accept. -/
def ValidDoc (j : Json) : Bool :=
  shape j && noForwardRefs j && namesDistinct j && wellTyped j

/-! ### parameters of the model: gas of the reader, size of the document -/

mutual

/-- The gas the reader model `rawOfJson` consumes on the document: one unit per JSON string or
    array, two per object, one per preceding branch of a union / field of a record.  Not a
    property of the crate: `parseJson` gives the reader `rawGas j`, which is always at least this
    (`parseDepth_le_rawGas`), so that the gas never decides (`rawOfJson_gas_irrelevant`); the
    depth limit of the crate is `Impl.jsonNesting j ≤ 127`. -/
def parseDepth : Json → Nat
  | .arr branches => 1 + depthList branches
  | .obj ms => 2 + max (max (depthAttr "items" ms) (depthAttr "values" ms)) (depthFieldsAttr ms)
  | _ => 1

def depthList : List Json → Nat
  | [] => 0
  | j :: rest => 1 + max (parseDepth j) (depthList rest)

def depthAttr (key : String) : List (String × Json) → Nat
  | [] => 0
  | (k, v) :: rest => if k = key then parseDepth v else depthAttr key rest

def depthFieldsAttr : List (String × Json) → Nat
  | [] => 0
  | (k, v) :: rest =>
    if k = "fields" then
      match v with
      | .arr fields => depthFields fields
      | _ => 0
    else depthFieldsAttr rest

def depthFields : List Json → Nat
  | [] => 0
  | .obj fm :: rest => 1 + max (depthAttr "type" fm) (depthFields rest)
  | _ :: rest => 1 + depthFields rest

end

mutual

/-- Size of the schema document: two per schema (JSON string or object), one per union, one per
    union branch and per record field.  The registration fuel `nodeCount + 2` of `parseJson`
    suffices as soon as `schemaSize j ≤ nodeCount`. -/
def schemaSize : Json → Nat
  | .arr branches => 1 + sizeList branches
  | .obj ms => 2 + sizeAttr "items" ms + sizeAttr "values" ms + sizeFieldsAttr ms
  | _ => 2

def sizeList : List Json → Nat
  | [] => 0
  | j :: rest => 1 + schemaSize j + sizeList rest

def sizeAttr (key : String) : List (String × Json) → Nat
  | [] => 0
  | (k, v) :: rest => if k = key then schemaSize v else sizeAttr key rest

def sizeFieldsAttr : List (String × Json) → Nat
  | [] => 0
  | (k, v) :: rest =>
    if k = "fields" then
      match v with
      | .arr fields => sizeFields fields
      | _ => 0
    else sizeFieldsAttr rest

def sizeFields : List Json → Nat
  | [] => 0
  | .obj fm :: rest => 1 + sizeAttr "type" fm + sizeFields rest
  | _ :: rest => 1 + sizeFields rest

end

/-! ### records that unconditionally contain themselves

A record *directly* contains the type of each of its fields when that type is a named type (given
by reference or defined in place) — not when it is a union, an array or a map (a value of which
can be finite without a value of the contained type).  The document has no unconditional cycle
when the named types can be ranked so that every record ranks strictly above the named types it
directly contains.  (Named types that are not records have no constraint of their own, so a
ranking exists exactly when the "directly contains" relation between records has no cycle.) -/

/-- `v`, the type of a field of the record `owner` (whose namespace is `ns`), ranks below it if
    it is a reference or a record definition. -/
def directBelow (rank : Fullname → Nat) (owner : Fullname) (ns : Option String) : Json → Bool
  | .str s => isPrimitive s || decide (rank (fullnameOfRef s ns) < rank owner)
  | .obj ms =>
    match strAttr "type" ms, strAttr "name" ms with
    | some t, some name =>
      !(t == "record") ||
        decide (rank (fullnameOfDef name (strAttr "namespace" ms) ns) < rank owner)
    | _, _ => true
  | _ => true

mutual

def ranked (rank : Fullname → Nat) (enc : Option String) : Json → Bool
  | .arr branches => rankedList rank enc branches
  | .obj ms =>
    match strAttr "type" ms with
    | none => true
    | some t =>
      if t = "array" then rankedAttr rank enc "items" ms
      else if t = "map" then rankedAttr rank enc "values" ms
      else if t = "record" then
        match strAttr "name" ms with
        | some name => rankedFieldsAttr rank (fullnameOfDef name (strAttr "namespace" ms) enc) ms
        | none => true
      else true
  | _ => true

def rankedList (rank : Fullname → Nat) (enc : Option String) : List Json → Bool
  | [] => true
  | j :: rest => ranked rank enc j && rankedList rank enc rest

def rankedAttr (rank : Fullname → Nat) (enc : Option String) (key : String) :
    List (String × Json) → Bool
  | [] => true
  | (k, v) :: rest => if k = key then ranked rank enc v else rankedAttr rank enc key rest

def rankedFieldsAttr (rank : Fullname → Nat) (owner : Fullname) : List (String × Json) → Bool
  | [] => true
  | (k, v) :: rest =>
    if k = "fields" then
      match v with
      | .arr fields => rankedFields rank owner fields
      | _ => true
    else rankedFieldsAttr rank owner rest

def rankedFields (rank : Fullname → Nat) (owner : Fullname) : List Json → Bool
  | [] => true
  | .obj fm :: rest => rankedFieldType rank owner fm && rankedFields rank owner rest
  | _ :: rest => rankedFields rank owner rest

/-- the `type` of a field of `owner` -/
def rankedFieldType (rank : Fullname → Nat) (owner : Fullname) : List (String × Json) → Bool
  | [] => true
  | (k, v) :: rest =>
    if k = "type" then directBelow rank owner owner.1 v && ranked rank owner.1 v
    else rankedFieldType rank owner rest

end

/-- No record of the document unconditionally contains itself. -/
def NoUnconditionalCycle (j : Json) : Prop := ∃ rank : Fullname → Nat, ranked rank none j = true

/-! A decidable test: collect the pairs (record, named type it directly contains), compute a
candidate ranking by relaxation (the length of the longest chain of pairs below a name, cut at
the number of pairs), and check it.  Sound by construction (`noUnconditionalCycleB_sound`: the
candidate is a witness); used to discharge `NoUnconditionalCycle` on concrete documents. -/

/-- the named type that `v`, the type of a field, directly is -/
def directTarget (ns : Option String) : Json → Option Fullname
  | .str s => if isPrimitive s then none else some (fullnameOfRef s ns)
  | .obj ms =>
    match strAttr "type" ms, strAttr "name" ms with
    | some t, some name =>
      if t = "record" then some (fullnameOfDef name (strAttr "namespace" ms) ns) else none
    | _, _ => none
  | _ => none

mutual

def containments (enc : Option String) : Json → List (Fullname × Fullname)
  | .arr branches => containmentsList enc branches
  | .obj ms =>
    match strAttr "type" ms with
    | none => []
    | some t =>
      if t = "array" then containmentsAttr enc "items" ms
      else if t = "map" then containmentsAttr enc "values" ms
      else if t = "record" then
        match strAttr "name" ms with
        | some name => containmentsFieldsAttr (fullnameOfDef name (strAttr "namespace" ms) enc) ms
        | none => []
      else []
  | _ => []

def containmentsList (enc : Option String) : List Json → List (Fullname × Fullname)
  | [] => []
  | j :: rest => containments enc j ++ containmentsList enc rest

def containmentsAttr (enc : Option String) (key : String) :
    List (String × Json) → List (Fullname × Fullname)
  | [] => []
  | (k, v) :: rest => if k = key then containments enc v else containmentsAttr enc key rest

def containmentsFieldsAttr (owner : Fullname) : List (String × Json) → List (Fullname × Fullname)
  | [] => []
  | (k, v) :: rest =>
    if k = "fields" then
      match v with
      | .arr fields => containmentsFields owner fields
      | _ => []
    else containmentsFieldsAttr owner rest

def containmentsFields (owner : Fullname) : List Json → List (Fullname × Fullname)
  | [] => []
  | .obj fm :: rest => containmentsFieldType owner fm ++ containmentsFields owner rest
  | _ :: rest => containmentsFields owner rest

def containmentsFieldType (owner : Fullname) : List (String × Json) → List (Fullname × Fullname)
  | [] => []
  | (k, v) :: rest =>
    if k = "type" then
      (match directTarget owner.1 v with
        | some y => [(owner, y)]
        | none => []) ++ containments owner.1 v
    else containmentsFieldType owner rest

end

/-- one more than the ranks of what `x` directly contains -/
def relaxRank (pairs : List (Fullname × Fullname)) (r : Fullname → Nat) (x : Fullname) : Nat :=
  pairs.foldl (fun m e => if e.1 = x then max m (r e.2 + 1) else m) 0

def iterRank (pairs : List (Fullname × Fullname)) : Nat → Fullname → Nat
  | 0 => fun _ => 0
  | n + 1 => relaxRank pairs (iterRank pairs n)

/-- candidate ranking of the named types of `j` -/
def autoRank (j : Json) : Fullname → Nat :=
  iterRank (containments none j) (containments none j).length

def noUnconditionalCycleB (j : Json) : Bool := ranked (autoRank j) none j

theorem noUnconditionalCycleB_sound {j : Json} (h : noUnconditionalCycleB j = true) :
    NoUnconditionalCycle j :=
  ⟨autoRank j, h⟩

end Avro.Spec
