import AvroModel.Lemmas.DeriveWiderUInv
/-
C20, wider, with enums that map to unions: the declarations the invariant `InvU` is established for
(`Lemmas/DeriveWiderUBuild.lean`) and read at (`Lemmas/DeriveWiderURealizes.lean`).
`declOkWU` is `DeriveW.declOkW` plus enums that map to unions, generic or not: every variant is a unit
variant or a newtype variant whose field has no logical-type attribute and a type of the fragment
over the enum's parameters (`tyOkW`; marks as for records); a payload *written* `[u8; N]` is allowed
in a non-generic enum only (`declOkWithU`).
-/
namespace Avro.Theorems.DeriveWU
open Avro Avro.Impl Avro.Impl.Derive Avro.Theorems.DeriveG Avro.Theorems.DeriveW
open Avro.Theorems.DeriveFits

/-- Variants: unit, or one field without logical-type attribute whose type is a type of the fragment
    over the enum's `n` parameters. -/
def variantOkWU (P : Prog) (M : Marks) (K n : Nat) (ctx : Nat → Bool) (v : Variant) : Bool :=
  match v.field with
  | none => true
  | some fd => plainFieldOkW P M K n ctx fd

/-- The variant's payload goes through `find_or_build` (it is not written `[u8; N]`). -/
def directV (v : Variant) : Bool :=
  match v.field with
  | none => true
  | some fd => isDirect fd (.newtypeVariant v.ident)

/-- A declaration, its marked parameters being `ctx`: those of `declOkWith`, and enums that map to
    unions.  In a *generic* enum no payload may be written `[u8; N]` (the variant-owned fixed would
    be defined once per instantiation: defect D24 of the crate). -/
def declOkWithU (P : Prog) (M : Marks) (K : Nat) (ctx : Nat → Bool) (d : Decl) : Bool :=
  match d.body with
  | .union vs => vs.all fun v => variantOkWU P M K (scopeW d) ctx v && (decide (d.nparams = 0) || directV v)
  | _ => declOkWith P M K ctx d

def declOkWU (P : Prog) (M : Marks) (K id : Nat) (d : Decl) : Bool :=
  declOkWithU P M K (ctxOf M id (scopeW d)) d

theorem declOkWU_of_W {P : Prog} {M : Marks} {K id : Nat} {d : Decl} (h : declOkW P M K id d = true) :
    declOkWU P M K id d = true := by
  unfold declOkWU declOkWithU
  cases hb : d.body with
  | union vs => simp [declOkW, declOkWith, hb] at h
  | _ => exact h

theorem scopeW_union {d : Decl} {vs : List Variant} (hb : d.body = .union vs) : scopeW d = d.nparams := by
  by_cases hn : d.nparams = 0 <;> simp [scopeW, isGenW, hb, hn]

theorem declOkWU_union {P : Prog} {M : Marks} {K id : Nat} {d : Decl} {vs : List Variant}
    (hb : d.body = .union vs) (h : declOkWU P M K id d = true) :
    ∀ v ∈ vs, variantOkWU P M K d.nparams (ctxOf M id d.nparams) v = true ∧
      (d.nparams = 0 ∨ directV v = true) := by
  unfold declOkWU declOkWithU at h
  simp only [hb, scopeW_union hb, List.all_eq_true, Bool.and_eq_true, Bool.or_eq_true, decide_eq_true_eq] at h
  exact h

/-- The key of an instantiation of a generic declaration lists the keys of its fields' types
    (`hcall`, from `lookupKeys_split`): the one listed for a field without a logical type. -/
theorem listed_key {P : Prog} {fs : List Field} {args : List Ty} {cks : List Key} {i : Nat} {fd : Field} {ck : Key}
    (hcall : ∀ (i : Nat) (t : Ty) (ck : Key), (fs.map fun f => subst args (chosenTy f))[i]? = some t →
      cks[i]? = some ck → KeyOf P t ck)
    (hi : fs[i]? = some fd) (hck : cks[i]? = some ck) (hl : fd.attr.logical.isNone = true) :
    KeyOf P (subst args fd.ty) ck := by
  have := hcall i (subst args (chosenTy fd)) ck (by simp [hi]) hck
  rw [chosenTy_plain hl] at this
  exact KeyOf.subst_peel args this

/-- A variant of a generic enum of the fragment (its payload, if any, goes through `find_or_build`):
    the arm of `KeyNodeU` for its branch, under the key listed for the payload, is `VarNode`.
    A type has one key, so the listed key is the one the branch was registered under. -/
theorem varNode_iff_listed {P : Prog} {M : Marks} {K n : Nat} {ctx : Nat → Bool} {reg : Key → Nat → Prop}
    {nodes : Array RawNode} {d : Decl} {args : List Ty} {vs : List Variant} {cks : List Key} {j : Nat}
    {v : Variant} {c : Nat}
    (hclen : cks.length = ((vs.filterMap (·.field)).map fun f => subst args (chosenTy f)).length)
    (hcall : ∀ (i : Nat) (t : Ty) (ck : Key),
      ((vs.filterMap (·.field)).map fun f => subst args (chosenTy f))[i]? = some t → cks[i]? = some ck →
        KeyOf P t ck)
    (hj : vs[j]? = some v) (hdv : directV v = true) (hvk : variantOkWU P M K n ctx v = true) :
    (match v.field with
      | none => reg [.unit] c
      | some _ => ∃ ck, cks[fieldIdx vs j]? = some ck ∧ reg ck c) ↔ VarNode P reg nodes d args v c := by
  unfold VarNode
  unfold directV at hdv
  unfold variantOkWU at hvk
  cases hfd : v.field with
  | none => exact Iff.rfl
  | some fd =>
    rw [hfd] at hdv hvk
    dsimp only at hdv hvk ⊢
    simp only [plainFieldOkW, Bool.and_eq_true] at hvk
    rw [if_pos hdv]
    have hidx := filterMap_fieldIdx vs j v fd hj hfd
    constructor
    · rintro ⟨ck, hck, hr⟩
      exact ⟨ck, listed_key hcall hidx hck hvk.1, hr⟩
    · rintro ⟨k, hk, hr⟩
      have hilt : fieldIdx vs j < cks.length := by
        rw [hclen]
        simpa using (List.getElem?_eq_some_iff.mp hidx).1
      have hck := List.getElem?_eq_getElem hilt
      exact ⟨_, hck, (listed_key hcall hidx hck hvk.1).unique hk ▸ hr⟩

end Avro.Theorems.DeriveWU
