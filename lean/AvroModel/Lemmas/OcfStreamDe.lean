import AvroModel.Theorems.C01de
import AvroModel.Lemmas.OcfStream
import AvroModel.Lemmas.ReaderTransfer
import AvroModel.Theorems.C03layouts
/-
Prefix-safety of the datum deserializer `de … .any` on a cut canonical encoding: what
`C17_datum_cut_slice` / `C17_datum_cut_reader` of `Theorems/C17stream.lean` are instances of, and
through them that `de` satisfies `Stream.DatumCutOk`.  `Lemmas/OcfStream.lean` has the container
reader.
-/
namespace Avro.Spec
open Avro Avro.Impl

/-- **A cut canonical encoding is rejected by the specification decoder**, whatever the fuel and
    whatever value one hopes for: if `decode` accepted `(enc ++ y).take j` with `j < enc.length`,
    locality would make it accept `enc` with a non-empty remainder or with bytes it never saw. -/
theorem decode_cut_none (S : Schema) (n : Node) (v : Value) (enc : Bytes)
    (h : encode S n v = some enc) (y : Bytes) (j : Nat) (hj : j < enc.length) (fuel : Nat) :
    decode S fuel n ((enc ++ y).take j) = none := by
  rw [List.take_append_of_le_length (Nat.le_of_lt hj)]
  cases hd : decode S fuel n (enc.take j) with
  | none => rfl
  | some res =>
    exfalso
    obtain ⟨v', r⟩ := res
    obtain ⟨c, hc, hloc⟩ := decode_local S fuel n _ v' r hd
    have h1 := hloc (r ++ enc.drop j) (fuel + size v) (by omega)
    rw [← List.append_assoc, ← hc, List.take_append_drop] at h1
    have h2 := decode_encode_nil S n v enc h (fuel + size v) (by omega)
    rw [h2] at h1
    simp only [Option.some.injEq, Prod.mk.injEq] at h1
    have h3 := congrArg List.length h1.2
    simp only [List.length_nil, List.length_append, List.length_drop] at h3
    omega

end Avro.Spec

namespace Avro.Theorems
open Avro Avro.Impl Avro.Impl.Ocf

/-- **Prefix-safety, slice back-end.** The input is the canonical encoding of `v` followed by
    anything, cut after `j` bytes. If the cut falls after the encoding, `de` returns `observe v`
    and leaves exactly the (cut) rest; if it falls inside the encoding, `de` returns an error —
    never a value. -/
theorem de_cut_slice (cfg : DeConfig) (S : Schema) (n : Node) (v : Spec.Value) (enc : Bytes)
    (o : Out) (depth fuel : Nat)
    (henc : Spec.encode S n v = some enc) (hobs : Spec.observe S n v = some o)
    (hfix : Spec.fixedDecOk S n v = true)
    (hdepth : Spec.depthOf v ≤ depth) (hseq : Spec.maxLen v ≤ cfg.maxSeqSize)
    (hfuel : Spec.size v * 4 + 8 ≤ fuel)
    (s : RState) (hs : s.isSlice = true) (hl : s.limit = none) (ha : s.avail = 0)
    (y : Bytes) (j : Nat) (hr : s.rest = (enc ++ y).take j) :
    (enc.length ≤ j →
      de deExtModel cfg S fuel n depth false .any s =
        (.ok o, { s with rest := y.take (j - enc.length) })) ∧
    (j < enc.length → ∃ e s', de deExtModel cfg S fuel n depth false .any s = (.error e, s')) := by
  constructor
  · intro hj
    refine C01_de_accepts cfg S n v enc _ o depth henc hobs hfix hdepth hseq fuel hfuel s hs hl ha ?_
    rw [hr, List.take_append, List.take_of_length_le hj]
  · intro hj
    cases hx : de deExtModel cfg S fuel n depth false .any s with
    | mk res s' =>
      cases res with
      | error e => exact ⟨e, s', rfl⟩
      | ok o' =>
        exfalso
        obtain ⟨v', fS, hv', _⟩ := C03_de_rejects_invalid cfg S n depth fuel s s' o' hs hl ha hx
        rw [hr, Spec.decode_cut_none S n v enc henc y j hj fS] at hv'
        cases hv'

theorem BOk.readerOK {M : Nat} {s : RState} (h : BOk M s) : ReaderOK s :=
  ⟨h.reader, h.limit, h.avail, by rw [h.alloc]; exact h.len⟩

theorem ReaderOK.bOk {s : RState} (h : ReaderOK s) : BOk s.maxAlloc s :=
  ⟨h.reader, h.nolimit, h.avail, rfl, h.alloc⟩

/-- **Prefix-safety, reader back-end, any chunk schedule** (through C11): the same outcome up to
    the `borrowed` flags — the value, and exactly the cut rest left; or an error. -/
theorem de_cut_reader (cfg : DeConfig) (S : Schema) (n : Node) (v : Spec.Value) (enc : Bytes)
    (o : Out) (depth fuel : Nat)
    (henc : Spec.encode S n v = some enc) (hobs : Spec.observe S n v = some o)
    (hfix : Spec.fixedDecOk S n v = true)
    (hdepth : Spec.depthOf v ≤ depth) (hseq : Spec.maxLen v ≤ cfg.maxSeqSize)
    (hfuel : Spec.size v * 4 + 8 ≤ fuel)
    (M : Nat) (s : RState) (hb : BOk M s)
    (y : Bytes) (j : Nat) (hr : s.rest = (enc ++ y).take j) :
    (enc.length ≤ j →
      ∃ a s', de deExtModel cfg S fuel n depth false .any s = (.ok a, s') ∧
        unborrow a = unborrow o ∧ s'.rest = y.take (j - enc.length) ∧ BOk M s') ∧
    (j < enc.length → ∃ e s', de deExtModel cfg S fuel n depth false .any s = (.error e, s')) := by
  have hok := hb.readerOK
  obtain ⟨h1, h2⟩ := de_cut_slice cfg S n v enc o depth fuel henc hobs hfix hdepth hseq hfuel
    (sliceOf s) rfl hb.limit rfl y j hr
  constructor
  · intro hj
    obtain ⟨a, s', e, hab, hrest, hok'⟩ :=
      de_reader_of_slice deExtModel cfg S fuel n depth false .any hok (h1 hj)
    have hma := (C04_scratch_bounded deExtModel cfg S fuel n depth false .any s).1
    rw [e] at hma
    exact ⟨a, s', e, hab, hrest, by rw [← hb.alloc, ← hma]; exact hok'.bOk⟩
  · intro hj
    obtain ⟨e, sl', he⟩ := h2 hj
    rcases hd : de deExtModel cfg S fuel n depth false .any s with ⟨(e' | a), s'⟩
    · exact ⟨e', s', rfl⟩
    · exact absurd (congrArg Prod.fst hd) (de_reader_not_ok deExtModel cfg S fuel n depth false .any
        hok (fun o' => by rw [he]; nofun) a)

end Avro.Theorems
