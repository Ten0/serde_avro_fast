import AvroModel.Impl.De
/-
The monad `DeM` of the deserializer model: how `bind`, `pure` and `fail` run on a state, the
inversion of a `bind` that returns, what `fill_buf` does to the state, and `skip_bytes` on a reader
as `read_exact` with the bytes thrown away.
-/
namespace Avro.Impl
open Avro

theorem DeM.bind_apply {α β : Type} (m : DeM α) (f : α → DeM β) (s : RState) :
    (m >>= f) s = match m s with
      | (.ok a, s') => f a s'
      | (.error e, s') => (.error e, s') := rfl

theorem DeM.pure_apply {α : Type} (a : α) (s : RState) : (pure a : DeM α) s = (.ok a, s) := rfl
theorem DeM.fail_apply {α : Type} (e : DeErr) (s : RState) : (DeM.fail e : DeM α) s = (.error e, s) := rfl

theorem DeM.bind_ok {α β : Type} {m : DeM α} {f : α → DeM β} {s t : RState} {a : α}
    (h : m s = (.ok a, t)) : (m >>= f) s = f a t := by
  rw [DeM.bind_apply, h]

theorem DeM.bind_error {α β : Type} {m : DeM α} {f : α → DeM β} {s t : RState} {e : DeErr}
    (h : m s = (.error e, t)) : (m >>= f) s = (.error e, t) := by
  rw [DeM.bind_apply, h]

theorem DeM.bind_pure {α : Type} (m : DeM α) : m >>= pure = m := by
  funext s
  rw [DeM.bind_apply]
  rcases m s with ⟨(e | a), s'⟩ <;> rfl

theorem DeM.bind_eq_ok {α β : Type} {m : DeM α} {f : α → DeM β} {s t : RState} {b : β} :
    (m >>= f) s = (.ok b, t) ↔ ∃ a s', m s = (.ok a, s') ∧ f a s' = (.ok b, t) := by
  rcases hm : m s with ⟨(e | a), s'⟩
  · rw [DeM.bind_error hm]
    constructor
    · intro h; cases h
    · rintro ⟨_, _, h, -⟩; cases h
  · rw [DeM.bind_ok hm]
    constructor
    · intro h; exact ⟨a, s', rfl, h⟩
    · rintro ⟨_, _, h, h'⟩; cases h; exact h'

theorem DeM.pure_eq_ok {α : Type} {a b : α} {s t : RState} :
    (pure a : DeM α) s = (.ok b, t) ↔ a = b ∧ s = t := by
  rw [DeM.pure_apply, Prod.mk.injEq, Except.ok.injEq]

theorem DeM.fail_eq_ok {α : Type} {e : DeErr} {b : α} {s t : RState} :
    (DeM.fail e : DeM α) s = (.ok b, t) ↔ False := by
  rw [DeM.fail_apply]
  constructor
  · intro h; cases h
  · exact False.elim

/-- `a` is a possible result of `m`: the side condition under which `DeLogic.bind` / `Keeps.bind` ask
    for the continuation -/
def DeM.Returns {α : Type} (m : DeM α) (a : α) : Prop := ∃ s s', m s = (.ok a, s')

theorem fillBuf_eq (s : RState) : ∃ n a sc, sc <:+ s.sched ∧
    fillBuf s = (.ok (s.rest.take n), { s with avail := a, sched := sc }) := by
  unfold fillBuf
  split
  · exact ⟨s.rest.length, s.avail, s.sched, List.suffix_refl _, by rw [List.take_length]⟩
  · split
    · exact ⟨_, s.avail, s.sched, List.suffix_refl _, rfl⟩
    · cases hsc : s.sched with
      | nil => exact ⟨_, _, [], List.suffix_refl _, rfl⟩
      | cons c r => exact ⟨_, _, r, List.suffix_cons c r, rfl⟩

theorem fillBuf_ok (s : RState) : ∃ b, (fillBuf s).1 = .ok b := by
  obtain ⟨n, a, sc, -, e⟩ := fillBuf_eq s
  rw [e]
  exact ⟨_, rfl⟩

theorem skipBytes_go_eq (fuel : Nat) : ∀ (left : Nat) (acc : Bytes) (st : RState),
    skipBytes.go fuel left st = (readExactR fuel left acc st).2 := by
  induction fuel with
  | zero => intro left acc st; cases left <;> rfl
  | succ fuel ih =>
    intro left acc st
    cases left with
    | zero => rfl
    | succ left =>
      rw [skipBytes.go, readExactR]
      rcases h : readSome (left + 1) st with ⟨(e | got), st'⟩
      · rw [DeM.bind_error h]
      · rw [DeM.bind_ok h]
        dsimp only
        split
        · rfl
        · exact ih _ _ st'

end Avro.Impl
