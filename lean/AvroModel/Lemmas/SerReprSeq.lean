import AvroModel.Lemmas.SerRepr
/-
The sequence arms of the walk (`ser_repr`, Lemmas/SerReprWalk.lean), and maps.

On `array` and `map` the block writer decides the bytes: `serElems_array_run`, `serFields_map_run`,
`serEntries_map_run` state them as `blockBytes` of the items' own representations, and
`Representation.array`/`.map` make that a representation of the whole.
-/
namespace Avro
open Avro.Spec Avro.Impl

/-! ### The bodies `seqCore`, `structCore`, and the dispatch at a node that is not a union -/

/-- `serialize_seq` & co. on a non-union node, the elements, `end` and `Drop` -/
def seqCore (ext : Ext) (a : Bool) (S : Schema) (n : Node) (len : Option Nat) (elems : List SV) :
    SerM Unit := do
  let k ← seqStartAt a S n len
  fun s => seqFinish (serElems ext a S k elems s)

/-- the body shared by `seq`, `tuple`, `tuple_struct` (and `tuple_variant` after the by-name
    lookup) -/
def seqBody (ext : Ext) (a : Bool) (S : Schema) (node : Node) (len : Option Nat) (elems : List SV) :
    SerM Unit := do
  let k ← seqStart a S node len
  fun s => seqFinish (serElems ext a S k elems s)

theorem seqBody_eq {ext : Ext} {a : Bool} {S : Schema} (node : Node) (len : Option Nat)
    (elems : List SV) :
    seqBody ext a S node len elems =
      viaUnion S node .seqOrTuple (fun n => seqCore ext a S n len elems) := by
  unfold seqBody seqStart seqCore
  exact viaUnion_bind S node .seqOrTuple _ _

/-- the per-node part of `Spec.seqDispatch` -/
def seqAtNode (S : Schema) (arr : Node → List Value → Bool) (asBytes : Option Bytes)
    (asU32 : List (Option Nat)) (n : Node) (v : Value) : Bool :=
  match n, v with
  | .array k, .array items =>
    (match S[k]? with
      | none => false
      | some item => arr item items)
  | .bytes, .bytes b => asBytes = some b
  | .fixed _ size, .fixed b => asBytes = some b && b.length = size
  | .duration, .duration mo d ms => asU32 = [some mo, some d, some ms]
  | _, _ => false

abbrev seqDen (ext : Ext) (S : Schema) (elems : List SV) (n : Node) (v : Value) : Prop :=
  seqAtNode S (fun item items => denotesList (denExtOf ext) S item elems items) (u8List elems)
    (elems.map u32Of) n v = true

theorem seqDispatch_nonunion {S : Schema} {node : Node} {name : Option String} {v : Value}
    {arr : Node → List Value → Bool} {ab : Option Bytes} {au : List (Option Nat)}
    (hu : node.isUnion = false) :
    seqDispatch S node name v arr ab au = seqAtNode S arr ab au node v := by
  cases node <;> first | rfl | simp [Node.isUnion] at hu

theorem seqDispatch_union {S : Schema} {vs : List Nat} {name : Option String} {d k : Nat} {n : Node}
    {y : Value} {arr : Node → List Value → Bool} {ab : Option Bytes} {au : List (Option Nat)}
    (hk : vs[d]? = some k) (hn : S[k]? = some n) (hu : n.isUnion = false)
    (hname : nameAgrees S (.union vs) name d = true)
    (h : seqAtNode S arr ab au n y = true) :
    seqDispatch S (.union vs) name (.union d y) arr ab au = true := by
  simp only [seqDispatch, unionBranch, hk, hn, hname, Bool.true_and]
  cases n <;> first | exact h | simp [Node.isUnion] at hu

/-- the per-node part of `Spec.structDispatch` -/
def structAtNode (S : Schema) (presented : List String)
    (recF : List (String × Nat) → List Value → Bool)
    (mapF : Node → List (String × Value) → Bool)
    (durF : Nat → Nat → Nat → Bool) (n : Node) (v : Value) : Bool :=
  match n, v with
  | .record _ schemaFields, .record vals =>
    recordComplete S schemaFields presented vals && recF schemaFields vals
  | .map k, .map entries =>
    (match S[k]? with
      | none => false
      | some item => mapF item entries)
  | .duration, .duration mo d ms => durationComplete presented && durF mo d ms
  | _, _ => false

theorem structDispatch_nonunion {S : Schema} {node : Node} {name : Option String} {v : Value}
    {presented : List String} {recF : List (String × Nat) → List Value → Bool}
    {mapF : Node → List (String × Value) → Bool} {durF : Nat → Nat → Nat → Bool}
    (hu : node.isUnion = false) :
    structDispatch S node name v presented recF mapF durF =
      structAtNode S presented recF mapF durF node v := by
  cases node <;> first | rfl | simp [Node.isUnion] at hu

theorem structDispatch_union {S : Schema} {vs : List Nat} {name : Option String} {d k : Nat}
    {n : Node} {y : Value}
    {presented : List String} {recF : List (String × Nat) → List Value → Bool}
    {mapF : Node → List (String × Value) → Bool} {durF : Nat → Nat → Nat → Bool}
    (hk : vs[d]? = some k) (hn : S[k]? = some n) (hu : n.isUnion = false)
    (hname : nameAgrees S (.union vs) name d = true)
    (h : structAtNode S presented recF mapF durF n y = true) :
    structDispatch S (.union vs) name (.union d y) presented recF mapF durF = true := by
  simp only [structDispatch, unionBranch, hk, hn, hname, Bool.true_and]
  cases n <;> first | exact h | simp [Node.isUnion] at hu

/-- body of a struct/map presentation after node selection, for an abstract field loop `run` -/
def structCore (S : Schema) (n : Node) (len : Nat) (durLen : Option Nat)
    (run : StructKind → SerState → Except (SerErr × StructKind) StructKind × SerState) : SerM Unit := do
  let k ← structStartAt S n len durLen
  fun s => structBodyFinish S (run k s)

theorem structDrop_nonrecord {k : StructKind} (h : ∀ f rs, k ≠ .record f rs) : structDrop k = pure () := by
  cases k <;> first | rfl | exact absurd rfl (h _ _)

/-! ### `bytes`, `fixed`, `duration`: the elements are written as they come -/

theorem extractU8_eq (e : SV) : extractU8 e = u8Like e := by
  cases e <;> rfl

theorem extractU32_eq (e : SV) : extractU32 e = u32Of e := by
  cases e <;> try rfl

theorem u32Of_lt {e : SV} {x : Nat} (h : u32Of e = some x) : x < 2 ^ 32 := by
  unfold u32Of at h
  split at h
  · split at h
    · cases h; omega
    · cases h
  · cases h

section
variable {ext : Ext} {a : Bool} {S : Schema}

theorem serElems_fixed_sound (elems : List SV) :
    ∀ n s k' s', s.budget = none → serElems ext a S (.fixed n) elems s = (.ok k', s') →
    ∃ b n', k' = .fixed n' ∧ u8List elems = some b ∧ s' = { s with out := s.out ++ b } ∧
      n = b.length + n' := by
  induction elems with
  | nil =>
    intro n s k' s' hs hrun
    simp only [serElems, Prod.mk.injEq, Except.ok.injEq] at hrun
    obtain ⟨rfl, rfl⟩ := hrun
    exact ⟨[], n, rfl, rfl, by simp, by simp⟩
  | cons e rest ih =>
    intro n s k' s' hs hrun
    simp only [serElems] at hrun
    cases n with
    | zero => simp at hrun
    | succ n =>
      simp only [] at hrun
      rw [extractU8_eq] at hrun
      cases hb : u8Like e with
      | none => simp [hb] at hrun
      | some b =>
        simp only [hb, writeAll_none _ s hs] at hrun
        obtain ⟨bs, n', hk', hu, hs', hn⟩ := ih n { s with out := s.out ++ [b] } k' s' hs hrun
        refine ⟨b :: bs, n', hk', by simp [u8List, hb, hu], ?_, by simp; omega⟩
        rw [hs']; simp

theorem serElems_buffered_sound (elems : List SV) :
    ∀ buf s k' s', serElems ext a S (.buffered buf) elems s = (.ok k', s') →
    ∃ b buf', k' = .buffered buf' ∧ u8List elems = some b ∧ s' = s ∧ buf'.data = buf.data ++ b := by
  induction elems with
  | nil =>
    intro buf s k' s' hrun
    simp only [serElems, Prod.mk.injEq, Except.ok.injEq] at hrun
    obtain ⟨rfl, rfl⟩ := hrun
    exact ⟨[], buf, rfl, rfl, rfl, by simp⟩
  | cons e rest ih =>
    intro buf s k' s' hrun
    simp only [serElems] at hrun
    rw [extractU8_eq] at hrun
    cases hb : u8Like e with
    | none => simp [hb] at hrun
    | some b =>
      simp only [hb] at hrun
      obtain ⟨bs, buf', hk', hu, hs', hd⟩ := ih _ s k' s' hrun
      exact ⟨b :: bs, buf', hk', by simp [u8List, hb, hu], hs', by rw [hd]; simp⟩

theorem serElems_duration_sound (elems : List SV) :
    ∀ n s k' s', s.budget = none → serElems ext a S (.duration n) elems s = (.ok k', s') →
    ∃ xs : List Nat, k' = .duration (n + xs.length) ∧
      elems.map u32Of = xs.map some ∧
      s' = { s with out := s.out ++ xs.flatMap (leBytes 4) } := by
  induction elems with
  | nil =>
    intro n s k' s' hs hrun
    simp only [serElems, Prod.mk.injEq, Except.ok.injEq] at hrun
    obtain ⟨rfl, rfl⟩ := hrun
    exact ⟨[], rfl, rfl, by simp⟩
  | cons e rest ih =>
    intro n s k' s' hs hrun
    simp only [serElems] at hrun
    by_cases hn : n ≥ 3
    · simp [hn] at hrun
    · rw [if_neg hn, extractU32_eq] at hrun
      cases hx : u32Of e with
      | none => simp [hx] at hrun
      | some x =>
        simp only [hx, writeAll_none _ s hs] at hrun
        obtain ⟨xs, hk', hm, hs'⟩ := ih (n + 1) { s with out := s.out ++ leBytes 4 x } k' s' hs hrun
        refine ⟨x :: xs, by rw [hk']; simp; omega, by simp [hx, hm], ?_⟩
        rw [hs']; simp

end

theorem u8List_length {elems : List SV} {b : Bytes} (h : u8List elems = some b) :
    b.length = elems.length := by
  induction elems generalizing b with
  | nil => simp [u8List] at h; subst h; rfl
  | cons e rest ih =>
    simp only [u8List] at h
    cases h1 : u8Like e with
    | none => simp [h1] at h
    | some x =>
      cases h2 : u8List rest with
      | none => simp [h1, h2] at h
      | some bs =>
        simp [h1, h2] at h; subst h
        simp [ih h2]

section
variable {nb : Canon.Allow} {ext : Ext} {a : Bool} {S : Schema} {OK : Node → Prop}
  {D : Node → Bytes → Value → Prop} (F : Representation nb S OK D)
include F

theorem seqCore_bytes_sound (len : Option Nat) (elems : List SV) (hlen : elems.length < 2 ^ 63)
    (s : SerState) (hs : Good s)
    (hok : (seqCore ext a S .bytes len elems s).1 = .ok ()) :
    Res D .bytes (seqCore ext a S .bytes len elems) s (seqDen ext S elems .bytes) := by
  unfold Res
  cases a with
  | false => simp [seqCore, seqStartAt] at hok
  | true =>
    cases len with
    | none =>
      obtain ⟨buf, s1, hpop, hbd, hout1, hg1⟩ := popBuffer_op.good hs
      simp only [seqCore, seqStartAt, bind, hpop, pure, Bool.not_true, Bool.false_eq_true,
        if_false] at hok ⊢
      obtain ⟨k', s2, hrun⟩ := seqFinish_ok hok
      rw [hrun] at hok ⊢
      obtain ⟨b, buf', hk', hu, hs2, hd⟩ := serElems_buffered_sound elems buf s1 k' s2 hrun
      subst hk' hs2
      rw [hbd, List.nil_append] at hd
      have hbl : b.length < 2 ^ 63 := by rw [u8List_length hu]; exact hlen
      obtain ⟨_, s3, hdrop, _, hout3, hg3⟩ :=
        (seqDrop_op (.buffered buf')).good (hg1.append (lenPrefixed b))
      have hend : seqEnd (.buffered buf') s2 = (.ok (), { s2 with out := s2.out ++ lenPrefixed b }) := by
        simp only [seqEnd, hd, writeLengthDelimited_none b hbl s2 hg1.1]
      refine ⟨s3, .bytes b, lenPrefixed b, finally_ok hend hdrop, by rw [hout3, hout1], hg3,
        F.of_encode (by simp [encode, hbl]), by simp [seqDen, seqAtNode, hu]⟩
    | some l =>
      simp only [seqCore, seqStartAt, bind, pure, Bool.not_true, Bool.false_eq_true,
        if_false, writeVarI64_none _ s hs.1] at hok ⊢
      generalize hs1 : ({ s with out := s.out ++ encodeVarI64 l } : SerState) = s1 at hok ⊢
      have hg1 : Good s1 := by subst hs1; exact hs.append _
      obtain ⟨k', s2, hrun⟩ := seqFinish_ok hok
      rw [hrun] at hok ⊢
      obtain ⟨b, n', hk', hu, hs2, hn⟩ := serElems_fixed_sound elems l s1 k' s2 hg1.1 hrun
      subst hk'
      simp only [seqFinish, seqEnd, seqDrop, finally_pure] at hok ⊢
      by_cases hn0 : n' ≠ 0
      · simp [hn0, SerM.fail] at hok
      · have : n' = 0 := by omega
        subst this
        have hbl : b.length < 2 ^ 63 := by rw [u8List_length hu]; exact hlen
        have hl : l = b.length := by omega
        simp only [ne_eq, not_true_eq_false, if_false, pure]
        refine ⟨s2, .bytes b, lenPrefixed b, rfl, ?_, ?_, F.of_encode (by simp [encode, hbl]),
          by simp [seqDen, seqAtNode, hu]⟩
        · rw [hs2, ← hs1, hl, encodeVarI64_eq_spec _ (inI64_of_lt hbl)]
          simp [lenPrefixed]
        · rw [hs2]; exact hg1.append _

theorem seqCore_fixed_sound (nm : Name) (size : Nat) (len : Option Nat) (elems : List SV)
    (s : SerState) (hs : Good s)
    (hok : (seqCore ext a S (.fixed nm size) len elems s).1 = .ok ()) :
    Res D (.fixed nm size) (seqCore ext a S (.fixed nm size) len elems) s (seqDen ext S elems (.fixed nm size)) := by
  have hstart : seqStartAt a S (.fixed nm size) len s = (.ok (.fixed size), s) := by
    cases a with
    | false => simp [seqCore, seqStartAt] at hok
    | true =>
      cases len with
      | none => rfl
      | some l =>
        by_cases hl : l ≠ size
        · simp [seqCore, seqStartAt, hl] at hok
        · simp [seqStartAt, hl, pure]
  unfold Res
  simp only [seqCore, bind, hstart] at hok ⊢
  obtain ⟨k', s2, hrun⟩ := seqFinish_ok hok
  rw [hrun] at hok ⊢
  obtain ⟨b, n', hk', hu, hs2, hn⟩ := serElems_fixed_sound elems size s k' s2 hs.1 hrun
  subst hk'
  simp only [seqFinish, seqEnd, seqDrop, finally_pure] at hok ⊢
  by_cases hn0 : n' ≠ 0
  · simp [hn0, SerM.fail] at hok
  · have : n' = 0 := by omega
    subst this
    have hl : b.length = size := by omega
    simp only [ne_eq, not_true_eq_false, if_false, pure]
    refine ⟨s2, .fixed b, b, rfl, by rw [hs2], by rw [hs2]; exact hs.append _, F.of_encode (by simp [encode, hl]),
      by simp [seqDen, seqAtNode, hu, hl]⟩

theorem seqCore_duration_sound (len : Option Nat) (elems : List SV)
    (s : SerState) (hs : Good s)
    (hok : (seqCore ext a S .duration len elems s).1 = .ok ()) :
    Res D .duration (seqCore ext a S .duration len elems) s (seqDen ext S elems .duration) := by
  have hstart : seqStartAt a S .duration len s = (.ok (.duration 0), s) := by
    cases len with
    | none => rfl
    | some l =>
      by_cases hl : l ≠ 3
      · simp [seqCore, seqStartAt, hl] at hok
      · simp [seqStartAt, hl, pure]
  unfold Res
  simp only [seqCore, bind, hstart] at hok ⊢
  obtain ⟨k', s2, hrun⟩ := seqFinish_ok hok
  rw [hrun] at hok ⊢
  obtain ⟨xs, hk', hm, hs2⟩ := serElems_duration_sound elems 0 s k' s2 hs.1 hrun
  subst hk'
  simp only [seqFinish, seqEnd, seqDrop, finally_pure] at hok ⊢
  by_cases hn0 : 0 + xs.length ≠ 3
  · have : ¬ xs.length = 3 := by omega
    simp [this, SerM.fail] at hok
  · rw [if_neg hn0]
    have hx3 : xs.length = 3 := by omega
    match xs, hx3 with
    | [x, y, z], _ =>
      have hlt : ∀ w ∈ [x, y, z], w < 2 ^ 32 := by
        intro w hw
        have : some w ∈ List.map u32Of elems := by rw [hm]; exact List.mem_map_of_mem hw
        obtain ⟨e, _, he⟩ := List.mem_map.1 this
        exact u32Of_lt he
      have hx := hlt x (by simp)
      have hy := hlt y (by simp)
      have hz := hlt z (by simp)
      refine ⟨s2, .duration x y z, leBytes 4 x ++ leBytes 4 y ++ leBytes 4 z, rfl, ?_, ?_,
        F.of_encode (by simp [encode, hx, hy, hz]), by simp [seqDen, seqAtNode, hm]⟩
      · rw [hs2]; simp
      · rw [hs2]; exact hs.append _

end

/-! ### The block writer; arrays and maps -/

theorem blockNew_none (L : Nat) (s : SerState) (h : s.budget = none) :
    blockNew L s = (.ok L, { s with out := s.out ++ (if L > 0 then encodeVarI64 L else []) }) := by
  by_cases h0 : L > 0
  · simp [blockNew, bind, pure, h0, writeVarI64_none _ s h]
  · simp [blockNew, pure, h0]

theorem blockSignal_zero (s : SerState) (h : s.budget = none) :
    blockSignal 0 s = (.ok 0, { s with out := s.out ++ encodeLong 1 }) := by
  simp only [blockSignal, bind, writeVarI64_spec 1 (by decide) s h, pure]

theorem blockSignal_succ (n : Nat) (s : SerState) : blockSignal (n + 1) s = (.ok n, s) := rfl

theorem blockSignal_good (c : Nat) (s : SerState) (h : s.budget = none) :
    ∃ c1 hdr, Signalled c c1 hdr ∧ blockSignal c s = (.ok c1, { s with out := s.out ++ hdr }) := by
  cases c with
  | zero => exact ⟨0, encodeLong 1, Or.inl ⟨rfl, rfl, rfl⟩, blockSignal_zero s h⟩
  | succ n => exact ⟨n, [], Or.inr ⟨rfl, rfl⟩, by simp [blockSignal_succ]⟩

theorem blocksOf_eq (L : Nat) (hL : L < 2 ^ 63) (es : List Bytes) :
    (if L > 0 then encodeVarI64 L else []) ++ (blockBytes L es ++ encodeLong 0) = blocksOf L es := by
  unfold blocksOf
  by_cases h0 : L > 0
  · simp [h0, encodeVarI64_eq_spec _ (inI64_of_lt hL), encodeLong_zero]
  · simp [h0, encodeLong_zero]

section
variable {nb : Canon.Allow} {ext : Ext} {a : Bool} {S : Schema} {OK : Node → Prop}
  {D : Node → Bytes → Value → Prop} (F : Representation nb S OK D)
include F

omit F in
theorem serElems_array_run (item : Node) (hitem : OK item) (elems : List SV)
    (hIH : ∀ e ∈ elems, Sound D OK ext a S e) :
    ∀ c s k' s', Good s → serElems ext a S (.array item c) elems s = (.ok k', s') →
    ∃ ves : List (Value × Bytes), k' = .array item (c - elems.length) ∧
      ves.length = elems.length ∧ s'.out = s.out ++ blockBytes c (ves.map (·.2)) ∧ Good s' ∧
      (∀ ve ∈ ves, D item ve.2 ve.1) ∧
      denotesList (denExtOf ext) S item elems (ves.map (·.1)) = true := by
  induction elems with
  | nil =>
    intro c s k' s' hs hrun
    simp only [serElems, Prod.mk.injEq, Except.ok.injEq] at hrun
    obtain ⟨rfl, rfl⟩ := hrun
    exact ⟨[], rfl, rfl, by simp [blockBytes], hs, by simp, by simp [denotesList]⟩
  | cons e rest ih =>
    intro c s k' s' hs hrun
    have ihr := ih (fun e he => hIH e (List.mem_cons_of_mem _ he))
    have he := hIH e (List.mem_cons_self ..)
    simp only [serElems] at hrun
    obtain ⟨c1, hdr, hc1, hsig⟩ := blockSignal_good c s hs.1
    rw [hsig] at hrun
    simp only [] at hrun
    cases hser : ser ext a S item e { s with out := s.out ++ hdr } with
    | mk r s2 =>
      rw [hser] at hrun
      cases r with
      | error err => simp at hrun
      | ok u =>
        simp only [] at hrun
        obtain ⟨v, be, hout2, hg2, hdec, hden⟩ := he.run hitem (hs.append hdr) hser
        obtain ⟨ves, hk', hl, hout, hg', hall, hdl⟩ := ihr c1 s2 k' s' hg2 hrun
        refine ⟨(v, be) :: ves, by rw [hk', List.length_cons, hc1.sub], by simp [hl], ?_, hg', ?_, ?_⟩
        · rw [hout, hout2, List.map_cons, hc1.blockBytes]; simp
        · intro ve hve
          rcases List.mem_cons.1 hve with rfl | hve
          · exact hdec
          · exact hall ve hve
        · simp [denotesList, hden, hdl]

theorem seqCore_array_sound (k : Nat) (hnok : OK (.array k))
    (len : Option Nat) (elems : List SV) (hlen : elems.length < 2 ^ 63)
    (hle : nb.openSeq = true ∨ Canon.lenCovers (len.getD 0) elems.length = true)
    (hIH : ∀ e ∈ elems, Sound D OK ext a S e) (s : SerState) (hs : Good s)
    (hok : (seqCore ext a S (.array k) len elems s).1 = .ok ()) :
    Res D (.array k) (seqCore ext a S (.array k) len elems) s (seqDen ext S elems (.array k)) := by
  have hkb : k < S.size := (F.ok hnok).children k (by simp [Node.children])
  obtain ⟨item, hk⟩ : ∃ item, S[k]? = some item := ⟨S[k], by simp [hkb]⟩
  generalize hL : len.getD 0 = L at *
  -- the header
  have hstart : seqStartAt a S (.array k) len s =
      (.ok (.array item L), { s with out := s.out ++ (if L > 0 then encodeVarI64 L else []) }) := by
    simp only [seqStartAt, bind, nodeAt, hk, pure, blockNew_none _ s hs.1, hL]
  unfold Res
  simp only [seqCore, bind, hstart] at hok ⊢
  obtain ⟨k', s2, hrun⟩ := seqFinish_ok hok
  rw [hrun] at hok ⊢
  obtain ⟨ves, hk', hl, hout, hg2, hall, hdl⟩ :=
    serElems_array_run item (F.schema k item hk) elems hIH L _ k' s2 (hs.append _) hrun
  subst hk'
  simp only [seqFinish, seqEnd, seqDrop, finally_pure, blockEnd] at hok ⊢
  -- `end` fails unless the advertised block is used up
  by_cases hc' : L - elems.length ≠ 0
  · simp [hc', SerM.fail] at hok
  · have hLn : L ≤ ves.length := by omega
    rw [if_neg hc', writeVarI64_spec 0 (by decide) s2 hg2.1]
    refine ⟨_, .array (ves.map (·.1)), blocksOf L (ves.map (·.2)), rfl, ?_, hg2.append _,
      F.array hnok hk hLn (by omega) (by rwa [hl]) hall, by simp [seqDen, seqAtNode, hk, hdl]⟩
    simp only [hout, List.append_assoc, blocksOf_eq L (by omega)]

theorem serFields_map_run (item : Node) (hitem : OK item) (fields : List (String × SV))
    (hIH : ∀ p ∈ fields, (utf8 p.1).length < 2 ^ 63 ∧ Sound D OK ext a S p.2) :
    ∀ c s k' s', Good s → serFields ext a S (.map item c) fields s = (.ok k', s') →
    ∃ ves : List ((String × Value) × Bytes), k' = .map item (c - fields.length) ∧
      ves.length = fields.length ∧ s'.out = s.out ++ blockBytes c (ves.map (·.2)) ∧ Good s' ∧
      (∀ ve ∈ ves, EntryRep D item ve) ∧
      denotesMapFields (denExtOf ext) S item fields (ves.map (·.1)) = true := by
  induction fields with
  | nil =>
    intro c s k' s' hs hrun
    simp only [serFields, Prod.mk.injEq, Except.ok.injEq] at hrun
    obtain ⟨rfl, rfl⟩ := hrun
    exact ⟨[], rfl, rfl, by simp [blockBytes], hs, by simp, by simp [denotesMapFields]⟩
  | cons p rest ih =>
    obtain ⟨name, sv⟩ := p
    intro c s k' s' hs hrun
    have ihr := ih (fun p hp => hIH p (List.mem_cons_of_mem _ hp))
    obtain ⟨hname, he⟩ := hIH (name, sv) (List.mem_cons_self ..)
    simp only [] at hname he
    simp only [serFields] at hrun
    -- the block signal and the key
    obtain ⟨c1, hdr, hc1, hsig⟩ := blockSignal_good c s hs.1
    have hkey : (do let c ← blockSignal c; writeLengthDelimited (strBytes name); pure c : SerM Nat) s =
        (.ok c1, { s with out := s.out ++ (hdr ++ lenPrefixed (utf8 name)) }) := by
      simp only [bind, hsig, strBytes_eq_utf8]
      rw [writeLengthDelimited_none (utf8 name) hname _
        (show ({ s with out := s.out ++ hdr } : SerState).budget = none from hs.1)]
      simp [pure]
    rw [hkey] at hrun
    simp only [] at hrun
    cases hser : ser ext a S item sv { s with out := s.out ++ (hdr ++ lenPrefixed (utf8 name)) } with
    | mk r s2 =>
      rw [hser] at hrun
      cases r with
      | error err => simp at hrun
      | ok u =>
        simp only [] at hrun
        obtain ⟨v, be, hout2, hg2, hdec, hden⟩ := he.run hitem (hs.append _) hser
        obtain ⟨ves, hk', hl, hout, hg', hall, hdl⟩ := ihr c1 s2 k' s' hg2 hrun
        refine ⟨((name, v), lenPrefixed (utf8 name) ++ be) :: ves,
          by rw [hk', List.length_cons, hc1.sub], by simp [hl], ?_, hg', ?_, ?_⟩
        · rw [hout, hout2, List.map_cons, hc1.blockBytes]; simp
        · intro ve hve
          rcases List.mem_cons.1 hve with rfl | hve
          · exact ⟨_, _, rfl, F.of_encode (by simp [encode, hname]), hdec⟩
          · exact hall ve hve
        · simp [denotesMapFields, hden, hdl]

theorem serEntries_map_run (item : Node) (hitem : OK item) (entries : List (SV × SV))
    (hIH : ∀ p ∈ entries, Sound D OK ext a S p.1 ∧ Sound D OK ext a S p.2) :
    ∀ c s k' s', Good s → serEntries ext a S (.map item c) entries s = (.ok k', s') →
    ∃ ves : List ((String × Value) × Bytes), k' = .map item (c - entries.length) ∧
      ves.length = entries.length ∧ s'.out = s.out ++ blockBytes c (ves.map (·.2)) ∧ Good s' ∧
      (∀ ve ∈ ves, EntryRep D item ve) ∧
      denotesMapEntries (denExtOf ext) S item entries (ves.map (·.1)) = true := by
  induction entries with
  | nil =>
    intro c s k' s' hs hrun
    simp only [serEntries, Prod.mk.injEq, Except.ok.injEq] at hrun
    obtain ⟨rfl, rfl⟩ := hrun
    exact ⟨[], rfl, rfl, by simp [blockBytes], hs, by simp, by simp [denotesMapEntries]⟩
  | cons p rest ih =>
    obtain ⟨key, sv⟩ := p
    intro c s k' s' hs hrun
    have ihr := ih (fun p hp => hIH p (List.mem_cons_of_mem _ hp))
    obtain ⟨hkey, he⟩ := hIH (key, sv) (List.mem_cons_self ..)
    simp only [] at hkey he
    simp only [serEntries] at hrun
    obtain ⟨c1, hdr, hc1, hsig⟩ := blockSignal_good c s hs.1
    rw [hsig] at hrun
    simp only [] at hrun
    -- the key goes through the datum serializer on a `string` node
    cases hserk : ser ext a S .string key { s with out := s.out ++ hdr } with
    | mk rk sk =>
      rw [hserk] at hrun
      cases rk with
      | error err => simp at hrun
      | ok u =>
        simp only [] at hrun
        obtain ⟨kv, bk, houtk, hgk, hdeck, hdenk⟩ := hkey.run F.str (hs.append hdr) hserk
        obtain ⟨kstr, rfl⟩ := F.string_inv hdeck
        cases hser : ser ext a S item sv sk with
        | mk r s2 =>
          rw [hser] at hrun
          cases r with
          | error err => simp at hrun
          | ok u =>
            simp only [] at hrun
            obtain ⟨v, be, hout2, hg2, hdec, hden⟩ := he.run hitem hgk hser
            obtain ⟨ves, hk', hl, hout, hg', hall, hdl⟩ := ihr c1 s2 k' s' hg2 hrun
            refine ⟨((kstr, v), bk ++ be) :: ves, by rw [hk', List.length_cons, hc1.sub],
              by simp [hl], ?_, hg', ?_, ?_⟩
            · rw [hout, hout2, houtk, List.map_cons, hc1.blockBytes]; simp
            · intro ve hve
              rcases List.mem_cons.1 hve with rfl | hve
              · exact ⟨_, _, rfl, hdeck, hdec⟩
              · exact hall ve hve
            · simp [denotesMapEntries, hdenk, hden, hdl]

omit ext a in
theorem structCore_map_sound (k : Nat) (hnok : OK (.map k)) (L : Nat) (durLen : Option Nat)
    (run : StructKind → SerState → Except (SerErr × StructKind) StructKind × SerState)
    (cnt : Nat) (hcnt : cnt < 2 ^ 63)
    (hle : nb.openMap = true ∨ Canon.lenCovers L cnt = true)
    (den : Node → List (String × Value) → Bool)
    (hrun : ∀ item, S[k]? = some item → ∀ c s k' s', Good s → run (.map item c) s = (.ok k', s') →
      ∃ ves : List ((String × Value) × Bytes), k' = .map item (c - cnt) ∧ ves.length = cnt ∧
        s'.out = s.out ++ blockBytes c (ves.map (·.2)) ∧ Good s' ∧
        (∀ ve ∈ ves, EntryRep D item ve) ∧ den item (ves.map (·.1)) = true)
    (s : SerState) (hs : Good s)
    (hok : (structCore S (.map k) L durLen run s).1 = .ok ()) :
    Res D (.map k) (structCore S (.map k) L durLen run) s (fun v =>
      ∃ item ents, S[k]? = some item ∧ v = .map ents ∧ den item ents = true) := by
  have hkb : k < S.size := (F.ok hnok).children k (by simp [Node.children])
  obtain ⟨item, hk⟩ : ∃ item, S[k]? = some item := ⟨S[k], by simp [hkb]⟩
  have hstart : structStartAt S (.map k) L durLen s =
      (.ok (.map item L), { s with out := s.out ++ (if L > 0 then encodeVarI64 L else []) }) := by
    simp only [structStartAt, bind, nodeAt, hk, pure, blockNew_none _ s hs.1]
  unfold Res
  simp only [structCore, bind, hstart] at hok ⊢
  obtain ⟨k', s2, hr⟩ := structBodyFinish_ok hok
  rw [hr] at hok ⊢
  obtain ⟨ves, hk', hl, hout, hg2, hall, hden⟩ := hrun item hk L _ k' s2 (hs.append _) hr
  subst hk'
  simp only [structBodyFinish, structFinish, structEnd, TrM.lift, bind, blockEnd] at hok ⊢
  by_cases hc' : L - cnt ≠ 0
  · simp [hc', SerM.fail] at hok
    exact absurd hok (finally_fail_not_ok _ _ _ _)
  · have hLn : L ≤ ves.length := by omega
    simp only [hc', if_false, writeVarI64_spec 0 (by decide) s2 hg2.1, pure, structDrop,
      SerM.finally]
    refine ⟨_, .map (ves.map (·.1)), blocksOf L (ves.map (·.2)), rfl, ?_, hg2.append _,
      F.map hnok hk hLn (by omega) (by rwa [hl]) hall, item, _, hk, rfl, hden⟩
    simp only [hout, List.append_assoc, blocksOf_eq L (by omega)]

end

section
variable {nb : Canon.Allow} {ext : Ext} {a : Bool} {S : Schema} {OK : Node → Prop}
  {D : Node → Bytes → Value → Prop} (F : Representation nb S OK D)
include F

theorem seqCore_sound (n : Node) (hnok : OK n)
    (len : Option Nat) (elems : List SV) (hlen : elems.length < 2 ^ 63)
    (hle : nb.openSeq = true ∨ Canon.lenCovers (len.getD 0) elems.length = true)
    (hIH : ∀ e ∈ elems, Sound D OK ext a S e) (s : SerState) (hs : Good s)
    (hok : (seqCore ext a S n len elems s).1 = .ok ()) :
    Res D n (seqCore ext a S n len elems) s (seqDen ext S elems n) := by
  cases n
  case array k => exact seqCore_array_sound F k hnok len elems hlen hle hIH s hs hok
  case bytes => exact seqCore_bytes_sound F len elems hlen s hs hok
  case fixed nm size => exact seqCore_fixed_sound F nm size len elems s hs hok
  case duration => exact seqCore_duration_sound F len elems s hs hok
  all_goals simp [seqCore, seqStartAt] at hok

theorem seqBody_sound (node : Node) (hnok : OK node)
    (len : Option Nat) (elems : List SV) (hlen : elems.length < 2 ^ 63)
    (hle : nb.openSeq = true ∨ Canon.lenCovers (len.getD 0) elems.length = true)
    (hIH : ∀ e ∈ elems, Sound D OK ext a S e) (s : SerState) (hs : Good s)
    (hok : (seqBody ext a S node len elems s).1 = .ok ()) :
    Res D node (seqBody ext a S node len elems) s (AtBranch S (seqDen ext S elems) node) := by
  rw [seqBody_eq] at hok ⊢
  exact viaUnion_sound F hnok _ _ _ s hs
    (fun n s hs _ hn hok => seqCore_sound F n hn len elems hlen hle hIH s hs hok) hok

end

end Avro
