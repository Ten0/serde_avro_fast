import AvroModel.Impl.Ocf
import AvroModel.Lemmas.Reader
import AvroModel.Lemmas.DeStep
/-
The container reader, for C17 (truncation, framing errors, termination): the read primitives without
any well-formedness or `Take`-limit hypothesis (never `.panic`, never a longer `rest`); `enterBlock` /
`leaveBlock` in closed form; one round of `nextInner` against the measure `mu` (`nextInner_step`); a
reader over a truncated slice simulated by the reader over the whole slice (`RdSim`).
-/
namespace Avro.Impl
open Avro

theorem readSome_ok (k : Nat) (s : RState) :
    ∃ got s', readSome k s = (.ok got, s') ∧ s'.rest.length ≤ s.rest.length ∧
      (got ≠ [] → s'.rest.length < s.rest.length) := by
  rw [readSome_eq]
  by_cases hk : s.lim k = 0
  · exact ⟨[], s, by simp [hk], Nat.le_refl _, fun h => absurd rfl h⟩
  · obtain ⟨a, s1, hf, h2, _, _⟩ := fillBuf_total s
    refine ⟨(s.rest.take a).take (min (s.lim k) (s.rest.take a).length),
      { s1 with rest := s1.rest.drop (min (s.lim k) (s.rest.take a).length),
                avail := s1.avail - min (s.lim k) (s.rest.take a).length,
                limit := s1.limit.map (· - min (s.lim k) (s.rest.take a).length) },
      by simp only [hk, if_false, hf], ?_, ?_⟩
    · simp only [List.length_drop, h2]; omega
    · intro hne
      simp only [List.length_drop, h2, List.length_take]
      have : 0 < ((s.rest.take a).take (min (s.lim k) (s.rest.take a).length)).length :=
        List.length_pos_iff.2 hne
      simp only [List.length_take] at this
      omega

theorem readExactR_ok (fuel : Nat) : ∀ (k : Nat) (acc : Bytes) (s : RState) (b : Bytes) (s' : RState),
    readExactR fuel k acc s = (.ok b, s') →
      s'.rest.length ≤ s.rest.length ∧ (0 < k → s'.rest.length < s.rest.length) := by
  induction fuel with
  | zero =>
    intro k acc s b s' h
    cases k with
    | zero =>
      simp only [readExactR, pure, Prod.mk.injEq] at h
      rw [← h.2]; exact ⟨Nat.le_refl _, fun h => by omega⟩
    | succ k => simp [readExactR, DeM.fail] at h
  | succ fuel ih =>
    intro k acc s b s' h
    cases k with
    | zero =>
      simp only [readExactR, pure, Prod.mk.injEq] at h
      rw [← h.2]; exact ⟨Nat.le_refl _, fun h => by omega⟩
    | succ k =>
      obtain ⟨got, s1, hrs, hle, hlt⟩ := readSome_ok (k + 1) s
      simp only [readExactR, bind, hrs] at h
      by_cases hg : got.isEmpty = true
      · simp [hg, DeM.fail] at h
      · simp only [hg] at h
        have hne : got ≠ [] := by
          intro hnil; rw [hnil] at hg; simp at hg
        have hlt' := hlt hne
        have := (ih (k + 1 - got.length) (acc ++ got) s1 b s' h).1
        omega

theorem readExact_ok {k : Nat} {s s' : RState} {b : Bytes} (h : readExact k s = (.ok b, s')) :
    s'.rest.length ≤ s.rest.length ∧ (0 < k → s'.rest.length < s.rest.length) :=
  readExactR_ok k k [] s b s' h

/-- the read primitives never report the model's out-of-fuel `.panic`: the step-relation calculus
    of `Lemmas/DeStep.lean` at `NoPanic.rel` -/
theorem readExact_no_panic (k : Nat) (s s' : RState) : readExact k s ≠ (.error .panic, s') :=
  fun h => NoPanic.of_keeps (Keeps.readExact NoPanic.rel k) s (by rw [h])

theorem varintBytewise_ok (t : VarTy) (fuel : Nat) : ∀ (buf : Bytes) (s : RState) (v : Int) (s' : RState),
    varintBytewise t fuel buf s = (.ok v, s') →
      s'.rest.length ≤ s.rest.length ∧ (0 < fuel → s'.rest.length < s.rest.length) := by
  induction fuel with
  | zero =>
    intro buf s v s' h
    simp only [varintBytewise] at h
    cases hd : decodeVar t buf with
    | none => simp [hd, DeM.fail] at h
    | some p =>
      obtain ⟨v', k'⟩ := p
      simp only [hd, pure, Prod.mk.injEq] at h
      rw [← h.2]; exact ⟨Nat.le_refl _, fun h => by omega⟩
  | succ fuel ih =>
    intro buf s v s' h
    obtain ⟨got, s1, hrs, hle, hlt⟩ := readSome_ok 1 s
    simp only [varintBytewise, bind, hrs] at h
    cases got with
    | nil => simp [DeM.fail] at h
    | cons b tl =>
      have hlt' := hlt (by simp)
      simp only at h
      split at h
      · cases hd : decodeVar t (buf ++ [b]) with
        | none => simp [hd, DeM.fail] at h
        | some p =>
          obtain ⟨v', k'⟩ := p
          simp only [hd, pure, Prod.mk.injEq] at h
          rw [← h.2]; exact ⟨by omega, fun _ => hlt'⟩
      · have := (ih _ _ _ _ h).1
        exact ⟨by omega, fun _ => by omega⟩

theorem readVarint_ok {t : VarTy} {s s' : RState} {v : Int} (h : readVarint t s = (.ok v, s')) :
    s'.rest.length < s.rest.length := by
  unfold readVarint at h
  split at h
  · split at h
    · simp at h
    · rename_i v' k hd
      obtain ⟨hk0, hk1⟩ := decodeVar_pos hd
      simp only [Prod.mk.injEq] at h
      rw [← h.2]
      simp only [List.length_drop]
      omega
  · obtain ⟨a, s1, hf, h2, _, _⟩ := fillBuf_total s
    simp only [hf] at h
    split at h
    · rename_i v' k hd
      obtain ⟨hk0, hk1⟩ := decodeVar_pos hd
      simp only [consume, Prod.map, id, Prod.mk.injEq] at h
      rw [← h.2]
      simp only [List.length_drop, h2]
      simp only [List.length_take] at hk1
      omega
    · have := (varintBytewise_ok t 10 [] s1 v s' h).2 (by omega)
      rw [h2] at this
      exact this

theorem readVarint_encode {s : RState} {i : Int} {y : Bytes} (hs : s.isSlice = true)
    (hi : Spec.InI64 i) (hr : s.rest = encodeVarI64 i ++ y) :
    readVarint .i64 s = (.ok i, { s with rest := y }) := by
  rw [readVarint_slice hs, hr]
  have : decodeVar .i64 (encodeVarI64 i ++ y) = some (i, (encodeVarI64 i).length) :=
    decodeVarI64_encode i hi y
  rw [this]
  simp only [List.drop_left']

theorem readVarint_no_panic (t : VarTy) (s s' : RState) : readVarint t s ≠ (.error .panic, s') :=
  fun h => NoPanic.of_keeps (Keeps.readVarint NoPanic.rel t) s (by rw [h])

end Avro.Impl

namespace Avro.Impl.Ocf
open Avro Avro.Impl

theorem ofDe_panic {e : DeErr} : ofDe e = .panic ↔ e = .panic := by
  cases e <;> simp [ofDe]

theorem ofDe_io {e : DeErr} : ofDe e = .io ↔ e = .io := by
  cases e <;> simp [ofDe]

/-- the "block not consumed entirely" test of `leaveBlock` -/
def leftover (d : Decomp) (r : Reader) : Bool :=
  if d.isNull then (if r.outer.isSlice then r.blk.rest ≠ [] else r.blkLimit > 0)
  else r.blk.rest ≠ []

theorem srcAfterBlockGo_fst_le (lastChunk afterLen : Nat) :
    ∀ (fuel rem : Nat) (sched : List Nat), (srcAfterBlockGo lastChunk afterLen fuel rem sched).1 ≤ afterLen := by
  intro fuel
  induction fuel with
  | zero => intro rem sched; simp [srcAfterBlockGo]
  | succ n ih =>
    intro rem sched
    unfold srcAfterBlockGo
    split
    · simp
    · cases sched with
      | nil =>
        simp only
        split
        · simp only; omega
        · exact ih _ _
      | cons c rest =>
        simp only
        split
        · simp only; omega
        · exact ih _ _

theorem srcAfterBlock_fst_le (o : RState) (size afterLen : Nat) :
    (srcAfterBlock o size afterLen).1 ≤ afterLen := by
  unfold srcAfterBlock
  split
  · exact Nat.min_le_right _ _
  · exact srcAfterBlockGo_fst_le _ _ _ _ _

/-- the source back-end `leaveBlock` reads the sync marker from -/
def leaveOuter (d : Decomp) (r : Reader) : RState :=
  if d.isNull ∧ ¬ r.outer.isSlice then
    { r.blk with rest := r.after,
                 avail := (srcAfterBlock r.outer (r.outer.rest.length - r.after.length) r.after.length).1,
                 sched := (srcAfterBlock r.outer (r.outer.rest.length - r.after.length) r.after.length).2,
                 limit := none }
  else { r.outer with rest := r.after, avail := 0 }

theorem leaveBlock_eq (d : Decomp) (r : Reader) :
    leaveBlock d r =
      if leftover d r then (.error .custom, { r with st := .broken }) else
      match readExact 16 (leaveOuter d r) with
      | (.error e, outer') => (.error (ofDe e), { r with st := .broken, outer := outer' })
      | (.ok marker, outer') =>
        if marker ≠ r.sync then (.error .custom, { r with st := .broken, outer := outer' })
        else (.ok (), { r with st := .notInBlock, outer := outer' }) := rfl

theorem leaveOuter_rest (d : Decomp) (r : Reader) : (leaveOuter d r).rest = r.after := by
  unfold leaveOuter; split <;> rfl

theorem leaveOuter_wf (d : Decomp) (r : Reader) : (leaveOuter d r).WF := by
  intro _
  unfold leaveOuter
  split
  · exact srcAfterBlock_fst_le _ _ _
  · simp

theorem leaveBlock_spec {d : Decomp} {r r' : Reader} {res : Except RdErr Unit}
    (h : leaveBlock d r = (res, r')) :
    r'.pretendEof = r.pretendEof ∧ r'.sync = r.sync ∧
    (∀ u, res = .ok u → r'.st = .notInBlock ∧ r'.outer.rest.length < r.after.length) ∧
    (∀ e, res = .error e → e ≠ .panic ∧ r'.st = .broken) := by
  rw [leaveBlock_eq] at h
  split at h
  · simp only [Prod.mk.injEq] at h
    obtain ⟨rfl, rfl⟩ := h
    simp
  · split at h
    · rename_i e o' heq
      simp only [Prod.mk.injEq] at h
      obtain ⟨rfl, rfl⟩ := h
      refine ⟨rfl, rfl, by simp, ?_⟩
      intro e' he'
      simp only [Except.error.injEq] at he'
      subst he'
      refine ⟨?_, rfl⟩
      intro hp
      rw [ofDe_panic] at hp
      subst hp
      exact readExact_no_panic _ _ _ heq
    · rename_i marker o' heq
      have := (readExact_ok heq).2 (by omega)
      rw [leaveOuter_rest] at this
      split at h
      · simp only [Prod.mk.injEq] at h
        obtain ⟨rfl, rfl⟩ := h
        simp
      · simp only [Prod.mk.injEq] at h
        obtain ⟨rfl, rfl⟩ := h
        exact ⟨rfl, rfl, fun _ _ => ⟨rfl, this⟩, by simp⟩

/-- a compressed block of `size` bytes `raw`, decompressed (snappy: after the CRC check) -/
def plainView (d : Decomp) (size : Nat) (raw : Bytes) : Except RdErr RState :=
  if d.isSnappy then
    (if size < 4 then .error .custom else
      (match d.decompress (raw.take (size - 4)) with
      | none => .error .custom
      | some plain =>
        if d.crc32 plain ≠ raw.drop (size - 4) then .error .custom
        else .ok (plainReader plain (plain.length + 1))))
  else
    (match d.decompress raw with
    | none => .error .io
    | some plain => .ok (plainReader plain 8192))

/-- the view of the block that `enterBlock` hands to the datum deserializer (`size` bytes of the
    source `o`), or why the block is refused -/
def blockView (d : Decomp) (size : Nat) (o : RState) : Except RdErr RState :=
  if d.isNull then
    if o.isSlice ∧ size > o.rest.length then .error .custom
    else .ok { o with rest := o.rest.take size, avail := min o.avail size }
  else
    if size > o.rest.length then (if o.isSlice then .error .custom else .error .io)
    else plainView d size (o.rest.take size)

/-- the part of `enterBlock` after the two varints (`r` already carries `st := .broken`,
    `outer := o`, `after`, `blkLimit`): the block is refused leaving the reader as it is — broken —
    or entered on `blockView` -/
def enterTail (d : Decomp) (r : Reader) (cnt : Int) (size : Nat) (o : RState) :
    Except RdErr Unit × Reader :=
  match blockView d size o with
  | .error e => (.error e, r)
  | .ok blk => (.ok (), { r with st := .inBlock cnt.toNat, blk := blk })

theorem enterBlock_eq (d : Decomp) (r : Reader) :
    enterBlock d r =
      match readVarint .i64 r.outer with
      | (.error e, o) => (.error (ofDe e), { r with st := .broken, outer := o })
      | (.ok cnt, o) =>
        if cnt < 0 then (.error .custom, { r with st := .broken, outer := o }) else
        match readVarint .i64 o with
        | (.error e, o) => (.error (ofDe e), { r with st := .broken, outer := o })
        | (.ok size, o) =>
          if size < 0 then (.error .custom, { r with st := .broken, outer := o }) else
          enterTail d { r with st := .broken, outer := o, after := o.rest.drop size.toNat,
                               blkLimit := size.toNat } cnt size.toNat o := by
  unfold enterBlock enterTail blockView plainView
  dsimp only
  generalize readVarint .i64 r.outer = x
  obtain ⟨(e | cnt), o1⟩ := x
  · rfl
  dsimp only
  by_cases hc : cnt < 0
  · rw [if_pos hc, if_pos hc]
  rw [if_neg hc, if_neg hc]
  generalize readVarint .i64 o1 = y
  obtain ⟨(e | sz), o⟩ := y
  · rfl
  dsimp only
  by_cases hs : sz < 0
  · rw [if_pos hs, if_pos hs]
  rw [if_neg hs, if_neg hs]
  generalize sz.toNat = size
  by_cases hn : d.isNull = true
  · rw [if_pos hn, if_pos hn]
    by_cases h1 : o.isSlice = true ∧ size > o.rest.length
    · rw [if_pos h1, if_pos h1]
    · rw [if_neg h1, if_neg h1]
  · rw [if_neg hn, if_neg hn]
    by_cases h2 : size > o.rest.length
    · rw [if_pos h2, if_pos h2]
      cases o.isSlice <;> rfl
    · rw [if_neg h2, if_neg h2]
      by_cases h3 : d.isSnappy = true
      · rw [if_pos h3, if_pos h3]
        by_cases h4 : size < 4
        · rw [if_pos h4, if_pos h4]
        · rw [if_neg h4, if_neg h4]
          generalize d.decompress _ = z
          cases z with
          | none => rfl
          | some plain =>
            dsimp only
            by_cases h5 : d.crc32 plain ≠ List.drop (size - 4) (List.take size o.rest)
            · rw [if_pos h5, if_pos h5]
            · rw [if_neg h5, if_neg h5]
      · rw [if_neg h3, if_neg h3]
        generalize d.decompress _ = z
        cases z <;> rfl

theorem plainView_ne_panic (d : Decomp) (size : Nat) (raw : Bytes) :
    plainView d size raw ≠ .error .panic := by
  unfold plainView
  repeat' split
  all_goals exact nofun

theorem blockView_ne_panic (d : Decomp) (size : Nat) (o : RState) :
    blockView d size o ≠ .error .panic := by
  unfold blockView
  repeat' split
  all_goals first | exact plainView_ne_panic _ _ _ | (intro h; cases h)

theorem enterTail_spec {d : Decomp} {r r' : Reader} {cnt : Int} {size : Nat} {o : RState}
    {res : Except RdErr Unit} (h : enterTail d r cnt size o = (res, r')) :
    (∀ e, res = .error e → e ≠ .panic ∧ r' = r) ∧
    (∀ u, res = .ok u → ∃ blk, r' = { r with st := .inBlock cnt.toNat, blk := blk }) := by
  have hp := blockView_ne_panic d size o
  unfold enterTail at h
  cases hv : blockView d size o with
  | error e =>
    rw [hv] at h hp; cases h
    exact ⟨fun _ h => by cases h; exact ⟨fun h => hp (h ▸ rfl), rfl⟩, nofun⟩
  | ok blk =>
    rw [hv] at h; cases h
    exact ⟨nofun, fun _ _ => ⟨blk, rfl⟩⟩

theorem ofDe_readVarint_ne_panic {t : VarTy} {s s' : RState} {e : DeErr}
    (h : readVarint t s = (.error e, s')) : ofDe e ≠ .panic := fun hp =>
  readVarint_no_panic t s s' (by rw [← ofDe_panic.1 hp]; exact h)

theorem enterBlock_spec {d : Decomp} {r r' : Reader} {res : Except RdErr Unit}
    (h : enterBlock d r = (res, r')) :
    r'.pretendEof = r.pretendEof ∧ r'.sync = r.sync ∧
    (∀ u, res = .ok u → ∃ n, r'.st = .inBlock n ∧ r'.after.length + 2 ≤ r.outer.rest.length ∧
        r'.after.length ≤ r'.outer.rest.length) ∧
    (∀ e, res = .error e → e ≠ .panic ∧ r'.st = .broken) := by
  rw [enterBlock_eq] at h
  split at h
  · rename_i e o heq
    simp only [Prod.mk.injEq] at h
    obtain ⟨rfl, rfl⟩ := h
    refine ⟨rfl, rfl, by simp, ?_⟩
    intro e' he'
    simp only [Except.error.injEq] at he'
    subst he'
    exact ⟨ofDe_readVarint_ne_panic heq, rfl⟩
  · rename_i cnt o heq
    have h1 := readVarint_ok heq
    split at h
    · simp only [Prod.mk.injEq] at h
      obtain ⟨rfl, rfl⟩ := h
      simp
    · split at h
      · rename_i e o2 heq2
        simp only [Prod.mk.injEq] at h
        obtain ⟨rfl, rfl⟩ := h
        refine ⟨rfl, rfl, by simp, ?_⟩
        intro e' he'
        simp only [Except.error.injEq] at he'
        subst he'
        exact ⟨ofDe_readVarint_ne_panic heq2, rfl⟩
      · rename_i size o2 heq2
        have h2 := readVarint_ok heq2
        split at h
        · simp only [Prod.mk.injEq] at h
          obtain ⟨rfl, rfl⟩ := h
          simp
        · obtain ⟨herr, hok⟩ := enterTail_spec h
          refine ⟨?_, ?_, ?_, ?_⟩
          · cases res with
            | error e => rw [(herr e rfl).2]
            | ok u => obtain ⟨blk, hb⟩ := hok u rfl; rw [hb]
          · cases res with
            | error e => rw [(herr e rfl).2]
            | ok u => obtain ⟨blk, hb⟩ := hok u rfl; rw [hb]
          · intro u hu
            obtain ⟨blk, hb⟩ := hok u hu
            refine ⟨cnt.toNat, by rw [hb], ?_, ?_⟩
            · rw [hb]; simp only [List.length_drop]; omega
            · rw [hb]; simp only [List.length_drop]; omega
          · intro e he
            obtain ⟨h3, h4⟩ := herr e he
            exact ⟨h3, by rw [h4]⟩

variable {α : Type}

theorem nextInner_succ (d : Decomp) (datum : RState → Except DeErr α × RState) (fuel : Nat) (r : Reader) :
    nextInner d datum (fuel + 1) r =
      match r.st with
      | .broken => (.error .custom, r)
      | .notInBlock =>
        match fillBuf r.outer with
        | (.error e, o) => (.error (ofDe e), { r with outer := o })
        | (.ok buf, o) =>
          if buf.isEmpty then (.ok none, { r with outer := o })
          else
            match enterBlock d { r with outer := o } with
            | (.error e, r') => (.error e, r')
            | (.ok _, r') => nextInner d datum fuel r'
      | .inBlock 0 =>
        match leaveBlock d r with
        | (.error e, r') => (.error e, r')
        | (.ok _, r') => nextInner d datum fuel r'
      | .inBlock (n + 1) =>
        match datum r.blk with
        | (.error e, blk') =>
          (.error (ofDe e), { r with st := .inBlock n, blk := blk', blkLimit := r.blkLimit - (r.blk.rest.length - blk'.rest.length) })
        | (.ok a, blk') =>
          (.ok (some a), { r with st := .inBlock n, blk := blk', blkLimit := r.blkLimit - (r.blk.rest.length - blk'.rest.length) }) := rfl

/-- the termination measure: bytes of the source not yet passed -/
def mu (r : Reader) : Nat :=
  match r.st with
  | .notInBlock => r.outer.rest.length
  | .inBlock _ => r.after.length
  | .broken => 0

/-- the invariant of reachable readers: in a block, `after` is a suffix of what `outer` holds -/
def RdInv (r : Reader) : Prop := ∀ n, r.st = .inBlock n → r.after.length ≤ r.outer.rest.length

/-- One round of `nextInner`: the call ends here with a result that does not depend on the fuel, or
    it has entered or left a block and goes on from a reader with a smaller measure. -/
theorem nextInner_step (d : Decomp) (datum : RState → Except DeErr α × RState) (r : Reader) :
    (∃ res r', (∀ F, nextInner d datum (F + 1) r = (res, r')) ∧
      ((∀ s, (datum s).1 ≠ .error .panic) → res ≠ .error .panic) ∧
      r'.pretendEof = r.pretendEof ∧ r'.sync = r.sync ∧ (RdInv r → RdInv r')) ∨
    (∃ r1, (∀ F, nextInner d datum (F + 1) r = nextInner d datum F r1) ∧ mu r1 < mu r ∧
      r1.pretendEof = r.pretendEof ∧ r1.sync = r.sync ∧ (RdInv r → RdInv r1)) := by
  obtain ⟨st, pe, sync, outer, blk, after, lim⟩ := r
  cases st with
  | broken => exact .inl ⟨_, _, fun _ => rfl, fun _ => nofun, rfl, rfl, id⟩
  | notInBlock =>
    obtain ⟨a, o, hf, ho, _, _⟩ := fillBuf_total outer
    by_cases hb : (outer.rest.take a).isEmpty = true
    · refine .inl ⟨.ok none, Reader.mk .notInBlock pe sync o blk after lim, fun F => ?_,
        fun _ => nofun, rfl, rfl, fun _ n hn => by cases hn⟩
      rw [nextInner_succ]; simp only [hf, hb, if_true]
    · generalize he : enterBlock d (Reader.mk .notInBlock pe sync o blk after lim) = x
      obtain ⟨res, r1⟩ := x
      have hstep : ∀ F, nextInner d datum (F + 1) (Reader.mk .notInBlock pe sync outer blk after lim)
          = match res with
            | .error e => (.error e, r1)
            | .ok _ => nextInner d datum F r1 := by
        intro F; rw [nextInner_succ]; simp only [hf, hb, he]; cases res <;> rfl
      obtain ⟨hpe, hsy, hok, herr⟩ := enterBlock_spec he
      cases res with
      | error e =>
        refine .inl ⟨.error e, r1, hstep, fun _ h => (herr e rfl).1 (by cases h; rfl), hpe, hsy,
          fun _ n hn => ?_⟩
        rw [(herr e rfl).2] at hn; cases hn
      | ok u =>
        obtain ⟨n, hn, hlen, hinv⟩ := hok u rfl
        refine .inr ⟨r1, hstep, ?_, hpe, hsy, fun _ _ _ => hinv⟩
        simp only [mu, hn, ho] at hlen ⊢; omega
  | inBlock n =>
    cases n with
    | zero =>
      generalize he : leaveBlock d (Reader.mk (.inBlock 0) pe sync outer blk after lim) = x
      obtain ⟨res, r1⟩ := x
      have hstep : ∀ F, nextInner d datum (F + 1) (Reader.mk (.inBlock 0) pe sync outer blk after lim)
          = match res with
            | .error e => (.error e, r1)
            | .ok _ => nextInner d datum F r1 := by
        intro F; rw [nextInner_succ]; simp only [he]; cases res <;> rfl
      obtain ⟨hpe, hsy, hok, herr⟩ := leaveBlock_spec he
      cases res with
      | error e =>
        refine .inl ⟨.error e, r1, hstep, fun _ h => (herr e rfl).1 (by cases h; rfl), hpe, hsy,
          fun _ n hn => ?_⟩
        rw [(herr e rfl).2] at hn; cases hn
      | ok u =>
        obtain ⟨hn, hlen⟩ := hok u rfl
        refine .inr ⟨r1, hstep, ?_, hpe, hsy, fun _ n hn' => ?_⟩
        · simp only [mu, hn] at hlen ⊢; exact hlen
        · rw [hn] at hn'; cases hn'
    | succ n =>
      generalize hx : datum blk = x
      obtain ⟨res, b'⟩ := x
      have hstep : ∀ F,
          nextInner d datum (F + 1) (Reader.mk (.inBlock (n + 1)) pe sync outer blk after lim)
          = (match res with
              | .error e => .error (ofDe e)
              | .ok a => .ok (some a),
             Reader.mk (.inBlock n) pe sync outer b' after
              (lim - (blk.rest.length - b'.rest.length))) := by
        intro F; rw [nextInner_succ]; simp only [hx]; cases res <;> rfl
      refine .inl ⟨_, _, hstep, fun hd => ?_, rfl, rfl, fun hi m _ => hi (n + 1) rfl⟩
      have := hd blk
      rw [hx] at this
      cases res with
      | error e => simpa [ofDe_panic] using this
      | ok a => nofun

theorem nextInner_fuel (d : Decomp) (datum : RState → Except DeErr α × RState) (fuel : Nat) :
    ∀ (fuel' : Nat) (r : Reader), mu r < fuel → mu r < fuel' →
      nextInner d datum fuel r = nextInner d datum fuel' r := by
  induction fuel with
  | zero => intro fuel' r h; omega
  | succ fuel ih =>
    intro fuel' r h h'
    obtain ⟨fuel', rfl⟩ : ∃ k, fuel' = k + 1 := ⟨fuel' - 1, by omega⟩
    rcases nextInner_step d datum r with ⟨res, r', hs, _⟩ | ⟨r1, hs, hmu, _⟩
    · rw [hs, hs]
    · rw [hs, hs]; exact ih fuel' r1 (by omega) (by omega)

theorem nextInner_no_panic (d : Decomp) (datum : RState → Except DeErr α × RState)
    (hd : ∀ s, (datum s).1 ≠ .error .panic) (fuel : Nat) :
    ∀ (r : Reader), mu r < fuel → (nextInner d datum fuel r).1 ≠ .error .panic := by
  induction fuel with
  | zero => intro r h; omega
  | succ fuel ih =>
    intro r h
    rcases nextInner_step d datum r with ⟨res, r', hs, hp, _⟩ | ⟨r1, hs, hmu, _⟩
    · rw [hs]; exact hp hd
    · rw [hs]; exact ih r1 (by omega)

theorem nextInner_keeps (d : Decomp) (datum : RState → Except DeErr α × RState) (fuel : Nat) :
    ∀ (r : Reader), (nextInner d datum fuel r).2.pretendEof = r.pretendEof ∧
      (nextInner d datum fuel r).2.sync = r.sync ∧
      (RdInv r → RdInv (nextInner d datum fuel r).2) := by
  induction fuel with
  | zero => intro r; exact ⟨rfl, rfl, id⟩
  | succ fuel ih =>
    intro r
    rcases nextInner_step d datum r with ⟨res, r', hs, _, h1, h2, h3⟩ | ⟨r1, hs, _, h1, h2, h3⟩
    · rw [hs]; exact ⟨h1, h2, h3⟩
    · rw [hs]
      obtain ⟨i1, i2, i3⟩ := ih r1
      exact ⟨i1.trans h1, i2.trans h2, fun hi => i3 (h3 hi)⟩

/-! ### A reader over a cut slice -/

theorem readExact_slice {k : Nat} {s : RState} (hs : s.isSlice = true) (hl : s.limit = none)
    (hk : k ≤ s.rest.length) :
    readExact k s = (.ok (s.rest.take k), { s with rest := s.rest.drop k, avail := s.avail - k }) := by
  cases k with
  | zero =>
    simp [readExact, readExactR, pure]
  | succ k =>
    have hlim : s.lim (k + 1) = k + 1 := by simp [RState.lim, hl]
    have hmin : min (k + 1) s.rest.length = k + 1 := by omega
    simp only [readExact, readExactR, bind, readSome_eq, hlim, fillBuf, hs, if_true, hmin]
    have hne : s.rest ≠ [] := by
      intro h; rw [h] at hk; simp at hk
    simp [hl, hmin, readExactR, pure, hne]

theorem readExact_slice_ok {k : Nat} {s s' : RState} {b : Bytes} (hs : s.isSlice = true)
    (hl : s.limit = none) (h : readExact k s = (.ok b, s')) : k ≤ s.rest.length := by
  have hwf : s.WF := by intro h'; rw [hs] at h'; cases h'
  by_cases hk : k ≤ s.rest.length
  · exact hk
  · obtain ⟨s'', he⟩ := (readExact_spec k s hwf).2 (by rw [eff_of_limit_none hl]; omega)
    rw [he] at h; cases h

theorem readExact_slice_same_rest (k : Nat) (s₁ s₂ : RState) (hs1 : s₁.isSlice = true)
    (hs2 : s₂.isSlice = true) (hl1 : s₁.limit = none) (hl2 : s₂.limit = none)
    (hr : s₁.rest = s₂.rest) (b : Bytes) :
    (∃ t, readExact k s₁ = (.ok b, t)) ↔ (∃ t, readExact k s₂ = (.ok b, t)) := by
  constructor
  · rintro ⟨t, ht⟩
    have hk := readExact_slice_ok hs1 hl1 ht
    rw [readExact_slice hs1 hl1 hk] at ht
    rw [hr] at hk
    rw [readExact_slice hs2 hl2 hk]
    simp only [Prod.mk.injEq, Except.ok.injEq] at ht
    exact ⟨_, by rw [← hr, ht.1]⟩
  · rintro ⟨t, ht⟩
    have hk := readExact_slice_ok hs2 hl2 ht
    rw [readExact_slice hs2 hl2 hk] at ht
    rw [← hr] at hk
    rw [readExact_slice hs1 hl1 hk]
    simp only [Prod.mk.injEq, Except.ok.injEq] at ht
    exact ⟨_, by rw [hr, ht.1]⟩

/-- `ot` is `of` with `rest` cut after some `m` bytes -/
def CutOf (ot of : RState) : Prop := ∃ m, ot = { of with rest := of.rest.take m }

/-- the reader `rt` over a truncated source simulates the reader `rf` over the full source -/
structure RdSim (rt rf : Reader) : Prop where
  st : rt.st = rf.st
  peof : rt.pretendEof = rf.pretendEof
  sync : rt.sync = rf.sync
  blk : rt.blk = rf.blk
  blkLimit : rt.blkLimit = rf.blkLimit
  slice : rf.outer.isSlice = true
  lim : rf.outer.limit = none
  outer : CutOf rt.outer rf.outer
  after : ∃ m, rt.after = rf.after.take m

theorem readVarint_cut {t : VarTy} {ot of ot' : RState} {v : Int} (hc : CutOf ot of)
    (hs : of.isSlice = true) (h : readVarint t ot = (.ok v, ot')) :
    ∃ of', readVarint t of = (.ok v, of') ∧ CutOf ot' of' ∧ of'.isSlice = true ∧
      of'.limit = of.limit := by
  obtain ⟨m, rfl⟩ := hc
  rw [readVarint_slice (by exact hs)] at h
  rw [readVarint_slice hs]
  simp only at h
  cases hd : decodeVar t (of.rest.take m) with
  | none => rw [hd] at h; cases h
  | some p =>
    obtain ⟨v', k⟩ := p
    rw [hd] at h
    simp only [Prod.mk.injEq, Except.ok.injEq] at h
    obtain ⟨rfl, rfl⟩ := h
    have hfull := decodeVar_append (of.rest.drop m) hd
    rw [List.take_append_drop] at hfull
    rw [hfull]
    refine ⟨_, rfl, ⟨m - k, ?_⟩, hs, rfl⟩
    simp only [List.drop_take]

/-- on a slice, a block is refused unless it is entirely present; so the view of a block accepted
    on the cut source is the view on the whole source -/
theorem blockView_cut {d : Decomp} {size : Nat} {ot of blk : RState} (hc : CutOf ot of)
    (hs : of.isSlice = true) (h : blockView d size ot = .ok blk) : blockView d size of = .ok blk := by
  obtain ⟨m, rfl⟩ := hc
  have hsz : size ≤ (of.rest.take m).length := by
    apply Classical.byContradiction
    intro hlt
    have hgt : size > (of.rest.take m).length := by omega
    simp only [blockView, hs, hgt, and_self, if_true] at h
    split at h <;> cases h
  have htk : (of.rest.take m).take size = of.rest.take size := by
    rw [List.take_take, Nat.min_eq_left (by rw [List.length_take] at hsz; omega)]
  have hlen : size ≤ of.rest.length := by rw [List.length_take] at hsz; omega
  unfold blockView at h ⊢
  dsimp only at h
  rw [htk] at h
  split
  · rw [if_pos ‹_›, if_neg (fun hh => by omega)] at h
    rw [if_neg (fun hh => by omega)]
    exact h
  · rw [if_neg ‹_›, if_neg (by omega)] at h
    rw [if_neg (by omega)]
    exact h

theorem enterTail_cut {d : Decomp} {rt rf rt' : Reader} {cnt : Int} {size : Nat} {ot of : RState}
    {u : Unit} (hc : CutOf ot of) (hs : of.isSlice = true)
    (h : enterTail d rt cnt size ot = (.ok u, rt')) :
    ∃ blk, rt' = { rt with st := .inBlock cnt.toNat, blk := blk } ∧
      enterTail d rf cnt size of = (.ok u, { rf with st := .inBlock cnt.toNat, blk := blk }) := by
  unfold enterTail at h ⊢
  cases hv : blockView d size ot with
  | error e => rw [hv] at h; cases h
  | ok blk =>
    rw [hv] at h; cases h
    exact ⟨blk, rfl, by rw [blockView_cut hc hs hv]⟩

theorem enterBlock_cut {d : Decomp} {rt rf rt' : Reader} {u : Unit} (hsim : RdSim rt rf)
    (h : enterBlock d rt = (.ok u, rt')) :
    ∃ rf', enterBlock d rf = (.ok u, rf') ∧ RdSim rt' rf' := by
  rw [enterBlock_eq] at h ⊢
  split at h
  · cases h
  · rename_i cnt ot1 heq1
    obtain ⟨of1, hf1, hc1, hs1, hl1⟩ := readVarint_cut hsim.outer hsim.slice heq1
    simp only [hf1]
    split at h
    · cases h
    · rename_i hcnt
      simp only [hcnt, if_false]
      split at h
      · cases h
      · rename_i size ot2 heq2
        obtain ⟨of2, hf2, hc2, hs2, hl2⟩ := readVarint_cut hc1 hs1 heq2
        simp only [hf2]
        split at h
        · cases h
        · rename_i hsize
          simp only [hsize, if_false]
          have key := @enterTail_cut d _ (Reader.mk .broken rf.pretendEof rf.sync of2 rf.blk
            (of2.rest.drop size.toNat) size.toNat) _ _ _ _ _ u hc2 hs2 h
          obtain ⟨blk, hrt', hrf'⟩ := key
          refine ⟨_, hrf', ?_⟩
          subst hrt'
          refine ⟨rfl, hsim.peof, hsim.sync, rfl, rfl, hs2, by rw [hl2, hl1]; exact hsim.lim, hc2, ?_⟩
          obtain ⟨m, hm⟩ := hc2
          refine ⟨m - size.toNat, ?_⟩
          simp only [hm, List.drop_take]

theorem leaveBlock_cut {d : Decomp} {rt rf rt' : Reader} {u : Unit} (hsim : RdSim rt rf)
    (h : leaveBlock d rt = (.ok u, rt')) :
    ∃ rf', leaveBlock d rf = (.ok u, rf') ∧ RdSim rt' rf' := by
  obtain ⟨m, hm⟩ := hsim.outer
  obtain ⟨ma, hma⟩ := hsim.after
  have hst : rt.outer.isSlice = true := by rw [hm]; exact hsim.slice
  have hlt : rt.outer.limit = none := by rw [hm]; exact hsim.lim
  have hlo : leftover d rt = leftover d rf := by
    simp only [leftover, hst, hsim.slice, hsim.blk, hsim.blkLimit]
  have hot : leaveOuter d rt = { rt.outer with rest := rt.after, avail := 0 } := by
    simp [leaveOuter, hst]
  have hof : leaveOuter d rf = { rf.outer with rest := rf.after, avail := 0 } := by
    simp [leaveOuter, hsim.slice]
  rw [leaveBlock_eq] at h ⊢
  rw [← hlo]
  split at h
  · cases h
  · rename_i hl
    simp only [hl]
    rw [hot] at h
    rw [hof]
    split at h
    · cases h
    · rename_i marker o' heq
      have h16 := readExact_slice_ok (by exact hst) (by exact hlt) heq
      simp only at h16
      have h16f : 16 ≤ rf.after.length := by
        rw [hma, List.length_take] at h16; omega
      rw [readExact_slice (by exact hst) (by exact hlt) h16] at heq
      rw [readExact_slice (by exact hsim.slice) (by exact hsim.lim) h16f]
      simp only [Prod.mk.injEq, Except.ok.injEq] at heq
      obtain ⟨rfl, rfl⟩ := heq
      have hmk : rt.after.take 16 = rf.after.take 16 := by
        rw [hma, List.length_take] at h16
        rw [hma, List.take_take]
        congr 1; omega
      simp only [hmk, hsim.sync] at h ⊢
      split at h
      · cases h
      · rename_i hmark
        simp only [hmark, if_false]
        simp only [Prod.mk.injEq] at h
        obtain ⟨_, rfl⟩ := h
        refine ⟨_, rfl, rfl, hsim.peof, rfl, hsim.blk, hsim.blkLimit, hsim.slice, hsim.lim,
          ⟨ma - 16, ?_⟩, ⟨ma, hma⟩⟩
        simp only [hm, hma, List.drop_take]

theorem nextInner_cut {α : Type} (d : Decomp) (datum : RState → Except DeErr α × RState)
    (fuel : Nat) : ∀ (rt rf : Reader), RdSim rt rf → ∀ (a : α) (rt' : Reader),
      nextInner d datum fuel rt = (.ok (some a), rt') →
      ∃ rf', nextInner d datum fuel rf = (.ok (some a), rf') ∧ RdSim rt' rf' := by
  induction fuel with
  | zero => intro rt rf _ a rt' h; simp [nextInner] at h
  | succ fuel ih =>
    intro rt rf hsim a rt' h
    rw [nextInner_succ] at h ⊢
    have hst := hsim.st
    obtain ⟨m, hm⟩ := hsim.outer
    have hslt : rt.outer.isSlice = true := by rw [hm]; exact hsim.slice
    obtain ⟨st, pe, sync, outer, blk, after, lim⟩ := rt
    obtain ⟨st', pe', sync', outer', blk', after', lim'⟩ := rf
    simp only at hst hm hslt
    subst hst
    cases st with
    | broken => simp at h
    | notInBlock =>
      simp only [fillBuf_slice hslt] at h
      simp only [fillBuf_slice hsim.slice]
      split at h
      · simp at h
      · rename_i hne
        have hne' : ¬ (outer'.rest.isEmpty = true) := by
          intro he
          apply hne
          rw [hm]
          simp only [List.isEmpty_iff] at he ⊢
          simp [he]
        simp only [hne']
        generalize he : enterBlock d _ = x at h
        obtain ⟨res, r1⟩ := x
        cases res with
        | error e => simp at h
        | ok u =>
          simp only at h
          obtain ⟨rf1, hrf1, hsim1⟩ := enterBlock_cut hsim he
          simp only [hrf1]
          exact ih r1 rf1 hsim1 a rt' h
    | inBlock n =>
      cases n with
      | zero =>
        simp only at h ⊢
        generalize he : leaveBlock d _ = x at h
        obtain ⟨res, r1⟩ := x
        cases res with
        | error e => simp at h
        | ok u =>
          simp only at h
          obtain ⟨rf1, hrf1, hsim1⟩ := leaveBlock_cut hsim he
          simp only [hrf1]
          exact ih r1 rf1 hsim1 a rt' h
      | succ n =>
        have hb := hsim.blk
        have hbl := hsim.blkLimit
        simp only at hb hbl
        subst hb hbl
        simp only at h ⊢
        generalize datum blk = x at h
        obtain ⟨res, b'⟩ := x
        cases res with
        | error e => simp at h
        | ok a' =>
          simp only [Prod.mk.injEq, Except.ok.injEq, Option.some.injEq] at h
          obtain ⟨rfl, rfl⟩ := h
          exact ⟨_, rfl, rfl, hsim.peof, hsim.sync, rfl, rfl, hsim.slice, hsim.lim, hsim.outer,
            hsim.after⟩

end Avro.Impl.Ocf
