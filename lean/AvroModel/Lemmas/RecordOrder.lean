import AvroModel.Lemmas.Record
import AvroModel.Lemmas.SerSim
/-
The field loop of a struct presentation on a record node: with pairwise distinct field names, a
presentation of distinct fields not yet presented, in any order, each value serializing on its own,
goes through and keeps the invariant of `Lemmas/Record.lean` (`serFields_record_total`).
-/
namespace Avro.Theorems
open Avro Avro.Impl

theorem recordValue_ok (fields : List (String × Nat)) (enc : Nat → Bytes) (base : Bytes)
    (S : Schema) (rs : RecordState) (idx : Nat) (serv : Node → SerM Unit) (s : SerState)
    (f : String × Nat) (node : Node)
    (hf : fields[idx]? = some f) (hnode : S[f.2]? = some node)
    (hb : s.budget = none) (hc : PoolClean s.pool)
    (hfree : ¬ RecDone rs idx)
    (hserv : ∀ s, s.budget = none → PoolClean s.pool →
      ∃ s', serv node s = (.ok (), s') ∧ s'.out = s.out ++ enc idx ∧ s'.budget = none)
    (hinv : RecInv fields enc base rs s) :
    ∃ rs' s', recordValue S fields rs idx serv s = (.ok rs', s') := by
  have hlt : idx < fields.length := (List.getElem?_eq_some_iff.mp hf).1
  unfold recordValue
  rw [hf]
  dsimp only
  rw [hnode]
  dsimp only
  by_cases hcur : idx = rs.current
  · rw [if_pos hcur]
    obtain ⟨s1, h1, h2, h3⟩ := hserv s hb hc
    rw [h1]
    dsimp only
    obtain ⟨rs2, s2, g1, _⟩ := flushBuffered_next hinv (hcur ▸ hlt) (hcur ▸ h2) h3
    exact ⟨rs2, s2, g1⟩
  · rw [if_neg hcur]
    split
    · rename_i b hb'
      exact (hfree (.inr ⟨b, (resizedSlots_some _ _ _ _).mp hb'⟩)).elim
    · obtain ⟨buf, s1, e1, hbuf, o1, b1, c1⟩ := popBuffer_op s hc
      rw [e1]
      dsimp only
      unfold intoBuffer
      obtain ⟨s2, h1, h2, h3⟩ := hserv { s1 with out := buf.data, budget := none } rfl c1
      rw [h1]
      exact ⟨_, _, rfl⟩

theorem recordValue_total (fields : List (String × Nat)) (enc : Nat → Bytes) (base : Bytes)
    (S : Schema) (rs : RecordState) (idx : Nat) (serv : Node → SerM Unit) (s : SerState)
    (f : String × Nat) (node : Node)
    (hf : fields[idx]? = some f) (hnode : S[f.2]? = some node)
    (hb : s.budget = none) (hc : PoolClean s.pool) (hfree : ¬ RecDone rs idx)
    (hservSim : ∀ node, Par False False (serv node))
    (hserv : ∀ s, s.budget = none → PoolClean s.pool →
      ∃ s', serv node s = (.ok (), s') ∧ s'.out = s.out ++ enc idx ∧ s'.budget = none)
    (hinv : RecInv fields enc base rs s) :
    ∃ rs' s', recordValue S fields rs idx serv s = (.ok rs', s') ∧
      RecInv fields enc base rs' s' ∧ s'.budget = none ∧ PoolClean s'.pool ∧
      ∀ i, RecDone rs' i ↔ RecDone rs i ∨ i = idx := by
  obtain ⟨rs', s', hok⟩ := recordValue_ok fields enc base S rs idx serv s f node hf hnode hb hc
    hfree hserv hinv
  -- `hservSim` is needed for this only: the pool comes back clean (the simulation on the diagonal)
  have hclean := (recordValue_sim (S := S) (fields := fields) (idx := idx) nofun
    (⟨rfl, rfl⟩ : RsRel rs rs) nofun nofun fun node _ => hservSim node).clean hc
  rw [hok] at hclean
  obtain ⟨g1, g2, _⟩ := recordValue_inv_gen PoolClean (fun _ _ _ => popBuffer_clean)
    fields enc base S rs idx serv s rs' s' hb hc (Nat.le_of_not_lt fun h => hfree (.inl h))
    (fun f' node' s0 hf' hnode' hb0 hc0 => by
      obtain rfl : f = f' := Option.some.inj (hf.symm.trans hf')
      obtain rfl : node = node' := Option.some.inj (hnode.symm.trans hnode')
      exact hserv s0 hb0 hc0)
    hinv hok
  exact ⟨rs', s', hok, g1, g2, hclean, recordValue_done hok⟩

/-- A struct presentation of a record: the fields with indices `order`, in that order, each
    with its schema name and its value `vals i`. -/
def presOf (fields : List (String × Nat)) (vals : Nat → SV) (order : List Nat) :
    List (String × SV) :=
  order.map fun i => ((fields[i]?.getD ("", 0)).1, vals i)

theorem ser_appends (ext : Ext) (allowSlow : Bool) (S : Schema) (node : Node) (v : SV)
    (t : SerState) (h : ser ext allowSlow S node v {} = (.ok (), t)) (s : SerState)
    (hb : s.budget = none) (hc : PoolClean s.pool) :
    ∃ s', ser ext allowSlow S node v s = (.ok (), s') ∧ s'.out = s.out ++ t.out ∧
      s'.budget = none := by
  obtain ⟨s', e, o, g⟩ := ser_frame ext allowSlow node v s ⟨hb, hc⟩
  rw [h] at e o
  exact ⟨s', e, o, g.1⟩

section order
variable (ext : Ext) (allowSlow : Bool) (S : Schema) (fields : List (String × Nat))
  (enc : Nat → Bytes) (base : Bytes)

theorem serFields_record_total (hnd : (fields.map (·.1)).Nodup) :
    ∀ (pres : List (String × SV)) (rs : RecordState) (s : SerState), s.budget = none →
      PoolClean s.pool → RecInv fields enc base rs s → (pres.map (·.1)).Nodup →
      (∀ p ∈ pres, ∃ (i : Nat) (f : String × Nat) (node : Node) (t : SerState),
        fields[i]? = some f ∧ f.1 = p.1 ∧ S[f.2]? = some node ∧ ¬ RecDone rs i ∧
        ser ext allowSlow S node p.2 {} = (.ok (), t) ∧ t.out = enc i) →
      ∃ rs' s', serFields ext allowSlow S (.record fields rs) pres s =
          (.ok (.record fields rs'), s') ∧
        RecInv fields enc base rs' s' ∧ s'.budget = none ∧ PoolClean s'.pool ∧
        ∀ i, RecDone rs' i ↔ RecDone rs i ∨ ∃ f, fields[i]? = some f ∧ f.1 ∈ pres.map (·.1) := by
  intro pres
  induction pres with
  | nil =>
    intro rs s hb hc hinv _ _
    exact ⟨rs, s, by rw [serFields], hinv, hb, hc, fun i => by simp⟩
  | cons p rest ih =>
    obtain ⟨name, v⟩ := p
    intro rs s hb hc hinv hndp hall
    obtain ⟨i, f, node, t, hf, hfn, hnode, hnd_i, ht, htout⟩ := hall (name, v) (by simp)
    simp only at hfn ht
    have hcur : rs.current ≤ i := by
      rcases Nat.lt_or_ge i rs.current with h | h
      · exact (hnd_i (.inl h)).elim
      · exact h
    obtain ⟨rs1, s1, hrv, hinv1, hb1, hc1, hdone1⟩ := recordValue_total fields enc base S rs i
      (fun node => ser ext allowSlow S node v) s f node hf hnode hb hc hnd_i
      (fun node => ser_sim ext allowSlow nofun v node nofun)
      (fun s0 hb0 hc0 => by
        obtain ⟨s', h1, h2, h3⟩ := ser_appends ext allowSlow S node v t ht s0 hb0 hc0
        exact ⟨s', h1, by rw [h2, htout], h3⟩)
      hinv
    rw [List.map_cons, List.nodup_cons] at hndp
    obtain ⟨rs', s', hrest, hinv', hb', hc', hdone'⟩ := ih rs1 s1 hb1 hc1 hinv1 hndp.2
      (fun q hq => by
        obtain ⟨j, g, nodej, tj, hg, hgn, hnodej, hnd_j, htj⟩ := hall q (List.mem_cons_of_mem _ hq)
        refine ⟨j, g, nodej, tj, hg, hgn, hnodej, fun hd => ?_, htj⟩
        rcases (hdone1 j).mp hd with h | rfl
        · exact hnd_j h
        · rw [hf] at hg; cases hg
          exact hndp.1 (List.mem_map.2 ⟨q, hq, by rw [← hgn, hfn]⟩))
    refine ⟨rs', s', ?_, hinv', hb', hc', fun j => ?_⟩
    · rw [serFields, ← hfn, fieldIdx_of_nodup hnd hf hcur]
      dsimp only
      rw [hrv]
      exact hrest
    · rw [hdone', hdone1]
      simp only [List.map_cons, List.mem_cons]
      constructor
      · rintro ((h | rfl) | ⟨g, h1, h2⟩)
        · exact .inl h
        · exact .inr ⟨f, hf, .inl hfn⟩
        · exact .inr ⟨g, h1, .inr h2⟩
      · rintro (h | ⟨g, h1, h2 | h2⟩)
        · exact .inl (.inl h)
        · exact .inl (.inr (names_inj hnd h1 hf (h2.trans hfn.symm)))
        · exact .inr ⟨g, h1, h2⟩

end order
section order2
variable (ext : Ext) (allowSlow : Bool) (S : Schema) (nm : Name) (fields : List (String × Nat))

theorem ser_struct_record_eq (name : String) (pres : List (String × SV)) (s : SerState) :
    ser ext allowSlow S (.record nm fields) (.struct name pres) s =
      match popSuperBuffer s with
      | (.ok sb, s1) => structBodyFinish S
          (serFields ext allowSlow S (.record fields { current := 0, buffers := sb }) pres s1)
      | (.error e, s1) => (.error e, s1) := by
  rw [ser]
  simp only [viaName, viaUnion, structStartAt, bind, pure]
  cases popSuperBuffer s with
  | mk r s1 => cases r <;> rfl

theorem structFinish_record_done (rs : RecordState) (s : SerState) (hc : PoolClean s.pool)
    (hcur : rs.current = fields.length) :
    ∃ s', structFinish S (.record fields rs) s = (.ok (), s') ∧ s'.out = s.out ∧
      s'.budget = s.budget ∧ PoolClean s'.pool := by
  unfold structFinish structEnd
  dsimp only
  rw [recordEnd_succ, List.getElem?_eq_none (by omega)]
  dsimp only
  rw [if_neg (by omega)]
  dsimp only
  unfold SerM.finally
  obtain ⟨_, s', e1, _, o1, b1, c1⟩ := structDrop_op
    (.record fields { rs with buffers := { rs.buffers with slots := [] } }) s hc
  simp only [pure]
  rw [e1]
  exact ⟨s', rfl, o1, b1, c1⟩

end order2
end Avro.Theorems
