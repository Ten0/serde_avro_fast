import AvroModel.Impl.SchemaParse
import AvroModel.Spec.Names
/-
The schema parser (`Impl/SchemaParse.lean`): the split of a name at its last dot against the
specification's, `registerObject` cut in three steps, the orders `Le` / `LeNU` / `LeExcept` on
registration states, late resolution of references; the combinators `mapOk`, `andThen` with which
one level of a fuelled walk is written as an equation.
-/
namespace Avro.Impl
open Avro

theorem splitLastDot_none_iff {cs : List Char} : Spec.splitLastDot cs = none ↔ '.' ∉ cs := by
  induction cs with
  | nil => simp [Spec.splitLastDot]
  | cons c rest ih =>
    simp only [Spec.splitLastDot, List.mem_cons, not_or]
    cases h : Spec.splitLastDot rest with
    | some p => simp only [reduceCtorEq, false_iff, not_and]; intro _; rw [← ih, h]; simp
    | none =>
      have := ih.mp h
      by_cases hc : c = '.'
      · simp [hc]
      · simp only [hc, if_false, true_iff]; exact ⟨fun e => hc e.symm, this⟩

theorem splitLastDot_some {cs a b : List Char} (h : Spec.splitLastDot cs = some (a, b)) :
    cs = a ++ '.' :: b ∧ '.' ∉ b ∧ Spec.splitLastDot b = none := by
  induction cs generalizing a b with
  | nil => simp [Spec.splitLastDot] at h
  | cons c rest ih =>
    simp only [Spec.splitLastDot] at h
    cases h' : Spec.splitLastDot rest with
    | some p =>
      obtain ⟨a', b'⟩ := p
      rw [h'] at h
      simp only [Option.some.injEq, Prod.mk.injEq] at h
      obtain ⟨rfl, rfl⟩ := h
      obtain ⟨h1, h2, h3⟩ := ih h'
      exact ⟨by rw [h1]; rfl, h2, h3⟩
    | none =>
      rw [h'] at h
      by_cases hc : c = '.'
      · simp only [hc, if_true, Option.some.injEq, Prod.mk.injEq] at h
        obtain ⟨rfl, rfl⟩ := h
        exact ⟨by simp [hc], splitLastDot_none_iff.mp h', h'⟩
      · simp [hc] at h

theorem splitLastDot_append {a b : List Char} (hb : '.' ∉ b) :
    Spec.splitLastDot (a ++ '.' :: b) = some (a, b) := by
  induction a with
  | nil => simp [Spec.splitLastDot, splitLastDot_none_iff.mpr hb]
  | cons c a ih => simp [Spec.splitLastDot, ih]

theorem rfindDot_go_eq (cs : List Char) (i : Nat) (acc : Option Nat) :
    rfindDot.go cs i acc =
      match Spec.splitLastDot cs with
      | some (a, _) => some (i + a.length)
      | none => acc := by
  induction cs generalizing i acc with
  | nil => simp [rfindDot.go, Spec.splitLastDot]
  | cons c rest ih =>
    simp only [rfindDot.go, Spec.splitLastDot]
    rw [ih]
    cases h : Spec.splitLastDot rest with
    | some p => simp; omega
    | none => by_cases hc : c = '.' <;> simp [hc]

theorem rfindDot_eq (cs : List Char) :
    rfindDot cs = (Spec.splitLastDot cs).map (fun p => p.1.length) := by
  simp only [rfindDot, rfindDot_go_eq]
  cases Spec.splitLastDot cs with
  | none => rfl
  | some p => simp

theorem rfindDot_none_iff {cs : List Char} : rfindDot cs = none ↔ '.' ∉ cs := by
  rw [rfindDot_eq, Option.map_eq_none_iff, splitLastDot_none_iff]

theorem rfindDot_append {a b : List Char} (hb : '.' ∉ b) :
    rfindDot (a ++ '.' :: b) = some a.length := by
  rw [rfindDot_eq, splitLastDot_append hb]; rfl

theorem rsplitDot_eq (s : String) :
    rsplitDot s = (Spec.splitLastDot s.toList).map (fun p => (String.ofList p.1, String.ofList p.2)) := by
  simp only [rsplitDot, rfindDot_eq]
  cases h : Spec.splitLastDot s.toList with
  | none => rfl
  | some p =>
    obtain ⟨a, b⟩ := p
    obtain ⟨h1, -, -⟩ := splitLastDot_some h
    simp [h1]

theorem nonEmpty_eq (s : String) : nonEmpty s = Spec.namespaceOf s := by
  simp only [nonEmpty, Spec.namespaceOf]
  by_cases h : s = ""
  · simp [h]
  · have : s.isEmpty = false := by
      cases h' : s.isEmpty with
      | true => exact absurd (String.isEmpty_iff.mp h') h
      | false => rfl
    simp [h, this]

theorem rsplitDot_dotted (ns name : String) (hn : '.' ∉ name.toList) :
    rsplitDot (ns ++ "." ++ name) = some (ns, name) := by
  have : (ns ++ "." ++ name).toList = ns.toList ++ '.' :: name.toList := by
    simp [String.toList_append]
  rw [rsplitDot_eq, this, splitLastDot_append hn]
  simp [String.ofList_toList]

theorem rsplitDot_nodot (name : String) (hn : '.' ∉ name.toList) : rsplitDot name = none := by
  rw [rsplitDot_eq, splitLastDot_none_iff.mpr hn]; rfl

theorem nonEmpty_of_ne {s : String} (h : s ≠ "") : nonEmpty s = some s := by
  rw [nonEmpty_eq]; simp [Spec.namespaceOf, h]

theorem nonEmpty_eq_none_iff {s : String} : nonEmpty s = none ↔ s = "" := by
  rw [nonEmpty_eq]; unfold Spec.namespaceOf; split <;> simp_all

theorem nonEmpty_ne_some_empty (s : String) : nonEmpty s ≠ some "" := by
  rw [nonEmpty_eq]; unfold Spec.namespaceOf
  split
  · simp
  · intro h; simp only [Option.some.injEq] at h; contradiction

/-! ### the specification's name resolution on a name without a dot and on `x.short` -/

theorem namespaceOf_ne (x : String) (h : x ≠ "") : Spec.namespaceOf x = some x := by
  simp [Spec.namespaceOf, h]

theorem namespaceOf_empty : Spec.namespaceOf "" = none := by simp [Spec.namespaceOf]

theorem toList_join (x short : String) :
    (x ++ "." ++ short).toList = x.toList ++ '.' :: short.toList := by
  simp [String.toList_append]

theorem fullnameOfRef_nodot (s : String) (enc : Option String) (h : '.' ∉ s.toList) :
    Spec.fullnameOfRef s enc = (enc, s) := by
  simp only [Spec.fullnameOfRef, splitLastDot_none_iff.mpr h]

theorem fullnameOfRef_join (x short : String) (enc : Option String) (h : '.' ∉ short.toList) :
    Spec.fullnameOfRef (x ++ "." ++ short) enc = (Spec.namespaceOf x, short) := by
  simp only [Spec.fullnameOfRef, toList_join, splitLastDot_append h, String.ofList_toList]

theorem fullnameOfDef_nodot (s : String) (nsAttr enc : Option String) (h : '.' ∉ s.toList) :
    Spec.fullnameOfDef s nsAttr enc =
      match nsAttr with
      | some ns => (Spec.namespaceOf ns, s)
      | none => (enc, s) := by
  cases nsAttr <;> simp only [Spec.fullnameOfDef, splitLastDot_none_iff.mpr h]

theorem fullnameOfDef_join (x short : String) (nsAttr enc : Option String)
    (h : '.' ∉ short.toList) :
    Spec.fullnameOfDef (x ++ "." ++ short) nsAttr enc = (Spec.namespaceOf x, short) := by
  simp only [Spec.fullnameOfDef, toList_join, splitLastDot_append h, String.ofList_toList]

/-! ### the name keys are the fullnames of the specification (`Spec/Names.lean`) -/

theorem defKey_is_spec (name : String) (nsAttr enc : Option String) :
    (defKey name nsAttr enc).ns = (Spec.fullnameOfDef name nsAttr enc).1 ∧
    (defKey name nsAttr enc).name = (Spec.fullnameOfDef name nsAttr enc).2 := by
  simp only [defKey, Spec.fullnameOfDef, rsplitDot_eq]
  cases Spec.splitLastDot name.toList with
  | some p => simp [nonEmpty_eq]
  | none => cases nsAttr <;> simp [nonEmpty_eq]

theorem refKey_is_spec (reference : String) (enc : Option String) :
    (refKey reference enc).ns = (Spec.fullnameOfRef reference enc).1 ∧
    (refKey reference enc).name = (Spec.fullnameOfRef reference enc).2 := by
  simp only [refKey, Spec.fullnameOfRef, rsplitDot_eq]
  cases Spec.splitLastDot reference.toList with
  | some p => simp [nonEmpty_eq]
  | none => simp

theorem defKey_eq_spec (name : String) (nsAttr enc : Option String) :
    defKey name nsAttr enc =
      ⟨(Spec.fullnameOfDef name nsAttr enc).1, (Spec.fullnameOfDef name nsAttr enc).2⟩ := by
  obtain ⟨h1, h2⟩ := defKey_is_spec name nsAttr enc
  cases hd : defKey name nsAttr enc with
  | mk a b => rw [hd] at h1 h2; simp only at h1 h2; rw [h1, h2]

theorem refKey_eq_spec (r : String) (enc : Option String) :
    refKey r enc = ⟨(Spec.fullnameOfRef r enc).1, (Spec.fullnameOfRef r enc).2⟩ := by
  obtain ⟨h1, h2⟩ := refKey_is_spec r enc
  cases hd : refKey r enc with
  | mk a b => rw [hd] at h1 h2; simp only at h1 h2; rw [h1, h2]

theorem defKey_wf (name : String) (nsAttr enc : Option String) (henc : enc ≠ some "") :
    '.' ∉ (defKey name nsAttr enc).name.toList ∧ (defKey name nsAttr enc).ns ≠ some "" := by
  simp only [defKey, rsplitDot_eq]
  cases h : Spec.splitLastDot name.toList with
  | some p =>
    obtain ⟨a, b⟩ := p
    obtain ⟨-, hb, -⟩ := splitLastDot_some h
    simpa [String.toList_ofList, hb] using nonEmpty_ne_some_empty _
  | none =>
    refine ⟨by simpa using splitLastDot_none_iff.mp h, ?_⟩
    cases nsAttr with
    | none => simpa using henc
    | some ns => simpa using nonEmpty_ne_some_empty ns

theorem NameKey.toName_fq_spec (k : NameKey) :
    (k.toName).fq = Spec.fullnameText (k.ns, k.name) := by
  unfold NameKey.toName Spec.fullnameText
  cases k.ns <;> rfl

theorem defKey_fq (name : String) (nsAttr enc : Option String) :
    (defKey name nsAttr enc).toName.fq =
      Spec.fullnameText (Spec.fullnameOfDef name nsAttr enc) := by
  rw [NameKey.toName_fq_spec, defKey_eq_spec]

/-! ### chaining results (`NP r`: `r` is not the model's out-of-fuel marker)

`andThen` / `mapOk` are `Except.bind` / `Except.map` written as the `match` the model functions
are written with, so that the one-level equations (`registerObject_succ` …) hold by unfolding. -/

def mapOk {α β : Type} (r : Except SchemaErr α) (f : α → β) : Except SchemaErr β :=
  match r with
  | .error e => .error e
  | .ok a => .ok (f a)

def andThen {α β : Type} (r : Except SchemaErr α) (f : α → Except SchemaErr β) : Except SchemaErr β :=
  match r with
  | .error e => .error e
  | .ok a => f a

def NP {α : Type} (r : Except SchemaErr α) : Prop := r ≠ .error .panic

/-- turns `r = .ok a` into the `Option` equation that `eq_some_ofList_of_utf8`
    (`Lemmas/LiteralEq.lean`) compares byte-wise (`C19_pcf_cycle_through_named_ok`) -/
theorem eq_ok_of_toOption {α : Type} {r : Except SchemaErr α} {a : α} (h : r.toOption = some a) :
    r = .ok a := by
  cases r with
  | error e => cases h
  | ok b => cases h; rfl

theorem NP_ok {α : Type} (a : α) : NP (Except.ok a : Except SchemaErr α) := by intro h; cases h
theorem NP_custom {α : Type} : NP (Except.error .custom : Except SchemaErr α) := by intro h; cases h

theorem error_eq_of_NP {α : Type} {r : Except SchemaErr α} {e x : SchemaErr} (hnp : NP r)
    (hc : ∀ e, r = .error e → e = x ∨ e = .panic) (he : r = .error e) : e = x :=
  (hc e he).resolve_right fun h => hnp (h ▸ he)

theorem andThen_mono {α β : Type} {r r' : Except SchemaErr α} {f f' : α → Except SchemaErr β}
    (h : NP r → r' = r) (hf : ∀ a, NP (f a) → f' a = f a) :
    NP (andThen r f) → andThen r' f' = andThen r f := by
  intro hn
  have hr : NP r := by
    intro e; rw [e] at hn; exact hn rfl
  rw [h hr]
  cases r with
  | error e => rfl
  | ok a => exact hf a hn

theorem mapOk_mono {α β : Type} {r r' : Except SchemaErr α} (f : α → β)
    (h : NP r → r' = r) : NP (mapOk r f) → mapOk r' f = mapOk r f := by
  intro hn
  have hr : NP r := by
    intro e; rw [e] at hn; exact hn rfl
  rw [h hr]

theorem andThen_ok {α β : Type} {r : Except SchemaErr α} {f : α → Except SchemaErr β} {b : β}
    (h : andThen r f = .ok b) : ∃ a, r = .ok a ∧ f a = .ok b := by
  cases r with
  | error e => cases h
  | ok a => exact ⟨a, rfl, h⟩

theorem mapOk_ok {α β : Type} {r : Except SchemaErr α} {f : α → β} {b : β}
    (h : mapOk r f = .ok b) : ∃ a, r = .ok a ∧ b = f a := by
  cases r with
  | error e => cases h
  | ok a => cases h; exact ⟨a, rfl, rfl⟩

theorem andThen_NP {α β : Type} {r : Except SchemaErr α} {f : α → Except SchemaErr β}
    (h : NP r) (hf : ∀ a, r = .ok a → NP (f a)) : NP (andThen r f) := by
  cases r with
  | error e =>
    intro h'
    have : e = .panic := by simpa [andThen] using h'
    subst this; exact h rfl
  | ok a => exact hf a rfl

theorem mapOk_NP {α β : Type} {r : Except SchemaErr α} {f : α → β} (h : NP r) : NP (mapOk r f) := by
  cases r with
  | error e =>
    intro h'
    have : e = .panic := by simpa [mapOk] using h'
    subst this; exact h rfl
  | ok a => exact NP_ok _

theorem andThen_error {α β : Type} {r : Except SchemaErr α} {f : α → Except SchemaErr β}
    {e : SchemaErr} (h : andThen r f = .error e) :
    r = .error e ∨ ∃ a, r = .ok a ∧ f a = .error e := by
  cases r with
  | error e' => cases h; exact .inl rfl
  | ok a => exact .inr ⟨a, rfl, h⟩

theorem mapOk_error {α β : Type} {r : Except SchemaErr α} {f : α → β} {e : SchemaErr}
    (h : mapOk r f = .error e) : r = .error e := by
  cases r with
  | error e' => cases h; rfl
  | ok a => cases h

/-- The first step of `registerObject`: reserve the node's slot (`st.reserve`, `nameStep_ok`), then
    register the name, if the object has one. -/
def nameStep (object : Option RawAttrs) (enclosing : Option String) (st : PState) :
    Except SchemaErr (Option NameKey × PState) :=
  let idx := st.nodes.size
  let st := { st with nodes := st.nodes.push { type := .null, logical := none } }
  match object with
  | some o =>
    (match o.name with
      | some name =>
        let key := defKey name o.nsAttr enclosing
        if (st.names.lookup key).isSome then .error .custom
        else .ok (some key, { st with names := (key, idx) :: st.names })
      | none => .ok (none, st))
  | none => .ok (none, st)

def bodyStep (fuel : Nat) (t : RawType) (object : Option RawAttrs)
    (ofields : Option (List (String × RawSchema))) (oitems ovalues : Option RawSchema)
    (enclosing : Option String) (nameKey : Option NameKey) (st : PState) :
    Except SchemaErr (PType × PState) :=
  match t with
  | .null => .ok (.null, st) | .boolean => .ok (.boolean, st) | .int => .ok (.int, st)
  | .long => .ok (.long, st) | .float => .ok (.float, st) | .double => .ok (.double, st)
  | .bytes => .ok (.bytes, st) | .string => .ok (.string, st)
  | .array =>
    (match oitems with
      | none => .error .custom
      | some items =>
        match registerNode fuel items enclosing st with
        | .error e => .error e
        | .ok (k, st) => .ok (.array k, st))
  | .map =>
    (match ovalues with
      | none => .error .custom
      | some values =>
        match registerNode fuel values enclosing st with
        | .error e => .error e
        | .ok (k, st) => .ok (.map k, st))
  | .enum =>
    (match nameKey with
      | none => .error .custom
      | some k =>
        match object.bind (·.symbols) with
        | none => .error .custom
        | some syms => .ok (.enum k.toName syms, st))
  | .fixed =>
    (match nameKey with
      | none => .error .custom
      | some k =>
        match object.bind (·.size) with
        | none => .error .custom
        | some size => .ok (.fixed k.toName size, st))
  | .record =>
    (match nameKey with
      | none => .error .custom
      | some k =>
        match ofields with
        | none => .error .custom
        | some fields =>
          match registerFields fuel fields k.ns st with
          | .error e => .error e
          | .ok (fs, st) => .ok (.record k.toName fs, st))

def logicalStep (object : Option RawAttrs) : Except SchemaErr (Option LogicalType) :=
  match object with | some o => logicalOf o | none => .ok none

section
variable {f : Nat} {o : Option RawAttrs} {of : Option (List (String × RawSchema))}
  {oi ov : Option RawSchema} {enc : Option String} {nk : Option NameKey} {st1 st2 : PState}
  {ty : PType}

theorem bodyStep_array (hb : bodyStep f .array o of oi ov enc nk st1 = .ok (ty, st2)) :
    ∃ items k, oi = some items ∧ registerNode f items enc st1 = .ok (k, st2) ∧ ty = .array k := by
  simp only [bodyStep] at hb
  split at hb
  · cases hb
  · split at hb
    · cases hb
    · rename_i items _ k st hr; cases hb; exact ⟨items, k, rfl, hr, rfl⟩

theorem bodyStep_map (hb : bodyStep f .map o of oi ov enc nk st1 = .ok (ty, st2)) :
    ∃ values k, ov = some values ∧ registerNode f values enc st1 = .ok (k, st2) ∧
      ty = .map k := by
  simp only [bodyStep] at hb
  split at hb
  · cases hb
  · split at hb
    · cases hb
    · rename_i values _ k st hr; cases hb; exact ⟨values, k, rfl, hr, rfl⟩

theorem bodyStep_enum (hb : bodyStep f .enum o of oi ov enc nk st1 = .ok (ty, st2)) :
    ∃ key syms, nk = some key ∧ o.bind (·.symbols) = some syms ∧
      ty = .enum key.toName syms ∧ st2 = st1 := by
  simp only [bodyStep] at hb
  split at hb
  · cases hb
  · split at hb
    · cases hb
    · rename_i key _ syms hs; cases hb; exact ⟨key, syms, rfl, hs, rfl, rfl⟩

theorem bodyStep_fixed (hb : bodyStep f .fixed o of oi ov enc nk st1 = .ok (ty, st2)) :
    ∃ key size, nk = some key ∧ o.bind (·.size) = some size ∧
      ty = .fixed key.toName size ∧ st2 = st1 := by
  simp only [bodyStep] at hb
  split at hb
  · cases hb
  · split at hb
    · cases hb
    · rename_i key _ size hs; cases hb; exact ⟨key, size, rfl, hs, rfl, rfl⟩

theorem bodyStep_record (hb : bodyStep f .record o of oi ov enc nk st1 = .ok (ty, st2)) :
    ∃ key fields fs, nk = some key ∧ of = some fields ∧
      registerFields f fields key.ns st1 = .ok (fs, st2) ∧ ty = .record key.toName fs := by
  simp only [bodyStep] at hb
  split at hb
  · cases hb
  · split at hb
    · cases hb
    · split at hb
      · cases hb
      · rename_i key _ fields _ fs st hr; cases hb; exact ⟨key, fields, fs, rfl, rfl, hr, rfl⟩

end

/-- the placeholder `register_node` pushes before it descends -/
def PState.reserve (st : PState) : PState :=
  { st with nodes := st.nodes.push { type := .null, logical := none } }

/-- … and its completion -/
def PState.fill (st : PState) (idx : Nat) (ty : PType) (lt : Option LogicalType) : PState :=
  { st with nodes := st.nodes.set! idx { type := ty, logical := lt } }

section
variable (st : PState) (idx : Nat) (ty : PType) (lt : Option LogicalType)
@[simp] theorem PState.reserve_names : st.reserve.names = st.names := rfl
@[simp] theorem PState.reserve_unresolved : st.reserve.unresolved = st.unresolved := rfl
@[simp] theorem PState.reserve_size : st.reserve.nodes.size = st.nodes.size + 1 := by
  simp [PState.reserve]
@[simp] theorem PState.fill_names : (st.fill idx ty lt).names = st.names := rfl
@[simp] theorem PState.fill_unresolved : (st.fill idx ty lt).unresolved = st.unresolved := rfl
@[simp] theorem PState.fill_size : (st.fill idx ty lt).nodes.size = st.nodes.size := by
  simp [PState.fill]
end

/-! ### one level of each of the four functions -/

theorem registerObject_succ (fuel : Nat) (t : RawType) (object : Option RawAttrs)
    (ofields : Option (List (String × RawSchema))) (oitems ovalues : Option RawSchema)
    (enclosing : Option String) (st : PState) :
    registerObject (fuel + 1) t object ofields oitems ovalues enclosing st =
      andThen (nameStep object enclosing st) fun p =>
        andThen (bodyStep fuel t object ofields oitems ovalues enclosing p.1 p.2) fun q =>
          mapOk (logicalStep object) fun lt =>
            (.idx st.nodes.size, q.2.fill st.nodes.size q.1 lt) := by
  have key :
      registerObject (fuel + 1) t object ofields oitems ovalues enclosing st =
        match nameStep object enclosing st with
        | .error e => .error e
        | .ok (nameKey, st1) =>
          match bodyStep fuel t object ofields oitems ovalues enclosing nameKey st1 with
          | .error e => .error e
          | .ok (ty, st2) =>
            match logicalStep object with
            | .error e => .error e
            | .ok lt => .ok (.idx st.nodes.size,
                { st2 with nodes := st2.nodes.set! st.nodes.size { type := ty, logical := lt } }) := by
    simp only [registerObject]
    cases object with
    | none =>
      simp only [nameStep, logicalStep, bodyStep]
      cases t <;> rfl
    | some o =>
      simp only [nameStep, logicalStep]
      cases o.name with
      | none => simp only [bodyStep]; cases t <;> rfl
      | some name =>
        by_cases hd : (List.lookup (defKey name o.nsAttr enclosing) st.names).isSome = true
        · simp only [hd, if_true]
        · simp only [hd, bodyStep]; cases t <;> rfl
  rw [key]
  cases nameStep object enclosing st with
  | error e => rfl
  | ok p =>
    obtain ⟨nk, st1⟩ := p
    show (match bodyStep fuel t object ofields oitems ovalues enclosing nk st1 with
      | .error e => Except.error e | .ok (ty, st2) => _) = andThen (bodyStep _ _ _ _ _ _ _ nk st1) _
    cases bodyStep fuel t object ofields oitems ovalues enclosing nk st1 with
    | error e => rfl
    | ok q => obtain ⟨ty, st2⟩ := q; cases logicalStep object <;> rfl

theorem registerNode_union (f : Nat) (bs : List RawSchema) (enc : Option String) (st : PState) :
    registerNode (f + 1) (.union bs) enc st =
      mapOk (registerList f bs enc st.reserve) fun p =>
        (.idx st.nodes.size, p.2.fill st.nodes.size (.union p.1) none) := by
  rw [registerNode]; unfold mapOk
  show (match registerList f bs enc st.reserve with
    | .error e => Except.error e | .ok (keys, st2) => _) = _
  generalize registerList f bs enc st.reserve = r
  cases r with
  | error e => rfl
  | ok p => obtain ⟨keys, st2⟩ := p; rfl

theorem registerList_cons (f : Nat) (r : RawSchema) (rest : List RawSchema) (enc : Option String)
    (st : PState) :
    registerList (f + 1) (r :: rest) enc st =
      andThen (registerNode f r enc st) fun p =>
        mapOk (registerList f rest enc p.2) fun q => (p.1 :: q.1, q.2) := by
  rw [registerList]
  cases registerNode f r enc st with
  | error e => rfl
  | ok p =>
    obtain ⟨k, st1⟩ := p
    dsimp only [andThen]
    cases registerList f rest enc st1 with
    | error e => rfl
    | ok q => obtain ⟨ks, st2⟩ := q; rfl

theorem registerFields_cons (f : Nat) (name : String) (r : RawSchema)
    (rest : List (String × RawSchema)) (ns : Option String) (st : PState) :
    registerFields (f + 1) ((name, r) :: rest) ns st =
      andThen (registerNode f r ns st) fun p =>
        mapOk (registerFields f rest ns p.2) fun q => ((name, p.1) :: q.1, q.2) := by
  rw [registerFields]
  cases registerNode f r ns st with
  | error e => rfl
  | ok p =>
    obtain ⟨k, st1⟩ := p
    dsimp only [andThen]
    cases registerFields f rest ns st1 with
    | error e => rfl
    | ok q => obtain ⟨fs, st2⟩ := q; rfl


/-- `a.Le b`: `b` is reachable from `a` by registration: nodes are only appended (existing slots
    keep their contents), unresolved references are only appended, name bindings persist. -/
structure PState.Le (a b : PState) : Prop where
  size : a.nodes.size ≤ b.nodes.size
  nodes : ∀ i, i < a.nodes.size → b.nodes[i]? = a.nodes[i]?
  unres : ∃ l, b.unresolved = a.unresolved ++ l
  names : ∀ k i, a.names.lookup k = some i → b.names.lookup k = some i

theorem PState.Le.refl (a : PState) : a.Le a :=
  ⟨Nat.le_refl _, fun _ _ => rfl, ⟨[], by simp⟩, fun _ _ h => h⟩

theorem PState.Le.trans {a b c : PState} (h1 : a.Le b) (h2 : b.Le c) : a.Le c := by
  refine ⟨Nat.le_trans h1.size h2.size, ?_, ?_, fun k i h => h2.names k i (h1.names k i h)⟩
  · intro i hi
    rw [h2.nodes i (Nat.lt_of_lt_of_le hi h1.size), h1.nodes i hi]
  · obtain ⟨l1, e1⟩ := h1.unres
    obtain ⟨l2, e2⟩ := h2.unres
    exact ⟨l1 ++ l2, by rw [e2, e1, List.append_assoc]⟩

theorem nameStep_error {object enc st e} (h : nameStep object enc st = .error e) : e = .custom := by
  unfold nameStep at h
  cases object with
  | none => simp at h
  | some o =>
    cases ho : o.name with
    | none => simp [ho] at h
    | some name =>
      simp only [ho] at h
      split at h
      · cases h; rfl
      · cases h

theorem nameStep_ok {object enc} {st : PState} {nk st1} (h : nameStep object enc st = .ok (nk, st1)) :
    st1.nodes = st.nodes.push { type := .null, logical := none } ∧
    st1.unresolved = st.unresolved ∧
    ((nk = none ∧ st1.names = st.names ∧ (object = none ∨ ∃ o, object = some o ∧ o.name = none)) ∨
     (∃ o name, object = some o ∧ o.name = some name ∧ nk = some (defKey name o.nsAttr enc) ∧
        st.names.lookup (defKey name o.nsAttr enc) = none ∧
        st1.names = (defKey name o.nsAttr enc, st.nodes.size) :: st.names)) := by
  unfold nameStep at h
  cases object with
  | none => simp at h; obtain ⟨rfl, rfl⟩ := h; simp
  | some o =>
    cases ho : o.name with
    | none => simp [ho] at h; obtain ⟨rfl, rfl⟩ := h; simp [ho]
    | some name =>
      simp only [ho] at h
      split at h
      · cases h
      · rename_i hd
        simp only [Except.ok.injEq, Prod.mk.injEq] at h
        obtain ⟨rfl, rfl⟩ := h
        refine ⟨rfl, rfl, Or.inr ⟨o, name, rfl, ho, rfl, ?_, rfl⟩⟩
        cases hl : List.lookup (defKey name o.nsAttr enc) st.names with
        | none => rfl
        | some v => rw [hl] at hd; simp at hd

theorem nameStep_key {o enc} {st : PState} {nk st1} (h : nameStep o enc st = .ok (nk, st1)) :
    nk = (o.bind (·.name)).map (fun nm => defKey nm (o.bind (·.nsAttr)) enc) := by
  obtain ⟨-, -, ⟨rfl, -, rfl | ⟨a, rfl, hn⟩⟩ | ⟨a, name, rfl, hn, rfl, -, -⟩⟩ := nameStep_ok h
  · rfl
  · simp only [Option.bind_some, hn, Option.map_none]
  · simp only [Option.bind_some, hn, Option.map_some]

theorem nameStep_le {object enc} {st : PState} {nk st1} (h : nameStep object enc st = .ok (nk, st1)) :
    st.Le st1 := by
  obtain ⟨hn, hu, hnames⟩ := nameStep_ok h
  refine ⟨by simp [hn], ?_, ⟨[], by simp [hu]⟩, ?_⟩
  · intro i hi; rw [hn, Array.getElem?_push_lt hi]; simp [hi]
  · intro k i hk
    rcases hnames with ⟨-, e, -⟩ | ⟨o, name, -, -, -, hl, e⟩
    · rw [e]; exact hk
    · rw [e, List.lookup_cons]
      by_cases hkk : k = defKey name o.nsAttr enc
      · subst hkk; rw [hl] at hk; cases hk
      · have : (k == defKey name o.nsAttr enc) = false := by simpa using hkk
        simp [this, hk]


theorem PState.Le.set {a b : PState} (h : a.Le b) (idx : Nat) (hidx : a.nodes.size ≤ idx) (v : PNode) :
    a.Le { b with nodes := b.nodes.set! idx v } := by
  refine ⟨by simpa using h.size, ?_, h.unres, h.names⟩
  intro i hi
  have : idx ≠ i := by omega
  simp only [Array.set!_eq_setIfInBounds, Array.getElem?_setIfInBounds_ne this]
  exact h.nodes i hi

theorem PState.Le.push (a : PState) (v : PNode) : a.Le { a with nodes := a.nodes.push v } := by
  refine ⟨by simp, ?_, ⟨[], by simp⟩, fun _ _ h => h⟩
  intro i hi; simp [Array.getElem?_push_lt hi, hi]

theorem registerObject_steps {fuel t object ofields oitems ovalues enc} {st : PState} {k st'}
    (h : registerObject (fuel + 1) t object ofields oitems ovalues enc st = .ok (k, st')) :
    ∃ nk st1 ty st2 lt,
      nameStep object enc st = .ok (nk, st1) ∧
      bodyStep fuel t object ofields oitems ovalues enc nk st1 = .ok (ty, st2) ∧
      logicalStep object = .ok lt ∧
      k = .idx st.nodes.size ∧
      st' = { st2 with nodes := st2.nodes.set! st.nodes.size { type := ty, logical := lt } } := by
  rw [registerObject_succ] at h
  obtain ⟨⟨nk, st1⟩, hn, h⟩ := andThen_ok h
  obtain ⟨⟨ty, st2⟩, hb, h⟩ := andThen_ok h
  obtain ⟨lt, hl, h⟩ := mapOk_ok h
  cases h
  exact ⟨nk, st1, ty, st2, lt, hn, hb, hl, rfl, rfl⟩

theorem registerNode_ref_ok {fuel r enc} {st : PState} {k st'}
    (h : registerNode (fuel + 1) (.ref r) enc st = .ok (k, st')) :
    (∃ i, st.names.lookup (refKey r enc) = some i ∧ k = .idx i ∧ st' = st) ∨
    (st.names.lookup (refKey r enc) = none ∧ k = .pending st.unresolved.length ∧
      st' = { st with unresolved := st.unresolved ++ [refKey r enc] }) := by
  simp only [registerNode] at h
  split at h
  · rename_i i hl; cases h; exact .inl ⟨i, hl, rfl, rfl⟩
  · rename_i hl; cases h; exact .inr ⟨hl, rfl, rfl⟩

theorem registerNode_union_ok {fuel bs enc} {st : PState} {k st'}
    (h : registerNode (fuel + 1) (.union bs) enc st = .ok (k, st')) :
    ∃ keys st2, registerList fuel bs enc
        { st with nodes := st.nodes.push { type := .null, logical := none } } = .ok (keys, st2) ∧
      k = .idx st.nodes.size ∧ st' = { st2 with
        nodes := st2.nodes.set! st.nodes.size { type := .union keys, logical := none } } := by
  rw [registerNode_union] at h
  obtain ⟨⟨keys, st2⟩, hl, h⟩ := mapOk_ok h
  cases h; exact ⟨keys, st2, hl, rfl, rfl⟩

theorem registerList_cons_ok {fuel r rest enc} {st : PState} {ks st'}
    (h : registerList (fuel + 1) (r :: rest) enc st = .ok (ks, st')) :
    ∃ k1 sa ks2, registerNode fuel r enc st = .ok (k1, sa) ∧
      registerList fuel rest enc sa = .ok (ks2, st') ∧ ks = k1 :: ks2 := by
  rw [registerList_cons] at h
  obtain ⟨⟨k1, sa⟩, h1, h⟩ := andThen_ok h
  obtain ⟨⟨ks2, sb⟩, h2, h⟩ := mapOk_ok h
  cases h; exact ⟨k1, sa, ks2, h1, h2, rfl⟩

theorem registerFields_cons_ok {fuel name r rest ns} {st : PState} {fs st'}
    (h : registerFields (fuel + 1) ((name, r) :: rest) ns st = .ok (fs, st')) :
    ∃ k1 sa fs2, registerNode fuel r ns st = .ok (k1, sa) ∧
      registerFields fuel rest ns sa = .ok (fs2, st') ∧ fs = (name, k1) :: fs2 := by
  rw [registerFields_cons] at h
  obtain ⟨⟨k1, sa⟩, h1, h⟩ := andThen_ok h
  obtain ⟨⟨fs2, sb⟩, h2, h⟩ := mapOk_ok h
  cases h; exact ⟨k1, sa, fs2, h1, h2, rfl⟩

theorem mapM_option_none {α β} (f : α → Option β) (l : List α) (k : α) (hk : k ∈ l) (h : f k = none) :
    l.mapM f = none := by
  induction l with
  | nil => cases hk
  | cons a l ih =>
    rw [List.mapM_cons]
    rcases List.mem_cons.mp hk with rfl | hk
    · simp [h]
    · simp [ih hk]

theorem mapM_option_some {α β} (f : α → Option β) (l : List α) (r : List β) (h : l.mapM f = some r) :
    ∀ j : Nat, r[j]? = l[j]?.bind f := by
  induction l generalizing r with
  | nil => simp at h; subst h; simp
  | cons a l ih =>
    rw [List.mapM_cons] at h
    cases ha : f a with
    | none => simp [ha] at h
    | some b =>
      cases hl : l.mapM f with
      | none => simp [ha, hl] at h
      | some r' =>
        simp [ha, hl] at h
        subst h
        intro j
        cases j with
        | zero => simp [ha]
        | succ j => simpa using ih r' hl j



/-! ### states INSIDE an unfinished registration

`PState.Le` relates the states before and after a COMPLETE call of `registerNode` (`Reg.le`).  The
state `a` in which a NESTED node was registered and the FINAL state `b` of the document are NOT
related by `Le`: the slot of every enclosing node is a placeholder in `a`, overwritten when that
node is completed (`NonVacuityD.le_to_final_state_fails`).  Two weaker relations reach the final
state: `a.LeNU b` (the name table and the unresolved references only grow: what the theorems about
references need) and `a.LeExcept op b` (as `Le`, except on the slots `op`, the placeholders of the
nodes in progress in `a`; `Le` is `LeExcept []`).  These are the hypotheses of the one-call
theorems of `Theorems/C07.lean` (`C07_order_independent_ref`, `C07_node_stable`).  The inductions
on `Reg` that speak of the final state carry `PcfSpec.Agree` instead (`Lemmas/RegisterRel.lean`):
agreement from the current node's slot on, which is preserved down the derivation. -/

structure PState.LeNU (a b : PState) : Prop where
  unres : ∃ l, b.unresolved = a.unresolved ++ l
  names : ∀ k i, a.names.lookup k = some i → b.names.lookup k = some i

structure PState.LeExcept (op : List Nat) (a b : PState) : Prop where
  size : a.nodes.size ≤ b.nodes.size
  nodes : ∀ i, i < a.nodes.size → i ∉ op → b.nodes[i]? = a.nodes[i]?
  unres : ∃ l, b.unresolved = a.unresolved ++ l
  names : ∀ k i, a.names.lookup k = some i → b.names.lookup k = some i

theorem PState.LeNU.refl (a : PState) : a.LeNU a := ⟨⟨[], by simp⟩, fun _ _ h => h⟩

theorem PState.LeNU.trans {a b c : PState} (h1 : a.LeNU b) (h2 : b.LeNU c) : a.LeNU c := by
  refine ⟨?_, fun k i h => h2.names k i (h1.names k i h)⟩
  obtain ⟨l1, e1⟩ := h1.unres
  obtain ⟨l2, e2⟩ := h2.unres
  exact ⟨l1 ++ l2, by rw [e2, e1, List.append_assoc]⟩

theorem PState.LeNU.nodes {a b : PState} (h : a.LeNU b) (ns : Array PNode) :
    a.LeNU { b with nodes := ns } := ⟨h.unres, h.names⟩

theorem PState.Le.toLeExcept {a b : PState} (h : a.Le b) : a.LeExcept [] b :=
  ⟨h.size, fun i hi _ => h.nodes i hi, h.unres, h.names⟩

theorem PState.LeExcept.toLe {a b : PState} (h : a.LeExcept [] b) : a.Le b :=
  ⟨h.size, fun i hi => h.nodes i hi (by simp), h.unres, h.names⟩

theorem PState.le_iff_leExcept_nil {a b : PState} : a.Le b ↔ a.LeExcept [] b :=
  ⟨PState.Le.toLeExcept, PState.LeExcept.toLe⟩

theorem PState.LeExcept.toLeNU {op : List Nat} {a b : PState} (h : a.LeExcept op b) : a.LeNU b :=
  ⟨h.unres, h.names⟩

theorem PState.Le.toLeNU {a b : PState} (h : a.Le b) : a.LeNU b := ⟨h.unres, h.names⟩

theorem PState.LeExcept.mono {op op' : List Nat} {a b : PState} (h : a.LeExcept op b)
    (hsub : ∀ i, i ∈ op → i ∈ op') : a.LeExcept op' b :=
  ⟨h.size, fun i hi hn => h.nodes i hi (fun hm => hn (hsub i hm)), h.unres, h.names⟩

theorem PState.LeExcept.trans {o1 o2 : List Nat} {a b c : PState} (h1 : a.LeExcept o1 b)
    (h2 : b.LeExcept o2 c) : a.LeExcept (o1 ++ o2) c := by
  refine ⟨Nat.le_trans h1.size h2.size, ?_, (h1.toLeNU.trans h2.toLeNU).unres,
    fun k i h => h2.names k i (h1.names k i h)⟩
  intro i hi hn
  simp only [List.mem_append, not_or] at hn
  rw [h2.nodes i (Nat.lt_of_lt_of_le hi h1.size) hn.2, h1.nodes i hi hn.1]

theorem PState.LeExcept.set {op : List Nat} {a b : PState} (h : a.LeExcept op b) (idx : Nat)
    (v : PNode) : a.LeExcept (idx :: op) { b with nodes := b.nodes.set! idx v } := by
  refine ⟨by simpa using h.size, ?_, h.unres, h.names⟩
  intro i hi hn
  simp only [List.mem_cons, not_or] at hn
  have : idx ≠ i := fun e => hn.1 e.symm
  simp only [Array.set!_eq_setIfInBounds, Array.getElem?_setIfInBounds_ne this]
  exact h.nodes i hi hn.2

/-- a state inside the body of a node against the state in which the node is completed: the
    node's own slot is the exception -/
theorem registerObject_inner {fuel t object ofields oitems ovalues enc} {st : PState} {k st'}
    (h : registerObject (fuel + 1) t object ofields oitems ovalues enc st = .ok (k, st')) :
    ∃ nk st1 ty st2,
      nameStep object enc st = .ok (nk, st1) ∧
      bodyStep fuel t object ofields oitems ovalues enc nk st1 = .ok (ty, st2) ∧
      ∀ (op : List Nat) (sm : PState), sm.LeExcept op st2 →
        sm.LeExcept (st.nodes.size :: op) st' := by
  obtain ⟨nk, st1, ty, st2, lt, hn, hb, -, -, rfl⟩ := registerObject_steps h
  exact ⟨nk, st1, ty, st2, hn, hb, fun op sm hsm => hsm.set _ _⟩

theorem registerUnion_inner {fuel branches enc} {st : PState} {k st'}
    (h : registerNode (fuel + 1) (.union branches) enc st = .ok (k, st')) :
    ∃ keys st2,
      registerList fuel branches enc
        { st with nodes := st.nodes.push { type := .null, logical := none } } = .ok (keys, st2) ∧
      ∀ (op : List Nat) (sm : PState), sm.LeExcept op st2 →
        sm.LeExcept (st.nodes.size :: op) st' := by
  obtain ⟨keys, st2, hl, -, rfl⟩ := registerNode_union_ok h
  exact ⟨keys, st2, hl, fun op sm hsm => hsm.set _ _⟩

theorem PState.LeNU.of_chain {op : List Nat} {a b c : PState} (h1 : a.LeExcept op b) (h2 : b.LeNU c) :
    a.LeNU c := h1.toLeNU.trans h2


/-- What late resolution makes of a child key, given the final state. -/
def resolveKey (st : PState) : PKey → Nat
  | .idx i => i
  | .pending j => ((st.unresolved[j]?).bind fun k => st.names.lookup k).getD 0

def resolveType (fix : PKey → Nat) : PType → RegularType
  | .null => .null | .boolean => .boolean | .int => .int | .long => .long
  | .float => .float | .double => .double | .bytes => .bytes | .string => .string
  | .array k => .array (fix k)
  | .map k => .map (fix k)
  | .union ks => .union (ks.map fix)
  | .record nm fs => .record nm (fs.map fun (f, k) => (f, fix k))
  | .enum nm syms => .enum nm syms
  | .fixed nm size => .fixed nm size

theorem mapM_option_isSome {α β} (f : α → Option β) (l : List α)
    (h : ∀ k ∈ l, (f k).isSome) : ∃ r, l.mapM f = some r := by
  induction l with
  | nil => exact ⟨[], by simp⟩
  | cons a l ih =>
    obtain ⟨r, hr⟩ := ih fun k hk => h k (List.mem_cons_of_mem _ hk)
    obtain ⟨b, hb⟩ := Option.isSome_iff_exists.mp (h a List.mem_cons_self)
    exact ⟨b :: r, by rw [List.mapM_cons]; simp [hb, hr]⟩

theorem resolveKeys_ok {st : PState} {S : SchemaMut} (h : resolveKeys st = .ok S) :
    S = st.nodes.map fun n =>
      { logical := n.logical, type := resolveType (resolveKey st) n.type } := by
  unfold resolveKeys at h
  cases hm : st.unresolved.mapM (fun k => st.names.lookup k) with
  | none => rw [hm] at h; cases h
  | some resolved =>
    rw [hm] at h
    simp only [Except.ok.injEq] at h
    subst h
    have hfix : ∀ k : PKey, (match k with | .idx i => i | .pending j => resolved[j]?.getD 0) =
        resolveKey st k := by
      intro k
      cases k with
      | idx i => rfl
      | pending j => simp only [resolveKey, mapM_option_some _ _ _ hm j]
    congr 1
    funext n
    cases n with
    | mk ty lg =>
      simp only [RawNode.mk.injEq, and_true]
      cases ty <;> simp only [resolveType]
      · exact congrArg RegularType.array (hfix _)
      · exact congrArg RegularType.map (hfix _)
      · exact congrArg RegularType.union (List.map_congr_left fun k _ => hfix k)
      · exact congrArg (RegularType.record _)
          (List.map_congr_left fun p _ => congrArg (Prod.mk p.1) (hfix p.2))



theorem countP_lt_of {α : Type} (p q : α → Bool) (l : List α)
    (hqp : ∀ x ∈ l, q x = true → p x = true) (a : α) (ha : a ∈ l) (hpa : p a = true)
    (hqa : q a = false) : l.countP q + 1 ≤ l.countP p := by
  induction l with
  | nil => cases ha
  | cons x xs ih =>
    simp only [List.countP_cons]
    have hmono : xs.countP q ≤ xs.countP p :=
      List.countP_mono_left fun y hy => hqp y (List.mem_cons_of_mem _ hy)
    rcases List.mem_cons.mp ha with rfl | hx
    · simp only [hpa, hqa, if_true]
      simp only [Bool.false_eq_true, if_false]; omega
    · have := ih (fun y hy => hqp y (List.mem_cons_of_mem _ hy)) hx
      have hx' := hqp x (List.mem_cons_self)
      by_cases hq : q x = true
      · simp only [hq, hx' hq, if_true]; omega
      · have e : (if q x = true then 1 else 0) = 0 := by simp [hq]
        rw [e]; omega

theorem le_foldl_max (l : List Nat) (a : Nat) : a ≤ l.foldl max a ∧ ∀ x ∈ l, x ≤ l.foldl max a := by
  induction l generalizing a with
  | nil => simp
  | cons b l ih =>
    simp only [List.foldl_cons]
    obtain ⟨h1, h2⟩ := ih (max a b)
    refine ⟨by omega, ?_⟩
    intro x hx
    rcases List.mem_cons.mp hx with rfl | hx
    · omega
    · exact h2 x hx

end Avro.Impl
