import AvroModel.Spec.Denotes
import AvroModel.Lemmas.SerWrites
/-
The walk over `ser` for an arbitrary representation relation: what is assumed, and the judgements.

C02 (what `ser` writes DECODES to a value the presentation denotes) and C01 (on canonical
presentations it IS `Spec.encode` of that value) are the same induction over the presentation.  It
is done once (`ser_repr`, Lemmas/SerReprWalk.lean, one lemma per arm of `ser`), for a relation
`D n bytes v` ("`bytes` represent `v` at node `n`") and a condition `OK` on schema nodes that
satisfy `Representation`.
-/
namespace Avro
open Avro.Spec Avro.Impl

/-! ### Hypotheses on the external functions, the schema and the presentation -/

def denExtOf (ext : Ext) : DenExt :=
  { asF32 := ext.asF32, decFromF64 := ext.decFromF64, decParse := ext.decParse,
    decRescale := ext.decRescale }

/-- What is assumed of `rust_decimal`: a mantissa fits `i128` (it has 96 bits), a scale fits a `long`
    (it is at most 28).  `rescale` is conditional on its argument fitting `i128`: only values from
    `decParse`/`decFromF64` are rescaled, and the test driver's `ExtTable.toExt` satisfies this form
    only (`Theorems.toExt_ExtOK`). -/
structure ExtOK (ext : Ext) : Prop where
  rescale : ∀ d scale, inI128 d.1 = true → inI128 (ext.decRescale d scale).1 = true
  fromF64 : ∀ b d, ext.decFromF64 b = some d → inI128 d.1 = true ∧ d.2 < 2 ^ 63
  parse : ∀ s d, ext.decParse s = some d → inI128 d.1 = true ∧ d.2 < 2 ^ 63

def nodeNamesDistinct : Node → Bool
  | .record _ fs => decide (fs.map (·.1)).Nodup
  | .enum _ syms => decide syms.Nodup
  | _ => true

def schemaNamesDistinct (S : Schema) : Bool := S.all nodeNamesDistinct

/-- every count the encoder writes as a `long` fits a `long` -/
def nodeSmall : Node → Bool
  | .union vs => decide (vs.length < 2 ^ 63)
  | .enum _ syms => decide (syms.length < 2 ^ 63)
  | _ => true

def schemaSmall (S : Schema) : Bool := S.all nodeSmall

/-- Avro: "Unions may not immediately contain other unions." -/
def nodeNoNestedUnion (S : Schema) : Node → Bool
  | .union vs => vs.all fun k => match S[k]? with
    | some (.union _) => false
    | _ => true
  | _ => true

def schemaNoNestedUnion (S : Schema) : Bool := S.all (nodeNoNestedUnion S)

structure NodeOK (S : Schema) (n : Node) : Prop where
  children : ∀ k ∈ n.children, k < S.size
  distinct : nodeNamesDistinct n = true
  small : nodeSmall n = true
  nonest : nodeNoNestedUnion S n = true

def SchemaOK (S : Schema) : Prop := ∀ (k : Nat) (n : Node), S[k]? = some n → NodeOK S n

theorem SchemaOK.child {S : Schema} {n : Node} (hn : NodeOK S n) {k : Nat}
    (hk : k ∈ n.children) : ∃ c, S[k]? = some c := by
  have := hn.children k hk
  exact ⟨S[k], by simp [this]⟩

theorem SchemaOK.of_checks {S : Schema} (h1 : S.keysInBounds = true)
    (h2 : schemaNamesDistinct S = true) (h3 : schemaSmall S = true)
    (h4 : schemaNoNestedUnion S = true) : SchemaOK S := by
  intro k n hk
  exact ⟨Schema.children_lt h1 hk, all_of_getElem? h2 hk, all_of_getElem? h3 hk,
    all_of_getElem? h4 hk⟩

/-- Top-level node: checked like the nodes of `S`. -/
def nodeOKb (S : Schema) (n : Node) : Bool :=
  n.children.all (· < S.size) && nodeNamesDistinct n && nodeSmall n && nodeNoNestedUnion S n

theorem NodeOK.of_check {S : Schema} {n : Node} (h : nodeOKb S n = true) :
    NodeOK S n := by
  simp only [nodeOKb, Bool.and_eq_true] at h
  obtain ⟨⟨⟨h1, h2⟩, h3⟩, h4⟩ := h
  exact ⟨by simpa using h1, h2, h3, h4⟩

theorem NodeOK.string {S : Schema} : NodeOK S .string :=
  ⟨by simp [Node.children], rfl, rfl, rfl⟩

mutual
/-- A presentation a Rust program can produce: integers lie in the range of their type, every
    length is below `2 ^ 63` (`isize::MAX`). -/
def svOK : SV → Bool
  | .bool _ | .f32 _ | .f64 _ | .none | .unit | .char _ => true
  | .int t v => t.inRange v
  | .str s => decide ((utf8 s).length < 2 ^ 63)
  | .bytes b => decide (b.length < 2 ^ 63)
  | .some v => svOK v
  | .unitStruct name => decide ((utf8 name).length < 2 ^ 63)
  | .unitVariant _ _ variant => decide ((utf8 variant).length < 2 ^ 63)
  | .newtypeStruct _ v => svOK v
  | .newtypeVariant _ _ _ v => svOK v
  | .seq _ elems => decide (elems.length < 2 ^ 63) && svOKList elems
  | .tuple elems => decide (elems.length < 2 ^ 63) && svOKList elems
  | .tupleStruct _ elems => decide (elems.length < 2 ^ 63) && svOKList elems
  | .tupleVariant _ _ _ elems => decide (elems.length < 2 ^ 63) && svOKList elems
  | .map _ entries => decide (entries.length < 2 ^ 63) && svOKEntries entries
  | .struct _ fields => decide (fields.length < 2 ^ 63) && svOKFields fields
  | .structVariant _ _ _ fields => decide (fields.length < 2 ^ 63) && svOKFields fields
def svOKList : List SV → Bool
  | [] => true
  | e :: es => svOK e && svOKList es
def svOKFields : List (String × SV) → Bool
  | [] => true
  | (name, v) :: rest => decide ((utf8 name).length < 2 ^ 63) && svOK v && svOKFields rest
def svOKEntries : List (SV × SV) → Bool
  | [] => true
  | (k, v) :: rest => svOK k && svOK v && svOKEntries rest
end

namespace Canon

/-- Which presentations with a possibly non-canonical layout may occur; each permission excludes
    the kind of schema node on which the layout would not be canonical (`nodeAllows`).
    `{}` (everything `false`) puts no condition on the schema. -/
structure Allow where
  /-- negative integers (not canonical on a `decimal` on `bytes`) -/
  negInt : Bool := false
  /-- `seq` whose advertised length does not cover its elements (not canonical on an `array`) -/
  openSeq : Bool := false
  /-- `map` whose advertised length does not cover its entries (not canonical on a `map`) -/
  openMap : Bool := false
  deriving DecidableEq, Repr

/-- The block writer, started with the advertised length `L` (`len.unwrap_or(0)`), writes ONE
    block for `n` elements exactly in these cases (with `n < L` the call fails): the length covers
    the elements, or nothing was advertised and there is a single element. -/
def lenCovers (L n : Nat) : Bool := decide (n ≤ L) || (L == 0 && n == 1)

theorem lenCovers_iff {L n : Nat} : lenCovers L n = true ↔ n ≤ L ∨ (L = 0 ∧ n = 1) := by
  simp [lenCovers]

mutual
/-- Presentations on which the serializer's layout is the canonical one, up to the permissions `nb`:
    every `seq`/`map` advertises a length that covers its elements (one block), no integer is negative. -/
def svCanon (nb : Allow) : SV → Bool
  | .bool _ | .f32 _ | .f64 _ | .none | .unit | .char _ | .str _ | .bytes _ => true
  | .unitStruct _ | .unitVariant _ _ _ => true
  | .int _ v => nb.negInt || decide (0 ≤ v)
  | .some v => svCanon nb v
  | .newtypeStruct _ v => svCanon nb v
  | .newtypeVariant _ _ _ v => svCanon nb v
  | .seq len elems => (nb.openSeq || lenCovers (len.getD 0) elems.length) && svCanonList nb elems
  | .tuple elems => svCanonList nb elems
  | .tupleStruct _ elems => svCanonList nb elems
  | .tupleVariant _ _ _ elems => svCanonList nb elems
  | .map len entries =>
    (nb.openMap || lenCovers (len.getD 0) entries.length) && svCanonEntries nb entries
  | .struct _ fields => svCanonFields nb fields
  | .structVariant _ _ _ fields => svCanonFields nb fields
def svCanonList (nb : Allow) : List SV → Bool
  | [] => true
  | e :: es => svCanon nb e && svCanonList nb es
def svCanonFields (nb : Allow) : List (String × SV) → Bool
  | [] => true
  | (_, v) :: rest => svCanon nb v && svCanonFields nb rest
def svCanonEntries (nb : Allow) : List (SV × SV) → Bool
  | [] => true
  | (k, v) :: rest => svCanon nb k && svCanon nb v && svCanonEntries nb rest
end

end Canon

/-! ### Representation relations -/

/-- What the block writer emits for items with the encodings `es` when `c` items are left in the
    current block: an item beyond the block gets a block of its own. -/
def blockBytes : Nat → List Bytes → Bytes
  | _, [] => []
  | 0, e :: es => encodeLong 1 ++ (e ++ blockBytes 0 es)
  | c + 1, e :: es => e ++ blockBytes c es

/-- `BlockWriter::signal_next_record` with `c` items left in the block leaves `c1`, after writing
    `hdr`: nothing inside a block, the header of a block of one item when the block is used up -/
def Signalled (c c1 : Nat) (hdr : Bytes) : Prop :=
  (c = 0 ∧ c1 = 0 ∧ hdr = encodeLong 1) ∨ (c = c1 + 1 ∧ hdr = [])

theorem Signalled.blockBytes {c c1 : Nat} {hdr : Bytes} (h : Signalled c c1 hdr) (e : Bytes)
    (es : List Bytes) : blockBytes c (e :: es) = hdr ++ (e ++ blockBytes c1 es) := by
  rcases h with ⟨rfl, rfl, rfl⟩ | ⟨rfl, rfl⟩ <;> simp [Avro.blockBytes]

theorem Signalled.sub {c c1 : Nat} {hdr : Bytes} (h : Signalled c c1 hdr) (n : Nat) :
    c - (n + 1) = c1 - n := by
  rcases h with ⟨rfl, rfl, _⟩ | ⟨rfl, _⟩ <;> omega

/-- all that is written on an array or map node when the length `L` was advertised -/
def blocksOf (L : Nat) (es : List Bytes) : Bytes :=
  (if L > 0 then encodeLong L else []) ++ (blockBytes L es ++ [0])

def EntryRep (D : Node → Bytes → Value → Prop) (item : Node) (ve : (String × Value) × Bytes) :
    Prop :=
  ∃ bk be, ve.2 = bk ++ be ∧ D .string bk (.string ve.1.1) ∧ D item be ve.1.2

/-- `D` contains `Spec.encode` and is closed under union, record, array and map.  The layouts that
    are decodable without being canonical — a mantissa with redundant sign bytes, several blocks in
    an array or map — have to be accepted only when `nb` lets a presentation produce them.
    Instances: `Dec.representation` (Lemmas/SerDecodable.lean), `Canon.representation`
    (Lemmas/SerCanonical.lean). -/
structure Representation (nb : Canon.Allow) (S : Schema) (OK : Node → Prop)
    (D : Node → Bytes → Value → Prop) : Prop where
  ok : ∀ {n}, OK n → NodeOK S n
  schema : ∀ (k : Nat) (n : Node), S[k]? = some n → OK n
  str : OK .string
  of_encode : ∀ {n v b}, encode S n v = some b → D n b v
  string_inv : ∀ {b v}, D .string b v → ∃ k, v = .string k
  union : ∀ {vs : List Nat} {d k : Nat} {n : Node} {b : Bytes} {y : Value}, vs[d]? = some k →
    S[k]? = some n → d < 2 ^ 63 → D n b y → D (.union vs) (encodeLong d ++ b) (.union d y)
  decimalNeg : nb.negInt = true → ∀ {scale prec : Nat} {m : Bytes},
    OK (.decimal scale prec .bytes) → m.length ≤ 16 →
    D (.decimal scale prec .bytes) (lenPrefixed m) (.decimal (fromTwosComplementBE m))
  record : ∀ {nm : Name} {fields : List (String × Nat)} {ves : List (Value × Bytes)},
    ves.length = fields.length →
    (∀ (i : Nat) (f : String × Nat) (ve : Value × Bytes), fields[i]? = some f → ves[i]? = some ve →
      ∃ fnode, S[f.2]? = some fnode ∧ D fnode ve.2 ve.1) →
    D (.record nm fields) (ves.flatMap (·.2)) (.record (ves.map (·.1)))
  array : ∀ {k : Nat} {item : Node} {L : Nat} {ves : List (Value × Bytes)}, OK (.array k) →
    S[k]? = some item → L ≤ ves.length → ves.length < 2 ^ 63 →
    nb.openSeq = true ∨ Canon.lenCovers L ves.length = true →
    (∀ ve ∈ ves, D item ve.2 ve.1) →
    D (.array k) (blocksOf L (ves.map (·.2))) (.array (ves.map (·.1)))
  map : ∀ {k : Nat} {item : Node} {L : Nat} {ves : List ((String × Value) × Bytes)}, OK (.map k) →
    S[k]? = some item → L ≤ ves.length → ves.length < 2 ^ 63 →
    nb.openMap = true ∨ Canon.lenCovers L ves.length = true →
    (∀ ve ∈ ves, EntryRep D item ve) →
    D (.map k) (blocksOf L (ves.map (·.2))) (.map (ves.map (·.1)))

/-! ### `Res`, and `viaUnion`/`viaName` around a call -/

def Impl.Node.isUnion : Node → Bool
  | .union _ => true
  | _ => false

theorem Impl.Node.eq_union_of_isUnion {n : Node} (h : ¬ n.isUnion = false) : ∃ vs, n = .union vs := by
  cases n <;> simp [Node.isUnion] at h; exact ⟨_, rfl⟩

theorem viaUnion_nonunion {α : Type} (S : Schema) (n : Node) (key : LookupKey) (f : Node → SerM α)
    (h : n.isUnion = false) : viaUnion S n key f = f n := by
  cases n <;> first | rfl | simp [Node.isUnion] at h

theorem viaName_nonunion {α : Type} (S : Schema) (n : Node) (name : String) (f : Node → SerM α)
    (h : n.isUnion = false) : viaName S n name f = f n := by
  cases n <;> first | rfl | simp [Node.isUnion] at h

/-- The run of `m` from `s` succeeds in a good state, having appended bytes that represent, at
    node `n`, some value `v` with `Q v`. -/
def Res (D : Node → Bytes → Value → Prop) (n : Node) (m : SerM Unit) (s : SerState)
    (Q : Value → Prop) : Prop :=
  ∃ s' v bytes, m s = (.ok (), s') ∧ s'.out = s.out ++ bytes ∧ Good s' ∧ D n bytes v ∧ Q v

theorem Res.mono {D : Node → Bytes → Value → Prop} {n : Node} {m : SerM Unit} {s : SerState}
    {Q Q' : Value → Prop} (h : Res D n m s Q) (hq : ∀ v, Q v → Q' v) : Res D n m s Q' := by
  obtain ⟨s', v, bytes, h1, h2, h3, h4, h5⟩ := h
  exact ⟨s', v, bytes, h1, h2, h3, h4, hq v h5⟩

theorem Good.append {s : SerState} (hs : Good s) (bs : Bytes) : Good { s with out := s.out ++ bs } :=
  hs

theorem Res.of_leaf {D : Node → Bytes → Value → Prop} {n : Node} {m : SerM Unit} {s : SerState}
    {Q : Value → Prop} (hs : Good s)
    (h : ∃ v bytes, m s = (.ok (), { s with out := s.out ++ bytes }) ∧ D n bytes v ∧ Q v) :
    Res D n m s Q := by
  obtain ⟨v, bytes, h1, h2, h3⟩ := h
  exact ⟨_, v, bytes, h1, rfl, hs.append bytes, h2, h3⟩

theorem viaUnion_bind {α β : Type} (S : Schema) (node : Node) (key : LookupKey) (f : Node → SerM α)
    (g : α → SerM β) :
    (viaUnion S node key f >>= g) = viaUnion S node key (fun n => f n >>= g) := by
  cases node <;> try rfl
  rename_i vs
  rw [viaUnion_union_eq, viaUnion_union_eq]
  cases unnamedLookup key (branchNodes S vs) with
  | none => rfl
  | some d => exact viaBranch_bind S vs d f g

theorem viaName_bind {α β : Type} (S : Schema) (node : Node) (name : String) (f : Node → SerM α)
    (g : α → SerM β) :
    (viaName S node name f >>= g) = viaName S node name (fun n => f n >>= g) := by
  cases node <;> try rfl
  rename_i vs
  rw [viaName_union_eq, viaName_union_eq]
  cases namedLookup name (branchNodes S vs) with
  | none => rfl
  | some d => exact viaBranch_bind S vs d f g

section
variable {nb : Canon.Allow} {S : Schema} {OK : Node → Prop} {D : Node → Bytes → Value → Prop}

theorem union_branch_of_lookup {vs : List Nat} {key : LookupKey} {d k : Nat}
    {n : Node} (hl : unnamedLookup key (branchNodes S vs) = some d) (hk : vs[d]? = some k)
    (hn : S[k]? = some n) : n.isUnion = false ∧ n.priorityFor key ≠ none := by
  obtain ⟨n', p, hn', hp⟩ := unnamedLookup_some hl
  rw [branchNodes_getElem?, hk] at hn'
  simp [hn] at hn'
  subst hn'
  constructor
  · cases n <;> first | rfl | cases hp
  · simp [hp]

theorem Representation.union_small (F : Representation nb S OK D) {vs : List Nat} (hn : OK (.union vs)) :
    vs.length < 2 ^ 63 := by
  simpa [nodeSmall] using (F.ok hn).small

theorem Representation.null_lookup (F : Representation nb S OK D) {vs : List Nat}
    (hn : OK (.union vs)) {d : Nat} (hl : unnamedLookup .null (branchNodes S vs) = some d) :
    ∃ k, vs[d]? = some k ∧ S[k]? = some .null := by
  have hd : d < vs.length := by have := unnamedLookup_lt hl; rwa [branchNodes_length] at this
  have hkb : vs[d] < S.size := (F.ok hn).children _ (by simp [Node.children])
  have hbn := unnamedLookup_null_get hl
  rw [branchNodes_getElem?, List.getElem?_eq_getElem hd] at hbn
  exact ⟨vs[d], List.getElem?_eq_getElem hd, by simpa [Array.getElem?_eq_getElem hkb] using hbn⟩

end

theorem Representation.res_branch {nb : Canon.Allow} {S : Schema} {OK : Node → Prop}
    {D : Node → Bytes → Value → Prop} (F : Representation nb S OK D) {vs : List Nat} {d k : Nat}
    {n : Node} (hnu : OK (.union vs))
    (hk : vs[d]? = some k) (hnk : S[k]? = some n) {m : SerM Unit} {f : SerM Unit} {s : SerState}
    (he : m s = f { s with out := s.out ++ encodeVarI64 d }) {Q : Value → Prop}
    (h : Res D n f { s with out := s.out ++ encodeVarI64 d } Q) :
    Res D (.union vs) m s (fun v => ∃ y, v = .union d y ∧ Q y) := by
  have hd63 : d < 2 ^ 63 :=
    Nat.lt_trans (List.getElem?_eq_some_iff.1 hk).1 (F.union_small hnu)
  obtain ⟨s', v, bytes, hrun, hout, hgood, hdec, hq⟩ := h
  refine ⟨s', .union d v, encodeLong d ++ bytes, he.trans hrun, ?_, hgood,
    F.union hk hnk hd63 hdec, v, rfl, hq⟩
  rw [hout, encodeVarI64_eq_spec _ (inI64_of_lt hd63)]; simp

/-- `Q` holds at `node` itself or, `node` being a union, of the content of `v` at the branch it
    selects (a node that is not a union) -/
def AtBranch (S : Schema) (Q : Node → Value → Prop) (node : Node) (v : Value) : Prop :=
  (node.isUnion = false ∧ Q node v) ∨
  ∃ vs d k n y, node = .union vs ∧ v = .union d y ∧ vs[d]? = some k ∧ S[k]? = some n ∧
    n.isUnion = false ∧ Q n y

/-- the same after `viaName`: the branch, if there is one, is the one the by-name lookup finds -/
def AtNamed (S : Schema) (name : String) (Q : Node → Value → Prop) (node : Node) (v : Value) :
    Prop :=
  ((node.isUnion = false ∨ ∃ vs, node = .union vs ∧ namedLookup name (branchNodes S vs) = none)
    ∧ Q node v) ∨
  ∃ vs d k n y, node = .union vs ∧ namedLookup name (branchNodes S vs) = some d ∧
    v = .union d y ∧ vs[d]? = some k ∧ S[k]? = some n ∧ n.isUnion = false ∧ Q n y

section
variable {nb : Canon.Allow} {S : Schema} {OK : Node → Prop} {D : Node → Bytes → Value → Prop}
  (F : Representation nb S OK D) {node : Node} (hn : OK node)
include F hn

theorem viaUnion_sound (key : LookupKey) (f : Node → SerM Unit) (Q : Node → Value → Prop)
    (s : SerState) (hs : Good s)
    (hf : ∀ n s, Good s → n.isUnion = false → OK n → (f n s).1 = .ok () → Res D n (f n) s (Q n))
    (hok : (viaUnion S node key f s).1 = .ok ()) :
    Res D node (viaUnion S node key f) s (AtBranch S Q node) := by
  by_cases hu : node.isUnion = false
  · rw [viaUnion_nonunion S node key f hu] at hok ⊢
    exact (hf node s hs hu hn hok).mono fun v hv => Or.inl ⟨hu, hv⟩
  · obtain ⟨vs, rfl⟩ := Node.eq_union_of_isUnion hu
    rcases viaUnion_union S vs key f s hs.1 with ⟨_, he⟩ | ⟨d, k, hl, hd, hk, hcase⟩
    · rw [he] at hok; simp at hok
    · rcases hcase with ⟨_, he⟩ | ⟨n, hnk, he⟩
      · rw [he] at hok; simp at hok
      · rw [he] at hok
        have hnu := (union_branch_of_lookup hl hk hnk).1
        exact (F.res_branch hn hk hnk he
          (hf n _ (hs.append _) hnu (F.schema k n hnk) hok)).mono
          fun v ⟨y, hv, hq⟩ => Or.inr ⟨vs, d, k, n, y, rfl, hv, hk, hnk, hnu, hq⟩

theorem viaName_sound (name : String) (f : Node → SerM Unit) (Q : Node → Value → Prop)
    (s : SerState) (hs : Good s)
    (hf : ∀ n s, Good s → OK n → (f n s).1 = .ok () → Res D n (f n) s (Q n))
    (hok : (viaName S node name f s).1 = .ok ()) :
    Res D node (viaName S node name f) s (AtNamed S name Q node) := by
  by_cases hu : node.isUnion = false
  · rw [viaName_nonunion S node name f hu] at hok ⊢
    exact (hf node s hs hn hok).mono fun v hv => Or.inl ⟨Or.inl hu, hv⟩
  · obtain ⟨vs, rfl⟩ := Node.eq_union_of_isUnion hu
    rcases viaName_union S vs name f s hs.1 with ⟨hl, he⟩ | ⟨d, k, hl, hd, hk, hcase⟩
    · rw [he] at hok
      unfold Res
      rw [he]
      exact (hf _ s hs hn hok).mono fun v hv => Or.inl ⟨Or.inr ⟨vs, rfl, hl⟩, hv⟩
    · rcases hcase with ⟨_, he⟩ | ⟨n, hnk, he⟩
      · rw [he] at hok; simp at hok
      · rw [he] at hok
        have hnu : n.isUnion = false := by
          have hnn := (F.ok hn).nonest
          simp only [nodeNoNestedUnion, List.all_eq_true] at hnn
          have := hnn k (List.mem_of_getElem? hk)
          rw [hnk] at this
          cases n <;> first | rfl | simp at this
        exact (F.res_branch hn hk hnk he (hf n _ (hs.append _) (F.schema k n hnk) hok)).mono
          fun v ⟨y, hv, hq⟩ => Or.inr ⟨vs, d, k, n, y, rfl, hl, hv, hk, hnk, hnu, hq⟩

end

/-! ### Leaf calls -/

/-- `denotes` on a presentation that is not a container -/
def denotesAtLeaf (ext : DenExt) (S : Schema) (n : Node) (sv : SV) (v : Value) : Bool :=
  match n with
  | .union _ =>
    (match unionBranch S n v with
      | some (_, branch, y) => denotesLeaf ext branch sv y
      | none => false)
  | _ => denotesLeaf ext n sv v

theorem denotesAtLeaf_nonunion (ext : DenExt) (S : Schema) (n : Node) (sv : SV) (v : Value)
    (h : n.isUnion = false) : denotesAtLeaf ext S n sv v = denotesLeaf ext n sv v := by
  cases n <;> first | rfl | simp [Node.isUnion] at h

/-- What the lemma of a leaf arm proves by cases on the node, which is not a union: a successful
    call appends bytes that represent a value the presentation denotes there.  `viaUnion_leaf`
    makes it a `Res` at any node. -/
def LeafRes (D : Node → Bytes → Value → Prop) (ext : DenExt) (n : Node) (sv : SV) (m : SerM Unit)
    (s : SerState) : Prop :=
  (m s).1 = .ok () →
    ∃ v bytes, m s = (.ok (), { s with out := s.out ++ bytes }) ∧ D n bytes v ∧
      denotesLeaf ext n sv v = true

theorem denotesAtLeaf_of_atBranch {ext : DenExt} {S : Schema} {node : Node} {sv : SV} {v : Value}
    (h : AtBranch S (fun n y => denotesLeaf ext n sv y = true) node v) :
    denotesAtLeaf ext S node sv v = true := by
  rcases h with ⟨hu, hq⟩ | ⟨vs, d, k, n, y, rfl, rfl, hk, hnk, _, hq⟩
  · rw [denotesAtLeaf_nonunion _ _ _ _ _ hu]; exact hq
  · simp [denotesAtLeaf, unionBranch, hk, hnk, hq]

theorem viaUnion_leaf {nb : Canon.Allow} {S : Schema} {OK : Node → Prop}
    {D : Node → Bytes → Value → Prop} (F : Representation nb S OK D) {ext : DenExt} {node : Node}
    (hn : OK node) (key : LookupKey) (f : Node → SerM Unit) (sv : SV) (s : SerState) (hs : Good s)
    (hf : ∀ n s, s.budget = none → n.isUnion = false → OK n → LeafRes D ext n sv (f n) s)
    (hok : (viaUnion S node key f s).1 = .ok ()) :
    Res D node (viaUnion S node key f) s (fun v => denotesAtLeaf ext S node sv v = true) :=
  (viaUnion_sound F hn key f (fun n y => denotesLeaf ext n sv y = true) s hs
    (fun n s hs hu hn hok => Res.of_leaf hs (hf n s hs.1 hu hn hok)) hok).mono
    fun _ => denotesAtLeaf_of_atBranch

/-- What `ser_repr` proves of a presentation `sv`: at every `OK` node and from every good state, a
    successful `ser … sv` appends bytes that represent a value `sv` denotes.  Its two readings:
    `ser_sound_aux` (C02), `Canon.ser_canon_aux` (C01). -/
def Sound (D : Node → Bytes → Value → Prop) (OK : Node → Prop) (ext : Ext) (a : Bool) (S : Schema)
    (sv : SV) : Prop :=
  ∀ node s, OK node → Good s → (ser ext a S node sv s).1 = .ok () →
    Res D node (ser ext a S node sv) s (fun v => denotes (denExtOf ext) S node sv v = true)

theorem Sound.run {D : Node → Bytes → Value → Prop} {OK : Node → Prop} {ext : Ext} {a : Bool}
    {S : Schema} {sv : SV} (h : Sound D OK ext a S sv) {node : Node} (hn : OK node) {s : SerState}
    (hs : Good s) {u : Unit} {s' : SerState} (hrun : ser ext a S node sv s = (.ok u, s')) :
    ∃ v bytes, s'.out = s.out ++ bytes ∧ Good s' ∧ D node bytes v ∧
      denotes (denExtOf ext) S node sv v = true := by
  obtain ⟨s2, v, bytes, h1, h2, h3, h4, h5⟩ := h node s hn hs (by rw [hrun])
  rw [hrun] at h1
  simp only [Prod.mk.injEq, true_and] at h1
  subst h1
  exact ⟨v, bytes, h2, h3, h4, h5⟩

end Avro
