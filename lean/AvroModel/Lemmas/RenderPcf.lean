import AvroModel.Lemmas.Renders
/-
C09 (global): the JSON the renderer writes for a node graph, read by the specification's own
transformation into Parsing Canonical Form, is the text the canonical-form writer computes from
the graph.

`canon_of_renders`, by induction on `Renders`: `canon` of the written document is the canonical
tree of the graph (`CanonTree`), and `scan` accepts it, given the fullnames `D` of the named nodes
written so far.  The writer `pcf` comes in only through `canonicalForm_of_canonTree`.  (The last
section relates the states of the two writers, `Inv`; nothing uses it.)
-/
namespace Avro.RenderPcf
open Avro Avro.Impl Avro.Spec Avro.Spec.Pcf Avro.RenderValid

def NamesWF (S : SchemaMut) : Prop :=
  ∀ (i : Nat) (node : RawNode) (nm : Name),
    S[i]? = some node → nameOf node.type = some nm → NameWF nm

/-- `NamesWF` of the nodes reachable from the root: what the walks over `Renders` need -/
def ReachNamesWF (S : SchemaMut) : Prop :=
  ∀ (i : Nat) (node : RawNode) (nm : Name),
    Reach S i → S[i]? = some node → nameOf node.type = some nm → NameWF nm

theorem NamesWF.reach {S : SchemaMut} (h : NamesWF S) : ReachNamesWF S :=
  fun i node nm _ => h i node nm

def Defs (S : SchemaMut) (W : List Nat) (D : List Fullname) : Prop :=
  ∀ (i : Nat) (node : RawNode) (nm : Name),
    S[i]? = some node → nameOf node.type = some nm → i ∈ W → (nm.ns, nm.short) ∈ D

theorem Defs.define {S : SchemaMut} {W : List Nat} {D : List Fullname} (h : Defs S W D)
    {k : Nat} {node : RawNode} {nm : Name} (hk : S[k]? = some node)
    (hn : nameOf node.type = some nm) : Defs S (k :: W) ((nm.ns, nm.short) :: D) := by
  intro i n nm' hi hn' hmem
  rcases List.mem_cons.mp hmem with rfl | hm
  · rw [hk] at hi; cases hi; rw [hn] at hn'; cases hn'
    exact List.mem_cons_self
  · exact List.mem_cons_of_mem _ (h i n nm' hi hn' hm)

theorem canon_of_renders {S : SchemaMut} (hwf : ReachNamesWF S) {n : Nat} {W W' : List Nat}
    {ns : Option String} {job : WalkJob} {doc : WalkDoc} (h : Renders S n W ns job doc W') :
    ∀ D, Defs S W D →
    match job, doc with
    | .node k, .one j => ∃ c D', canon ns j = some c ∧ scan ns j D = some D' ∧ Defs S W' D' ∧
        CanonTree S n W (.node k) (.one c) W'
    | .list ks, .many js => ∃ cs D', canonList ns js = some cs ∧ scanList ns js D = some D' ∧
        Defs S W' D' ∧ CanonTree S n W (.list ks) (.many cs) W'
    | .fields fs, .many js => ∃ cs D', canonFields ns js = some cs ∧
        scanFields ns js D = some D' ∧ Defs S W' D' ∧ CanonTree S n W (.fields fs) (.many cs) W'
    | _, _ => True := by
  induction h with
  | @prim W ns k node t _ hk hp =>
    intro D hD
    have hprim := primText_isPrimitive hp
    refine ⟨.str t, D, ?_, ?_, hD, .prim hk hp⟩
    · cases hl : node.logical with
      | none => exact canon_str_prim _ _ hprim
      | some lt => exact (spec_written_prim ns t lt hprim D).1
    · cases hl : node.logical with
      | none => exact scan_str_prim _ _ _ hprim
      | some lt => exact (spec_written_prim ns t lt hprim D).2
  | @array n W W' ns k lg items j _ hk _ ih =>
    intro D hD
    obtain ⟨c, D', hc, hs, hD', hcan⟩ := ih D hD
    obtain ⟨h1, h2⟩ := spec_written_array ns lg j D
    exact ⟨_, D', by rw [h1, hc]; rfl, by rw [h2, hs], hD', .array hk hcan⟩
  | @map n W W' ns k lg values j _ hk _ ih =>
    intro D hD
    obtain ⟨c, D', hc, hs, hD', hcan⟩ := ih D hD
    obtain ⟨h1, h2⟩ := spec_written_map ns lg j D
    exact ⟨_, D', by rw [h1, hc]; rfl, by rw [h2, hs], hD', .map hk hcan⟩
  | union _ hk _ ih =>
    intro D hD
    obtain ⟨cs, D', hc, hs, hD', hcan⟩ := ih D hD
    exact ⟨.arr cs, D', by simp only [canon, hc, Option.map_some], by simp only [scan, hs], hD',
      .union hk hcan⟩
  | @again W ns k node nm hr hk hn hm =>
    intro D hD
    have hnm := hwf k node nm hr hk hn
    have hnp := ref_not_primitive nm hnm ns
    have hfn := ref_fullname nm hnm ns
    refine ⟨.str nm.fq, D, ?_, ?_, hD, .again hk hn hm⟩
    · rw [canon_str_ref _ _ hnp, hfn, fq_text nm hnm]
    · apply scan_str_ref _ _ _ hnp
      rw [hfn]
      exact hD k node nm hk hn hm
  | @enum W ns k lg nm syms hr hk hm =>
    intro D hD
    obtain ⟨h1, h2⟩ := spec_written_enum ns lg nm (hwf k _ nm hr hk rfl) syms D
    exact ⟨_, _, h1, h2, hD.define hk rfl, .enum hk hm⟩
  | @fixed W ns k lg nm size hr hk hm =>
    intro D hD
    obtain ⟨h1, h2⟩ := spec_written_fixed ns lg nm (hwf k _ nm hr hk rfl) size D
    exact ⟨_, _, h1, h2, hD.define hk rfl, .fixed hk hm⟩
  | @record n W W' ns k lg nm fields js hr hk hm _ ih =>
    intro D hD
    obtain ⟨cs, D', hc, hs, hD', hcan⟩ := ih _ (hD.define hk rfl)
    obtain ⟨h1, h2⟩ := spec_written_record ns lg nm (hwf k _ nm hr hk rfl) js D
    exact ⟨_, D', by rw [h1, hc]; rfl, by rw [h2, hs], hD', .record hk hm hcan⟩
  | lnil => intro D hD; exact ⟨[], D, by simp only [canonList], by simp only [scanList], hD, .lnil⟩
  | fnil =>
    intro D hD; exact ⟨[], D, by simp only [canonFields], by simp only [scanFields], hD, .fnil⟩
  | lcons _ _ ih1 ih2 =>
    intro D hD
    obtain ⟨c, D1, hc, hs, hD1, hcan1⟩ := ih1 D hD
    obtain ⟨cs, D2, hcs, hss, hD2, hcan2⟩ := ih2 D1 hD1
    exact ⟨c :: cs, D2, canonList_cons _ _ _ _ _ hc hcs, by simp only [scanList, hs, hss], hD2,
      .lcons hcan1 hcan2⟩
  | @fcons n1 n2 W W1 W' ns name k rest j js _ _ ih1 ih2 =>
    intro D hD
    obtain ⟨c, D1, hc, hs, hD1, hcan1⟩ := ih1 D hD
    obtain ⟨cs, D2, hcs, hss, hD2, hcan2⟩ := ih2 D1 hD1
    exact ⟨.obj [("name", .str name), ("type", c)] :: cs, D2,
      canonFields_cons _ _ _ _ _ _ hc hcs, by simp only [scanFields_cons, hs, hss], hD2,
      .fcons hcan1 hcan2⟩

/-- **The specification's transformation of the rendered document is the canonical tree of the
    graph**, of a height within the renderer's fuel; and the document has no forward
    reference. -/
theorem render_canonTree (S : SchemaMut) (fuel : Nat) (j : Json) (hwf : ReachNamesWF S)
    (hrender : renderJson S fuel = .ok j) :
    noForwardRefs j = true ∧ ∃ c m W', canon none j = some c ∧ m ≤ fuel ∧
      CanonTree S m [] (.node 0) (.one c) W' := by
  obtain ⟨n, W', hn, hr⟩ := renderJson_sound hrender
  obtain ⟨c, D', hc, hs, -, hcan⟩ := canon_of_renders hwf hr [] (fun _ _ _ _ _ h => by cases h)
  exact ⟨by simp only [noForwardRefs, hs, Option.isSome_some], c, n, W', hc, hn, hcan⟩

theorem render_has_graph_pcf (S : SchemaMut) (fuel : Nat) (j : Json) (hwf : ReachNamesWF S)
    (hrender : renderJson S fuel = .ok j) :
    noForwardRefs j = true ∧
    ∃ text, parsingCanonicalForm j = some text ∧
      ∀ fuel', fuel ≤ fuel' → canonicalForm S fuel' = .ok text := by
  obtain ⟨hnf, c, m, W', hc, hm, hcan⟩ := render_canonTree S fuel j hwf hrender
  exact ⟨hnf, print c, by simp only [parsingCanonicalForm, hc, Option.map_some],
    fun fuel' hf => canonicalForm_of_canonTree hcan fuel' (Nat.le_trans hm hf)⟩

def namesWFb (S : SchemaMut) : Bool :=
  S.toList.all fun node =>
    match nameOf node.type with
    | some nm => nameWFb nm
    | none => true

theorem namesWFb_iff (S : SchemaMut) : namesWFb S = true ↔ NamesWF S := by
  constructor
  · intro h i node nm hi hn
    have hmem : node ∈ S.toList := by
      obtain ⟨hlt, e⟩ := Array.getElem?_eq_some_iff.mp hi
      rw [← e]
      exact Array.getElem_mem_toList hlt
    have := (List.all_eq_true.mp h) node hmem
    rw [hn] at this
    exact (nameWFb_iff nm).mp this
  · intro h
    apply List.all_eq_true.mpr
    intro node hmem
    obtain ⟨i, hlt, e⟩ := List.getElem_of_mem hmem
    cases hn : nameOf node.type with
    | none => rfl
    | some nm =>
      have hi : S[i]? = some node := by
        have hlt' : i < S.size := by simpa using hlt
        rw [Array.getElem?_eq_getElem hlt']
        simpa using e
      exact (nameWFb_iff nm).mpr (h i node nm hi hn)

/-! ### the renderer and the canonical-form writer side by side

How the two states correspond after the same calls (`written` is `Written`, `defs` is `Defs`).
No theorem of the development rests on it: the proofs above go through `Renders` / `CanonTree`. -/

structure Inv (S : SchemaMut) (st : RenderState) (ps : PcfState) (D : List Fullname) : Prop where
  gen : st.nWritten = ps.written.length + 1
  guard : ∀ i, cell ps i ≤ st.nWritten ∧ (cell ps i = st.nWritten → st.nWritten ≤ st.get i)
  written : ∀ (i : Nat) (node : RawNode) (nm : Name),
    S[i]? = some node → nameOf node.type = some nm → (0 < st.get i ↔ i ∈ ps.written)
  defs : ∀ (i : Nat) (node : RawNode) (nm : Name),
    S[i]? = some node → nameOf node.type = some nm → i ∈ ps.written → (nm.ns, nm.short) ∈ D

theorem Inv.define {S : SchemaMut} {st : RenderState} {ps : PcfState} {D : List Fullname}
    (h : Inv S st ps D) (key : Nat) (node : RawNode) (nm : Name) (hk : S[key]? = some node)
    (hn : nameOf node.type = some nm) (o : String) :
    Inv S (namedEnter st key) { ps with written := key :: ps.written, out := o }
      ((nm.ns, nm.short) :: D) := by
  refine ⟨?_, ?_, ?_, ?_⟩
  · simp only [namedEnter, List.length_cons, h.gen]
  · intro i
    have := (h.guard i).1
    have e : cell { ps with written := key :: ps.written, out := o } i = cell ps i := rfl
    have e2 : (namedEnter st key).nWritten = st.nWritten + 1 := rfl
    rw [e, e2]
    exact ⟨by omega, fun e => by omega⟩
  · exact Written.define h.written (by rw [h.gen]; omega) key fun i => List.mem_cons
  · exact Defs.define h.defs hk hn

end Avro.RenderPcf
