import AvroModel.Lemmas.SpecPrimitives
/-
`decodeL L` is `Spec.decode` with three knobs (`Limits`):
  * `maxVarint`       longest varint accepted, in bytes (`none`: unbounded, the specification);
  * `maxDecimal`      longest two's-complement decimal accepted (`none`: unbounded);
  * `checkBlockSize`  whether the byte size that follows a negative block count must be `≥ 0`.
`decodeL Limits.spec = Spec.decode` (`decodeL_spec`); `Limits.impl` is what the deserializer accepts
(Lemmas/DeLayouts).  Every equation of `decodeL` is a `bind` chain, so one walk (`locL`) shows
`Loc (decodeL L S f n) (decodeL L' S f' n)` for `L.le L'`, `f ≤ f'`: monotonicity in the limits and
the fuel (`decodeL_mono`) and locality (`decode_local`) are its projections.

`decodeL` and its five companions are mutually recursive on the fuel, so a fact about them is a
structure with one field per function (`dec, blocks, items, mblocks, mitems, fields`), and
`xAll : ∀ fuel, XAll … fuel` is the one induction.
-/
namespace Avro.Spec
open Avro Avro.Impl

structure Limits where
  maxVarint : Option Nat := none
  maxDecimal : Option Nat := none
  checkBlockSize : Bool := true
  deriving Repr, DecidableEq

/-- the specification: no limit, the block byte size must be a non-negative long -/
def Limits.spec : Limits := {}
/-- what `serde_avro_fast` implements (`checkBlockSize`: `read_block_len` rejects a negative byte
    size since the crate's repair of defect D28) -/
def Limits.impl : Limits := { maxVarint := some 10, maxDecimal := some 16, checkBlockSize := true }
/-- the implementation's numeric limits, with the specification's check of the block byte size:
    the same record as `Limits.impl` (`Limits.impl_eq_implStrict`); named by
    `C03_decodeL_implStrict_sub_spec` -/
def Limits.implStrict : Limits := { maxVarint := some 10, maxDecimal := some 16, checkBlockSize := true }
/-- greatest element of `Limits.le` (`Limits.le_specLax`): every run under any limits is a run under
    `specLax`, which is how two runs are compared (`decodeL_agree`); it is also `decode` without the
    sign check of the block byte size (`C03_invalid_is_err_lax`) -/
def Limits.specLax : Limits := { checkBlockSize := false }

def fitsOpt (m : Option Nat) (k : Nat) : Bool :=
  match m with
  | none => true
  | some w => decide (k ≤ w)

structure Limits.le (L L' : Limits) : Prop where
  var : ∀ k, fitsOpt L.maxVarint k = true → fitsOpt L'.maxVarint k = true
  dec : ∀ k, fitsOpt L.maxDecimal k = true → fitsOpt L'.maxDecimal k = true
  size : L'.checkBlockSize = true → L.checkBlockSize = true

theorem Limits.le_refl (L : Limits) : L.le L := ⟨fun _ h => h, fun _ h => h, fun h => h⟩

theorem Limits.le_specLax (L : Limits) : L.le Limits.specLax :=
  ⟨fun _ _ => rfl, fun _ _ => rfl, fun h => by cases h⟩
theorem Limits.impl_le_specLax : Limits.impl.le Limits.specLax := Limits.le_specLax _
theorem Limits.spec_le_specLax : Limits.spec.le Limits.specLax := Limits.le_specLax _
theorem Limits.implStrict_le_spec : Limits.implStrict.le Limits.spec :=
  ⟨fun _ _ => rfl, fun _ _ => rfl, fun _ => rfl⟩
theorem Limits.implStrict_le_impl : Limits.implStrict.le Limits.impl :=
  ⟨fun _ h => h, fun _ h => h, fun _ => rfl⟩
theorem Limits.impl_eq_implStrict : Limits.impl = Limits.implStrict := rfl
theorem Limits.impl_le_spec : Limits.impl.le Limits.spec :=
  ⟨fun _ _ => rfl, fun _ _ => rfl, fun _ => rfl⟩

def decodeLongL (L : Limits) (bs : Bytes) : Option (Int × Bytes) :=
  match decodeLong bs with
  | some (i, rest) => if fitsOpt L.maxVarint (bs.length - rest.length) then some (i, rest) else none
  | none => none

def decodeLenL (L : Limits) (bs : Bytes) : Option (Nat × Bytes) :=
  match decodeLongL L bs with
  | some (i, rest) => if 0 ≤ i then some (i.toNat, rest) else none
  | none => none

def decodeBytesL (L : Limits) (bs : Bytes) : Option (Bytes × Bytes) :=
  match decodeLenL L bs with
  | some (n, rest) => takeN n rest
  | none => none

def decodeStringL (L : Limits) (bs : Bytes) : Option (String × Bytes) :=
  match decodeBytesL L bs with
  | some (b, rest) =>
    match String.fromUTF8? (ByteArray.mk b.toArray) with
    | some s => some (s, rest)
    | none => none
  | none => none

def decodeBlockHeaderL (L : Limits) (bs : Bytes) : Option (Nat × Bytes) :=
  match decodeLongL L bs with
  | none => none
  | some (c, rest) =>
    if c ≥ 0 then some (c.toNat, rest)
    else match decodeLongL L rest with
      | none => none
      | some (size, rest') =>
        if size ≥ 0 ∨ L.checkBlockSize = false then some ((-c).toNat, rest') else none

mutual

def decodeL (L : Limits) (S : Schema) : Nat → Node → Bytes → Option (Value × Bytes)
  | 0, _, _ => none
  | fuel + 1, n, bs =>
    match n with
    | .null => some (.null, bs)
    | .boolean =>
      match bs with
      | b :: rest => if b = 0 then some (.bool false, rest) else if b = 1 then some (.bool true, rest) else none
      | [] => none
    | .int | .date | .timeMillis =>
      match decodeLongL L bs with
      | some (i, rest) => if InI32 i then some (.int i, rest) else none
      | none => none
    | .long | .timeMicros | .timestampMillis | .timestampMicros =>
      match decodeLongL L bs with
      | some (i, rest) => some (.long i, rest)
      | none => none
    | .float => (takeN 4 bs).map fun (b, rest) => (.float (BitVec.ofNat 32 (leToNat b)), rest)
    | .double => (takeN 8 bs).map fun (b, rest) => (.double (BitVec.ofNat 64 (leToNat b)), rest)
    | .bytes => (decodeBytesL L bs).map fun (b, rest) => (.bytes b, rest)
    | .string | .uuid => (decodeStringL L bs).map fun (s, rest) => (.string s, rest)
    | .array k =>
      match nodeOf S k with
      | none => none
      | some item => (decodeBlocksL L S fuel item bs).map fun (vs, rest) => (.array vs, rest)
    | .map k =>
      match nodeOf S k with
      | none => none
      | some item => (decodeMapBlocksL L S fuel item bs).map fun (vs, rest) => (.map vs, rest)
    | .union vs =>
      match decodeLenL L bs with
      | none => none
      | some (idx, rest) =>
        match vs[idx]? with
        | none => none
        | some k =>
          match nodeOf S k with
          | none => none
          | some branch => (decodeL L S fuel branch rest).map fun (v, rest') => (.union idx v, rest')
    | .record _ fields =>
      (decodeFieldsL L S fuel (fields.map (·.2)) bs).map fun (vs, rest) => (.record vs, rest)
    | .enum _ syms =>
      match decodeLenL L bs with
      | some (idx, rest) => if idx < syms.length then some (.enum idx, rest) else none
      | none => none
    | .fixed _ size => (takeN size bs).map fun (b, rest) => (.fixed b, rest)
    | .decimal _ _ .bytes =>
      match decodeBytesL L bs with
      | some (b, rest) =>
        if fitsOpt L.maxDecimal b.length then some (.decimal (fromTwosComplementBE b), rest) else none
      | none => none
    | .decimal _ _ (.fixed _ size) =>
      if fitsOpt L.maxDecimal size then
        (takeN size bs).map fun (b, rest) => (.decimal (fromTwosComplementBE b), rest)
      else none
    | .bigDecimal =>
      match decodeBytesL L bs with
      | none => none
      | some (inner, rest) =>
        match decodeBytesL L inner with
        | none => none
        | some (m, inner') =>
          if fitsOpt L.maxDecimal m.length then
            match decodeLenL L inner' with
            | some (scale, []) => some (.bigDecimal (fromTwosComplementBE m) scale, rest)
            | _ => none
          else none
    | .duration =>
      (takeN 12 bs).map fun (b, rest) =>
        (.duration (leToNat (b.take 4)) (leToNat ((b.drop 4).take 4)) (leToNat (b.drop 8)), rest)

def decodeBlocksL (L : Limits) (S : Schema) : Nat → Node → Bytes → Option (List Value × Bytes)
  | 0, _, _ => none
  | fuel + 1, item, bs =>
    match decodeBlockHeaderL L bs with
    | none => none
    | some (0, rest) => some ([], rest)
    | some (c, rest) =>
      match decodeItemsL L S fuel item c rest with
      | none => none
      | some (vs, rest') =>
        match decodeBlocksL L S fuel item rest' with
        | none => none
        | some (more, rest'') => some (vs ++ more, rest'')

def decodeItemsL (L : Limits) (S : Schema) : Nat → Node → Nat → Bytes → Option (List Value × Bytes)
  | _, _, 0, bs => some ([], bs)
  | 0, _, _ + 1, _ => none
  | fuel + 1, item, c + 1, bs =>
    match decodeL L S fuel item bs with
    | none => none
    | some (v, rest) =>
      match decodeItemsL L S fuel item c rest with
      | none => none
      | some (vs, rest') => some (v :: vs, rest')

def decodeMapBlocksL (L : Limits) (S : Schema) : Nat → Node → Bytes → Option (List (String × Value) × Bytes)
  | 0, _, _ => none
  | fuel + 1, item, bs =>
    match decodeBlockHeaderL L bs with
    | none => none
    | some (0, rest) => some ([], rest)
    | some (c, rest) =>
      match decodeMapItemsL L S fuel item c rest with
      | none => none
      | some (vs, rest') =>
        match decodeMapBlocksL L S fuel item rest' with
        | none => none
        | some (more, rest'') => some (vs ++ more, rest'')

def decodeMapItemsL (L : Limits) (S : Schema) : Nat → Node → Nat → Bytes → Option (List (String × Value) × Bytes)
  | _, _, 0, bs => some ([], bs)
  | 0, _, _ + 1, _ => none
  | fuel + 1, item, c + 1, bs =>
    match decodeStringL L bs with
    | none => none
    | some (k, rest) =>
      match decodeL L S fuel item rest with
      | none => none
      | some (v, rest') =>
        match decodeMapItemsL L S fuel item c rest' with
        | none => none
        | some (vs, rest'') => some ((k, v) :: vs, rest'')

def decodeFieldsL (L : Limits) (S : Schema) : Nat → List Nat → Bytes → Option (List Value × Bytes)
  | _, [], bs => some ([], bs)
  | 0, _ :: _, _ => none
  | fuel + 1, k :: ks, bs =>
    match nodeOf S k with
    | none => none
    | some n =>
      match decodeL L S fuel n bs with
      | none => none
      | some (v, rest) =>
        match decodeFieldsL L S fuel ks rest with
        | none => none
        | some (vs, rest') => some (v :: vs, rest')

end

theorem decodeLongL_loc {L L' : Limits} (hle : L.le L') : Loc (decodeLongL L) (decodeLongL L') := by
  intro bs i r h
  unfold decodeLongL at h
  split at h
  · rename_i i' rest hd
    split at h
    · rename_i hf
      cases h
      obtain ⟨c, rfl, e⟩ := decodeLong_local _ _ _ hd
      refine ⟨c, rfl, fun r' => ?_⟩
      unfold decodeLongL
      rw [e r']
      simp only [List.length_append, Nat.add_sub_cancel] at hf ⊢
      rw [if_pos (hle.var _ hf)]
    · cases h
  · cases h

theorem decodeLenL_bind (L : Limits) :
    decodeLenL L = Parser.sel (decodeLongL L) fun i => if 0 ≤ i then some i.toNat else none := by
  funext bs; unfold decodeLenL Parser.sel
  rcases decodeLongL L bs with _ | ⟨i, r⟩
  · rfl
  · simp only; split <;> rfl

theorem decodeBytesL_bind (L : Limits) : decodeBytesL L = Parser.bind (decodeLenL L) takeN := by
  funext bs; unfold decodeBytesL Parser.bind
  rcases decodeLenL L bs with _ | ⟨i, r⟩ <;> rfl

theorem decodeStringL_bind (L : Limits) :
    decodeStringL L =
      Parser.sel (decodeBytesL L) fun b => String.fromUTF8? (ByteArray.mk b.toArray) := by
  funext bs; unfold decodeStringL Parser.sel
  rcases decodeBytesL L bs with _ | ⟨b, r⟩
  · rfl
  · simp only; rcases String.fromUTF8? (ByteArray.mk b.toArray) with _ | s <;> rfl

theorem decodeBlockHeaderL_bind (L : Limits) :
    decodeBlockHeaderL L = Parser.bind (decodeLongL L) fun c =>
      if c ≥ 0 then Parser.ret c.toNat
      else Parser.sel (decodeLongL L) fun size =>
        if size ≥ 0 ∨ L.checkBlockSize = false then some (-c).toNat else none := by
  funext bs; unfold decodeBlockHeaderL Parser.bind Parser.sel Parser.ret
  rcases decodeLongL L bs with _ | ⟨c, r⟩
  · rfl
  · simp only
    split
    · rfl
    · rcases h : decodeLongL L r with _ | ⟨sz, r'⟩
      · simp only [h]
      · simp only [h]; split <;> rfl

section
variable {L L' : Limits} (hle : L.le L')
include hle

theorem decodeLenL_loc : Loc (decodeLenL L) (decodeLenL L') := by
  rw [decodeLenL_bind, decodeLenL_bind]
  exact (decodeLongL_loc hle).sel fun _ _ h => h

theorem decodeBytesL_loc : Loc (decodeBytesL L) (decodeBytesL L') := by
  rw [decodeBytesL_bind, decodeBytesL_bind]
  exact (decodeLenL_loc hle).bind takeN_local

theorem decodeStringL_loc : Loc (decodeStringL L) (decodeStringL L') := by
  rw [decodeStringL_bind, decodeStringL_bind]
  exact (decodeBytesL_loc hle).sel fun _ _ h => h

theorem decodeBlockHeaderL_loc : Loc (decodeBlockHeaderL L) (decodeBlockHeaderL L') := by
  rw [decodeBlockHeaderL_bind, decodeBlockHeaderL_bind]
  refine (decodeLongL_loc hle).bind fun c => .ite (.ret _) ((decodeLongL_loc hle).sel ?_)
  intro sz b h
  split at h
  · rename_i hs
    rw [if_pos]
    · exact h
    · rcases hs with hs | hs
      · exact Or.inl hs
      · right
        cases hc' : L'.checkBlockSize with
        | false => rfl
        | true => rw [hle.size hc'] at hs; cases hs
  · cases h

theorem decodeLongL_mono {bs : Bytes} {r : Int × Bytes}
    (h : decodeLongL L bs = some r) : decodeLongL L' bs = some r := (decodeLongL_loc hle).sub h

theorem decodeLenL_mono {bs : Bytes} {r : Nat × Bytes}
    (h : decodeLenL L bs = some r) : decodeLenL L' bs = some r := (decodeLenL_loc hle).sub h

theorem decodeBytesL_mono {bs : Bytes} {r : Bytes × Bytes}
    (h : decodeBytesL L bs = some r) : decodeBytesL L' bs = some r := (decodeBytesL_loc hle).sub h

theorem decodeStringL_mono {bs : Bytes} {r : String × Bytes}
    (h : decodeStringL L bs = some r) : decodeStringL L' bs = some r :=
  (decodeStringL_loc hle).sub h

end

@[simp] theorem fitsOpt_none (k : Nat) : fitsOpt none k = true := rfl

theorem decodeLongL_spec (bs : Bytes) (L : Limits) (h : L.maxVarint = none) :
    decodeLongL L bs = decodeLong bs := by
  unfold decodeLongL
  rw [h]
  cases decodeLong bs with
  | none => rfl
  | some p => rfl

theorem decodeLenL_spec (bs : Bytes) (L : Limits) (h : L.maxVarint = none) :
    decodeLenL L bs = decodeLen bs := by
  unfold decodeLenL decodeLen; rw [decodeLongL_spec bs L h]
  rcases decodeLong bs with _ | ⟨i, rest⟩ <;> rfl

theorem decodeBytesL_spec (bs : Bytes) (L : Limits) (h : L.maxVarint = none) :
    decodeBytesL L bs = decodeBytes bs := by
  unfold decodeBytesL decodeBytes; rw [decodeLenL_spec bs L h]
  rcases decodeLen bs with _ | ⟨i, rest⟩ <;> rfl

theorem decodeStringL_spec (bs : Bytes) (L : Limits) (h : L.maxVarint = none) :
    decodeStringL L bs = decodeString bs := by
  unfold decodeStringL decodeString; rw [decodeBytesL_spec bs L h]
  rcases decodeBytes bs with _ | ⟨b, rest⟩
  · rfl
  · simp only
    rcases String.fromUTF8? (ByteArray.mk b.toArray) with _ | s <;> rfl

theorem decodeBlockHeaderL_spec (bs : Bytes) (L : Limits) (h : L.maxVarint = none)
    (hc : L.checkBlockSize = true) : decodeBlockHeaderL L bs = decodeBlockHeader bs := by
  unfold decodeBlockHeaderL decodeBlockHeader
  rw [decodeLongL_spec bs L h]
  rcases decodeLong bs with _ | ⟨c, rest⟩
  · rfl
  · simp only [decodeLongL_spec rest L h]
    split
    · rfl
    · rcases decodeLong rest with _ | ⟨sz, rest'⟩
      · rfl
      · simp [hc]

/- Each equation of `decodeL` is first written as a `bind`/`sel` chain, because `Loc` is closed
   under these (used by `locL` only); from the chain follows its inversion `*_eq_some` (an iff on one
   successful run), which is what inductions over a run, here and in every other module, use. -/

theorem decodeItemsL_zero {L : Limits} {S : Schema} (f : Nat) (item : Node) (bs : Bytes) :
    decodeItemsL L S f item 0 bs = some ([], bs) := by cases f <;> rfl

theorem decodeMapItemsL_zero {L : Limits} {S : Schema} (f : Nat) (item : Node) (bs : Bytes) :
    decodeMapItemsL L S f item 0 bs = some ([], bs) := by cases f <;> rfl

theorem decodeFieldsL_nil {L : Limits} {S : Schema} (f : Nat) (bs : Bytes) :
    decodeFieldsL L S f [] bs = some ([], bs) := by cases f <;> rfl

theorem decodeItemsL_succ (L : Limits) (S : Schema) (f : Nat) (item : Node) (c : Nat) :
    decodeItemsL L S (f + 1) item (c + 1) =
      Parser.bind (decodeL L S f item) fun v =>
        Parser.sel (decodeItemsL L S f item c) fun vs => some (v :: vs) := by
  funext bs; rw [decodeItemsL]; unfold Parser.bind Parser.sel
  rcases decodeL L S f item bs with _ | ⟨v, r⟩
  · rfl
  · rcases h : decodeItemsL L S f item c r with _ | ⟨vs, r'⟩ <;> simp only [h]

theorem decodeMapItemsL_succ (L : Limits) (S : Schema) (f : Nat) (item : Node) (c : Nat) :
    decodeMapItemsL L S (f + 1) item (c + 1) =
      Parser.bind (decodeStringL L) fun k => Parser.bind (decodeL L S f item) fun v =>
        Parser.sel (decodeMapItemsL L S f item c) fun es => some ((k, v) :: es) := by
  funext bs; rw [decodeMapItemsL]; unfold Parser.bind Parser.sel
  rcases decodeStringL L bs with _ | ⟨k, r⟩
  · rfl
  · rcases h1 : decodeL L S f item r with _ | ⟨v, r1⟩
    · simp only [h1]
    · rcases h2 : decodeMapItemsL L S f item c r1 with _ | ⟨es, r2⟩ <;> simp only [h1, h2]

theorem decodeFieldsL_cons (L : Limits) (S : Schema) (f k : Nat) (ks : List Nat) :
    decodeFieldsL L S (f + 1) (k :: ks) =
      Parser.bind (Parser.ofOpt (nodeOf S k)) fun n => Parser.bind (decodeL L S f n) fun v =>
        Parser.sel (decodeFieldsL L S f ks) fun vs => some (v :: vs) := by
  funext bs; rw [decodeFieldsL]; unfold Parser.bind Parser.sel Parser.ofOpt
  rcases nodeOf S k with _ | n
  · rfl
  · simp only
    rcases decodeL L S f n bs with _ | ⟨v, r⟩
    · rfl
    · rcases h : decodeFieldsL L S f ks r with _ | ⟨vs, r'⟩ <;> simp only [h]

theorem decodeBlocksL_succ (L : Limits) (S : Schema) (f : Nat) (item : Node) :
    decodeBlocksL L S (f + 1) item =
      Parser.bind (decodeBlockHeaderL L) fun c =>
        if c = 0 then Parser.ret [] else
          Parser.bind (decodeItemsL L S f item c) fun vs =>
            Parser.sel (decodeBlocksL L S f item) fun more => some (vs ++ more) := by
  funext bs; rw [decodeBlocksL]; unfold Parser.bind Parser.sel Parser.ret
  rcases decodeBlockHeaderL L bs with _ | ⟨c, r⟩
  · rfl
  · cases c with
    | zero => rfl
    | succ c =>
      simp only [Nat.succ_ne_zero, if_false]
      rcases decodeItemsL L S f item (c + 1) r with _ | ⟨vs, r1⟩
      · simp only
      · rcases h : decodeBlocksL L S f item r1 with _ | ⟨more, r2⟩ <;> simp only [h]

theorem decodeMapBlocksL_succ (L : Limits) (S : Schema) (f : Nat) (item : Node) :
    decodeMapBlocksL L S (f + 1) item =
      Parser.bind (decodeBlockHeaderL L) fun c =>
        if c = 0 then Parser.ret [] else
          Parser.bind (decodeMapItemsL L S f item c) fun vs =>
            Parser.sel (decodeMapBlocksL L S f item) fun more => some (vs ++ more) := by
  funext bs; rw [decodeMapBlocksL]; unfold Parser.bind Parser.sel Parser.ret
  rcases decodeBlockHeaderL L bs with _ | ⟨c, r⟩
  · rfl
  · cases c with
    | zero => rfl
    | succ c =>
      simp only [Nat.succ_ne_zero, if_false]
      rcases decodeMapItemsL L S f item (c + 1) r with _ | ⟨vs, r1⟩
      · simp only
      · rcases h : decodeMapBlocksL L S f item r1 with _ | ⟨more, r2⟩ <;> simp only [h]

theorem decodeL_array (L : Limits) (S : Schema) (f k : Nat) :
    decodeL L S (f + 1) (.array k) =
      Parser.bind (Parser.ofOpt (nodeOf S k)) fun item =>
        Parser.sel (decodeBlocksL L S f item) fun vs => some (.array vs) := by
  funext bs; simp only [decodeL]; unfold Parser.bind Parser.sel Parser.ofOpt
  rcases nodeOf S k with _ | item
  · rfl
  · simp only; rcases decodeBlocksL L S f item bs with _ | ⟨vs, r⟩ <;> rfl

theorem decodeL_map (L : Limits) (S : Schema) (f k : Nat) :
    decodeL L S (f + 1) (.map k) =
      Parser.bind (Parser.ofOpt (nodeOf S k)) fun item =>
        Parser.sel (decodeMapBlocksL L S f item) fun es => some (.map es) := by
  funext bs; simp only [decodeL]; unfold Parser.bind Parser.sel Parser.ofOpt
  rcases nodeOf S k with _ | item
  · rfl
  · simp only; rcases decodeMapBlocksL L S f item bs with _ | ⟨vs, r⟩ <;> rfl

theorem decodeL_union (L : Limits) (S : Schema) (f : Nat) (ks : List Nat) :
    decodeL L S (f + 1) (.union ks) =
      Parser.bind (decodeLenL L) fun idx => Parser.bind (Parser.ofOpt ks[idx]?) fun k =>
        Parser.bind (Parser.ofOpt (nodeOf S k)) fun branch =>
          Parser.sel (decodeL L S f branch) fun v => some (.union idx v) := by
  funext bs; simp only [decodeL]; unfold Parser.bind Parser.sel Parser.ofOpt
  rcases decodeLenL L bs with _ | ⟨idx, r⟩
  · rfl
  · simp only
    rcases ks[idx]? with _ | k
    · rfl
    · simp only
      rcases nodeOf S k with _ | branch
      · rfl
      · simp only; rcases decodeL L S f branch r with _ | ⟨v, r'⟩ <;> rfl

theorem decodeL_record (L : Limits) (S : Schema) (f : Nat) (nm : Name)
    (fields : List (String × Nat)) :
    decodeL L S (f + 1) (.record nm fields) =
      Parser.sel (decodeFieldsL L S f (fields.map (·.2))) fun vs => some (.record vs) := by
  funext bs; simp only [decodeL]; unfold Parser.sel
  generalize decodeFieldsL L S f _ bs = x
  rcases x with _ | ⟨vs, r⟩ <;> rfl

/-- nodes without nested values -/
def flat : Node → Bool
  | .array _ | .map _ | .union _ | .record _ _ => false
  | _ => true

theorem decodeL_flat {L : Limits} {S : Schema} {n : Node} (hl : flat n = true) (f : Nat) :
    decodeL L S (f + 1) n = decodeL L S 1 n := by
  cases n with
  | decimal _ _ r => cases r <;> rfl
  | array _ | map _ | union _ | record _ _ => cases hl
  | _ => rfl

theorem decodeItemsL_succ_eq_some {L : Limits} {S : Schema} {f c : Nat} {item : Node}
    {bs r1 : Bytes} {vs : List Value} :
    decodeItemsL L S (f + 1) item (c + 1) bs = some (vs, r1) ↔
      ∃ v r0 vs', decodeL L S f item bs = some (v, r0) ∧
        decodeItemsL L S f item c r0 = some (vs', r1) ∧ vs = v :: vs' := by
  rw [decodeItemsL_succ]; exact Parser.bind_sel_eq_some

theorem decodeMapItemsL_succ_eq_some {L : Limits} {S : Schema} {f c : Nat} {item : Node} {bs r1 : Bytes}
    {es : List (String × Value)} :
    decodeMapItemsL L S (f + 1) item (c + 1) bs = some (es, r1) ↔
      ∃ k r v r0 es', decodeStringL L bs = some (k, r) ∧ decodeL L S f item r = some (v, r0) ∧
        decodeMapItemsL L S f item c r0 = some (es', r1) ∧ es = (k, v) :: es' := by
  rw [decodeMapItemsL_succ, Parser.bind_eq_some]
  simp only [Parser.bind_sel_eq_some]
  constructor
  · rintro ⟨k, r, hk, v, r0, es', h⟩; exact ⟨k, r, v, r0, es', hk, h⟩
  · rintro ⟨k, r, v, r0, es', hk, h⟩; exact ⟨k, r, hk, v, r0, es', h⟩

theorem decodeBlocksL_succ_eq_some {L : Limits} {S : Schema} {f : Nat} {item : Node}
    {bs rest : Bytes} {vs : List Value} :
    decodeBlocksL L S (f + 1) item bs = some (vs, rest) ↔
      ∃ c r0, decodeBlockHeaderL L bs = some (c, r0) ∧
        (c = 0 ∧ vs = [] ∧ rest = r0 ∨
         0 < c ∧ ∃ vs1 r1 more, decodeItemsL L S f item c r0 = some (vs1, r1) ∧
           decodeBlocksL L S f item r1 = some (more, rest) ∧ vs = vs1 ++ more) := by
  rw [decodeBlocksL_succ, Parser.bind_eq_some]
  refine exists_congr fun c => exists_congr fun r0 => and_congr_right fun _ => ?_
  split
  · rename_i hc
    constructor
    · intro h; cases h; exact .inl ⟨hc, rfl, rfl⟩
    · rintro (⟨_, rfl, rfl⟩ | ⟨h0, _⟩)
      · rfl
      · omega
  · rename_i hc
    rw [Parser.bind_sel_eq_some]
    constructor
    · exact fun h => .inr ⟨Nat.pos_of_ne_zero hc, h⟩
    · rintro (⟨h0, _⟩ | ⟨_, h⟩)
      · exact absurd h0 hc
      · exact h

theorem decodeMapBlocksL_succ_eq_some {L : Limits} {S : Schema} {f : Nat} {item : Node}
    {bs rest : Bytes} {vs : List (String × Value)} :
    decodeMapBlocksL L S (f + 1) item bs = some (vs, rest) ↔
      ∃ c r0, decodeBlockHeaderL L bs = some (c, r0) ∧
        (c = 0 ∧ vs = [] ∧ rest = r0 ∨
         0 < c ∧ ∃ vs1 r1 more, decodeMapItemsL L S f item c r0 = some (vs1, r1) ∧
           decodeMapBlocksL L S f item r1 = some (more, rest) ∧ vs = vs1 ++ more) := by
  rw [decodeMapBlocksL_succ, Parser.bind_eq_some]
  refine exists_congr fun c => exists_congr fun r0 => and_congr_right fun _ => ?_
  split
  · rename_i hc
    constructor
    · intro h; cases h; exact .inl ⟨hc, rfl, rfl⟩
    · rintro (⟨_, rfl, rfl⟩ | ⟨h0, _⟩)
      · rfl
      · omega
  · rename_i hc
    rw [Parser.bind_sel_eq_some]
    constructor
    · exact fun h => .inr ⟨Nat.pos_of_ne_zero hc, h⟩
    · rintro (⟨h0, _⟩ | ⟨_, h⟩)
      · exact absurd h0 hc
      · exact h

theorem decodeFieldsL_cons_eq_some {L : Limits} {S : Schema} {f k : Nat} {ks : List Nat}
    {bs rest : Bytes} {vs : List Value} :
    decodeFieldsL L S (f + 1) (k :: ks) bs = some (vs, rest) ↔
      ∃ n v r0 vs', nodeOf S k = some n ∧ decodeL L S f n bs = some (v, r0) ∧
        decodeFieldsL L S f ks r0 = some (vs', rest) ∧ vs = v :: vs' := by
  rw [decodeFieldsL_cons, Parser.ofOpt_bind_eq_some]
  simp only [Parser.bind_sel_eq_some]
  constructor
  · rintro ⟨n, hn, v, r0, vs', h⟩; exact ⟨n, v, r0, vs', hn, h⟩
  · rintro ⟨n, v, r0, vs', hn, h⟩; exact ⟨n, hn, v, r0, vs', h⟩

theorem decodeL_array_eq_some {L : Limits} {S : Schema} {f k : Nat} {bs rest : Bytes} {v : Value} :
    decodeL L S (f + 1) (.array k) bs = some (v, rest) ↔
      ∃ item vs, S[k]? = some item ∧ decodeBlocksL L S f item bs = some (vs, rest) ∧
        v = .array vs := by
  rw [decodeL_array, Parser.ofOpt_bind_eq_some]
  simp only [Parser.sel_some_eq_some]
  constructor
  · rintro ⟨item, hk, vs, h⟩; exact ⟨item, vs, hk, h⟩
  · rintro ⟨item, vs, hk, h⟩; exact ⟨item, hk, vs, h⟩

theorem decodeL_map_eq_some {L : Limits} {S : Schema} {f k : Nat} {bs rest : Bytes} {v : Value} :
    decodeL L S (f + 1) (.map k) bs = some (v, rest) ↔
      ∃ item es, S[k]? = some item ∧ decodeMapBlocksL L S f item bs = some (es, rest) ∧
        v = .map es := by
  rw [decodeL_map, Parser.ofOpt_bind_eq_some]
  simp only [Parser.sel_some_eq_some]
  constructor
  · rintro ⟨item, hk, es, h⟩; exact ⟨item, es, hk, h⟩
  · rintro ⟨item, es, hk, h⟩; exact ⟨item, hk, es, h⟩

theorem decodeL_union_eq_some {L : Limits} {S : Schema} {f : Nat} {ks : List Nat} {bs rest : Bytes}
    {v : Value} :
    decodeL L S (f + 1) (.union ks) bs = some (v, rest) ↔
      ∃ idx r0 k branch v', decodeLenL L bs = some (idx, r0) ∧ ks[idx]? = some k ∧
        S[k]? = some branch ∧ decodeL L S f branch r0 = some (v', rest) ∧ v = .union idx v' := by
  rw [decodeL_union, Parser.bind_eq_some]
  simp only [Parser.ofOpt_bind_eq_some, Parser.sel_some_eq_some]
  constructor
  · rintro ⟨idx, r0, hd, k, hk, branch, hb, v', h⟩; exact ⟨idx, r0, k, branch, v', hd, hk, hb, h⟩
  · rintro ⟨idx, r0, k, branch, v', hd, hk, hb, h⟩; exact ⟨idx, r0, hd, k, hk, branch, hb, v', h⟩

theorem decodeL_record_eq_some {L : Limits} {S : Schema} {f : Nat} {nm : Name}
    {fields : List (String × Nat)} {bs rest : Bytes} {v : Value} :
    decodeL L S (f + 1) (.record nm fields) bs = some (v, rest) ↔
      ∃ vals, decodeFieldsL L S f (fields.map (·.2)) bs = some (vals, rest) ∧ v = .record vals := by
  rw [decodeL_record]; exact Parser.sel_some_eq_some

/-- `decodeL Limits.spec` is `decode`, function by function -/
structure SpecEq (S : Schema) (fuel : Nat) : Prop where
  dec : ∀ n bs, decodeL Limits.spec S fuel n bs = decode S fuel n bs
  blocks : ∀ item bs, decodeBlocksL Limits.spec S fuel item bs = decodeBlocks S fuel item bs
  items : ∀ item c bs, decodeItemsL Limits.spec S fuel item c bs = decodeItems S fuel item c bs
  mblocks : ∀ item bs, decodeMapBlocksL Limits.spec S fuel item bs = decodeMapBlocks S fuel item bs
  mitems : ∀ item c bs, decodeMapItemsL Limits.spec S fuel item c bs = decodeMapItems S fuel item c bs
  fields : ∀ ks bs, decodeFieldsL Limits.spec S fuel ks bs = decodeFields S fuel ks bs

theorem specEq (S : Schema) : ∀ fuel, SpecEq S fuel := by
  intro fuel
  induction fuel with
  | zero =>
    refine ⟨fun _ _ => rfl, fun _ _ => rfl, ?_, fun _ _ => rfl, ?_, ?_⟩
    · intro item c bs; cases c <;> rfl
    · intro item c bs; cases c <;> rfl
    · intro ks bs; cases ks <;> rfl
  | succ fuel ih =>
    have hv : Limits.spec.maxVarint = none := rfl
    have hd : Limits.spec.maxDecimal = none := rfl
    refine ⟨?_, ?_, ?_, ?_, ?_, ?_⟩
    · intro n bs
      cases n with
      | decimal sc pr repr =>
        cases repr with
        | bytes =>
          simp only [decodeL, decode, decodeBytesL_spec _ _ hv, hd, fitsOpt_none, if_true]
          rcases decodeBytes bs with _ | ⟨b, rest⟩ <;> rfl
        | fixed nm size =>
          simp only [decodeL, decode, hd, fitsOpt_none, if_true]
      | bigDecimal =>
        simp only [decodeL, decode, decodeBytesL_spec _ _ hv, decodeLenL_spec _ _ hv, hd,
          fitsOpt_none, if_true]
        rfl
      -- the arms that use no limit are the same term in both decoders
      | null | boolean | float | double | fixed _ _ | duration => rfl
      | bytes | string | uuid | record _ _ =>
        simp only [decodeL, decode, decodeBytesL_spec _ _ hv, decodeStringL_spec _ _ hv, ih.fields]
      -- the same cascade of matches on both sides, compiled in two different definitions
      | _ =>
        simp only [decodeL, decode, decodeLongL_spec _ _ hv, decodeLenL_spec _ _ hv, ih.dec,
          ih.blocks, ih.mblocks]
        rfl
    · intro item bs
      simp only [decodeBlocksL, decodeBlocks, decodeBlockHeaderL_spec _ _ hv rfl, ih.items, ih.blocks]
      rfl
    · intro item c bs
      cases c with
      | zero => rfl
      | succ c => simp only [decodeItemsL, decodeItems, ih.dec, ih.items]; rfl
    · intro item bs
      simp only [decodeMapBlocksL, decodeMapBlocks, decodeBlockHeaderL_spec _ _ hv rfl, ih.mitems,
        ih.mblocks]
      rfl
    · intro item c bs
      cases c with
      | zero => rfl
      | succ c =>
        simp only [decodeMapItemsL, decodeMapItems, decodeStringL_spec _ _ hv, ih.dec, ih.mitems]
        rfl
    · intro ks bs
      cases ks with
      | nil => rfl
      | cons k ks => simp only [decodeFieldsL, decodeFields, ih.dec, ih.fields]; rfl

theorem decodeL_spec (S : Schema) (fuel : Nat) (n : Node) (bs : Bytes) :
    decodeL Limits.spec S fuel n bs = decode S fuel n bs := (specEq S fuel).dec n bs

/-- the unscaled integer and the scale inside the bytes of a `big-decimal`, nothing left over -/
def bigRaw (L : Limits) (inner : Bytes) : Option (Int × Nat) :=
  match decodeBytesL L inner with
  | none => none
  | some (m, inner') =>
    if fitsOpt L.maxDecimal m.length then
      match decodeLenL L inner' with
      | some (scale, []) => some (fromTwosComplementBE m, scale)
      | _ => none
    else none

def bigOf (L : Limits) (inner : Bytes) : Option Value :=
  (bigRaw L inner).map fun p => .bigDecimal p.1 p.2

theorem decodeL_bigDecimal (L : Limits) (S : Schema) (bs : Bytes) :
    decodeL L S 1 .bigDecimal bs = Parser.sel (decodeBytesL L) (bigOf L) bs := by
  simp only [decodeL]; unfold Parser.sel bigOf bigRaw
  rcases decodeBytesL L bs with _ | ⟨inner, r⟩
  · rfl
  · simp only
    rcases decodeBytesL L inner with _ | ⟨m, inner'⟩
    · rfl
    · simp only
      split
      · split <;> simp_all
      · rfl

theorem bigRaw_mono {L L' : Limits} (hle : L.le L') {inner : Bytes} {p : Int × Nat}
    (h : bigRaw L inner = some p) : bigRaw L' inner = some p := by
  unfold bigRaw at h ⊢
  split at h
  · cases h
  · rename_i m inner' hd
    rw [(decodeBytesL_loc hle).sub hd]
    simp only
    split at h
    · rename_i hf
      rw [if_pos (hle.dec _ hf)]
      split at h
      · rename_i scale hs; rw [(decodeLenL_loc hle).sub hs]; exact h
      · cases h
    · cases h

/-- the arms without nested values; with the block header, the map keys and the union index the
    only places where a limit is tested -/
theorem flat_loc {L L' : Limits} (hle : L.le L') (S : Schema) {n : Node} (hl : flat n = true)
    (f g : Nat) : Loc (decodeL L S (f + 1) n) (decodeL L' S (g + 1) n) := by
  rw [decodeL_flat (L := L) hl f, decodeL_flat (L := L') hl g]
  have selLong : ∀ (f : Int → Option Value),
      Loc (Parser.sel (decodeLongL L) f) (Parser.sel (decodeLongL L') f) :=
    fun f => (decodeLongL_loc hle).sel fun _ _ h => h
  have selLen : ∀ (f : Nat → Option Value),
      Loc (Parser.sel (decodeLenL L) f) (Parser.sel (decodeLenL L') f) :=
    fun f => (decodeLenL_loc hle).sel fun _ _ h => h
  cases n with
  | array _ | map _ | union _ | record _ _ => cases hl
  | null => exact .ret _
  | boolean =>
    intro bs a r h
    simp only [decodeL] at h ⊢
    split at h
    · rename_i b rest
      split at h
      · rename_i hb; cases h
        exact ⟨[b], rfl, fun r' => by simp only [List.cons_append, List.nil_append, if_pos hb]⟩
      · rename_i hb
        split at h
        · rename_i hb1; cases h
          exact ⟨[b], rfl, fun r' => by
            simp only [List.cons_append, List.nil_append, if_neg hb, if_pos hb1]⟩
        · cases h
    · cases h
  | fixed _ _ =>
    intro bs a r h; simp only [decodeL] at h ⊢; exact Loc.map (takeN_local _) _ bs a r h
  | float =>
    intro bs a r h; simp only [decodeL] at h ⊢
    exact Loc.map (takeN_local _) (fun b => .float (BitVec.ofNat 32 (leToNat b))) bs a r h
  | double =>
    intro bs a r h; simp only [decodeL] at h ⊢
    exact Loc.map (takeN_local _) (fun b => .double (BitVec.ofNat 64 (leToNat b))) bs a r h
  | duration =>
    intro bs a r h; simp only [decodeL] at h ⊢
    exact Loc.map (takeN_local _) (fun b => .duration (leToNat (b.take 4))
      (leToNat ((b.drop 4).take 4)) (leToNat (b.drop 8))) bs a r h
  | bytes =>
    intro bs a r h; simp only [decodeL] at h ⊢; exact Loc.map (decodeBytesL_loc hle) _ bs a r h
  | string | uuid =>
    intro bs a r h; simp only [decodeL] at h ⊢; exact Loc.map (decodeStringL_loc hle) _ bs a r h
  | int | date | timeMillis =>
    refine .congr ?_ ?_ (selLong fun i => if InI32 i then some (.int i) else none)
    all_goals
      intro bs; simp only [decodeL]; unfold Parser.sel
      generalize decodeLongL _ bs = x
      rcases x with _ | ⟨i, r⟩
      · rfl
      · simp only; split <;> rfl
  | long | timeMicros | timestampMillis | timestampMicros =>
    refine .congr ?_ ?_ (selLong fun i => some (.long i))
    all_goals
      intro bs; simp only [decodeL]; unfold Parser.sel
      generalize decodeLongL _ bs = x
      rcases x with _ | ⟨i, r⟩ <;> rfl
  | «enum» nm syms =>
    refine .congr ?_ ?_ (selLen fun idx => if idx < syms.length then some (.enum idx) else none)
    all_goals
      intro bs; simp only [decodeL]; unfold Parser.sel
      generalize decodeLenL _ bs = x
      rcases x with _ | ⟨i, r⟩
      · rfl
      · simp only; split <;> rfl
  | decimal sc pr repr =>
    cases repr with
    | bytes =>
      refine .congr (q := Parser.sel (decodeBytesL L) fun b =>
          if fitsOpt L.maxDecimal b.length then some (.decimal (fromTwosComplementBE b)) else none)
        (q' := Parser.sel (decodeBytesL L') fun b =>
          if fitsOpt L'.maxDecimal b.length then some (.decimal (fromTwosComplementBE b)) else none)
        ?_ ?_ ((decodeBytesL_loc hle).sel fun b v h => ?_)
      · intro bs; simp only [decodeL]; unfold Parser.sel
        generalize decodeBytesL _ bs = x
        rcases x with _ | ⟨i, r⟩
        · rfl
        · simp only; split <;> rfl
      · intro bs; simp only [decodeL]; unfold Parser.sel
        generalize decodeBytesL _ bs = x
        rcases x with _ | ⟨i, r⟩
        · rfl
        · simp only; split <;> rfl
      · split at h
        · rename_i hf; rw [if_pos (hle.dec _ hf)]; exact h
        · cases h
    | fixed nm size =>
      intro bs a r h
      simp only [decodeL] at h ⊢
      split at h
      · rename_i hf
        simp only [if_pos (hle.dec _ hf)]
        exact Loc.map (takeN_local size) (fun b => .decimal (fromTwosComplementBE b)) bs a r h
      · cases h
  | bigDecimal =>
    refine .congr (decodeL_bigDecimal L S) (decodeL_bigDecimal L' S)
      ((decodeBytesL_loc hle).sel fun inner v h => ?_)
    obtain ⟨p, hp, rfl⟩ := Option.map_eq_some_iff.1 h
    exact Option.map_eq_some_iff.2 ⟨p, bigRaw_mono hle hp, rfl⟩

/-- one walk for limits, fuel and locality: every run under `L` with fuel `fuel` is reproduced under
    the wider `L'` with more fuel `fuel'` on the consumed bytes, function by function -/
structure LocL (L L' : Limits) (S : Schema) (fuel fuel' : Nat) : Prop where
  dec : ∀ n, Loc (decodeL L S fuel n) (decodeL L' S fuel' n)
  blocks : ∀ item, Loc (decodeBlocksL L S fuel item) (decodeBlocksL L' S fuel' item)
  items : ∀ item c, Loc (decodeItemsL L S fuel item c) (decodeItemsL L' S fuel' item c)
  mblocks : ∀ item, Loc (decodeMapBlocksL L S fuel item) (decodeMapBlocksL L' S fuel' item)
  mitems : ∀ item c, Loc (decodeMapItemsL L S fuel item c) (decodeMapItemsL L' S fuel' item c)
  fields : ∀ ks, Loc (decodeFieldsL L S fuel ks) (decodeFieldsL L' S fuel' ks)

theorem locL {L L' : Limits} (hle : L.le L') (S : Schema) :
    ∀ fuel fuel', fuel ≤ fuel' → LocL L L' S fuel fuel' := by
  intro fuel
  induction fuel with
  | zero =>
    intro fuel' _
    refine ⟨fun _ => .of_eq_none fun _ => rfl, fun _ => .of_eq_none fun _ => rfl, ?_,
      fun _ => .of_eq_none fun _ => rfl, ?_, ?_⟩
    · intro item c
      cases c with
      | zero => exact .congr (decodeItemsL_zero _ _) (decodeItemsL_zero _ _) (.ret [])
      | succ c => exact .of_eq_none fun _ => rfl
    · intro item c
      cases c with
      | zero => exact .congr (decodeMapItemsL_zero _ _) (decodeMapItemsL_zero _ _) (.ret [])
      | succ c => exact .of_eq_none fun _ => rfl
    · intro ks
      cases ks with
      | nil => exact .congr (decodeFieldsL_nil _) (decodeFieldsL_nil _) (.ret [])
      | cons k ks => exact .of_eq_none fun _ => rfl
  | succ fuel ih =>
    intro fuel' hf
    obtain ⟨g, rfl, hg⟩ := exists_succ_of_le hf
    have I := ih g hg
    refine ⟨?_, ?_, ?_, ?_, ?_, ?_⟩
    · intro n
      cases n with
      | array k =>
        rw [decodeL_array, decodeL_array]
        exact (Loc.ofOpt _).bind fun item => (I.blocks item).sel fun _ _ h => h
      | map k =>
        rw [decodeL_map, decodeL_map]
        exact (Loc.ofOpt _).bind fun item => (I.mblocks item).sel fun _ _ h => h
      | union ks =>
        rw [decodeL_union, decodeL_union]
        exact (decodeLenL_loc hle).bind fun _ => (Loc.ofOpt _).bind fun _ =>
          (Loc.ofOpt _).bind fun branch => (I.dec branch).sel fun _ _ h => h
      | record nm fields =>
        rw [decodeL_record, decodeL_record]; exact (I.fields _).sel fun _ _ h => h
      | _ => exact flat_loc hle S (by rfl) _ _
    · intro item
      rw [decodeBlocksL_succ, decodeBlocksL_succ]
      exact (decodeBlockHeaderL_loc hle).bind fun c => .ite (.ret _)
        ((I.items item c).bind fun _ => (I.blocks item).sel fun _ _ h => h)
    · intro item c
      cases c with
      | zero => exact .congr (decodeItemsL_zero _ _) (decodeItemsL_zero _ _) (.ret [])
      | succ c =>
        rw [decodeItemsL_succ, decodeItemsL_succ]
        exact (I.dec item).bind fun _ => (I.items item c).sel fun _ _ h => h
    · intro item
      rw [decodeMapBlocksL_succ, decodeMapBlocksL_succ]
      exact (decodeBlockHeaderL_loc hle).bind fun c => .ite (.ret _)
        ((I.mitems item c).bind fun _ => (I.mblocks item).sel fun _ _ h => h)
    · intro item c
      cases c with
      | zero => exact .congr (decodeMapItemsL_zero _ _) (decodeMapItemsL_zero _ _) (.ret [])
      | succ c =>
        rw [decodeMapItemsL_succ, decodeMapItemsL_succ]
        exact (decodeStringL_loc hle).bind fun _ => (I.dec item).bind fun _ =>
          (I.mitems item c).sel fun _ _ h => h
    · intro ks
      cases ks with
      | nil => exact .congr (decodeFieldsL_nil _) (decodeFieldsL_nil _) (.ret [])
      | cons k ks =>
        rw [decodeFieldsL_cons, decodeFieldsL_cons]
        exact (Loc.ofOpt _).bind fun n => (I.dec n).bind fun _ =>
          (I.fields ks).sel fun _ _ h => h

/-- `LocL` on the same input (`Loc.sub`), in the form the deserializer proofs consume -/
structure MonoAll (L L' : Limits) (S : Schema) (fuel : Nat) : Prop where
  dec : ∀ n bs r fuel', fuel ≤ fuel' → decodeL L S fuel n bs = some r →
    decodeL L' S fuel' n bs = some r
  blocks : ∀ item bs r fuel', fuel ≤ fuel' → decodeBlocksL L S fuel item bs = some r →
    decodeBlocksL L' S fuel' item bs = some r
  items : ∀ item c bs r fuel', fuel ≤ fuel' → decodeItemsL L S fuel item c bs = some r →
    decodeItemsL L' S fuel' item c bs = some r
  mblocks : ∀ item bs r fuel', fuel ≤ fuel' → decodeMapBlocksL L S fuel item bs = some r →
    decodeMapBlocksL L' S fuel' item bs = some r
  mitems : ∀ item c bs r fuel', fuel ≤ fuel' → decodeMapItemsL L S fuel item c bs = some r →
    decodeMapItemsL L' S fuel' item c bs = some r
  fields : ∀ ks bs r fuel', fuel ≤ fuel' → decodeFieldsL L S fuel ks bs = some r →
    decodeFieldsL L' S fuel' ks bs = some r

theorem monoAll {L L' : Limits} (hle : L.le L') (S : Schema) : ∀ fuel, MonoAll L L' S fuel :=
  fun fuel =>
  { dec := fun n _ _ f' hf h => ((locL hle S fuel f' hf).dec n).sub h
    blocks := fun item _ _ f' hf h => ((locL hle S fuel f' hf).blocks item).sub h
    items := fun item c _ _ f' hf h => ((locL hle S fuel f' hf).items item c).sub h
    mblocks := fun item _ _ f' hf h => ((locL hle S fuel f' hf).mblocks item).sub h
    mitems := fun item c _ _ f' hf h => ((locL hle S fuel f' hf).mitems item c).sub h
    fields := fun ks _ _ f' hf h => ((locL hle S fuel f' hf).fields ks).sub h }

theorem decodeL_mono {L L' : Limits} (hle : L.le L') (S : Schema) {fuel fuel' : Nat}
    (hf : fuel ≤ fuel') {n : Node} {bs : Bytes} {r : Value × Bytes}
    (h : decodeL L S fuel n bs = some r) : decodeL L' S fuel' n bs = some r :=
  (monoAll hle S fuel).dec n bs r fuel' hf h

theorem agree_of_mono {α : Type} {g g' k : Nat → Option α}
    (hm : ∀ f f' r, f ≤ f' → g f = some r → k f' = some r)
    (hm' : ∀ f f' r, f ≤ f' → g' f = some r → k f' = some r) {f1 f2 : Nat} {a b : α}
    (h1 : g f1 = some a) (h2 : g' f2 = some b) : a = b := by
  have e1 := hm f1 (max f1 f2) a (Nat.le_max_left ..) h1
  have e2 := hm' f2 (max f1 f2) b (Nat.le_max_right ..) h2
  rw [e1] at e2
  exact Option.some.inj e2

section agree
variable {L L' : Limits} (S : Schema) {fuel fuel' : Nat}

theorem decodeL_agree {n : Node} {bs : Bytes} {r r' : Value × Bytes}
    (h : decodeL L S fuel n bs = some r) (h' : decodeL L' S fuel' n bs = some r') : r = r' :=
  agree_of_mono (fun f f' r hf h => (monoAll (Limits.le_specLax L) S f).dec n bs r f' hf h)
    (fun f f' r hf h => (monoAll (Limits.le_specLax L') S f).dec n bs r f' hf h) h h'

theorem decodeItemsL_agree {item : Node} {c : Nat} {bs : Bytes} {r r' : List Value × Bytes}
    (h : decodeItemsL L S fuel item c bs = some r) (h' : decodeItemsL L' S fuel' item c bs = some r') :
    r = r' :=
  agree_of_mono (fun f f' r hf h => (monoAll (Limits.le_specLax L) S f).items item c bs r f' hf h)
    (fun f f' r hf h => (monoAll (Limits.le_specLax L') S f).items item c bs r f' hf h) h h'

theorem decodeBlocksL_agree {item : Node} {bs : Bytes} {r r' : List Value × Bytes}
    (h : decodeBlocksL L S fuel item bs = some r) (h' : decodeBlocksL L' S fuel' item bs = some r') :
    r = r' :=
  agree_of_mono (fun f f' r hf h => (monoAll (Limits.le_specLax L) S f).blocks item bs r f' hf h)
    (fun f f' r hf h => (monoAll (Limits.le_specLax L') S f).blocks item bs r f' hf h) h h'

theorem decodeMapItemsL_agree {item : Node} {c : Nat} {bs : Bytes}
    {r r' : List (String × Value) × Bytes}
    (h : decodeMapItemsL L S fuel item c bs = some r)
    (h' : decodeMapItemsL L' S fuel' item c bs = some r') : r = r' :=
  agree_of_mono (fun f f' r hf h => (monoAll (Limits.le_specLax L) S f).mitems item c bs r f' hf h)
    (fun f f' r hf h => (monoAll (Limits.le_specLax L') S f).mitems item c bs r f' hf h) h h'

theorem decodeMapBlocksL_agree {item : Node} {bs : Bytes} {r r' : List (String × Value) × Bytes}
    (h : decodeMapBlocksL L S fuel item bs = some r)
    (h' : decodeMapBlocksL L' S fuel' item bs = some r') : r = r' :=
  agree_of_mono (fun f f' r hf h => (monoAll (Limits.le_specLax L) S f).mblocks item bs r f' hf h)
    (fun f f' r hf h => (monoAll (Limits.le_specLax L') S f).mblocks item bs r f' hf h) h h'

theorem decodeFieldsL_agree {ks : List Nat} {bs : Bytes} {r r' : List Value × Bytes}
    (h : decodeFieldsL L S fuel ks bs = some r) (h' : decodeFieldsL L' S fuel' ks bs = some r') :
    r = r' :=
  agree_of_mono (fun f f' r hf h => (monoAll (Limits.le_specLax L) S f).fields ks bs r f' hf h)
    (fun f f' r hf h => (monoAll (Limits.le_specLax L') S f).fields ks bs r f' hf h) h h'

end agree

/-- **Prefix-freeness of the decoders.**  An input one decoder takes whole has no proper prefix
    that another takes whole, under any two limit records and fuels and for any second value. -/
theorem decodeL_prefix_free {L L' : Limits} (S : Schema) {fuel fuel' : Nat} {n : Node} {c : Bytes}
    {v v' : Value} (h : decodeL L S fuel n c = some (v, [])) {m : Nat} (hm : m < c.length) :
    decodeL L' S fuel' n (c.take m) ≠ some (v', []) := by
  intro h'
  obtain ⟨d, hd, hloc⟩ := (locL (Limits.le_refl L') S fuel' fuel' (Nat.le_refl _)).dec n _ _ _ h'
  have h1 := hloc (c.drop m)
  rw [← hd.trans (List.append_nil d), List.take_append_drop] at h1
  have e := congrArg (fun r => r.2.length) (decodeL_agree S h h1)
  simp only [List.length_nil, List.length_drop] at e
  omega

/-- Locality and fuel monotonicity of a fuel-indexed parser at a given fuel. -/
def LocalF {α : Type} (p : Nat → Bytes → Option (α × Bytes)) (fuel : Nat) : Prop :=
  ∀ bs a r, p fuel bs = some (a, r) →
    ∃ c, bs = c ++ r ∧ ∀ r' fuel', fuel ≤ fuel' → p fuel' (c ++ r') = some (a, r')

theorem localF_of_loc {α : Type} {p : Nat → Parser α} {fuel : Nat}
    (h : ∀ fuel', fuel ≤ fuel' → Loc (p fuel) (p fuel')) : LocalF p fuel := by
  intro bs a r hp
  obtain ⟨c, rfl, _⟩ := h fuel (Nat.le_refl _) _ _ _ hp
  refine ⟨c, rfl, fun r' fuel' hf => ?_⟩
  obtain ⟨c', hc', e⟩ := h fuel' hf _ _ _ hp
  rw [List.append_cancel_right hc']
  exact e r'

/-- `LocL` at `Limits.spec` transported to `decode` by `specEq` -/
structure LocAll (S : Schema) (fuel : Nat) : Prop where
  dec : ∀ n, LocalF (fun f => decode S f n) fuel
  blocks : ∀ item, LocalF (fun f => decodeBlocks S f item) fuel
  items : ∀ item k, LocalF (fun f => decodeItems S f item k) fuel
  mblocks : ∀ item, LocalF (fun f => decodeMapBlocks S f item) fuel
  mitems : ∀ item k, LocalF (fun f => decodeMapItems S f item k) fuel
  fields : ∀ ks, LocalF (fun f => decodeFields S f ks) fuel

theorem locAll (S : Schema) : ∀ fuel, LocAll S fuel := by
  intro fuel
  have l := fun f' hf => locL (Limits.le_refl Limits.spec) S fuel f' hf
  have e := fun f => specEq S f
  refine ⟨fun n => localF_of_loc fun f' hf => ?_, fun i => localF_of_loc fun f' hf => ?_,
    fun i c => localF_of_loc fun f' hf => ?_, fun i => localF_of_loc fun f' hf => ?_,
    fun i c => localF_of_loc fun f' hf => ?_, fun ks => localF_of_loc fun f' hf => ?_⟩
  · exact .congr (fun bs => ((e _).dec n bs).symm) (fun bs => ((e _).dec n bs).symm) ((l f' hf).dec n)
  · exact .congr (fun bs => ((e _).blocks i bs).symm) (fun bs => ((e _).blocks i bs).symm)
      ((l f' hf).blocks i)
  · exact .congr (fun bs => ((e _).items i c bs).symm) (fun bs => ((e _).items i c bs).symm)
      ((l f' hf).items i c)
  · exact .congr (fun bs => ((e _).mblocks i bs).symm) (fun bs => ((e _).mblocks i bs).symm)
      ((l f' hf).mblocks i)
  · exact .congr (fun bs => ((e _).mitems i c bs).symm) (fun bs => ((e _).mitems i c bs).symm)
      ((l f' hf).mitems i c)
  · exact .congr (fun bs => ((e _).fields ks bs).symm) (fun bs => ((e _).fields ks bs).symm)
      ((l f' hf).fields ks)

/-- locality and, at once, monotonicity in the fuel -/
theorem decode_local (S : Schema) (fuel : Nat) (n : Node) (bs : Bytes) (v : Value) (r : Bytes)
    (h : decode S fuel n bs = some (v, r)) :
    ∃ c, bs = c ++ r ∧ ∀ r' fuel', fuel ≤ fuel' → decode S fuel' n (c ++ r') = some (v, r') :=
  (locAll S fuel).dec n bs v r h

theorem decode_fuel_mono (S : Schema) (fuel fuel' : Nat) (n : Node) (bs : Bytes)
    (res : Value × Bytes) (h : decode S fuel n bs = some res) (hf : fuel ≤ fuel') :
    decode S fuel' n bs = some res := by
  obtain ⟨v, r⟩ := res
  obtain ⟨c, rfl, hc⟩ := decode_local S fuel n bs v r h
  exact hc r fuel' hf

theorem decodeItemsL_length (L : Limits) (S : Schema) (item : Node) : ∀ (fuel c : Nat) (bs : Bytes)
    (vs : List Value) (r : Bytes), decodeItemsL L S fuel item c bs = some (vs, r) → vs.length = c
  | f, 0, bs, vs, r, h => by
    rw [decodeItemsL_zero] at h
    cases h
    rfl
  | 0, c + 1, bs, vs, r, h => by simp [decodeItemsL] at h
  | f + 1, c + 1, bs, vs, r, h => by
    obtain ⟨v, r0, vs', _, hi, rfl⟩ := decodeItemsL_succ_eq_some.1 h
    rw [List.length_cons, decodeItemsL_length L S item f c r0 vs' r hi]

theorem decodeMapItemsL_length (L : Limits) (S : Schema) (item : Node) : ∀ (fuel c : Nat) (bs : Bytes)
    (vs : List (String × Value)) (r : Bytes),
    decodeMapItemsL L S fuel item c bs = some (vs, r) → vs.length = c
  | f, 0, bs, vs, r, h => by
    rw [decodeMapItemsL_zero] at h
    cases h
    rfl
  | 0, c + 1, bs, vs, r, h => by simp [decodeMapItemsL] at h
  | f + 1, c + 1, bs, vs, r, h => by
    obtain ⟨k, rk, v, r0, vs', _, _, hi, rfl⟩ := decodeMapItemsL_succ_eq_some.1 h
    rw [List.length_cons, decodeMapItemsL_length L S item f c r0 vs' r hi]

theorem decodeStringL_inv {L : Limits} {bs rest : Bytes} {k : String}
    (h : decodeStringL L bs = some (k, rest)) :
    ∃ n r b, decodeLenL L bs = some (n, r) ∧ takeN n r = some (b, rest) ∧
      String.fromUTF8? (ByteArray.mk b.toArray) = some k := by
  rw [decodeStringL_bind] at h
  obtain ⟨b, hb, hs⟩ := Parser.sel_eq_some.1 h
  rw [decodeBytesL_bind] at hb
  obtain ⟨n, r, hd, ht⟩ := Parser.bind_eq_some.1 hb
  exact ⟨n, r, b, hd, ht, hs⟩

theorem decodeLongL_length_lt {L : Limits} {bs rest : Bytes} {i : Int}
    (h : decodeLongL L bs = some (i, rest)) : rest.length < bs.length := by
  unfold decodeLongL at h
  split at h
  · rename_i i' rest' hd
    split at h
    · simp only [Option.some.injEq, Prod.mk.injEq] at h
      obtain ⟨_, rfl⟩ := h
      unfold decodeLong at hd
      split at hd
      · cases hd
      · rename_i n r hn
        split at hd
        · simp only [Option.some.injEq, Prod.mk.injEq] at hd
          obtain ⟨_, rfl⟩ := hd
          exact decodeNat_length _ _ _ hn
        · cases hd
    · cases h
  · cases h

theorem decodeLenL_inv {L : Limits} {bs rest : Bytes} {n : Nat}
    (h : decodeLenL L bs = some (n, rest)) :
    ∃ i : Int, decodeLongL L bs = some (i, rest) ∧ 0 ≤ i ∧ n = i.toNat := by
  rw [decodeLenL_bind] at h
  obtain ⟨i, hd, e⟩ := Parser.sel_eq_some.1 h
  split at e
  · rename_i hi; cases e; exact ⟨i, hd, hi, rfl⟩
  · cases e

theorem decodeBytesL_inv {L : Limits} {bs b rest : Bytes}
    (h : decodeBytesL L bs = some (b, rest)) :
    ∃ r0, decodeLenL L bs = some (b.length, r0) ∧ r0 = b ++ rest := by
  rw [decodeBytesL_bind] at h
  obtain ⟨n, r, hd, ht⟩ := Parser.bind_eq_some.1 h
  obtain ⟨rfl, rfl⟩ := takeN_eq ht
  exact ⟨_, hd, rfl⟩

theorem decodeLenL_length_lt {L : Limits} {bs rest : Bytes} {n : Nat}
    (h : decodeLenL L bs = some (n, rest)) : rest.length < bs.length := by
  obtain ⟨i, hi, _, _⟩ := decodeLenL_inv h
  exact decodeLongL_length_lt hi

theorem decodeBytesL_length_lt {L : Limits} {bs b rest : Bytes}
    (h : decodeBytesL L bs = some (b, rest)) : rest.length < bs.length := by
  obtain ⟨r0, h1, rfl⟩ := decodeBytesL_inv h
  have := decodeLenL_length_lt h1
  simp only [List.length_append] at this
  omega

theorem decodeStringL_length_lt {L : Limits} {bs rest : Bytes} {k : String}
    (h : decodeStringL L bs = some (k, rest)) : rest.length < bs.length := by
  obtain ⟨n, r, b, h1, h2, _⟩ := decodeStringL_inv h
  have := decodeLenL_length_lt h1
  obtain ⟨rfl, _⟩ := takeN_eq h2
  simp only [List.length_append] at this
  omega

theorem decodeBlockHeaderL_length_lt {L : Limits} {bs rest : Bytes} {c : Nat}
    (h : decodeBlockHeaderL L bs = some (c, rest)) : rest.length < bs.length := by
  unfold decodeBlockHeaderL at h
  split at h
  · cases h
  · rename_i c0 r0 h0
    have l0 := decodeLongL_length_lt h0
    split at h
    · simp only [Option.some.injEq, Prod.mk.injEq] at h
      obtain ⟨_, rfl⟩ := h
      exact l0
    · split at h
      · cases h
      · rename_i sz r1 h1
        have l1 := decodeLongL_length_lt h1
        split at h
        · simp only [Option.some.injEq, Prod.mk.injEq] at h
          obtain ⟨_, rfl⟩ := h
          omega
        · cases h

end Avro.Spec
