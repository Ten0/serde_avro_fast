import AvroModel.Lemmas.SpecObserve
import AvroModel.Lemmas.SpecRoundTrip
/-
What the deserializer can represent fits the implementation's limits: a value with an observation
(`observe`), whose decimals on `fixed` have at most 16 bytes (`fixedDecOk`), satisfies
`decFits Limits.impl` (`decFits_impl_of_observe`), so its canonical encoding is accepted by
`decodeX Limits.impl` (`decodeX_impl_encode`, from `Spec.decodeX_encode`).
-/
namespace Avro.Spec
open Avro Avro.Impl

/-- induction hypothesis of `decFits_impl_of_observe`: at every node, the conditions of
    `C01_de_accepts` imply `decFits Limits.impl` -/
def FitsOfObs (S : Schema) (v : Value) : Prop :=
  ∀ n : Node, (observe S n v).isSome = true → fixedDecOk S n v = true →
    decFits Limits.impl S n v = true

theorem decFitsItems_of_obs (S : Schema) (item : Node) :
    ∀ l : List Value, (∀ v ∈ l, FitsOfObs S v) → (observeList S item l).isSome = true →
      fixedDecOkItems S item l = true → decFitsItems Limits.impl S item l = true := by
  intro l
  induction l with
  | nil => intro _ _ _; rfl
  | cons v vs ih =>
    intro hall hobs hfix
    simp only [observeList] at hobs
    have ⟨h1, h2⟩ : (observe S item v).isSome = true ∧ (observeList S item vs).isSome = true := by
      split at hobs
      · rename_i e1 e2; exact ⟨Option.isSome_of_eq_some e1, Option.isSome_of_eq_some e2⟩
      · simp at hobs
    simp only [fixedDecOkItems, Bool.and_eq_true] at hfix
    simp only [decFitsItems, Bool.and_eq_true]
    exact ⟨hall v (List.mem_cons_self ..) item h1 hfix.1,
      ih (fun w hw => hall w (List.mem_cons_of_mem _ hw)) h2 hfix.2⟩

theorem decFitsEntries_of_obs (S : Schema) (item : Node) :
    ∀ l : List (String × Value), (∀ e ∈ l, FitsOfObs S e.2) →
      (observeEntries S item l).isSome = true →
      fixedDecOkEntries S item l = true → decFitsEntries Limits.impl S item l = true := by
  intro l
  induction l with
  | nil => intro _ _ _; rfl
  | cons e es ih =>
    obtain ⟨k, v⟩ := e
    intro hall hobs hfix
    simp only [observeEntries] at hobs
    have ⟨h1, h2⟩ : (observe S item v).isSome = true ∧ (observeEntries S item es).isSome = true := by
      split at hobs
      · rename_i e1 e2; exact ⟨Option.isSome_of_eq_some e1, Option.isSome_of_eq_some e2⟩
      · simp at hobs
    simp only [fixedDecOkEntries, Bool.and_eq_true] at hfix
    simp only [decFitsEntries, Bool.and_eq_true]
    exact ⟨hall (k, v) (List.mem_cons_self ..) item h1 hfix.1,
      ih (fun w hw => hall w (List.mem_cons_of_mem _ hw)) h2 hfix.2⟩

theorem decFitsFields_of_obs (S : Schema) :
    ∀ (l : List Value), (∀ v ∈ l, FitsOfObs S v) → ∀ fields : List (String × Nat),
      (observeFields S fields l).isSome = true →
      fixedDecOkFields S fields l = true →
      decFitsFields Limits.impl S (fields.map (·.2)) l = true := by
  intro l
  induction l with
  | nil =>
    intro _ fields _ _
    cases fields <;> rfl
  | cons v vs ih =>
    intro hall fields hobs hfix
    cases fields with
    | nil => rfl
    | cons fd fs =>
      obtain ⟨name, k⟩ := fd
      simp only [observeFields] at hobs
      simp only [fixedDecOkFields, Bool.and_eq_true] at hfix
      simp only [List.map_cons, decFitsFields, Bool.and_eq_true, nodeOf]
      rcases hk : S[k]? with _ | fnode <;> rw [hk] at hobs hfix
      · simp at hobs
      · simp only at hobs hfix
        have ⟨h1, h2⟩ : (observe S fnode v).isSome = true ∧
            (observeFields S fs vs).isSome = true := by
          split at hobs
          · rename_i e1 e2; exact ⟨Option.isSome_of_eq_some e1, Option.isSome_of_eq_some e2⟩
          · simp at hobs
        exact ⟨hall v (List.mem_cons_self ..) fnode h1 hfix.1,
          ih (fun w hw => hall w (List.mem_cons_of_mem _ hw)) fs h2 hfix.2⟩

theorem fitsOfObs_of_size_le (S : Schema) : ∀ (N : Nat) (v : Value), size v ≤ N → FitsOfObs S v := by
  intro N
  induction N with
  | zero => intro v hv; have := size_pos v; omega
  | succ N ih =>
    intro v hv n hobs hfix
    cases v with
    | decimal u =>
      cases n with
      | decimal sc pr repr =>
        cases repr with
        | bytes =>
          simp only [observe, Option.isSome_map] at hobs
          obtain ⟨str, hstr⟩ := Option.isSome_iff_exists.1 hobs
          have h16 := minimalLen_le_16 u (decToStringModel_some hstr).1
          simp only [decFits, Limits.impl, fitsOpt, decide_eq_true_eq]
          exact h16
        | fixed nm size =>
          simp only [fixedDecOk, decide_eq_true_eq] at hfix
          simp only [decFits, Limits.impl, fitsOpt, decide_eq_true_eq]
          exact hfix
      | _ => rfl
    | bigDecimal u scale =>
      simp only [observe, Option.isSome_map] at hobs
      obtain ⟨str, hstr⟩ := Option.isSome_iff_exists.1 hobs
      have h16 := minimalLen_le_16 u (decToStringModel_some hstr).1
      simp only [decFits, Limits.impl, fitsOpt, decide_eq_true_eq]
      exact h16
    | union idx v =>
      cases n with
      | union vs =>
        rw [size] at hv
        simp only [observe] at hobs
        simp only [fixedDecOk] at hfix
        simp only [decFits, nodeOf]
        rcases hk : vs[idx]? with _ | k
        · rfl
        · rw [hk] at hobs hfix
          simp only at hobs hfix ⊢
          rcases hb : S[k]? with _ | branch
          · rfl
          · rw [hb] at hobs hfix
            exact ih v (by omega) branch hobs hfix
      | _ => rfl
    | array items =>
      cases n with
      | array k =>
        rw [size] at hv
        simp only [observe] at hobs
        simp only [fixedDecOk] at hfix
        simp only [decFits, nodeOf]
        rcases hk : S[k]? with _ | item
        · rfl
        · rw [hk] at hobs hfix
          simp only [Option.isSome_map] at hobs
          exact decFitsItems_of_obs S item items
            (fun w hw => ih w (by have := size_lt_sizeItems hw; omega)) hobs hfix
      | _ => rfl
    | map entries =>
      cases n with
      | map k =>
        rw [size] at hv
        simp only [observe] at hobs
        simp only [fixedDecOk] at hfix
        simp only [decFits, nodeOf]
        rcases hk : S[k]? with _ | item
        · rfl
        · rw [hk] at hobs hfix
          simp only [Option.isSome_map] at hobs
          exact decFitsEntries_of_obs S item entries
            (fun e he => ih e.2 (by have := size_lt_sizeEntries (k := e.1) (v := e.2) he; omega))
            hobs hfix
      | _ => rfl
    | record vals =>
      cases n with
      | record nm fields =>
        rw [size] at hv
        simp only [observe, Option.isSome_map] at hobs
        simp only [fixedDecOk] at hfix
        simp only [decFits]
        exact decFitsFields_of_obs S vals
          (fun w hw => ih w (by have := size_lt_sizeItems hw; omega)) fields hobs hfix
      | _ => rfl
    | _ => rfl

theorem decFits_impl_of_observe (S : Schema) (n : Node) (v : Value)
    (hobs : (observe S n v).isSome = true) (hfix : fixedDecOk S n v = true) :
    decFits Limits.impl S n v = true :=
  fitsOfObs_of_size_le S (size v) v (Nat.le_refl _) n hobs hfix

theorem decodeX_impl_encode (S : Schema) (n : Node) (v : Value) (enc rest : Bytes)
    (henc : encode S n v = some enc) (hobs : (observe S n v).isSome = true)
    (hfix : fixedDecOk S n v = true) (fuel : Nat) (hf : size v ≤ fuel) :
    decodeX Limits.impl S fuel n (enc ++ rest) = some (v, rest) :=
  decodeX_encode Limits.impl rfl S n v enc rest henc (decFits_impl_of_observe S n v hobs hfix)
    fuel hf

end Avro.Spec
