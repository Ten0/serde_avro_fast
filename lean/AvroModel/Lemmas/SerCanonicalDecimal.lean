import AvroModel.Lemmas.SerDecimal
/-
Canonical form of the decimal encoders: the two's-complement strings `serDecimal` (through
`canTruncate`) and `serIntegerAsDecimal` (through `stripZeros`, for non-negative integers) write
are the *shortest* two's-complement representations, i.e. exactly what `Spec.encode` writes
(`twosComplementBE (minimalLen u) u`).

Imported by Lemmas/SerReprLeaf.lean: the decimal and integer leaf arms of the walk conclude by
`Representation.of_encode`, whatever the instance.
-/
namespace Avro.Canon
open Avro Avro.Spec Avro.Impl

/-! ### `twosComplementBE` inverts `fromTwosComplementBE` -/

theorem beBytes_beToNat (m : Bytes) : beBytes m.length (beToNat m) = m := by
  have := leBytes_leToNat m.reverse
  rw [List.length_reverse] at this
  simp [beBytes, beToNat, this]

theorem twos_of_fromTwos (m : Bytes) :
    twosComplementBE m.length (fromTwosComplementBE m) = some m := by
  cases m with
  | nil => simp [twosComplementBE, fromTwosComplementBE]
  | cons b tl =>
    have hbe := beBytes_beToNat (b :: tl)
    rw [fromTwos_cons, ← beToNat_cons]
    have hlt := beToNat_lt (b :: tl)
    have hcons := beToNat_cons b tl
    have htl := beToNat_lt tl
    simp only [List.length_cons] at hbe hlt ⊢
    unfold twosComplementBE
    rw [if_neg (by omega), pow2_8succ_pred, pow2_8succ]
    rw [Nat.pow_succ, Nat.mul_comm (256 ^ tl.length) 256] at hlt ⊢
    generalize 256 ^ tl.length = Q at *
    generalize beToNat (b :: tl) = X at *
    generalize hP : b.toNat * Q = P at *
    by_cases hb : b.toNat ≥ 128
    · have h1 : 128 * Q ≤ P := by rw [← hP]; exact Nat.mul_le_mul_right _ hb
      rw [if_pos hb]
      have hr : -((128 * Q : Nat) : Int) ≤ (X : Int) - ((256 * Q : Nat) : Int) ∧
          (X : Int) - ((256 * Q : Nat) : Int) < ((128 * Q : Nat) : Int) := by omega
      rw [if_pos hr]
      have hm : ((X : Int) - ((256 * Q : Nat) : Int)) % ((256 * Q : Nat) : Int) = (X : Int) := by
        rw [Int.sub_emod_right]
        exact Int.emod_eq_of_lt (by omega) (by omega)
      rw [hm, Int.toNat_natCast, hbe]
    · have h1 : P ≤ 127 * Q := by
        rw [← hP]; exact Nat.mul_le_mul_right _ (by omega)
      rw [if_neg hb]
      have hr : -((128 * Q : Nat) : Int) ≤ (X : Int) - 0 ∧ (X : Int) - 0 < ((128 * Q : Nat) : Int) := by
        omega
      rw [if_pos hr]
      have hm : ((X : Int) - 0) % ((256 * Q : Nat) : Int) = (X : Int) := by
        rw [Int.sub_zero]
        exact Int.emod_eq_of_lt (by omega) (by omega)
      rw [hm, Int.toNat_natCast, hbe]

/-- `u` fits `k` bytes of two's complement. -/
def Fits (k : Nat) (u : Int) : Prop := -(2 : Int) ^ (8 * k - 1) ≤ u ∧ u < (2 : Int) ^ (8 * k - 1)

instance (k : Nat) (u : Int) : Decidable (Fits k u) := by unfold Fits; infer_instance

theorem two_pow_mono {a b : Nat} (h : a ≤ b) : (2 : Int) ^ a ≤ (2 : Int) ^ b := by
  have : (2 : Nat) ^ a ≤ (2 : Nat) ^ b := Nat.pow_le_pow_right (by omega) h
  have h1 : ((2 ^ a : Nat) : Int) ≤ ((2 ^ b : Nat) : Int) := by exact_mod_cast this
  simpa using h1

theorem Fits.mono {k k' : Nat} {u : Int} (h : Fits k u) (hk : k ≤ k') : Fits k' u := by
  have := two_pow_mono (a := 8 * k - 1) (b := 8 * k' - 1) (by omega)
  unfold Fits at *
  omega

theorem minimalLen_go_eq (u : Int) (n : Nat) (hfit : Fits n u) :
    ∀ fuel j, j ≤ n → n - j < fuel → (∀ i, j ≤ i → i < n → ¬ Fits i u) →
      minimalLen.go u fuel j = n := by
  intro fuel
  induction fuel with
  | zero => intro j _ h; omega
  | succ fuel ih =>
    intro j hj hf hno
    unfold minimalLen.go
    by_cases hjn : j = n
    · subst hjn
      have : -(2 : Int) ^ (8 * j - 1) ≤ u ∧ u < (2 : Int) ^ (8 * j - 1) := hfit
      rw [if_pos this]
    · have hnf : ¬ (-(2 : Int) ^ (8 * j - 1) ≤ u ∧ u < (2 : Int) ^ (8 * j - 1)) :=
        hno j (Nat.le_refl _) (by omega)
      rw [if_neg hnf]
      exact ih (j + 1) (by omega) (by omega) (fun i hi hin => hno i (by omega) hin)

/-- 64 is the search bound of `Spec.minimalLen` (`go 64 1`). -/
theorem minimalLen_eq {u : Int} {n : Nat} (h1 : 1 ≤ n) (h64 : n ≤ 64) (hfit : Fits n u)
    (hmin : n = 1 ∨ ¬ Fits (n - 1) u) : minimalLen u = n := by
  unfold minimalLen
  refine minimalLen_go_eq u n hfit 64 1 h1 (by omega) ?_
  intro i hi hin hfi
  rcases hmin with h | h
  · omega
  · exact h (hfi.mono (by omega))

/-- no leading byte is mere sign extension -/
def Minimal : Bytes → Prop
  | h :: h2 :: _ => ¬ ((h = 0 ∧ h2.toNat < 128) ∨ (h = 255 ∧ h2.toNat ≥ 128))
  | [_] => True
  | [] => False

theorem fits_of_length (m : Bytes) (hne : m ≠ []) : Fits m.length (fromTwosComplementBE m) := by
  have h := twos_of_fromTwos m
  unfold twosComplementBE at h
  have hl : m.length ≠ 0 := by
    intro h0; exact hne (List.length_eq_zero_iff.1 h0)
  rw [if_neg hl] at h
  by_cases hc : -(2 : Int) ^ (8 * m.length - 1) ≤ fromTwosComplementBE m ∧
      fromTwosComplementBE m < (2 : Int) ^ (8 * m.length - 1)
  · exact hc
  · rw [if_neg hc] at h; cases h

theorem not_fits_pred (h h2 : UInt8) (tl : Bytes)
    (hmin : ¬ ((h = 0 ∧ h2.toNat < 128) ∨ (h = 255 ∧ h2.toNat ≥ 128))) :
    ¬ Fits (tl.length + 1) (fromTwosComplementBE (h :: h2 :: tl)) := by
  intro hf
  unfold Fits at hf
  rw [pow2_8succ_pred, fromTwos_cons, beToNat_cons] at hf
  have htl := beToNat_lt tl
  have hh := h.toNat_lt
  have hh2 := h2.toNat_lt
  simp only [List.length_cons, Nat.pow_succ] at hf
  generalize 256 ^ tl.length = Q at *
  generalize beToNat tl = T at *
  have hQ : 0 < Q := by omega
  generalize hP : h.toNat * (Q * 256) = P at *
  generalize hP2 : h2.toNat * Q = P2 at *
  apply hmin
  by_cases hb : h.toNat ≥ 128
  · rw [if_pos hb] at hf
    right
    -- P + P2 + T - 256 * 256 * Q ≥ -128 Q
    have hh255 : h.toNat = 255 := by
      rcases Nat.lt_or_ge h.toNat 255 with hlt | hge
      · exfalso
        have : P ≤ 254 * (Q * 256) := by rw [← hP]; exact Nat.mul_le_mul_right _ (by omega)
        have : P2 ≤ 255 * Q := by rw [← hP2]; exact Nat.mul_le_mul_right _ (by omega)
        omega
      · omega
    refine ⟨UInt8.toNat_inj.1 hh255, ?_⟩
    rcases Nat.lt_or_ge h2.toNat 128 with hlt | hge
    · exfalso
      have : P = 255 * (Q * 256) := by rw [← hP, hh255]
      have : P2 ≤ 127 * Q := by rw [← hP2]; exact Nat.mul_le_mul_right _ (by omega)
      omega
    · exact hge
  · rw [if_neg hb] at hf
    left
    have hh0 : h.toNat = 0 := by
      rcases Nat.eq_zero_or_pos h.toNat with h0 | hpos
      · exact h0
      · exfalso
        have : 1 * (Q * 256) ≤ P := by rw [← hP]; exact Nat.mul_le_mul_right _ hpos
        omega
    refine ⟨UInt8.toNat_inj.1 hh0, ?_⟩
    rcases Nat.lt_or_ge h2.toNat 128 with hlt | hge
    · exact hlt
    · exfalso
      have : P = 0 := by rw [← hP, hh0]; simp
      have : 128 * Q ≤ P2 := by rw [← hP2]; exact Nat.mul_le_mul_right _ hge
      omega

theorem twos_minimal (m : Bytes) (hmin : Minimal m) (hlen : m.length ≤ 64) :
    twosComplementBE (minimalLen (fromTwosComplementBE m)) (fromTwosComplementBE m) = some m := by
  have hne : m ≠ [] := by intro h; subst h; exact hmin
  have hl : minimalLen (fromTwosComplementBE m) = m.length := by
    refine minimalLen_eq ?_ hlen (fits_of_length m hne) ?_
    · cases m with
      | nil => exact absurd rfl hne
      | cons _ _ => simp
    · match m, hmin with
      | [_], _ => left; rfl
      | h :: h2 :: tl, hmin =>
        right
        have := not_fits_pred h h2 tl hmin
        simpa using this
  rw [hl]
  exact twos_of_fromTwos m

/-! ### `canTruncate` drops a maximal sign prefix -/

theorem le_takeWhile_length {α} (p : α → Bool) (l : List α) (r : Nat) (hr : r ≤ l.length)
    (h : ∀ x ∈ l.take r, p x = true) : r ≤ (l.takeWhile p).length := by
  induction l generalizing r with
  | nil => simpa using hr
  | cons a l ih =>
    cases r with
    | zero => omega
    | succ r =>
      have ha : p a = true := h a (by simp)
      simp only [List.takeWhile_cons, ha, if_true, List.length_cons]
      have := ih r (by simpa using hr) (fun x hx => h x (by simp [hx]))
      omega

theorem signPrefix_le_canTruncate (buf : Bytes) (r : Nat) (hsp : SignPrefix buf r) :
    r ≤ canTruncate buf := by
  have hrl := hsp.lt_length
  obtain ⟨fill', h, tl, hall, hd, hs⟩ := hsp
  cases r with
  | zero => omega
  | succ r =>
  cases buf with
  | nil => simp at hrl
  | cons b0 rest =>
    have hb0 : b0 = fill' := hall b0 (by simp)
    unfold canTruncate
    simp only []
    generalize hbuf : b0 :: rest = buf at *
    have hb0s : (b0.toNat &&& 0x80 = 0) ↔ b0.toNat < 128 := and_128_eq_zero_iff _ b0.toNat_lt
    have hfill : (if b0.toNat &&& 0x80 = 0 then (0x00 : UInt8) else 0xFF) = fill' := by
      rcases hs with ⟨rfl, _⟩ | ⟨rfl, _⟩
      · subst hb0; rfl
      · subst hb0; rfl
    rw [hfill]
    generalize ht : (buf.takeWhile (fun x => decide (x = fill'))).length = t
    have hrt : r + 1 ≤ t := by
      rw [← ht]
      exact le_takeWhile_length _ buf (r + 1) (by omega) (fun x hx => by simpa using hall x hx)
    rw [if_pos (by omega)]
    cases hv : buf[t]? with
    | none =>
      simp only []
      have := List.getElem?_eq_none_iff.1 hv
      omega
    | some v =>
      simp only []
      split
      · omega
      · rename_i hne
        -- then `r + 1 < t`
        rcases Nat.lt_or_ge (r + 1) t with hlt | hge
        · omega
        · exfalso
          have hrt' : r + 1 = t := by omega
          have hh : buf[t]? = some h := by
            have := List.getElem?_drop (xs := buf) (i := r + 1) (j := 0)
            rw [hd] at this
            rw [← hrt']; simpa using this.symm
          rw [hv] at hh
          simp only [Option.some.injEq] at hh
          subst hh
          have hvs : (v.toNat &&& 0x80 = 0) ↔ v.toNat < 128 := and_128_eq_zero_iff _ v.toNat_lt
          apply hne
          apply propext
          rcases hs with ⟨rfl, hvl⟩ | ⟨rfl, hvl⟩
          · subst hb0
            constructor
            · intro _; rfl
            · intro _; exact hvs.2 hvl
          · subst hb0
            constructor
            · intro hc; have := hvs.1 hc; omega
            · intro hc; exact absurd hc (by decide)

theorem minimal_of_max_signPrefix (buf : Bytes) (c : Nat) (hsp : SignPrefix buf c)
    (hmax : ∀ r, SignPrefix buf r → r ≤ c) : Minimal (buf.drop c) := by
  obtain ⟨fill, h, tl, hall, hd, hs⟩ := hsp
  rw [hd]
  cases tl with
  | nil => trivial
  | cons h2 tl' =>
    show ¬ _
    intro hext
    have hclt : c < buf.length := by
      have : (buf.drop c).length = (h2 :: tl').length + 1 := by rw [hd]; rfl
      rw [List.length_drop] at this
      simp at this; omega
    have hhc : buf[c]? = some h := by
      have := List.getElem?_drop (xs := buf) (i := c) (j := 0)
      rw [hd] at this; simpa using this.symm
    have hhfill : h = fill := by
      rcases hext with ⟨rfl, _⟩ | ⟨rfl, _⟩
      · rcases hs with ⟨rfl, _⟩ | ⟨rfl, hc⟩
        · rfl
        · exact absurd hc (by decide)
      · rcases hs with ⟨rfl, hc⟩ | ⟨rfl, _⟩
        · exact absurd hc (by decide)
        · rfl
    have : SignPrefix buf (c + 1) := by
      refine ⟨fill, h2, tl', ?_, ?_, ?_⟩
      · intro x hx
        rw [List.take_add_one, List.mem_append] at hx
        rcases hx with hx | hx
        · exact hall x hx
        · rw [hhc] at hx; simp at hx; rw [hx, hhfill]
      · have : buf.drop (c + 1) = (buf.drop c).drop 1 := by simp
        rw [this, hd]; rfl
      · subst hhfill
        rcases hext with ⟨rfl, h2l⟩ | ⟨rfl, h2l⟩
        · left; exact ⟨rfl, h2l⟩
        · right; exact ⟨rfl, h2l⟩
    have := hmax _ this
    omega

theorem canTruncate_minimal (buf : Bytes) (hne : buf ≠ []) :
    Minimal (buf.drop (canTruncate buf)) :=
  minimal_of_max_signPrefix buf _ (canTruncate_signPrefix buf hne)
    (fun r hr => signPrefix_le_canTruncate buf r hr)

theorem stripZeros_minimal (bs : Bytes) (hne : bs ≠ [])
    (hhead : ∀ b, bs.head? = some b → b.toNat < 128) :
    Minimal (bs.drop (stripZeros bs)) := by
  fun_induction stripZeros bs with
  | case1 b0 b1 rest hc ih =>
    have h1 : b1.toNat < 128 := (and_128_eq_zero_iff _ b1.toNat_lt).1 hc.2
    rw [Nat.add_comm, List.drop_succ_cons]
    exact ih (by simp) (fun b hb => by simp at hb; subst hb; exact h1)
  | case2 b0 b1 rest hc =>
    simp only [List.drop_zero]
    show ¬ _
    have hb0 := hhead b0 (by simp)
    have h1 : (b1.toNat &&& 0x80 = 0) ↔ b1.toNat < 128 := and_128_eq_zero_iff _ b1.toNat_lt
    rintro (⟨rfl, hb1⟩ | ⟨rfl, _⟩)
    · exact hc ⟨rfl, h1.2 hb1⟩
    · exact absurd hb0 (by decide)
  | case3 bs hnot =>
    simp only [List.drop_zero]
    match bs, hne, hnot with
    | [_], _, _ => trivial
    | b0 :: b1 :: rest, _, hnot => exact absurd rfl (hnot b0 b1 rest)

theorem i128be_head_nonneg {n : Int} (h : inI128 n = true) (h0 : 0 ≤ n) :
    ∀ b, (i128be n).head? = some b → b.toNat < 128 := by
  intro b hb
  have hrt := i128be_roundtrip h
  have hlen := i128be_length n
  cases hbuf : i128be n with
  | nil => rw [hbuf] at hb; simp at hb
  | cons b' tl =>
    rw [hbuf] at hb hrt hlen
    simp at hb; subst hb
    rw [fromTwos_cons] at hrt
    have hlt := beToNat_lt (b' :: tl)
    rw [beToNat_cons] at hlt
    simp only [List.length_cons] at hlt
    rcases Nat.lt_or_ge b'.toNat 128 with hl | hge
    · exact hl
    · exfalso
      rw [if_pos hge] at hrt
      omega

theorem truncated_minimal (n : Int) : Minimal (truncated n) :=
  canTruncate_minimal _ (i128be_ne_nil n)

theorem stripped_minimal {n : Int} (h : inI128 n = true) (h0 : 0 ≤ n) : Minimal (stripped n) :=
  stripZeros_minimal _ (i128be_ne_nil n) (i128be_head_nonneg h h0)

theorem encode_decimal_bytes {S : Schema} {scale prec : Nat} {m : Bytes} {u : Int}
    (hmin : Minimal m) (hl : m.length ≤ 64) (hv : fromTwosComplementBE m = u) :
    encode S (.decimal scale prec .bytes) (.decimal u) = some (lenPrefixed m) := by
  subst hv
  simp only [encode, twos_minimal m hmin hl, Option.map_some]

theorem encode_decimal_fixed {S : Schema} {scale prec : Nat} {nm : Name} {size : Nat} {m : Bytes}
    {u : Int} (hl : m.length = size) (hv : fromTwosComplementBE m = u) :
    encode S (.decimal scale prec (.fixed nm size)) (.decimal u) = some m := by
  subst hv hl
  simp only [encode, twos_of_fromTwos]

theorem encode_bigDecimal {S : Schema} {m : Bytes} {u : Int} {scale : Nat}
    (hmin : Minimal m) (hl : m.length ≤ 64) (hv : fromTwosComplementBE m = u) (hsc : scale < 2 ^ 63) :
    encode S .bigDecimal (.bigDecimal u scale) =
      some (lenPrefixed (lenPrefixed m ++ encodeLong scale)) := by
  subst hv
  simp only [encode, hsc, if_true, twos_minimal m hmin hl, Option.map_some]

end Avro.Canon
