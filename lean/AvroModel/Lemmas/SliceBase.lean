import AvroModel.Lemmas.Varint
import AvroModel.Lemmas.DeM
import AvroModel.Lemmas.SpecObserve
/-
The slice-base states of the deserializer model (`RState.mk'`, `SlBase`) and the calculus `Reads`,
what `read_exact` does on them, the masks of struct targets and the schema-level condition
`Schema.fixedDecFits`.

`Reads m enc a`: on the slice back-end (no `Take` in place), started on `enc ++ r`, the action
`m` succeeds with `a` and leaves exactly `r`, changing nothing else in the state; it is
`∀ r, ReadsAt m (enc ++ r) r a`, and no theorem is proved through it.
-/
namespace Avro.Impl
open Avro Avro.Spec

def RState.mk' (s : RState) (r : Bytes) (l : Option Nat) : RState := { s with rest := r, limit := l }

/-- slice back-end, `avail` at its (unused) default -/
structure SlBase (s : RState) : Prop where
  isSlice : s.isSlice = true
  avail : s.avail = 0

@[simp] theorem RState.mk'_rest (s : RState) (r l) : (s.mk' r l).rest = r := rfl
@[simp] theorem RState.mk'_limit (s : RState) (r l) : (s.mk' r l).limit = l := rfl
@[simp] theorem RState.mk'_isSlice (s : RState) (r l) : (s.mk' r l).isSlice = s.isSlice := rfl
@[simp] theorem RState.mk'_avail (s : RState) (r l) : (s.mk' r l).avail = s.avail := rfl
@[simp] theorem RState.mk'_mk' (s : RState) (r l r' l') : (s.mk' r l).mk' r' l' = s.mk' r' l' := rfl

theorem SlBase.mk' {s : RState} (h : SlBase s) (r l) : SlBase (s.mk' r l) := ⟨h.isSlice, h.avail⟩

def Reads {α : Type} (m : DeM α) (enc : Bytes) (a : α) : Prop :=
  ∀ s, SlBase s → ∀ r, m (s.mk' (enc ++ r) none) = (.ok a, s.mk' r none)

theorem Reads.pure {α : Type} (a : α) : Reads (pure a : DeM α) [] a := by
  intro s _ r; rfl

theorem Reads.bind {α β : Type} {m : DeM α} {f : α → DeM β} {e1 e2 e : Bytes} {a : α} {b : β}
    (h1 : Reads m e1 a) (h2 : Reads (f a) e2 b) (he : e = e1 ++ e2) : Reads (m >>= f) e b := by
  intro s hs r
  subst he
  rw [DeM.bind_apply, List.append_assoc, h1 s hs (e2 ++ r)]
  exact h2 s hs r

theorem Reads.bind_right_nil {α β : Type} {m : DeM α} {f : α → DeM β} {e : Bytes} {a : α} {b : β}
    (h1 : Reads m e a) (h2 : Reads (f a) [] b) : Reads (m >>= f) e b :=
  Reads.bind h1 h2 (by simp)

theorem Reads.map_pure {α β : Type} {m : DeM α} {e : Bytes} {a : α} (g : α → β)
    (h1 : Reads m e a) : Reads (m >>= fun x => Pure.pure (g x)) e (g a) :=
  Reads.bind_right_nil h1 (Reads.pure _)

theorem readExactR_zero (f : Nat) (acc : Bytes) : readExactR f 0 acc = pure acc := by
  cases f <;> rfl

theorem readSome_slice (s : RState) (hs : SlBase s) (b r : Bytes) (l : Option Nat) (k : Nat)
    (hb : b.length = k + 1) (hl : ∀ x, l = some x → k + 1 ≤ x) :
    readSome (k + 1) (s.mk' (b ++ r) l) = (.ok b, s.mk' r (l.map (· - (k + 1)))) := by
  obtain ⟨isS, rest, av, sched, lc, ma, scr, lim⟩ := s
  obtain ⟨h1, h2⟩ := hs
  simp only at h1 h2
  subst h1 h2
  have h0 : ¬ (k + 1 = 0) := by omega
  have hm : min (k + 1) (k + 1 + r.length) = k + 1 := by omega
  have ht : List.take (k + 1) (b ++ r) = b := by rw [← hb, List.take_left]
  have hd : List.drop (k + 1) (b ++ r) = r := by rw [← hb, List.drop_left]
  cases l with
  | none =>
    simp only [RState.mk', readSome, fillBuf, if_true, consume, List.length_append, hb, h0,
      if_false, hm, ht, hd, Option.map_none, Nat.zero_sub]
  | some x =>
    have hx := hl x rfl
    have hk' : min (k + 1) x = k + 1 := by omega
    simp only [RState.mk', readSome, fillBuf, if_true, consume, List.length_append, hb, h0,
      if_false, hm, ht, hd, hk', Option.map_some, Nat.zero_sub]

theorem readExact_slice (s : RState) (hs : SlBase s) (b r : Bytes) (l : Option Nat)
    (hl : ∀ x, l = some x → b.length ≤ x) :
    readExact b.length (s.mk' (b ++ r) l) = (.ok b, s.mk' r (l.map (· - b.length))) := by
  unfold readExact
  cases b with
  | nil =>
    rw [List.length_nil, readExactR_zero]
    cases l <;> rfl
  | cons x xs =>
    rw [List.length_cons, readExactR, DeM.bind_apply,
      readSome_slice s hs (x :: xs) r l xs.length rfl (by simpa using hl)]
    simp only [List.isEmpty_cons, Bool.false_eq_true, if_false, List.length_cons, Nat.sub_self,
      readExactR_zero, List.nil_append]
    rfl

theorem i128OfBE_eq (b : Bytes) : i128OfBE b = fromTwosComplementBE b := by
  unfold i128OfBE fromTwosComplementBE
  cases b with
  | nil => rfl
  | cons b0 tl =>
    simp only
    have := and_128_eq_zero_iff b0.toNat b0.toNat_lt
    by_cases h : b0.toNat < 128
    · have h1 : b0.toNat &&& 0x80 = 0 := this.2 h
      have h2 : ¬ (b0.toNat ≥ 128) := by omega
      simp only [h1, h2, ne_eq, not_true_eq_false, if_false]
    · have h1 : ¬ (b0.toNat &&& 0x80 = 0) := fun hh => h (this.1 hh)
      have h2 : b0.toNat ≥ 128 := by omega
      simp only [h1, h2, ne_eq, not_false_eq_true, if_true]


/-- what a struct target listing the fields `fs` keeps of an entry of the full read -/
def maskEntry (fs : List (String × Hint)) : Out × Out → Out × Out
  | (.str name b, o) => (.str name b, if (lookupHint name fs).isSome then o else .unit)
  | e => e

theorem lookupHint_any (name : String) : ∀ (fs : List (String × Hint)), (∀ p ∈ fs, p.2 = .any) →
    lookupHint name fs = none ∨ lookupHint name fs = some .any := by
  intro fs
  induction fs with
  | nil => intro _; exact Or.inl rfl
  | cons p fs ih =>
    obtain ⟨k, fh⟩ := p
    intro hall
    simp only [lookupHint]
    split
    · right
      have := hall (k, fh) List.mem_cons_self
      simp only at this
      rw [this]
    · exact ih (fun q hq => hall q (List.mem_cons_of_mem _ hq))

def Node.fixedDecFits : Node → Bool
  | .decimal _ _ (.fixed _ size) => decide (size ≤ 16)
  | _ => true

abbrev Schema.fixedDecFits (S : Schema) : Prop :=
  ∀ (k : Nat) (n : Node), S[k]? = some n → n.fixedDecFits = true

theorem fixedDecOk_of_schema (S : Schema) (hS : Schema.fixedDecFits S) :
    ∀ (N : Nat) (v : Value), size v ≤ N → ∀ n : Node, n.fixedDecFits = true →
      fixedDecOk S n v = true := by
  intro N
  induction N with
  | zero => intro v hv; have := size_pos v; omega
  | succ N ih =>
    intro v hv n hn
    cases v with
    | decimal u =>
      simp only [fixedDecOk]
      split
      · simpa [Node.fixedDecFits] using hn
      · rfl
    | union idx v =>
      simp only [size] at hv
      simp only [fixedDecOk]
      split
      · split
        · rfl
        · split
          · rfl
          · rename_i b hb
            exact ih v (by omega) b (hS _ _ hb)
      · rfl
    | array items =>
      simp only [size] at hv
      simp only [fixedDecOk]
      split
      · split
        · rfl
        · rename_i item hitem
          have hi := hS _ _ hitem
          have : ∀ l : List Value, (∀ v ∈ l, size v ≤ N) → fixedDecOkItems S item l = true := by
            intro l
            induction l with
            | nil => intro _; rfl
            | cons a l ihl =>
              intro hl
              simp only [fixedDecOkItems, Bool.and_eq_true]
              exact ⟨ih a (hl a List.mem_cons_self) item hi,
                ihl (fun w hw => hl w (List.mem_cons_of_mem _ hw))⟩
          exact this items (fun w hw => by have := size_lt_sizeItems hw; omega)
      · rfl
    | map entries =>
      simp only [size] at hv
      simp only [fixedDecOk]
      split
      · split
        · rfl
        · rename_i item hitem
          have hi := hS _ _ hitem
          have : ∀ l : List (String × Value), (∀ kv ∈ l, size kv.2 ≤ N) →
              fixedDecOkEntries S item l = true := by
            intro l
            induction l with
            | nil => intro _; rfl
            | cons a l ihl =>
              obtain ⟨k, w⟩ := a
              intro hl
              simp only [fixedDecOkEntries, Bool.and_eq_true]
              exact ⟨ih w (hl (k, w) List.mem_cons_self) item hi,
                ihl (fun w hw => hl w (List.mem_cons_of_mem _ hw))⟩
          exact this entries (fun kv hkv => by
            have := size_lt_sizeEntries (k := kv.1) (v := kv.2) hkv; omega)
      · rfl
    | record vals =>
      simp only [size] at hv
      simp only [fixedDecOk]
      split
      · rename_i nm fields
        have : ∀ (fs : List (String × Nat)) (l : List Value), (∀ v ∈ l, size v ≤ N) →
            fixedDecOkFields S fs l = true := by
          intro fs
          induction fs with
          | nil => intro l _; simp [fixedDecOkFields]
          | cons fk fs ihf =>
            obtain ⟨name, k⟩ := fk
            intro l hl
            cases l with
            | nil => simp [fixedDecOkFields]
            | cons a l =>
              simp only [fixedDecOkFields, Bool.and_eq_true]
              refine ⟨?_, ihf l (fun w hw => hl w (List.mem_cons_of_mem _ hw))⟩
              split
              · rfl
              · rename_i fnode hf
                exact ih a (hl a List.mem_cons_self) fnode (hS _ _ hf)
        exact this fields vals (fun w hw => by have := size_lt_sizeItems hw; omega)
      · rfl
    | null => rfl
    | bool _ => rfl
    | int _ => rfl
    | long _ => rfl
    | float _ => rfl
    | double _ => rfl
    | bytes _ => rfl
    | string _ => rfl
    | enum _ => rfl
    | fixed _ => rfl
    | bigDecimal _ _ => rfl
    | duration _ _ _ => rfl

end Avro.Impl
