import AvroModel.Spec.Value
/-
Comparing a computed text with a long string literal.  The kernel builds a literal's byte array one
push at a time on an array it represents as a list, so `decide +kernel` on `text = "…"` is quadratic
in the length of the literal.  But a literal is by definition `String.ofList` of its characters, and
the UTF-8 bytes of a list of characters are a linear-time `List.flatMap`.  So `apply` one of the
lemmas below (the unifier turns the literal into its list of characters) and let the kernel compare
byte lists.
-/
namespace Avro
open Avro.Spec

theorem utf8_ofList (l : List Char) : utf8 (String.ofList l) = l.flatMap String.utf8EncodeChar := by
  simp [utf8, List.utf8Encode]

theorem utf8_injective {s t : String} (h : utf8 s = utf8 t) : s = t :=
  String.toByteArray_inj.1 (ByteArray.ext (Array.toList_inj.1 h))

theorem eq_ofList_of_utf8 {s : String} {l : List Char}
    (h : utf8 s = l.flatMap String.utf8EncodeChar) : s = String.ofList l :=
  utf8_injective (h.trans (utf8_ofList l).symm)

theorem eq_some_ofList_of_utf8 {o : Option String} {l : List Char}
    (h : o.map utf8 = some (l.flatMap String.utf8EncodeChar)) : o = some (String.ofList l) := by
  cases o with
  | none => cases h
  | some s => exact congrArg some (eq_ofList_of_utf8 (Option.some.inj h))

theorem eq_ok_ofList_of_utf8 {ε : Type} {x : Except ε String} {l : List Char}
    (h : x.map utf8 = .ok (l.flatMap String.utf8EncodeChar)) : x = .ok (String.ofList l) := by
  cases x with
  | error e => cases h
  | ok s => exact congrArg Except.ok (eq_ofList_of_utf8 (Except.ok.inj h))

end Avro
