import AvroModel.Lemmas.DeriveBranchNames
import AvroModel.Lemmas.DeriveWiderUFrag
/-
C20, wider, with enums that map to unions: what follows from the invariant `InvU` at the final state,
however it was established.  The by-name table of a union from the program text (`branchNamesW`,
`UnionNamesTextW`); the naming condition on the built schema (`UnionNamesU`), from the text
(`UnionNamesU.of_text`); the built schema realizes every registered type of the fragment
(`realizes_of_invU`).  Last, the fragment `FitWfWU` itself: the check of the declarations against a
table of marks, and `UnionNamesTextW`.
-/
namespace Avro.Theorems.DeriveWU
open Avro Avro.Impl Avro.Impl.Derive Avro.Theorems.DeriveG Avro.Theorems.DeriveW
open Avro.Theorems.DeriveFits

/-- A head token whose node is neither `null` nor a union (`PlainTok`, which does not look at
    `.generic` tokens, plus: the token is not that of a generic enum that maps to a union). -/
def PlainTokU (P : Prog) (tok : KTok) : Prop :=
  PlainTok P tok ∧
    ∀ (id m : Nat) (d : Decl) (vs : List Variant), tok = .generic id m → P[id]? = some d → d.body ≠ .union vs

def HeadPlainU (P : Prog) (k : Key) : Prop := ∃ tok rest, k = tok :: rest ∧ PlainTokU P tok

theorem PlainTokU.self {P : Prog} {id : Nat} {d : Decl} (hd : P[id]? = some d) (hnu : ∀ vs, d.body ≠ .union vs) :
    PlainTokU P (.self id) :=
  ⟨PlainTok.self hd hnu, by intro _ _ _ _ h; cases h⟩

theorem named_headU {P : Prog} {id : Nat} {args : List Ty} {k : Key} {d : Decl}
    (h : KeyOf P (.named id args) k) (hd : P[id]? = some d) (hb : ∀ fd, d.body ≠ .newtype fd)
    (hnu : ∀ vs, d.body ≠ .union vs) : HeadPlainU P k := by
  obtain ⟨F, h⟩ := h.succ
  unfold lookupKey at h
  simp only [hd] at h
  cases hbody : d.body with
  | newtype fd => exact absurd hbody (hb fd)
  | unitEnum vs =>
    simp only [hbody, Option.some.injEq] at h
    exact ⟨_, _, h.symm, PlainTokU.self hd hnu⟩
  | record fs =>
    simp only [hbody] at h
    split at h
    · exact ⟨_, _, (Option.some.inj h).symm, PlainTokU.self hd hnu⟩
    · obtain ⟨k', hk'⟩ := KeyOf.of_maps h
      refine ⟨_, _, hk', .of_ne (by simp) (by simp) (by simp), fun id' m d' vs' he hd' => ?_⟩
      cases he
      rw [hd] at hd'
      cases hd'
      exact hnu vs'
  | union vs => exact absurd hbody (hnu vs)

/-- A type that `plainW` accepts, instantiated by `σ`, has a key with a plain head, if the marked
    parameters are instantiated so (`hctx`): this is what makes `Option<T>` of a marked bare parameter
    a two-branch union of `null` and a non-null, non-union node.  By induction on the bound on chains
    of forwarding newtypes. -/
theorem plainW_headU {P : Prog} : ∀ (n : Nat) (t : Ty) (ctx : Nat → Bool) (σ : List Ty),
    plainW P ctx n t = true →
    (∀ i, ctx i = true → ∀ k, KeyOf P (subst σ (.param i)) k → HeadPlainU P k) →
    ∀ k, KeyOf P (subst σ t) k → HeadPlainU P k := by
  intro n
  induction n with
  | zero => intro t ctx σ h; simp [plainW] at h
  | succ n ih =>
    intro t ctx σ h hctx k hk
    have hk' := KeyOf.peel_subst σ hk
    unfold plainW at h
    generalize Derive.peel t = u at h hk'
    have leaf : ∀ tok, leafTok u = some tok → tok ≠ .unit → tok ≠ .option → (∀ id, tok ≠ .self id) →
        (∀ id m, tok ≠ .generic id m) → HeadPlainU P k := by
      intro tok h1 h2 h3 h4 h5
      have hu : subst σ u = u := by
        cases u <;> simp only [leafTok, reduceCtorEq] at h1 <;> simp [subst]
      rw [hu] at hk'
      exact ⟨tok, [], hk'.leaf (lookupKey_leaf h1), ⟨h2, h3, fun id _ _ h => absurd h (h4 id)⟩,
        fun id m _ _ h => absurd h (h5 id m)⟩
    cases u with
    | unit => simp at h
    | option t => simp at h
    | ptr t => simp at h
    | param i => exact hctx i h k hk'
    | vec t => rw [subst] at hk'; obtain ⟨k', h1, _⟩ := hk'.vec; exact ⟨_, _, h1, .of_ne (by simp) (by simp) (by simp), by intro _ _ _ _ h; cases h⟩
    | hashMap t => rw [subst] at hk'; obtain ⟨k', h1, _⟩ := hk'.hashMap; exact ⟨_, _, h1, .of_ne (by simp) (by simp) (by simp), by intro _ _ _ _ h; cases h⟩
    | btreeMap t => rw [subst] at hk'; obtain ⟨k', h1, _⟩ := hk'.btreeMap; exact ⟨_, _, h1, .of_ne (by simp) (by simp) (by simp), by intro _ _ _ _ h; cases h⟩
    | named id as =>
      rw [subst] at hk'
      dsimp only at h
      cases hd : P[id]? with
      | none => simp [hd] at h
      | some d =>
        simp only [hd] at h
        cases hb : d.body with
        | newtype fd =>
          simp only [hb, Bool.and_eq_true] at h
          obtain ⟨hl, hno⟩ := h
          cases hdir : isDirect fd .newtypeStruct with
          | true =>
            simp only [hdir, if_true] at hno
            have hk2 := hk'.named_newtype hd hb hdir
            rw [chosenTy_plain hl] at hk2
            refine ih fd.ty _ (substList σ as) hno (fun j hj k2 hk2 => ?_) k (KeyOf.subst_peel _ hk2)
            cases ha : as[j]? with
            | none => simp [ha] at hj
            | some a =>
              simp only [ha] at hj
              have : subst (substList σ as) (.param j) = subst σ a := by
                rw [subst, substList_eq_map, List.getElem?_map, ha]; rfl
              rw [this] at hk2
              exact ih a ctx σ hj hctx k2 hk2
          | false =>
            simp only [hdir, Bool.false_eq_true, if_false, decide_eq_true_eq] at hno
            exact ⟨_, _, hk'.named_newtype_nd hd hb hdir hno,
              PlainTokU.self hd (by intro vs; rw [hb]; simp)⟩
        | record fs => exact named_headU hk' hd (by intro fd; rw [hb]; simp) (by intro vs; rw [hb]; simp)
        | unitEnum vs => exact named_headU hk' hd (by intro fd; rw [hb]; simp) (by intro vs'; rw [hb]; simp)
        | union vs => simp [hb] at h
    | bool | i8 | i16 | i32 | u16 | i64 | u32 | u64 | usize | f32 | f64 | string | str | byteVec | byteSlice
    | byteArray _ => exact leaf _ rfl (by simp) (by simp) (by simp) (by simp)

theorem plainW_head_closedU {P : Prog} {K : Nat} {t : Ty} (h : plainW P noCtx K t = true) {k : Key}
    (hk : KeyOf P t k) : HeadPlainU P k := by
  refine plainW_headU K t noCtx [] h (fun i hi => by simp [noCtx] at hi) k ?_
  rw [subst_nil]; exact hk

theorem plainW_head_instU {P : Prog} {M : Marks} {K n : Nat} {ctx : Nat → Bool} {args : List Ty} {t : Ty}
    (h : plainW P ctx K t = true) (hargs : ArgsOk P M ctx args) (hlen : args.length = n)
    (hctx : ∀ i, ctx i = true → i < n) {k : Key} (hk : KeyOf P (subst args t) k) : HeadPlainU P k := by
  obtain ⟨K', hargs⟩ := hargs
  refine plainW_headU K t ctx args h (fun i hi k2 hk2 => ?_) k hk
  exact plainW_head_closedU (hargs.param hlen hctx i hi) hk2

section heads
variable {P : Prog}

theorem plainAt_of_doneU {s : BState} {tok : KTok} {rest : Key} {b : Nat}
    (h : DoneU P s (tok :: rest) b) (hp : PlainTokU P tok) :
    PlainAt (freezeNodes s.nodes) b := by
  obtain ⟨⟨h1, h2, h3⟩, h4⟩ := hp
  unfold DoneU at h
  have mk : ∀ (X : RegularType), s.nodes[b]? = some (plain X) → X ≠ .null → (∀ vs, X ≠ .union vs) →
      PlainAt (freezeNodes s.nodes) b := by
    intro X hX hn hu
    refine ⟨freezeNode (plain X), freeze_get hX, ?_, ?_⟩
    · cases X <;> simp [freezeNode, plain] at hn ⊢
    · intro vs
      cases X <;> simp [freezeNode, plain] at hu ⊢
  cases tok with
  | unit => exact absurd rfl h1
  | option => exact absurd rfl h2
  | bool | int | long | float | double | string | bytes | byteArray _ => exact mk _ h (by simp) (by simp)
  | vec | map => obtain ⟨c, h, _⟩ := h; exact mk _ h (by simp) (by simp)
  | generic id m =>
    simp only [KeyNodeU] at h
    cases hd : P[id]? with
    | none => rw [hd] at h; exact h.elim
    | some d =>
      rw [hd] at h
      dsimp only at h
      cases hb : d.body with
      | record fields =>
        rw [hb] at h
        obtain ⟨nm, fs, cks, h, _⟩ := h
        exact mk _ h (by simp) (by simp)
      | unitEnum vs => rw [hb] at h; exact h.elim
      | newtype fd => rw [hb] at h; exact h.elim
      | union vs => exact absurd hb (h4 id m d vs rfl hd)
  | self id =>
    simp only [KeyNodeU] at h
    cases hd : P[id]? with
    | none => rw [hd] at h; exact h.elim
    | some d =>
      rw [hd] at h
      dsimp only at h
      cases hb : d.body with
      | record fields =>
        rw [hb] at h
        obtain ⟨fs, h, _⟩ := h
        exact mk _ h (by simp) (by simp)
      | unitEnum vs =>
        rw [hb] at h
        exact mk _ h (by simp) (by simp)
      | newtype fd =>
        rw [hb] at h
        obtain ⟨_, n, h, _⟩ := h
        exact mk _ h (by simp) (by simp)
      | union vs => exact absurd hb (h3 id d vs rfl hd)

theorem leaf_realizesU {s : BState} {t : Ty} {tok : KTok} (htok : leafTok t = some tok) {i : Nat}
    (h : DoneU P s [tok] i) (f : Nat) : Realizes P (freezeNodes s.nodes) (f + 1) t i := by
  unfold DoneU at h
  cases t <;> simp only [leafTok, Option.some.injEq, reduceCtorEq] at htok <;> subst htok <;>
    first
    | exact freeze_get h
    | exact ⟨_, freeze_get h⟩

end heads

/-- As `DeriveFits.branchNames`, for the wider fragment: a generic forwarding newtype is looked
    through after substituting its arguments; a generic record has no name known from the text (its
    name ends in the hash of its lookup type), so it is `none`. -/
def branchNamesW (P : Prog) : Nat → Ty → Option (List String)
  | 0, _ => none
  | n + 1, t =>
    match Derive.peel t with
    | .unit => some ["Null"]
    | .bool => some ["Boolean"]
    | .i8 | .i16 | .i32 | .u16 => some ["Int"]
    | .i64 | .u32 | .u64 | .usize => some ["Long"]
    | .f32 => some ["Float"]
    | .f64 => some ["Double"]
    | .string | .str => some ["String"]
    | .byteVec | .byteSlice => some ["Bytes"]
    | .byteArray m => some (nmNames (Name.ofFq ("u8_array_" ++ toString m)))
    | .vec _ => some ["Array"]
    | .hashMap _ | .btreeMap _ => some ["Map"]
    | .option _ => some ["Union"]
    | .ptr _ | .param _ => none
    | .named id args =>
      match P[id]? with
      | none => none
      | some d =>
        match d.body with
        | .record _ => if d.nparams = 0 then some (nmNames (Name.ofFq (typeName d))) else none
        | .unitEnum _ => some (nmNames (Name.ofFq (typeName d)))
        | .union _ => some ["Union"]
        | .newtype fd =>
          if fd.attr.logical.isNone then
            if isDirect fd .newtypeStruct then branchNamesW P n (subst args fd.ty)
            else some (nmNames (Name.ofFq (ownedName d .newtypeStruct "")))
          else none

section bnames
variable {P : Prog} {M : Marks}

theorem branchNamesW_spec {K0 : Nat}
    (hP : ∀ (id : Nat) (d : Decl), P[id]? = some d → declOkWU P M K0 id d = true)
    {s : BState} (hinv : InvU P [] s) : ∀ (n : Nat) (t : Ty) (k : Key) (c : Nat)
    (L : List String), branchNamesW P n t = some L → OkT P M t → KeyOf P t k → Reg s k c →
    (frozenAt s c).lookupNames = L := by
  have hdone : ∀ k i, Reg s k i → DoneU P s k i := fun _ _ => hinv.done_of_nil
  intro n
  induction n with
  | zero => intro t k c L h; simp [branchNamesW] at h
  | succ n ih =>
    intro t k c L h ht hk hreg
    have hk' := hk.to_peel
    have ht' : OkT P M (Derive.peel t) := by
      obtain ⟨K, ht⟩ := ht
      exact ⟨K, tyOkW_peel P M K 0 noCtx ht⟩
    unfold branchNamesW at h
    generalize Derive.peel t = u at h hk' ht'
    have leaf : ∀ tok X, leafTok u = some tok → (DoneU P s [tok] c → s.nodes[c]? = some (plain X)) →
        (freezeNode (plain X)).lookupNames = L → (frozenAt s c).lookupNames = L := by
      intro tok X h1 h2 h3
      have : k = [tok] := hk'.leaf (lookupKey_leaf h1)
      subst this
      rw [frozenAt_plain (h2 (hdone _ _ hreg))]
      exact h3
    cases u with
    | ptr t => simp at h
    | param i => simp at h
    | unit | bool | i8 | i16 | i32 | u16 | i64 | u32 | u64 | usize | f32 | f64 | string | str | byteVec
    | byteSlice | byteArray _ =>
      exact leaf _ _ rfl id (by simpa [freezeNode, plain, Node.lookupNames, nmNames] using h)
    | vec t =>
      obtain ⟨k', rfl, _⟩ := hk'.vec
      obtain ⟨c', hnode, _⟩ := hdone _ _ hreg
      rw [frozenAt_plain hnode]
      simpa [freezeNode, plain, Node.lookupNames] using h
    | hashMap t =>
      obtain ⟨k', rfl, _⟩ := hk'.hashMap
      obtain ⟨c', hnode, _⟩ := hdone _ _ hreg
      rw [frozenAt_plain hnode]
      simpa [freezeNode, plain, Node.lookupNames] using h
    | btreeMap t =>
      obtain ⟨k', rfl, _⟩ := hk'.btreeMap
      obtain ⟨c', hnode, _⟩ := hdone _ _ hreg
      rw [frozenAt_plain hnode]
      simpa [freezeNode, plain, Node.lookupNames] using h
    | option t =>
      obtain ⟨k', rfl, _⟩ := hk'.option
      obtain ⟨a, b, hnode, _⟩ := hdone _ _ hreg
      rw [frozenAt_plain hnode]
      simpa [freezeNode, plain, Node.lookupNames] using h
    | named id args =>
      dsimp only at h
      cases hd : P[id]? with
      | none => simp [hd] at h
      | some d =>
      simp only [hd] at h
      have hdok := hP id d hd
      obtain ⟨hlen, hargs⟩ := ht'.named hd
      unfold declOkWU declOkWithU at hdok
      cases hb : d.body with
      | unitEnum vs =>
        simp only [hb, Option.some.injEq] at h
        have := hk'.named_enum hd hb
        subst this
        have hdn := hdone _ _ hreg
        simp only [DoneU, KeyNodeU, hd, hb] at hdn
        rw [frozenAt_plain hdn]
        simpa [freezeNode, plain, Node.lookupNames, nmNames] using h
      | record fields =>
        simp only [hb] at h
        by_cases hn : d.nparams = 0
        · simp only [hn, if_true, Option.some.injEq] at h
          have := hk'.named_record hd hb hn
          subst this
          have hdn := hdone _ _ hreg
          simp only [DoneU, KeyNodeU, hd, hb] at hdn
          obtain ⟨fs, hnode, _⟩ := hdn
          rw [frozenAt_plain hnode]
          simpa [freezeNode, plain, Node.lookupNames, nmNames] using h
        · simp [hn] at h
      | union vs =>
        simp only [hb, Option.some.injEq] at h
        by_cases hn : d.nparams = 0
        · have := hk'.named_union hd hb hn
          subst this
          have hdn := hdone _ _ hreg
          simp only [DoneU, KeyNodeU, hd, hb] at hdn
          obtain ⟨ks, hnode, _⟩ := hdn
          rw [frozenAt_plain hnode]
          simpa [freezeNode, plain, Node.lookupNames] using h
        · obtain ⟨F', rest, rfl, _⟩ := hk'.named_union_gen hd hb hn
          have hdn := hdone _ _ hreg
          simp only [DoneU, KeyNodeU, hd, hb] at hdn
          obtain ⟨ks, cks, hnode, _⟩ := hdn
          rw [frozenAt_plain hnode]
          simpa [freezeNode, plain, Node.lookupNames] using h
      | newtype fd =>
        simp only [hb] at h
        simp only [hb, declOkWith, Bool.and_eq_true, decide_eq_true_eq, plainFieldOkW] at hdok
        obtain ⟨⟨_, hl, hty⟩, hrest⟩ := hdok
        simp only [hl, if_true] at h
        cases hdir : isDirect fd .newtypeStruct with
        | true =>
          simp only [hdir, if_true] at h
          have hk2 := hk'.named_newtype hd hb hdir
          rw [chosenTy_plain hl] at hk2
          have hk2 := KeyOf.subst_peel args hk2
          exact ih _ k c L h (OkT.subst hargs hlen ctxOf_lt hty) hk2 hreg
        | false =>
          simp only [hdir, Bool.false_eq_true, if_false, decide_eq_true_eq, Option.some.injEq] at h hrest
          have := hk'.named_newtype_nd hd hb hdir hrest
          subst this
          have hdn := hdone _ _ hreg
          simp only [DoneU, KeyNodeU, hd, hb] at hdn
          obtain ⟨_, m, hnode, _⟩ := hdn
          rw [frozenAt_plain hnode]
          simpa [freezeNode, plain, Node.lookupNames, nmNames] using h

end bnames

/-- Fuel for the chains of forwarding newtypes followed by `branchNamesW`. -/
def namesFuel (P : Prog) : Nat := wideFuel P .unit

/-- The head of the payload type (behind pointers) is an instantiation of a generic newtype. -/
def genNewtypeHead (P : Prog) (t : Ty) : Bool :=
  match Derive.peel t with
  | .named id as =>
    (match P[id]? with
      | some d => (match d.body with | .newtype _ => !as.isEmpty | _ => false)
      | none => false)
  | _ => false

/-- The lookup names of the branch built for a payload type `t` of a variant of `d`, whatever the
    instantiation of `d`: for a non-generic enum those of `t`; for a generic enum those of `t` when
    they do not depend on the arguments — `none` for a bare parameter, a generic record, or (a
    restriction of the check) an instantiation of a generic newtype. -/
def payloadNames (P : Prog) (d : Decl) (t : Ty) : Option (List String) :=
  if d.nparams = 0 then branchNamesW P (namesFuel P) t
  else if genNewtypeHead P t then none else branchNamesW P (namesFuel P) t

theorem branchNamesW_subst {P : Prog} (args : List Ty) {n : Nat} {t : Ty} {L : List String}
    (hg : genNewtypeHead P t = false) (h : branchNamesW P n t = some L) :
    branchNamesW P n (subst args t) = some L := by
  cases n with
  | zero => simp [branchNamesW] at h
  | succ n =>
    unfold branchNamesW at h ⊢
    unfold genNewtypeHead at hg
    rw [peel_subst]
    generalize Derive.peel t = u at h hg
    cases u with
    | param i => simp at h
    | ptr t => simp at h
    | named id as =>
      simp only [subst, Derive.peel]
      cases hd : P[id]? with
      | none => simp [hd] at h
      | some d =>
        simp only [hd] at h hg ⊢
        cases hb : d.body with
        | newtype fd =>
          simp only [hb, Bool.not_eq_false', List.isEmpty_iff] at h hg ⊢
          subst hg
          rw [substList]
          exact h
        | record fs => simpa [hb] using h
        | unitEnum vs => simpa [hb] using h
        | union vs => simpa [hb] using h
    | _ => simpa [subst, Derive.peel] using h

theorem payloadNames_subst {P : Prog} {d : Decl} {t : Ty} {L : List String} {args : List Ty}
    (hargs0 : d.nparams = 0 → args = []) (h : payloadNames P d t = some L) :
    branchNamesW P (namesFuel P) (subst args t) = some L := by
  unfold payloadNames at h
  by_cases hn : d.nparams = 0
  · rw [hargs0 hn, subst_nil]
    simpa [hn] using h
  · simp only [hn, if_false] at h
    cases hg : genNewtypeHead P t with
    | true => simp [hg] at h
    | false =>
      simp only [hg, Bool.false_eq_true, if_false] at h
      exact branchNamesW_subst args hg h

/-- Names under which the union branch built for variant `v` of declaration `d` is registered:
    `Null` for a unit variant; those of the payload type; for a payload written `[u8; N]`, the short
    name and the fullname of the variant-owned fixed (`<enum>.<variant>` in the enum's namespace). -/
def variantNamesW (P : Prog) (d : Decl) (v : Variant) : Option (List String) :=
  match v.field with
  | none => some ["Null"]
  | some fd =>
    if isDirect fd (.newtypeVariant v.ident) then payloadNames P d fd.ty
    else some (nmNames (Name.ofFq (ownedName d (.newtypeVariant v.ident) "")))

/-- The variant's serde name is a name of its own branch. -/
def variantOwnW (P : Prog) (d : Decl) (v : Variant) : Bool :=
  match variantNamesW P d v with
  | some L => L.contains v.serdeName
  | none => false

/-- The branch of variant `w` is not registered under `name`. -/
def variantFreeW (P : Prog) (d : Decl) (name : String) (w : Variant) : Bool :=
  match variantNamesW P d w with
  | some L => !L.contains name
  | none => false

/-- `earlier` are the variants before the ones listed.  The check compares each variant with all the
    others; `namedLookup` lets the last registration win, so the proofs only use the comparison with
    the later ones (`unionTextLastW`, `unionTextW_last`). -/
def unionTextW (P : Prog) (d : Decl) : List Variant → List Variant → Bool
  | _, [] => true
  | earlier, v :: rest =>
    variantOwnW P d v && (earlier ++ rest).all (variantFreeW P d v.serdeName) &&
      unionTextW P d (earlier ++ [v]) rest

def unionTextLastW (P : Prog) (d : Decl) : List Variant → Bool
  | [] => true
  | v :: rest => variantOwnW P d v && rest.all (variantFreeW P d v.serdeName) && unionTextLastW P d rest

/-- **The text-level naming condition** (that of `UnionNamesText`, `Theorems/C20more.lean`, for the
    wider fragment): for every enum that maps to a union and every variant, the serde name is a lookup
    name — short or full — of the variant's own branch and of no other variant's branch. -/
def UnionNamesTextW (P : Prog) : Bool :=
  P.all fun d => match d.body with
    | .union vs => unionTextW P d [] vs
    | _ => true

theorem unionTextW_last (P : Prog) (d : Decl) : ∀ (vs earlier : List Variant), unionTextW P d earlier vs = true →
    unionTextLastW P d vs = true
  | [], _, _ => rfl
  | v :: rest, earlier, h => by
    simp only [unionTextW, Bool.and_eq_true, List.all_append] at h
    simp only [unionTextLastW, Bool.and_eq_true]
    exact ⟨⟨h.1.1, h.1.2.2⟩, unionTextW_last P d rest _ h.2⟩

theorem unionTextLastW_index (P : Prog) (d : Decl) : ∀ (vs : List Variant), unionTextLastW P d vs = true →
    ∀ (j : Nat) (v : Variant), vs[j]? = some v →
      variantOwnW P d v = true ∧
        ∀ (l : Nat) (w : Variant), j < l → vs[l]? = some w → variantFreeW P d v.serdeName w = true
  | [], _, j, v, hj => by simp at hj
  | x :: rest, h, 0, v, hj => by
    simp only [List.getElem?_cons_zero, Option.some.injEq] at hj
    subst hj
    simp only [unionTextLastW, Bool.and_eq_true, List.all_eq_true] at h
    refine ⟨h.1.1, fun l w hl hw => ?_⟩
    cases l with
    | zero => omega
    | succ l => exact h.1.2 w (List.mem_of_getElem? (by simpa using hw))
  | x :: rest, h, j + 1, v, hj => by
    simp only [unionTextLastW, Bool.and_eq_true] at h
    obtain ⟨h1, h2⟩ := unionTextLastW_index P d rest h.2 j v (by simpa using hj)
    refine ⟨h1, fun l w hl hw => ?_⟩
    cases l with
    | zero => omega
    | succ l => exact h2 l w (by omega) (by simpa using hw)

/-- All that `namedLookup` (last registration wins) needs of the naming condition for one enum. -/
theorem UnionNamesTextW.last {P : Prog} (htext : UnionNamesTextW P = true) {id : Nat} {d : Decl}
    {vs : List Variant} (hd : P[id]? = some d) (hb : d.body = .union vs) : unionTextLastW P d vs = true := by
  have := all_of_getElem? htext hd
  simp only [hb] at this
  exact unionTextW_last P _ vs [] this

/-- **By-name selection from the program text.**  In the final builder state, in the union built for
    an instantiation of an enum that satisfies the naming condition, every variant's serde name
    selects its own branch; unit variants are called `Null`. -/
theorem union_lookup_of_text {P : Prog} {M : Marks} {K0 : Nat}
    (hP : ∀ (id : Nat) (d : Decl), P[id]? = some d → declOkWU P M K0 id d = true)
    {s : BState} (hinv : InvU P [] s) {d : Decl} {vs : List Variant} (htx : unionTextLastW P d vs = true)
    {args : List Ty} (hargs0 : d.nparams = 0 → args = [])
    {ks : List Nat} (hlen : ks.length = vs.length)
    (hall : ∀ (l : Nat) (w : Variant) (c : Nat), vs[l]? = some w → ks[l]? = some c →
      VarNode P (Reg s) s.nodes d args w c)
    (hok : ∀ w ∈ vs, ∀ fd, w.field = some fd → OkT P M (subst args fd.ty)) :
    ∀ (j : Nat) (v : Variant), vs[j]? = some v →
      namedLookup v.serdeName (branchNodes (freezeNodes s.nodes) ks) = some j ∧
        (v.field = none → v.serdeName = "Null") := by
  have hdone : ∀ k i, Reg s k i → DoneU P s k i := fun _ _ => hinv.done_of_nil
  intro j v hj
  have hbranch : ∀ (l : Nat) (w : Variant) (L : List String), vs[l]? = some w →
      variantNamesW P d w = some L →
      ∃ n, (branchNodes (freezeNodes s.nodes) ks)[l]? = some n ∧ n.lookupNames = L := by
    intro l w L hl hL
    obtain ⟨c, hc⟩ := exists_getElem? (l := ks) (hlen ▸ lt_of_getElem? hl)
    refine ⟨frozenAt s c, by simp [branchNodes, hc, frozenAt], ?_⟩
    have hcv := hall l w c hl hc
    have hw := hok w (List.mem_of_getElem? hl)
    unfold variantNamesW at hL
    unfold VarNode at hcv
    cases hf : w.field with
    | none =>
      rw [hf] at hcv hL
      have hnc : s.nodes[c]? = some (plain .null) := hdone _ _ hcv
      rw [frozenAt_plain hnc]
      simpa [freezeNode, plain, Node.lookupNames] using hL
    | some fd =>
      rw [hf] at hcv hL
      dsimp only at hcv hL
      by_cases hdir : isDirect fd (.newtypeVariant w.ident) = true
      · rw [if_pos hdir] at hcv hL
        obtain ⟨k, hk, hr⟩ := hcv
        exact branchNamesW_spec hP hinv _ _ k _ L (payloadNames_subst hargs0 hL) (hw fd hf) hk hr
      · rw [if_neg hdir] at hcv hL
        obtain ⟨n, _, hnc⟩ := hcv
        rw [frozenAt_plain hnc]
        simpa [freezeNode, plain, Node.lookupNames, nmNames] using hL
  obtain ⟨hown, hfree⟩ := unionTextLastW_index P d vs htx j v hj
  unfold variantOwnW at hown
  cases hL : variantNamesW P d v with
  | none => simp [hL] at hown
  | some L =>
    simp only [hL] at hown
    obtain ⟨n, hnj, hnL⟩ := hbranch j v L hj hL
    refine ⟨namedLookup_at hnj (by rw [hnL]; exact hown) (fun l m hl hm => ?_), fun hf => ?_⟩
    · obtain ⟨w, hw⟩ := exists_getElem? (l := vs) (by simpa [branchNodes, hlen] using lt_of_getElem? hm)
      have hfr := hfree l w hl hw
      unfold variantFreeW at hfr
      cases hL' : variantNamesW P d w with
      | none => simp [hL'] at hfr
      | some L' =>
        simp only [hL'] at hfr
        obtain ⟨n', hn', hnL'⟩ := hbranch l w L' hw hL'
        rw [hm] at hn'
        cases hn'
        rw [hnL']
        simpa using hfr
    · simp only [variantNamesW, hf, Option.some.injEq] at hL
      subst hL
      simpa using hown

section realizes
variable {P : Prog} {M : Marks}

/-- The naming condition in the form `Realizes` needs it, on the final builder state: in the union
    built for an instantiation of an enum that maps to a union, every variant's serde name selects its
    own branch by name, and unit variants are called `Null`.  The premises after `Reg s key i` are what
    `realizes_of_invU` has at a union node (`DoneU.union_branches`) and what `union_lookup_of_text`
    consumes; `UnionNamesU.of_unionNames` ignores them. -/
def UnionNamesU (P : Prog) (M : Marks) (s : BState) : Prop :=
  ∀ (id : Nat) (d : Decl) (vs : List Variant) (args : List Ty) (key : Key) (i : Nat) (ks : List Nat),
    P[id]? = some d → d.body = .union vs → (d.nparams = 0 → args = []) →
    KeyOf P (.named id args) key → Reg s key i → s.nodes[i]? = some (plain (.union ks)) →
    ks.length = vs.length →
    (∀ (l : Nat) (w : Variant) (c : Nat), vs[l]? = some w → ks[l]? = some c →
      VarNode P (Reg s) s.nodes d args w c) →
    (∀ w ∈ vs, ∀ fd, w.field = some fd → OkT P M (subst args fd.ty)) →
    ∀ (j : Nat) (v : Variant), vs[j]? = some v →
      namedLookup v.serdeName (branchNodes (freezeNodes s.nodes) ks) = some j ∧
        (v.field = none → v.serdeName = "Null")

theorem UnionNamesU.of_text {K0 : Nat}
    (hP : ∀ (id : Nat) (d : Decl), P[id]? = some d → declOkWU P M K0 id d = true)
    {s : BState} (hinv : InvU P [] s) (htext : UnionNamesTextW P = true) : UnionNamesU P M s :=
  fun _ _ _ _ _ _ _ hd hb hargs0 _ _ _ hlen hall hok =>
    union_lookup_of_text hP hinv (UnionNamesTextW.last htext hd hb) hargs0 hlen hall hok

theorem DoneU.record_slots {s : BState} {id : Nat} {args : List Ty} {d : Decl} {fields : List Field}
    {key : Key} {i : Nat} (h : DoneU P s key i) (hkey : KeyOf P (.named id args) key)
    (hd : P[id]? = some d) (hb : d.body = .record fields) (hargs0 : d.nparams = 0 → args = []) :
    ∃ nm fs, s.nodes[i]? = some (plain (.record nm fs)) ∧ fs.length = fields.length ∧
      ∀ (j : Nat) (fd : Field) (p : String × Nat), fields[j]? = some fd → fs[j]? = some p →
        p.1 = fd.name ∧
          ((fd.attr.logical.isNone = true ∧ ∃ k, KeyOf P (subst args fd.ty) k ∧ Reg s k p.2) ∨
           (fd.attr.logical.isNone = false ∧
              ∃ tn raw, logicalRawAt d fd fd.name tn = some raw ∧ s.nodes[p.2]? = some raw)) := by
  by_cases hn : d.nparams = 0
  · have := hargs0 hn
    subst this
    have := hkey.named_record hd hb hn
    subst this
    simp only [DoneU, KeyNodeU, hd, hb] at h
    obtain ⟨fs, hnode, hlen', hall⟩ := h
    refine ⟨_, fs, hnode, hlen', fun j fd p hj hp => ?_⟩
    obtain ⟨h1, h2⟩ := hall j fd p hj hp
    exact ⟨h1, h2.imp (fun ⟨hl, k, hk, hr⟩ => ⟨hl, k, by rwa [subst_nil], hr⟩)
      (fun ⟨hl, raw, hraw, hrn⟩ => ⟨hl, typeName d, raw, hraw, hrn⟩)⟩
  · obtain ⟨F', rest, rfl, hrest⟩ := hkey.named_record_gen hd hb hn
    obtain ⟨cks', rfl, hclen', hcall, hcoded'⟩ := lookupKeys_split P _ F' rest hrest
    simp only [DoneU, KeyNodeU, hd, hb] at h
    obtain ⟨nm, fs, cks, hnode, hlen', hclen, hflat, hcoded, hall⟩ := h
    have hcks : cks' = cks :=
      flatten_unique cks' cks hcoded' hcoded (by simp [hclen, hclen']) hflat
    subst hcks
    refine ⟨nm, fs, hnode, hlen', fun j fd p hj hp => ?_⟩
    obtain ⟨ck, hc⟩ := exists_getElem? (l := cks') (hclen ▸ lt_of_getElem? hj)
    obtain ⟨h1, h2⟩ := hall j fd p ck hj hp hc
    exact ⟨h1, h2.imp_left fun ⟨hl, h2⟩ => ⟨hl, ck, listed_key hcall hj hc hl, h2⟩⟩

theorem DoneU.union_branches {K n : Nat} {ctx : Nat → Bool} {s : BState} {id : Nat} {args : List Ty}
    {d : Decl} {vs : List Variant} {key : Key} {i : Nat}
    (hvs : ∀ v ∈ vs, variantOkWU P M K n ctx v = true ∧ (d.nparams = 0 ∨ directV v = true))
    (h : DoneU P s key i) (hkey : KeyOf P (.named id args) key)
    (hd : P[id]? = some d) (hb : d.body = .union vs) (hargs0 : d.nparams = 0 → args = []) :
    ∃ ks, s.nodes[i]? = some (plain (.union ks)) ∧ ks.length = vs.length ∧
      ∀ (j : Nat) (v : Variant) (c : Nat), vs[j]? = some v → ks[j]? = some c →
        VarNode P (Reg s) s.nodes d args v c := by
  by_cases hn : d.nparams = 0
  · have := hargs0 hn
    subst this
    have := hkey.named_union hd hb hn
    subst this
    simp only [DoneU, KeyNodeU, hd, hb] at h
    exact h
  · obtain ⟨F', rest, rfl, hrest⟩ := hkey.named_union_gen hd hb hn
    obtain ⟨cks', rfl, hclen', hcall, hcoded'⟩ := lookupKeys_split P _ F' rest hrest
    simp only [DoneU, KeyNodeU, hd, hb] at h
    obtain ⟨ks, cks, hnode, hlen', hclen, hflat, hcoded, hall⟩ := h
    have hcks : cks' = cks :=
      flatten_unique cks' cks hcoded' hcoded (by simp [hclen, hclen']) hflat
    subst hcks
    refine ⟨ks, hnode, hlen', fun j v c hj hc => ?_⟩
    have hv := hvs v (List.mem_of_getElem? hj)
    exact (varNode_iff_listed hclen' hcall hj (hv.2.resolve_left hn) hv.1).mp (hall j v c hj hc)

/-- The frozen graph realizes every registered type of the fragment, to any depth: by induction on
    the depth, then by cases on the type; its node is read off `DoneU`, its children are registered
    and of the fragment.  Branch names are the hypothesis `hnames`. -/
theorem realizes_of_invU {K0 : Nat}
    (hP : ∀ (id : Nat) (d : Decl), P[id]? = some d → declOkWU P M K0 id d = true)
    {s : BState} (hinv : InvU P [] s) (hnames : UnionNamesU P M s) : ∀ (f : Nat) (t : Ty) (key : Key) (i : Nat),
    OkT P M t → KeyOf P t key → Reg s key i → Realizes P (freezeNodes s.nodes) f t i := by
  have hdone : ∀ k i, Reg s k i → DoneU P s k i := fun _ _ => hinv.done_of_nil
  have hbnd : ∀ k i, Reg s k i → i < (freezeNodes s.nodes).size := fun k i h => by
    rw [freezeNodes_size]; exact hinv.bnd k i h
  intro f
  induction f with
  | zero => intro t key i _ _ _; exact trivial
  | succ f ih =>
    intro t key i ht hkey hreg
    have leaf : ∀ tok, leafTok t = some tok → Realizes P (freezeNodes s.nodes) (f + 1) t i := by
      intro tok htok
      have : key = [tok] := hkey.leaf (lookupKey_leaf htok)
      subst this
      exact leaf_realizesU htok (hdone _ _ hreg) f
    cases t with
    | vec t =>
      obtain ⟨k', rfl, hk'⟩ := hkey.vec
      obtain ⟨c, hn, hc⟩ := hdone _ _ hreg
      exact ⟨c, freeze_get hn, hbnd _ _ hc, ih t k' c ht.vec hk' hc⟩
    | hashMap t =>
      obtain ⟨k', rfl, hk'⟩ := hkey.hashMap
      obtain ⟨c, hn, hc⟩ := hdone _ _ hreg
      exact ⟨c, freeze_get hn, hbnd _ _ hc, ih t k' c ht.hashMap hk' hc⟩
    | btreeMap t =>
      obtain ⟨k', rfl, hk'⟩ := hkey.btreeMap
      obtain ⟨c, hn, hc⟩ := hdone _ _ hreg
      exact ⟨c, freeze_get hn, hbnd _ _ hc, ih t k' c ht.btreeMap hk' hc⟩
    | option t =>
      obtain ⟨K, ht⟩ := ht
      simp only [tyOkW, Bool.and_eq_true] at ht
      obtain ⟨k', rfl, hk'⟩ := hkey.option
      obtain ⟨a, b, hn, ha, hb⟩ := hdone _ _ hreg
      obtain ⟨tok, rest, rfl, h1⟩ := plainW_head_closedU ht.2 hk'
      have hna : s.nodes[a]? = some (plain .null) := hdone _ _ ha
      exact ⟨a, b, freeze_get hn, freeze_get hna, plainAt_of_doneU (hdone _ _ hb) h1,
        ih t _ b ⟨K, ht.1⟩ hk' hb⟩
    | ptr t => exact ih t key i ht.ptr hkey.ptr hreg
    | param j => obtain ⟨K, ht⟩ := ht; simp [tyOkW] at ht
    | named id args =>
      cases hd : P[id]? with
      | none =>
        obtain ⟨K, ht⟩ := ht
        simp [tyOkW, hd] at ht
      | some d =>
      obtain ⟨hlen, hargs⟩ := ht.named hd
      have hdok := hP id _ hd
      unfold declOkWU declOkWithU at hdok
      unfold Realizes
      simp only [hd]
      cases hb : d.body with
      | unitEnum vs =>
        dsimp only
        have := hkey.named_enum hd hb
        subst this
        have h := hdone _ _ hreg
        simp only [DoneU, KeyNodeU, hd, hb] at h
        exact ⟨_, freeze_get h⟩
      | newtype fd =>
        dsimp only
        simp only [hb, declOkWith, Bool.and_eq_true, decide_eq_true_eq, plainFieldOkW] at hdok
        obtain ⟨⟨hname, hl, hty⟩, hno⟩ := hdok
        cases hdir : isDirect fd .newtypeStruct with
        | true =>
          simp only [hdir, if_true] at hno
          have hk := hkey.named_newtype hd hb hdir
          rw [chosenTy_plain hl] at hk
          have hk := KeyOf.subst_peel args hk
          obtain ⟨tok, rest, rfl, h1⟩ := plainW_head_instU hno hargs hlen ctxOf_lt hk
          exact ⟨hname, plainAt_of_doneU (hdone _ _ hreg) h1,
            ih _ _ i (OkT.subst hargs hlen ctxOf_lt hty) hk hreg⟩
        | false =>
          simp only [hdir, Bool.false_eq_true, if_false, decide_eq_true_eq] at hno
          have hng : scopeW d = 0 := by simp [scopeW, isGenW, hno]
          have : args = [] := List.eq_nil_of_length_eq_zero (by rw [hlen, hng])
          subst this
          rw [subst_nil]
          have := hkey.named_newtype_nd hd hb hdir hno
          subst this
          have hdn := hdone _ _ hreg
          have h := hdn
          simp only [DoneU, KeyNodeU, hd, hb] at h
          obtain ⟨_, n, hnode, hp⟩ := h
          exact ⟨hname, plainAt_of_doneU hdn (PlainTokU.self hd (by intro vs; rw [hb]; simp)),
            realizes_of_peel_fixed (freeze_get hnode) fd.ty hp f⟩
      | record fields =>
        dsimp only
        simp only [hb, declOkWith, Bool.and_eq_true, decide_eq_true_eq, List.all_eq_true] at hdok
        obtain ⟨hname, hfields⟩ := hdok
        have hargs0 : d.nparams = 0 → args = [] := fun hn =>
          List.eq_nil_of_length_eq_zero (by rw [hlen]; simp [scopeW, isGenW, hn])
        obtain ⟨nm, fs, hnode, hlen', hall⟩ := (hdone _ _ hreg).record_slots hkey hd hb hargs0
        refine ⟨hname, nm, fs, freeze_get hnode, hlen', fun j fd p hj hp => ?_⟩
        obtain ⟨h1, h2⟩ := hall j fd p hj hp
        have hfd := hfields fd (List.mem_of_getElem? hj)
        rcases h2 with ⟨hl, k, hk, hr⟩ | ⟨hl, tn, raw, hraw, hrn⟩
        · simp only [fieldOkW, plainFieldOkW, hl, Bool.true_and, Bool.not_true, Bool.false_and,
            Bool.or_false] at hfd
          rw [if_pos hl]
          exact ⟨h1, hbnd _ _ hr, ih _ k p.2 (OkT.subst hargs hlen ctxOf_lt hfd) hk hr⟩
        · simp only [fieldOkW, plainFieldOkW, hl, Bool.false_and, Bool.not_false, Bool.true_and,
            Bool.false_or] at hfd
          cases hraw0 : logicalRaw d fd with
          | none => simp [hraw0] at hfd
          | some raw0 =>
            simp only [hraw0] at hfd
            rw [if_neg (by simp [hl])]
            refine ⟨h1, freeze_lt hrn, _, freeze_get hrn, ?_⟩
            obtain ⟨x, hx⟩ := nodeAccepts_leaf hfd
            rw [peel_subst, subst_leaf hx, peel_leaf hx, logicalRawAt_accepts hraw hraw0]
            exact hfd
      | union vs =>
        dsimp only
        have hvs := declOkWU_union hb (hP id d hd)
        have hsc := scopeW_union hb
        rw [hsc] at hlen hargs
        have hargs0 : d.nparams = 0 → args = [] := fun hn =>
          List.eq_nil_of_length_eq_zero (by rw [hlen, hn])
        obtain ⟨ks, hnode, hlen', hall⟩ := (hdone _ _ hreg).union_branches hvs hkey hd hb hargs0
        refine ⟨ks, freeze_get hnode, hlen', fun j v c hj hc => ?_⟩
        have hokp : ∀ w ∈ vs, ∀ fd, w.field = some fd → OkT P M (subst args fd.ty) := by
          intro w hw fd hfd
          have := (hvs w hw).1
          unfold variantOkWU at this
          rw [hfd] at this
          simp only [plainFieldOkW, Bool.and_eq_true] at this
          exact OkT.subst hargs hlen ctxOf_lt this.2
        obtain ⟨hnl, hnull⟩ := hnames id d vs args key i ks hd hb hargs0 hkey hreg hnode hlen' hall hokp j v hj
        have hcv := hall j v c hj hc
        unfold VarNode at hcv
        cases hf : v.field with
        | none =>
          rw [hf] at hcv
          have hnc : s.nodes[c]? = some (plain .null) := hdone _ _ hcv
          exact ⟨hbnd _ _ hcv, hnl, hnull hf, freeze_get hnc⟩
        | some fd =>
          rw [hf] at hcv
          dsimp only at hcv ⊢
          by_cases hdir : isDirect fd (.newtypeVariant v.ident) = true
          · rw [if_pos hdir] at hcv
            obtain ⟨k, hk, hr⟩ := hcv
            exact ⟨hbnd _ _ hr, hnl, ih _ k c (hokp v (List.mem_of_getElem? hj) fd hf) hk hr⟩
          · rw [if_neg hdir] at hcv
            obtain ⟨n, hp, hnc⟩ := hcv
            have hlt := freeze_lt hnc
            have hp' : Derive.peel (subst args fd.ty) = .byteArray n := by
              rw [peel_subst, hp]; rfl
            exact ⟨hlt, hnl, realizes_of_peel_fixed (freeze_get hnc) _ hp' f⟩
    | unit | bool | i8 | i16 | i32 | u16 | i64 | u32 | u64 | usize | f32 | f64 | string | str | byteVec
    | byteSlice | byteArray _ => exact leaf _ rfl

end realizes

def FitWfWithU (P : Prog) (M : Marks) (K : Nat) (root : Ty) : Bool :=
  ((List.range P.size).all fun id => match P[id]? with | some d => declOkWU P M K id d | none => true) &&
    tyOkW P M K 0 noCtx root

theorem FitWfWithU_decls {P : Prog} {M : Marks} {K : Nat} {root : Ty} (h : FitWfWithU P M K root = true) :
    ∀ (id : Nat) (d : Decl), P[id]? = some d → declOkWU P M K id d = true :=
  range_all_decls (Bool.and_eq_true_iff.mp h).1

theorem FitWfWithU_root {P : Prog} {M : Marks} {K : Nat} {root : Ty} (h : FitWfWithU P M K root = true) :
    tyOkW P M K 0 noCtx root = true := by
  simp only [FitWfWithU, Bool.and_eq_true] at h
  exact h.2

/-- One round of inference of marks, as `DeriveW.markStep`, with enums that map to unions. -/
def markStepU (P : Prog) (K : Nat) (tbl : List (List Bool)) : List (List Bool) :=
  (List.range P.size).map fun id =>
    match P[id]? with
    | none => []
    | some d =>
      (List.range d.nparams).map fun i =>
        marksOfTable tbl id i ||
          !declOkWithU P (marksOfTable tbl) K (fun j => decide (j < scopeW d) && (j != i)) d

def inferMarksU (P : Prog) (K : Nat) : Marks :=
  marksOfTable (iterN (markStepU P K) (P.foldl (fun a d => a + d.nparams) 1) [])

/-- **The fragment of `C20_fits_widerU`**: `FitWfW` (generic records, generic forwarding newtypes,
    `Option` of a marked bare parameter) plus enums that map to unions, generic or not — unit variants
    and newtype variants, in non-generic enums payloads written `[u8; N]` included — under the
    text-level naming condition.  Four tables of marks are tried: none, those inferred by `FitWfW`'s
    inference (which marks every parameter of a generic union enum), those inferred with union enums
    taken into account, all. -/
def FitWfWU (P : Prog) (root : Ty) : Bool :=
  (FitWfWithU P noMarks (wideFuel P root) root ||
    FitWfWithU P (inferMarks P (wideFuel P root)) (wideFuel P root) root ||
    FitWfWithU P (inferMarksU P (wideFuel P root)) (wideFuel P root) root ||
    FitWfWithU P allMarks (wideFuel P root) root) && UnionNamesTextW P

theorem FitWfWU_with {P : Prog} {root : Ty} (h : FitWfWU P root = true) :
    (∃ M K, FitWfWithU P M K root = true) ∧ UnionNamesTextW P = true := by
  simp only [FitWfWU, Bool.and_eq_true, Bool.or_eq_true] at h
  refine ⟨?_, h.2⟩
  rcases h.1 with ((h | h) | h) | h
  · exact ⟨_, _, h⟩
  · exact ⟨_, _, h⟩
  · exact ⟨_, _, h⟩
  · exact ⟨_, _, h⟩

end Avro.Theorems.DeriveWU
