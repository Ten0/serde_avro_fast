import AvroModel.Lemmas.TypedValue
/-
C12 / C03 / C01, typed targets: soundness of a typed read against the exact decoder, value included.

`TQ S n bs o' r`: a read of node `n` started on `bs` returned `o'` and left `r`; then for every run
`decodeX Limits.impl … n bs = some (v, rest)`: `r = rest`, and `o'` is `consistent` with
`observe S n v`.  `TS` states it of the seven functions of the deserializer, for every request, by
induction on the model fuel; only successful runs are looked at, so there is no hypothesis on depth,
sequence size or fuel.  Exact consumption (`typed_consumes_run`) is its first half; consistency
with a successful self-describing read from the same state (`typed_value_run`) is it together
with the soundness of that read (`sndAll`), which names the decoded value.
-/
namespace Avro.Impl
open Avro Avro.Spec

def TQ (S : Schema) (n : Node) (bs : Bytes) : Out → Bytes → Prop :=
  fun o' r => ∀ v rest, DecV S n bs v rest →
    r = rest ∧ ∀ o, observe S n v = some o → consistent o' o

/-- what a loop has appended to its accumulator `acc` when it returns `out`, against the
    observation `obs` of the items it read -/
def App {α : Type} (R : List α → List α → Prop) (acc out : List α) (obs : Option (List α)) : Prop :=
  ∃ os', out = acc.reverse ++ os' ∧ ∀ os, obs = some os → R os' os

/-- `TQ` of the seven functions of the deserializer, the loops through `App` -/
structure TS (cfg : DeConfig) (S : Schema) (fuel : Nat) : Prop where
  any : ∀ n depth h bs, Inv (deAny deExtModel cfg S fuel n depth h) bs (TQ S n bs)
  de : ∀ n depth favor h bs, Inv (de deExtModel cfg S fuel n depth favor h) bs (TQ S n bs)
  tn : ∀ n depth vts bs, Inv (deTypeNameEnum deExtModel cfg S fuel n depth vts) bs (TQ S n bs)
  ign : ∀ n depth bs, Inv (deIgnored deExtModel cfg S fuel n depth) bs (TQ S n bs)
  /-- an ignoring loop jumps over sized blocks: nothing is said of what it returns -/
  seq : ∀ item depth ign eh mi bst acc bs,
    Inv (deSeqLoop deExtModel cfg S fuel item depth ign eh mi bst acc) bs
      (fun out r => ∀ vs1 r1 more rest, ItmV S item bst.current bs vs1 r1 → BlkV S item r1 more rest →
        r = rest ∧ (ign = false → App consistentL acc out (observeList S item (vs1 ++ more))))
  map : ∀ item depth ign h bst acc bs,
    Inv (deMapLoop deExtModel cfg S fuel item depth ign h bst acc) bs
      (fun out r => ∀ es1 r1 more rest, MItmV S item bst.current bs es1 r1 →
        MBlkV S item r1 more rest →
        r = rest ∧ (ign = false → App consistentM acc out (observeEntries S item (es1 ++ more))))
  fields : ∀ fields depth h acc bs,
    Inv (deRecordFields deExtModel cfg S fuel fields depth h acc) bs
      (fun out r => ∀ vals rest, FldV S (fields.map (·.2)) bs vals rest →
        r = rest ∧ App consistentM acc out (observeFields S fields vals))

variable {S : Schema}

theorem App.nil {α : Type} {R : List α → List α → Prop} (h : R [] []) (acc : List α) :
    App R acc acc.reverse (some []) :=
  ⟨[], (List.append_nil _).symm, fun os ho => by cases ho; exact h⟩

theorem App.cons {α : Type} {R : List α → List α → Prop} {acc out : List α} {e : α}
    {obs obs' : Option (List α)} (h : App R (e :: acc) out obs)
    (hobs : ∀ os, obs' = some os → ∃ e2 os0, obs = some os0 ∧ os = e2 :: os0 ∧
      ∀ os', R os' os0 → R (e :: os') (e2 :: os0)) : App R acc out obs' := by
  obtain ⟨os', rfl, hos⟩ := h
  refine ⟨e :: os', by simp, fun os ho => ?_⟩
  obtain ⟨e2, os0, ho0, rfl, hR⟩ := hobs os ho
  exact hR os' (hos os0 ho0)

/-! ### Runs of the decoders agree -/

theorem DecV.unique {n : Node} {bs rest : Bytes} {v : Value} {r : Value × Bytes} {fS : Nat}
    (hx : DecV S n bs v rest) (hl : decodeL Limits.impl S fS n bs = some r) : r = (v, rest) := by
  obtain ⟨fX, hx⟩ := hx
  exact decodeL_agree S hl (decodeX_sub _ S fX n bs _ hx)

theorem ItmV.unique {item : Node} {c : Nat} {bs r1 : Bytes} {vs : List Value}
    {r : List Value × Bytes} {fS : Nat} (hx : ItmV S item c bs vs r1)
    (hl : decodeItemsL Limits.impl S fS item c bs = some r) : r = (vs, r1) := by
  obtain ⟨fX, hx⟩ := hx
  exact decodeItemsL_agree S hl ((subAll _ S fX).items item c bs _ hx)

theorem BlkV.unique {item : Node} {bs rest : Bytes} {vs : List Value}
    {r : List Value × Bytes} {fS : Nat} (hx : BlkV S item bs vs rest)
    (hl : decodeBlocksL Limits.impl S fS item bs = some r) : r = (vs, rest) := by
  obtain ⟨fX, hx⟩ := hx
  exact decodeBlocksL_agree S hl ((subAll _ S fX).blocks item bs _ hx)

theorem MItmV.unique {item : Node} {c : Nat} {bs r1 : Bytes} {es : List (String × Value)}
    {r : List (String × Value) × Bytes} {fS : Nat} (hx : MItmV S item c bs es r1)
    (hl : decodeMapItemsL Limits.impl S fS item c bs = some r) : r = (es, r1) := by
  obtain ⟨fX, hx⟩ := hx
  exact decodeMapItemsL_agree S hl ((subAll _ S fX).mitems item c bs _ hx)

theorem MBlkV.unique {item : Node} {bs rest : Bytes} {es : List (String × Value)}
    {r : List (String × Value) × Bytes} {fS : Nat} (hx : MBlkV S item bs es rest)
    (hl : decodeMapBlocksL Limits.impl S fS item bs = some r) : r = (es, rest) := by
  obtain ⟨fX, hx⟩ := hx
  exact decodeMapBlocksL_agree S hl ((subAll _ S fX).mblocks item bs _ hx)

theorem FldV.unique {ks : List Nat} {bs rest : Bytes} {vals : List Value}
    {r : List Value × Bytes} {fS : Nat} (hx : FldV S ks bs vals rest)
    (hl : decodeFieldsL Limits.impl S fS ks bs = some r) : r = (vals, rest) := by
  obtain ⟨fX, hx⟩ := hx
  exact decodeFieldsL_agree S hl ((subAll _ S fX).fields ks bs _ hx)

/-! ### `TQ` node by node -/

/-- a result that claims nothing (`.unit`: an ignored datum) -/
theorem TQ.unit {n : Node} {bs r : Bytes} (h : ∀ v rest, DecV S n bs v rest → r = rest) :
    TQ S n bs .unit r :=
  fun v rest hx => ⟨h v rest hx, fun _ _ => trivial⟩

theorem TQ.imp {n : Node} {bs r : Bytes} {o' o'' : Out} (q : TQ S n bs o' r)
    (hc : ∀ o, consistent o' o → consistent o'' o) : TQ S n bs o'' r :=
  fun v rest hx => ⟨(q v rest hx).1, fun o ho => hc o ((q v rest hx).2 o ho)⟩

/-- what the soundness of `deserialize_any` says of a run is `TQ`, for a result consistent with
    itself -/
theorem TQ.of_sound {n : Node} {bs r : Bytes} {o : Out} (h : SoundQ S n bs o r)
    (hc : consistent o o) : TQ S n bs o r := by
  obtain ⟨v2, fS, hl, hobs⟩ := h
  intro v rest hx
  cases hx.unique hl
  refine ⟨rfl, fun o2 ho2 => ?_⟩
  rw [hobs] at ho2
  cases ho2
  exact hc

theorem tq_null {bs : Bytes} {o' : Out} (hc : consistent o' .unit) : TQ S .null bs o' bs := by
  intro v rest hx
  obtain ⟨f, hx⟩ := hx.pos
  simp only [decodeX, Option.some.injEq, Prod.mk.injEq] at hx
  obtain ⟨rfl, rfl⟩ := hx
  exact ⟨rfl, fun o ho => by cases ho; exact hc⟩

theorem tq_int {bs r : Bytes} {i : Int} {o' : Out} (hd : decodeLongL Limits.impl bs = some (i, r))
    (hc : consistent o' (.i32 i)) : TQ S .int bs o' r := by
  intro v rest hx
  obtain ⟨f, hx⟩ := hx.pos
  simp only [decodeX, hd] at hx
  split at hx <;> cases hx
  exact ⟨rfl, fun o ho => by cases ho; exact hc⟩

theorem tq_long {bs r : Bytes} {i : Int} {o' : Out} (hd : decodeLongL Limits.impl bs = some (i, r))
    (hc : consistent o' (.i64 i)) : TQ S .long bs o' r := by
  intro v rest hx
  obtain ⟨f, hx⟩ := hx.pos
  simp only [decodeX, hd, Option.some.injEq, Prod.mk.injEq] at hx
  obtain ⟨rfl, rfl⟩ := hx
  exact ⟨rfl, fun o ho => by cases ho; exact hc⟩

/-- an enum read as a number: `deserialize_any` presents the symbol -/
theorem tq_enum {nm : Name} {syms : List String} {bs r : Bytes} {i : Int} {o' : Out}
    (hd : decodeLongL Limits.impl bs = some (i, r)) (hc : ∀ s, consistent o' (.str s false)) :
    TQ S (.enum nm syms) bs o' r := by
  intro v rest hx
  obtain ⟨f, hx⟩ := hx.pos
  simp only [decodeX] at hx
  split at hx
  · rename_i idx r' hl
    obtain ⟨j, hd', _, _⟩ := decodeLenL_inv hl
    rw [hd] at hd'
    cases hd'
    split at hx <;> cases hx
    refine ⟨rfl, fun o ho => ?_⟩
    obtain ⟨s, _, rfl⟩ := Option.map_eq_some_iff.1 ho
    exact hc s
  · cases hx

theorem tq_duration {bs r b : Bytes} {o' : Out} (ht : takeN 12 bs = some (b, r))
    (hc : consistent o' (durationOut b .any)) : TQ S .duration bs o' r := by
  intro v rest hx
  obtain ⟨f, hx⟩ := hx.pos
  simp only [decodeX, ht, Option.map_some, Option.some.injEq, Prod.mk.injEq] at hx
  obtain ⟨rfl, rfl⟩ := hx
  refine ⟨rfl, fun o ho => ?_⟩
  cases ho
  rw [← durationOut_any b (takeN_eq ht).2]
  exact hc

theorem tq_union {vs : List Nat} {bs r0 r : Bytes} {d k : Nat} {variant : Node} {o' : Out}
    (hd : decodeLenL Limits.impl bs = some (d, r0)) (hk : vs[d]? = some k)
    (hv : S[k]? = some variant) (q : TQ S variant r0 o' r) : TQ S (.union vs) bs o' r := by
  intro v rest hx
  obtain ⟨f, hx⟩ := hx.pos
  obtain ⟨idx, r0', k', branch, v', hd', hk', hb', hx', rfl⟩ := decodeX_union_eq_some.1 hx
  rw [hd] at hd'
  cases hd'
  rw [hk] at hk'
  cases hk'
  rw [hv] at hb'
  cases hb'
  obtain ⟨rfl, hq⟩ := q v' rest ⟨f, hx'⟩
  refine ⟨rfl, fun o ho => hq o ?_⟩
  simpa only [observe, hk, hv] using ho

theorem tq_array {k : Nat} {item : Node} {bs r : Bytes} {out : List Out}
    (hitem : S[k]? = some item)
    (h : ∀ vs rest, BlkV S item bs vs rest →
      r = rest ∧ App consistentL [] out (observeList S item vs)) :
    TQ S (.array k) bs (.seq out) r := by
  intro v rest hx
  obtain ⟨f, hx⟩ := hx.pos
  obtain ⟨item', vs, hk, hb, rfl⟩ := decodeX_array_eq_some.1 hx
  rw [hitem] at hk
  cases hk
  obtain ⟨rfl, os', rfl, hos⟩ := h vs rest ⟨f, hb⟩
  refine ⟨rfl, fun o ho => ?_⟩
  simp only [observe, hitem] at ho
  obtain ⟨os, hos', rfl⟩ := Option.map_eq_some_iff.1 ho
  exact hos os hos'

theorem tq_map {k : Nat} {item : Node} {bs r : Bytes} {out : List (Out × Out)}
    (hitem : S[k]? = some item)
    (h : ∀ es rest, MBlkV S item bs es rest →
      r = rest ∧ App consistentM [] out (observeEntries S item es)) :
    TQ S (.map k) bs (.map out) r := by
  intro v rest hx
  obtain ⟨f, hx⟩ := hx.pos
  obtain ⟨item', es, hk, hb, rfl⟩ := decodeX_map_eq_some.1 hx
  rw [hitem] at hk
  cases hk
  obtain ⟨rfl, os', rfl, hos⟩ := h es rest ⟨f, hb⟩
  refine ⟨rfl, fun o ho => ?_⟩
  simp only [observe, hitem] at ho
  obtain ⟨os, hos', rfl⟩ := Option.map_eq_some_iff.1 ho
  exact hos os hos'

variable (S) (cfg : DeConfig)

/-- the arms of `de` that are the program of `deserialize_any` on a leaf -/
theorem tq_any_leaf {n : Node} (hn : n.isLeaf = true) (f depth : Nat) (bs : Bytes) {m : DeM Out}
    (e : m = deAny deExtModel cfg S f n depth .any) : Inv m bs (TQ S n bs) := by
  subst e
  refine ((sndAll cfg S f).any n depth bs).mono fun o r h => ?_
  obtain ⟨v, _, _, hobs⟩ := id h
  exact TQ.of_sound h (observe_leaf_refl S hn hobs)

/-! ### Decimals -/

/-- what `read_decimal` hands to the visitor once the numbers are read: nothing more is read -/
theorem inv_decimalTail (hint : DecHint) (u : Int) (sc : Nat) (bs : Bytes) :
    Inv (decimalTail deExtModel hint (u, sc)) bs (fun o r => r = bs ∧
      ∀ str, decToStringModel u sc = some str → consistent o (.str str false)) := by
  intro s hs a s' hrun
  have hc := decimalTail_consistent hint u sc _ _ _ hrun
  rcases decimalTail_scalar deExtModel hint (u, sc) with e | ⟨o, _, e⟩ <;> rw [e] at hrun
  · cases hrun
  · cases hrun
    exact ⟨bs, rfl, rfl, hc⟩

theorem tq_decimal (hint : DecHint) (sc pr : Nat) (repr : DecimalRepr) (bs : Bytes) :
    Inv (readDecimal deExtModel (.regular sc repr) hint) bs (TQ S (.decimal sc pr repr) bs) := by
  rw [readDecimal_raw_tail]
  refine Inv.bind (inv_readDecimalRaw_regular S sc pr repr bs) ?_
  rintro ⟨u, _⟩ r ⟨rfl, hl⟩
  refine (inv_decimalTail hint u _ r).mono ?_
  rintro o _ ⟨rfl, hc⟩ v rest hx
  cases hx.unique hl
  refine ⟨rfl, fun o2 ho2 => ?_⟩
  obtain ⟨str, hstr, rfl⟩ := Option.map_eq_some_iff.1 ho2
  exact hc str hstr

theorem tq_bigDecimal (hint : DecHint) (bs : Bytes) :
    Inv (readDecimal deExtModel .big hint) bs (TQ S .bigDecimal bs) := by
  rw [readDecimal_raw_tail]
  refine Inv.bind (inv_readBigRaw S bs) ?_
  rintro ⟨u, sc⟩ r hl
  refine (inv_decimalTail hint u sc r).mono ?_
  rintro o _ ⟨rfl, hc⟩ v rest hx
  cases hx.unique hl
  refine ⟨rfl, fun o2 ho2 => ?_⟩
  obtain ⟨str, hstr, rfl⟩ := Option.map_eq_some_iff.1 ho2
  exact hc str hstr

/-! ### The loops -/

theorem ts_succ_seq (g : Nat) (ih : TS cfg S g) (item : Node) (depth : Nat) (ign : Bool)
    (eh : Hint) (mi : Option Nat) (bst : BlockState) (acc : List Out) (bs : Bytes) :
    Inv (deSeqLoop deExtModel cfg S (g + 1) item depth ign eh mi bst acc) bs
      (fun out r => ∀ vs1 r1 more rest, ItmV S item bst.current bs vs1 r1 → BlkV S item r1 more rest →
        r = rest ∧ (ign = false → App consistentL acc out (observeList S item (vs1 ++ more)))) := by
  have hm := inv_hasMore_gen (BlkV.unfold (S := S) item) (fun _ _ _ => ItmV.zero) cfg ign bst bs
  rw [deSeqLoop]
  split
  · -- the visitor has taken its last element: `ArraySeqAccess::visit` reads the array to its end
    refine Inv.bind hm ?_
    rintro ⟨more, bst'⟩ r0 hpost
    cases more with
    | true => simp only [if_true]; exact Inv.fail _ _ _
    | false =>
      simp only [Bool.false_eq_true, if_false]
      refine Inv.pure fun vs1 r1 mr rest hi hb => ?_
      obtain ⟨e, hv⟩ := (hpost vs1 r1 mr rest hi hb).1 rfl
      exact ⟨e, fun hg => by rw [hv hg]; exact App.nil (R := consistentL) rfl acc⟩
  · refine Inv.bind hm ?_
    rintro ⟨more, bst'⟩ r0 hpost
    cases more with
    | false =>
      simp only [Bool.not_false, if_true]
      refine Inv.pure fun vs1 r1 mr rest hi hb => ?_
      obtain ⟨e, hv⟩ := (hpost vs1 r1 mr rest hi hb).1 rfl
      exact ⟨e, fun hg => by rw [hv hg]; exact App.nil (R := consistentL) rfl acc⟩
    | true =>
      simp only [Bool.not_true, Bool.false_eq_true, if_false]
      refine Inv.bind (ih.de item depth false eh r0) fun o ra hq => ?_
      refine (ih.seq item depth ign eh _ bst' (o :: acc) ra).mono ?_
      intro out r hfin vs1 r1 mr rest hi hb
      obtain ⟨vs1', r1', mr', hi', hb', e⟩ := (hpost vs1 r1 mr rest hi hb).2 rfl
      obtain ⟨v, ra', vs', hd, hi'', rfl⟩ := hi'.succ
      obtain ⟨rfl, hc⟩ := hq v ra' hd
      obtain ⟨rfl, happ⟩ := hfin vs' r1' mr' rest hi'' hb'
      refine ⟨rfl, fun hg => (happ hg).cons fun os ho => ?_⟩
      rw [← e hg, List.cons_append] at ho
      obtain ⟨o2, os0, ho2, hos0, rfl⟩ := observeList_cons_eq_some.1 ho
      exact ⟨o2, os0, hos0, rfl, fun os' h' => consistentL_cons.2 ⟨hc o2 ho2, h'⟩⟩

theorem ts_succ_map (g : Nat) (ih : TS cfg S g) (item : Node) (depth : Nat) (ign : Bool)
    (h : Hint) (bst : BlockState) (acc : List (Out × Out)) (bs : Bytes) :
    Inv (deMapLoop deExtModel cfg S (g + 1) item depth ign h bst acc) bs
      (fun out r => ∀ es1 r1 more rest, MItmV S item bst.current bs es1 r1 →
        MBlkV S item r1 more rest →
        r = rest ∧ (ign = false → App consistentM acc out (observeEntries S item (es1 ++ more)))) := by
  rw [deMapLoop]
  refine Inv.bind (inv_hasMore_gen (MBlkV.unfold (S := S) item) (fun _ _ _ => MItmV.zero) cfg ign bst bs) ?_
  rintro ⟨more, bst'⟩ r0 hpost
  cases more with
  | false =>
    simp only [Bool.not_false, if_true]
    refine Inv.pure fun es1 r1 mr rest hi hb => ?_
    obtain ⟨e, hv⟩ := (hpost es1 r1 mr rest hi hb).1 rfl
    exact ⟨e, fun hg => by rw [hv hg]; exact App.nil (R := consistentM) rfl acc⟩
  | true =>
    simp only [Bool.not_true, Bool.false_eq_true, if_false]
    refine Inv.bind (inv_readLen r0) fun n ra hlen => ?_
    refine Inv.bind (inv_readSlice n ra) ?_
    rintro ⟨kb, borrowed⟩ rb ⟨ht, _⟩
    simp only at ht
    -- the key: not looked at when ignored, else the UTF-8 reading of the bytes
    refine Inv.bind (Q1 := fun p r => r = rb ∧
      ∀ k, bytesToStr? kb = some k → consistent p.1 (.str k true)) ?_ ?_
    · split
      · exact Inv.pure ⟨rfl, fun _ _ => trivial⟩
      · split
        · rename_i s hs
          exact Inv.pure ⟨rfl, fun k hk => Option.some.inj (hs.symm.trans hk)⟩
        · exact Inv.fail _ _ _
    · rintro ⟨kOut, kName⟩ r ⟨rfl, hk⟩
      refine Inv.bind (ih.de item depth false (h.valFor kName) r) fun o rc hq => ?_
      refine (ih.map item depth ign h bst' ((kOut, o) :: acc) rc).mono ?_
      intro out rfin hfin es1 r1 mr rest hi hb
      obtain ⟨es1', r1', mr', hi', hb', e⟩ := (hpost es1 r1 mr rest hi hb).2 rfl
      obtain ⟨k, ra2, v, rb2, es', hs, hd, hi'', rfl⟩ := hi'.succ
      obtain ⟨rfl, hkb⟩ := string_of_len_take hlen ht hs
      obtain ⟨rfl, hc⟩ := hq v rb2 hd
      obtain ⟨rfl, happ⟩ := hfin es' r1' mr' rest hi'' hb'
      refine ⟨rfl, fun hg => (happ hg).cons fun os ho => ?_⟩
      rw [← e hg, List.cons_append] at ho
      obtain ⟨o2, os0, ho2, hos0, rfl⟩ := observeEntries_cons_eq_some.1 ho
      exact ⟨_, os0, hos0, rfl, fun os' h' => consistentM_cons.2 ⟨hk k hkb, hc o2 ho2, h'⟩⟩

theorem ts_fields (g : Nat) (ih : ∀ g', g = g' + 1 → TS cfg S g') (fields : List (String × Nat))
    (depth : Nat) (h : Hint) (acc : List (Out × Out)) (bs : Bytes) :
    Inv (deRecordFields deExtModel cfg S g fields depth h acc) bs
      (fun out r => ∀ vals rest, FldV S (fields.map (·.2)) bs vals rest →
        r = rest ∧ App consistentM acc out (observeFields S fields vals)) := by
  cases fields with
  | nil =>
    rw [deRecordFields]
    refine Inv.pure fun vals rest hx => ?_
    obtain ⟨rfl, rfl⟩ := hx.nil
    exact ⟨rfl, App.nil (R := consistentM) rfl acc⟩
  | cons fk fs =>
    obtain ⟨name, k⟩ := fk
    cases g with
    | zero => rw [deRecordFields]; exact Inv.fail _ _ _
    | succ g' =>
      have ih := ih g' rfl
      rw [deRecordFields]
      split
      · exact Inv.fail _ _ _
      · rename_i fnode hnode
        refine Inv.bind (ih.de fnode depth false (h.valFor (some name)) bs) fun o ra hq => ?_
        refine (ih.fields fs depth h _ ra).mono ?_
        intro out r hfin vals rest hx
        obtain ⟨n', v, r0, vs', hn', hd, hf, rfl⟩ := hx.cons
        rw [hnode] at hn'
        cases hn'
        obtain ⟨rfl, hc⟩ := hq v r0 hd
        obtain ⟨rfl, happ⟩ := hfin vs' rest hf
        refine ⟨rfl, happ.cons fun os ho => ?_⟩
        obtain ⟨o2, os0, ho2, hos0, rfl⟩ := (observeFields_cons_eq_some hnode).1 ho
        exact ⟨_, os0, hos0, rfl, fun os' h' =>
          consistentM_cons.2 ⟨offerName_consistent _ _ _ _, hc o2 ho2, h'⟩⟩

/-! ### The four readers -/

theorem ts_succ_any (g : Nat) (ih : TS cfg S g) (n : Node) (depth : Nat) (h : Hint) (bs : Bytes) :
    Inv (deAny deExtModel cfg S (g + 1) n depth h) bs (TQ S n bs) := by
  by_cases hn : n.isLeaf = true
  · exact tq_any_leaf S cfg hn (g + 1) depth bs (deAny_leaf hn ..)
  cases n with
  | array k =>
    simp only [deAny]
    split
    · exact Inv.fail _ _ _
    · rename_i item hitem
      refine Inv.bind (inv_decDepth_rest depth bs) ?_
      rintro d r rfl
      refine Inv.bind (ih.seq item d false h.elem h.maxItems {} [] r) fun items r' hpost => ?_
      exact Inv.pure (tq_array hitem fun vs rest hb =>
        let ⟨e, happ⟩ := hpost [] r vs rest ⟨0, decodeItemsX_zero ..⟩ hb
        ⟨e, happ rfl⟩)
  | map k =>
    simp only [deAny]
    split
    · exact Inv.fail _ _ _
    · rename_i item hitem
      refine Inv.bind (inv_decDepth_rest depth bs) ?_
      rintro d r rfl
      refine Inv.bind (ih.map item d false h {} [] r) fun entries r' hpost => ?_
      exact Inv.pure (tq_map hitem fun es rest hb =>
        let ⟨e, happ⟩ := hpost [] r es rest ⟨0, decodeMapItemsX_zero ..⟩ hb
        ⟨e, happ rfl⟩)
  | union vs =>
    simp only [deAny]
    refine Inv.bind (inv_readLen bs) fun d r0 hd => ?_
    split
    · exact Inv.fail _ _ _
    · rename_i k hk
      split
      · exact Inv.fail _ _ _
      · rename_i variant hvar
        refine Inv.bind (inv_decDepth_rest depth r0) ?_
        rintro dd r rfl
        exact (ih.any variant dd h r).mono fun o rr q => tq_union hd hk hvar q
  | record nm fields =>
    simp only [deAny]
    refine Inv.bind (inv_decDepth_rest depth bs) ?_
    rintro d r rfl
    refine Inv.bind (ih.fields fields d h [] r) fun entries r' hpost => ?_
    refine Inv.pure fun v rest hx => ?_
    obtain ⟨f, hx⟩ := hx.pos
    obtain ⟨vals, hf, rfl⟩ := decodeX_record_eq_some.1 hx
    obtain ⟨rfl, os', rfl, hos⟩ := hpost vals rest ⟨f, hf⟩
    refine ⟨rfl, fun o ho => ?_⟩
    simp only [observe] at ho
    obtain ⟨os, hos', rfl⟩ := Option.map_eq_some_iff.1 ho
    exact hos os hos'
  | duration =>
    simp only [deAny]
    exact Inv.bind (inv_readExact 12 bs) fun b r ht =>
      Inv.pure (tq_duration ht (durationOut_consistent b h))
  | _ => exact absurd rfl hn

theorem ts_succ_ign (g : Nat) (ih : TS cfg S g) (n : Node) (depth : Nat) (bs : Bytes) :
    Inv (deIgnored deExtModel cfg S (g + 1) n depth) bs (TQ S n bs) := by
  rw [deIgnored.eq_def]
  dsimp only
  split
  · -- a string: the bytes are not validated
    refine Inv.bind (inv_readLen bs) fun n ra hlen => ?_
    refine Inv.bind (inv_readSlice n ra) ?_
    rintro ⟨kb, borrowed⟩ rb ⟨ht, _⟩
    refine Inv.pure (TQ.unit fun v rest hx => ?_)
    obtain ⟨f, hx⟩ := hx.pos
    simp only [decodeX] at hx
    obtain ⟨⟨s, r'⟩, hs, hx⟩ := Option.map_eq_some_iff.1 hx
    cases hx
    exact (string_of_len_take hlen ht hs).1
  · split
    · exact Inv.fail _ _ _
    · rename_i item hitem
      refine Inv.bind (inv_decDepth_rest depth bs) ?_
      rintro d r rfl
      refine Inv.bind (ih.seq item d true .ignored none {} [] r) fun _ r' hpost => ?_
      refine Inv.pure (TQ.unit fun v rest hx => ?_)
      obtain ⟨f, hx⟩ := hx.pos
      obtain ⟨item', vs, hk, hb, rfl⟩ := decodeX_array_eq_some.1 hx
      rw [hitem] at hk
      cases hk
      exact (hpost [] r vs rest ⟨0, decodeItemsX_zero ..⟩ ⟨f, hb⟩).1
  · split
    · exact Inv.fail _ _ _
    · rename_i item hitem
      refine Inv.bind (inv_decDepth_rest depth bs) ?_
      rintro d r rfl
      refine Inv.bind (ih.map item d true .ignored {} [] r) fun _ r' hpost => ?_
      refine Inv.pure (TQ.unit fun v rest hx => ?_)
      obtain ⟨f, hx⟩ := hx.pos
      obtain ⟨item', es, hk, hb, rfl⟩ := decodeX_map_eq_some.1 hx
      rw [hitem] at hk
      cases hk
      exact (hpost [] r es rest ⟨0, decodeMapItemsX_zero ..⟩ ⟨f, hb⟩).1
  · refine Inv.bind (inv_varint_u32 bs) ?_
    rintro _ r ⟨i, hd⟩
    exact Inv.pure (tq_int hd trivial)
  · refine Inv.bind (inv_varint_u64 bs) ?_
    rintro _ r ⟨i, hd⟩
    exact Inv.pure (tq_long hd trivial)
  · refine Inv.bind (inv_varint_u64 bs) ?_
    rintro _ r ⟨i, hd⟩
    exact Inv.pure (tq_enum hd fun _ => trivial)
  · exact Inv.bind (inv_readExact 12 bs) fun b r ht => Inv.pure (tq_duration ht trivial)
  · exact Inv.bind (ih.any n depth .ignored bs) fun _ r q => Inv.pure (q.imp fun _ _ => trivial)

theorem ts_succ_tn (g : Nat) (ih : TS cfg S g) (n : Node) (depth : Nat)
    (vts : List (String × VariantHint)) (bs : Bytes) :
    Inv (deTypeNameEnum deExtModel cfg S (g + 1) n depth vts) bs (TQ S n bs) := by
  rw [deTypeNameEnum]
  simp only [selectVariant]
  cases hl : lookupVariant n.typeName vts with
  | none => exact Inv.fail _ _ _
  | some vh =>
    -- a unit variant skips the datum and matches anything; the payload of the other three is what
    -- the datum was read as
    cases vh with
    | unit => exact Inv.bind (ih.ign n depth bs) fun _ r q => Inv.pure (q.imp fun _ _ => Or.inl rfl)
    | _ => exact Inv.bind (ih.de n depth false _ bs) fun _ r q => Inv.pure (q.imp fun _ => Or.inr)

theorem ts_succ_de (g : Nat) (ih : TS cfg S g) (n : Node) (depth : Nat) (favor : Bool)
    (h : Hint) (bs : Bytes) :
    Inv (de deExtModel cfg S (g + 1) n depth favor h) bs (TQ S n bs) := by
  have routed : ∀ h', Inv (deAny deExtModel cfg S g n depth h') bs (TQ S n bs) :=
    fun h' => ih.any n depth h' bs
  -- the arms of `de` that are the program of `deserialize_any` on a leaf
  have leaf : ∀ {n' : Node} {m : DeM Out}, n'.isLeaf = true →
      m = deAny deExtModel cfg S 1 n' depth .any → Inv m bs (TQ S n' bs) :=
    fun hn e => tq_any_leaf S cfg hn 1 depth bs e
  have duration : ∀ {out : Bytes → Out}, (∀ b, consistent (out b) (durationOut b .any)) →
      Inv (readExact 12 >>= fun b => pure (out b)) bs (TQ S .duration bs) := fun hc =>
    Inv.bind (inv_readExact 12 bs) fun b r ht => Inv.pure (tq_duration ht (hc b))
  rw [de.eq_def]
  dsimp only
  -- one goal per request, in the order of the definition of `de`
  split
  · -- `.ignored`
    exact ih.ign n depth bs
  · -- `.u64`
    split
    · refine Inv.bind (inv_varint_i64 bs) fun i r hd => ?_
      split
      · exact Inv.fail _ _ _
      · exact Inv.pure (tq_enum hd fun _ => trivial)
    · exact tq_decimal S _ _ _ _ bs
    · exact tq_bigDecimal S _ bs
    · exact routed _
  · -- `.i64`
    split
    · exact leaf rfl (by simp only [deAny])
    · exact tq_decimal S _ _ _ _ bs
    · exact tq_bigDecimal S _ bs
    · exact routed _
  · -- `.u128`
    split
    · exact tq_decimal S _ _ _ _ bs
    · exact tq_bigDecimal S _ bs
    · exact routed _
  · -- `.i128`
    split
    · exact tq_decimal S _ _ _ _ bs
    · exact tq_bigDecimal S _ bs
    · exact routed _
  · -- `.f64`
    split
    · exact leaf rfl (by simp only [deAny])
    · exact tq_decimal S _ _ _ _ bs
    · exact tq_bigDecimal S _ bs
    · exact routed _
  · -- `.str`
    split
    · exact leaf rfl (by simp only [deAny])
    · -- on bytes: their UTF-8 reading
      refine (inv_readString bs).mono ?_
      rintro o r ⟨str, hs, rfl⟩ v rest hx
      obtain ⟨b, hb, hutf⟩ := decodeBytesL_of_string hs
      obtain ⟨f, hx⟩ := hx.pos
      simp only [decodeX, hb, Option.map_some, Option.some.injEq, Prod.mk.injEq] at hx
      obtain ⟨rfl, rfl⟩ := hx
      exact ⟨rfl, fun o ho => by cases ho; exact hutf⟩
    · refine Inv.bind (inv_readSlice _ bs) ?_
      rintro ⟨b, borrowed⟩ r ⟨ht, _⟩
      dsimp only
      split
      · rename_i s hs
        refine Inv.pure fun v rest hx => ?_
        obtain ⟨f, hx⟩ := hx.pos
        simp only [decodeX, ht, Option.map_some, Option.some.injEq, Prod.mk.injEq] at hx
        obtain ⟨rfl, rfl⟩ := hx
        exact ⟨rfl, fun o ho => by cases ho; exact hs⟩
      · exact Inv.fail _ _ _
    · exact routed _
  · -- `.bytes`
    split
    · exact leaf rfl (by simp only [deAny])
    · refine Inv.bind (inv_readSlice 12 bs) ?_
      rintro ⟨b, borrowed⟩ r ⟨ht, _⟩
      exact Inv.pure (tq_duration ht rfl)
    · exact routed _
  · -- `.option inner`
    rename_i inner
    split
    · exact Inv.pure (tq_null (Or.inr rfl))
    · refine Inv.bind (inv_readLen bs) fun d r0 hd => ?_
      split
      · exact Inv.fail _ _ _
      · rename_i k hk
        split
        · exact Inv.fail _ _ _
        · rename_i hnull
          exact Inv.pure (tq_union hd hk hnull (tq_null (Or.inr rfl)))
        · rename_i variant hnn hvar
          refine Inv.bind (inv_decDepth_rest depth r0) ?_
          rintro dd r rfl
          refine Inv.bind (ih.de variant dd _ inner r) fun o rr q => ?_
          exact Inv.pure (tq_union hd hk hvar (q.imp fun _ => Or.inl))
    · exact Inv.bind (ih.de n depth favor inner bs) fun o rr q => Inv.pure (q.imp fun _ => Or.inl)
  · -- `.seq e`
    split
    · exact duration fun b => durationSeqOut_consistent b _ none (Or.inl rfl)
    · exact routed _
  · -- `.tuple k e`
    split
    · split
      · exact duration fun b => durationSeqOut_consistent b _ (some 3) (Or.inr rfl)
      · exact routed _
    · exact routed _
  · -- `.map kh vh`
    exact routed _
  · -- `.struct fs`
    exact routed _
  · -- `.identifier`
    split
    · refine Inv.bind (inv_varint_i32 bs) ?_
      rintro i r ⟨hd, _⟩
      split
      · exact Inv.fail _ _ _
      · rename_i hv
        exact Inv.pure (tq_int hd (Int.toNat_of_nonneg (Int.not_lt.1 hv)).symm)
    · refine Inv.bind (inv_varint_i64 bs) fun i r hd => ?_
      split
      · exact Inv.fail _ _ _
      · rename_i hv
        exact Inv.pure (tq_long hd (Int.toNat_of_nonneg (Int.not_lt.1 hv)).symm)
    · exact routed _
  · -- `.enum variants`
    rename_i variants
    have here := fun d => ih.tn n d variants bs
    split
    · exact here depth
    · split
      · refine Inv.bind (inv_readLen bs) fun d r0 hd => ?_
        split
        · exact Inv.fail _ _ _
        · rename_i k hk
          split
          · exact Inv.fail _ _ _
          · rename_i variant hvar
            refine Inv.bind (inv_decDepth_rest depth r0) ?_
            rintro dd r rfl
            exact (ih.tn variant dd variants r).mono fun o rr q => tq_union hd hk hvar q
      -- the datum itself is the identifier (six kinds of node), or the name of its type
      all_goals
        refine Inv.bind (inv_decDepth_rest depth bs) ?_
        rintro dd r rfl
        first
        | exact here dd
        | refine Inv.bind (ih.de _ dd false .identifier r) fun ident rr q => ?_
          split
          · exact Inv.pure (q.imp fun _ _ => Or.inl rfl)
          · exact Inv.fail _ _ _
          · exact Inv.fail _ _ _
  · -- `.any`
    exact routed _

theorem ts : ∀ fuel, TS cfg S fuel := by
  intro fuel
  induction fuel with
  | zero =>
    refine ⟨?_, ?_, ?_, ?_, ?_, ?_, ?_⟩
    · intros; simp only [deAny]; exact Inv.fail _ _ _
    · intros; rw [de]; exact Inv.fail _ _ _
    · intros; rw [deTypeNameEnum]; exact Inv.fail _ _ _
    · intros; rw [deIgnored]; exact Inv.fail _ _ _
    · intros; rw [deSeqLoop]; exact Inv.fail _ _ _
    · intros; rw [deMapLoop]; exact Inv.fail _ _ _
    · exact ts_fields S cfg 0 (fun g' e => by cases e)
  | succ g ih =>
    exact ⟨ts_succ_any S cfg g ih, ts_succ_de S cfg g ih, ts_succ_tn S cfg g ih,
      ts_succ_ign S cfg g ih, ts_succ_seq S cfg g ih, ts_succ_map S cfg g ih,
      ts_fields S cfg (g + 1) (fun g' e => by cases e; exact ih)⟩

/-! ### The run theorems -/

/-- **Typed reads consume exactly the datum**, whatever the request. -/
theorem typed_consumes_run (n : Node) (depth fuel : Nat) (favor : Bool) (h : Hint)
    (s s' : RState) (o : Out)
    (hs : s.isSlice = true) (hl : s.limit = none) (ha : s.avail = 0)
    (hrun : de deExtModel cfg S fuel n depth favor h s = (.ok o, s'))
    (v : Value) (rest : Bytes) (fX : Nat)
    (hx : decodeX Limits.impl S fX n s.rest = some (v, rest)) :
    s' = { s with rest := rest } := by
  obtain ⟨r, rfl, hq⟩ := ((ts S cfg fuel).de n depth favor h s.rest).run hs hl ha hrun
  rw [(hq v rest ⟨fX, hx⟩).1]

/-- **What a typed read returns**, against a successful self-describing read of the same input
    (its own configuration, fuel and depth budget): the results are `consistent`, and the two reads
    end in the same state. -/
theorem typed_value_run (n : Node) (d fuel : Nat) (favor : Bool) (h : Hint)
    (s s' : RState) (o' : Out)
    (hs : s.isSlice = true) (hl : s.limit = none) (ha : s.avail = 0)
    (hrun : de deExtModel cfg S fuel n d favor h s = (.ok o', s'))
    (cfg2 : DeConfig) (f2 d2 : Nat) (o : Out) (s2 : RState)
    (hany : de deExtModel cfg2 S f2 n d2 false .any s = (.ok o, s2))
    (hx : ∃ fX v rest, decodeX Limits.impl S fX n s.rest = some (v, rest)) :
    consistent o' o ∧ s' = s2 := by
  obtain ⟨fX, v, rest, hx⟩ := hx
  obtain ⟨r, rfl, q⟩ := ((ts S cfg fuel).de n d favor h s.rest).run hs hl ha hrun
  obtain ⟨r2, rfl, v2, fS, hl2, hobs⟩ := ((sndAll cfg2 S f2).de n d2 s.rest).run hs hl ha hany
  cases DecV.unique ⟨fX, hx⟩ hl2
  obtain ⟨rfl, hc⟩ := q v rest ⟨fX, hx⟩
  exact ⟨hc o hobs, rfl⟩

/-! ### Kept statements, off the proof path (see Lemmas/TypedConsume.lean)

`TC` and `TV` hold for every family `ok`: no `ok` hypothesis is used. -/

theorem tc {ok : Hint → Node → Prop} (fuel : Nat) : TC cfg S ok fuel :=
  have H := ts S cfg fuel
  have cq {n bs} : ∀ (o : Out) (r : Bytes), TQ S n bs o r → CQ S n bs o r :=
    fun _ _ q rest ⟨fX, v, hx⟩ => (q v rest ⟨fX, hx⟩).1
  { any := fun n depth h bs _ _ => (H.any n depth h bs).mono cq
    de := fun n depth favor h bs _ => (H.de n depth favor h bs).mono cq
    tn := fun n depth vts bs _ => (H.tn n depth vts bs).mono cq
    ign := fun n depth bs => (H.ign n depth bs).mono cq
    seq := fun item depth ign eh mi bst acc bs _ => (H.seq item depth ign eh mi bst acc bs).mono
      fun _ _ q r1 rest ⟨f1, vs1, h1⟩ ⟨f2, more, h2⟩ => (q vs1 r1 more rest ⟨f1, h1⟩ ⟨f2, h2⟩).1
    map := fun item depth ign h bst acc bs _ => (H.map item depth ign h bst acc bs).mono
      fun _ _ q r1 rest ⟨f1, es1, h1⟩ ⟨f2, more, h2⟩ => (q es1 r1 more rest ⟨f1, h1⟩ ⟨f2, h2⟩).1
    fields := fun fields depth h acc bs _ => (H.fields fields depth h acc bs).mono
      fun _ _ q rest ⟨fX, vals, hx⟩ => (q vals rest ⟨fX, hx⟩).1 }

/-- against a successful self-describing read from the same state: its soundness names the
    decoded value -/
theorem Inv2.of_tq {m : DeM Out} {n : Node} {bs : Bytes} (h : Inv m bs (TQ S n bs))
    (hx : HasX S n bs) (cfg2 : DeConfig) (f2 d2 : Nat) :
    Inv2 m (deAny deExtModel cfg2 S f2 n d2 .any) bs QC := by
  obtain ⟨rest, fX, v, hx⟩ := hx
  refine Inv2.of_inv h ((sndAll cfg2 S f2).any n d2 bs) ?_
  rintro o' r1 o r2 q ⟨v2, fS, hl, hobs⟩
  cases DecV.unique ⟨fX, hx⟩ hl
  obtain ⟨rfl, hc⟩ := q v rest ⟨fX, hx⟩
  exact ⟨rfl, hc o hobs⟩

theorem tv {ok : Hint → Node → Prop} (fuel : Nat) : TV cfg S ok fuel where
  any cfg2 f2 n d d2 h bs _ _ hx := Inv2.of_tq S ((ts S cfg fuel).any n d h bs) hx cfg2 f2 d2
  de cfg2 f2 n d d2 favor h bs _ hx := Inv2.of_tq S ((ts S cfg fuel).de n d favor h bs) hx cfg2 f2 d2
  tn cfg2 f2 n d d2 vts bs _ hx := Inv2.of_tq S ((ts S cfg fuel).tn n d vts bs) hx cfg2 f2 d2
  seq cfg2 f2 item d d2 eh mi bst acc acc2 bs _ hx hacc := by
    obtain ⟨r1, rest, ⟨f1, vs1, h1⟩, ⟨fb, more, h2⟩⟩ := hx
    refine Inv2.of_inv ((ts S cfg fuel).seq item d false eh mi bst acc bs)
      ((sndAll cfg2 S f2).seq item d2 bst.current bst.nRead acc2 bs) ?_
    rintro a ra b rb q ⟨vs1', r1', more', os, fS, h1', h2', hobs, rfl⟩
    cases ItmV.unique ⟨f1, h1⟩ h1'
    cases BlkV.unique ⟨fb, h2⟩ h2'
    obtain ⟨rfl, happ⟩ := q vs1 r1 more rest ⟨f1, h1⟩ ⟨fb, h2⟩
    obtain ⟨os', rfl, hos⟩ := happ rfl
    exact ⟨rfl, consistentL_append hacc (hos os hobs)⟩
  map cfg2 f2 item d d2 h bst acc acc2 bs _ hx hacc := by
    obtain ⟨r1, rest, ⟨f1, es1, h1⟩, ⟨fb, more, h2⟩⟩ := hx
    refine Inv2.of_inv ((ts S cfg fuel).map item d false h bst acc bs)
      ((sndAll cfg2 S f2).map item d2 bst.current bst.nRead acc2 bs) ?_
    rintro a ra b rb q ⟨es1', r1', more', os, fS, h1', h2', hobs, rfl⟩
    cases MItmV.unique ⟨f1, h1⟩ h1'
    cases MBlkV.unique ⟨fb, h2⟩ h2'
    obtain ⟨rfl, happ⟩ := q es1 r1 more rest ⟨f1, h1⟩ ⟨fb, h2⟩
    obtain ⟨os', rfl, hos⟩ := happ rfl
    exact ⟨rfl, consistentM_append hacc (hos os hobs)⟩
  fields cfg2 f2 fields d d2 h acc acc2 bs _ hx hacc := by
    obtain ⟨rest, fX, vals, hx⟩ := hx
    refine Inv2.of_inv ((ts S cfg fuel).fields fields d h acc bs)
      ((sndAll cfg2 S f2).fields fields d2 acc2 bs) ?_
    rintro a ra b rb q ⟨vals', os, fS, hl, hobs, rfl⟩
    cases FldV.unique ⟨fX, hx⟩ hl
    obtain ⟨rfl, os', rfl, hos⟩ := q vals rest ⟨fX, hx⟩
    exact ⟨rfl, consistentM_append hacc (hos os hobs)⟩

end Avro.Impl
