import AvroModel.Lemmas.RegisterRel
/-
C19 (schema construction is total): the fuel of `registerNode`.

`rawBound raw`, a function of the raw tree only, is *exactly* what a SUCCESSFUL call on `raw`
consumes (one unit for `registerNode`, one for `registerObject`, one per element of a union / field
list already passed, then the child); a failing call may stop earlier.  With that much fuel the
functions return what `Reg` says and with less they run out (`Reg.fuel`); above it the only error
is `custom` (`register_errors`) and the result does not depend on the fuel.
-/
namespace Avro.Impl

mutual
/-- Fuel `registerNode` needs on `raw`, whatever the state: depth of the tree, where the `i`-th
    element (from 0) of a union or of a field list sits `i + 1` deeper than the list and only the
    attribute the type name selects (`items` / `values` / `fields`) is looked at. -/
def rawBound : RawSchema → Nat
  | .type _ => 2
  | .ref _ => 1
  | .union bs => 1 + rawBoundList bs
  | .object a fields items values =>
    2 + (match a.type with
      | .array => rawBoundO items
      | .map => rawBoundO values
      | .record => rawBoundOF fields
      | _ => 0)
def rawBoundO : Option RawSchema → Nat
  | none => 0
  | some r => rawBound r
def rawBoundOF : Option (List (String × RawSchema)) → Nat
  | none => 0
  | some fs => rawBoundFields fs
def rawBoundList : List RawSchema → Nat
  | [] => 0
  | r :: rest => 1 + max (rawBound r) (rawBoundList rest)
def rawBoundFields : List (String × RawSchema) → Nat
  | [] => 0
  | (_, r) :: rest => 1 + max (rawBound r) (rawBoundFields rest)
end

def bodyBound (t : RawType) (ofields : Option (List (String × RawSchema)))
    (oitems ovalues : Option RawSchema) : Nat :=
  match t with
  | .array => rawBoundO oitems
  | .map => rawBoundO ovalues
  | .record => rawBoundOF ofields
  | _ => 0

theorem rawBound_object (a : RawAttrs) (fields items values) :
    rawBound (.object a fields items values) = 2 + bodyBound a.type fields items values := by
  simp only [rawBound, bodyBound]

theorem bodyBound_none (t : RawType) : bodyBound t none none none = 0 := by
  cases t <;> simp [bodyBound, rawBoundO, rawBoundOF]

theorem rawBound_pos (raw : RawSchema) : 1 ≤ rawBound raw := by
  cases raw <;> simp only [rawBound] <;> omega

/-! ### with enough fuel the only error is `custom` -/

theorem logicalOf_error {o : RawAttrs} {e : SchemaErr} (h : logicalOf o = .error e) :
    e = .custom := by
  unfold logicalOf at h
  split at h
  · cases h
  · split at h
    · cases h; rfl
    · cases h
  all_goals cases h

theorem logicalStep_error {o : Option RawAttrs} {e : SchemaErr} (h : logicalStep o = .error e) :
    e = .custom := by
  cases o with
  | none => cases h
  | some a => exact logicalOf_error h

theorem bodyStep_error {f : Nat}
    (ihN : ∀ raw ns st e, rawBound raw ≤ f → registerNode f raw ns st = .error e → e = .custom)
    (ihF : ∀ l ns st e, rawBoundFields l ≤ f → registerFields f l ns st = .error e → e = .custom)
    {t : RawType} {o : Option RawAttrs} {of : Option (List (String × RawSchema))}
    {oi ov : Option RawSchema} {enc : Option String} {nk : Option NameKey} {st : PState}
    {e : SchemaErr} (hb : bodyBound t of oi ov ≤ f)
    (h : bodyStep f t o of oi ov enc nk st = .error e) : e = .custom := by
  cases hbo : bodyOf t o of oi ov enc nk with
  | error e' => rw [bodyOf_error hbo] at h; cases h; rfl
  | ok b =>
    rcases bodyOf_ok hbo with ⟨ty, -, -, -, hs⟩ | ⟨r, mk, -, ht, hs⟩ | ⟨k, fs, -, rfl, -, rfl, hs⟩ <;>
      rw [hs] at h
    · cases h
    · have hb' : rawBound r ≤ f := by rcases ht with ⟨rfl, rfl, -⟩ | ⟨rfl, rfl, -⟩ <;> exact hb
      cases hr : registerNode f r enc st with
      | error e' => rw [hr] at h; cases h; exact ihN _ _ _ _ hb' hr
      | ok p => rw [hr] at h; cases h
    · cases hr : registerFields f fs k.ns st with
      | error e' => rw [hr] at h; cases h; exact ihF _ _ _ _ hb hr
      | ok p => rw [hr] at h; cases h

theorem register_errors (f : Nat) :
    (∀ raw ns st e, rawBound raw ≤ f → registerNode f raw ns st = .error e → e = .custom) ∧
    (∀ t o of oi ov ns st e, 1 + bodyBound t of oi ov ≤ f →
      registerObject f t o of oi ov ns st = .error e → e = .custom) ∧
    (∀ l ns st e, rawBoundList l ≤ f → registerList f l ns st = .error e → e = .custom) ∧
    (∀ l ns st e, rawBoundFields l ≤ f → registerFields f l ns st = .error e → e = .custom) := by
  induction f with
  | zero =>
    refine ⟨?_, ?_, ?_, ?_⟩
    · intro raw ns st e h; have := rawBound_pos raw; omega
    · intro t o of oi ov ns st e h; omega
    · intro l ns st e h he
      cases l with
      | nil => simp [registerList] at he
      | cons r rest => simp only [rawBoundList] at h; omega
    · intro l ns st e h he
      cases l with
      | nil => simp [registerFields] at he
      | cons p rest => obtain ⟨n, r⟩ := p; simp only [rawBoundFields] at h; omega
  | succ f ih =>
    obtain ⟨ihN, ihO, ihL, ihF⟩ := ih
    refine ⟨?_, ?_, ?_, ?_⟩
    · intro raw ns st e h he
      cases raw with
      | ref r =>
        simp only [registerNode] at he
        split at he <;> cases he
      | type t =>
        simp only [rawBound] at h
        exact ihO t none none none none ns st e (by rw [bodyBound_none]; omega) he
      | object a fields items values =>
        rw [rawBound_object] at h
        exact ihO a.type (some a) fields items values ns st e (by omega) he
      | union bs =>
        simp only [rawBound] at h
        rw [registerNode_union] at he
        exact ihL _ _ _ _ (by omega) (mapOk_error he)
    · intro t o of oi ov ns st e h he
      rw [registerObject_succ] at he
      rcases andThen_error he with hn | ⟨⟨nk, st1⟩, -, he⟩
      · exact nameStep_error hn
      · rcases andThen_error he with hb | ⟨q, -, he⟩
        · exact bodyStep_error ihN ihF (by omega) hb
        · exact logicalStep_error (mapOk_error he)
    · intro l ns st e h he
      cases l with
      | nil => cases he
      | cons r rest =>
        simp only [rawBoundList] at h
        rw [registerList_cons] at he
        rcases andThen_error he with h1 | ⟨p, -, he⟩
        · exact ihN _ _ _ _ (by omega) h1
        · exact ihL _ _ _ _ (by omega) (mapOk_error he)
    · intro l ns st e h he
      cases l with
      | nil => cases he
      | cons p rest =>
        obtain ⟨name, r⟩ := p
        simp only [rawBoundFields] at h
        rw [registerFields_cons] at he
        rcases andThen_error he with h1 | ⟨p, -, he⟩
        · exact ihN _ _ _ _ (by omega) h1
        · exact ihF _ _ _ _ (by omega) (mapOk_error he)

/-! ### the relation `Reg` is complete above `rawBound` -/

theorem rawBoundFields_eq_list (fs : List (String × RawSchema)) :
    rawBoundFields fs = rawBoundList (fs.map (·.2)) := by
  induction fs with
  | nil => rfl
  | cons p rest ih => simp only [rawBoundFields, List.map_cons, rawBoundList, ih]

/-- what the fuelled list functions return on `l`, given `rawBoundList l` fuel -/
def Runs (l : List RawSchema) (enc : Option String) (st : PState) (ks : List PKey)
    (st' : PState) : Prop :=
  (∀ f, rawBoundList l ≤ f → registerList f l enc st = .ok (ks, st')) ∧
  (∀ names : List String, names.length = l.length → ∀ f, rawBoundList l ≤ f →
    registerFields f (names.zip l) enc st = .ok (names.zip ks, st'))

theorem Runs.nil (enc : Option String) (st : PState) : Runs [] enc st [] st := by
  refine ⟨fun f _ => by cases f <;> rfl, fun names hl f _ => ?_⟩
  cases names with
  | nil => cases f <;> rfl
  | cons _ _ => cases hl

theorem Runs.cons {r rest enc st k s1 ks st'}
    (hd : ∀ f, rawBound r ≤ f → registerNode f r enc st = .ok (k, s1))
    (ih : Runs rest enc s1 ks st') : Runs (r :: rest) enc st (k :: ks) st' := by
  refine ⟨fun f hf => ?_, fun names hl f hf => ?_⟩ <;> simp only [rawBoundList] at hf <;>
    obtain ⟨f, rfl⟩ : ∃ f', f = f' + 1 := ⟨f - 1, by omega⟩
  · rw [registerList_cons, hd f (by omega), andThen, ih.1 f (by omega)]; rfl
  · cases names with
    | nil => cases hl
    | cons n ns =>
      rw [List.zip_cons_cons, registerFields_cons, hd f (by omega), andThen,
        ih.2 ns (Nat.succ.inj hl) f (by omega)]
      rfl

theorem Runs.single {r enc st ks st'} (h : Runs [r] enc st ks st') {f : Nat} (hf : rawBound r ≤ f) :
    ∃ k, ks = [k] ∧ registerNode f r enc st = .ok (k, st') := by
  have := h.1 (f + 1) (by simp only [rawBoundList]; omega)
  obtain ⟨k1, sa, ks2, h1, h2, rfl⟩ := registerList_cons_ok this
  cases f <;> cases h2 <;> exact ⟨k1, rfl, h1⟩

theorem bodyStep_of_bodyOf {f t o of oi ov enc nk st1 b kks st2}
    (hb : bodyOf t o of oi ov enc nk = .ok b)
    (hr : Runs b.kids b.ns st1 kks st2) (hf : bodyBound t of oi ov ≤ f) :
    bodyStep f t o of oi ov enc nk st1 = .ok (b.build kks, st2) := by
  rcases bodyOf_ok hb with ⟨ty, rfl, -, -, hs⟩ | ⟨r, mk, rfl, ht, hs⟩ | ⟨k, fs, rfl, rfl, -, rfl, hs⟩ <;>
    rw [hs]
  · cases hr.1 0 (Nat.zero_le _); rfl
  · have hf' : rawBound r ≤ f := by
      rcases ht with ⟨rfl, rfl, -⟩ | ⟨rfl, rfl, -⟩ <;> exact hf
    have hr : Runs [r] enc st1 kks st2 := hr
    obtain ⟨k, rfl, h1⟩ := hr.single hf'
    rw [h1]; rfl
  · have hr : Runs (fs.map (·.2)) k.ns st1 kks st2 := hr
    have := hr.2 (fs.map (·.1)) (by simp only [List.length_map]) f
      (by rw [← rawBoundFields_eq_list]; exact hf)
    rw [← List.zip_of_prod rfl rfl] at this
    rw [this]; rfl

/-! ### … and `rawBound` is needed: below it a registration that succeeds runs out of fuel

Who needs it: `PcfSpec.canonTree_of_register` (`Lemmas/PcfSpecGraph.lean`) bounds the height of the
canonical tree of the parsed graph by `rawBound`, hence by the fuel the registration HAD
(`registerNode_ok_bound`), so that `C08_pcf_is_spec` gives the canonical form at that same fuel. -/

/-- below `rawBoundList l` the fuelled functions run out of fuel on `l`; the last clause is the
    same for a single schema, kept in the predicate so that the induction on `Reg` has it at the
    child of an array or map -/
def Starves (l : List RawSchema) (enc : Option String) (st : PState) : Prop :=
  (∀ f, f < rawBoundList l → registerList f l enc st = .error .panic) ∧
  (∀ names : List String, names.length = l.length → ∀ f, f < rawBoundList l →
    registerFields f (names.zip l) enc st = .error .panic) ∧
  (∀ r, l = [r] → ∀ f, f < rawBound r → registerNode f r enc st = .error .panic)

theorem Starves.cons {r rest enc st k s1}
    (hok : ∀ f, rawBound r ≤ f → registerNode f r enc st = .ok (k, s1))
    (hd : ∀ f, f < rawBound r → registerNode f r enc st = .error .panic)
    (ih : Starves rest enc s1) : Starves (r :: rest) enc st := by
  refine ⟨fun f hf => ?_, fun names hl f hf => ?_, fun r' e f hf => ?_⟩
  · simp only [rawBoundList] at hf
    cases f with
    | zero => rfl
    | succ f =>
      rw [registerList_cons]
      by_cases h : f < rawBound r
      · rw [hd f h]; rfl
      · rw [hok f (by omega), andThen, ih.1 f (by omega)]; rfl
  · simp only [rawBoundList] at hf
    cases names with
    | nil => cases hl
    | cons n ns =>
      cases f with
      | zero => rfl
      | succ f =>
        rw [List.zip_cons_cons, registerFields_cons]
        by_cases h : f < rawBound r
        · rw [hd f h]; rfl
        · rw [hok f (by omega), andThen, ih.2.1 ns (Nat.succ.inj hl) f (by omega)]; rfl
  · cases e; exact hd f hf

theorem bodyBound_leaf {t of oi ov} (h : RawType.isLeaf t = true) : bodyBound t of oi ov = 0 := by
  cases t <;> first | rfl | cases h

theorem bodyStep_starves {f t o of oi ov enc nk st1 b}
    (hb : bodyOf t o of oi ov enc nk = .ok b) (hs : Starves b.kids b.ns st1)
    (hf : f < bodyBound t of oi ov) :
    bodyStep f t o of oi ov enc nk st1 = .error .panic := by
  rcases bodyOf_ok hb with ⟨ty, rfl, hl, -⟩ | ⟨r, mk, rfl, ht, he⟩ | ⟨k, fs, rfl, rfl, -, rfl, he⟩
  · rw [bodyBound_leaf hl] at hf; cases hf
  · have hf' : f < rawBound r := by
      rcases ht with ⟨rfl, rfl, -⟩ | ⟨rfl, rfl, -⟩ <;> exact hf
    have hs : Starves [r] enc st1 := hs
    rw [he, hs.2.2 r rfl f hf']; rfl
  · have hs : Starves (fs.map (·.2)) k.ns st1 := hs
    have := hs.2.1 (fs.map (·.1)) (by simp only [List.length_map]) f
      (by rw [← rawBoundFields_eq_list]; exact hf)
    rw [← List.zip_of_prod rfl rfl] at this
    rw [he, this]; rfl

theorem registerObject_of_reg {f t o of oi ov enc} {st : PState} {nk st1 b kks st2 lt}
    (hn : nameStep o enc st = .ok (nk, st1)) (hb : bodyOf t o of oi ov enc nk = .ok b)
    (hr : Runs b.kids b.ns st1 kks st2)
    (hlog : logicalStep o = .ok lt) (hf : 1 + bodyBound t of oi ov ≤ f) :
    registerObject f t o of oi ov enc st =
      .ok (.idx st.nodes.size, st2.fill st.nodes.size (b.build kks) lt) := by
  obtain ⟨f, rfl⟩ : ∃ f', f = f' + 1 := ⟨f - 1, by omega⟩
  rw [registerObject_succ, hn, andThen,
    bodyStep_of_bodyOf hb hr (by omega : bodyBound t of oi ov ≤ f), andThen, hlog]
  rfl

theorem Reg.fuel {l enc st ks st'} (h : Reg l enc st ks st') :
    Runs l enc st ks st' ∧ Starves l enc st := by
  have cons : ∀ {r rest enc st k s1 ks st'},
      (∀ f, rawBound r ≤ f → registerNode f r enc st = .ok (k, s1)) →
      (∀ f, f < rawBound r → registerNode f r enc st = .error .panic) →
      Runs rest enc s1 ks st' ∧ Starves rest enc s1 →
      Runs (r :: rest) enc st (k :: ks) st' ∧ Starves (r :: rest) enc st :=
    fun hok hd ih => ⟨.cons hok ih.1, .cons hok hd ih.2⟩
  induction h with
  | nil =>
    exact ⟨.nil _ _, fun _ hf => (nomatch hf), fun _ _ _ hf => (nomatch hf), fun _ e => (nomatch e)⟩
  | found hl _ ih =>
    refine cons (fun f hf => ?_) (fun f hf => ?_) ih <;> simp only [rawBound] at hf
    · obtain ⟨f, rfl⟩ : ∃ f', f = f' + 1 := ⟨f - 1, by omega⟩
      simp only [registerNode, hl]
    · obtain rfl : f = 0 := by omega
      rfl
  | pending hl _ ih =>
    refine cons (fun f hf => ?_) (fun f hf => ?_) ih <;> simp only [rawBound] at hf
    · obtain ⟨f, rfl⟩ : ∃ f', f = f' + 1 := ⟨f - 1, by omega⟩
      simp only [registerNode, hl]
    · obtain rfl : f = 0 := by omega
      rfl
  | union _ _ ihk ih =>
    refine cons (fun f hf => ?_) (fun f hf => ?_) ih <;> simp only [rawBound] at hf
    · obtain ⟨f, rfl⟩ : ∃ f', f = f' + 1 := ⟨f - 1, by omega⟩
      rw [registerNode_union, ihk.1.1 f (by omega)]; rfl
    · cases f with
      | zero => rfl
      | succ f =>
        rw [registerNode_union, ihk.2.1 f (by omega)]; rfl
  | @node raw _ enc st t o of oi ov nk st1 b kks st2 lt _ _ hraw hn hb hk hlog _ ihk ih =>
    have hbound : rawBound raw = 2 + bodyBound t of oi ov := by
      rcases RawSchema.asNode_some hraw with ⟨rfl, -, rfl, rfl, rfl⟩ | ⟨a, rfl, rfl, -⟩
      · rw [bodyBound_none]; rfl
      · exact rawBound_object ..
    have hobj : ∀ f, registerNode (f + 1) raw enc st = registerObject f t o of oi ov enc st := by
      intro f
      rcases RawSchema.asNode_some hraw with ⟨rfl, rfl, rfl, rfl, rfl⟩ | ⟨a, rfl, rfl, rfl⟩ <;> rfl
    refine cons (fun f hf => ?_) (fun f hf => ?_) ih
    · obtain ⟨f, rfl⟩ : ∃ f', f = f' + 1 := ⟨f - 1, by omega⟩
      rw [hobj, registerObject_of_reg hn hb ihk.1 hlog (by omega)]
    · match f with
      | 0 => rfl
      | 1 => rw [hobj]; rfl
      | f + 2 =>
        rw [hobj, registerObject_succ, hn, andThen,
          bodyStep_starves hb ihk.2 (by omega : f < bodyBound t of oi ov)]
        rfl

theorem Reg.runs {l enc st ks st'} (h : Reg l enc st ks st') : Runs l enc st ks st' := h.fuel.1

theorem registerNode_iff_reg {f raw enc st k st'} (hf : rawBound raw ≤ f) :
    registerNode f raw enc st = .ok (k, st') ↔ Reg [raw] enc st [k] st' := by
  refine ⟨registerNode_reg, fun h => ?_⟩
  obtain ⟨k', hk, h1⟩ := h.runs.single hf
  cases hk; exact h1

theorem registerNode_ok_bound {f raw enc st r} (h : registerNode f raw enc st = .ok r) :
    rawBound raw ≤ f := by
  refine Nat.le_of_not_lt fun hlt => ?_
  rw [(registerNode_reg (k := r.1) (st' := r.2) h).fuel.2.2.2 raw rfl f hlt] at h
  cases h

/-! ### above `rawBound` the fuel is irrelevant -/

theorem fuel_irrelevant {α : Type} {g : Nat → Except SchemaErr α} {B f f' : Nat}
    (hok : ∀ f r, B ≤ f → g f = .ok r → ∀ f', B ≤ f' → g f' = .ok r)
    (herr : ∀ f e, B ≤ f → g f = .error e → e = .custom) (h : B ≤ f) (h' : B ≤ f') :
    g f = g f' := by
  cases hf : g f with
  | ok r => exact (hok f r h hf f' h').symm
  | error e =>
    cases hf' : g f' with
    | ok r => rw [hok f' r h' hf' f h] at hf; cases hf
    | error e' => rw [herr f e h hf, herr f' e' h' hf']

theorem registerNode_fuel_irrelevant {raw : RawSchema} {f f' : Nat} (h : rawBound raw ≤ f)
    (h' : rawBound raw ≤ f') (ns : Option String) (st : PState) :
    registerNode f raw ns st = registerNode f' raw ns st :=
  fuel_irrelevant (g := fun f => registerNode f raw ns st)
    (fun _ _ hf hr _ hf' => (registerNode_iff_reg hf').mpr ((registerNode_iff_reg hf).mp hr))
    (fun f e hf => (register_errors f).1 raw ns st e hf) h h'

theorem registerObject_fuel_irrelevant {t o of oi ov} {f f' : Nat}
    (h : 1 + bodyBound t of oi ov ≤ f) (h' : 1 + bodyBound t of oi ov ≤ f') (ns : Option String)
    (st : PState) : registerObject f t o of oi ov ns st = registerObject f' t o of oi ov ns st :=
  fuel_irrelevant (g := fun f => registerObject f t o of oi ov ns st)
    (fun _ _ _ hr _ hf' => by
      obtain ⟨nk, st1, b, kks, st2, lt, hn, hb, hk, hl, hkey, hst⟩ := registerObject_reg hr
      rw [registerObject_of_reg hn hb hk.runs hl hf', ← hkey, ← hst])
    (fun f e hf => (register_errors f).2.1 t o of oi ov ns st e hf) h h'

theorem registerList_fuel_irrelevant {l : List RawSchema} {f f' : Nat} (h : rawBoundList l ≤ f)
    (h' : rawBoundList l ≤ f') (ns : Option String) (st : PState) :
    registerList f l ns st = registerList f' l ns st :=
  fuel_irrelevant (g := fun f => registerList f l ns st)
    (fun _ _ _ hr _ hf' => (registerList_reg hr).runs.1 _ hf')
    (fun f e hf => (register_errors f).2.2.1 l ns st e hf) h h'

theorem registerFields_fuel_irrelevant {l : List (String × RawSchema)} {f f' : Nat}
    (h : rawBoundFields l ≤ f) (h' : rawBoundFields l ≤ f') (ns : Option String) (st : PState) :
    registerFields f l ns st = registerFields f' l ns st :=
  fuel_irrelevant (g := fun f => registerFields f l ns st)
    (fun _ r _ hr _ hf' => by
      obtain ⟨ks, hk, hfs⟩ := registerFields_reg (fs := r.1) (st' := r.2) hr
      have := hk.runs.2 (l.map (·.1)) (by simp only [List.length_map]) _
        (by rw [← rawBoundFields_eq_list]; exact hf')
      rw [← List.zip_of_prod rfl rfl] at this
      rw [this, ← hfs])
    (fun f e hf => (register_errors f).2.2.2 l ns st e hf) h h'

end Avro.Impl
