import AvroModel.Impl.Lifetimes
/-
The reference-counting invariant of the ownership-history model (`Impl/Lifetimes.lean`) and its
preservation by every API step.  Used by `Theorems/C10.lean`.
-/
namespace Avro.Lemmas.Lifetimes
open Avro.Impl.Lifetimes

/-- number of live references to allocation `a`: user handles `some a` plus readers that still hold
    their own `Arc` on `a`. -/
def refs (s : St) (a : Nat) : Nat :=
  s.handles.count (some a) + s.readers.countP (fun r => r.arcHeld && r.schema == a)

/-- The invariant of C10, part B (item (7) of `Theorems/C10.lean`):
    (a) `counts`: every allocation's strong count is the number of live references to it and it has
        been freed exactly when that count is 0;
    (b) `stateArc`: a reader whose state (pointers into the schema) is alive still holds its `Arc`;
    (c) `handleBound` / `readerBound`: ids name existing allocations. -/
structure Inv (s : St) : Prop where
  counts : ∀ (a : Nat) (al : Alloc), s.allocs[a]? = some al →
    al.strong = refs s a ∧ (al.freed = true ↔ al.strong = 0)
  stateArc : ∀ r ∈ s.readers, r.stateAlive = true → r.arcHeld = true
  handleBound : ∀ a : Nat, some a ∈ s.handles → a < s.allocs.length
  readerBound : ∀ r ∈ s.readers, r.schema < s.allocs.length

/-! ### Strong counts against a count of references

`Inv.counts` is `Counts s.allocs (refs s)`.  A step moves one strong count by one (`retain`,
`release`) or appends a fresh allocation with count 1, and moves `refs` by the same amount at the
same allocation: the three rules below, and what the list operations of `step` do to `refs`. -/

/-- Every allocation's strong count is `f` of its id, and it has been freed exactly when the count
    is 0. -/
def Counts (allocs : List Alloc) (f : Nat → Nat) : Prop :=
  ∀ (a : Nat) (al : Alloc), allocs[a]? = some al → al.strong = f a ∧ (al.freed = true ↔ al.strong = 0)

theorem Counts.congr {allocs : List Alloc} {f g : Nat → Nat} (h : Counts allocs f) (hfg : ∀ a, f a = g a) :
    Counts allocs g :=
  fun a al hal => hfg a ▸ h a al hal

theorem retain_length (allocs : List Alloc) (a : Nat) : (retain allocs a).length = allocs.length := by
  unfold retain; split <;> simp

theorem release_length (allocs : List Alloc) (a : Nat) : (release allocs a).length = allocs.length := by
  unfold release; split <;> simp

/-- One strong count is rewritten, the count of references to that allocation with it. -/
theorem Counts.set {allocs : List Alloc} {f g : Nat → Nat} {a : Nat} {al : Alloc} (h : Counts allocs f)
    (hne : ∀ a', a' ≠ a → g a' = f a') (ha : al.strong = g a ∧ (al.freed = true ↔ al.strong = 0)) :
    Counts (allocs.set a al) g := by
  intro a' al' h'
  rw [List.getElem?_set] at h'
  split at h'
  · rename_i e
    subst e
    split at h'
    · cases h'; exact ha
    · cases h'
  · rename_i e
    rw [hne a' (Ne.symm e)]
    exact h a' al' h'

theorem Counts.not_freed {allocs : List Alloc} {f : Nat → Nat} {a : Nat} {al : Alloc} (h : Counts allocs f)
    (hal : allocs[a]? = some al) (hpos : 0 < f a) : al.strong = f a ∧ al.freed = false := by
  obtain ⟨h1, h2⟩ := h a al hal
  refine ⟨h1, ?_⟩
  cases hf : al.freed
  · rfl
  · have := h2.1 hf; omega

theorem Counts.retain {allocs : List Alloc} {f : Nat → Nat} {a : Nat} {al : Alloc} (h : Counts allocs f)
    (hal : allocs[a]? = some al) (hpos : 0 < f a) :
    Counts (retain allocs a) (fun a' => f a' + if a' = a then 1 else 0) := by
  obtain ⟨h1, hf⟩ := h.not_freed hal hpos
  unfold Avro.Impl.Lifetimes.retain
  rw [hal]
  exact h.set (fun a' e => by simp [e]) ⟨by simp [h1], by simp [hf]⟩

theorem Counts.release {allocs : List Alloc} {f : Nat → Nat} {a : Nat} {al : Alloc} (h : Counts allocs f)
    (hal : allocs[a]? = some al) (hpos : 0 < f a) :
    Counts (release allocs a) (fun a' => f a' - if a' = a then 1 else 0) := by
  obtain ⟨h1, hf⟩ := h.not_freed hal hpos
  unfold Avro.Impl.Lifetimes.release
  rw [hal]
  exact h.set (fun a' e => by simp [e]) ⟨by simp [h1], by simp [hf]⟩

theorem Counts.fresh {allocs : List Alloc} {f : Nat → Nat} (h : Counts allocs f) (hf : f allocs.length = 0) :
    Counts (allocs ++ [{ strong := 1 }]) (fun a' => f a' + if a' = allocs.length then 1 else 0) := by
  intro a' al' h'
  rw [List.getElem?_append] at h'
  split at h'
  · rename_i hlt
    simpa [Nat.ne_of_lt hlt] using h a' al' h'
  · rename_i hge
    obtain rfl : a' = allocs.length := by
      cases hd : a' - allocs.length with
      | zero => omega
      | succ k => simp [hd] at h'
    simp only [Nat.sub_self, List.getElem?_cons_zero, Option.some.injEq] at h'
    subst h'
    simp [hf]

theorem count_push (hs : List (Option Nat)) (a a' : Nat) :
    (hs ++ [some a]).count (some a') = hs.count (some a') + if a' = a then 1 else 0 := by
  rw [List.count_append, List.count_singleton]
  by_cases e : a' = a
  · subst e; simp
  · have : a ≠ a' := fun h => e h.symm
    simp [e, this]

theorem count_set_none {hs : List (Option Nat)} {h a : Nat} (hh : hs[h]? = some (some a)) (a' : Nat) :
    (hs.set h none).count (some a') = hs.count (some a') - if a' = a then 1 else 0 := by
  obtain ⟨hlt, hget⟩ := List.getElem?_eq_some_iff.1 hh
  rw [List.count_set hlt, hget]
  by_cases e : a' = a
  · subst e; simp
  · have : a ≠ a' := fun h => e h.symm
    simp [e, this]

theorem countP_push (rs : List RdHandle) (rd : RdHandle) (a' : Nat) :
    (rs ++ [rd]).countP (fun r => r.arcHeld && r.schema == a') =
      rs.countP (fun r => r.arcHeld && r.schema == a') + if rd.arcHeld && rd.schema == a' then 1 else 0 := by
  rw [List.countP_append, List.countP_singleton]

theorem countP_set {rs : List RdHandle} {r : Nat} {rd rd' : RdHandle} (hr : rs[r]? = some rd) (a' : Nat) :
    (rs.set r rd').countP (fun r => r.arcHeld && r.schema == a') =
      rs.countP (fun r => r.arcHeld && r.schema == a') - (if rd.arcHeld && rd.schema == a' then 1 else 0)
        + if rd'.arcHeld && rd'.schema == a' then 1 else 0 := by
  obtain ⟨hlt, hget⟩ := List.getElem?_eq_some_iff.1 hr
  rw [List.countP_set hlt, hget]

/-! ### consequences of the invariant -/

theorem refs_pos_of_handle {s : St} {a : Nat} (h : some a ∈ s.handles) : 0 < refs s a := by
  have := List.count_pos_iff.2 h
  unfold refs; omega

theorem refs_pos_of_reader {s : St} {r : RdHandle} (h : r ∈ s.readers) (harc : r.arcHeld = true) :
    0 < refs s r.schema := by
  have : 0 < s.readers.countP (fun x => x.arcHeld && x.schema == r.schema) :=
    List.countP_pos_iff.2 ⟨r, h, by simp [harc]⟩
  unfold refs; omega

theorem refs_fresh {s : St} (inv : Inv s) : refs s s.allocs.length = 0 := by
  unfold refs
  have h1 : s.handles.count (some s.allocs.length) = 0 :=
    List.count_eq_zero.2 fun h => Nat.lt_irrefl _ (inv.handleBound _ h)
  have h2 : s.readers.countP (fun r => r.arcHeld && r.schema == s.allocs.length) = 0 := by
    rw [List.countP_eq_zero]
    intro r hr
    have := Nat.ne_of_lt (inv.readerBound r hr)
    simp [this]
  omega

theorem live_of_refs_pos {s : St} (inv : Inv s) {a : Nat} (hlt : a < s.allocs.length)
    (hpos : 0 < refs s a) :
    ∃ al, s.allocs[a]? = some al ∧ al.strong = refs s a ∧ al.freed = false :=
  ⟨s.allocs[a], by simp [hlt], Counts.not_freed inv.counts (by simp [hlt]) hpos⟩

theorem not_freed_of_refs_pos {s : St} (inv : Inv s) {a : Nat} (hlt : a < s.allocs.length)
    (hpos : 0 < refs s a) : isFreed s.allocs a = false := by
  rcases live_of_refs_pos inv hlt hpos with ⟨al, hal, _, hf⟩
  simp [isFreed, hal, hf]

/-! ### every step -/

theorem inv_init : Inv {} :=
  ⟨by intro a al h; simp at h, by intro r h; simp at h, by intro a h; simp at h,
   by intro r h; simp at h⟩

/-- one more user handle on an allocation that is already referenced (`cloneArc`,
    `readerSchema`) -/
theorem inv_addHandle {s : St} (inv : Inv s) {a : Nat} (hlt : a < s.allocs.length)
    (hpos : 0 < refs s a) :
    Inv { s with allocs := retain s.allocs a, handles := s.handles ++ [some a] } := by
  have hal : s.allocs[a]? = some s.allocs[a] := List.getElem?_eq_getElem hlt
  refine ⟨(Counts.retain inv.counts hal hpos).congr fun a' => ?_, inv.stateArc, fun a' h => ?_, fun r h => ?_⟩
  · simp only [refs, count_push]; omega
  · rw [retain_length]
    rcases List.mem_append.1 h with h | h
    · exact inv.handleBound a' h
    · cases List.mem_singleton.1 h; exact hlt
  · rw [retain_length]; exact inv.readerBound r h

/-- The invariant is kept by every step, and a step from a state satisfying it records no
    use-after-free: what is used is referenced, hence not freed. -/
theorem step_inv {s : St} (inv : Inv s) (op : Op) :
    Inv (step s op) ∧ (step s op).useAfterFree = s.useAfterFree := by
  have hgrow : s.allocs.length ≤ (s.allocs ++ [({ strong := 1 } : Alloc)]).length := by simp
  cases op with
  | newSchema =>
    simp only [step]
    refine ⟨⟨(Counts.fresh inv.counts (refs_fresh inv)).congr fun a' => ?_, inv.stateArc,
      fun a h => ?_, fun r h => Nat.lt_of_lt_of_le (inv.readerBound r h) hgrow⟩, trivial⟩
    · simp only [refs, count_push]; omega
    · rcases List.mem_append.1 h with h | h
      · exact Nat.lt_of_lt_of_le (inv.handleBound a h) hgrow
      · cases List.mem_singleton.1 h; simp
  | cloneArc h =>
    simp only [step]
    split
    · rename_i a hh
      have hmem : some a ∈ s.handles := List.mem_of_getElem? hh
      exact ⟨inv_addHandle inv (inv.handleBound a hmem) (refs_pos_of_handle hmem), rfl⟩
    · exact ⟨inv, rfl⟩
  | dropHandle h =>
    simp only [step]
    split
    · rename_i a hh
      have hmem : some a ∈ s.handles := List.mem_of_getElem? hh
      have hal := List.getElem?_eq_getElem (inv.handleBound a hmem)
      refine ⟨⟨(Counts.release inv.counts hal (refs_pos_of_handle hmem)).congr fun a' => ?_, inv.stateArc,
        fun a' h' => ?_, fun r h' => ?_⟩, rfl⟩
      · simp only [refs, count_set_none hh]
        have := List.count_pos_iff.2 hmem
        by_cases e : a' = a
        · subst e; simp only [if_true]; omega
        · simp only [e, if_false]; omega
      · rw [release_length]
        rcases List.mem_or_eq_of_mem_set h' with h' | h'
        · exact inv.handleBound a' h'
        · cases h'
      · rw [release_length]; exact inv.readerBound r h'
    · exact ⟨inv, rfl⟩
  | useHandle h =>
    simp only [step]
    split
    · rename_i a hh
      have hmem : some a ∈ s.handles := List.mem_of_getElem? hh
      exact ⟨⟨inv.counts, inv.stateArc, inv.handleBound, inv.readerBound⟩,
        by simp [not_freed_of_refs_pos inv (inv.handleBound a hmem) (refs_pos_of_handle hmem)]⟩
    · exact ⟨inv, rfl⟩
  | openReader =>
    simp only [step]
    refine ⟨⟨(Counts.fresh inv.counts (refs_fresh inv)).congr fun a' => ?_, fun r h => ?_,
      fun a h => Nat.lt_of_lt_of_le (inv.handleBound a h) hgrow, fun r h => ?_⟩, trivial⟩
    · simp only [refs, countP_push, Bool.true_and, beq_iff_eq, eq_comm (a := s.allocs.length)]; omega
    · rcases List.mem_append.1 h with h | h
      · exact inv.stateArc r h
      · cases List.mem_singleton.1 h; exact fun _ => rfl
    · rcases List.mem_append.1 h with h | h
      · exact Nat.lt_of_lt_of_le (inv.readerBound r h) hgrow
      · cases List.mem_singleton.1 h; simp
  | readerSchema r =>
    simp only [step]
    split
    · rename_i rd hr
      split
      · rename_i harc
        have hmem : rd ∈ s.readers := List.mem_of_getElem? hr
        exact ⟨inv_addHandle inv (inv.readerBound rd hmem) (refs_pos_of_reader hmem harc), rfl⟩
      · exact ⟨inv, rfl⟩
    · exact ⟨inv, rfl⟩
  | readNext r =>
    simp only [step]
    split
    · rename_i rd hr
      split
      · rename_i halive
        have hmem : rd ∈ s.readers := List.mem_of_getElem? hr
        have harc := inv.stateArc rd hmem halive
        exact ⟨⟨inv.counts, inv.stateArc, inv.handleBound, inv.readerBound⟩,
          by simp [not_freed_of_refs_pos inv (inv.readerBound rd hmem) (refs_pos_of_reader hmem harc)]⟩
      · exact ⟨inv, rfl⟩
    · exact ⟨inv, rfl⟩
  | dropReader r =>
    simp only [step]
    split
    · rename_i rd hr
      split
      · rename_i harc
        have hmem : rd ∈ s.readers := List.mem_of_getElem? hr
        have hal := List.getElem?_eq_getElem (inv.readerBound rd hmem)
        refine ⟨⟨(Counts.release inv.counts hal (refs_pos_of_reader hmem harc)).congr fun a' => ?_,
          fun r' h' halive => ?_, fun a' h' => ?_, fun r' h' => ?_⟩, rfl⟩
        · simp only [refs, countP_set hr, harc, Bool.true_and, Bool.false_and, beq_iff_eq,
            eq_comm (a := rd.schema)]
          have : a' = rd.schema → 0 < s.readers.countP (fun x => x.arcHeld && x.schema == a') :=
            fun e => List.countP_pos_iff.2 ⟨rd, hmem, by simp [harc, e]⟩
          split <;> simp <;> omega
        · rcases List.mem_or_eq_of_mem_set h' with h' | h'
          · exact inv.stateArc r' h' halive
          · subst h'; cases halive
        · rw [release_length]; exact inv.handleBound a' h'
        · rw [release_length]
          rcases List.mem_or_eq_of_mem_set h' with h' | h'
          · exact inv.readerBound r' h'
          · subst h'; exact inv.readerBound rd hmem
      · exact ⟨inv, rfl⟩
    · exact ⟨inv, rfl⟩

theorem inv_foldl {s : St} (inv : Inv s) (ops : List Op) :
    Inv (ops.foldl step s) ∧ (ops.foldl step s).useAfterFree = s.useAfterFree := by
  induction ops generalizing s with
  | nil => exact ⟨inv, rfl⟩
  | cons op rest ih =>
    have := ih (step_inv inv op).1
    exact ⟨this.1, this.2.trans (step_inv inv op).2⟩

end Avro.Lemmas.Lifetimes
