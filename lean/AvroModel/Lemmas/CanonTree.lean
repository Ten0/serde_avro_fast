import AvroModel.Lemmas.WriterSteps
import AvroModel.Lemmas.RenderPcfBase
/-
The canonical form of a node graph as a JSON tree, without fuel and without the writer's state:
the relation `CanonTree`, and the writer `pcf` characterised by it (`pcf_of_canonTree`, `canonTree_of_pcf`,
`canonicalForm_ok_iff`).  The walks that compare the canonical form with something else
(`canon_of_renders` of `Lemmas/RenderPcf.lean`, `canonTree_of_reg` of `Lemmas/PcfSpecGraph.lean`)
construct a derivation of `CanonTree` and never meet `PcfState`.
-/
namespace Avro.RenderPcf
open Avro Avro.Impl Avro.Spec Avro.Spec.Pcf

/-- what a walk over the graph is asked to write: a node, the branches of a union, the fields of
    a record -/
inductive WalkJob where
  | node (k : Nat)
  | list (ks : List Nat)
  | fields (fs : List (String × Nat))

/-- … and what it writes: one document, or one per branch / field -/
inductive WalkDoc where
  | one (j : Json)
  | many (js : List Json)

/-- `CanonTree S n W job doc W'`: with the named nodes `W` already written in full, the job is
    written as the canonical document `doc` (a named type in full at its first occurrence, by
    fullname afterwards), after which the named nodes `W'` are written.  `n` is the height of the
    derivation, counted as the writers count fuel: `pcf` succeeds with any fuel `≥ n`
    (`pcf_of_canonTree`), which is how a result obtained at one fuel is carried to another. -/
inductive CanonTree (S : SchemaMut) : Nat → List Nat → WalkJob → WalkDoc → List Nat → Prop
  | prim {W k node t} : S[k]? = some node → primText node.type = some t →
      CanonTree S 1 W (.node k) (.one (.str t)) W
  | array {n W W' k lg items c} : S[k]? = some ⟨.array items, lg⟩ →
      CanonTree S n W (.node items) (.one c) W' →
      CanonTree S (n + 1) W (.node k) (.one (.obj [("type", .str "array"), ("items", c)])) W'
  | map {n W W' k lg values c} : S[k]? = some ⟨.map values, lg⟩ →
      CanonTree S n W (.node values) (.one c) W' →
      CanonTree S (n + 1) W (.node k) (.one (.obj [("type", .str "map"), ("values", c)])) W'
  | union {n W W' k lg vs cs} : S[k]? = some ⟨.union vs, lg⟩ →
      CanonTree S n W (.list vs) (.many cs) W' →
      CanonTree S (n + 1) W (.node k) (.one (.arr cs)) W'
  | again {W k node nm} : S[k]? = some node → nameOf node.type = some nm → k ∈ W →
      CanonTree S 1 W (.node k) (.one (.str nm.fq)) W
  | enum {W k lg nm syms} : S[k]? = some ⟨.enum nm syms, lg⟩ → k ∉ W →
      CanonTree S 1 W (.node k) (.one (.obj [("name", .str nm.fq), ("type", .str "enum"),
        ("symbols", .arr (syms.map .str))])) (k :: W)
  | fixed {W k lg nm size} : S[k]? = some ⟨.fixed nm size, lg⟩ → k ∉ W →
      CanonTree S 1 W (.node k) (.one (.obj [("name", .str nm.fq), ("type", .str "fixed"),
        ("size", .nat size)])) (k :: W)
  | record {n W W' k lg nm fields cs} : S[k]? = some ⟨.record nm fields, lg⟩ → k ∉ W →
      CanonTree S n (k :: W) (.fields fields) (.many cs) W' →
      CanonTree S (n + 1) W (.node k) (.one (.obj [("name", .str nm.fq), ("type", .str "record"),
        ("fields", .arr cs)])) W'
  | lnil {W} : CanonTree S 0 W (.list []) (.many []) W
  | lcons {n1 n2 W W1 W' k rest c cs} : CanonTree S n1 W (.node k) (.one c) W1 →
      CanonTree S n2 W1 (.list rest) (.many cs) W' →
      CanonTree S (max n1 n2 + 1) W (.list (k :: rest)) (.many (c :: cs)) W'
  | fnil {W} : CanonTree S 0 W (.fields []) (.many []) W
  | fcons {n1 n2 W W1 W' name k rest c cs} : CanonTree S n1 W (.node k) (.one c) W1 →
      CanonTree S n2 W1 (.fields rest) (.many cs) W' →
      CanonTree S (max n1 n2 + 1) W (.fields ((name, k) :: rest))
        (.many (.obj [("name", .str name), ("type", c)] :: cs)) W'

theorem CanonTree.extends {S : SchemaMut} {n : Nat} {W W' : List Nat} {job : WalkJob} {doc : WalkDoc}
    (h : CanonTree S n W job doc W') : ∃ X, W' = X ++ W := by
  induction h with
  | prim | again | lnil | fnil => exact ⟨[], rfl⟩
  | array _ _ ih | map _ _ ih | union _ _ ih => exact ih
  | enum | fixed => exact ⟨[_], rfl⟩
  | @record _ _ _ k _ _ _ _ _ _ _ ih => obtain ⟨X, rfl⟩ := ih; exact ⟨X ++ [k], by simp⟩
  | lcons _ _ ih1 ih2 | fcons _ _ ih1 ih2 =>
    obtain ⟨X, rfl⟩ := ih1; obtain ⟨Y, rfl⟩ := ih2; exact ⟨Y ++ X, by simp⟩

theorem CanonTree.same_of_length {S : SchemaMut} {n : Nat} {W W' : List Nat} {job : WalkJob}
    {doc : WalkDoc} (h : CanonTree S n W job doc W') (hl : W'.length ≤ W.length) : W' = W := by
  obtain ⟨X, rfl⟩ := h.extends
  cases X with
  | nil => rfl
  | cons x X => simp at hl; omega

theorem CanonTree.of_singleton {S : SchemaMut} {n k : Nat} {W W' : List Nat} {cs : List Json}
    (h : CanonTree S n W (.list [k]) (.many cs) W') :
    ∃ m c, n = m + 1 ∧ cs = [c] ∧ CanonTree S m W (.node k) (.one c) W' := by
  cases h with
  | lcons h1 h2 => cases h2; exact ⟨_, _, by simp, rfl, h1⟩

theorem CanonTree.fields_of_list {S : SchemaMut} {n : Nat} {W W' : List Nat} {ks : List Nat}
    {cs : List Json} (h : CanonTree S n W (.list ks) (.many cs) W') :
    ∀ names : List String, names.length = ks.length →
      CanonTree S n W (.fields (names.zip ks)) (.many (fieldDocs names cs)) W' := by
  generalize hj : WalkJob.list ks = job at h
  generalize hd : WalkDoc.many cs = doc at h
  induction h generalizing ks cs with
  | lnil => cases hj; cases hd; intro names _; cases names <;> exact .fnil
  | lcons h1 _ _ ih2 =>
    cases hj; cases hd
    intro names hl
    cases names with
    | nil => cases hl
    | cons name names => exact .fcons h1 (ih2 rfl rfl names (by simpa using hl))
  | _ => cases hj

/-- the rule that derived a node is fixed by the kind of the node and by `k ∈ W` -/
theorem CanonTree.node_inv {S : SchemaMut} {m k : Nat} {W W2 : List Nat} {d : WalkDoc}
    {node : RawNode}
    (h : CanonTree S m W (.node k) d W2) (hk : S[k]? = some node) :
    match node.type with
    | .array items => ∃ n c, m = n + 1 ∧ CanonTree S n W (.node items) (.one c) W2
    | .map values => ∃ n c, m = n + 1 ∧ CanonTree S n W (.node values) (.one c) W2
    | .union vs => ∃ n cs, m = n + 1 ∧ CanonTree S n W (.list vs) (.many cs) W2
    | .record _ fields => (k ∈ W ∧ m = 1 ∧ W2 = W) ∨
        (k ∉ W ∧ ∃ n cs, m = n + 1 ∧ CanonTree S n (k :: W) (.fields fields) (.many cs) W2)
    | .enum _ _ => (k ∈ W ∧ m = 1 ∧ W2 = W) ∨ (k ∉ W ∧ m = 1 ∧ W2 = k :: W)
    | .fixed _ _ => (k ∈ W ∧ m = 1 ∧ W2 = W) ∨ (k ∉ W ∧ m = 1 ∧ W2 = k :: W)
    | _ => m = 1 ∧ W2 = W := by
  cases h with
  | prim hk' hp =>
    rw [hk] at hk'; cases hk'
    obtain ⟨ty, lg⟩ := node
    cases ty <;> simp only [primText, reduceCtorEq] at hp <;> exact ⟨rfl, rfl⟩
  | again hk' hn hm =>
    rw [hk] at hk'; cases hk'
    obtain ⟨ty, lg⟩ := node
    cases ty <;> simp only [nameOf, reduceCtorEq] at hn <;> exact .inl ⟨hm, rfl, rfl⟩
  | array hk' hd => rw [hk] at hk'; cases hk'; exact ⟨_, _, rfl, hd⟩
  | map hk' hd => rw [hk] at hk'; cases hk'; exact ⟨_, _, rfl, hd⟩
  | union hk' hd => rw [hk] at hk'; cases hk'; exact ⟨_, _, rfl, hd⟩
  | enum hk' hm => rw [hk] at hk'; cases hk'; exact .inr ⟨hm, rfl, rfl⟩
  | fixed hk' hm => rw [hk] at hk'; cases hk'; exact .inr ⟨hm, rfl, rfl⟩
  | record hk' hm hd => rw [hk] at hk'; cases hk'; exact .inr ⟨hm, _, _, rfl, hd⟩

/-- `W` and the job fix the height of the derivation and the names written (the `W'` part is there
    for the induction through lists); the documents are not compared.  What `Calm` rests on. -/
theorem CanonTree.height_unique {S : SchemaMut} {n : Nat} {W W' : List Nat} {job : WalkJob}
    {doc : WalkDoc} (h1 : CanonTree S n W job doc W') :
    ∀ {m : Nat} {d2 : WalkDoc} {W2 : List Nat}, CanonTree S m W job d2 W2 → m = n ∧ W2 = W' := by
  induction h1 with
  | @prim _ _ node _ hk hp =>
    intro m d2 W2 h2
    have := h2.node_inv hk
    obtain ⟨ty, lg⟩ := node
    cases ty <;> simp only [primText, reduceCtorEq] at hp <;> exact this
  | @again _ _ node _ hk hn hm =>
    intro m d2 W2 h2
    have := h2.node_inv hk
    obtain ⟨ty, lg⟩ := node
    cases ty <;> simp only [nameOf, reduceCtorEq] at hn <;>
      exact this.elim (fun h => ⟨h.2.1, h.2.2⟩) (fun h => absurd hm h.1)
  | array hk _ ih | map hk _ ih | union hk _ ih =>
    intro m d2 W2 h2
    obtain ⟨n', c', rfl, hd'⟩ := h2.node_inv hk
    obtain ⟨rfl, rfl⟩ := ih hd'
    exact ⟨rfl, rfl⟩
  | enum hk hm | fixed hk hm =>
    intro m d2 W2 h2
    exact (h2.node_inv hk).elim (fun h => absurd h.1 hm) (fun h => h.2)
  | record hk hm _ ih =>
    intro m d2 W2 h2
    rcases h2.node_inv hk with h | ⟨-, n', cs', rfl, hd'⟩
    · exact absurd h.1 hm
    · obtain ⟨rfl, rfl⟩ := ih hd'
      exact ⟨rfl, rfl⟩
  | lnil | fnil => intro m d2 W2 h2; cases h2; exact ⟨rfl, rfl⟩
  | lcons _ _ ih1 ih2 =>
    intro m d2 W2 h2
    cases h2 with
    | lcons hd1' hd2' =>
      obtain ⟨rfl, rfl⟩ := ih1 hd1'
      obtain ⟨rfl, rfl⟩ := ih2 hd2'
      exact ⟨rfl, rfl⟩
  | fcons _ _ ih1 ih2 =>
    intro m d2 W2 h2
    cases h2 with
    | fcons hd1' hd2' =>
      obtain ⟨rfl, rfl⟩ := ih1 hd1'
      obtain ⟨rfl, rfl⟩ := ih2 hd2'
      exact ⟨rfl, rfl⟩

/-! ### the writer follows a derivation -/

/-- The guard of `pcf` refuses an array, map or union whose cell holds the current generation:
    the node is being written and no named type was written since it was entered.  Below such a
    node the writer is inside the node's own derivation, of some height `m`, with the same `W`;
    were it to meet the node again, that derivation would contain a derivation of its own
    conclusion, of height `< m`, against `CanonTree.height_unique`.  `Calm S n ps` is the invariant
    that says so: every node whose cell holds the current generation has derivations (from
    `ps.written`) of height `> n` only, where `n` bounds the heights still to come.  `le`: no cell
    is ahead of the current generation, so that once a named type is written nothing is live
    (`Calm.define`) and a sub-call that wrote nothing leaves `live` as it was (`Calm.after`). -/
structure Calm (S : SchemaMut) (n : Nat) (ps : PcfState) : Prop where
  le : ∀ i, cell ps i ≤ ps.written.length + 1
  live : ∀ u, cell ps u = ps.written.length + 1 →
    ∀ m d W', CanonTree S m ps.written (.node u) d W' → n < m

theorem Calm.init (S : SchemaMut) (n : Nat) : Calm S n {} :=
  ⟨fun i => by simp [cell], fun u h => by simp [cell] at h⟩

theorem Calm.congr {S : SchemaMut} {n m : Nat} {ps ps' : PcfState} (h : Calm S n ps)
    (hm : m ≤ n) (hw : ps'.written = ps.written) (hc : ∀ i, cell ps' i = cell ps i) :
    Calm S m ps' := by
  constructor
  · intro i; rw [hc, hw]; exact h.le i
  · intro u hu m' d W' hd
    rw [hc, hw] at hu; rw [hw] at hd
    exact Nat.lt_of_le_of_lt hm (h.live u hu m' d W' hd)

/-- what a successful call of the writer did -/
structure Wrote (ps ps' : PcfState) (W' : List Nat) (text : String) : Prop where
  out : ps'.out = ps.out ++ text
  written : ps'.written = W'
  cells : ∀ i, cell ps' i = cell ps i

/-- Entering an array, map or union that has a derivation of height `n + 1`: the guard does not
    fire (`live` would give `n + 1 < n + 1`), and below the node its own derivations — all of
    height `n + 1`, `height_unique` — are out of reach of `n`. -/
theorem Calm.enter {S : SchemaMut} {n : Nat} {ps : PcfState} {k : Nat} {d : WalkDoc} {W' : List Nat}
    (h : Calm S (n + 1) ps) (hd : CanonTree S (n + 1) ps.written (.node k) d W') (o : String) :
    cell ps k ≠ ps.written.length + 1 ∧ Calm S n (unnamedEnter ps k o) := by
  refine ⟨fun e => Nat.lt_irrefl _ (h.live k e _ _ _ hd), ?_, ?_⟩
  · intro i
    rw [cell_unnamedEnter]
    split
    · exact Nat.le_refl _
    · exact h.le i
  · intro u hu m d2 W2 hd2
    rw [cell_unnamedEnter] at hu
    split at hu
    · subst u
      rw [(CanonTree.height_unique hd hd2).1]; exact Nat.lt_succ_self _
    · exact Nat.lt_of_succ_lt (h.live u hu m d2 W2 hd2)

/-- a body that restores the cells it touches, run between `unnamedEnter` and `unnamedExit`,
    leaves every cell as it was -/
theorem cell_exit {ps ps2 : PcfState} {k : Nat} {o : String}
    (h : ∀ i, cell ps2 i = cell (unnamedEnter ps k o) i) (o' : String) :
    ∀ i, cell (unnamedExit ps ps2 k o') i = cell ps i := by
  intro i
  rw [cell_unnamedExit]
  split
  · subst i; rfl
  · rename_i hne
    rw [h, cell_unnamedEnter, if_neg hne]

/-- a named type is written in full: nothing is live afterwards -/
theorem Calm.define {S : SchemaMut} {n m : Nat} {ps : PcfState} (h : Calm S n ps) (k : Nat)
    (o : String) : Calm S m { ps with written := k :: ps.written, out := o } := by
  constructor
  · intro i; exact Nat.le_succ_of_le (h.le i)
  · intro u hu
    have := h.le u
    have e : cell { ps with written := k :: ps.written, out := o } u = cell ps u := rfl
    simp only [e, List.length_cons] at hu
    omega

/-- after a sub-call: what was live is still live only if nothing was written -/
theorem Calm.after {S : SchemaMut} {n n1 n2 : Nat} {ps ps0 ps1 : PcfState} {W1 : List Nat}
    {job : WalkJob} {doc : WalkDoc} {text : String}
    (h : Calm S n ps) (hn : n2 ≤ n)
    (hc0 : ∀ i, cell ps0 i = cell ps i)
    (hd : CanonTree S n1 ps.written job doc W1) (hw : Wrote ps0 ps1 W1 text) (o : String) :
    Calm S n2 { ps1 with out := o } := by
  obtain ⟨X, hX⟩ := hd.extends
  have hlen : ps.written.length ≤ W1.length := by rw [hX]; simp
  have hc : ∀ i, cell { ps1 with out := o } i = cell ps i := fun i =>
    (hw.cells i).trans (hc0 i)
  constructor
  · intro i
    rw [hc]
    show _ ≤ ps1.written.length + 1
    rw [hw.written]
    exact Nat.le_trans (h.le i) (by omega)
  · intro u hu m d W2 hd2
    rw [hc] at hu
    change _ = ps1.written.length + 1 at hu
    change CanonTree S m ps1.written _ _ _ at hd2
    rw [hw.written] at hu hd2
    have hle := h.le u
    have hsame : W1 = ps.written := hd.same_of_length (by omega)
    rw [hsame] at hu hd2
    exact Nat.lt_of_le_of_lt hn (h.live u hu m d W2 hd2)

theorem contains_of_not_mem {W : List Nat} {k : Nat} (h : k ∉ W) : W.contains k = false := by
  simpa using h

/-- **Where there is a derivation the writer succeeds**, with any fuel from the height on, and
    appends the text of the canonical document. -/
theorem pcf_of_canonTree {S : SchemaMut} {n : Nat} {W W' : List Nat} {job : WalkJob} {doc : WalkDoc}
    (h : CanonTree S n W job doc W') :
    ∀ (ps : PcfState) (pf : Nat) (first : Bool), ps.written = W → Calm S n ps → n ≤ pf →
    match job, doc with
    | .node k, .one c => ∃ ps', pcf S pf k ps = .ok ps' ∧ Wrote ps ps' W' (print c)
    | .list ks, .many cs => ∃ ps', pcfList S pf ks first ps = .ok ps' ∧
        Wrote ps ps' W' (if first then printList cs else printTail cs)
    | .fields fs, .many cs => ∃ ps', pcfFields S pf fs first ps = .ok ps' ∧
        Wrote ps ps' W' (if first then printList cs else printTail cs)
    | _, _ => True := by
  induction h with
  | prim hk hp =>
    intro ps pf first hW hcalm hpf
    obtain ⟨pf, rfl⟩ : ∃ pf', pf = pf' + 1 := ⟨pf - 1, by omega⟩
    exact ⟨_, pcf_prim hk hp, by simp only [print_str, String.append_assoc], hW, fun _ => rfl⟩
  | again hk hn hm =>
    intro ps pf first hW hcalm hpf
    obtain ⟨pf, rfl⟩ : ∃ pf', pf = pf' + 1 := ⟨pf - 1, by omega⟩
    subst hW
    exact ⟨_, pcf_named_again hk hn (List.contains_iff_mem.mpr hm),
      by simp only [print_str, String.append_assoc], rfl, fun _ => rfl⟩
  | enum hk hm =>
    intro ps pf first hW hcalm hpf
    obtain ⟨pf, rfl⟩ : ∃ pf', pf = pf' + 1 := ⟨pf - 1, by omega⟩
    subst hW
    exact ⟨_, pcf_enum_first hk (contains_of_not_mem hm), by simp only [print_enum], rfl,
      fun _ => rfl⟩
  | fixed hk hm =>
    intro ps pf first hW hcalm hpf
    obtain ⟨pf, rfl⟩ : ∃ pf', pf = pf' + 1 := ⟨pf - 1, by omega⟩
    subst hW
    exact ⟨_, pcf_fixed_first hk (contains_of_not_mem hm), by simp only [print_fixed], rfl,
      fun _ => rfl⟩
  | @array _ _ _ k _ _ _ hk hd ih =>
    intro ps pf first hW hcalm hpf
    obtain ⟨pf, rfl⟩ : ∃ pf', pf = pf' + 1 := ⟨pf - 1, by omega⟩
    subst hW
    obtain ⟨hg, hcalm1⟩ := hcalm.enter (.array hk hd) (ps.out ++ "{\"type\":\"array\",\"items\":")
    obtain ⟨ps2, hp2, hw⟩ := ih (unnamedEnter ps k _) pf first rfl hcalm1 (by omega)
    refine ⟨_, pcf_array hk hg hp2, ?_, hw.written, cell_exit hw.cells _⟩
    show ps2.out ++ "}" = _
    rw [hw.out, print_array]
    simp only [unnamedEnter, String.append_assoc]
  | @map _ _ _ k _ _ _ hk hd ih =>
    intro ps pf first hW hcalm hpf
    obtain ⟨pf, rfl⟩ : ∃ pf', pf = pf' + 1 := ⟨pf - 1, by omega⟩
    subst hW
    obtain ⟨hg, hcalm1⟩ := hcalm.enter (.map hk hd) (ps.out ++ "{\"type\":\"map\",\"values\":")
    obtain ⟨ps2, hp2, hw⟩ := ih (unnamedEnter ps k _) pf first rfl hcalm1 (by omega)
    refine ⟨_, pcf_map hk hg hp2, ?_, hw.written, cell_exit hw.cells _⟩
    show ps2.out ++ "}" = _
    rw [hw.out, print_map]
    simp only [unnamedEnter, String.append_assoc]
  | @union _ _ _ k _ _ _ hk hd ih =>
    intro ps pf first hW hcalm hpf
    obtain ⟨pf, rfl⟩ : ∃ pf', pf = pf' + 1 := ⟨pf - 1, by omega⟩
    subst hW
    obtain ⟨hg, hcalm1⟩ := hcalm.enter (.union hk hd) (ps.out ++ "[")
    obtain ⟨ps2, hp2, hw⟩ := ih (unnamedEnter ps k _) pf true rfl hcalm1 (by omega)
    refine ⟨_, pcf_union hk hg hp2, ?_, hw.written, cell_exit hw.cells _⟩
    show ps2.out ++ "]" = _
    rw [hw.out, print_union]
    simp only [unnamedEnter, if_true, String.append_assoc]
  | @record n W W' k lg nm fields cs hk hm hd ih =>
    intro ps pf first hW hcalm hpf
    obtain ⟨pf, rfl⟩ : ∃ pf', pf = pf' + 1 := ⟨pf - 1, by omega⟩
    subst hW
    obtain ⟨ps2, hp2, hw⟩ := ih { ps with written := k :: ps.written, out := _ } pf true rfl
      (hcalm.define k (ps.out ++ ("{\"name\":\"" ++ nm.fq ++ "\",\"type\":\"record\",\"fields\":[")))
      (by omega)
    refine ⟨_, pcf_record_first hk (contains_of_not_mem hm) hp2, ?_, hw.written, hw.cells⟩
    show ps2.out ++ "]}" = _
    rw [hw.out, print_record]
    simp only [if_true, String.append_assoc]
  | lnil =>
    intro ps pf first hW hcalm hpf
    refine ⟨ps, by simp only [pcfList], ?_, hW, fun _ => rfl⟩
    cases first <;> simp [printList, printTail]
  | fnil =>
    intro ps pf first hW hcalm hpf
    refine ⟨ps, by simp only [pcfFields], ?_, hW, fun _ => rfl⟩
    cases first <;> simp [printList, printTail]
  | @lcons n1 n2 W W1 W' k rest c cs hd1 hd2 ih1 ih2 =>
    intro ps pf first hW hcalm hpf
    obtain ⟨pf, rfl⟩ : ∃ pf', pf = pf' + 1 := ⟨pf - 1, by omega⟩
    subst hW
    have hc0 : ∀ i, cell (if first then ps else { ps with out := ps.out ++ "," }) i = cell ps i := by
      intro i; cases first <;> rfl
    have hw0 : (if first then ps else { ps with out := ps.out ++ "," }).written = ps.written := by
      cases first <;> rfl
    obtain ⟨ps1, hp1, hw1⟩ := ih1 _ pf first hw0 (hcalm.congr (by omega) hw0 hc0) (by omega)
    have hcalm1 := hcalm.after (n2 := n2) (by omega) hc0 hd1 hw1 ps1.out
    obtain ⟨ps2, hp2, hw2⟩ := ih2 ps1 pf false hw1.written hcalm1 (by omega)
    refine ⟨ps2, by simp only [pcfList, hp1, hp2], ?_, hw2.written, fun i =>
      ((hw2.cells i).trans (hw1.cells i)).trans (hc0 i)⟩
    rw [hw2.out, hw1.out]
    cases first <;> simp [printList, printTail, String.append_assoc]
  | @fcons n1 n2 W W1 W' name k rest c cs hd1 hd2 ih1 ih2 =>
    intro ps pf first hW hcalm hpf
    obtain ⟨pf, rfl⟩ : ∃ pf', pf = pf' + 1 := ⟨pf - 1, by omega⟩
    subst hW
    have hc0 : ∀ i, cell { (if first then ps else { ps with out := ps.out ++ "," }) with
        out := (if first then ps else { ps with out := ps.out ++ "," }).out ++
          "{\"name\":\"" ++ name ++ "\",\"type\":" } i = cell ps i := by
      intro i; cases first <;> rfl
    have hw0 : ({ (if first then ps else { ps with out := ps.out ++ "," }) with
        out := (if first then ps else { ps with out := ps.out ++ "," }).out ++
          "{\"name\":\"" ++ name ++ "\",\"type\":" } : PcfState).written = ps.written := by
      cases first <;> rfl
    obtain ⟨ps1, hp1, hw1⟩ := ih1 _ pf first hw0 (hcalm.congr (by omega) hw0 hc0) (by omega)
    have hcalm1 := hcalm.after (n2 := n2) (by omega) hc0 hd1 hw1 (ps1.out ++ "}")
    obtain ⟨ps2, hp2, hw2⟩ :=
      ih2 { ps1 with out := ps1.out ++ "}" } pf false hw1.written hcalm1 (by omega)
    refine ⟨ps2, by simp only [pcfFields, hp1, hp2], ?_, hw2.written, fun i =>
      ((hw2.cells i).trans (hw1.cells i)).trans (hc0 i)⟩
    rw [hw2.out]
    simp only [hw1.out]
    cases first <;>
      simp only [printList, printTail, print_field, String.append_assoc, if_true,
        if_false, Bool.false_eq_true]

theorem canonicalForm_of_canonTree {S : SchemaMut} {n : Nat} {c : Json} {W' : List Nat}
    (h : CanonTree S n [] (.node 0) (.one c) W') (fuel : Nat) (hf : n ≤ fuel) :
    canonicalForm S fuel = .ok (print c) := by
  obtain ⟨ps', hp, hw⟩ := pcf_of_canonTree h {} fuel true rfl (Calm.init S n) hf
  simp only [canonicalForm, hp, hw.out]
  simp

/-! ### every successful call of the writer is a derivation

Only the shape of a successful run is read off (which rule at each node, what goes into
`written`, that the cells are restored), not its output: the text comes from running
`pcf_of_canonTree` on the derivation found, which needs `Calm` and so is available from the
initial state only (`canonicalForm_ok_iff`).  This direction holds from EVERY state: it is also
what the potential argument of `Lemmas/SchemaRender.lean` knows of a successful sub-call. -/

def CanonTreePcfN (S : SchemaMut) (f : Nat) : Prop :=
  ∀ k ps ps', pcf S f k ps = .ok ps' →
    ∃ n c, n ≤ f ∧ CanonTree S n ps.written (.node k) (.one c) ps'.written ∧
      ∀ i, cell ps' i = cell ps i

def CanonTreePcfL (S : SchemaMut) (f : Nat) : Prop :=
  ∀ ks first ps ps', pcfList S f ks first ps = .ok ps' →
    ∃ n cs, n ≤ f ∧ CanonTree S n ps.written (.list ks) (.many cs) ps'.written ∧
      ∀ i, cell ps' i = cell ps i

def CanonTreePcfF (S : SchemaMut) (f : Nat) : Prop :=
  ∀ fs first ps ps', pcfFields S f fs first ps = .ok ps' →
    ∃ n cs, n ≤ f ∧ CanonTree S n ps.written (.fields fs) (.many cs) ps'.written ∧
      ∀ i, cell ps' i = cell ps i

theorem canonTree_of_pcf_node {S : SchemaMut} {f : Nat} (ihN : CanonTreePcfN S f) (ihL : CanonTreePcfL S f)
    (ihF : CanonTreePcfF S f) : CanonTreePcfN S (f + 1) := by
  intro k ps ps' h
  rw [pcf_succ] at h
  unfold pcfStep at h
  cases hk : S[k]? with
  | none => simp only [hk] at h; cases h
  | some node =>
    obtain ⟨ty, lg⟩ := node
    simp only [hk] at h
    cases ty <;> simp only at h
    case array items =>
      obtain ⟨-, a, ha, rfl⟩ := pcfUnnamed_ok.mp h
      obtain ⟨b, hb, rfl⟩ := mapOk_ok ha
      obtain ⟨n, c, hn, hc, hcell⟩ := ihN _ _ _ hb
      exact ⟨n + 1, _, by omega, .array hk hc, cell_exit (ps := ps) hcell _⟩
    case map values =>
      obtain ⟨-, a, ha, rfl⟩ := pcfUnnamed_ok.mp h
      obtain ⟨b, hb, rfl⟩ := mapOk_ok ha
      obtain ⟨n, c, hn, hc, hcell⟩ := ihN _ _ _ hb
      exact ⟨n + 1, _, by omega, .map hk hc, cell_exit (ps := ps) hcell _⟩
    case union vs =>
      obtain ⟨-, a, ha, rfl⟩ := pcfUnnamed_ok.mp h
      obtain ⟨b, hb, rfl⟩ := mapOk_ok ha
      obtain ⟨n, cs, hn, hc, hcell⟩ := ihL _ _ _ _ hb
      exact ⟨n + 1, _, by omega, .union hk hc, cell_exit (ps := ps) hcell _⟩
    case enum nm syms =>
      unfold pcfNamed at h
      split at h
      · rename_i hw; cases h
        exact ⟨1, _, by omega, .again hk rfl (by simpa using hw), fun _ => rfl⟩
      · rename_i hw; cases h
        exact ⟨1, _, by omega, .enum hk (by simpa using hw), fun _ => rfl⟩
    case fixed nm size =>
      unfold pcfNamed at h
      split at h
      · rename_i hw; cases h
        exact ⟨1, _, by omega, .again hk rfl (by simpa using hw), fun _ => rfl⟩
      · rename_i hw; cases h
        exact ⟨1, _, by omega, .fixed hk (by simpa using hw), fun _ => rfl⟩
    case record nm fields =>
      unfold pcfNamed at h
      split at h
      · rename_i hw; cases h
        exact ⟨1, _, by omega, .again hk rfl (by simpa using hw), fun _ => rfl⟩
      · rename_i hw
        obtain ⟨b, hb, rfl⟩ := mapOk_ok h
        obtain ⟨n, cs, hn, hc, hcell⟩ := ihF _ _ _ _ hb
        exact ⟨n + 1, _, by omega, .record hk (by simpa using hw) hc, hcell⟩
    all_goals
      cases h
      exact ⟨1, _, by omega, .prim hk rfl, fun _ => rfl⟩

theorem canonTree_of_pcf (S : SchemaMut) :
    ∀ f, CanonTreePcfN S f ∧ CanonTreePcfL S f ∧ CanonTreePcfF S f := by
  intro f
  induction f with
  | zero =>
    refine ⟨fun k ps ps' h => by simp [pcf] at h, ?_, ?_⟩
    · intro ks first ps ps' h
      cases ks with
      | nil => rw [pcfList_nil] at h; cases h; exact ⟨0, [], Nat.le_refl _, .lnil, fun _ => rfl⟩
      | cons k rest => simp [pcfList] at h
    · intro fs first ps ps' h
      cases fs with
      | nil => rw [pcfFields_nil] at h; cases h; exact ⟨0, [], Nat.le_refl _, .fnil, fun _ => rfl⟩
      | cons x rest => simp [pcfFields] at h
  | succ f ih =>
    obtain ⟨ihN, ihL, ihF⟩ := ih
    refine ⟨canonTree_of_pcf_node ihN ihL ihF, ?_, ?_⟩
    · intro ks first ps ps' h
      cases ks with
      | nil => rw [pcfList_nil] at h; cases h; exact ⟨0, [], Nat.zero_le _, .lnil, fun _ => rfl⟩
      | cons k rest =>
        rw [pcfList_cons] at h
        obtain ⟨a, h1, h2⟩ := andThen_ok h
        obtain ⟨n1, c, hn1, hc1, hcell1⟩ := ihN _ _ _ h1
        obtain ⟨n2, cs, hn2, hc2, hcell2⟩ := ihL _ _ _ _ h2
        have e : (if first then ps else { ps with out := ps.out ++ "," }).written = ps.written := by
          cases first <;> rfl
        rw [e] at hc1
        exact ⟨_, _, by omega, .lcons hc1 hc2, fun i =>
          ((hcell2 i).trans (hcell1 i)).trans (by cases first <;> rfl)⟩
    · intro fs first ps ps' h
      cases fs with
      | nil => rw [pcfFields_nil] at h; cases h; exact ⟨0, [], Nat.zero_le _, .fnil, fun _ => rfl⟩
      | cons x rest =>
        obtain ⟨name, k⟩ := x
        rw [pcfFields_cons] at h
        obtain ⟨a, h1, h2⟩ := andThen_ok h
        obtain ⟨n1, c, hn1, hc1, hcell1⟩ := ihN _ _ _ h1
        obtain ⟨n2, cs, hn2, hc2, hcell2⟩ := ihF _ _ _ _ h2
        have e : ({ (if first then ps else { ps with out := ps.out ++ "," }) with
            out := (if first then ps else { ps with out := ps.out ++ "," }).out ++
              "{\"name\":\"" ++ name ++ "\",\"type\":" } : PcfState).written = ps.written := by
          cases first <;> rfl
        rw [e] at hc1
        exact ⟨_, _, by omega, .fcons hc1 hc2, fun i =>
          ((hcell2 i).trans (hcell1 i)).trans (by cases first <;> rfl)⟩

/-- **The canonical form is the text of the canonical tree of the root**, for every graph and
    every fuel. -/
theorem canonicalForm_ok_iff (S : SchemaMut) (fuel : Nat) (t : String) :
    canonicalForm S fuel = .ok t ↔
      ∃ n c W', n ≤ fuel ∧ CanonTree S n [] (.node 0) (.one c) W' ∧ t = print c := by
  constructor
  · intro h
    have h' := h
    unfold canonicalForm at h'
    cases hp : pcf S fuel 0 {} with
    | error e => rw [hp] at h'; cases h'
    | ok ps' =>
      obtain ⟨n, c, hn, hc, -⟩ := (canonTree_of_pcf S fuel).1 _ _ _ hp
      have := canonicalForm_of_canonTree hc fuel hn
      rw [h] at this
      cases this
      exact ⟨n, c, _, hn, hc, rfl⟩
  · rintro ⟨n, c, W', hn, hc, rfl⟩
    exact canonicalForm_of_canonTree hc fuel hn

theorem CanonTree.not_unnamedClosed {S : SchemaMut} {C : Nat → Prop} (hC : UnnamedClosed S C)
    {n : Nat} {W W' : List Nat} {job : WalkJob} {doc : WalkDoc} (h : CanonTree S n W job doc W') :
    match job with
    | .node k => ¬ C k
    | .list ks => ∀ v ∈ ks, ¬ C v
    | .fields _ => True := by
  induction h with
  | @prim _ _ node _ hk hp =>
    intro hc
    obtain ⟨node', hk', hn⟩ := hC _ hc
    rw [hk] at hk'; cases hk'
    revert hp hn
    cases node.type <;> simp [primText]
  | @again _ _ node _ hk hnm _ =>
    intro hc
    obtain ⟨node', hk', hn⟩ := hC _ hc
    rw [hk] at hk'; cases hk'
    revert hnm hn
    cases node.type <;> simp [nameOf]
  | array hk _ ih | map hk _ ih =>
    intro hc
    obtain ⟨node', hk', hn⟩ := hC _ hc
    rw [hk] at hk'; cases hk'
    exact ih hn
  | union hk _ ih =>
    intro hc
    obtain ⟨node', hk', hn⟩ := hC _ hc
    rw [hk] at hk'; cases hk'
    obtain ⟨v, hv, hcv⟩ := hn
    exact ih v hv hcv
  | enum hk _ | fixed hk _ | record hk _ _ _ =>
    intro hc
    obtain ⟨node', hk', hn⟩ := hC _ hc
    rw [hk] at hk'; cases hk'
    exact hn
  | lnil => intro v hv; cases hv
  | lcons _ _ ih1 ih2 =>
    intro v hv
    rcases List.mem_cons.mp hv with rfl | hm
    · exact ih1
    · exact ih2 v hm
  | fnil => trivial
  | fcons _ _ _ _ => trivial

theorem canonicalForm_unnamed_cycle_never_ok (S : SchemaMut) (C : Nat → Prop)
    (hC : UnnamedClosed S C) (h0 : C 0) (fuel : Nat) (text : String) :
    canonicalForm S fuel ≠ .ok text := by
  intro h
  obtain ⟨n, c, W', -, hc, -⟩ := (canonicalForm_ok_iff S fuel text).mp h
  exact hc.not_unnamedClosed hC h0

end Avro.RenderPcf
