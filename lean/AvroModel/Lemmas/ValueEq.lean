import AvroModel.Lemmas.OutEq
import AvroModel.Spec.Value
/-
Decidable comparison of specification values (`Spec.Value` is a nested inductive type without a
`DecidableEq` instance): a Boolean equality with its soundness, so that the outcome of a specification
decoder, or an observation, on closed input is established by one kernel evaluation of a Boolean
(`decEq_of (by decide +kernel)`, `optOutEq_of (by decide +kernel)`).  The namespace is that of the
audit `Theorems/NonVacuityB.lean`.
-/
namespace Avro.Theorems.NVB
open Avro Avro.Impl

mutual
def veq : Spec.Value → Spec.Value → Bool
  | .null, .null => true
  | .bool a, .bool b => a == b
  | .int a, .int b => a == b
  | .long a, .long b => a == b
  | .float a, .float b => a == b
  | .double a, .double b => a == b
  | .bytes a, .bytes b => a == b
  | .string a, .string b => a == b
  | .array a, .array b => veqL a b
  | .map a, .map b => veqM a b
  | .union i a, .union j b => i == j && veq a b
  | .record a, .record b => veqL a b
  | .enum a, .enum b => a == b
  | .fixed a, .fixed b => a == b
  | .decimal a, .decimal b => a == b
  | .bigDecimal a s, .bigDecimal b t => a == b && s == t
  | .duration a b c, .duration d e f => a == d && b == e && c == f
  | _, _ => false
def veqL : List Spec.Value → List Spec.Value → Bool
  | [], [] => true
  | a :: l, b :: m => veq a b && veqL l m
  | _, _ => false
def veqM : List (String × Spec.Value) → List (String × Spec.Value) → Bool
  | [], [] => true
  | (k, a) :: l, (k', b) :: m => k == k' && veq a b && veqM l m
  | _, _ => false
end

mutual
theorem veq_sound : ∀ (a b : Spec.Value), veq a b = true → a = b
  | .null, b, h => by cases b <;> simp_all [veq]
  | .bool _, b, h => by cases b <;> simp_all [veq]
  | .int _, b, h => by cases b <;> simp_all [veq]
  | .long _, b, h => by cases b <;> simp_all [veq]
  | .float _, b, h => by cases b <;> simp_all [veq]
  | .double _, b, h => by cases b <;> simp_all [veq]
  | .bytes _, b, h => by cases b <;> simp_all [veq]
  | .string _, b, h => by cases b <;> simp_all [veq]
  | .enum _, b, h => by cases b <;> simp_all [veq]
  | .fixed _, b, h => by cases b <;> simp_all [veq]
  | .decimal _, b, h => by cases b <;> simp_all [veq]
  | .bigDecimal _ _, b, h => by cases b <;> simp_all [veq]
  | .duration _ _ _, b, h => by cases b <;> simp_all [veq]
  | .array a, b, h => by
    cases b <;> simp only [veq, Bool.false_eq_true] at h
    rw [veqL_sound a _ h]
  | .record a, b, h => by
    cases b <;> simp only [veq, Bool.false_eq_true] at h
    rw [veqL_sound a _ h]
  | .map a, b, h => by
    cases b <;> simp only [veq, Bool.false_eq_true] at h
    rw [veqM_sound a _ h]
  | .union i a, b, h => by
    cases b <;> simp only [veq, Bool.false_eq_true, Bool.and_eq_true, beq_iff_eq] at h
    rw [h.1, veq_sound a _ h.2]
theorem veqL_sound : ∀ (a b : List Spec.Value), veqL a b = true → a = b
  | [], b, h => by cases b <;> simp_all [veqL]
  | a :: l, b, h => by
    cases b <;> simp only [veqL, Bool.false_eq_true, Bool.and_eq_true] at h
    rw [veq_sound a _ h.1, veqL_sound l _ h.2]
theorem veqM_sound : ∀ (a b : List (String × Spec.Value)), veqM a b = true → a = b
  | [], b, h => by cases b <;> simp_all [veqM]
  | (k, a) :: l, b, h => by
    match b, h with
    | (k', b) :: m, h =>
      simp only [veqM, Bool.and_eq_true, beq_iff_eq] at h
      rw [h.1.1, veq_sound a _ h.1.2, veqM_sound l _ h.2]
end

def decEqb : Option (Spec.Value × Bytes) → Option (Spec.Value × Bytes) → Bool
  | some (v, r), some (v', r') => veq v v' && r == r'
  | none, none => true
  | _, _ => false

theorem decEq_of {x y : Option (Spec.Value × Bytes)} (h : decEqb x y = true) : x = y := by
  match x, y, h with
  | some (v, r), some (v', r'), h =>
    simp only [decEqb, Bool.and_eq_true, beq_iff_eq] at h
    rw [veq_sound v v' h.1, h.2]
  | none, none, _ => rfl

def optOutEqb : Option Out → Option Out → Bool
  | some a, some b => oeq a b
  | none, none => true
  | _, _ => false
theorem optOutEq_of {x y : Option Out} (h : optOutEqb x y = true) : x = y := by
  match x, y, h with
  | some a, some b, h => rw [oeq_sound a b h]
  | none, none, _ => rfl

end Avro.Theorems.NVB
