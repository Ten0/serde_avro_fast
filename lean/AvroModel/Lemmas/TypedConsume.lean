import AvroModel.Lemmas.SkipLayouts
import AvroModel.Lemmas.DeSoundLayouts
/-
C12 / C03 / C01, typed targets: the runs of `decodeX Limits.impl` a typed read is compared with
(`DecV` … `FldV`), and the block reader, treated once, reading or ignoring, over abstract
"items" / "blocks" relations (`BlockUnfold`) so that arrays and maps share it.
-/
namespace Avro.Impl
open Avro Avro.Spec

variable (S : Schema)

/-! ### The runs of `decodeX Limits.impl` -/

def DecV (n : Node) (bs : Bytes) (v : Value) (rest : Bytes) : Prop :=
  ∃ fX, decodeX Limits.impl S fX n bs = some (v, rest)
def ItmV (item : Node) (c : Nat) (bs : Bytes) (vs : List Value) (r1 : Bytes) : Prop :=
  ∃ fX, decodeItemsX Limits.impl S fX item c bs = some (vs, r1)
def BlkV (item : Node) (bs : Bytes) (vs : List Value) (rest : Bytes) : Prop :=
  ∃ fX, decodeBlocksX Limits.impl S fX item bs = some (vs, rest)
def MItmV (item : Node) (c : Nat) (bs : Bytes) (es : List (String × Value)) (r1 : Bytes) : Prop :=
  ∃ fX, decodeMapItemsX Limits.impl S fX item c bs = some (es, r1)
def MBlkV (item : Node) (bs : Bytes) (es : List (String × Value)) (rest : Bytes) : Prop :=
  ∃ fX, decodeMapBlocksX Limits.impl S fX item bs = some (es, rest)
def FldV (ks : List Nat) (bs : Bytes) (vals : List Value) (rest : Bytes) : Prop :=
  ∃ fX, decodeFieldsX Limits.impl S fX ks bs = some (vals, rest)

variable {S}

theorem DecV.pos {n : Node} {bs rest : Bytes} {v : Value} (h : DecV S n bs v rest) :
    ∃ f, decodeX Limits.impl S (f + 1) n bs = some (v, rest) := by
  obtain ⟨fX, h⟩ := h
  cases fX with
  | zero => cases h
  | succ f => exact ⟨f, h⟩

theorem ItmV.zero {item : Node} {bs r1 : Bytes} {vs : List Value} (h : ItmV S item 0 bs vs r1) :
    vs = [] ∧ r1 = bs := by
  obtain ⟨fX, h⟩ := h
  rw [decodeItemsX_zero] at h
  cases h
  exact ⟨rfl, rfl⟩

theorem ItmV.succ {item : Node} {c : Nat} {bs r1 : Bytes} {vs : List Value}
    (h : ItmV S item (c + 1) bs vs r1) :
    ∃ v ra vs', DecV S item bs v ra ∧ ItmV S item c ra vs' r1 ∧ vs = v :: vs' := by
  obtain ⟨fX, h⟩ := h
  cases fX with
  | zero => cases h
  | succ f =>
    obtain ⟨v, ra, vs', hd, hi, e⟩ := decodeItemsX_succ_eq_some.1 h
    exact ⟨v, ra, vs', ⟨f, hd⟩, ⟨f, hi⟩, e⟩

theorem MItmV.zero {item : Node} {bs r1 : Bytes} {es : List (String × Value)}
    (h : MItmV S item 0 bs es r1) : es = [] ∧ r1 = bs := by
  obtain ⟨fX, h⟩ := h
  rw [decodeMapItemsX_zero] at h
  cases h
  exact ⟨rfl, rfl⟩

theorem MItmV.succ {item : Node} {c : Nat} {bs r1 : Bytes} {es : List (String × Value)}
    (h : MItmV S item (c + 1) bs es r1) :
    ∃ k ra v rb es', decodeStringL Limits.impl bs = some (k, ra) ∧ DecV S item ra v rb ∧
      MItmV S item c rb es' r1 ∧ es = (k, v) :: es' := by
  obtain ⟨fX, h⟩ := h
  cases fX with
  | zero => cases h
  | succ f =>
    obtain ⟨k, ra, v, rb, es', hs, hd, hi, e⟩ := decodeMapItemsX_succ_eq_some.1 h
    exact ⟨k, ra, v, rb, es', hs, ⟨f, hd⟩, ⟨f, hi⟩, e⟩

theorem FldV.nil {bs rest : Bytes} {vals : List Value} (h : FldV S [] bs vals rest) :
    vals = [] ∧ rest = bs := by
  obtain ⟨fX, h⟩ := h
  rw [decodeFieldsX_nil] at h
  cases h
  exact ⟨rfl, rfl⟩

theorem FldV.cons {k : Nat} {ks : List Nat} {bs rest : Bytes} {vals : List Value}
    (h : FldV S (k :: ks) bs vals rest) :
    ∃ n v ra vs', S[k]? = some n ∧ DecV S n bs v ra ∧ FldV S ks ra vs' rest ∧ vals = v :: vs' := by
  obtain ⟨fX, h⟩ := h
  cases fX with
  | zero => cases h
  | succ f =>
    obtain ⟨n, v, ra, vs', hn, hd, hf, e⟩ := decodeFieldsX_cons_eq_some.1 h
    exact ⟨n, v, ra, vs', hn, ⟨f, hd⟩, ⟨f, hf⟩, e⟩

/-- what a run of a block decoder says, abstractly (shared by arrays and maps): `Itm c bs vs r1`,
    `c` items `vs` from `bs` to `r1`; `Blk bs vs rest`, blocks holding `vs` from `bs` to `rest` -/
def BlockUnfold {V : Type} (Itm : Nat → Bytes → List V → Bytes → Prop)
    (Blk : Bytes → List V → Bytes → Prop) : Prop :=
  ∀ bs vs rest, Blk bs vs rest → ∃ c sz r0, decodeBlockHeaderX Limits.impl bs = some (c, sz, r0) ∧
    ((c = 0 ∧ vs = [] ∧ rest = r0) ∨
     (0 < c ∧ ∃ vs1 r1 more, Itm c r0 vs1 r1 ∧ sizeOk sz r0 r1 = true ∧ (∃ mid, r0 = mid ++ r1) ∧
       Blk r1 more rest ∧ vs = vs1 ++ more))

theorem BlkV.unfold (item : Node) : BlockUnfold (ItmV S item) (BlkV S item) := by
  rintro bs vs rest ⟨fX, h⟩
  cases fX with
  | zero => cases h
  | succ f =>
    obtain ⟨c, sz, r0, hh, ⟨hc, hv, hr⟩ | ⟨hc, vs1, r1, more, hi, hsz, hb, e⟩⟩ :=
      decodeBlocksX_succ_eq_some.1 h
    · exact ⟨c, sz, r0, hh, .inl ⟨hc, hv, hr⟩⟩
    · exact ⟨c, sz, r0, hh, .inr ⟨hc, vs1, r1, more, ⟨f, hi⟩, hsz,
        decodeItemsX_suffix S item f c r0 vs1 r1 hi, ⟨f, hb⟩, e⟩⟩

theorem MBlkV.unfold (item : Node) : BlockUnfold (MItmV S item) (MBlkV S item) := by
  rintro bs es rest ⟨fX, h⟩
  cases fX with
  | zero => cases h
  | succ f =>
    obtain ⟨c, sz, r0, hh, ⟨hc, hv, hr⟩ | ⟨hc, es1, r1, more, hi, hsz, hb, e⟩⟩ :=
      decodeMapBlocksX_succ_eq_some.1 h
    · exact ⟨c, sz, r0, hh, .inl ⟨hc, hv, hr⟩⟩
    · exact ⟨c, sz, r0, hh, .inr ⟨hc, es1, r1, more, ⟨f, hi⟩, hsz,
        decodeMapItemsX_suffix S item f c r0 es1 r1 hi, ⟨f, hb⟩, e⟩⟩

variable (S)

theorem inv_skipBytes (n : Nat) (bs : Bytes) :
    Inv (skipBytes n) bs (fun _ rest => n ≤ bs.length ∧ rest = bs.drop n) := by
  intro s hs a s' hrun
  obtain ⟨isS, rest, av, sched, lc, ma, scr, lim⟩ := s
  obtain ⟨h1, h2⟩ := hs
  simp only at h1 h2
  subst h1 h2
  by_cases hn : n ≤ bs.length
  · simp only [skipBytes, RState.mk', if_true, hn, Prod.mk.injEq] at hrun
    obtain ⟨_, rfl⟩ := hrun
    exact ⟨_, rfl, hn, rfl⟩
  · simp [skipBytes, RState.mk', hn] at hrun

section blocks
variable {V : Type} {Itm : Nat → Bytes → List V → Bytes → Prop} {Blk : Bytes → List V → Bytes → Prop}

/-- a run of the block decoder, told from the first number `len` of the header: the end marker,
    a count, or a negated count followed by the byte size of the block (which `sizeOk` makes the
    distance to the end of the items) -/
theorem BlockUnfold.of_count (hunf : BlockUnfold Itm Blk) {bs r rest : Bytes} {vs : List V}
    {len : Int} (hd : decodeLongL Limits.impl bs = some (len, r)) (hblk : Blk bs vs rest) :
    (len = 0 ∧ vs = [] ∧ rest = r) ∨
    (0 < len ∧ ∃ vs1 r1 more, Itm len.toNat r vs1 r1 ∧ Blk r1 more rest ∧ vs = vs1 ++ more) ∨
    (len < 0 ∧ ∃ size r0 vs1 more, decodeLongL Limits.impl r = some (size, r0) ∧ 0 ≤ size ∧
      0 < (-len).toNat ∧ Itm (-len).toNat r0 vs1 (r0.drop size.toNat) ∧
      Blk (r0.drop size.toNat) more rest ∧ vs = vs1 ++ more) := by
  obtain ⟨c, szo, r0, hh, hcase⟩ := hunf bs vs rest hblk
  obtain ⟨cnt, rx, hd', hc⟩ := decodeBlockHeaderX_inv hh
  rw [hd] at hd'
  cases hd'
  rcases hc with ⟨h0, rfl, _, rfl⟩ | ⟨h0, rfl, size, hd2, hs0, rfl⟩
  · rcases hcase with ⟨hc0, hv, hrest⟩ | ⟨hcp, vs1, r1, more, hi, _, _, hb, e⟩
    · exact .inl ⟨by omega, hv, hrest⟩
    · exact .inr (.inl ⟨by omega, vs1, r1, more, hi, hb, e⟩)
  · rcases hcase with ⟨hc0, _⟩ | ⟨hcp, vs1, r1, more, hi, hok, ⟨mid, rfl⟩, hb, e⟩
    · omega
    · simp only [sizeOk, beq_iff_eq, List.length_append] at hok
      have e' : (mid ++ r1).drop size.toNat = r1 := by
        rw [show size.toNat = mid.length by omega, List.drop_left]
      exact .inr (.inr ⟨h0, size, _, vs1, more, hd2, hs0, hcp, by rw [e']; exact hi,
        by rw [e']; exact hb, e⟩)

/-- `read_block_len` in either mode.  When ignoring, whole sized blocks are jumped over and nothing
    is said of the items. -/
theorem inv_readBlockLen_gen (hunf : BlockUnfold Itm Blk) (ign : Bool) : ∀ (f : Nat) (bs : Bytes),
    Inv (readBlockLen ign f) bs (fun res r => ∀ vs rest, Blk bs vs rest →
      (res = none → r = rest ∧ (ign = false → vs = [])) ∧
      (∀ l, res = some l → 0 < l ∧ ∃ vs1 r1 more, Itm l r vs1 r1 ∧ Blk r1 more rest ∧
        (ign = false → vs = vs1 ++ more))) := by
  intro f
  induction f with
  | zero => intro bs; rw [readBlockLen]; exact Inv.fail _ _ _
  | succ f ih =>
    intro bs
    rw [readBlockLen]
    refine Inv.bind (inv_varint_i64 bs) fun len r hd => ?_
    split
    · rename_i hneg
      -- a negated count: the byte size follows
      have sized : ∀ {vs rest}, Blk bs vs rest → ∀ {sz r'}, decodeLongL Limits.impl r = some (sz, r') →
          0 < (-len).toNat ∧ ∃ vs1 more, Itm (-len).toNat r' vs1 (r'.drop sz.toNat) ∧
            Blk (r'.drop sz.toNat) more rest ∧ vs = vs1 ++ more := by
        intro vs rest hblk sz r' hsz
        rcases hunf.of_count hd hblk with ⟨h0, _⟩ | ⟨h0, _⟩ |
          ⟨_, size, r0, vs1, more, hd2, _, hl, hi, hb, e⟩
        · omega
        · omega
        · rw [hsz] at hd2
          cases hd2
          exact ⟨hl, vs1, more, hi, hb, e⟩
      cases ign with
      | true =>
        simp only [if_true]
        refine Inv.bind (inv_varint_i64 r) fun sz r' hsz => ?_
        split
        · exact Inv.fail _ _ _
        · refine Inv.bind (inv_skipBytes sz.toNat r') ?_
          rintro _ r'' ⟨_, rfl⟩
          refine (ih _).mono fun res rr hpost vs rest hblk => ?_
          obtain ⟨_, _, more, _, hb, _⟩ := sized hblk hsz
          obtain ⟨h1, h2⟩ := hpost more rest hb
          exact ⟨fun e => ⟨(h1 e).1, nofun⟩, fun l e =>
            let ⟨hl, vs1', r1', more', hi', hb', _⟩ := h2 l e
            ⟨hl, vs1', r1', more', hi', hb', nofun⟩⟩
      | false =>
        simp only [Bool.false_eq_true, if_false]
        refine Inv.bind (inv_varint_i64 r) fun sz r' hsz => ?_
        split
        · exact Inv.fail _ _ _
        · refine Inv.pure ?_
          intro vs rest hblk
          obtain ⟨hl, vs1, more, hi, hb, e⟩ := sized hblk hsz
          simp only [if_neg (Nat.ne_of_gt hl)]
          refine ⟨nofun, ?_⟩
          rintro l ⟨⟩
          exact ⟨hl, vs1, _, more, hi, hb, fun _ => e⟩
    · rename_i hneg
      refine Inv.pure ?_
      intro vs rest hblk
      rcases hunf.of_count hd hblk with ⟨rfl, hv, hrest⟩ | ⟨h0, vs1, r1, more, hi, hb, e⟩ | ⟨h0, _⟩
      · exact ⟨fun _ => ⟨hrest.symm, fun _ => hv⟩, fun l hl => by cases hl⟩
      · simp only [if_neg (Int.ne_of_gt h0)]
        refine ⟨nofun, ?_⟩
        rintro l ⟨⟩
        exact ⟨by omega, vs1, r1, more, hi, hb, fun _ => e⟩
      · omega

/-- `BlockReader::has_more` in either mode, against any run of the block decoder: `vs1` are the
    items left in the current block, `more` those of the blocks after it.  When reading, the items
    still to come are the same before and after. -/
theorem inv_hasMore_gen (hunf : BlockUnfold Itm Blk)
    (hz : ∀ bs vs r1, Itm 0 bs vs r1 → vs = [] ∧ r1 = bs)
    (cfg : DeConfig) (ign : Bool) (bst : BlockState) (bs : Bytes) :
    Inv (hasMore cfg ign bst) bs (fun p r => ∀ vs1 r1 more rest,
      Itm bst.current bs vs1 r1 → Blk r1 more rest →
      (p.1 = false → r = rest ∧ (ign = false → vs1 ++ more = [])) ∧
      (p.1 = true → ∃ vs1' r1' more', Itm (p.2.current + 1) r vs1' r1' ∧ Blk r1' more' rest ∧
        (ign = false → vs1' ++ more' = vs1 ++ more))) := by
  obtain ⟨c, nr⟩ := bst
  cases c with
  | succ c =>
    refine (inv_hasMore_succ cfg ign c nr bs).mono ?_
    rintro p r ⟨rfl, rfl⟩ vs1 r1 more rest hi hb
    exact ⟨nofun, fun _ => ⟨vs1, r1, more, hi, hb, fun _ => rfl⟩⟩
  | zero =>
    intro s hs p s' hrun
    simp only [hasMore] at hrun
    cases hb : readBlockLen ign ((s.mk' bs none).rest.length + 2) (s.mk' bs none) with
    | mk res s1 =>
      rw [hb] at hrun
      cases res with
      | error e => simp at hrun
      | ok res =>
        obtain ⟨r, rfl, hpost⟩ := inv_readBlockLen_gen hunf ign _ bs s hs res s1 hb
        cases res with
        | none =>
          simp only [Prod.mk.injEq, Except.ok.injEq] at hrun
          obtain ⟨rfl, rfl⟩ := hrun
          refine ⟨r, rfl, ?_⟩
          intro vs1 r1 more rest hi hblk
          obtain ⟨rfl, rfl⟩ := hz _ _ _ hi
          exact ⟨fun _ => (hpost more rest hblk).1 rfl, nofun⟩
        | some l =>
          simp only at hrun
          split at hrun
          · simp at hrun
          · simp only [Prod.mk.injEq, Except.ok.injEq] at hrun
            obtain ⟨rfl, rfl⟩ := hrun
            refine ⟨r, rfl, ?_⟩
            intro vs1 r1 more rest hi hblk
            obtain ⟨rfl, rfl⟩ := hz _ _ _ hi
            obtain ⟨hl, vs1', r1', more', hi', hb', e⟩ := (hpost more rest hblk).2 l rfl
            refine ⟨nofun, fun _ => ⟨vs1', r1', more', ?_, hb', fun h => (e h).symm⟩⟩
            have : l - 1 + 1 = l := by omega
            simp only [this]
            exact hi'

end blocks

theorem decodeBytesL_of_string {L : Limits} {bs r : Bytes} {s : String}
    (h : decodeStringL L bs = some (s, r)) :
    ∃ b, decodeBytesL L bs = some (b, r) ∧ bytesToStr? b = some s := by
  rw [decodeStringL_bind] at h
  exact Parser.sel_eq_some.1 h

/-- a length and that many bytes, against a run of the string decoder on the same input -/
theorem string_of_len_take {bs ra rb : Bytes} {n : Nat} {kb : Bytes}
    (hlen : decodeLenL Limits.impl bs = some (n, ra)) (ht : takeN n ra = some (kb, rb))
    {k : String} {rest : Bytes} (hs : decodeStringL Limits.impl bs = some (k, rest)) :
    rb = rest ∧ bytesToStr? kb = some k := by
  obtain ⟨b, hb, hk⟩ := decodeBytesL_of_string hs
  unfold decodeBytesL at hb
  rw [hlen] at hb
  simp only [ht, Option.some.injEq, Prod.mk.injEq] at hb
  obtain ⟨rfl, rfl⟩ := hb
  exact ⟨rfl, hk⟩



/-! ### Two restrictions on requests

Hypotheses of `C12_typed_consumes`, `C12_typed_consumes_top` (Theorems/C12typed.lean); not needed
(`C12_tupleFree_not_necessary`). -/

mutual
/-- no tuple request anywhere in the target (the key request of a map target is never passed to
    the datum deserializer and does not count) -/
def Hint.tupleFree : Hint → Bool
  | .option h => h.tupleFree
  | .seq e => e.tupleFree
  | .tuple _ _ => false
  | .map _ v => v.tupleFree
  | .struct fs => tupleFreeFields fs
  | .enum vs => tupleFreeVariants vs
  | _ => true
def VariantHint.tupleFree : VariantHint → Bool
  | .unit => true
  | .newtype h => h.tupleFree
  | .tuple _ _ => false
  | .struct fs => tupleFreeFields fs
def tupleFreeFields : List (String × Hint) → Bool
  | [] => true
  | (_, h) :: r => h.tupleFree && tupleFreeFields r
def tupleFreeVariants : List (String × VariantHint) → Bool
  | [] => true
  | (_, v) :: r => v.tupleFree && tupleFreeVariants r
end

/-- neither an array nor a union (whose branch could be an array) -/
def Node.noArr : Node → Bool
  | .array _ | .union _ => false
  | _ => true

/-! ### Kept statements, off the proof path

`DecX` … `FldX` (the runs above with the decoded value hidden), `CQ`, `TC`, `OkClosed` here, `HasX`,
`QC`, `TV` (Lemmas/TypedValue.lean) and their inhabitants `tc`, `tv` (Lemmas/TypedSound.lean) are
kept as they were stated; no theorem of Theorems/ is proved through them.  The live vocabulary is
`DecV` … `FldV`, `TQ`, `TS`, `BlockUnfold`. -/

def DecX (n : Node) (bs rest : Bytes) : Prop :=
  ∃ fX v, decodeX Limits.impl S fX n bs = some (v, rest)
def ItmX (item : Node) (c : Nat) (bs r1 : Bytes) : Prop :=
  ∃ fX vs, decodeItemsX Limits.impl S fX item c bs = some (vs, r1)
def BlkX (item : Node) (bs rest : Bytes) : Prop :=
  ∃ fX vs, decodeBlocksX Limits.impl S fX item bs = some (vs, rest)
def MItmX (item : Node) (c : Nat) (bs r1 : Bytes) : Prop :=
  ∃ fX vs, decodeMapItemsX Limits.impl S fX item c bs = some (vs, r1)
def MBlkX (item : Node) (bs rest : Bytes) : Prop :=
  ∃ fX vs, decodeMapBlocksX Limits.impl S fX item bs = some (vs, rest)
def FldX (ks : List Nat) (bs rest : Bytes) : Prop :=
  ∃ fX vs, decodeFieldsX Limits.impl S fX ks bs = some (vs, rest)

/-- the read ended where every run of `decodeX Limits.impl` on `bs` ends -/
def CQ (n : Node) (bs : Bytes) : Out → Bytes → Prop :=
  fun _ r => ∀ rest, DecX S n bs rest → r = rest

/-- the requests `de` passes on to `deserialize_any` (everything but `option` and `enum`) -/
def Hint.anyRouted : Hint → Bool
  | .option _ | .enum _ => false
  | _ => true

/-- the request an enum target makes for the payload of a variant:
    `v.toHint = v.payload.getD .ignored` (`cases v <;> rfl`) -/
def VariantHint.toHint : VariantHint → Hint
  | .unit => .ignored
  | .newtype h => h
  | .tuple n e => .tuple n e
  | .struct fs => .struct fs

/-- a family `ok` of (request, node) pairs closed under the sub-requests of the deserializer: the
    hypothesis of `C12_typed_consumes_closed` (the family of all pairs is one, trivially) -/
structure OkClosed (S : Schema) (ok : Hint → Node → Prop) : Prop where
  any_ok : ∀ n : Node, ok .any n
  ign_ok : ∀ n : Node, ok .ignored n
  ident_ok : ∀ n : Node, ok .identifier n
  opt_union : ∀ (i : Hint) (vs : List Nat) (d k : Nat) (variant : Node),
    ok (.option i) (.union vs) → vs[d]? = some k → S[k]? = some variant → ok i variant
  opt_other : ∀ (i : Hint) (n : Node), ok (.option i) n → (∀ vs, n ≠ .union vs) → ok i n
  enum_here : ∀ (vts : List (String × VariantHint)) (n : Node) (vh : VariantHint),
    ok (.enum vts) n → lookupVariant n.typeName vts = some vh → ok vh.toHint n
  enum_union : ∀ (vts : List (String × VariantHint)) (vs : List Nat) (d k : Nat) (variant : Node)
    (vh : VariantHint), ok (.enum vts) (.union vs) → vs[d]? = some k →
    S[k]? = some variant → lookupVariant variant.typeName vts = some vh → ok vh.toHint variant
  any_array : ∀ (h : Hint) (k : Nat) (item : Node), h.anyRouted = true → ok h (.array k) →
    S[k]? = some item → ok h.elem item
  any_map : ∀ (h : Hint) (k : Nat) (item : Node) (name : Option String), h.anyRouted = true →
    ok h (.map k) → S[k]? = some item → ok (h.valFor name) item
  any_record : ∀ (h : Hint) (nm : Name) (fields : List (String × Nat)) (name : String) (k : Nat)
    (fnode : Node), h.anyRouted = true → ok h (.record nm fields) →
    (name, k) ∈ fields → S[k]? = some fnode → ok (h.valFor (some name)) fnode
  any_union : ∀ (h : Hint) (vs : List Nat) (d k : Nat) (variant : Node), h.anyRouted = true →
    ok h (.union vs) → vs[d]? = some k → S[k]? = some variant → ok h variant

/-- `CQ` of the seven functions of the deserializer (exact consumption), relative to a family `ok`
    of (request, node) pairs; it holds for every family (`tc`, Lemmas/TypedSound.lean): no pair has
    to be avoided, because `ArraySeqAccess::visit` (`deSeqLoop`, branch `maxItems = some 0`) consumes
    the end marker of an array a tuple target has exhausted -/
structure TC (cfg : DeConfig) (S : Schema) (ok : Hint → Node → Prop) (fuel : Nat) : Prop where
  any : ∀ n depth h bs, h.anyRouted = true → ok h n →
    Inv (deAny deExtModel cfg S fuel n depth h) bs (CQ S n bs)
  de : ∀ n depth favor h bs, ok h n →
    Inv (de deExtModel cfg S fuel n depth favor h) bs (CQ S n bs)
  tn : ∀ n depth vts bs, (∀ vh, lookupVariant n.typeName vts = some vh → ok vh.toHint n) →
    Inv (deTypeNameEnum deExtModel cfg S fuel n depth vts) bs (CQ S n bs)
  ign : ∀ n depth bs, Inv (deIgnored deExtModel cfg S fuel n depth) bs (CQ S n bs)
  seq : ∀ item depth ign eh mi bst acc bs, ok eh item →
    Inv (deSeqLoop deExtModel cfg S fuel item depth ign eh mi bst acc) bs
      (fun _ r => ∀ r1 rest, ItmX S item bst.current bs r1 → BlkX S item r1 rest → r = rest)
  map : ∀ item depth ign h bst acc bs, (∀ name, ok (h.valFor name) item) →
    Inv (deMapLoop deExtModel cfg S fuel item depth ign h bst acc) bs
      (fun _ r => ∀ r1 rest, MItmX S item bst.current bs r1 → MBlkX S item r1 rest → r = rest)
  fields : ∀ fields depth h acc bs,
    (∀ name k fnode, (name, k) ∈ fields → S[k]? = some fnode → ok (h.valFor (some name)) fnode) →
    Inv (deRecordFields deExtModel cfg S fuel fields depth h acc) bs
      (fun _ r => ∀ rest, FldX S (fields.map (·.2)) bs rest → r = rest)

end Avro.Impl
