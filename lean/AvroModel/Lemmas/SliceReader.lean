import AvroModel.Lemmas.Reader
import AvroModel.Lemmas.DeWalk
/-
The simulation between the slice and the reader back-end behind C11: `Sim` / `SimD` relate a reader
state and a slice state over the same bytes, `RelD` two computations that give equivalent outcomes
from related states.  Each read primitive is compared once (`*_same`, from the characterisations of
`Lemmas/Reader.lean`); `RelD true true` is a logic for the walk of `Lemmas/DeWalk.lean`
(`relD_logic`), values being compared up to the `borrowed` flags (`unborrow`, `Ro`).
-/
namespace Avro.Theorems
open Avro Avro.Impl

/-- Correspondence between a reader state `r` and a slice state `sl`: same remaining bytes.
    Nothing is assumed on `r.avail` (beyond well-formedness), `r.sched`, `r.lastChunk`: the chunk
    schedule is arbitrary. -/
structure Sim (r sl : RState) : Prop where
  reader : r.isSlice = false
  slice : sl.isSlice = true
  rest : r.rest = sl.rest
  avail : r.avail ≤ r.rest.length
  limit : r.limit = sl.limit

/-- Outcome equivalence: both succeed with related values and corresponding states, or both fail
    (the error classes may differ: `custom` for the slice where the reader says `io`). -/
def OutEq {α β : Type} (R : α → β → Prop)
    (x : Except DeErr α × RState) (y : Except DeErr β × RState) : Prop :=
  match x, y with
  | (.ok a, r'), (.ok b, sl') => R a b ∧ Sim r' sl'
  | (.error _, _), (.error _, _) => True
  | _, _ => False

theorem Sim.wf_reader {r sl : RState} (h : Sim r sl) : r.WF := fun _ => h.avail
theorem Sim.wf_slice {r sl : RState} (h : Sim r sl) : sl.WF := by
  intro hs; rw [h.slice] at hs; cases hs

theorem Sim.adv {r sl r' sl' : RState} {k : Nat} (h : Sim r sl)
    (hr : Adv k r r') (hs : Adv k sl sl') : Sim r' sl' where
  reader := hr.isSlice.trans h.reader
  slice := hs.isSlice.trans h.slice
  rest := by rw [hr.rest, hs.rest, h.rest]
  avail := hr.wf (hr.isSlice.trans h.reader)
  limit := by rw [hr.limit, hs.limit, h.limit]

theorem Sim.eff {r sl : RState} (h : Sim r sl) : r.eff = sl.eff := by
  simp [RState.eff, h.rest, h.limit]

theorem OutEq.ok {α β : Type} {R : α → β → Prop} {a : α} {b : β} {r' sl' : RState}
    (h1 : R a b) (h2 : Sim r' sl') : OutEq R (.ok a, r') (.ok b, sl') := ⟨h1, h2⟩

theorem OutEq.error {α β : Type} {R : α → β → Prop} {e e' : DeErr} {r' sl' : RState} :
    OutEq R (.error e, r') (.error e', sl') := trivial

theorem OutEq.consumed {α β : Type} {R : α → β → Prop} {r sl r' sl' : RState} {a : α} {b : β}
    (hsim : Sim r sl) (h : OutEq R (.ok a, r') (.ok b, sl')) :
    r.rest.length - r'.rest.length = sl.rest.length - sl'.rest.length := by
  rw [hsim.rest, h.2.rest]

/-- Both runs succeed with related results after advancing by the same number of bytes, or both
    fail: the shape in which the two back-ends of a read primitive are compared. -/
def SameRun {α β : Type} (R : α → β → Prop) (r sl : RState)
    (x : Except DeErr α × RState) (y : Except DeErr β × RState) : Prop :=
  (∃ a b k r' sl', x = (.ok a, r') ∧ y = (.ok b, sl') ∧ R a b ∧ Adv k r r' ∧ Adv k sl sl') ∨
  ((∃ e r', x = (.error e, r')) ∧ (∃ e sl', y = (.error e, sl')))

theorem SameRun.outEq {α β : Type} {R : α → β → Prop} {r sl : RState}
    {x : Except DeErr α × RState} {y : Except DeErr β × RState} (h : SameRun R r sl x y)
    (hsim : Sim r sl) : OutEq R x y := by
  rcases h with ⟨a, b, k, r', sl', rfl, rfl, hab, hr, hs⟩ | ⟨⟨_, _, rfl⟩, ⟨_, _, rfl⟩⟩
  · exact ⟨hab, hsim.adv hr hs⟩
  · trivial

/-- One `read` call: both succeed; the slice returns everything allowed, the reader a prefix of
    it that is empty only if the slice's is (its size depends on the chunk schedule). -/
theorem C11_readSome (k : Nat) (r sl : RState) (h : Sim r sl) :
    ∃ m m' r' sl', readSome k r = (.ok (r.rest.take m), r') ∧
      readSome k sl = (.ok (r.rest.take m'), sl') ∧
      m' = min (r.lim k) r.rest.length ∧ m ≤ m' ∧ (m = 0 ↔ m' = 0) ∧
      Adv m r r' ∧ Adv m' sl sl' := by
  obtain ⟨m, r', h1, h2, h3, h4, h5⟩ := readSome_spec k r h.wf_reader
  obtain ⟨m', sl', g1, g2, g3, g4, g5⟩ := readSome_spec k sl h.wf_slice
  have hlim : sl.lim k = r.lim k := by simp [RState.lim, h.limit]
  have hlen : sl.rest.length = r.rest.length := by rw [h.rest]
  have hm' : m' = min (r.lim k) r.rest.length := by
    have hf : fillBuf sl = (.ok sl.rest, sl) := fillBuf_slice h.slice
    rw [readSome_eq, hf, hlim] at g1
    by_cases hk : r.lim k = 0
    · have : m' = 0 := by omega
      omega
    · simp only [hk, if_false, Prod.mk.injEq, Except.ok.injEq] at g1
      have := congrArg List.length g1.1
      simp only [List.length_take, ← h.rest] at this
      omega
  refine ⟨m, m', r', sl', h1, by rw [h.rest]; exact g1, hm', by omega, ?_, h5, g5⟩
  rw [hlim, ← h.rest] at g4
  constructor
  · intro hm0
    by_cases hk : r.lim k = 0
    · omega
    · by_cases hne : r.rest = []
      · rw [hne] at hm'; simp at hm'; exact hm'
      · have := h4 hk hne; omega
  · intro hm0; omega

theorem readSome_one_same {r sl : RState} (h : Sim r sl) :
    SameRun (· = ·) r sl (readSome 1 r) (readSome 1 sl) := by
  obtain ⟨m, m', r', sl', h1, h2, h3, h4, h5, h6, h7⟩ := C11_readSome 1 r sl h
  have : m = m' := by
    have : r.lim 1 ≤ 1 := by unfold RState.lim; cases r.limit <;> simp only <;> omega
    omega
  subst this
  exact .inl ⟨_, _, m, r', sl', h1, h2, rfl, h6, h7⟩

theorem readExact_same (k : Nat) {r sl : RState} (h : Sim r sl) :
    SameRun (· = ·) r sl (readExact k r) (readExact k sl) := by
  have hr := readExact_spec k r h.wf_reader
  have hs := readExact_spec k sl h.wf_slice
  rw [← h.eff, ← h.rest] at hs
  by_cases hk : k ≤ r.eff
  · obtain ⟨r', e1, a1⟩ := hr.1 hk
    obtain ⟨sl', e2, a2⟩ := hs.1 hk
    exact .inl ⟨_, _, k, r', sl', e1, e2, rfl, a1, a2⟩
  · obtain ⟨r', e1⟩ := hr.2 (by omega)
    obtain ⟨sl', e2⟩ := hs.2 (by omega)
    exact .inr ⟨⟨_, r', e1⟩, ⟨_, sl', e2⟩⟩

theorem readVarint_same (t : VarTy) {r sl : RState} (h : Sim r sl) (hlim : r.limit = none) :
    SameRun (· = ·) r sl (readVarint t r) (readVarint t sl) := by
  have hr := readVarint_spec t r h.wf_reader hlim
  have hs := readVarint_spec t sl h.wf_slice (by rw [← h.limit, hlim])
  rw [← h.rest] at hs
  cases hd : decodeVar t r.rest with
  | none =>
    obtain ⟨e, r', e1, -⟩ := hr.2 hd
    obtain ⟨e', sl', e2, -⟩ := hs.2 hd
    exact .inr ⟨⟨e, r', e1⟩, ⟨e', sl', e2⟩⟩
  | some p =>
    obtain ⟨v, k⟩ := p
    obtain ⟨r', e1, a1⟩ := hr.1 v k hd
    obtain ⟨sl', e2, a2⟩ := hs.1 v k hd
    exact .inl ⟨_, _, k, r', sl', e1, e2, rfl, a1, a2⟩

theorem readSlice_same (n : Nat) {r sl : RState} (h : Sim r sl) (hlim : r.limit = none)
    (hma : n ≤ r.rest.length → n ≤ r.maxAlloc) :
    SameRun (fun a b => a.1 = b.1 ∧ a.2 = false ∧ b.2 = true) r sl (readSlice n r)
      (readSlice n sl) := by
  have hr := readSlice_spec n r h.wf_reader hlim (fun _ => hma)
  have hs := readSlice_spec n sl h.wf_slice (by rw [← h.limit, hlim])
    (fun hsl => by rw [h.slice] at hsl; cases hsl)
  rw [← h.rest] at hs
  by_cases hk : n ≤ r.rest.length
  · obtain ⟨r', e1, a1⟩ := hr.1 hk
    obtain ⟨sl', e2, a2⟩ := hs.1 hk
    exact .inl ⟨_, _, n, r', sl', e1, e2, ⟨rfl, h.reader, h.slice⟩, a1, a2⟩
  · obtain ⟨e, r', e1, -⟩ := hr.2 (by omega)
    obtain ⟨e', sl', e2, -⟩ := hs.2 (by omega)
    exact .inr ⟨⟨e, r', e1⟩, ⟨e', sl', e2⟩⟩

theorem skipBytes_same (n : Nat) {r sl : RState} (h : Sim r sl) (hlim : r.limit = none) :
    SameRun (· = ·) r sl (skipBytes n r) (skipBytes n sl) := by
  have hr := skipBytes_spec n r h.wf_reader hlim
  have hs := skipBytes_spec n sl h.wf_slice (by rw [← h.limit, hlim])
  rw [← h.rest] at hs
  by_cases hk : n ≤ r.rest.length
  · obtain ⟨r', e1, a1⟩ := hr.1 hk
    obtain ⟨sl', e2, a2⟩ := hs.1 hk
    exact .inl ⟨_, _, n, r', sl', e1, e2, rfl, a1, a2⟩
  · exact .inr ⟨hr.2 (by omega), hs.2 (by omega)⟩

/-- State correspondence for the deserializer: `Sim`, the reader may allocate what is left
    (`max_alloc_size` is only consulted by the reader), and — when `p` — no `Take` is in place. -/
structure SimD (p : Bool) (r sl : RState) : Prop where
  sim : Sim r sl
  alloc : r.rest.length ≤ r.maxAlloc
  nolimit : p = true → r.limit = none

/-- `OutEq` with `SimD p` for the final states -/
def OutEqD (p : Bool) {α β : Type} (R : α → β → Prop)
    (x : Except DeErr α × RState) (y : Except DeErr β × RState) : Prop :=
  match x, y with
  | (.ok a, r'), (.ok b, sl') => R a b ∧ SimD p r' sl'
  | (.error _, _), (.error _, _) => True
  | _, _ => False

/-- `m` on the reader and `m'` on the slice give equivalent outcomes from corresponding states
    (`p` / `q` = `true`: no `Take` in place before / after; `false`: there may be one). -/
def RelD (p q : Bool) {α β : Type} (R : α → β → Prop) (m : DeM α) (m' : DeM β) : Prop :=
  ∀ r sl, SimD p r sl → OutEqD q R (m r) (m' sl)

theorem OutEqD.inv {p : Bool} {α β : Type} {R : α → β → Prop}
    {x : Except DeErr α × RState} {y : Except DeErr β × RState} (h : OutEqD p R x y) :
    (∃ a b r' sl', x = (.ok a, r') ∧ y = (.ok b, sl') ∧ R a b ∧ SimD p r' sl') ∨
    (∃ e e' r' sl', x = (.error e, r') ∧ y = (.error e', sl')) := by
  obtain ⟨(e | a), r'⟩ := x <;> obtain ⟨(e' | b), sl'⟩ := y
  · exact .inr ⟨e, e', r', sl', rfl, rfl⟩
  · exact h.elim
  · exact h.elim
  · exact .inl ⟨a, b, r', sl', rfl, rfl, h.1, h.2⟩

theorem SimD.adv {p : Bool} {r sl r' sl' : RState} {k : Nat} (h : SimD p r sl)
    (hr : Adv k r r') (hs : Adv k sl sl') : SimD p r' sl' where
  sim := h.sim.adv hr hs
  alloc := by rw [hr.length, hr.maxAlloc]; have := h.alloc; omega
  nolimit := fun hp => by rw [hr.limit, h.nolimit hp]; rfl

theorem SimD.weaken {p : Bool} {r sl : RState} (h : SimD p r sl) : SimD false r sl :=
  ⟨h.sim, h.alloc, fun hp => by cases hp⟩

theorem RelD.pure {p : Bool} {α β : Type} {R : α → β → Prop} {a : α} {b : β} (h : R a b) :
    RelD p p R (pure a) (pure b) := fun _ _ hs => ⟨h, hs⟩

theorem RelD.fail {p q : Bool} {α β : Type} {R : α → β → Prop} {e e' : DeErr} :
    RelD p q R (DeM.fail e) (DeM.fail e') := fun _ _ _ => trivial

theorem RelD.bind' {p q w : Bool} {α β γ δ : Type} {R : α → β → Prop} {R' : γ → δ → Prop}
    {m : DeM α} {m' : DeM β} {f : α → DeM γ} {f' : β → DeM δ}
    (h1 : RelD p q R m m') (h2 : ∀ a b, R a b → m.Returns a → RelD q w R' (f a) (f' b)) :
    RelD p w R' (m >>= f) (m' >>= f') := by
  intro r sl hs
  rw [DeM.bind_apply, DeM.bind_apply]
  rcases (h1 r sl hs).inv with ⟨a, b, r', sl', e1, e2, hab, h3⟩ | ⟨e, e', r', sl', e1, e2⟩ <;>
    rw [e1, e2]
  · exact h2 a b hab ⟨r, r', e1⟩ r' sl' h3
  · trivial

theorem RelD.bind {p q w : Bool} {α β γ δ : Type} {R : α → β → Prop} {R' : γ → δ → Prop}
    {m : DeM α} {m' : DeM β} {f : α → DeM γ} {f' : β → DeM δ}
    (h1 : RelD p q R m m') (h2 : ∀ a b, R a b → RelD q w R' (f a) (f' b)) :
    RelD p w R' (m >>= f) (m' >>= f') :=
  h1.bind' fun a b h _ => h2 a b h

theorem RelD.mono {p q : Bool} {α β : Type} {R R' : α → β → Prop} {m : DeM α} {m' : DeM β}
    (h : RelD p q R m m') (hR : ∀ a b, R a b → R' a b) : RelD p q R' m m' := by
  rw [← DeM.bind_pure m, ← DeM.bind_pure m']
  exact h.bind' fun a b hab _ => RelD.pure (hR a b hab)

theorem RelD.of_false {p q : Bool} {α β : Type} {R : α → β → Prop} {m : DeM α} {m' : DeM β}
    (h : RelD false q R m m') : RelD p q R m m' := fun r sl hs => h r sl hs.weaken

theorem relD_of_same {p : Bool} {α β : Type} {R : α → β → Prop} {m : DeM α} {m' : DeM β}
    (h : ∀ r sl, SimD p r sl → SameRun R r sl (m r) (m' sl)) : RelD p p R m m' := by
  intro r sl hs
  rcases h r sl hs with ⟨a, b, k, r', sl', e1, e2, hab, a1, a2⟩ | ⟨⟨e, r', e1⟩, ⟨e', sl', e2⟩⟩
  · rw [e1, e2]; exact ⟨hab, hs.adv a1 a2⟩
  · rw [e1, e2]; trivial

theorem readExact_rel (p : Bool) (k : Nat) : RelD p p (· = ·) (readExact k) (readExact k) :=
  relD_of_same fun _ _ hs => readExact_same k hs.sim

theorem readVarint_rel (t : VarTy) : RelD true true (· = ·) (readVarint t) (readVarint t) :=
  relD_of_same fun _ _ hs => readVarint_same t hs.sim (hs.nolimit rfl)

theorem readSlice_rel (n : Nat) :
    RelD true true (fun a b => a.1 = b.1) (readSlice n) (readSlice n) :=
  (relD_of_same fun _ _ hs =>
    readSlice_same n hs.sim (hs.nolimit rfl) fun hn => Nat.le_trans hn hs.alloc).mono
    fun _ _ h => h.1

theorem skipBytes_rel (n : Nat) : RelD true true (· = ·) (skipBytes n) (skipBytes n) :=
  relD_of_same fun _ _ hs => skipBytes_same n hs.sim (hs.nolimit rfl)

theorem readSome_one_rel (p : Bool) : RelD p p (· = ·) (readSome 1) (readSome 1) :=
  relD_of_same fun _ _ hs => readSome_one_same hs.sim

mutual
/-- forget whether strings / byte strings were handed over borrowed or copied -/
def unborrow : Out → Out
  | .str s _ => .str s false
  | .bytes b _ => .bytes b false
  | .some o => .some (unborrow o)
  | .seq items => .seq (unborrowL items)
  | .map es => .map (unborrowP es)
  | .variant n p => .variant (unborrow n) (unborrow p)
  | o => o
def unborrowL : List Out → List Out
  | [] => []
  | o :: os => unborrow o :: unborrowL os
def unborrowP : List (Out × Out) → List (Out × Out)
  | [] => []
  | (k, v) :: es => (unborrow k, unborrow v) :: unborrowP es
end

/-- equal up to the `borrowed` flags of strings and byte strings (the slice borrows, the reader copies) -/
def Ro (a b : Out) : Prop := unborrow a = unborrow b

theorem unborrowL_congr {l l' : List Out} (h : ListRel Ro l l') : unborrowL l = unborrowL l' := by
  induction h with
  | nil => rfl
  | cons h _ ih => simp only [unborrowL]; exact congr (congrArg _ h) ih

theorem unborrowP_congr {l l' : List (Out × Out)} (h : ListRel (EntryRel Ro) l l') :
    unborrowP l = unborrowP l' := by
  induction h with
  | nil => rfl
  | cons h _ ih => simp only [unborrowP]; exact congr (congrArg _ (congr (congrArg _ h.1) h.2)) ih

theorem Ro.seq {l l' : List Out} (h : ListRel Ro l l') : Ro (.seq l) (.seq l') := by
  simp only [Ro, unborrow, unborrowL_congr h]
theorem Ro.map {l l' : List (Out × Out)} (h : ListRel (EntryRel Ro) l l') :
    Ro (.map l) (.map l') := by
  simp only [Ro, unborrow, unborrowP_congr h]
theorem Ro.some {a b : Out} (h : Ro a b) : Ro (.some a) (.some b) := by
  unfold Ro at *; simp [unborrow, h]
theorem Ro.variant {a b c d : Out} (h : Ro a b) (h' : Ro c d) :
    Ro (.variant a c) (.variant b d) := by
  unfold Ro at *; simp [unborrow, h, h']
theorem Ro.str (s : String) (f f' : Bool) : Ro (.str s f) (.str s f') := by
  simp [Ro, unborrow]
theorem Ro.bytes (b : Bytes) (f f' : Bool) : Ro (.bytes b f) (.bytes b f') := by
  simp [Ro, unborrow]

theorem selectVariant_unborrow (variants : List (String × VariantHint)) (o : Out) :
    selectVariant variants (unborrow o) = selectVariant variants o := by
  cases o <;> simp [unborrow, selectVariant]

theorem Ro.selectVariant {a b : Out} (h : Ro a b) (variants : List (String × VariantHint)) :
    selectVariant variants a = selectVariant variants b := by
  rw [← selectVariant_unborrow variants a, ← selectVariant_unborrow variants b, h]

/-- `DeLogic.len` of `relD_logic`, proved by hand because the field `big` of that logic needs it first -/
theorem readLen_rel : RelD true true (· = ·) readLen readLen := by
  unfold readLen
  apply RelD.bind (readVarint_rel _)
  intro a b hab; subst hab
  split
  · exact RelD.fail
  · exact RelD.pure rfl

theorem readBool_rel : RelD true true (· = ·) readBool readBool := by
  unfold readBool
  apply RelD.bind (readSlice_rel _)
  rintro ⟨b1, f1⟩ ⟨b2, f2⟩ hab
  simp only at hab; subst hab
  dsimp only
  split
  · exact RelD.pure rfl
  · exact RelD.pure rfl
  · exact RelD.fail

theorem readBlockLen_rel (ignored : Bool) (fuel : Nat) :
    RelD true true (· = ·) (readBlockLen ignored fuel) (readBlockLen ignored fuel) := by
  induction fuel with
  | zero => exact RelD.fail
  | succ fuel ih =>
    unfold readBlockLen
    apply RelD.bind (readVarint_rel _)
    intro a b hab; subst hab
    split
    · split
      · apply RelD.bind (readVarint_rel _)
        intro a b hab; subst hab
        split
        · exact RelD.fail
        · apply RelD.bind (skipBytes_rel _)
          intro _ _ _
          exact ih
      · apply RelD.bind (readVarint_rel _)
        intro a b hab; subst hab
        split
        · exact RelD.fail
        · exact RelD.pure rfl
    · exact RelD.pure rfl

theorem setLimit_rel (p : Bool) (l : Option Nat) :
    RelD p false (· = ·) (setLimit l) (setLimit l) := by
  intro r sl hs
  exact ⟨rfl, ⟨hs.sim.reader, hs.sim.slice, hs.sim.rest, hs.sim.avail, rfl⟩, hs.alloc,
    fun h => by cases h⟩

theorem getLimit_rel (p : Bool) : RelD p p (· = ·) getLimit getLimit := by
  intro r sl hs
  exact ⟨hs.sim.limit, hs⟩

theorem withLimitCleared_rel {p q : Bool} {α β : Type} {R : α → β → Prop} {m : DeM α} {m' : DeM β}
    (h : RelD p q R m m') : RelD p true R (withLimitCleared m) (withLimitCleared m') := by
  intro r sl hs
  unfold withLimitCleared
  rcases (h r sl hs).inv with ⟨a, b, r', sl', e1, e2, hab, h2⟩ | ⟨e, e', r', sl', e1, e2⟩ <;>
    rw [e1, e2]
  · exact ⟨hab, ⟨h2.sim.reader, h2.sim.slice, h2.sim.rest, h2.sim.avail, rfl⟩, h2.alloc,
      fun _ => rfl⟩
  · trivial

theorem varintProcessor_rel (p : Bool) (t : VarTy) (fuel : Nat) : ∀ buf : Bytes,
    RelD p p (· = ·) (varintProcessor t fuel buf) (varintProcessor t fuel buf) := by
  induction fuel with
  | zero =>
    intro buf
    unfold varintProcessor
    split
    · exact RelD.pure rfl
    · exact RelD.fail
  | succ fuel ih =>
    intro buf
    unfold varintProcessor
    split
    · split
      · exact RelD.pure rfl
      · exact RelD.fail
    · apply RelD.bind (readSome_one_rel p)
      intro a b hab; subst hab
      split
      · split
        · exact RelD.fail
        · split
          · exact RelD.pure rfl
          · exact RelD.fail
      · split
        · exact RelD.fail
        · exact ih _

theorem readBig_rel : RelD true true (· = ·) readBigRaw readBigRaw := by
  unfold readBigRaw bigDecimalBody
  apply RelD.bind readLen_rel
  intro a b hab; subst hab
  apply RelD.bind (setLimit_rel _ _)
  intro _ _ _
  apply withLimitCleared_rel (p := false) (q := false)
  apply RelD.bind (varintProcessor_rel _ _ _ _)
  intro a b hab; subst hab
  split
  · exact RelD.fail
  · dsimp only
    split
    · exact RelD.fail
    · apply RelD.bind (readExact_rel _ _)
      intro a b hab; subst hab
      apply RelD.bind (varintProcessor_rel _ _ _ _)
      intro a b hab; subst hab
      split
      · exact RelD.fail
      · apply RelD.bind (getLimit_rel _)
        intro a b hab; subst hab
        split
        · exact RelD.fail
        · exact RelD.pure rfl

theorem ro_outRel : OutRel (fun _ => Ro) (fun _ _ => True) where
  vmono h := h
  vflat _ _ _ := rfl
  vstr _ s _ _ _ := Ro.str s _ _
  vbytes _ b _ _ _ := Ro.bytes b _ _
  vsome := Ro.some
  vseq := Ro.seq
  vmap := Ro.map
  vvariant := Ro.variant
  vselect h vs := h.selectVariant vs

/-- The slice/reader agreement is a logic for the walk of `Lemmas/DeWalk.lean`, for all hints: with
    `DeLogic.block` this is the proof of `C11_de`. -/
theorem relD_logic :
    DeLogic (@RelD true true) (fun _ => Ro) (fun _ _ => True) fun _ => True where
  toOutRel := ro_outRel
  pure := RelD.pure
  fail := RelD.fail
  bind := RelD.bind'
  varint := readVarint_rel
  exact := readExact_rel true
  slice n := (readSlice_rel n).mono fun _ _ h => ⟨h, trivial⟩
  blockLen ign _ r sl hs := by
    unfold readBlockLenAuto
    rw [← hs.sim.rest]
    exact readBlockLen_rel ign _ r sl hs
  big := readBig_rel

theorem readDecimal_rel (ext : DeExt) (mode : DecMode) (hint : DecHint) :
    RelD true true Ro (readDecimal ext mode hint) (readDecimal ext mode hint) :=
  relD_logic.decimal 0 ext mode hint

theorem deRel_all (ext : DeExt) (cfg : DeConfig) (S : Schema) (fuel : Nat) :
    DeLogic.Block (@RelD true true) (fun _ => Ro) (fun _ => True) ext cfg S fuel fuel :=
  relD_logic.block .all RelD.fail S fuel

theorem OutEqD.toOutEq {p : Bool} {α β : Type} {R : α → β → Prop}
    {x : Except DeErr α × RState} {y : Except DeErr β × RState} (h : OutEqD p R x y) :
    OutEq R x y := by
  rcases h.inv with ⟨a, b, r', sl', rfl, rfl, hab, h2⟩ | ⟨e, e', r', sl', rfl, rfl⟩
  · exact ⟨hab, h2.sim⟩
  · trivial

theorem RelD.outEq {q : Bool} {α β : Type} {R : α → β → Prop} {m : DeM α} {m' : DeM β}
    (h : RelD true q R m m') {r sl : RState} (hsim : Sim r sl) (hlim : r.limit = none)
    (halloc : r.rest.length ≤ r.maxAlloc) : OutEq R (m r) (m' sl) :=
  (h r sl ⟨hsim, halloc, fun _ => hlim⟩).toOutEq

theorem OutEq.cases {α β : Type} {R : α → β → Prop} {r sl : RState} (hsim : Sim r sl)
    {x : Except DeErr α × RState} {y : Except DeErr β × RState} (h : OutEq R x y) :
    (∃ a b r' sl', x = (.ok a, r') ∧ y = (.ok b, sl') ∧ R a b ∧ Sim r' sl' ∧
        r.rest.length - r'.rest.length = sl.rest.length - sl'.rest.length) ∨
    (∃ e e' r' sl', x = (.error e, r') ∧ y = (.error e', sl')) := by
  obtain ⟨(e | a), r'⟩ := x <;> obtain ⟨(e' | b), sl'⟩ := y
  · exact .inr ⟨e, e', r', sl', rfl, rfl⟩
  · exact h.elim
  · exact h.elim
  · exact .inl ⟨a, b, r', sl', rfl, rfl, h.1, h.2, OutEq.consumed hsim h⟩

end Avro.Theorems
