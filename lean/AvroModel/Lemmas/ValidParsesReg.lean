import AvroModel.Lemmas.RegisterFuel
import AvroModel.Lemmas.ValidParsesRaw
/-
C07 (valid documents parse), third part: registration of the raw tree SUCCEEDS.

`reg_exists` builds a derivation of `Reg` by induction on the size of a list of raw trees;
`register_succeeds` adds the fuel (`Reg.runs`).  Hypotheses on the raw tree: the shape
(`canonRaw` defined), every reference follows its definition (`scanRaw` defined), the local
demands (`regOk`), the defined names are pairwise distinct and not yet in the name table
(`Pre`).  Conclusion: the registration function returns, no reference was left pending, the name
table received exactly the defined names (`Out`).
-/
namespace Avro.Impl

/-! ### `rawBound` against the node count `sizeRaw` of C07 -/

open Avro.ValidParses in
/-- by the recursor of the nested type: one case per constructor of `RawSchema`, `Option`, `List` -/
theorem rawBound_le_sizeRaw (raw : RawSchema) : rawBound raw ≤ Avro.ValidParses.sizeRaw raw := by
  refine @RawSchema.rec (fun r => rawBound r ≤ sizeRaw r) (fun of => rawBoundOF of ≤ sizeRawOF of)
    (fun o => rawBoundO o ≤ sizeRawO o) (fun l => rawBoundList l ≤ sizeRawList l)
    (fun l => rawBoundFields l ≤ sizeRawFields l) (fun p => rawBound p.2 ≤ sizeRaw p.2)
    ?_ ?_ ?_ ?_ ?_ ?_ ?_ ?_ ?_ ?_ ?_ ?_ ?_ raw
  · intro t; simp [rawBound, sizeRaw]
  · intro r; simp [rawBound, sizeRaw]
  · intro a fields items values hf hi hv
    rw [rawBound_object]
    simp only [sizeRaw]
    have : bodyBound a.type fields items values ≤
        sizeRawO items + sizeRawO values + sizeRawOF fields := by
      unfold bodyBound; split <;> omega
    omega
  · intro bs h; simp only [rawBound, sizeRaw]; omega
  · simp [rawBoundOF]
  · intro fs h; simpa [rawBoundOF, sizeRawOF] using h
  · simp [rawBoundO]
  · intro r h; simpa [rawBoundO, sizeRawO] using h
  · simp [rawBoundList]
  · intro r rest h1 h2; simp only [rawBoundList, sizeRawList]; omega
  · simp [rawBoundFields]
  · intro p rest h1 h2; simp only [rawBoundFields, sizeRawFields]; omega
  · intro n r h; exact h

end Avro.Impl

namespace Avro.ValidParses
open Avro Avro.Impl Avro.Spec Avro.Spec.Pcf Avro.PcfSpec

def keyOf (fn : Fullname) : NameKey := ⟨fn.1, fn.2⟩

theorem keyOf_inj {a b : Fullname} (h : keyOf a = keyOf b) : a = b := by
  obtain ⟨a1, a2⟩ := a
  obtain ⟨b1, b2⟩ := b
  simp only [keyOf, NameKey.mk.injEq] at h
  rw [h.1, h.2]

def tkeys (st : PState) : List NameKey := st.names.map (·.1)

theorem lookup_none_of_not_mem {l : List (NameKey × Nat)} {k : NameKey}
    (h : k ∉ l.map (·.1)) : l.lookup k = none := by
  rw [← Option.not_isSome_iff_eq_none, List.lookup_isSome_iff]
  rintro ⟨p, hp, e⟩
  exact h (List.mem_map.2 ⟨p, hp, (beq_iff_eq.1 e).symm⟩)

theorem lookup_some_of_mem {l : List (NameKey × Nat)} {k : NameKey}
    (h : k ∈ l.map (·.1)) : ∃ i, l.lookup k = some i := by
  obtain ⟨p, hp, rfl⟩ := List.mem_map.1 h
  exact Option.isSome_iff_exists.1 (List.lookup_isSome_iff.2 ⟨p, hp, by simp⟩)

/-- before: the names to be defined are pairwise distinct and new; the names of `D` are bound -/
structure Pre (st : PState) (defs D : List Fullname) : Prop where
  nodup : defs.Nodup
  fresh : ∀ fn ∈ defs, keyOf fn ∉ tkeys st
  defined : ∀ fn ∈ D, keyOf fn ∈ tkeys st

/-- after: nothing pending was added, the table received `defs`, the names of `D'` are bound -/
structure Out (st st' : PState) (defs D' : List Fullname) : Prop where
  unres : st'.unresolved = st.unresolved
  keys : tkeys st' = (defs.map keyOf).reverse ++ tkeys st
  defined : ∀ fn ∈ D', keyOf fn ∈ tkeys st'

theorem Out.refl {st : PState} {D : List Fullname} (h : ∀ fn ∈ D, keyOf fn ∈ tkeys st) :
    Out st st [] D :=
  ⟨rfl, by simp, h⟩

theorem Out.trans {st st1 st2 : PState} {d1 d2 D1 D2 : List Fullname}
    (h1 : Out st st1 d1 D1) (h2 : Out st1 st2 d2 D2) : Out st st2 (d1 ++ d2) D2 :=
  ⟨h2.unres.trans h1.unres, by rw [h2.keys, h1.keys]; simp, h2.defined⟩

theorem Out.setNodes {st st2 : PState} {d D' : List Fullname} (h : Out st st2 d D')
    (nodes : Array PNode) : Out st { st2 with nodes := nodes } d D' :=
  ⟨h.unres, h.keys, h.defined⟩

theorem Out.ofNodes {st st2 : PState} {d D' : List Fullname} (nodes : Array PNode)
    (h : Out { st with nodes := nodes } st2 d D') : Out st st2 d D' :=
  ⟨h.unres, h.keys, h.defined⟩

theorem Pre.left {st : PState} {d1 d2 D : List Fullname} (h : Pre st (d1 ++ d2) D) :
    Pre st d1 D :=
  ⟨(List.nodup_append.mp h.nodup).1, fun fn hfn => h.fresh fn (List.mem_append_left _ hfn),
    h.defined⟩

theorem Pre.after {st st1 : PState} {d1 d2 D D1 : List Fullname} (h : Pre st (d1 ++ d2) D)
    (ho : Out st st1 d1 D1) : Pre st1 d2 D1 := by
  obtain ⟨hn1, hn2, hdis⟩ := List.nodup_append.mp h.nodup
  refine ⟨hn2, ?_, ho.defined⟩
  intro fn hfn hmem
  rw [ho.keys, List.mem_append, List.mem_reverse, List.mem_map] at hmem
  rcases hmem with ⟨fn', hfn', he⟩ | hmem
  · have := keyOf_inj he
    subst this
    exact hdis _ hfn' _ hfn rfl
  · exact h.fresh fn (List.mem_append_right _ hfn) hmem

theorem Pre.weaken {st : PState} {d D D1 : List Fullname} (h : Pre st d D1)
    (hsub : ∀ fn ∈ D, fn ∈ D1) : Pre st d D :=
  ⟨h.nodup, h.fresh, fun fn hfn => h.defined fn (hsub fn hfn)⟩

theorem Pre.ofNodes {st : PState} {d D : List Fullname} (h : Pre st d D) (nodes : Array PNode) :
    Pre { st with nodes := nodes } d D :=
  ⟨h.nodup, h.fresh, h.defined⟩

/-! ### `defsParts` = own name, then the body -/

def ownDefs (enc : Option String) (name nsAttr : Option String) : List Fullname :=
  match name with
  | some nm => [fullnameOfDef nm nsAttr enc]
  | none => []

def bodyDefs (enc : Option String) (t : RawType) (name nsAttr : Option String)
    (dfields : Option String → List Fullname) (ditems dvalues : List Fullname) : List Fullname :=
  match t with
  | .array => ditems
  | .map => dvalues
  | .record =>
    (match name with
      | some nm => dfields (fullnameOfDef nm nsAttr enc).1
      | none => [])
  | _ => []

theorem defsParts_eq (enc : Option String) (t : RawType) (name nsAttr : Option String)
    (df : Option String → List Fullname) (di dv : List Fullname) :
    defsParts enc t name nsAttr df di dv =
      ownDefs enc name nsAttr ++ bodyDefs enc t name nsAttr df di dv := by
  cases name <;> cases t <;> rfl

/-! ### the steps of `registerObject` -/

theorem keyOf_def (nm : String) (nsA enc : Option String) :
    keyOf (fullnameOfDef nm nsA enc) = defKey nm nsA enc := by
  rw [defKey_eq_spec]; rfl

theorem keyOf_ref (r : String) (enc : Option String) :
    keyOf (fullnameOfRef r enc) = refKey r enc := by
  rw [refKey_eq_spec]; rfl

theorem nameStep_out {o : Option RawAttrs} {enc : Option String} {st : PState}
    {rest D : List Fullname}
    (hpre : Pre st (ownDefs enc (o.bind (·.name)) (o.bind (·.nsAttr)) ++ rest) D) :
    ∃ st1, nameStep o enc st =
        .ok ((o.bind (·.name)).map (fun nm => defKey nm (o.bind (·.nsAttr)) enc), st1) ∧
      Out st st1 (ownDefs enc (o.bind (·.name)) (o.bind (·.nsAttr)))
        (ownDefs enc (o.bind (·.name)) (o.bind (·.nsAttr)) ++ D) := by
  cases o with
  | none =>
    refine ⟨_, rfl, ?_⟩
    exact ⟨rfl, by simp [ownDefs, tkeys], by simpa [ownDefs, tkeys] using hpre.defined⟩
  | some a =>
    cases hn : a.name with
    | none =>
      refine ⟨{ st with nodes := st.nodes.push { type := .null, logical := none } }, ?_, ?_⟩
      · simp [nameStep, hn]
      · exact ⟨rfl, by simp [ownDefs, tkeys, hn], by simpa [ownDefs, tkeys, hn] using hpre.defined⟩
    | some nm =>
      have hfresh : st.names.lookup (defKey nm a.nsAttr enc) = none := by
        apply lookup_none_of_not_mem
        rw [← keyOf_def]
        exact hpre.fresh _ (by simp [ownDefs, hn])
      refine ⟨{ st with nodes := st.nodes.push { type := .null, logical := none },
                        names := (defKey nm a.nsAttr enc, st.nodes.size) :: st.names }, ?_, ?_⟩
      · simp [nameStep, hn, hfresh]
      · refine ⟨rfl, by simp [ownDefs, tkeys, hn, keyOf_def], ?_⟩
        intro fn hfn
        simp only [Option.bind_some, hn, ownDefs, List.cons_append, List.nil_append,
          List.mem_cons] at hfn
        simp only [tkeys, List.map_cons, List.mem_cons]
        rcases hfn with rfl | hfn
        · exact Or.inl (keyOf_def _ _ _)
        · exact Or.inr (hpre.defined fn hfn)

theorem logicalStep_ok {o : Option RawAttrs} (h : ∀ a, o = some a → attrsRegOk a = true) :
    ∃ lt, logicalStep o = .ok lt := by
  cases o with
  | none => exact ⟨none, rfl⟩
  | some a =>
    have ha := h a rfl
    simp only [logicalStep]
    unfold logicalOf
    split <;> try exact ⟨_, rfl⟩
    rename_i hl
    split
    · rename_i hp
      simp [attrsRegOk, hl, hp] at ha
    · exact ⟨_, rfl⟩

/-! ### the walks at a node, through the table `bodyOf` -/

theorem bodyDefs_leaf {enc t name nsAttr df di dv} (h : RawType.isLeaf t = true) :
    bodyDefs enc t name nsAttr df di dv = [] := by
  cases t <;> first | rfl | cases h

theorem defsRaw_node {raw t o of oi ov enc b} (hraw : raw.asNode = some (t, o, of, oi, ov))
    (hb : bodyOf t o of oi ov enc
      ((o.bind (·.name)).map fun nm => defKey nm (o.bind (·.nsAttr)) enc) = .ok b) :
    defsRaw enc raw =
      ownDefs enc (o.bind (·.name)) (o.bind (·.nsAttr)) ++ defsRawList b.ns b.kids := by
  rcases RawSchema.asNode_some hraw with ⟨rfl, rfl, rfl, rfl, rfl⟩ | ⟨a, rfl, rfl, rfl⟩
  · -- a bare type name has a leaf entry only
    rcases bodyOf_ok hb with ⟨ty, rfl, -⟩ | ⟨r, mk, -, h, -⟩ | ⟨k, fs, -, -, h, -⟩
    · rfl
    · rcases h with ⟨-, h, -⟩ | ⟨-, h, -⟩ <;> cases h
    · cases h
  · rw [defsRaw, defsParts_eq]
    congr 1
    rcases bodyOf_ok hb with ⟨ty, rfl, hleaf, -⟩ | ⟨r, mk, rfl, h, -⟩ | ⟨k, fs, rfl, ht, hk, rfl, -⟩
    · exact bodyDefs_leaf hleaf
    · rcases h with ⟨ht, rfl, -⟩ | ⟨ht, rfl, -⟩ <;> rw [ht] <;> exact (List.append_nil _).symm
    · obtain ⟨nm, hnm, rfl⟩ := Option.map_eq_some_iff.mp hk
      have hnm : a.name = some nm := hnm
      rw [ht, hnm]
      simp only [bodyDefs, defsRawOF, defsRawFields_eq_list, Body.fields, defKey_eq_spec,
        Option.bind_some]

/-- a node of a valid tree has an entry in the table, and its children are valid (from the list
    `D0` of names bound when they are met) -/
theorem valid_node {raw t o of oi ov enc D D1}
    (hraw : raw.asNode = some (t, o, of, oi, ov)) (hc : (canonRaw enc raw).isSome = true)
    (hs : scanRaw enc raw D = some D1) (hr : regOk raw = true) :
    ∃ b D0, bodyOf t o of oi ov enc
        ((o.bind (·.name)).map (fun nm => defKey nm (o.bind (·.nsAttr)) enc)) = .ok b ∧
      (canonRawList b.ns b.kids).isSome = true ∧ scanRawList b.ns b.kids D0 = some D1 ∧
      (∀ fn ∈ D0, fn ∈ ownDefs enc (o.bind (·.name)) (o.bind (·.nsAttr)) ++ D) ∧
      regOkList b.kids = true ∧ (∀ a, o = some a → attrsRegOk a = true) ∧
      sizeRawList b.kids < sizeRaw raw := by
  rcases RawSchema.asNode_some hraw with ⟨rfl, rfl, rfl, rfl, rfl⟩ | ⟨a, rfl, rfl, rfl⟩
  · have hp : isPrimType t = true := hr
    have hD : D1 = D := by
      simp only [scanRaw, isPrimType_primitive hp, if_true, Option.some.injEq] at hs
      exact hs.symm
    subst hD
    have : ∃ ty, bodyOf t none none none none enc none = .ok (.leaf enc ty) := by
      cases t <;> first | exact ⟨_, rfl⟩ | cases hp
    obtain ⟨ty, hty⟩ := this
    exact ⟨_, D1, hty, rfl, rfl, fun fn h => h, rfl, fun _ h => (nomatch h), by
      simp only [Body.leaf, sizeRawList, sizeRaw]; omega⟩
  · simp only [regOk, Bool.and_eq_true] at hr
    obtain ⟨⟨⟨hra, hrf⟩, hri⟩, hrv⟩ := hr
    simp only [canonRaw] at hc
    simp only [scanRaw] at hs
    simp only [Option.bind_some]
    have hlog : ∀ a', some a = some a' → attrsRegOk a' = true := by rintro _ ⟨⟩; exact hra
    have hsub : ∀ fn ∈ D, fn ∈ ownDefs enc a.name a.nsAttr ++ D :=
      fun fn h => List.mem_append_right _ h
    cases ht : a.type <;> simp only [ht, canonParts, scanParts] at hc hs
    case array =>
      cases oi with
      | none => cases hc
      | some it =>
        simp only [canonRawO, scanRawO, regOkO] at hc hs hri
        obtain ⟨c, hcc⟩ := Option.isSome_iff_exists.mp (Option.isSome_map ▸ hc)
        exact ⟨_, D, rfl, by simp only [Body.one, canonRawList, hcc]; rfl,
          by simp only [Body.one, scanRawList, hs], hsub,
          by simp only [Body.one, regOkList, hri]; rfl, hlog,
          by simp only [Body.one, sizeRawList, sizeRaw, sizeRawO]; omega⟩
    case map =>
      cases ov with
      | none => cases hc
      | some it =>
        simp only [canonRawO, scanRawO, regOkO] at hc hs hrv
        obtain ⟨c, hcc⟩ := Option.isSome_iff_exists.mp (Option.isSome_map ▸ hc)
        exact ⟨_, D, rfl, by simp only [Body.one, canonRawList, hcc]; rfl,
          by simp only [Body.one, scanRawList, hs], hsub,
          by simp only [Body.one, regOkList, hrv]; rfl, hlog,
          by simp only [Body.one, sizeRawList, sizeRaw, sizeRawO]; omega⟩
    case record =>
      cases hn : a.name with
      | none => simp only [hn] at hc; cases hc
      | some nm =>
        simp only [hn] at hc hs ⊢
        cases of with
        | none => cases hc
        | some fs =>
          refine ⟨_, ownDefs enc (some nm) a.nsAttr ++ D, rfl, ?_, ?_, fun fn h => h, ?_, hlog, ?_⟩
          · simpa only [Body.fields, defKey_eq_spec, canonRawOFields, canonRawFields_eq,
              Option.isSome_map] using hc
          · simpa only [Body.fields, defKey_eq_spec, scanRawOFields, scanRawFields_eq,
              ownDefs, List.cons_append, List.nil_append] using hs
          · simpa only [Body.fields, regOkOF, regOkFields_eq_list] using hrf
          · simp only [Body.fields, sizeRaw, sizeRawOF, sizeRawFields_eq_list]; omega
    case enum =>
      cases hn : a.name <;> cases hsy : a.symbols <;> simp only [hn, hsy] at hc hs ⊢ <;>
        first | cases hc | skip
      cases hs
      exact ⟨.leaf enc _, _, (by simp only [bodyOf, Option.map_some, Option.bind_some, hsy]; rfl), rfl,
        rfl, fun fn h => h, rfl, hlog, by simp only [Body.leaf, sizeRawList, sizeRaw]; omega⟩
    case fixed =>
      cases hn : a.name <;> cases hsy : a.size <;> simp only [hn, hsy] at hc hs ⊢ <;>
        first | cases hc | skip
      cases hs
      exact ⟨.leaf enc _, _, (by simp only [bodyOf, Option.map_some, Option.bind_some, hsy]; rfl), rfl,
        rfl, fun fn h => h, rfl, hlog, by simp only [Body.leaf, sizeRawList, sizeRaw]; omega⟩
    all_goals
      cases hs
      exact ⟨_, D, rfl, rfl, rfl, hsub, rfl, hlog,
        by simp only [Body.leaf, sizeRawList, sizeRaw]; omega⟩

/-! ### registration succeeds -/

theorem reg_exists : ∀ (n : Nat) (l : List RawSchema), sizeRawList l ≤ n →
    ∀ enc st D D', (canonRawList enc l).isSome = true → scanRawList enc l D = some D' →
    regOkList l = true → Pre st (defsRawList enc l) D →
    ∃ ks st', Reg l enc st ks st' ∧ Out st st' (defsRawList enc l) D' := by
  intro n
  induction n with
  | zero =>
    intro l hsz enc st D D' _ hs _ hpre
    cases l with
    | nil => cases hs; exact ⟨[], st, .nil, Out.refl hpre.defined⟩
    | cons r rest => simp only [sizeRawList] at hsz; omega
  | succ n ih =>
    intro l hsz enc st D D' hc hs hr hpre
    cases l with
    | nil => cases hs; exact ⟨[], st, .nil, Out.refl hpre.defined⟩
    | cons r rest =>
      simp only [sizeRawList] at hsz
      simp only [canonRawList] at hc
      cases hc1 : canonRaw enc r with
      | none => simp only [hc1] at hc; cases hc
      | some c1 =>
      cases hc2 : canonRawList enc rest with
      | none => simp only [hc1, hc2] at hc; cases hc
      | some cs2 =>
      simp only [scanRawList] at hs
      cases hs1 : scanRaw enc r D with
      | none => simp only [hs1] at hs; cases hs
      | some D1 =>
      rw [hs1] at hs
      simp only [regOkList, Bool.and_eq_true] at hr
      simp only [defsRawList] at hpre ⊢
      -- the rest of the list, from the state `s1` the head leaves
      have rest_ok : ∀ s1, Out st s1 (defsRaw enc r) D1 →
          ∃ ks st', Reg rest enc s1 ks st' ∧ Out st st' (defsRaw enc r ++ defsRawList enc rest) D' := by
        intro s1 o1
        obtain ⟨ks, st', h2, o2⟩ :=
          ih rest (by omega) enc s1 D1 D' (by rw [hc2]; rfl) hs hr.2 (hpre.after o1)
        exact ⟨ks, st', h2, o1.trans o2⟩
      cases hraw : r.asNode with
      | none =>
        cases r with
        | ref s =>
          simp only [scanRaw] at hs1
          split at hs1
          · rename_i hmem
            cases hs1
            have hk := hpre.defined _ (by simpa using hmem)
            rw [keyOf_ref] at hk
            obtain ⟨i, hi⟩ := lookup_some_of_mem hk
            obtain ⟨ks, st', h2, o2⟩ := rest_ok st (Out.refl hpre.defined)
            exact ⟨_, st', .found hi h2, o2⟩
          · cases hs1
        | union bs =>
          simp only [sizeRaw] at hsz
          simp only [canonRaw, Option.map_eq_some_iff] at hc1
          obtain ⟨cs, hcs, -⟩ := hc1
          obtain ⟨keys, st2, hk, o1⟩ := ih bs (by omega) enc st.reserve D D1 (by rw [hcs]; rfl) hs1
            hr.1 (hpre.left.ofNodes _)
          obtain ⟨ks, st', h2, o2⟩ :=
            rest_ok (st2.fill st.nodes.size (.union keys) none) ((Out.ofNodes _ o1).setNodes _)
          exact ⟨_, st', .union hk h2, o2⟩
        | type t => cases hraw
        | object a f i v => cases hraw
      | some p =>
        obtain ⟨t, o, of, oi, ov⟩ := p
        obtain ⟨b, D0, hb, hck, hsk, hD0, hrk, hlog, hszk⟩ :=
          valid_node hraw (by rw [hc1]; rfl) hs1 hr.1
        have hdefs := defsRaw_node hraw hb
        rw [hdefs, List.append_assoc] at hpre
        obtain ⟨st1, hname, hout1⟩ := nameStep_out hpre
        obtain ⟨kks, st2, hk, o2⟩ := ih b.kids (by omega) b.ns st1 D0 D1 hck hsk hrk
          (((hpre.after hout1).left).weaken hD0)
        obtain ⟨lt, hlt⟩ := logicalStep_ok hlog
        obtain ⟨ks, st', h2, o3⟩ := rest_ok (st2.fill st.nodes.size (b.build kks) lt)
          (by rw [hdefs]; exact (hout1.trans o2).setNodes _)
        exact ⟨_, st', .node hraw hname hb hk hlt h2, o3⟩

theorem register_succeeds {f : Nat} {raw : RawSchema} {enc : Option String} {st : PState}
    {D D' : List Fullname} {c : Json} (hsz : sizeRaw raw ≤ f) (hc : canonRaw enc raw = some c)
    (hs : scanRaw enc raw D = some D') (hr : regOk raw = true)
    (hpre : Pre st (defsRaw enc raw) D) :
    ∃ k st', registerNode f raw enc st = .ok (k, st') ∧ Out st st' (defsRaw enc raw) D' := by
  obtain ⟨ks, st', hreg, hout⟩ := reg_exists _ [raw] (Nat.le_refl _) enc st D D'
    (by simp only [canonRawList, hc]; rfl) (by simp only [scanRawList, hs])
    (by simp only [regOkList, hr]; rfl) (by simpa only [defsRawList, List.append_nil] using hpre)
  obtain ⟨k, rfl, h1⟩ := hreg.runs.single (Nat.le_trans (rawBound_le_sizeRaw raw) hsz)
  exact ⟨k, st', h1, by simpa only [defsRawList, List.append_nil] using hout⟩

end Avro.ValidParses
