import AvroModel.Impl.Schema
/-
What `Schema.keysInBounds` gives at a node, stated once for the serializer and deserializer sides.
-/
namespace Avro.Impl

theorem all_of_getElem? {α : Type} {p : α → Bool} {a : Array α} (h : a.all p = true) {k : Nat}
    {x : α} (hx : a[k]? = some x) : p x = true := by
  rw [Array.all_eq_true'] at h
  exact h x (Array.mem_of_getElem? hx)

theorem lt_size_of_getElem? {α} {xs : Array α} {j : Nat} {a : α} (h : xs[j]? = some a) : j < xs.size :=
  (Array.getElem?_eq_some_iff.mp h).1

theorem exists_getElem? {α} {l : List α} {j : Nat} (h : j < l.length) : ∃ a, l[j]? = some a :=
  ⟨l[j], List.getElem?_eq_getElem h⟩

theorem Schema.children_lt {S : Schema} (hk : S.keysInBounds = true) {k : Nat} {n : Node}
    (h : S[k]? = some n) : ∀ c ∈ n.children, c < S.size := by
  simpa using all_of_getElem? hk h

end Avro.Impl
