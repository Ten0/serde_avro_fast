import AvroModel.Lemmas.SliceTake
/-
The leaves of `deserialize_any`: on a node that makes no nested call the deserializer computes the
specification decoder followed by the observation, whatever the hint, the fuel and the depth budget.
Acceptance and soundness of the leaf kinds are the two readings of that one fact.
-/

namespace Avro.Impl
open Avro Avro.Spec

/-- nodes whose `deserialize_any` makes no nested call and does not look at the visitor's hints
    (`Spec.flat`, the nodes without nested values, without `duration`, whose presentation depends on
    the hint) -/
def Node.isLeaf : Node → Bool
  | .array _ | .map _ | .union _ | .record _ _ | .duration => false
  | _ => true

theorem deAny_leaf {n : Node} (hn : n.isLeaf = true) (ext : DeExt) (S : Schema)
    (cfg : DeConfig) (f d : Nat) (h : Hint) (cfg' : DeConfig) (f' d' : Nat) (h' : Hint) :
    deAny ext cfg S (f + 1) n d h = deAny ext cfg' S (f' + 1) n d' h' := by
  rw [deAny.eq_def, deAny.eq_def]
  cases n <;> first | rfl | cases hn

/-- what `deserialize_any` computes on a leaf: the specification decoder, then the observation -/
def leafSem (S : Schema) (n : Node) (bs : Bytes) : Option (Out × Bytes) :=
  (decodeL Limits.impl S 1 n bs).bind fun p => (observe S n p.1).map fun o => (o, p.2)

theorem flat_of_isLeaf {n : Node} (h : n.isLeaf = true) : flat n = true := by
  cases n <;> first | rfl | cases h

/-- a primitive whose result is a function `g` of what a limited parser `f` returns computes
    `leafSem` on a node whose decoder wraps the same parser in `c`, when `c a` is observed as `g a` -/
theorem Exact.leaf {β : Type} {S : Schema} {n : Node} {m : DeM Out} {f : Bytes → Option (β × Bytes)}
    {g : β → Out} (h : Exact m fun bs => (f bs).map fun p => (g p.1, p.2)) (c : β → Value)
    (hdec : ∀ bs, decodeL Limits.impl S 1 n bs = (f bs).map fun p => (c p.1, p.2))
    (hobs : ∀ b, observe S n (c b) = some (g b)) : Exact m (leafSem S n) := by
  refine h.congr fun bs => ?_
  simp only [leafSem, hdec]
  cases f bs with
  | none => rfl
  | some p => simp only [Option.map_some, Option.bind_some, hobs]

theorem exact_deAny_leaf (cfg : DeConfig) (S : Schema) {n : Node} (hl : n.isLeaf = true) (f d : Nat)
    (h : Hint) : Exact (deAny deExtModel cfg S (f + 1) n d h) (leafSem S n) := by
  cases n with
  | array _ | map _ | union _ | record _ _ | duration => cases hl
  | null =>
    simp only [deAny]
    exact (Exact.pure _).congr fun bs => by simp only [leafSem, decodeL, Option.bind_some, observe, Option.map_some]
  | boolean =>
    simp only [deAny]
    refine exact_readBool.congr fun bs => ?_
    simp only [leafSem, decodeL]
    rcases bs with _ | ⟨b, r⟩
    · rfl
    · by_cases h0 : b = 0
      · subst h0; rfl
      · by_cases h1 : b = 1
        · subst h1; rfl
        · simp only [h0, h1, if_false, Option.bind_none]
  | int | date | timeMillis =>
    simp only [deAny]
    refine (exact_varint_i32.map Out.i32).leaf Value.int (fun bs => ?_) fun _ => rfl
    simp only [decodeL]
    rcases decodeLongL Limits.impl bs with _ | ⟨i, r⟩
    · rfl
    · by_cases h32 : InI32 i <;> simp only [h32, if_true, if_false, Option.bind_some, Option.map_some, Option.map_none]
  | long | timeMicros | timestampMillis | timestampMicros =>
    simp only [deAny]
    refine (exact_varint_i64.map Out.i64).leaf Value.long (fun bs => ?_) fun _ => rfl
    simp only [decodeL]
    cases decodeLongL Limits.impl bs <;> rfl
  | float =>
    simp only [deAny]
    refine ((exact_readExact 4).map _).leaf (fun b => .float (BitVec.ofNat 32 (leToNat b)))
      (fun bs => ?_) fun _ => rfl
    simp only [decodeL]
  | double =>
    simp only [deAny]
    refine ((exact_readExact 8).map _).leaf (fun b => .double (BitVec.ofNat 64 (leToNat b)))
      (fun bs => ?_) fun _ => rfl
    simp only [decodeL]
  | bytes =>
    simp only [deAny]
    refine exact_readBytes.leaf Value.bytes (fun bs => ?_) fun _ => rfl
    simp only [decodeL]
  | string | uuid =>
    simp only [deAny]
    refine exact_readString.leaf Value.string (fun bs => ?_) fun _ => rfl
    simp only [decodeL]
  | fixed nm size =>
    simp only [deAny]
    refine ((exact_readSlice size).map fun p : Bytes × Bool => Out.bytes p.1 p.2).congr fun bs => ?_
    simp only [leafSem, decodeL]
    cases takeN size bs <;> rfl
  | «enum» nm syms =>
    simp only [deAny, readDiscriminant]
    refine (exact_readLen.bind (k := fun d bs => (syms[d]?).map fun sym => (Out.str sym false, bs))
      fun d => ?_).congr fun bs => ?_
    · cases syms[d]?
      · exact Exact.fail _
      · exact Exact.pure _
    · simp only [leafSem, decodeL]
      rcases decodeLenL Limits.impl bs with _ | ⟨d, r⟩
      · rfl
      · by_cases hlt : d < syms.length
        · simp [hlt, observe]
        · simp [hlt]
  | decimal sc pr repr =>
    simp only [deAny]
    cases repr with
    | bytes =>
      refine (exact_readDecimal_str (exact_readDecimalRaw_bytes sc)).congr fun bs => ?_
      simp only [leafSem, decodeL]
      rcases decodeBytesL Limits.impl bs with _ | ⟨m, r⟩
      · rfl
      · by_cases hm : m.length ≤ 16
        · simp [hm, fits16.2 hm, observe, i128OfBE_eq, deExtModel, Function.comp_def]
        · simp [hm, mt fits16.1 hm]
    | fixed nm size =>
      refine (exact_readDecimal_str (exact_readDecimalRaw_fixed sc nm size)).congr fun bs => ?_
      simp only [leafSem, decodeL]
      by_cases hm : size ≤ 16
      · rcases takeN size bs with _ | ⟨m, r⟩
        · simp [hm, fits16.2 hm]
        · simp [hm, fits16.2 hm, observe, i128OfBE_eq, deExtModel, Function.comp_def]
      · simp [hm, mt fits16.1 hm]
  | bigDecimal =>
    simp only [deAny]
    refine (exact_readDecimal_str (mode := .big) exact_readBigRaw).congr fun bs => ?_
    simp only [leafSem, decodeL, bigSpec, bigInner_unfold]
    rcases decodeBytesL Limits.impl bs with _ | ⟨inner, r⟩
    · rfl
    · simp only [Option.bind_some]
      rcases decodeBytesL Limits.impl inner with _ | ⟨m, inner'⟩
      · rfl
      · simp only [Option.bind_some]
        by_cases hm : m.length ≤ 16
        · simp only [hm, fits16.2 hm, if_true]
          rcases decodeLenL Limits.impl inner' with _ | ⟨scale, _ | ⟨x, xs⟩⟩
          · rfl
          · by_cases hsc : scale < 4294967296
            · simp [hsc, observe, i128OfBE_eq, deExtModel, Function.comp_def]
            · have : decToStringModel (fromTwosComplementBE m) scale = none := by
                cases h : decToStringModel (fromTwosComplementBE m) scale with
                | none => rfl
                | some str => have := (decToStringModel_some h).2; omega
              simp [hsc, observe, this]
          · rfl
        · simp [hm, mt fits16.1 hm]

/-- what the reads of `read_decimal` have read, in terms of the specification decoder (the typed
    entry points hand the pair to other visitor calls than `deserialize_any` does) -/
theorem inv_readDecimalRaw_regular (S : Schema) (sc pr : Nat) (repr : DecimalRepr) (bs : Bytes) :
    Inv (readDecimalRaw (.regular sc repr)) bs (fun p r => p.2 = sc ∧
      decodeL Limits.impl S 1 (.decimal sc pr repr) bs = some (.decimal p.1, r)) := by
  cases repr with
  | bytes =>
    refine ((exact_readDecimalRaw_bytes sc).inv bs).mono fun p r h => ?_
    obtain ⟨⟨m, r'⟩, hb, hif⟩ := Option.bind_eq_some_iff.1 h
    split at hif
    · rename_i hm
      cases hif
      exact ⟨rfl, by simp only [decodeL, hb, fits16.2 hm, if_true, i128OfBE_eq]⟩
    · cases hif
  | fixed nm size =>
    refine ((exact_readDecimalRaw_fixed sc nm size).inv bs).mono fun p r h => ?_
    split at h
    · rename_i hm
      obtain ⟨⟨m, r'⟩, hb, hp⟩ := Option.map_eq_some_iff.1 h
      cases hp
      exact ⟨rfl, by simp only [decodeL, hb, fits16.2 hm, if_true, Option.map_some, i128OfBE_eq]⟩
    · cases h

theorem inv_readBigRaw (S : Schema) (bs : Bytes) :
    Inv (readDecimalRaw .big) bs (fun p r =>
      decodeL Limits.impl S 1 .bigDecimal bs = some (.bigDecimal p.1 p.2, r)) := by
  refine (exact_readBigRaw.inv bs).mono fun p r h => ?_
  obtain ⟨⟨inner, r'⟩, h0, hq⟩ := Option.bind_eq_some_iff.1 h
  obtain ⟨x, hi, hx⟩ := Option.map_eq_some_iff.1 hq
  cases hx
  obtain ⟨q, hq, hif⟩ := Option.bind_eq_some_iff.1 hi
  split at hif
  · cases hif
    rw [decodeL_bigDecimal]
    exact Parser.sel_eq_some.2 ⟨inner, h0, by simp only [bigOf, hq, Option.map_some]⟩
  · cases hif

theorem depthOf_maxLen_of_leaf {S : Schema} {n : Node} (hl : n.isLeaf = true) {v : Value} {o : Out}
    (ho : observe S n v = some o) : depthOf v = 0 ∧ maxLen v = 0 := by
  cases v with
  | array _ | map _ | union _ _ | record _ =>
    simp only [observe] at ho
    split at ho
    · cases hl
    · cases ho
  | _ => exact ⟨rfl, rfl⟩

end Avro.Impl
