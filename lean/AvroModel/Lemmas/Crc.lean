import AvroModel.Spec.Crc64
import AvroModel.Impl.Rabin
/-
CRC-64-AVRO: `round` is linear over GF(2) (`round_xor`), so eight rounds are a shift by 8 of the
high 56 bits xor eight rounds of the low byte (`round8_split`).  That is what makes the
table-driven step of the implementation equal to eight bit-serial rounds for all 2^64 × 256
(state, byte) pairs (`C08_step`, `Theorems/C08.lean`: the table only has to be checked on bytes).
-/
namespace Avro
open Avro.Spec Avro.Impl Avro.Generated

private theorem neg_and_one (x : BitVec 64) :
    -(x &&& 1#64) = if x[0] then BitVec.allOnes 64 else 0#64 := by
  have h : x &&& 1#64 = if x[0] then 1#64 else 0#64 := by
    ext i hi
    by_cases h0 : i = 0
    · subst h0; by_cases hx : x[0] <;> simp [hx]
    · by_cases hx : x[0] <;> simp [hx, h0] <;> omega
  rw [h]; split <;> decide

private theorem and_mask_xor (e : BitVec 64) (p q : Bool) :
    e &&& (if (p ^^ q) then BitVec.allOnes 64 else 0#64)
      = (e &&& (if p then BitVec.allOnes 64 else 0#64)) ^^^ (e &&& (if q then BitVec.allOnes 64 else 0#64)) := by
  cases p <;> cases q <;> simp

theorem round_xor (a b : BitVec 64) : round (a ^^^ b) = round a ^^^ round b := by
  unfold round
  rw [neg_and_one, neg_and_one, neg_and_one]
  have hx : (a ^^^ b)[0] = (a[0] ^^ b[0]) := by simp
  rw [hx, and_mask_xor]
  have hs : (a ^^^ b) >>> 1 = (a >>> 1) ^^^ (b >>> 1) := by
    ext i hi; simp
  rw [hs]
  ac_rfl

theorem round8_xor (a b : BitVec 64) : round8 (a ^^^ b) = round8 a ^^^ round8 b := by
  simp only [round8, round_xor]

theorem round_of_low_clear (x : BitVec 64) (h : x[0] = false) : round x = x >>> 1 := by
  unfold round; rw [neg_and_one]; simp [h]

private theorem split_mask (x m : BitVec 64) : x = (x &&& ~~~m) ^^^ (x &&& m) := by
  ext i hi; simp; cases x[i] <;> cases m[i] <;> rfl

theorem round_shift (y : BitVec 64) (k : Nat) (h : y.getLsbD k = false) :
    round (y >>> k) = y >>> (k + 1) := by
  rw [round_of_low_clear]
  · rw [← BitVec.shiftRight_add]
  · simpa using h

/-- `k` rounds on a state whose low `k` bits are clear shift it by `k`. -/
theorem round_repeat_shift (y : BitVec 64) : ∀ k : Nat, (∀ j, j < k → y.getLsbD j = false) →
    Nat.repeat round k y = y >>> k
  | 0, _ => (BitVec.ushiftRight_zero y).symm
  | k + 1, h => by
    rw [Nat.repeat, round_repeat_shift y k (fun j hj => h j (by omega)), round_shift y k (h k (by omega))]

theorem round8_hi (x m : BitVec 64) (hm : ∀ k, k < 8 → m.getLsbD k = true) :
    round8 (x &&& ~~~m) = (x &&& ~~~m) >>> 8 :=
  round_repeat_shift (x &&& ~~~m) 8 (fun j hj => by simp [hm j hj])

private theorem lowmask_hi (i : Nat) : (0xFF#64).getLsbD (8 + i) = false := by
  simp [BitVec.getLsbD, Nat.testBit, Nat.shiftRight_eq_div_pow, Nat.pow_add]
  have : 255 / (256 * 2 ^ i) = 0 := by
    apply Nat.div_eq_of_lt
    have := Nat.one_le_two_pow (n := i)
    omega
  simp [this]

theorem round8_split (x : BitVec 64) : round8 x = (x >>> 8) ^^^ round8 (x &&& 0xFF#64) := by
  have hm : ∀ k, k < 8 → (0xFF#64).getLsbD k = true := by
    intro k hk
    have : k = 0 ∨ k = 1 ∨ k = 2 ∨ k = 3 ∨ k = 4 ∨ k = 5 ∨ k = 6 ∨ k = 7 := by omega
    rcases this with rfl|rfl|rfl|rfl|rfl|rfl|rfl|rfl <;> decide
  have hhi : (x &&& ~~~0xFF#64) >>> 8 = x >>> 8 := by
    ext i hi
    simp only [BitVec.getElem_ushiftRight, BitVec.getLsbD_and, BitVec.getLsbD_not, lowmask_hi]
    simp
    intro h
    exact BitVec.lt_of_getLsbD h
  conv => lhs; rw [split_mask x 0xFF#64]
  rw [round8_xor, round8_hi x _ hm, hhi]

end Avro
