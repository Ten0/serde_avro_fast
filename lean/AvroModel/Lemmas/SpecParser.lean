import AvroModel.Basic.Bytes
/-
The decoders of the specification are parsers `Bytes → Option (α × Bytes)` composed with `bind`.
`Loc p p'` relates two parsers: with `p' = p` it is locality, with `p'` the same decoder under wider
limits or more fuel it is monotonicity (on the same input: `Loc.sub`).  It is closed under `bind`
and `sel`, so it passes from the primitive parsers to every function written as a `bind` chain,
one line per equation.
-/
namespace Avro.Spec
open Avro

abbrev Parser (α : Type) := Bytes → Option (α × Bytes)

namespace Parser
variable {α β : Type}

def bind (p : Parser α) (q : α → Parser β) : Parser β := fun bs =>
  match p bs with
  | none => none
  | some (a, r) => q a r

def ret (a : α) : Parser α := fun bs => some (a, bs)

def ofOpt (o : Option α) : Parser α := fun bs =>
  match o with
  | none => none
  | some a => some (a, bs)

def sel (p : Parser α) (f : α → Option β) : Parser β := fun bs =>
  match p bs with
  | none => none
  | some (a, r) => match f a with
    | none => none
    | some b => some (b, r)

theorem bind_eq_some {p : Parser α} {q : α → Parser β} {bs : Bytes} {x : β × Bytes} :
    bind p q bs = some x ↔ ∃ a r, p bs = some (a, r) ∧ q a r = some x := by
  unfold bind
  constructor
  · intro h
    split at h
    · cases h
    · rename_i a r hp; exact ⟨a, r, hp, h⟩
  · rintro ⟨a, r, hp, hq⟩; simp only [hp, hq]

theorem ofOpt_eq_some {o : Option α} {bs r : Bytes} {a : α} :
    ofOpt o bs = some (a, r) ↔ o = some a ∧ r = bs := by
  cases o with
  | none =>
    constructor
    · intro h; cases h
    · intro h; cases h.1
  | some b =>
    constructor
    · intro h; cases h; exact ⟨rfl, rfl⟩
    · rintro ⟨h, rfl⟩; cases h; rfl

theorem sel_eq_some {p : Parser α} {f : α → Option β} {bs r : Bytes} {b : β} :
    sel p f bs = some (b, r) ↔ ∃ a, p bs = some (a, r) ∧ f a = some b := by
  unfold sel
  constructor
  · intro h
    split at h
    · cases h
    · rename_i a r' hp
      split at h
      · cases h
      · rename_i b' hb; cases h; exact ⟨a, hp, hb⟩
  · rintro ⟨a, hp, hf⟩; simp only [hp, hf]

/-- `sel` with a total function, in the form the inversions of the decoders are stated in -/
theorem sel_some_eq_some {p : Parser α} {g : α → β} {bs r : Bytes} {b : β} :
    sel p (fun a => some (g a)) bs = some (b, r) ↔ ∃ a, p bs = some (a, r) ∧ b = g a := by
  rw [sel_eq_some]
  constructor
  · rintro ⟨a, hp, e⟩; exact ⟨a, hp, (Option.some.inj e).symm⟩
  · rintro ⟨a, hp, rfl⟩; exact ⟨a, hp, rfl⟩

theorem bind_sel_eq_some {γ : Type} {p : Parser α} {q : α → Parser β} {g : α → β → γ}
    {bs r : Bytes} {x : γ} :
    bind p (fun a => sel (q a) fun b => some (g a b)) bs = some (x, r) ↔
      ∃ a r0 b, p bs = some (a, r0) ∧ q a r0 = some (b, r) ∧ x = g a b := by
  rw [bind_eq_some]
  constructor
  · rintro ⟨a, r0, hp, h⟩
    obtain ⟨b, hq, e⟩ := sel_some_eq_some.1 h
    exact ⟨a, r0, b, hp, hq, e⟩
  · rintro ⟨a, r0, b, hp, hq, e⟩
    exact ⟨a, r0, hp, sel_some_eq_some.2 ⟨b, hq, e⟩⟩

theorem ofOpt_bind_eq_some {o : Option α} {q : α → Parser β} {bs : Bytes} {x : β × Bytes} :
    bind (ofOpt o) q bs = some x ↔ ∃ a, o = some a ∧ q a bs = some x := by
  rw [bind_eq_some]
  constructor
  · rintro ⟨a, r, h0, h⟩
    obtain ⟨ho, rfl⟩ := ofOpt_eq_some.1 h0
    exact ⟨a, ho, h⟩
  · rintro ⟨a, ho, h⟩
    exact ⟨a, bs, ofOpt_eq_some.2 ⟨ho, rfl⟩, h⟩

end Parser

/-- On a successful run of `p` the input is `consumed ++ remainder`, and `p'` on the consumed bytes
    followed by anything gives the same result with the new remainder.  `Loc p p` says that `p` is a
    prefix parser. -/
def Loc {α : Type} (p p' : Parser α) : Prop :=
  ∀ bs a r, p bs = some (a, r) → ∃ c, bs = c ++ r ∧ ∀ r', p' (c ++ r') = some (a, r')

namespace Loc
variable {α β : Type}

theorem sub {p p' : Parser α} (h : Loc p p') {bs : Bytes} {x : α × Bytes} (hp : p bs = some x) :
    p' bs = some x := by
  obtain ⟨c, rfl, hc⟩ := h bs x.1 x.2 hp
  exact hc _

theorem ret (a : α) : Loc (Parser.ret a) (Parser.ret a) := by
  intro bs b r h
  cases h
  exact ⟨[], rfl, fun _ => rfl⟩

theorem ofOpt (o : Option α) : Loc (Parser.ofOpt o) (Parser.ofOpt o) := by
  intro bs a r h
  obtain ⟨rfl, rfl⟩ := Parser.ofOpt_eq_some.1 h
  exact ⟨[], rfl, fun _ => rfl⟩

theorem of_eq_none {p p' : Parser α} (h : ∀ bs, p bs = none) : Loc p p' := by
  intro bs a r hp; rw [h] at hp; cases hp

theorem bind {p p' : Parser α} {q q' : α → Parser β} (hp : Loc p p') (hq : ∀ a, Loc (q a) (q' a)) :
    Loc (p.bind q) (p'.bind q') := by
  intro bs b r h
  obtain ⟨a, r0, h1, h2⟩ := Parser.bind_eq_some.1 h
  obtain ⟨c1, rfl, e1⟩ := hp _ _ _ h1
  obtain ⟨c2, rfl, e2⟩ := hq a _ _ _ h2
  refine ⟨c1 ++ c2, (List.append_assoc ..).symm, fun r' => ?_⟩
  rw [List.append_assoc]
  exact Parser.bind_eq_some.2 ⟨a, _, e1 _, e2 _⟩

/-- The filters may differ: this is where a limit that `p'` relaxes is tested. -/
theorem sel {p p' : Parser α} {f f' : α → Option β} (hp : Loc p p')
    (hf : ∀ a b, f a = some b → f' a = some b) : Loc (p.sel f) (p'.sel f') := by
  intro bs b r h
  obtain ⟨a, h1, h2⟩ := Parser.sel_eq_some.1 h
  obtain ⟨c, rfl, e⟩ := hp _ _ _ h1
  exact ⟨c, rfl, fun r' => Parser.sel_eq_some.2 ⟨a, e r', hf _ _ h2⟩⟩

theorem ite {c : Prop} [Decidable c] {p p' q q' : Parser α} (h1 : Loc p p') (h2 : Loc q q') :
    Loc (if c then p else q) (if c then p' else q') := by
  split <;> assumption

theorem map {p p' : Parser α} (hp : Loc p p') (f : α → β) :
    Loc (fun bs => (p bs).map fun x => (f x.1, x.2)) (fun bs => (p' bs).map fun x => (f x.1, x.2)) := by
  intro bs b r h
  obtain ⟨⟨a, r0⟩, h1, h2⟩ := Option.map_eq_some_iff.1 h
  cases h2
  obtain ⟨c, rfl, e⟩ := hp _ _ _ h1
  exact ⟨c, rfl, fun r' => by simp only [e r', Option.map_some]⟩

theorem congr {p p' q q' : Parser α} (h : ∀ bs, p bs = q bs) (h' : ∀ bs, p' bs = q' bs)
    (hq : Loc q q') : Loc p p' := by
  rw [funext h, funext h']; exact hq

end Loc

end Avro.Spec
