import AvroModel.Lemmas.CutClassBig
import AvroModel.Lemmas.OcfStream
import AvroModel.Theorems.C01de
/-
`de` on a cut canonical encoding, reader back-end: class `io`, no condition on the schema
(`Lemmas/CutClassBig.lean` against what `de` accepts, `Theorems/C01de.lean`).
-/
namespace Avro.Theorems.Cut
open Avro Avro.Impl Avro.Theorems

theorem de_cut_reader_io (cfg : DeConfig) (S : Schema) (n : Node) (v : Spec.Value) (enc : Bytes)
    (o : Out) (depth fuel : Nat)
    (henc : Spec.encode S n v = some enc) (hobs : Spec.observe S n v = some o)
    (hfix : Spec.fixedDecOk S n v = true)
    (hdepth : Spec.depthOf v ≤ depth) (hseq : Spec.maxLen v ≤ cfg.maxSeqSize)
    (hfuel : Spec.size v * 4 + 8 ≤ fuel)
    (M : Nat) (s : RState) (hb : BOk M s)
    (y : Bytes) (j : Nat) (hr : s.rest = (enc ++ y).take j) (hM : (enc ++ y).length ≤ M)
    (hj : j < enc.length) :
    ∃ s', de deExtModel cfg S fuel n depth false .any s = (.error .io, s') := by
  let sl : RState := { isSlice := true, rest := enc ++ y, limit := none, avail := 0 }
  have hok := C01_de_accepts cfg S n v enc y o depth henc hobs hfix hdepth hseq fuel hfuel
    sl rfl rfl rfl rfl
  have hts : TSim ((enc ++ y).drop j) s sl :=
    ⟨hb.reader, rfl, by show enc ++ y = _; rw [hr, List.take_append_drop], hb.avail, hb.limit, rfl,
      by rw [hb.alloc]; exact hM⟩
  rcases de_trunc _ deExtModel cfg S fuel n depth false s sl hts o _ hok with
    ⟨a, r', _, ht⟩ | h
  · exfalso
    have h1 := congrArg List.length ht.rest
    simp only [List.length_append, List.length_drop] at h1
    have : ({ sl with rest := y } : RState).rest.length = y.length := rfl
    omega
  · exact h

end Avro.Theorems.Cut
