import AvroModel.Lemmas.CanonExact
import AvroModel.Lemmas.DeLayouts
import AvroModel.Lemmas.SliceBase
/-
The deserializer on CANONICAL encodings, as a corollary of the theorems on all layouts: the
canonical encoding of a value the deserializer can represent is a run of the exact-size decoder
within the implementation's limits (`Spec.decodeX_impl_encode`), so `de_accepts_layouts` applies to
it (`reads_canonical_any`: the encoding followed by anything), and so
do the theorems about ignoring and typed reads on exact layouts (`Theorems/C12.lean`).  The fuel
`3 * size v` is the bound of `de_accepts_layouts`.
-/
namespace Avro.Impl
open Avro Avro.Spec

variable (cfg : DeConfig) (S : Schema)

omit cfg in
theorem decodeX_canonical {n : Node} {v : Value} {enc : Bytes} {o : Out}
    (henc : encode S n v = some enc) (hobs : observe S n v = some o)
    (hfix : fixedDecOk S n v = true) (rest : Bytes) :
    decodeX Limits.impl S (size v) n (enc ++ rest) = some (v, rest) :=
  decodeX_impl_encode S n v enc rest henc (Option.isSome_of_eq_some hobs) hfix _ (Nat.le_refl _)

theorem reads_canonical_any {n : Node} {v : Value} {enc : Bytes} {o : Out} {depth fuel : Nat}
    (henc : encode S n v = some enc) (hobs : observe S n v = some o)
    (hfix : fixedDecOk S n v = true) (hdepth : depthOf v ≤ depth)
    (hmax : maxLen v ≤ cfg.maxSeqSize) (hfuel : 3 * size v ≤ fuel) (r : Bytes) :
    ReadsAt (de deExtModel cfg S fuel n depth false .any) (enc ++ r) r o :=
  de_accepts_layouts cfg S v n (enc ++ r) r o depth _ fuel
    (decodeX_sub _ _ _ _ _ _ (decodeX_canonical S henc hobs hfix r)) hobs hdepth hmax hfuel

end Avro.Impl
