import AvroModel.Impl.OcfHeader
/-
`readHeader` (`Reader::new_and_metadata`), factored: once the metadata map is decoded, what
happens is a pure function `classify` of the list of entries — pick the schema, the codec
(`"null"` when absent: repaired defect D15), the user entries — followed by reading the marker.
`classify` does not depend on the order of the entries (`classify_perm`).  Used by C06.
-/
namespace Avro.C06
open Avro Avro.Impl Avro.Impl.Ocf

abbrev keyBytes (n : String) : Bytes := n.toUTF8.data.toList

/-- the entries of the decoded map, as byte strings -/
abbrev kvOf (entries : List (Out × Out)) : List (Bytes × Bytes) :=
  entries.filterMap fun (k, v) =>
    match outBytes k, outBytes v with
    | some kb, some vb => some (kb, vb)
    | _, _ => none

abbrev schemasOf (kv : List (Bytes × Bytes)) : List (Bytes × Bytes) :=
  kv.filter (·.1 = keyBytes "avro.schema")
abbrev codecsOf (kv : List (Bytes × Bytes)) : List (Bytes × Bytes) :=
  kv.filter (·.1 = keyBytes "avro.codec")
abbrev userOf (kv : List (Bytes × Bytes)) : List (Bytes × Bytes) :=
  kv.filter fun e => e.1 ≠ keyBytes "avro.schema" ∧ e.1 ≠ keyBytes "avro.codec"

/-- the codec named by the `avro.codec` entries (at most one): `"null"` when there is none -/
def codecOf (codecs : List (Bytes × Bytes)) : Option String :=
  match codecs with
  | [] => some "null"
  | (_, v) :: _ => (bytesToStr? v).bind fun n => if knownCodecs.contains n then some n else none

/-- What the header says: the schema, the codec, the user metadata. `none`: rejected. -/
def classify (kv : List (Bytes × Bytes)) : Option (Bytes × String × List (Bytes × Bytes)) :=
  if (schemasOf kv).length ≠ 1 ∨ (codecsOf kv).length > 1 then none else
  match bytesToStr? ((schemasOf kv).headD ([], [])).2 with
  | none => none
  | some _ =>
    match codecOf (codecsOf kv) with
    | none => none
    | some cn => some (((schemasOf kv).headD ([], [])).2, cn, userOf kv)

/-- the end of `readHeader`: classify, then read the marker -/
def headerTail (kv : List (Bytes × Bytes)) (s' : RState) : Except InitErr Header × RState :=
  match classify kv with
  | none => (.error .header, s')
  | some (sj, cn, user) =>
    match readExact 16 s' with
    | (.error _, s'') => (.error .header, s'')
    | (.ok sync, s'') => (.ok { schemaJson := sj, codec := cn, userMeta := user, sync := sync }, s'')

/-- the configuration and fuel `readHeader` decodes the metadata map with -/
def metaDe (s : RState) : Except DeErr Out × RState :=
  deAny deExtModel { maxSeqSize := 1000, allowedDepth := 64 } metaSchema (s.rest.length * 4 + 4096)
    (.map 1) 64 (.map .any .bytes) s

theorem readHeader_eq (src s s' : RState) (entries : List (Out × Out))
    (h4 : readExact 4 src = (.ok [0x4F, 0x62, 0x6A, 0x01], s))
    (hm : metaDe s = (.ok (.map entries), s')) :
    readHeader src = headerTail (kvOf entries) s' := by
  unfold metaDe at hm
  unfold readHeader
  simp only [h4, ne_eq, not_true_eq_false, if_false, hm]
  unfold headerTail classify
  -- `split` names each scrutinee as `readHeader` spells it; `classify` spells the same term through
  -- `schemasOf` / `codecsOf` / `codecOf` (equal by `rfl`), so each hypothesis is restated before the `rw`
  split
  next h =>
    have hc : (schemasOf (kvOf entries)).length ≠ 1 ∨ (codecsOf (kvOf entries)).length > 1 := h
    rw [if_pos hc]
  next h =>
    have hc : ¬ ((schemasOf (kvOf entries)).length ≠ 1 ∨ (codecsOf (kvOf entries)).length > 1) := h
    rw [if_neg hc]
    split
    · rename_i hn
      have hn' : bytesToStr? ((schemasOf (kvOf entries)).headD ([], [])).2 = none := hn
      rw [hn']
    · rename_i v hv
      have hv' : bytesToStr? ((schemasOf (kvOf entries)).headD ([], [])).2 = some v := hv
      rw [hv']
      simp only
      split
      · rename_i hcn
        have hcn' : codecOf (codecsOf (kvOf entries)) = none := hcn
        rw [hcn']
      · rename_i cn hcn
        have hcn' : codecOf (codecsOf (kvOf entries)) = some cn := hcn
        rw [hcn']
        rfl

/-! ### `classify` does not depend on the order of the entries -/

theorem eq_of_perm_length_le_one {β : Type} {l₁ l₂ : List β} (h : l₁.Perm l₂) (h1 : l₁.length ≤ 1) :
    l₁ = l₂ := by
  match l₁, h1 with
  | [], _ => exact (List.nil_perm.1 h).symm
  | [a], _ => exact List.singleton_perm.1 h

theorem classify_perm {kv₁ kv₂ : List (Bytes × Bytes)} (h : kv₁.Perm kv₂) :
    (classify kv₁ = none ∧ classify kv₂ = none) ∨
    ∃ sj cn u₁ u₂, classify kv₁ = some (sj, cn, u₁) ∧ classify kv₂ = some (sj, cn, u₂) ∧
      u₁.Perm u₂ := by
  have hs : (schemasOf kv₁).Perm (schemasOf kv₂) := h.filter _
  have hc : (codecsOf kv₁).Perm (codecsOf kv₂) := h.filter _
  have hu : (userOf kv₁).Perm (userOf kv₂) := h.filter _
  by_cases hcond : (schemasOf kv₁).length ≠ 1 ∨ (codecsOf kv₁).length > 1
  · left
    have hcond2 : (schemasOf kv₂).length ≠ 1 ∨ (codecsOf kv₂).length > 1 := by
      rw [← hs.length_eq, ← hc.length_eq]; exact hcond
    exact ⟨by simp only [classify, hcond, if_true], by simp only [classify, hcond2, if_true]⟩
  · have hs1 : (schemasOf kv₁).length ≤ 1 := by omega
    have hc1 : (codecsOf kv₁).length ≤ 1 := by omega
    have es := eq_of_perm_length_le_one hs hs1
    have ec := eq_of_perm_length_le_one hc hc1
    have hcond2 : ¬ ((schemasOf kv₂).length ≠ 1 ∨ (codecsOf kv₂).length > 1) := by
      rw [← es, ← ec]; exact hcond
    simp only [classify, hcond, if_false, ← es, ← ec]
    cases bytesToStr? ((schemasOf kv₁).headD ([], [])).2 with
    | none => left; exact ⟨rfl, rfl⟩
    | some _ =>
      cases codecOf (codecsOf kv₁) with
      | none => left; exact ⟨rfl, rfl⟩
      | some cn => right; exact ⟨_, cn, _, _, rfl, rfl, hu⟩

theorem kvOf_perm {e₁ e₂ : List (Out × Out)} (h : e₁.Perm e₂) : (kvOf e₁).Perm (kvOf e₂) :=
  h.filterMap _

/-! ### What `classify` accepts -/

theorem classify_no_codec (kv : List (Bytes × Bytes)) (sj : Bytes) (str : String)
    (hs : schemasOf kv = [(keyBytes "avro.schema", sj)]) (hutf : bytesToStr? sj = some str)
    (hc : codecsOf kv = []) :
    classify kv = some (sj, "null", userOf kv) := by
  simp [classify, hs, hc, hutf, codecOf]

theorem classify_codec (kv : List (Bytes × Bytes)) (sj cv : Bytes) (str cn : String)
    (hs : schemasOf kv = [(keyBytes "avro.schema", sj)]) (hutf : bytesToStr? sj = some str)
    (hc : codecsOf kv = [(keyBytes "avro.codec", cv)]) (hcn : bytesToStr? cv = some cn)
    (hk : knownCodecs.contains cn = true) :
    classify kv = some (sj, cn, userOf kv) := by
  have hk' : cn ∈ knownCodecs := by simpa using hk
  simp [classify, hs, hc, hutf, codecOf, hcn, hk']

theorem classify_some {kv : List (Bytes × Bytes)} {sj : Bytes} {cn : String}
    {u : List (Bytes × Bytes)} (h : classify kv = some (sj, cn, u)) :
    (∃ k, schemasOf kv = [(k, sj)]) ∧ (bytesToStr? sj).isSome ∧ (codecsOf kv).length ≤ 1 ∧
      codecOf (codecsOf kv) = some cn ∧ knownCodecs.contains cn = true ∧ u = userOf kv := by
  unfold classify at h
  split at h
  · cases h
  · rename_i hcond
    split at h
    · cases h
    · rename_i str hstr
      split at h
      · cases h
      · rename_i cn' hcn
        simp only [Option.some.injEq, Prod.mk.injEq] at h
        obtain ⟨rfl, rfl, rfl⟩ := h
        have hl : (schemasOf kv).length = 1 := by omega
        refine ⟨?_, by rw [hstr]; rfl, by omega, hcn, ?_, rfl⟩
        · match hsch : schemasOf kv, hl with
          | [(k, v)], _ => exact ⟨k, rfl⟩
        · unfold codecOf at hcn
          split at hcn
          · cases hcn; decide
          · rename_i k v tl heq
            cases hb : bytesToStr? v with
            | none => simp [hb] at hcn
            | some n =>
              simp only [hb, Option.bind] at hcn
              split at hcn
              · cases hcn; assumption
              · cases hcn

end Avro.C06
