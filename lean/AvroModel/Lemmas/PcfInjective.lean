import AvroModel.Lemmas.PcfCanon
/-
C08 (injectivity part): the text of a canonical structure can be parsed back.

`Spec.Pcf.print` writes a JSON string RAW between two quotes (no escaping), so the text determines
the structure only if the strings of the structure (fullnames, field names, symbols) contain no
`"`; and a reference whose fullname is a primitive type name is written like the primitive.
`Canon.namesOk` is that (decidable) condition.  Under it, `parseF` (a recursive-descent parser
with fuel) is a left inverse of `Canon.chars`, whatever follows the text:
`parseF_chars : c.namesOk → c.size ≤ fuel → parseF fuel (c.chars ++ rest) = some (c, rest)`.
-/
namespace Avro.Spec.Pcf
open Avro.Impl (Json)

/-! ### the condition on the strings -/

def strOk (s : String) : Bool := s.toList.all (· != '"')

mutual

/-- every fullname, field name and symbol is free of `"`, and no reference bears a primitive
    type name -/
def Canon.namesOk : Canon → Bool
  | .prim _ => true
  | .ref n => strOk n && !isPrimitive n
  | .array i => i.namesOk
  | .map v => v.namesOk
  | .union bs => Canon.namesOkList bs
  | .enum n syms => strOk n && syms.all strOk
  | .fixed n _ => strOk n
  | .record n fs => strOk n && Canon.namesOkFields fs

def Canon.namesOkList : List Canon → Bool
  | [] => true
  | c :: cs => c.namesOk && Canon.namesOkList cs

def Canon.namesOkFields : List (String × Canon) → Bool
  | [] => true
  | (f, c) :: fs => strOk f && c.namesOk && Canon.namesOkFields fs

end

/-! ### fuel needed by the parser -/

mutual

def Canon.size : Canon → Nat
  | .prim _ => 1
  | .ref _ => 1
  | .array i => 1 + i.size
  | .map v => 1 + v.size
  | .union bs => 1 + Canon.sizeList bs
  | .enum _ syms => 2 + syms.length
  | .fixed _ _ => 1
  | .record _ fs => 1 + Canon.sizeFields fs

def Canon.sizeList : List Canon → Nat
  | [] => 1
  | c :: cs => 1 + c.size + Canon.sizeList cs

def Canon.sizeFields : List (String × Canon) → Nat
  | [] => 1
  | (_, c) :: fs => 2 + c.size + Canon.sizeFields fs

end

/-! ### lexical pieces -/

def untilQuote : List Char → List Char × List Char
  | [] => ([], [])
  | c :: cs => if c = '"' then ([], c :: cs) else (c :: (untilQuote cs).1, (untilQuote cs).2)

theorem untilQuote_append (s r : List Char) (hs : s.all (· != '"') = true)
    (hr : r.head? = some '"') : untilQuote (s ++ r) = (s, r) := by
  induction s with
  | nil =>
    cases r with
    | nil => simp at hr
    | cons c r => simp at hr; subst hr; simp [untilQuote]
  | cons c s ih =>
    simp only [List.all_cons, Bool.and_eq_true, bne_iff_ne, ne_eq] at hs
    simp [untilQuote, hs.1, ih hs.2]

def digitsOf : List Char → List Char × List Char
  | [] => ([], [])
  | c :: cs => if c.isDigit then (c :: (digitsOf cs).1, (digitsOf cs).2) else ([], c :: cs)

theorem digitsOf_append (s : List Char) (c : Char) (r : List Char)
    (hs : ∀ x ∈ s, x.isDigit = true) (hc : c.isDigit = false) :
    digitsOf (s ++ c :: r) = (s, c :: r) := by
  induction s with
  | nil => simp [digitsOf, hc]
  | cons x s ih =>
    have hx : x.isDigit = true := hs x (by simp)
    have := ih (fun y hy => hs y (by simp [hy]))
    simp [digitsOf, hx, this]

def readNat (s : List Char) : Option (Nat × List Char) :=
  if (digitsOf s).1 = [] then none
  else some (Nat.ofDigitChars 10 (digitsOf s).1 0, (digitsOf s).2)

theorem readNat_toDigits (n : Nat) (c : Char) (r : List Char) (hc : c.isDigit = false) :
    readNat (Nat.toDigits 10 n ++ c :: r) = some (n, c :: r) := by
  have h := digitsOf_append (Nat.toDigits 10 n) c r
    (fun x hx => Nat.isDigit_of_mem_toDigits (by decide) (by decide) hx) hc
  simp [readNat, h, Nat.toDigits_ne_nil]

/-- `expect p s`: `s` without its prefix `p`, if `p` is a prefix of `s` -/
def expect : List Char → List Char → Option (List Char)
  | [], s => some s
  | _ :: _, [] => none
  | a :: p, b :: s => if a = b then expect p s else none

theorem expect_append (p s : List Char) : expect p (p ++ s) = some s := by
  induction p with
  | nil => simp [expect]
  | cons a p ih => simp [expect, ih]

/-- a quoted string alone is a primitive type name or a reference -/
def leafOf (s : List Char) : Canon :=
  match Prim.ofString? (String.ofList s) with
  | some p => .prim p
  | none => .ref (String.ofList s)

theorem leafOf_prim (p : Prim) : leafOf p.name.toList = .prim p := by
  simp [leafOf, String.ofList_toList, Prim.ofString?_name]

theorem leafOf_ref (n : String) (h : isPrimitive n = false) : leafOf n.toList = .ref n := by
  have : Prim.ofString? n = none := by
    rw [isPrimitive_eq] at h
    cases h' : Prim.ofString? n with
    | none => rfl
    | some p => rw [h'] at h; cases h
  simp [leafOf, String.ofList_toList, this]

theorem Prim.name_ok (p : Prim) : p.name.toList.all (· != '"') = true := by
  cases p <;> decide

/-! ### the symbols of an enum -/

/-- after a symbol: `]` or `,"symbol"` and so on -/
def readSymsTail : Nat → List Char → Option (List String × List Char)
  | 0, _ => none
  | _ + 1, [] => none
  | fuel + 1, c :: s =>
    if c = ']' then some ([], s)
    else if c = ',' then
      match expect ['"'] s with
      | none => none
      | some s =>
        match expect ['"'] (untilQuote s).2 with
        | none => none
        | some r =>
          match readSymsTail fuel r with
          | none => none
          | some (xs, r') => some (String.ofList (untilQuote s).1 :: xs, r')
    else none

/-- after `[`: `]` or `"symbol"` and the rest -/
def readSyms (fuel : Nat) : List Char → Option (List String × List Char)
  | [] => none
  | c :: s =>
    if c = ']' then some ([], s)
    else if c = '"' then
      match expect ['"'] (untilQuote s).2 with
      | none => none
      | some r =>
        match readSymsTail fuel r with
        | none => none
        | some (xs, r') => some (String.ofList (untilQuote s).1 :: xs, r')
    else none

theorem readSymsTail_chars (syms : List String) (fuel : Nat) (rest : List Char)
    (hok : syms.all strOk = true) (hf : syms.length < fuel) :
    readSymsTail fuel (symsCharsTail syms ++ ']' :: rest) = some (syms, rest) := by
  induction syms generalizing fuel with
  | nil =>
    cases fuel with
    | zero => omega
    | succ fuel => simp [symsCharsTail, readSymsTail]
  | cons x xs ih =>
    cases fuel with
    | zero => omega
    | succ fuel =>
      simp only [List.all_cons, Bool.and_eq_true] at hok
      have hq := untilQuote_append x.toList ('"' :: (symsCharsTail xs ++ ']' :: rest)) hok.1 rfl
      have hrec := ih fuel hok.2 (by simp at hf; omega)
      simp [symsCharsTail, readSymsTail, expect, hq, hrec, String.ofList_toList]

theorem readSyms_chars (syms : List String) (fuel : Nat) (rest : List Char)
    (hok : syms.all strOk = true) (hf : syms.length < fuel) :
    readSyms fuel (symsChars syms ++ ']' :: rest) = some (syms, rest) := by
  cases syms with
  | nil => simp [symsChars, readSyms]
  | cons x xs =>
    simp only [List.all_cons, Bool.and_eq_true] at hok
    have hq := untilQuote_append x.toList ('"' :: (symsCharsTail xs ++ ']' :: rest)) hok.1 rfl
    have hrec := readSymsTail_chars xs fuel rest hok.2 (by simp at hf; omega)
    simp [symsChars, readSyms, expect, hq, hrec, String.ofList_toList]

/-! ### objects: the case analysis, the recursive parsers being parameters -/

/-- `s` begins with `{`; `pf` parses a schema, `pfs` the fields of a record after `[` up to and
    including `]` -/
def parseObjWith (pf : List Char → Option (Canon × List Char))
    (pfs : List Char → Option (List (String × Canon) × List Char)) (fuel : Nat)
    (s : List Char) : Option (Canon × List Char) :=
  match expect kwArray s with
  | some r =>
    (match pf r with
     | some (i, r) =>
       (match expect ['}'] r with
        | some r => some (.array i, r)
        | none => none)
     | none => none)
  | none =>
  match expect kwMap s with
  | some r =>
    (match pf r with
     | some (v, r) =>
       (match expect ['}'] r with
        | some r => some (.map v, r)
        | none => none)
     | none => none)
  | none =>
  match expect kwName s with
  | none => none
  | some r =>
    match expect kwEnum (untilQuote r).2 with
    | some r' =>
      (match readSyms fuel r' with
       | some (syms, r'') =>
         (match expect ['}'] r'' with
          | some r''' => some (.enum (String.ofList (untilQuote r).1) syms, r''')
          | none => none)
       | none => none)
    | none =>
    match expect kwFixed (untilQuote r).2 with
    | some r' =>
      (match readNat r' with
       | some (size, r'') =>
         (match expect ['}'] r'' with
          | some r''' => some (.fixed (String.ofList (untilQuote r).1) size, r''')
          | none => none)
       | none => none)
    | none =>
    match expect kwRecord (untilQuote r).2 with
    | some r' =>
      (match pfs r' with
       | some (fs, r'') =>
         (match expect ['}'] r'' with
          | some r''' => some (.record (String.ofList (untilQuote r).1) fs, r''')
          | none => none)
       | none => none)
    | none => none

/-- one field `{"name":"f","type":T}`; `pf` parses a schema -/
def parseFieldWith (pf : List Char → Option (Canon × List Char)) (s : List Char) :
    Option ((String × Canon) × List Char) :=
  match expect kwName s with
  | none => none
  | some r =>
    match expect kwFieldType (untilQuote r).2 with
    | none => none
    | some r' =>
      match pf r' with
      | none => none
      | some (c, r'') =>
        match expect ['}'] r'' with
        | none => none
        | some r''' => some ((String.ofList (untilQuote r).1, c), r''')

section
variable (pf : List Char → Option (Canon × List Char))
  (pfs : List Char → Option (List (String × Canon) × List Char)) (fuel : Nat)

theorem parseObjWith_array (i : Canon) (x rest : List Char) (h : pf x = some (i, '}' :: rest)) :
    parseObjWith pf pfs fuel (kwArray ++ x) = some (.array i, rest) := by
  simp [parseObjWith, expect_append, h, expect]

theorem expect_kwArray_kwMap (x : List Char) : expect kwArray (kwMap ++ x) = none := by
  simp [expect, kwArray, kwMap]

theorem expect_kwArray_kwName (x : List Char) : expect kwArray (kwName ++ x) = none := by
  simp [expect, kwArray, kwName]

theorem expect_kwMap_kwName (x : List Char) : expect kwMap (kwName ++ x) = none := by
  simp [expect, kwMap, kwName]

theorem expect_kwEnum_kwFixed (x : List Char) : expect kwEnum (kwFixed ++ x) = none := by
  simp [expect, kwEnum, kwFixed]

theorem expect_kwEnum_kwRecord (x : List Char) : expect kwEnum (kwRecord ++ x) = none := by
  simp [expect, kwEnum, kwRecord]

theorem expect_kwFixed_kwRecord (x : List Char) : expect kwFixed (kwRecord ++ x) = none := by
  simp [expect, kwFixed, kwRecord]

theorem parseObjWith_map (v : Canon) (x rest : List Char) (h : pf x = some (v, '}' :: rest)) :
    parseObjWith pf pfs fuel (kwMap ++ x) = some (.map v, rest) := by
  simp [parseObjWith, expect_append, expect_kwArray_kwMap, h, expect]

theorem parseObjWith_enum (n : String) (syms : List String) (x rest : List Char)
    (hn : strOk n = true) (h : readSyms fuel x = some (syms, '}' :: rest)) :
    parseObjWith pf pfs fuel (kwName ++ (n.toList ++ (kwEnum ++ x))) = some (.enum n syms, rest) := by
  have hq := untilQuote_append n.toList (kwEnum ++ x) hn rfl
  simp [parseObjWith, expect_append, expect_kwArray_kwName, expect_kwMap_kwName, hq, h, expect,
    String.ofList_toList]

theorem parseObjWith_fixed (n : String) (size : Nat) (x rest : List Char)
    (hn : strOk n = true) (h : readNat x = some (size, '}' :: rest)) :
    parseObjWith pf pfs fuel (kwName ++ (n.toList ++ (kwFixed ++ x))) = some (.fixed n size, rest) := by
  have hq := untilQuote_append n.toList (kwFixed ++ x) hn rfl
  simp [parseObjWith, expect_append, expect_kwArray_kwName, expect_kwMap_kwName,
    expect_kwEnum_kwFixed, hq, h, expect, String.ofList_toList]

theorem parseObjWith_record (n : String) (fs : List (String × Canon)) (x rest : List Char)
    (hn : strOk n = true) (h : pfs x = some (fs, '}' :: rest)) :
    parseObjWith pf pfs fuel (kwName ++ (n.toList ++ (kwRecord ++ x))) = some (.record n fs, rest) := by
  have hq := untilQuote_append n.toList (kwRecord ++ x) hn rfl
  simp [parseObjWith, expect_append, expect_kwArray_kwName, expect_kwMap_kwName,
    expect_kwEnum_kwRecord, expect_kwFixed_kwRecord, hq, h, expect, String.ofList_toList]

theorem parseFieldWith_chars (f : String) (c : Canon) (x rest : List Char)
    (hf : strOk f = true) (h : pf x = some (c, '}' :: rest)) :
    parseFieldWith pf (kwName ++ (f.toList ++ (kwFieldType ++ x))) = some ((f, c), rest) := by
  have hq := untilQuote_append f.toList (kwFieldType ++ x) hf rfl
  simp [parseFieldWith, expect_append, hq, h, expect, String.ofList_toList]

theorem parseFieldWith_bracket (rest : List Char) : parseFieldWith pf (']' :: rest) = none := by
  simp [parseFieldWith, expect, kwName]

end

/-! ### the parser -/

mutual

def parseF : Nat → List Char → Option (Canon × List Char)
  | 0, _ => none
  | _ + 1, [] => none
  | fuel + 1, c :: t =>
    if c = '"' then
      match expect ['"'] (untilQuote t).2 with
      | some r => some (leafOf (untilQuote t).1, r)
      | none => none
    else if c = '[' then
      match parseElems fuel t with
      | some (cs, r) => some (.union cs, r)
      | none => none
    else if c = '{' then
      parseObjWith (parseF fuel) (parseFields fuel) fuel (c :: t)
    else none

/-- the branches of a union after `[`, up to and including `]` -/
def parseElems : Nat → List Char → Option (List Canon × List Char)
  | 0, _ => none
  | fuel + 1, s =>
    match parseF fuel s with
    | some (c, r) =>
      (match parseTail fuel r with
       | some (cs, r') => some (c :: cs, r')
       | none => none)
    | none =>
      (match expect [']'] s with
       | some r => some ([], r)
       | none => none)

/-- after a branch: `]`, or `,` a branch and so on -/
def parseTail : Nat → List Char → Option (List Canon × List Char)
  | 0, _ => none
  | _ + 1, [] => none
  | fuel + 1, c :: s =>
    if c = ']' then some ([], s)
    else if c = ',' then
      match parseF fuel s with
      | some (x, r) =>
        (match parseTail fuel r with
         | some (xs, r') => some (x :: xs, r')
         | none => none)
      | none => none
    else none

/-- the fields of a record after `[`, up to and including `]` -/
def parseFields : Nat → List Char → Option (List (String × Canon) × List Char)
  | 0, _ => none
  | fuel + 1, s =>
    match parseFieldWith (parseF fuel) s with
    | some (fc, r) =>
      (match parseFieldsTail fuel r with
       | some (fs, r') => some (fc :: fs, r')
       | none => none)
    | none =>
      (match expect [']'] s with
       | some r => some ([], r)
       | none => none)

def parseFieldsTail : Nat → List Char → Option (List (String × Canon) × List Char)
  | 0, _ => none
  | _ + 1, [] => none
  | fuel + 1, c :: s =>
    if c = ']' then some ([], s)
    else if c = ',' then
      match parseFieldWith (parseF fuel) s with
      | some (fc, r) =>
        (match parseFieldsTail fuel r with
         | some (fs, r') => some (fc :: fs, r')
         | none => none)
      | none => none
    else none

end

theorem parseF_bracket (fuel : Nat) (rest : List Char) : parseF fuel (']' :: rest) = none := by
  cases fuel <;> simp [parseF]

theorem parseF_quote (fuel : Nat) (t : List Char) :
    parseF (fuel + 1) ('"' :: t) =
      match expect ['"'] (untilQuote t).2 with
      | some r => some (leafOf (untilQuote t).1, r)
      | none => none := by
  simp [parseF]

theorem parseF_open (fuel : Nat) (t : List Char) :
    parseF (fuel + 1) ('[' :: t) =
      match parseElems fuel t with
      | some (cs, r) => some (.union cs, r)
      | none => none := by
  simp [parseF]

theorem parseF_brace (fuel : Nat) (t : List Char) :
    parseF (fuel + 1) ('{' :: t) =
      parseObjWith (parseF fuel) (parseFields fuel) fuel ('{' :: t) := by
  simp [parseF]

/-- The three keywords that open an object begin with `{`. -/
theorem parseF_kw (fuel : Nat) {kw : List Char} (x : List Char)
    (h : kw = kwArray ∨ kw = kwMap ∨ kw = kwName) :
    parseF (fuel + 1) (kw ++ x) =
      parseObjWith (parseF fuel) (parseFields fuel) fuel (kw ++ x) := by
  rcases h with rfl | rfl | rfl <;> exact parseF_brace fuel _

/-! ### the parser is a left inverse of the printer -/

mutual

theorem parseF_chars : (c : Canon) → ∀ (fuel : Nat) (rest : List Char),
    c.namesOk = true → c.size ≤ fuel → parseF fuel (c.chars ++ rest) = some (c, rest)
  | .prim p, fuel + 1, rest, _, hf => by
    have hq := untilQuote_append p.name.toList ('"' :: rest) (Prim.name_ok p) rfl
    simp [Canon.chars, parseF_quote, hq, expect, leafOf_prim]
  | .ref n, fuel + 1, rest, hok, hf => by
    simp only [Canon.namesOk, Bool.and_eq_true, Bool.not_eq_true'] at hok
    have hq := untilQuote_append n.toList ('"' :: rest) hok.1 rfl
    simp [Canon.chars, parseF_quote, hq, expect, leafOf_ref n hok.2]
  | .array i, fuel + 1, rest, hok, hf => by
    simp only [Canon.namesOk] at hok
    simp only [Canon.size] at hf
    have ih := parseF_chars i fuel ('}' :: rest) hok (by omega)
    simp only [Canon.chars, List.append_assoc, List.cons_append, List.nil_append]
    rw [parseF_kw fuel _ (.inl rfl)]
    exact parseObjWith_array _ _ _ i _ rest ih
  | .map v, fuel + 1, rest, hok, hf => by
    simp only [Canon.namesOk] at hok
    simp only [Canon.size] at hf
    have ih := parseF_chars v fuel ('}' :: rest) hok (by omega)
    simp only [Canon.chars, List.append_assoc, List.cons_append, List.nil_append]
    rw [parseF_kw fuel _ (.inr (.inl rfl))]
    exact parseObjWith_map _ _ _ v _ rest ih
  | .union bs, fuel + 1, rest, hok, hf => by
    simp only [Canon.namesOk] at hok
    simp only [Canon.size] at hf
    have ih := parseElems_chars bs fuel rest hok (by omega)
    simp only [Canon.chars, List.append_assoc, List.cons_append, List.nil_append]
    simp [parseF_open, ih]
  | .enum n syms, fuel + 1, rest, hok, hf => by
    simp only [Canon.namesOk, Bool.and_eq_true] at hok
    simp only [Canon.size] at hf
    have hs := readSyms_chars syms fuel ('}' :: rest) hok.2 (by omega)
    simp only [Canon.chars, List.append_assoc, List.cons_append, List.nil_append]
    rw [parseF_kw fuel _ (.inr (.inr rfl))]
    exact parseObjWith_enum _ _ _ n syms _ rest hok.1 hs
  | .fixed n size, fuel + 1, rest, hok, hf => by
    simp only [Canon.namesOk] at hok
    have hs := readNat_toDigits size '}' rest (by decide)
    simp only [Canon.chars, List.append_assoc, List.cons_append, List.nil_append]
    rw [parseF_kw fuel _ (.inr (.inr rfl))]
    exact parseObjWith_fixed _ _ _ n size _ rest hok hs
  | .record n fs, fuel + 1, rest, hok, hf => by
    simp only [Canon.namesOk, Bool.and_eq_true] at hok
    simp only [Canon.size] at hf
    have ih := parseFields_chars fs fuel ('}' :: rest) hok.2 (by omega)
    simp only [Canon.chars, List.append_assoc, List.cons_append, List.nil_append]
    rw [parseF_kw fuel _ (.inr (.inr rfl))]
    exact parseObjWith_record _ _ _ n fs _ rest hok.1 ih
  | c, 0, _, _, hf => by cases c <;> simp [Canon.size] at hf

theorem parseElems_chars : (cs : List Canon) → ∀ (fuel : Nat) (rest : List Char),
    Canon.namesOkList cs = true → Canon.sizeList cs ≤ fuel →
      parseElems fuel (Canon.charsList cs ++ ']' :: rest) = some (cs, rest)
  | [], fuel + 1, rest, _, hf => by
    simp [Canon.charsList, parseElems, parseF_bracket, expect]
  | c :: cs, fuel + 1, rest, hok, hf => by
    simp only [Canon.namesOkList, Bool.and_eq_true] at hok
    simp only [Canon.sizeList] at hf
    have h1 := parseF_chars c fuel (Canon.charsTail cs ++ ']' :: rest) hok.1 (by omega)
    have h2 := parseTail_chars cs fuel rest hok.2 (by omega)
    simp [Canon.charsList, parseElems, h1, h2]
  | cs, 0, _, _, hf => by cases cs <;> simp [Canon.sizeList] at hf

theorem parseTail_chars : (cs : List Canon) → ∀ (fuel : Nat) (rest : List Char),
    Canon.namesOkList cs = true → Canon.sizeList cs ≤ fuel →
      parseTail fuel (Canon.charsTail cs ++ ']' :: rest) = some (cs, rest)
  | [], fuel + 1, rest, _, hf => by
    simp [Canon.charsTail, parseTail]
  | c :: cs, fuel + 1, rest, hok, hf => by
    simp only [Canon.namesOkList, Bool.and_eq_true] at hok
    simp only [Canon.sizeList] at hf
    have h1 := parseF_chars c fuel (Canon.charsTail cs ++ ']' :: rest) hok.1 (by omega)
    have h2 := parseTail_chars cs fuel rest hok.2 (by omega)
    simp [Canon.charsTail, parseTail, h1, h2]
  | cs, 0, _, _, hf => by cases cs <;> simp [Canon.sizeList] at hf

theorem parseFields_chars : (fs : List (String × Canon)) → ∀ (fuel : Nat) (rest : List Char),
    Canon.namesOkFields fs = true → Canon.sizeFields fs ≤ fuel →
      parseFields fuel (Canon.charsFields fs ++ ']' :: rest) = some (fs, rest)
  | [], fuel + 1, rest, _, hf => by
    simp [Canon.charsFields, parseFields, parseFieldWith_bracket, expect]
  | (f, c) :: fs, fuel + 1, rest, hok, hf => by
    simp only [Canon.namesOkFields, Bool.and_eq_true] at hok
    simp only [Canon.sizeFields] at hf
    have h1 := parseF_chars c fuel ('}' :: (Canon.charsFieldsTail fs ++ ']' :: rest)) hok.1.2
      (by omega)
    have h1' := parseFieldWith_chars (parseF fuel) f c _ _ hok.1.1 h1
    have h2 := parseFieldsTail_chars fs fuel rest hok.2 (by omega)
    simp only [Canon.charsFields, List.append_assoc, List.cons_append]
    simp [parseFields, h1', h2]
  | fs, 0, _, _, hf => by cases fs <;> simp [Canon.sizeFields] at hf

theorem parseFieldsTail_chars : (fs : List (String × Canon)) → ∀ (fuel : Nat) (rest : List Char),
    Canon.namesOkFields fs = true → Canon.sizeFields fs ≤ fuel →
      parseFieldsTail fuel (Canon.charsFieldsTail fs ++ ']' :: rest) = some (fs, rest)
  | [], fuel + 1, rest, _, hf => by
    simp [Canon.charsFieldsTail, parseFieldsTail]
  | (f, c) :: fs, fuel + 1, rest, hok, hf => by
    simp only [Canon.namesOkFields, Bool.and_eq_true] at hok
    simp only [Canon.sizeFields] at hf
    have h1 := parseF_chars c fuel ('}' :: (Canon.charsFieldsTail fs ++ ']' :: rest)) hok.1.2
      (by omega)
    have h1' := parseFieldWith_chars (parseF fuel) f c _ _ hok.1.1 h1
    have h2 := parseFieldsTail_chars fs fuel rest hok.2 (by omega)
    simp only [Canon.charsFieldsTail, List.append_assoc, List.cons_append]
    simp [parseFieldsTail, h1', h2]
  | fs, 0, _, _, hf => by cases fs <;> simp [Canon.sizeFields] at hf

end

/-! ### injectivity -/

/-- the text is self-delimiting -/
theorem Canon.chars_append_injective {c₁ c₂ : Canon} {r₁ r₂ : List Char}
    (h₁ : c₁.namesOk = true) (h₂ : c₂.namesOk = true)
    (h : c₁.chars ++ r₁ = c₂.chars ++ r₂) : c₁ = c₂ ∧ r₁ = r₂ := by
  have e₁ := parseF_chars c₁ (max c₁.size c₂.size) r₁ h₁ (Nat.le_max_left _ _)
  have e₂ := parseF_chars c₂ (max c₁.size c₂.size) r₂ h₂ (Nat.le_max_right _ _)
  rw [h, e₂] at e₁
  simpa using e₁.symm

theorem Canon.chars_injective {c₁ c₂ : Canon} (h₁ : c₁.namesOk = true) (h₂ : c₂.namesOk = true)
    (h : c₁.chars = c₂.chars) : c₁ = c₂ :=
  (Canon.chars_append_injective (r₁ := []) (r₂ := []) h₁ h₂ (by rw [h])).1

theorem Canon.text_injective {c₁ c₂ : Canon} (h₁ : c₁.namesOk = true) (h₂ : c₂.namesOk = true)
    (h : c₁.text = c₂.text) : c₁ = c₂ := by
  apply Canon.chars_injective h₁ h₂
  rw [← Canon.toList_text, ← Canon.toList_text, h]

/-! ### a parser without fuel parameter: twice the length of the text is enough fuel -/

theorem symsCharsTail_length (syms : List String) :
    syms.length ≤ (symsCharsTail syms).length := by
  induction syms with
  | nil => simp [symsCharsTail]
  | cons x xs ih => simp [symsCharsTail]; omega

theorem symsChars_length (syms : List String) : syms.length ≤ (symsChars syms).length := by
  cases syms with
  | nil => simp [symsChars]
  | cons x xs => have := symsCharsTail_length xs; simp [symsChars]; omega

/-! The keywords enter the bound only through their lengths. -/

@[simp] theorem kwArray_length : kwArray.length = 24 := rfl
@[simp] theorem kwMap_length : kwMap.length = 23 := rfl
@[simp] theorem kwName_length : kwName.length = 9 := rfl
@[simp] theorem kwEnum_length : kwEnum.length = 27 := rfl
@[simp] theorem kwFixed_length : kwFixed.length = 24 := rfl
@[simp] theorem kwRecord_length : kwRecord.length = 28 := rfl
@[simp] theorem kwFieldType_length : kwFieldType.length = 9 := rfl

mutual

theorem Canon.size_le : (c : Canon) → c.size + 1 ≤ 2 * c.chars.length
  | .prim _ | .ref _ => by simp [Canon.size, Canon.chars]; omega
  | .array i | .map i => by
    have := Canon.size_le i
    simp [Canon.size, Canon.chars]; omega
  | .union bs => by
    have := Canon.sizeList_le bs
    simp [Canon.size, Canon.chars]; omega
  | .enum n syms => by
    have := symsChars_length syms
    simp [Canon.size, Canon.chars]; omega
  | .fixed n size => by simp [Canon.size, Canon.chars]; omega
  | .record n fs => by
    have := Canon.sizeFields_le fs
    simp [Canon.size, Canon.chars]; omega

theorem Canon.sizeList_le : (cs : List Canon) →
    Canon.sizeList cs ≤ 2 * (Canon.charsList cs).length + 1
  | [] => by simp [Canon.sizeList, Canon.charsList]
  | c :: cs => by
    have := Canon.size_le c
    have := Canon.sizeTail_le cs
    simp [Canon.sizeList, Canon.charsList]; omega

theorem Canon.sizeTail_le : (cs : List Canon) →
    Canon.sizeList cs ≤ 2 * (Canon.charsTail cs).length + 1
  | [] => by simp [Canon.sizeList, Canon.charsTail]
  | c :: cs => by
    have := Canon.size_le c
    have := Canon.sizeTail_le cs
    simp [Canon.sizeList, Canon.charsTail]; omega

theorem Canon.sizeFields_le : (fs : List (String × Canon)) →
    Canon.sizeFields fs ≤ 2 * (Canon.charsFields fs).length + 1
  | [] => by simp [Canon.sizeFields, Canon.charsFields]
  | (f, c) :: fs => by
    have := Canon.size_le c
    have := Canon.sizeFieldsTail_le fs
    simp [Canon.sizeFields, Canon.charsFields]; omega

theorem Canon.sizeFieldsTail_le : (fs : List (String × Canon)) →
    Canon.sizeFields fs ≤ 2 * (Canon.charsFieldsTail fs).length + 1
  | [] => by simp [Canon.sizeFields, Canon.charsFieldsTail]
  | (f, c) :: fs => by
    have := Canon.size_le c
    have := Canon.sizeFieldsTail_le fs
    simp [Canon.sizeFields, Canon.charsFieldsTail]; omega

end

def Canon.parse (s : List Char) : Option (Canon × List Char) := parseF (2 * s.length) s

theorem Canon.parse_chars (c : Canon) (rest : List Char) (h : c.namesOk = true) :
    Canon.parse (c.chars ++ rest) = some (c, rest) := by
  apply parseF_chars c _ rest h
  have := Canon.size_le c
  simp only [List.length_append]
  omega

theorem Canon.parse_text (c : Canon) (h : c.namesOk = true) :
    Canon.parse c.text.toList = some (c, []) := by
  rw [Canon.toList_text]
  simpa using Canon.parse_chars c [] h

end Avro.Spec.Pcf
