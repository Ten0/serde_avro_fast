import AvroModel.Lemmas.RenderPcf
import AvroModel.Lemmas.RenderValidBase
import AvroModel.Lemmas.CycleCheck
/-
C09: the document the renderer writes for a node graph is a VALID document (`Spec.ValidDoc`),
and has no unconditional record cycle if the graph has none.

`valid_of_renders`: by induction on what the renderer wrote (`Renders`), the recursions of
`Spec/ValidDoc.lean` on the document (`definedNamesIn`, `wellTyped`, `ranked`; `shape` and
`noForwardRefs` are `Lemmas/RenderPcf.lean`), with the list `new`, in document order, of the named
nodes written in full on the way.  The walk also records what it covers (`Covered`): at the end
every node reachable from the root is covered, so that `new` is EXACTLY the set of reachable named
nodes and every reachable key is in bounds (`render_doc_facts`); and `PQ Q node` of every node
rendered in full, which gives the converse `wellTyped j = true → NodesOk S`.

The hypotheses (`ReachNamesWF`, `DistinctNames`, `NodesOk`, `RankOk` / `NoRecCycle`) look at the
nodes REACHABLE from the root only (`Reach`, `Lemmas/Renders.lean`).
-/
namespace Avro.RenderValid
open Avro Avro.Impl Avro.Spec Avro.Spec.Pcf Avro.RenderPcf

/-- fullname of the named node `i` -/
def fnOf (S : SchemaMut) (i : Nat) : Fullname :=
  match S[i]? with
  | some node =>
    match nameOf node.type with
    | some nm => (nm.ns, nm.short)
    | none => (none, "")
  | none => (none, "")

theorem fnOf_eq {S : SchemaMut} {i : Nat} {node : RawNode} {nm : Name}
    (hk : S[i]? = some node) (hn : nameOf node.type = some nm) : fnOf S i = (nm.ns, nm.short) := by
  simp only [fnOf, hk, hn]

/-- **Distinct fullnames**: two named nodes reachable from the root that have the same fullname
    are the same node. -/
def DistinctNames (S : SchemaMut) : Prop :=
  ∀ (i j : Nat) (ni nj : RawNode) (nmi nmj : Name), Reach S i → Reach S j →
    S[i]? = some ni → S[j]? = some nj → nameOf ni.type = some nmi → nameOf nj.type = some nmj →
    (nmi.ns, nmi.short) = (nmj.ns, nmj.short) → i = j

/-- what the parser demands of the numbers and of the logical type of a node -/
def nodeOkB (node : RawNode) : Bool :=
  logicalOkB node.logical &&
    match node.type with
    | .fixed _ size => decide (size ≤ 2 ^ 64 - 1)
    | _ => true

def NodesOk (S : SchemaMut) : Prop :=
  ∀ (i : Nat) (node : RawNode), Reach S i → S[i]? = some node → nodeOkB node = true

/-- `rank` puts every reachable record above the named types that are the type of one of its
    fields -/
def RankOk (S : SchemaMut) (rank : Fullname → Nat) : Prop :=
  ∀ (i : Nat) (ni : RawNode) (nmi : Name) (fs : List (String × Nat)) (k : Nat) (nk : RawNode)
    (nmk : Name), Reach S i → S[i]? = some ni → ni.type = .record nmi fs → k ∈ fs.map (·.2) →
    S[k]? = some nk → nameOf nk.type = some nmk →
    rank (nmk.ns, nmk.short) < rank (nmi.ns, nmi.short)

/-! ### what the walk covers

`Covered S P W k`: the node `k` exists, and either it is a named node of `W` (written in full
somewhere) or it is an unnamed node that satisfies `P` and all of whose children are covered.
Used to show that the walk reaches EVERY node reachable from the root (`reach_covered`): the
reachable keys are in bounds, and `W` is exactly the set of reachable named nodes. -/

inductive Covered (S : SchemaMut) (P : RawNode → Prop) (W : List Nat) : Nat → Prop
  | named {k : Nat} {node : RawNode} {nm : Name} :
      S[k]? = some node → nameOf node.type = some nm → k ∈ W → Covered S P W k
  | unnamed {k : Nat} {node : RawNode} :
      S[k]? = some node → nameOf node.type = none → P node →
      (∀ c ∈ node.type.children, Covered S P W c) → Covered S P W k

theorem Covered.mono {S : SchemaMut} {P : RawNode → Prop} {W W' : List Nat}
    (h : ∀ i ∈ W, i ∈ W') {k : Nat} (hc : Covered S P W k) : Covered S P W' k := by
  induction hc with
  | named hk hn hm => exact .named hk hn (h _ hm)
  | unnamed hk hn hp _ ih => exact .unnamed hk hn hp ih

def ChildrenCovered (S : SchemaMut) (P : RawNode → Prop) (W new : List Nat) : Prop :=
  ∀ i ∈ new, ∀ node, S[i]? = some node → P node ∧ ∀ c ∈ node.type.children, Covered S P W c

theorem ChildrenCovered.mono {S : SchemaMut} {P : RawNode → Prop} {W W' new : List Nat}
    (h : ∀ i ∈ W, i ∈ W') (hc : ChildrenCovered S P W new) : ChildrenCovered S P W' new :=
  fun i hi node hk => ⟨(hc i hi node hk).1, fun c hcm => ((hc i hi node hk).2 c hcm).mono h⟩

theorem ChildrenCovered.nil (S : SchemaMut) (P : RawNode → Prop) (W : List Nat) :
    ChildrenCovered S P W [] := by
  intro i hi; cases hi

theorem ChildrenCovered.append {S : SchemaMut} {P : RawNode → Prop} {W a b : List Nat}
    (ha : ChildrenCovered S P W a) (hb : ChildrenCovered S P W b) :
    ChildrenCovered S P W (a ++ b) := by
  intro i hi
  rcases List.mem_append.mp hi with h | h
  · exact ha i h
  · exact hb i h

theorem reach_covered {S : SchemaMut} {P : RawNode → Prop} {W : List Nat}
    (h0 : Covered S P W 0) (hc : ChildrenCovered S P W W) {k : Nat} (hr : Reach S k) :
    Covered S P W k := by
  induction hr with
  | root => exact h0
  | step _ hk hcm ih =>
    cases ih with
    | named hk' hn hm =>
      rw [hk] at hk'; cases hk'
      exact (hc _ hm _ hk).2 _ hcm
    | unnamed hk' hn _ hall =>
      rw [hk] at hk'; cases hk'
      exact hall _ hcm

theorem covered_P {S : SchemaMut} {P : RawNode → Prop} {W : List Nat}
    (hc : ChildrenCovered S P W W) {k : Nat} {node : RawNode} (hk : S[k]? = some node)
    (h : Covered S P W k) : P node := by
  cases h with
  | named hk' _ hm => exact (hc _ hm _ hk).1
  | unnamed hk' _ hp _ => rw [hk] at hk'; cases hk'; exact hp

/-- the property recorded for every node the walk renders in full: if `Q` (the whole document is
    `wellTyped`) then the node is `nodeOkB` -/
def PQ (Q : Prop) : RawNode → Prop := fun node => Q → nodeOkB node = true

theorem nodeOkB_of (node : RawNode) (h1 : logicalOkB node.logical = true)
    (h2 : ∀ nm sz, node.type = .fixed nm sz → sz ≤ 2 ^ 64 - 1) : nodeOkB node = true := by
  unfold nodeOkB
  rw [h1, Bool.true_and]
  cases ht : node.type <;> try rfl
  rename_i nm sz
  simpa using h2 nm sz ht

def IsNamed (S : SchemaMut) (i : Nat) : Prop :=
  ∃ node nm, S[i]? = some node ∧ nameOf node.type = some nm

theorem childrenCovered_leaf {S : SchemaMut} {Q : Prop} {W : List Nat} {key : Nat} {node : RawNode}
    (hk : S[key]? = some node) (hch : node.type.children = []) (hP : PQ Q node) :
    ChildrenCovered S (PQ Q) W [key] := by
  intro i hi node' hk'
  simp only [List.mem_singleton] at hi
  subst hi
  rw [hk] at hk'; cases hk'
  refine ⟨hP, ?_⟩
  intro c hc
  rw [hch] at hc; cases hc

/-! ### the document written for one node -/

section
variable {S : SchemaMut} {n : Nat} {W W' : List Nat} {ns : Option String} {k : Nat} {j : Json}

theorem not_null_of_renders (h : Renders S n W ns (.node k) (.one j) W') : isNull j = false := by
  cases h with
  | @prim _ _ _ node => cases node.logical <;> rfl
  | _ => rfl

theorem directBelow_of_renders (hwf : ReachNamesWF S) (rank : Fullname → Nat) (owner : Fullname)
    (h : Renders S n W ns (.node k) (.one j) W')
    (hb : ∀ node nm, S[k]? = some node → nameOf node.type = some nm →
      rank (nm.ns, nm.short) < rank owner) :
    directBelow rank owner ns j = true := by
  cases h with
  | @prim _ _ _ node t _ hk hp =>
    have hprim := primText_isPrimitive hp
    cases hl : node.logical with
    | none => simp only [directBelow, hprim, Bool.true_or]
    | some lt => exact (valid_written_prim rank ns t lt hprim).2.2 owner
  | array => exact (valid_written_array rank ns _ _).2.2 owner
  | map => exact (valid_written_map rank ns _ _).2.2 owner
  | union => simp only [directBelow]
  | again hr hk hn =>
    simp only [directBelow, ref_fullname _ (hwf k _ _ hr hk hn) ns, hb _ _ hk hn, decide_true,
      Bool.or_true]
  | enum hr hk | fixed hr hk =>
    exact (valid_written_named_leaf rank ns _ (by simp) _ _ (hwf k _ _ hr hk rfl) _ rfl).2.2 owner
  | record hr hk =>
    rw [(valid_written_record rank ns _ _ (hwf k _ _ hr hk rfl) _).2.2 owner]
    exact decide_eq_true (hb _ _ hk rfl)

end

/-! ### the walk

By induction on what the renderer wrote (`Renders`): `new` lists, in document order, the named
nodes written in full on the way.  Only `ReachNamesWF S` is a hypothesis of the walk; `NodesOk S`
is needed for `wellTyped` only, `RankOk S rank` for `ranked` only.  `Q` is assumed to imply `wellTyped` of the document at hand. -/

theorem valid_of_renders {S : SchemaMut} (hwf : ReachNamesWF S) (rank : Fullname → Nat) (Q : Prop)
    {n : Nat} {W W' : List Nat} {ns : Option String} {job : WalkJob} {doc : WalkDoc}
    (h : Renders S n W ns job doc W') :
    ∃ new : List Nat, W' = new.reverse ++ W ∧ (∀ i ∈ new, Reach S i ∧ IsNamed S i) ∧
      match job, doc with
      | .node k, .one j => (Q → wellTyped j = true) →
          definedNamesIn ns j = new.map (fnOf S) ∧ (NodesOk S → wellTyped j = true) ∧
          (RankOk S rank → ranked rank ns j = true) ∧
          Covered S (PQ Q) W' k ∧ ChildrenCovered S (PQ Q) W' new
      | .list ks, .many js => (Q → wtList js = true) →
          defsList ns js = new.map (fnOf S) ∧ (NodesOk S → wtList js = true) ∧
          (RankOk S rank → rankedList rank ns js = true) ∧
          (∀ k ∈ ks, Covered S (PQ Q) W' k) ∧ ChildrenCovered S (PQ Q) W' new
      | .fields fs, .many js => (Q → wtFields js = true) →
          defsFields ns js = new.map (fnOf S) ∧ (NodesOk S → wtFields js = true) ∧
          (∀ owner : Fullname, owner.1 = ns →
            (∀ p ∈ fs, ∀ node nm, S[p.2]? = some node → nameOf node.type = some nm →
              rank (nm.ns, nm.short) < rank owner) →
            RankOk S rank → rankedFields rank owner js = true) ∧
          (∀ p ∈ fs, Covered S (PQ Q) W' p.2) ∧ ChildrenCovered S (PQ Q) W' new
      | _, _ => True := by
  induction h with
  | @prim W ns k node t hr hk hp =>
    refine ⟨[], rfl, by simp, ?_⟩
    have hprim := primText_isPrimitive hp
    obtain ⟨h1, h2, h3, h4, h5⟩ := isPrimitive_not_complex t hprim
    have hun : nameOf node.type = none := by
      cases ht : node.type <;> rw [ht] at hp <;> simp [primText] at hp <;> rfl
    have hch : node.type.children = [] := by
      cases ht : node.type <;> rw [ht] at hp <;> simp [primText] at hp <;> rfl
    have hcov : PQ Q node → Covered S (PQ Q) W k := fun hP =>
      .unnamed hk hun hP (by rw [hch]; intro c hc; cases hc)
    have hfix : ∀ nm sz, node.type = .fixed nm sz → sz ≤ 2 ^ 64 - 1 := by
      intro nm sz ht; rw [ht] at hp; simp [primText] at hp
    show (Q → wellTyped _ = true) → _
    cases hl : node.logical with
    | none =>
      intro hq
      exact ⟨by simp [definedNamesIn], fun _ => wellTyped_prim t hprim, fun _ => by simp [ranked],
        hcov fun _ => nodeOkB_of _ (by rw [hl]; rfl) hfix, ChildrenCovered.nil _ _ _⟩
    | some lt =>
      intro hq
      obtain ⟨hd1, hd2, -⟩ := valid_written_prim rank ns t lt hprim
      have hiff := wellTyped_leaf_iff t (some lt) (isTypeName_prim t hprim)
      refine ⟨hd1, ?_, fun _ => hd2,
        hcov fun q => nodeOkB_of _ (by rw [hl]; exact hiff.mp (hq q)) hfix,
        ChildrenCovered.nil _ _ _⟩
      intro hok
      have hok' := hok k node hr hk
      simp only [nodeOkB, Bool.and_eq_true] at hok'
      exact hiff.mpr (by rw [← hl]; exact hok'.1)
  | @array n W W' ns k lg items j hr hk hd ih =>
    obtain ⟨new, hW, hnew, hrest⟩ := ih
    refine ⟨new, hW, hnew, ?_⟩
    intro hq
    have hiff := wellTyped_array_iff lg j (not_null_of_renders hd)
    obtain ⟨hdf, hw, hrk, hc, hcl⟩ := hrest fun q => (hiff.mp (hq q)).2
    obtain ⟨hd1, hd2, -⟩ := valid_written_array rank ns lg j
    refine ⟨hd1.trans hdf, ?_, fun hR => hd2.trans (hrk hR), ?_, hcl⟩
    · intro hok
      have hok' := hok k _ hr hk
      simp only [nodeOkB, Bool.and_eq_true] at hok'
      exact hiff.mpr ⟨hok'.1, hw hok⟩
    · refine .unnamed hk rfl (fun q => nodeOkB_of _ (hiff.mp (hq q)).1
        (fun nm sz ht => by cases ht)) ?_
      intro c hcm
      simp only [RegularType.children, List.mem_singleton] at hcm
      subst hcm; exact hc
  | @map n W W' ns k lg values j hr hk hd ih =>
    obtain ⟨new, hW, hnew, hrest⟩ := ih
    refine ⟨new, hW, hnew, ?_⟩
    intro hq
    have hiff := wellTyped_map_iff lg j (not_null_of_renders hd)
    obtain ⟨hdf, hw, hrk, hc, hcl⟩ := hrest fun q => (hiff.mp (hq q)).2
    obtain ⟨hd1, hd2, -⟩ := valid_written_map rank ns lg j
    refine ⟨hd1.trans hdf, ?_, fun hR => hd2.trans (hrk hR), ?_, hcl⟩
    · intro hok
      have hok' := hok k _ hr hk
      simp only [nodeOkB, Bool.and_eq_true] at hok'
      exact hiff.mpr ⟨hok'.1, hw hok⟩
    · refine .unnamed hk rfl (fun q => nodeOkB_of _ (hiff.mp (hq q)).1
        (fun nm sz ht => by cases ht)) ?_
      intro c hcm
      simp only [RegularType.children, List.mem_singleton] at hcm
      subst hcm; exact hc
  | @union n W W' ns k vs js _ hk _ ih =>
    obtain ⟨new, hW, hnew, hrest⟩ := ih
    refine ⟨new, hW, hnew, ?_⟩
    intro hq
    obtain ⟨hdf, hw, hrk, hc, hcl⟩ := hrest fun q => by simpa only [wellTyped] using hq q
    exact ⟨by simp only [definedNamesIn, hdf], fun hok => by simp only [wellTyped, hw hok],
      fun hR => by simp only [ranked, hrk hR],
      .unnamed hk rfl (fun _ => rfl)
        (fun c hcm => hc c (by simpa [RegularType.children] using hcm)), hcl⟩
  | @again W ns k node nm hr hk hn hm =>
    refine ⟨[], rfl, by simp, ?_⟩
    intro _
    exact ⟨by simp [definedNamesIn], fun _ => wellTyped_ref nm (hwf k node nm hr hk hn) ns,
      fun _ => by simp [ranked], .named hk hn hm, ChildrenCovered.nil _ _ _⟩
  | @enum W ns k lg nm syms hr hk hm =>
    refine ⟨[k], rfl, ?_, ?_⟩
    · intro i hi
      simp only [List.mem_singleton] at hi
      subst hi; exact ⟨hr, _, nm, hk, rfl⟩
    intro hq
    obtain ⟨hd1, hd2, -⟩ := valid_written_named_leaf rank ns "enum" (by simp) lg nm
      (hwf k _ nm hr hk rfl) [("symbols", .arr (syms.map .str))] rfl
    refine ⟨by rw [hd1, List.map_cons, List.map_nil, fnOf_eq hk rfl], ?_, fun _ => hd2,
      .named hk rfl (by simp), childrenCovered_leaf hk rfl
        (fun q => nodeOkB_of _ ((wellTyped_enum_iff lg ns nm syms).mp (hq q))
          (fun nm sz ht => by cases ht))⟩
    · intro hok
      have hok' := hok k _ hr hk
      simp only [nodeOkB, Bool.and_eq_true] at hok'
      exact (wellTyped_enum_iff lg ns nm syms).mpr hok'.1
  | @fixed W ns k lg nm size hr hk hm =>
    refine ⟨[k], rfl, ?_, ?_⟩
    · intro i hi
      simp only [List.mem_singleton] at hi
      subst hi; exact ⟨hr, _, nm, hk, rfl⟩
    intro hq
    obtain ⟨hd1, hd2, -⟩ := valid_written_named_leaf rank ns "fixed" (by simp) lg nm
      (hwf k _ nm hr hk rfl) [("size", .nat size)] rfl
    refine ⟨by rw [hd1, List.map_cons, List.map_nil, fnOf_eq hk rfl], ?_, fun _ => hd2,
      .named hk rfl (by simp), childrenCovered_leaf hk rfl
        (fun q => nodeOkB_of _ ((wellTyped_fixed_iff lg ns nm size).mp (hq q)).1
          (fun nm' sz ht => by cases ht; exact ((wellTyped_fixed_iff lg ns nm size).mp (hq q)).2))⟩
    · intro hok
      have hok' := hok k _ hr hk
      simp only [nodeOkB, Bool.and_eq_true, decide_eq_true_eq] at hok'
      exact (wellTyped_fixed_iff lg ns nm size).mpr hok'
  | @record n W W' ns k lg nm fields js hr hk hm _ ih =>
    obtain ⟨new, hW, hnew, hrest⟩ := ih
    have hkW : k ∈ W' := by rw [hW]; simp
    refine ⟨k :: new, by rw [hW]; simp, ?_, ?_⟩
    · intro i hi
      rcases List.mem_cons.mp hi with rfl | hi
      · exact ⟨hr, _, nm, hk, rfl⟩
      · exact hnew i hi
    intro hq
    have hiff := wellTyped_record_iff lg ns nm js
    obtain ⟨hdf, hwt, hrk, hc, hcl⟩ := hrest fun q => (hiff.mp (hq q)).2
    obtain ⟨hd1, hd2, -⟩ := valid_written_record rank ns lg nm (hwf k _ nm hr hk rfl) js
    refine ⟨by rw [hd1, List.map_cons, fnOf_eq hk rfl, hdf], ?_, ?_, .named hk rfl hkW, ?_⟩
    · intro hok
      have hok' := hok k _ hr hk
      simp only [nodeOkB, Bool.and_eq_true] at hok'
      exact hiff.mpr ⟨hok'.1, hwt hok⟩
    · intro hR
      rw [hd2]
      exact hrk (nm.ns, nm.short) rfl (fun p hp node' nm' hk' hn' =>
        hR k _ nm fields p.2 node' nm' hr hk rfl (List.mem_map.mpr ⟨p, hp, rfl⟩) hk' hn') hR
    · intro i hi' node' hk'
      rcases List.mem_cons.mp hi' with rfl | hi'
      · rw [hk] at hk'; cases hk'
        refine ⟨fun q => nodeOkB_of _ (hiff.mp (hq q)).1
          (fun nm' sz ht => by cases ht), ?_⟩
        intro c hcm
        simp only [RegularType.children, List.mem_map] at hcm
        obtain ⟨p, hp, rfl⟩ := hcm
        exact hc p hp
      · exact hcl i hi' node' hk'
  | lnil =>
    exact ⟨[], rfl, by simp, fun _ => ⟨by simp [defsList], fun _ => by simp [wtList],
      fun _ => by simp [rankedList], fun k hk => (by cases hk), ChildrenCovered.nil _ _ _⟩⟩
  | fnil =>
    exact ⟨[], rfl, by simp, fun _ => ⟨by simp [defsFields], fun _ => by simp [wtFields],
      fun _ _ _ _ => by simp [rankedFields], fun k hk => (by cases hk),
      ChildrenCovered.nil _ _ _⟩⟩
  | @lcons n1 n2 W W1 W' ns k rest j js _ _ ih1 ih2 =>
    obtain ⟨new1, hW1, hnew1, hrest1⟩ := ih1
    obtain ⟨new2, hW2, hnew2, hrest2⟩ := ih2
    have hsub : ∀ i ∈ W1, i ∈ W' := by rw [hW2]; exact fun i hi => List.mem_append_right _ hi
    refine ⟨new1 ++ new2, by rw [hW2, hW1]; simp, ?_, ?_⟩
    · intro i hi
      rcases List.mem_append.mp hi with h | h
      · exact hnew1 i h
      · exact hnew2 i h
    intro hq
    obtain ⟨hd1, hw1, hr1, hc1, hcl1⟩ := hrest1 fun q => by
      have := hq q; simp only [wtList, Bool.and_eq_true] at this; exact this.1
    obtain ⟨hd2, hw2, hr2, hc2, hcl2⟩ := hrest2 fun q => by
      have := hq q; simp only [wtList, Bool.and_eq_true] at this; exact this.2
    refine ⟨by simp only [defsList, hd1, hd2, List.map_append],
      fun hok => by simp only [wtList, hw1 hok, hw2 hok, Bool.and_self],
      fun hR => by simp only [rankedList, hr1 hR, hr2 hR, Bool.and_self], ?_,
      (hcl1.mono hsub).append hcl2⟩
    intro k' hk'
    rcases List.mem_cons.mp hk' with rfl | hk'
    · exact hc1.mono hsub
    · exact hc2 k' hk'
  | @fcons n1 n2 W W1 W' ns name k rest j js hd1 _ ih1 ih2 =>
    obtain ⟨new1, hW1, hnew1, hrest1⟩ := ih1
    obtain ⟨new2, hW2, hnew2, hrest2⟩ := ih2
    have hsub : ∀ i ∈ W1, i ∈ W' := by rw [hW2]; exact fun i hi => List.mem_append_right _ hi
    refine ⟨new1 ++ new2, by rw [hW2, hW1]; simp, ?_, ?_⟩
    · intro i hi
      rcases List.mem_append.mp hi with h | h
      · exact hnew1 i h
      · exact hnew2 i h
    intro hq
    obtain ⟨hdf1, hw1, hr1, hc1, hcl1⟩ := hrest1 fun q => by
      have := hq q; simp only [wtFields_cons, Bool.and_eq_true] at this; exact this.1
    obtain ⟨hdf2, hw2, hr2, hc2, hcl2⟩ := hrest2 fun q => by
      have := hq q; simp only [wtFields_cons, Bool.and_eq_true] at this; exact this.2
    refine ⟨by simp only [defsFields_cons, hdf1, hdf2, List.map_append],
      fun hok => by simp only [wtFields_cons, hw1 hok, hw2 hok, Bool.and_self], ?_, ?_,
      (hcl1.mono hsub).append hcl2⟩
    · intro owner how hb hR
      have hdb := directBelow_of_renders hwf rank owner hd1 (hb (name, k) List.mem_cons_self)
      rw [rankedFields_cons, how, hdb, hr1 hR,
        hr2 owner how (fun p hp => hb p (List.mem_cons_of_mem _ hp)) hR]
      rfl
    · intro p hp
      rcases List.mem_cons.mp hp with rfl | hp
      · exact hc1.mono hsub
      · exact hc2 p hp

/-! ### the whole document -/

/-- **What the walk gives for the document rendered from the root** (names well formed, nothing
    else assumed); `W`: the named nodes written in full, in document order.  `rank` matters for
    the last conjunct only. -/
theorem render_doc_facts (S : SchemaMut) (fuel : Nat) (j : Json) (rank : Fullname → Nat)
    (hwf : ReachNamesWF S) (hrender : renderJson S fuel = .ok j) :
    (∃ W : List Nat, definedNames j = W.map (fnOf S) ∧ W.Nodup ∧
      (∀ i, i ∈ W ↔ Reach S i ∧ IsNamed S i)) ∧
    (∀ i, Reach S i → ∃ node, S[i]? = some node) ∧
    (NodesOk S ↔ wellTyped j = true) ∧
    (RankOk S rank → ranked rank none j = true) := by
  obtain ⟨n, W', -, hd⟩ := renderJson_sound hrender
  obtain ⟨new, hW, hnew, hrest⟩ := valid_of_renders hwf rank (wellTyped j = true) hd
  obtain ⟨hdf, hw, hrk, hc, hcl⟩ := hrest id
  have hmem : ∀ i, i ∈ W' → i ∈ new := by rw [hW]; simp
  have hcl' : ChildrenCovered S (PQ (wellTyped j = true)) W' W' := fun i hi => hcl i (hmem i hi)
  have hcov : ∀ i, Reach S i → Covered S (PQ (wellTyped j = true)) W' i :=
    fun i hi => reach_covered hc hcl' hi
  have hnd : new.Nodup := by
    have := hd.nodup List.nodup_nil
    rw [hW, List.append_nil] at this
    exact (List.pairwise_reverse.mp this).imp Ne.symm
  refine ⟨⟨new, hdf, hnd, ?_⟩, ?_,
    ⟨hw, fun q i node hri hk => covered_P hcl' hk (hcov i hri) q⟩, hrk⟩
  · intro i
    constructor
    · exact hnew i
    · rintro ⟨hri, node, nm, hk, hn⟩
      cases hcov i hri with
      | named _ _ hm => exact hmem i hm
      | unnamed hk' hn' _ _ => rw [hk] at hk'; cases hk'; rw [hn] at hn'; cases hn'
  · intro i hri
    cases hcov i hri with
    | named hk _ _ => exact ⟨_, hk⟩
    | unnamed hk _ _ _ => exact ⟨_, hk⟩

theorem inj_of_nodup_map {α β : Type} (f : α → β) {l : List α} (h : (l.map f).Nodup) {a b : α}
    (ha : a ∈ l) (hb : b ∈ l) (e : f a = f b) : a = b := by
  induction l with
  | nil => cases ha
  | cons c l ih =>
    simp only [List.map_cons, List.nodup_cons] at h
    rcases List.mem_cons.mp ha with ha' | ha'
    · rcases List.mem_cons.mp hb with hb' | hb'
      · rw [ha', hb']
      · subst ha'; exact absurd (List.mem_map.mpr ⟨b, hb', e.symm⟩) h.1
    · rcases List.mem_cons.mp hb with hb' | hb'
      · subst hb'; exact absurd (List.mem_map.mpr ⟨a, ha', e⟩) h.1
      · exact ih h.2 ha' hb'

theorem nodup_map_of_inj {α β : Type} (f : α → β) {l : List α} (h : l.Nodup)
    (hinj : ∀ a ∈ l, ∀ b ∈ l, f a = f b → a = b) : (l.map f).Nodup := by
  induction l with
  | nil => simp
  | cons c l ih =>
    obtain ⟨h1, h2⟩ := List.nodup_cons.mp h
    simp only [List.map_cons, List.nodup_cons]
    refine ⟨?_, ih h2 fun a ha b hb => hinj a (List.mem_cons_of_mem _ ha) b
      (List.mem_cons_of_mem _ hb)⟩
    intro hm
    obtain ⟨b, hb, e⟩ := List.mem_map.mp hm
    have := hinj b (List.mem_cons_of_mem _ hb) c List.mem_cons_self e
    subst this
    exact h1 hb

/-- **Distinct fullnames are exactly what `namesDistinct` of the rendered document needs.** -/
theorem render_namesDistinct_iff (S : SchemaMut) (fuel : Nat) (j : Json) (hwf : ReachNamesWF S)
    (hrender : renderJson S fuel = .ok j) : namesDistinct j = true ↔ DistinctNames S := by
  obtain ⟨⟨W, hd, hnd, hW⟩, -, -, -⟩ := render_doc_facts S fuel j (fun _ => 0) hwf hrender
  unfold namesDistinct
  rw [hd]
  constructor
  · intro h i k ni nk nmi nmk hri hrk hi hk hni hnk e
    have h' := ValidParses.nodupB_nodup h
    apply inj_of_nodup_map (fnOf S) h' ((hW i).mpr ⟨hri, ni, nmi, hi, hni⟩)
      ((hW k).mpr ⟨hrk, nk, nmk, hk, hnk⟩)
    rw [fnOf_eq hi hni, fnOf_eq hk hnk, e]
  · intro h
    apply ValidParses.nodupB_of_nodup
    apply nodup_map_of_inj (fnOf S) hnd
    intro a ha b hb e
    obtain ⟨hra, na, nma, hka, hna⟩ := (hW a).mp ha
    obtain ⟨hrb, nb, nmb, hkb, hnb⟩ := (hW b).mp hb
    rw [fnOf_eq hka hna, fnOf_eq hkb hnb] at e
    exact h a b na nb nma nmb hra hrb hka hkb hna hnb e

theorem render_validDoc (S : SchemaMut) (fuel : Nat) (j : Json) (hwf : ReachNamesWF S)
    (hdist : DistinctNames S) (hok : NodesOk S)
    (hrender : renderJson S fuel = .ok j) : ValidDoc j = true := by
  obtain ⟨hnf, c, -, -, hc, -, -⟩ := render_canonTree S fuel j hwf hrender
  obtain ⟨-, -, hwt, -⟩ := render_doc_facts S fuel j (fun _ => 0) hwf hrender
  have hnd := (render_namesDistinct_iff S fuel j hwf hrender).mpr hdist
  simp only [ValidDoc, shape, hc, Option.isSome_some, hnf, hnd, hwt.mp hok, Bool.and_self]

/-! ### ranking the fullnames from a ranking of the record nodes -/

/-- `r` puts every reachable record node above the record nodes that are the type of one of its
    fields: the graph has no unconditional record cycle among the nodes reachable from the
    root. -/
def RecRanked (S : SchemaMut) (r : Nat → Nat) : Prop :=
  ∀ (i : Nat) (ni : RawNode) (nmi : Name) (fs : List (String × Nat)) (k : Nat) (nk : RawNode)
    (nmk : Name) (fk : List (String × Nat)), Reach S i → S[i]? = some ni →
    ni.type = .record nmi fs → k ∈ fs.map (·.2) → S[k]? = some nk → nk.type = .record nmk fk →
    r k < r i

/-- No reachable record unconditionally contains itself. -/
def NoRecCycle (S : SchemaMut) : Prop := ∃ r : Nat → Nat, RecRanked S r

def IsRecordNamed (S : SchemaMut) (fn : Fullname) (i : Nat) : Prop :=
  Reach S i ∧ ∃ ni nmi fs, S[i]? = some ni ∧ ni.type = .record nmi fs ∧ (nmi.ns, nmi.short) = fn

open Classical in
/-- rank of a fullname: one more than the rank of the reachable record node of that name; zero
    for every other fullname -/
noncomputable def rankOf (S : SchemaMut) (r : Nat → Nat) (fn : Fullname) : Nat :=
  if h : ∃ i, IsRecordNamed S fn i then r (Classical.choose h) + 1 else 0

theorem rankOf_record {S : SchemaMut} (hdist : DistinctNames S) (r : Nat → Nat) {i : Nat}
    {ni : RawNode} {nmi : Name} {fs : List (String × Nat)} (hr : Reach S i)
    (hi : S[i]? = some ni) (ht : ni.type = .record nmi fs) :
    rankOf S r (nmi.ns, nmi.short) = r i + 1 := by
  have h : ∃ i', IsRecordNamed S (nmi.ns, nmi.short) i' := ⟨i, hr, ni, nmi, fs, hi, ht, rfl⟩
  unfold rankOf
  rw [dif_pos h]
  obtain ⟨hr', ni', nmi', fs', hi', ht', e⟩ := Classical.choose_spec h
  have : Classical.choose h = i :=
    hdist _ i ni' ni nmi' nmi hr' hr hi' hi (by rw [ht']; rfl) (by rw [ht]; rfl) e
  rw [this]

theorem rankOf_other {S : SchemaMut} (hdist : DistinctNames S) (r : Nat → Nat) {k : Nat}
    {nk : RawNode} {nmk : Name} (hr : Reach S k) (hk : S[k]? = some nk)
    (hn : nameOf nk.type = some nmk) (hnr : ∀ nm fs, nk.type ≠ .record nm fs) :
    rankOf S r (nmk.ns, nmk.short) = 0 := by
  unfold rankOf
  rw [dif_neg]
  rintro ⟨i, hr', ni', nmi', fs', hi', ht', e⟩
  have : i = k := hdist i k ni' nk nmi' nmk hr' hr hi' hk (by rw [ht']; rfl) hn e
  subst this
  rw [hk] at hi'
  cases hi'
  exact hnr _ _ ht'

theorem rankOk_of {S : SchemaMut} (hdist : DistinctNames S) {r : Nat → Nat}
    (hr : RecRanked S r) : RankOk S (rankOf S r) := by
  intro i ni nmi fs k nk nmk hri hi hti hk hnk hnmk
  rw [rankOf_record hdist r hri hi hti]
  have hrk : Reach S k := .step hri hi (by rw [hti]; exact hk)
  by_cases hrec : ∃ nm fk, nk.type = .record nm fk
  · obtain ⟨nm, fk, htk⟩ := hrec
    have : nm = nmk := by rw [htk] at hnmk; simpa [nameOf] using hnmk
    subst this
    rw [rankOf_record hdist r hrk hnk htk]
    have := hr i ni nmi fs k nk nm fk hri hi hti hk hnk htk
    omega
  · rw [rankOf_other hdist r hrk hnk hnmk (fun nm fk e => hrec ⟨nm, fk, e⟩)]
    omega

theorem render_noUnconditionalCycle (S : SchemaMut) (fuel : Nat) (j : Json) (hwf : ReachNamesWF S)
    (hdist : DistinctNames S) (hc : NoRecCycle S) (hrender : renderJson S fuel = .ok j) :
    NoUnconditionalCycle j := by
  obtain ⟨r, hr⟩ := hc
  obtain ⟨-, -, -, hrk⟩ := render_doc_facts S fuel j (rankOf S r) hwf hrender
  exact ⟨rankOf S r, hrk (rankOk_of hdist hr)⟩

/-! ### a ranking of the record nodes from a topological order (`Lemmas/CycleCheck.lean`) -/

/-- rank of a node from a reverse post-order of the records -/
def topoRank : List Nat → Nat → Nat
  | [], _ => 0
  | c :: l, i => if i ∈ l then topoRank l i else if i = c then l.length + 1 else 0

theorem topoRank_le (l : List Nat) (i : Nat) : topoRank l i ≤ l.length := by
  induction l with
  | nil => simp [topoRank]
  | cons c l ih =>
    simp only [topoRank, List.length_cons]
    split
    · omega
    · split <;> omega

theorem topoRank_edge {S : SchemaMut} {L : List Nat} (h : TopoSorted S L) {i j : Nat}
    (hi : i ∈ L) (e : recEdge S i j) : topoRank L j < topoRank L i := by
  induction L with
  | nil => cases hi
  | cons c l ih =>
    obtain ⟨h1, h2⟩ := h
    by_cases hil : i ∈ l
    · have hjl : j ∈ l := h2.closed hil e
      simp only [topoRank, hil, hjl, if_true]
      exact ih h2 hil
    · have hic : i = c := by
        rcases List.mem_cons.mp hi with e' | e'
        · exact e'
        · exact absurd e' hil
      subst hic
      have hjl : j ∈ l := h1 j e
      simp only [topoRank, hil, hjl, if_true, if_false]
      have := topoRank_le l j
      omega

theorem recEdge_of_field {S : SchemaMut} {i k : Nat} {ni nk : RawNode} {nmi nmk : Name}
    {fs fk : List (String × Nat)} (hi : S[i]? = some ni) (hti : ni.type = .record nmi fs)
    (hk : k ∈ fs.map (·.2)) (hnk : S[k]? = some nk) (htk : nk.type = .record nmk fk) :
    recEdge S i k := by
  obtain ⟨tyi, lgi⟩ := ni
  obtain ⟨tyk, lgk⟩ := nk
  simp only at hti htk
  subst hti htk
  refine ⟨by simp [isRecord, hi], by simp [isRecord, hnk], ?_⟩
  simp only [recordFieldKeys, hi]
  exact hk

theorem noRecCycle_of_rank (S : SchemaMut) (r : Nat → Nat)
    (h : ∀ i j, recEdge S i j → r j < r i) : NoRecCycle S :=
  ⟨r, fun i _ _ _ k _ _ _ _ hi hti hk hnk htk => h i k (recEdge_of_field hi hti hk hnk htk)⟩

theorem reach_of_recEdge {S : SchemaMut} {i j : Nat} (hr : Reach S i) (e : recEdge S i j) :
    Reach S j := by
  obtain ⟨-, -, hk⟩ := e
  unfold recordFieldKeys at hk
  cases hS : S[i]? with
  | none => rw [hS] at hk; cases hk
  | some node =>
    rw [hS] at hk
    obtain ⟨ty, lg⟩ := node
    cases ty <;> first | cases hk | exact .step hr hS hk

/-! ### decidable forms of the hypotheses

`reachList S` computes the nodes reachable from the root (depth-first, with a fuel that is never
exhausted on a graph whose reachable keys are in bounds — but nothing rests on that: the test
`closedB` checks that the list computed contains the root and is closed under `children`, which
is all that is needed for `Reach S i → i ∈ reachList S`; conversely every element of `reachList S`
is reachable, `reachList_sound`). -/

def childrenAt (S : SchemaMut) (i : Nat) : List Nat :=
  match S[i]? with
  | some node => node.type.children
  | none => []

def reachGo (S : SchemaMut) : Nat → List Nat → List Nat → List Nat
  | 0, _, acc => acc
  | _ + 1, [], acc => acc
  | n + 1, i :: todo, acc =>
    if acc.contains i then reachGo S n todo acc
    else reachGo S n (childrenAt S i ++ todo) (i :: acc)

theorem reachGo_nil (S : SchemaMut) (n : Nat) (acc : List Nat) : reachGo S n [] acc = acc := by
  cases n <;> rfl

def reachList (S : SchemaMut) : List Nat :=
  reachGo S (2 + (S.toList.map fun n => n.type.children.length + 1).sum) [0] []

def closedB (S : SchemaMut) (l : List Nat) : Bool :=
  l.contains 0 && l.all fun i => (childrenAt S i).all fun c => l.contains c

theorem reach_mem_of_closed {S : SchemaMut} {l : List Nat} (h : closedB S l = true) {i : Nat}
    (hr : Reach S i) : i ∈ l := by
  simp only [closedB, Bool.and_eq_true, List.all_eq_true, List.contains_eq_mem,
    decide_eq_true_eq] at h
  induction hr with
  | root => exact h.1
  | step _ hk hc ih =>
    refine h.2 _ ih _ ?_
    simp only [childrenAt, hk]
    exact hc

theorem reachGo_sound (S : SchemaMut) : ∀ (n : Nat) (todo acc : List Nat),
    (∀ i ∈ todo, Reach S i) → (∀ i ∈ acc, Reach S i) → ∀ i ∈ reachGo S n todo acc, Reach S i := by
  intro n
  induction n with
  | zero => intro todo acc _ ha; simpa [reachGo] using ha
  | succ n ih =>
    intro todo acc ht ha
    cases todo with
    | nil => simpa [reachGo] using ha
    | cons i todo =>
      simp only [reachGo]
      split
      · exact ih todo acc (fun k hk => ht k (List.mem_cons_of_mem _ hk)) ha
      · apply ih
        · intro k hk
          rcases List.mem_append.mp hk with hk | hk
          · have hi := ht i List.mem_cons_self
            unfold childrenAt at hk
            cases hS : S[i]? with
            | none => rw [hS] at hk; cases hk
            | some node => rw [hS] at hk; exact .step hi hS hk
          · exact ht k (List.mem_cons_of_mem _ hk)
        · intro k hk
          rcases List.mem_cons.mp hk with rfl | hk
          · exact ht _ List.mem_cons_self
          · exact ha k hk

theorem reachList_sound (S : SchemaMut) : ∀ i ∈ reachList S, Reach S i :=
  reachGo_sound S _ [0] [] (fun i hi => by simp at hi; subst hi; exact .root)
    (fun i hi => by cases hi)

/-- fullname of the node `i`, if it is a named node -/
def nameAt (S : SchemaMut) (i : Nat) : Option Fullname :=
  match S[i]? with
  | some node =>
    match nameOf node.type with
    | some nm => some (nm.ns, nm.short)
    | none => none
  | none => none

theorem nameAt_some {S : SchemaMut} {i : Nat} {a : Fullname} (h : nameAt S i = some a) :
    ∃ ni nmi, S[i]? = some ni ∧ nameOf ni.type = some nmi ∧ a = (nmi.ns, nmi.short) := by
  unfold nameAt at h
  cases hS : S[i]? with
  | none => simp only [hS] at h; cases h
  | some ni =>
    simp only [hS] at h
    cases hn : nameOf ni.type with
    | none => simp only [hn] at h; cases h
    | some nmi =>
      simp only [hn, Option.some.injEq] at h
      exact ⟨ni, nmi, rfl, hn, h.symm⟩

def distinctOnB (S : SchemaMut) (l : List Nat) : Bool :=
  l.all fun i => l.all fun j =>
    match nameAt S i, nameAt S j with
    | some a, some b => !(a == b) || i == j
    | _, _ => true

def nodesOkOnB (S : SchemaMut) (l : List Nat) : Bool :=
  l.all fun i =>
    match S[i]? with
    | some node => nodeOkB node
    | none => true

/-- distinct fullnames, numbers and logical types the parser accepts — among the reachable
    nodes -/
def graphOkB (S : SchemaMut) : Bool :=
  closedB S (reachList S) && distinctOnB S (reachList S) && nodesOkOnB S (reachList S)

theorem distinctNames_of_b {S : SchemaMut} {l : List Nat} (hc : closedB S l = true)
    (h : distinctOnB S l = true) : DistinctNames S := by
  intro i j ni nj nmi nmj hri hrj hi hj hni hnj e
  have := (List.all_eq_true.mp ((List.all_eq_true.mp h) i (reach_mem_of_closed hc hri))) j
    (reach_mem_of_closed hc hrj)
  simp only [nameAt, hi, hj, hni, hnj, e, beq_self_eq_true, Bool.not_true, Bool.false_or,
    beq_iff_eq] at this
  exact this

theorem distinctOnB_of {S : SchemaMut} {l : List Nat} (hl : ∀ i ∈ l, Reach S i)
    (h : DistinctNames S) : distinctOnB S l = true := by
  apply List.all_eq_true.mpr
  intro i hi
  apply List.all_eq_true.mpr
  intro j hj
  cases hni : nameAt S i with
  | none => rfl
  | some a =>
    cases hnj : nameAt S j with
    | none => rfl
    | some b =>
      simp only [Bool.or_eq_true, Bool.not_eq_true', beq_eq_false_iff_ne, ne_eq, beq_iff_eq]
      by_cases e : a = b
      · right
        obtain ⟨ni, nmi, hSi, hi', rfl⟩ := nameAt_some hni
        obtain ⟨nj, nmj, hSj, hj', rfl⟩ := nameAt_some hnj
        exact h i j ni nj nmi nmj (hl i hi) (hl j hj) hSi hSj hi' hj' e
      · left; exact e

theorem nodesOk_of_b {S : SchemaMut} {l : List Nat} (hc : closedB S l = true)
    (h : nodesOkOnB S l = true) : NodesOk S := by
  intro i node hr hi
  have := (List.all_eq_true.mp h) i (reach_mem_of_closed hc hr)
  simpa only [hi] using this

theorem nodesOkOnB_of {S : SchemaMut} {l : List Nat} (hl : ∀ i ∈ l, Reach S i)
    (h : NodesOk S) : nodesOkOnB S l = true := by
  apply List.all_eq_true.mpr
  intro i hi
  cases hS : S[i]? with
  | none => rfl
  | some node => exact h i node (hl i hi) hS

theorem hyp_of_b {S : SchemaMut} (hwf : namesWFb S = true) (h : graphOkB S = true) :
    NamesWF S ∧ DistinctNames S ∧ NodesOk S := by
  simp only [graphOkB, Bool.and_eq_true] at h
  exact ⟨(namesWFb_iff S).mp hwf, distinctNames_of_b h.1.1 h.1.2, nodesOk_of_b h.1.1 h.2⟩

/-- When the list computed is closed (it is whenever the fuel of `reachList` was not exhausted),
    the test passes exactly when the hypotheses hold. -/
theorem graphOkB_iff {S : SchemaMut} (hc : closedB S (reachList S) = true) :
    graphOkB S = true ↔ DistinctNames S ∧ NodesOk S := by
  constructor
  · intro h
    simp only [graphOkB, Bool.and_eq_true] at h
    exact ⟨distinctNames_of_b h.1.1 h.1.2, nodesOk_of_b h.1.1 h.2⟩
  · rintro ⟨h1, h2⟩
    simp only [graphOkB, Bool.and_eq_true]
    exact ⟨⟨hc, distinctOnB_of (reachList_sound S) h1⟩, nodesOkOnB_of (reachList_sound S) h2⟩

/-! ### the renderer's state and the written named nodes

`InvW S st W`: `W` lists, in document order, the named nodes written in full so far: a named
node has a non-zero generation cell iff it is in `W`; no node occurs twice; every node of `W` is
a named node reachable from the root.  No theorem of the development rests on it: the induction
on `Renders` carries `W` itself (`Renders.nodup`, `valid_of_renders`). -/

structure InvW (S : SchemaMut) (st : RenderState) (W : List Nat) : Prop where
  pos : 0 < st.nWritten
  written : ∀ (i : Nat) (node : RawNode) (nm : Name),
    S[i]? = some node → nameOf node.type = some nm → (0 < st.get i ↔ i ∈ W)
  nodup : W.Nodup
  reach : ∀ i ∈ W, Reach S i ∧ ∃ node nm, S[i]? = some node ∧ nameOf node.type = some nm

theorem InvW.define {S : SchemaMut} {st : RenderState} {W : List Nat} (h : InvW S st W)
    (key : Nat) (node : RawNode) (nm : Name)
    (hk : S[key]? = some node) (hn : nameOf node.type = some nm) (hr : Reach S key)
    (hw : ¬ 0 < st.get key) : InvW S (namedEnter st key) (W ++ [key]) := by
  have hnotin : key ∉ W := fun hm => hw ((h.written key node nm hk hn).mpr hm)
  refine ⟨?_, ?_, ?_, ?_⟩
  · show 0 < st.nWritten + 1
    omega
  · exact Written.define h.written h.pos key fun i => by
      rw [List.mem_append, List.mem_singleton, or_comm]
  · rw [List.nodup_append]
    refine ⟨h.nodup, by simp, ?_⟩
    intro a ha b hb
    simp only [List.mem_singleton] at hb
    subst hb
    intro e
    subst e
    exact hnotin ha
  · intro i hi
    rcases List.mem_append.mp hi with hi | hi
    · exact h.reach i hi
    · simp only [List.mem_singleton] at hi
      subst hi
      exact ⟨hr, node, nm, hk, hn⟩

end Avro.RenderValid
