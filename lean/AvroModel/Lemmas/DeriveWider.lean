import AvroModel.Lemmas.DeriveGeneric
/-
C20, wider.  The fragment `FitWfW` of `C20_fits_wider`: `FitWfG` (`Lemmas/DeriveGeneric.lean`) plus
generic forwarding newtypes `struct N<T>(F<T>);` (transparent to the builder: same lookup type, same
node as `F<args>`; serde presents `newtype_struct`) and `Option<T>` / `N<T>(T)` with `T` a bare type
parameter.  Such a parameter is *marked* ("must be instantiated with a type whose node is neither
null nor a union"), and every instantiation site of a declaration with a marked parameter must
supply a plain argument — possibly a marked parameter of the enclosing declaration.  Marks are a
table `Marks`; `FitWfWith P M K root` checks the program against a given table (`K` bounds the
chains of forwarding newtypes followed when deciding whether a type is plain); `FitWfW` tries three
tables (none, inferred by iteration, all).  The proofs only use that *some* table passes the check.
-/
namespace Avro.Theorems.DeriveW
open Avro Avro.Impl Avro.Impl.Derive Avro.Theorems.DeriveG
open Avro.Theorems.DeriveFits

/-! ### The fragment -/

mutual
def hasParam : Ty → Bool
  | .vec t => hasParam t
  | .option t => hasParam t
  | .hashMap t => hasParam t
  | .btreeMap t => hasParam t
  | .ptr t => hasParam t
  | .named _ args => hasParams args
  | .param _ => true
  | _ => false
def hasParams : List Ty → Bool
  | [] => false
  | t :: ts => hasParam t || hasParams ts
end

/-- A declaration that takes type arguments: a generic record, a forwarding newtype with
    parameters whose field type mentions one, or a generic enum that maps to a union (no such enum
    is in `FitWfW`, `declOkWith`; they are admitted by `declOkWithU`, `Lemmas/DeriveWiderUFrag.lean`). -/
def isGenW (d : Decl) : Bool :=
  decide (d.nparams ≠ 0) &&
    (match d.body with
      | .record _ => true
      | .newtype fd => isDirect fd .newtypeStruct && hasParam fd.ty
      | .union _ => true
      | _ => false)

/-- Number of type parameters in scope in the fields of the declaration. -/
def scopeW (d : Decl) : Nat := if isGenW d then d.nparams else 0

abbrev Marks := Nat → Nat → Bool

def noCtx : Nat → Bool := fun _ => false

/-- The type's node is neither `null` nor a union, given which parameters in scope are (`ctx`):
    not `()`/`Option` behind pointers and forwarding newtypes; a forwarding newtype `N<as>` is
    plain when its field type is, its parameters standing for `as` (`n` bounds the length of a
    chain of newtypes). -/
def plainW (P : Prog) : (Nat → Bool) → Nat → Ty → Bool
  | _, 0, _ => false
  | ctx, n + 1, t =>
    match Derive.peel t with
    | .unit | .option _ | .ptr _ => false
    | .param i => ctx i
    | .named id args =>
      match P[id]? with
      | none => false
      | some d =>
        match d.body with
        | .newtype fd =>
          fd.attr.logical.isNone &&
            (if isDirect fd .newtypeStruct then
              plainW P (fun j => match args[j]? with | some a => plainW P ctx n a | none => false) n fd.ty
             else decide (d.nparams = 0))
        | .record _ | .unitEnum _ => true
        | .union _ => false
    | _ => true

mutual
/-- Type expressions of the fragment with `n` type parameters in scope, those in `ctx` marked.
    A generic declaration takes as many arguments as it has parameters, other declarations none;
    an argument for a marked parameter must be plain; `Option<T>` needs `T` plain. -/
def tyOkW (P : Prog) (M : Marks) (K n : Nat) (ctx : Nat → Bool) : Ty → Bool
  | .vec t => tyOkW P M K n ctx t
  | .hashMap t => tyOkW P M K n ctx t
  | .btreeMap t => tyOkW P M K n ctx t
  | .ptr t => tyOkW P M K n ctx t
  | .option t => tyOkW P M K n ctx t && plainW P ctx K t
  | .named id args =>
    (match P[id]? with
      | none => false
      | some d => if isGenW d then args.length == d.nparams else args.isEmpty) &&
      tysOkW P M K n ctx id 0 args
  | .param i => decide (i < n)
  | _ => true
/-- The arguments of declaration `id`, from position `j` on. -/
def tysOkW (P : Prog) (M : Marks) (K n : Nat) (ctx : Nat → Bool) (id : Nat) : Nat → List Ty → Bool
  | _, [] => true
  | j, t :: ts =>
    tyOkW P M K n ctx t && (!M id j || plainW P ctx K t) && tysOkW P M K n ctx id (j + 1) ts
end

def plainFieldOkW (P : Prog) (M : Marks) (K n : Nat) (ctx : Nat → Bool) (fd : Field) : Bool :=
  fd.attr.logical.isNone && tyOkW P M K n ctx fd.ty

/-- What the builder needs of a struct field. -/
def buildFieldOkW (P : Prog) (M : Marks) (K n : Nat) (ctx : Nat → Bool) (fd : Field) : Bool :=
  plainFieldOkW P M K n ctx fd || (!fd.attr.logical.isNone && (leafNode (chosenTy fd)).isSome)

/-- Struct fields: as `fieldOkG`. -/
def fieldOkW (P : Prog) (M : Marks) (K n : Nat) (ctx : Nat → Bool) (d : Decl) (fd : Field) : Bool :=
  plainFieldOkW P M K n ctx fd ||
    (!fd.attr.logical.isNone &&
      match logicalRaw d fd with
      | some raw => nodeAccepts (freezeNode raw) (Derive.peel fd.ty)
      | none => false)

theorem fieldOkW_build {P : Prog} {M : Marks} {K n : Nat} {ctx : Nat → Bool} {d : Decl} {fd : Field}
    (h : fieldOkW P M K n ctx d fd = true) : buildFieldOkW P M K n ctx fd = true := by
  simp only [fieldOkW, Bool.or_eq_true, Bool.and_eq_true] at h
  simp only [buildFieldOkW, Bool.or_eq_true, Bool.and_eq_true]
  rcases h with h | ⟨h1, h2⟩
  · exact .inl h
  · refine .inr ⟨h1, ?_⟩
    unfold logicalRaw logicalRawAt at h2
    cases hx : leafNode (chosenTy fd) with
    | none => simp [hx] at h2
    | some x => rfl

/-- A declaration, its marked parameters being `ctx`: as `declOkG`; a forwarding newtype may have
    parameters, and must be plain (given `ctx`). -/
def declOkWith (P : Prog) (M : Marks) (K : Nat) (ctx : Nat → Bool) (d : Decl) : Bool :=
  match d.body with
  | .record fs =>
    decide (d.ident ≠ "Null") && fs.all (fieldOkW P M K (scopeW d) ctx d)
  | .newtype fd =>
    decide (d.ident ≠ "Null") && plainFieldOkW P M K (scopeW d) ctx fd &&
      (if isDirect fd .newtypeStruct then plainW P ctx K fd.ty else decide (d.nparams = 0))
  | .unitEnum _ => true
  | .union _ => false

/-- The marked parameters of declaration `id`, among the `n` in scope. -/
def ctxOf (M : Marks) (id n : Nat) : Nat → Bool := fun i => decide (i < n) && M id i

def declOkW (P : Prog) (M : Marks) (K id : Nat) (d : Decl) : Bool :=
  declOkWith P M K (ctxOf M id (scopeW d)) d

def FitWfWith (P : Prog) (M : Marks) (K : Nat) (root : Ty) : Bool :=
  ((List.range P.size).all fun id => match P[id]? with | some d => declOkW P M K id d | none => true) &&
    tyOkW P M K 0 noCtx root

theorem range_all_decls {P : Prog} {f : Nat → Decl → Bool}
    (h : ((List.range P.size).all fun id => match P[id]? with | some d => f id d | none => true) = true) :
    ∀ (id : Nat) (d : Decl), P[id]? = some d → f id d = true := by
  simp only [List.all_eq_true, List.mem_range] at h
  intro id d hd
  obtain ⟨hlt, _⟩ := Array.getElem?_eq_some_iff.mp hd
  have := h id hlt
  simpa [hd] using this

theorem FitWfWith_decls {P : Prog} {M : Marks} {K : Nat} {root : Ty} (h : FitWfWith P M K root = true) :
    ∀ (id : Nat) (d : Decl), P[id]? = some d → declOkW P M K id d = true :=
  range_all_decls (Bool.and_eq_true_iff.mp h).1

theorem FitWfWith_no_union {P : Prog} {M : Marks} {K : Nat} {root : Ty} (h : FitWfWith P M K root = true)
    (id : Nat) (d : Decl) (hd : P[id]? = some d) (vs : List Variant) : d.body ≠ .union vs := by
  intro hb
  have := FitWfWith_decls h id d hd
  simp [declOkW, declOkWith, hb] at this

/-! ### Monotonicity in the fuel and the context -/

theorem plainW_mono {P : Prog} : ∀ (n n' : Nat) (ctx ctx' : Nat → Bool) (t : Ty), n ≤ n' →
    (∀ i, ctx i = true → ctx' i = true) → plainW P ctx n t = true → plainW P ctx' n' t = true := by
  intro n
  induction n with
  | zero => intro n' ctx ctx' t _ _ h; simp [plainW] at h
  | succ n ih =>
    intro n' ctx ctx' t hle hctx h
    obtain ⟨m, rfl⟩ : ∃ m, n' = m + 1 := ⟨n' - 1, by omega⟩
    unfold plainW at h ⊢
    generalize Derive.peel t = u at h
    cases u with
    | param i => exact hctx i h
    | named id args =>
      dsimp only at h ⊢
      cases hd : P[id]? with
      | none => simp [hd] at h
      | some d =>
        simp only [hd] at h ⊢
        cases hb : d.body with
        | newtype fd =>
          simp only [hb, Bool.and_eq_true] at h ⊢
          refine ⟨h.1, ?_⟩
          have h2 := h.2
          split
          · rename_i hdir
            simp only [hdir, if_true] at h2
            refine ih m _ _ fd.ty (by omega) (fun j hj => ?_) h2
            cases ha : args[j]? with
            | none => simp [ha] at hj
            | some a =>
              simp only [ha] at hj ⊢
              exact ih m ctx ctx' a (by omega) hctx hj
          · rename_i hdir
            simpa [hdir] using h2
        | record fs => rfl
        | unitEnum vs => rfl
        | union vs => simp [hb] at h
    | _ => first | exact h | rfl

mutual
theorem tyOkW_mono {P : Prog} {M : Marks} {K K' n : Nat} {ctx : Nat → Bool} (hle : K ≤ K') :
    ∀ t : Ty, tyOkW P M K n ctx t = true → tyOkW P M K' n ctx t = true
  | .vec t, h => by simp only [tyOkW] at h ⊢; exact tyOkW_mono hle t h
  | .hashMap t, h => by simp only [tyOkW] at h ⊢; exact tyOkW_mono hle t h
  | .btreeMap t, h => by simp only [tyOkW] at h ⊢; exact tyOkW_mono hle t h
  | .ptr t, h => by simp only [tyOkW] at h ⊢; exact tyOkW_mono hle t h
  | .option t, h => by
    simp only [tyOkW] at h ⊢
    simp only [Bool.and_eq_true] at h ⊢
    exact ⟨tyOkW_mono hle t h.1, plainW_mono K K' ctx ctx t hle (fun _ h => h) h.2⟩
  | .named id as, h => by
    simp only [tyOkW] at h ⊢
    simp only [Bool.and_eq_true] at h ⊢
    exact ⟨h.1, tysOkW_mono hle id 0 as h.2⟩
  | .param i, h => by simp only [tyOkW] at h ⊢; exact h
  | .unit, _ | .bool, _ | .i8, _ | .i16, _ | .i32, _ | .i64, _ | .u16, _ | .u32, _ | .u64, _ | .usize, _
  | .f32, _ | .f64, _ | .string, _ | .str, _ | .byteVec, _ | .byteSlice, _ | .byteArray _, _ => rfl
theorem tysOkW_mono {P : Prog} {M : Marks} {K K' n : Nat} {ctx : Nat → Bool} (hle : K ≤ K') (id : Nat) :
    ∀ (j : Nat) (ts : List Ty), tysOkW P M K n ctx id j ts = true → tysOkW P M K' n ctx id j ts = true
  | _, [], _ => by simp only [tysOkW]
  | j, t :: ts, h => by
    simp only [tysOkW] at h ⊢
    simp only [Bool.and_eq_true, Bool.or_eq_true] at h ⊢
    refine ⟨⟨tyOkW_mono hle t h.1.1, ?_⟩, tysOkW_mono hle id (j + 1) ts h.2⟩
    rcases h.1.2 with h' | h'
    · exact .inl h'
    · exact .inr (plainW_mono K K' ctx ctx t hle (fun _ h => h) h')
end

theorem tysOkW_get {P : Prog} {M : Marks} {K n : Nat} {ctx : Nat → Bool} {id : Nat} :
    ∀ (ts : List Ty) (j0 : Nat), tysOkW P M K n ctx id j0 ts = true →
      ∀ (j : Nat) (a : Ty), ts[j]? = some a →
        tyOkW P M K n ctx a = true ∧ (M id (j0 + j) = true → plainW P ctx K a = true)
  | [], _, _, j, a, hj => by simp at hj
  | t :: ts, j0, h, j, a, hj => by
    simp only [tysOkW] at h
    simp only [Bool.and_eq_true, Bool.or_eq_true, Bool.not_eq_true'] at h
    cases j with
    | zero =>
      simp only [List.getElem?_cons_zero, Option.some.injEq] at hj
      subst hj
      refine ⟨h.1.1, fun hm => ?_⟩
      rcases h.1.2 with h' | h'
      · rw [Nat.add_zero, h'] at hm; cases hm
      · exact h'
    | succ j =>
      simp only [List.getElem?_cons_succ] at hj
      have := tysOkW_get ts (j0 + 1) h.2 j a hj
      rw [show j0 + 1 + j = j0 + (j + 1) by omega] at this
      exact this

theorem tysOkW_of_get {P : Prog} {M : Marks} {K n : Nat} {ctx : Nat → Bool} {id : Nat} :
    ∀ (ts : List Ty) (j0 : Nat),
      (∀ (j : Nat) (a : Ty), ts[j]? = some a →
        tyOkW P M K n ctx a = true ∧ (M id (j0 + j) = true → plainW P ctx K a = true)) →
      tysOkW P M K n ctx id j0 ts = true
  | [], _, _ => by simp only [tysOkW]
  | t :: ts, j0, h => by
    simp only [tysOkW]
    simp only [Bool.and_eq_true, Bool.or_eq_true, Bool.not_eq_true']
    obtain ⟨h1, h2⟩ := h 0 t rfl
    refine ⟨⟨h1, ?_⟩, tysOkW_of_get ts (j0 + 1) (fun j a hj => ?_)⟩
    · cases hm : M id j0 with
      | false => exact .inl rfl
      | true => exact .inr (h2 (by simpa using hm))
    · have := h (j + 1) a (by simpa using hj)
      rw [show j0 + (j + 1) = j0 + 1 + j by omega] at this
      exact this

/-! ### Substitution of closed arguments -/

/-- Substituting arguments that are plain where the context says so keeps a type plain (the fuels
    add up: first the chain of newtypes of `t`, then that of the argument). -/
theorem plainW_subst {P : Prog} (args : List Ty) (ctx' : Nat → Bool) (b : Nat) :
    ∀ (a : Nat) (ctx : Nat → Bool) (t : Ty),
      (∀ i, ctx i = true → plainW P ctx' b (subst args (.param i)) = true) →
      plainW P ctx a t = true → plainW P ctx' (a + b) (subst args t) = true := by
  intro a
  induction a with
  | zero => intro ctx t _ h; simp [plainW] at h
  | succ a ih =>
    intro ctx t hctx h
    rw [show a + 1 + b = (a + b) + 1 by omega]
    unfold plainW at h
    generalize hu : Derive.peel t = u at h
    cases u with
    | unit => simp at h
    | option t => simp at h
    | ptr t => simp at h
    | param i =>
      have h1 := hctx i h
      have h2 : plainW P ctx' (a + b + 1) (subst args (.param i)) = true :=
        plainW_mono b _ ctx' ctx' _ (by omega) (fun _ h => h) h1
      unfold plainW at h2 ⊢
      rw [peel_subst, hu]
      exact h2
    | named id as =>
      unfold plainW
      rw [peel_subst, hu]
      simp only [subst, Derive.peel]
      dsimp only at h
      cases hd : P[id]? with
      | none => simp [hd] at h
      | some d =>
        simp only [hd] at h ⊢
        cases hb : d.body with
        | newtype fd =>
          simp only [hb, Bool.and_eq_true] at h ⊢
          refine ⟨h.1, ?_⟩
          have h2 := h.2
          split
          · rename_i hdir
            simp only [hdir, if_true] at h2
            refine plainW_mono a (a + b) _ _ fd.ty (by omega) (fun j hj => ?_) h2
            rw [substList_eq_map, List.getElem?_map]
            cases ha : as[j]? with
            | none => simp [ha] at hj
            | some x =>
              simp only [ha, Option.map_some] at hj ⊢
              exact ih ctx x hctx hj
          · rename_i hdir
            simpa [hdir] using h2
        | record fs => rfl
        | unitEnum vs => rfl
        | union vs => simp [hb] at h
    | _ =>
      unfold plainW
      rw [peel_subst, hu]
      simp [subst, Derive.peel]

/-- The arguments of an instantiation: closed types of the fragment, plain where `ctx` marks
    the parameter. -/
def ArgsOkK (P : Prog) (M : Marks) (K : Nat) (ctx : Nat → Bool) (args : List Ty) : Prop :=
  ∀ (j : Nat) (a : Ty), args[j]? = some a →
    tyOkW P M K 0 noCtx a = true ∧ (ctx j = true → plainW P noCtx K a = true)

theorem ArgsOkK.param {P : Prog} {M : Marks} {K : Nat} {n : Nat} {ctx : Nat → Bool} {args : List Ty}
    (h : ArgsOkK P M K ctx args) (hlen : args.length = n) (hctx : ∀ i, ctx i = true → i < n) :
    ∀ i, ctx i = true → plainW P noCtx K (subst args (.param i)) = true := by
  intro i hi
  have hlt : i < args.length := by rw [hlen]; exact hctx i hi
  rw [subst]
  simp only [List.getElem?_eq_getElem hlt, Option.getD_some]
  exact (h i _ (List.getElem?_eq_getElem hlt)).2 hi

mutual
theorem tyOkW_subst {P : Prog} {M : Marks} {K K' n : Nat} {ctx : Nat → Bool} {args : List Ty}
    (hargs : ArgsOkK P M K' ctx args) (hlen : args.length = n) (hctx : ∀ i, ctx i = true → i < n) :
    ∀ t : Ty, tyOkW P M K n ctx t = true → tyOkW P M (K + K') 0 noCtx (subst args t) = true
  | .vec t, h => by
    simp only [subst, tyOkW]; simp only [tyOkW] at h; exact tyOkW_subst hargs hlen hctx t h
  | .hashMap t, h => by
    simp only [subst, tyOkW]; simp only [tyOkW] at h; exact tyOkW_subst hargs hlen hctx t h
  | .btreeMap t, h => by
    simp only [subst, tyOkW]; simp only [tyOkW] at h; exact tyOkW_subst hargs hlen hctx t h
  | .ptr t, h => by
    simp only [subst, tyOkW]; simp only [tyOkW] at h; exact tyOkW_subst hargs hlen hctx t h
  | .option t, h => by
    simp only [subst, tyOkW]
    simp only [tyOkW] at h
    simp only [Bool.and_eq_true] at h ⊢
    exact ⟨tyOkW_subst hargs hlen hctx t h.1,
      plainW_subst args noCtx K' K ctx t (hargs.param hlen hctx) h.2⟩
  | .named id as, h => by
    simp only [subst, tyOkW]
    simp only [tyOkW] at h
    simp only [Bool.and_eq_true] at h ⊢
    refine ⟨?_, tysOkW_subst hargs hlen hctx id 0 as h.2⟩
    have h1 := h.1
    cases hd : P[id]? with
    | none => simp [hd] at h1
    | some d =>
      simp only [hd] at h1 ⊢
      split
      · rename_i hg; simpa [hg, substList_eq_map] using h1
      · rename_i hg
        simp only [hg, Bool.false_eq_true, if_false, List.isEmpty_iff] at h1
        subst h1
        rw [substList]; rfl
  | .param i, h => by
    simp only [tyOkW] at h
    have hi : i < args.length := by rw [hlen]; simpa using h
    rw [subst]
    simp only [List.getElem?_eq_getElem hi, Option.getD_some]
    exact tyOkW_mono (by omega) _ (hargs i _ (List.getElem?_eq_getElem hi)).1
  | .unit, _ | .bool, _ | .i8, _ | .i16, _ | .i32, _ | .i64, _ | .u16, _ | .u32, _ | .u64, _ | .usize, _
  | .f32, _ | .f64, _ | .string, _ | .str, _ | .byteVec, _ | .byteSlice, _ | .byteArray _, _ => rfl
theorem tysOkW_subst {P : Prog} {M : Marks} {K K' n : Nat} {ctx : Nat → Bool} {args : List Ty}
    (hargs : ArgsOkK P M K' ctx args) (hlen : args.length = n) (hctx : ∀ i, ctx i = true → i < n)
    (id : Nat) : ∀ (j : Nat) (ts : List Ty), tysOkW P M K n ctx id j ts = true →
      tysOkW P M (K + K') 0 noCtx id j (substList args ts) = true
  | _, [], _ => by rw [substList, tysOkW]
  | j, t :: ts, h => by
    rw [substList, tysOkW]
    simp only [tysOkW] at h
    simp only [Bool.and_eq_true, Bool.or_eq_true] at h ⊢
    refine ⟨⟨tyOkW_subst hargs hlen hctx t h.1.1, ?_⟩, tysOkW_subst hargs hlen hctx id (j + 1) ts h.2⟩
    rcases h.1.2 with h' | h'
    · exact .inl h'
    · exact .inr (plainW_subst args noCtx K' K ctx t (hargs.param hlen hctx) h')
end

theorem tyOkW_peel (P : Prog) (M : Marks) (K n : Nat) (ctx : Nat → Bool) {t : Ty}
    (h : tyOkW P M K n ctx t = true) : tyOkW P M K n ctx (Derive.peel t) = true := by
  induction t using peel_induction with
  | ptr t ih => exact ih (by simpa [tyOkW] using h)
  | other t ht => rwa [ht]

/-- Closed types of the fragment, for some bound on newtype chains. -/
def OkT (P : Prog) (M : Marks) (t : Ty) : Prop := ∃ K, tyOkW P M K 0 noCtx t = true

def ArgsOk (P : Prog) (M : Marks) (ctx : Nat → Bool) (args : List Ty) : Prop := ∃ K, ArgsOkK P M K ctx args

theorem ArgsOk.nil (P : Prog) (M : Marks) (ctx : Nat → Bool) : ArgsOk P M ctx [] :=
  ⟨0, fun j a hj => by simp at hj⟩

theorem OkT.subst {P : Prog} {M : Marks} {K n : Nat} {ctx : Nat → Bool} {args : List Ty} {t : Ty}
    (hargs : ArgsOk P M ctx args) (hlen : args.length = n) (hctx : ∀ i, ctx i = true → i < n)
    (h : tyOkW P M K n ctx t = true) : OkT P M (subst args t) := by
  obtain ⟨K', hargs⟩ := hargs
  exact ⟨K + K', tyOkW_subst hargs hlen hctx t h⟩

theorem ctxOf_lt {M : Marks} {id n : Nat} : ∀ i, ctxOf M id n i = true → i < n := by
  intro i h
  simp only [ctxOf, Bool.and_eq_true, decide_eq_true_eq] at h
  exact h.1

theorem OkT.args {P : Prog} {M : Marks} {id : Nat} {args : List Ty} (h : OkT P M (.named id args)) (n : Nat) :
    ArgsOk P M (ctxOf M id n) args := by
  obtain ⟨K, h⟩ := h
  simp only [tyOkW] at h
  simp only [Bool.and_eq_true] at h
  refine ⟨K, fun j a hj => ?_⟩
  obtain ⟨h1, h2⟩ := tysOkW_get args 0 h.2 j a hj
  refine ⟨h1, fun hc => h2 ?_⟩
  simp only [ctxOf, Bool.and_eq_true] at hc
  simpa using hc.2

theorem arity_scope {d : Decl} {args : List Ty}
    (h : (if isGenW d then args.length == d.nparams else args.isEmpty) = true) : args.length = scopeW d := by
  unfold scopeW
  split
  · rename_i hg; simpa [hg] using h
  · rename_i hg
    simp only [hg, Bool.false_eq_true, if_false, List.isEmpty_iff] at h
    subst h; rfl

theorem OkT.named {P : Prog} {M : Marks} {id : Nat} {args : List Ty} (h : OkT P M (.named id args))
    {d : Decl} (hd : P[id]? = some d) :
    args.length = scopeW d ∧ ArgsOk P M (ctxOf M id (scopeW d)) args := by
  refine ⟨?_, h.args _⟩
  obtain ⟨K, h⟩ := h
  simp only [tyOkW] at h
  simp only [Bool.and_eq_true, hd] at h
  exact arity_scope h.1

theorem OkT.unit (P : Prog) (M : Marks) : OkT P M .unit := ⟨0, by simp [tyOkW]⟩

theorem OkT.vec {P : Prog} {M : Marks} {t : Ty} (h : OkT P M (.vec t)) : OkT P M t :=
  h.imp fun _ h => by simpa [tyOkW] using h

theorem OkT.hashMap {P : Prog} {M : Marks} {t : Ty} (h : OkT P M (.hashMap t)) : OkT P M t :=
  h.imp fun _ h => by simpa [tyOkW] using h

theorem OkT.btreeMap {P : Prog} {M : Marks} {t : Ty} (h : OkT P M (.btreeMap t)) : OkT P M t :=
  h.imp fun _ h => by simpa [tyOkW] using h

theorem OkT.ptr {P : Prog} {M : Marks} {t : Ty} (h : OkT P M (.ptr t)) : OkT P M t :=
  h.imp fun _ h => by simpa [tyOkW] using h

theorem OkT.option {P : Prog} {M : Marks} {t : Ty} (h : OkT P M (.option t)) : OkT P M t :=
  h.imp fun _ h => by simp only [tyOkW, Bool.and_eq_true] at h; exact h.1

/-! ### The tables of marks tried by `FitWfW` -/

def noMarks : Marks := fun _ _ => false
def allMarks : Marks := fun _ _ => true

def marksOfTable (tbl : List (List Bool)) : Marks := fun id i => (tbl.getD id []).getD i false

/-- One round of inference: parameter `i` of a declaration gets marked when the declaration does
    not check even with all its other parameters marked. -/
def markStep (P : Prog) (K : Nat) (tbl : List (List Bool)) : List (List Bool) :=
  (List.range P.size).map fun id =>
    match P[id]? with
    | none => []
    | some d =>
      (List.range d.nparams).map fun i =>
        marksOfTable tbl id i ||
          !declOkWith P (marksOfTable tbl) K (fun j => decide (j < scopeW d) && (j != i)) d

def iterN {α} (f : α → α) : Nat → α → α
  | 0, x => x
  | n + 1, x => iterN f n (f x)

/-- The marks inferred from the program text (least table closed under `markStep`, reached after at
    most one round per parameter). -/
def inferMarks (P : Prog) (K : Nat) : Marks :=
  marksOfTable (iterN (markStep P K) (P.foldl (fun a d => a + d.nparams) 1) [])

mutual
def tyDepth : Ty → Nat
  | .vec t => tyDepth t + 1
  | .option t => tyDepth t + 1
  | .hashMap t => tyDepth t + 1
  | .btreeMap t => tyDepth t + 1
  | .ptr t => tyDepth t + 1
  | .named _ args => tysDepth args + 1
  | _ => 1
def tysDepth : List Ty → Nat
  | [] => 0
  | t :: ts => max (tyDepth t) (tysDepth ts)
end

def progDepth (P : Prog) : Nat :=
  P.foldl (fun a d => max a (d.body.lookupFields.foldl (fun b f => max b (tyDepth f.ty)) 0)) 0

/-- Bound on the chains of forwarding newtypes followed by `plainW` (generous: the nesting depth of
    the types in the program times the number of declarations). -/
def wideFuel (P : Prog) (root : Ty) : Nat := (P.size + 1) * (max (progDepth P) (tyDepth root) + 1)

theorem wideFuel_ge (P : Prog) (root : Ty) : P.size + 1 ≤ wideFuel P root :=
  Nat.le_mul_of_pos_right _ (by omega)

/-- **The fragment of `C20_fits_wider`**: the program checks against one of three tables of marks —
    none (the fragment `FitWfG` and generic forwarding newtypes around non-parameters), the inferred
    ones, all. -/
def FitWfW (P : Prog) (root : Ty) : Bool :=
  FitWfWith P noMarks (wideFuel P root) root ||
    FitWfWith P (inferMarks P (wideFuel P root)) (wideFuel P root) root ||
    FitWfWith P allMarks (wideFuel P root) root

theorem FitWfW_with {P : Prog} {root : Ty} (h : FitWfW P root = true) :
    ∃ M K, FitWfWith P M K root = true := by
  simp only [FitWfW, Bool.or_eq_true] at h
  rcases h with (h | h) | h
  · exact ⟨_, _, h⟩
  · exact ⟨_, _, h⟩
  · exact ⟨_, _, h⟩

end Avro.Theorems.DeriveW
