import AvroModel.Spec.ValidDoc
import AvroModel.Lemmas.PcfSpecRaw
/-
C07 (valid documents parse), first part: the raw schema tree.

The walks of `Spec/ValidDoc.lean` read on the raw tree `RawSchema` (`defsRaw`, `regOk`, `sizeRaw`,
`rankedRaw`), and its member-list recursions as lookups.
-/
namespace Avro.ValidParses
open Avro Avro.Impl Avro.Spec Avro.Spec.Pcf Avro.PcfSpec

/-! ### the walks on the raw tree -/

/-- what `definedNamesIn` makes of a schema object, given the defined names of its parts -/
def defsParts (enc : Option String) (t : RawType) (name nsAttr : Option String)
    (dfields : Option String → List Fullname) (ditems dvalues : List Fullname) : List Fullname :=
  match name with
  | some nm =>
    fullnameOfDef nm nsAttr enc ::
      (match t with
        | .array => ditems
        | .map => dvalues
        | .record => dfields (fullnameOfDef nm nsAttr enc).1
        | _ => [])
  | none =>
    match t with
    | .array => ditems
    | .map => dvalues
    | _ => []

mutual

def defsRaw (enc : Option String) : RawSchema → List Fullname
  | .type _ => []
  | .ref _ => []
  | .union bs => defsRawList enc bs
  | .object a fields items values =>
    defsParts enc a.type a.name a.nsAttr (fun ns => defsRawOF ns fields) (defsRawO enc items)
      (defsRawO enc values)

def defsRawO (enc : Option String) : Option RawSchema → List Fullname
  | none => []
  | some r => defsRaw enc r

def defsRawOF (enc : Option String) : Option (List (String × RawSchema)) → List Fullname
  | none => []
  | some fs => defsRawFields enc fs

def defsRawList (enc : Option String) : List RawSchema → List Fullname
  | [] => []
  | r :: rest => defsRaw enc r ++ defsRawList enc rest

def defsRawFields (enc : Option String) : List (String × RawSchema) → List Fullname
  | [] => []
  | (_, r) :: rest => defsRaw enc r ++ defsRawFields enc rest

end

def isPrimType : RawType → Bool
  | .array | .map | .record | .enum | .fixed => false
  | _ => true

def attrsRegOk (a : RawAttrs) : Bool :=
  !(a.logicalType == some "decimal") || a.precision.isSome

mutual

/-- local demands of the registration: no complex type as a bare string, a decimal has its
    precision -/
def regOk : RawSchema → Bool
  | .type t => isPrimType t
  | .ref _ => true
  | .union bs => regOkList bs
  | .object a fields items values => attrsRegOk a && regOkOF fields && regOkO items && regOkO values

def regOkO : Option RawSchema → Bool
  | none => true
  | some r => regOk r

def regOkOF : Option (List (String × RawSchema)) → Bool
  | none => true
  | some fs => regOkFields fs

def regOkList : List RawSchema → Bool
  | [] => true
  | r :: rest => regOk r && regOkList rest

def regOkFields : List (String × RawSchema) → Bool
  | [] => true
  | (_, r) :: rest => regOk r && regOkFields rest

end

mutual

def sizeRaw : RawSchema → Nat
  | .type _ => 2
  | .ref _ => 2
  | .union bs => 1 + sizeRawList bs
  | .object _ fields items values => 2 + sizeRawO items + sizeRawO values + sizeRawOF fields

def sizeRawO : Option RawSchema → Nat
  | none => 0
  | some r => sizeRaw r

def sizeRawOF : Option (List (String × RawSchema)) → Nat
  | none => 0
  | some fs => sizeRawFields fs

def sizeRawList : List RawSchema → Nat
  | [] => 0
  | r :: rest => 1 + sizeRaw r + sizeRawList rest

def sizeRawFields : List (String × RawSchema) → Nat
  | [] => 0
  | (_, r) :: rest => 1 + sizeRaw r + sizeRawFields rest

end

def directBelowRaw (rank : Fullname → Nat) (owner : Fullname) (ns : Option String) :
    RawSchema → Bool
  | .ref s => decide (rank (fullnameOfRef s ns) < rank owner)
  | .object a _ _ _ =>
    match a.type, a.name with
    | .record, some name => decide (rank (fullnameOfDef name a.nsAttr ns) < rank owner)
    | _, _ => true
  | _ => true

/-- what `ranked` makes of a schema object, given the verdicts on its parts -/
def rankedParts (enc : Option String) (t : RawType) (name nsAttr : Option String)
    (rfields : Fullname → Bool) (ritems rvalues : Bool) : Bool :=
  match t with
  | .array => ritems
  | .map => rvalues
  | .record =>
    (match name with
      | some nm => rfields (fullnameOfDef nm nsAttr enc)
      | none => true)
  | _ => true

mutual

def rankedRaw (rank : Fullname → Nat) (enc : Option String) : RawSchema → Bool
  | .type _ => true
  | .ref _ => true
  | .union bs => rankedRawList rank enc bs
  | .object a fields items values =>
    rankedParts enc a.type a.name a.nsAttr (fun owner => rankedRawOF rank owner fields)
      (rankedRawO rank enc items) (rankedRawO rank enc values)

def rankedRawO (rank : Fullname → Nat) (enc : Option String) : Option RawSchema → Bool
  | none => true
  | some r => rankedRaw rank enc r

def rankedRawOF (rank : Fullname → Nat) (owner : Fullname) :
    Option (List (String × RawSchema)) → Bool
  | none => true
  | some fs => rankedRawFields rank owner fs

def rankedRawList (rank : Fullname → Nat) (enc : Option String) : List RawSchema → Bool
  | [] => true
  | r :: rest => rankedRaw rank enc r && rankedRawList rank enc rest

def rankedRawFields (rank : Fullname → Nat) (owner : Fullname) :
    List (String × RawSchema) → Bool
  | [] => true
  | (_, r) :: rest =>
    (directBelowRaw rank owner owner.1 r && rankedRaw rank owner.1 r) &&
      rankedRawFields rank owner rest

end

/-! ### the walks over the fields of a record are the walks over the list of their types -/

theorem defsRawFields_eq_list (ns : Option String) (fs : List (String × RawSchema)) :
    defsRawFields ns fs = defsRawList ns (fs.map (·.2)) := by
  induction fs with
  | nil => rfl
  | cons p rest ih => simp only [defsRawFields, List.map_cons, defsRawList, ih]

theorem regOkFields_eq_list (fs : List (String × RawSchema)) :
    regOkFields fs = regOkList (fs.map (·.2)) := by
  induction fs with
  | nil => rfl
  | cons p rest ih => simp only [regOkFields, List.map_cons, regOkList, ih]

theorem sizeRawFields_eq_list (fs : List (String × RawSchema)) :
    sizeRawFields fs = sizeRawList (fs.map (·.2)) := by
  induction fs with
  | nil => rfl
  | cons p rest ih => simp only [sizeRawFields, List.map_cons, sizeRawList, ih]

theorem rankedRawFields_eq (rank : Fullname → Nat) (owner : Fullname)
    (fs : List (String × RawSchema)) :
    rankedRawFields rank owner fs = true ↔
      rankedRawList rank owner.1 (fs.map (·.2)) = true ∧
      ∀ r ∈ fs.map (·.2), directBelowRaw rank owner owner.1 r = true := by
  induction fs with
  | nil => simp [rankedRawFields, rankedRawList]
  | cons p rest ih =>
    simp only [rankedRawFields, Bool.and_eq_true, ih, List.map_cons, rankedRawList,
      List.mem_cons, forall_eq_or_imp]
    constructor
    · rintro ⟨⟨h1, h2⟩, h3, h4⟩; exact ⟨⟨h2, h3⟩, h1, h4⟩
    · rintro ⟨⟨h2, h3⟩, h1, h4⟩; exact ⟨⟨h1, h2⟩, h3, h4⟩

theorem isPrimType_primitive {t : RawType} (h : isPrimType t = true) :
    isPrimitive (typeText t) = true := by
  cases t <;> first | decide | cases h

/-! ### `nodupB` decides `List.Nodup` -/

theorem nodupB_nodup {l : List Fullname} (h : nodupB l = true) : l.Nodup := by
  induction l with
  | nil => exact List.nodup_nil
  | cons a l ih =>
    simp only [nodupB, Bool.and_eq_true, Bool.not_eq_true'] at h
    refine List.nodup_cons.mpr ⟨?_, ih h.2⟩
    intro hm
    have : l.contains a = true := by simpa using hm
    rw [this] at h
    exact absurd h.1 (by simp)

theorem nodupB_of_nodup {l : List Fullname} (h : l.Nodup) : nodupB l = true := by
  induction l with
  | nil => rfl
  | cons a l ih =>
    obtain ⟨h1, h2⟩ := List.nodup_cons.mp h
    simp only [nodupB, Bool.and_eq_true, Bool.not_eq_true', ih h2, and_true]
    simpa using h1

/-! ### member-list recursions as lookups -/

/-- A recursion over the members that stops at the first `key` is a lookup. -/
theorem attr_walk {α : Type} (key : String) (g : Json → α) (d : α)
    {f : List (String × Json) → α} (hnil : f [] = d)
    (hcons : ∀ k v rest, f ((k, v) :: rest) = if k = key then g v else f rest)
    (ms : List (String × Json)) :
    f ms = match attr key ms with
      | some v => g v
      | none => d := by
  induction ms with
  | nil => simpa [attr] using hnil
  | cons p rest ih =>
    obtain ⟨k, v⟩ := p
    by_cases hk : k = key <;> simp [hcons, attr, hk, ih]

theorem fields_walk {α : Type} (F : List Json → α) (d : α)
    {f : List (String × Json) → α} (hnil : f [] = d)
    (hcons : ∀ k v rest, f ((k, v) :: rest) =
      if k = "fields" then (match v with | .arr fs => F fs | _ => d) else f rest)
    (ms : List (String × Json)) :
    f ms = match attr "fields" ms with
      | some (.arr fs) => F fs
      | _ => d := by
  induction ms with
  | nil => simpa [attr] using hnil
  | cons p rest ih =>
    obtain ⟨k, v⟩ := p
    by_cases hk : k = "fields"
    · cases v <;> simp only [hcons, attr, hk, if_true]
    · cases v <;> simp only [hcons, attr, hk, if_false, ih]

theorem defsAttr_eq (enc : Option String) (key : String) (ms : List (String × Json)) :
    defsAttr enc key ms =
      match attr key ms with
      | some v => definedNamesIn enc v
      | none => [] :=
  attr_walk key _ _ rfl (fun _ _ _ => rfl) ms

theorem defsFieldsAttr_eq (enc : Option String) (ms : List (String × Json)) :
    defsFieldsAttr enc ms =
      match attr "fields" ms with
      | some (.arr fs) => defsFields enc fs
      | _ => [] :=
  fields_walk _ _ rfl (fun _ v _ => by cases v <;> rfl) ms

theorem sizeAttr_eq (key : String) (ms : List (String × Json)) :
    sizeAttr key ms =
      match attr key ms with
      | some v => schemaSize v
      | none => 0 :=
  attr_walk key _ _ rfl (fun _ _ _ => rfl) ms

theorem sizeFieldsAttr_eq (ms : List (String × Json)) :
    sizeFieldsAttr ms =
      match attr "fields" ms with
      | some (.arr fs) => sizeFields fs
      | _ => 0 :=
  fields_walk _ _ rfl (fun _ v _ => by cases v <;> rfl) ms

theorem depthAttr_eq (key : String) (ms : List (String × Json)) :
    depthAttr key ms =
      match attr key ms with
      | some v => parseDepth v
      | none => 0 :=
  attr_walk key _ _ rfl (fun _ _ _ => rfl) ms

theorem depthFieldsAttr_eq (ms : List (String × Json)) :
    depthFieldsAttr ms =
      match attr "fields" ms with
      | some (.arr fs) => depthFields fs
      | _ => 0 :=
  fields_walk _ _ rfl (fun _ v _ => by cases v <;> rfl) ms

theorem rankedAttr_eq (rank : Fullname → Nat) (enc : Option String) (key : String)
    (ms : List (String × Json)) :
    rankedAttr rank enc key ms =
      match attr key ms with
      | some v => ranked rank enc v
      | none => true :=
  attr_walk key _ _ rfl (fun _ _ _ => rfl) ms

theorem rankedFieldsAttr_eq (rank : Fullname → Nat) (owner : Fullname)
    (ms : List (String × Json)) :
    rankedFieldsAttr rank owner ms =
      match attr "fields" ms with
      | some (.arr fs) => rankedFields rank owner fs
      | _ => true :=
  fields_walk _ _ rfl (fun _ v _ => by cases v <;> rfl) ms

theorem rankedFieldType_eq (rank : Fullname → Nat) (owner : Fullname)
    (ms : List (String × Json)) :
    rankedFieldType rank owner ms =
      match attr "type" ms with
      | some v => directBelow rank owner owner.1 v && ranked rank owner.1 v
      | none => true :=
  attr_walk "type" _ _ rfl (fun _ _ _ => rfl) ms

theorem wtOpt_eq (key : String) (ms : List (String × Json)) :
    wtOpt key ms =
      match attr key ms with
      | some v => isNull v || wellTyped v
      | none => true :=
  attr_walk key _ _ rfl (fun _ _ _ => rfl) ms

theorem wtReq_eq (key : String) (ms : List (String × Json)) :
    wtReq key ms =
      match attr key ms with
      | some v => wellTyped v
      | none => false :=
  attr_walk key _ _ rfl (fun _ _ _ => rfl) ms

theorem wtFieldsAttr_eq (ms : List (String × Json)) :
    wtFieldsAttr ms =
      match attr "fields" ms with
      | none => true
      | some .null => true
      | some (.arr fs) => wtFields fs
      | some _ => false := by
  induction ms with
  | nil => simp [wtFieldsAttr, attr]
  | cons p rest ih =>
    obtain ⟨k, v⟩ := p
    by_cases hk : k = "fields"
    · cases v <;> simp only [wtFieldsAttr, attr, hk, if_true]
    · cases v <;> simp only [wtFieldsAttr, attr, hk, if_false, ih]

end Avro.ValidParses
