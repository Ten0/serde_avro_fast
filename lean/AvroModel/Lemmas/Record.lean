import AvroModel.Lemmas.SerBase
/-
The record reordering machine (`fieldIdx`, `recordValue`, `flushBuffered`): its invariant `RecInv`
for field values that serialize to fixed byte strings (`recordValue_ok_inv`), and which fields are
done (`RecDone`: written or waiting in a slot).
-/
namespace Avro.Theorems
open Avro Avro.Impl

/-- Weak form of the invariant, what holds when the flush loop is entered: the writer holds the
    encodings of the fields below `current` in schema order, an occupied slot is at or after
    `current` and holds its field's encoding. -/
def RecInvW (fields : List (String × Nat)) (enc : Nat → Bytes) (base : Bytes)
    (rs : RecordState) (s : SerState) : Prop :=
  s.out = base ++ (List.range rs.current).flatMap enc ∧
  (∀ i b, rs.buffers.slots[i]? = some (some b) →
    i ≥ rs.current ∧ i < fields.length ∧ b.data = enc i) ∧
  rs.current ≤ fields.length

/-- The invariant between two `serialize_field` calls: as `RecInvW`, and the slot of the field
    waited for is empty (occupied slots are strictly after `current`). -/
def RecInv (fields : List (String × Nat)) (enc : Nat → Bytes) (base : Bytes)
    (rs : RecordState) (s : SerState) : Prop :=
  s.out = base ++ (List.range rs.current).flatMap enc ∧
  (∀ i b, rs.buffers.slots[i]? = some (some b) →
    i > rs.current ∧ i < fields.length ∧ b.data = enc i) ∧
  rs.current ≤ fields.length

theorem RecInv.weak {fields enc base rs s} (h : RecInv fields enc base rs s) :
    RecInvW fields enc base rs s :=
  ⟨h.1, fun i b hb => ⟨Nat.le_of_lt (h.2.1 i b hb).1, (h.2.1 i b hb).2⟩, h.2.2⟩

theorem range_succ_flatMap (enc : Nat → Bytes) (n : Nat) :
    (List.range (n + 1)).flatMap enc = (List.range n).flatMap enc ++ enc n := by
  simp [List.range_succ, List.flatMap_append]

theorem flushBuffered_inv (fields : List (String × Nat)) (enc : Nat → Bytes) (base : Bytes) :
    ∀ (fuel : Nat) (rs : RecordState) (s : SerState), s.budget = none →
      rs.buffers.slots.length ≤ fuel + rs.current → RecInvW fields enc base rs s →
      ∃ rs' s', flushBuffered fuel rs s = (.ok rs', s') ∧ s'.budget = none ∧
        RecInv fields enc base rs' s' ∧ rs.current ≤ rs'.current := by
  intro fuel
  induction fuel with
  | zero =>
    intro rs s hb hfuel hinv
    refine ⟨rs, s, rfl, hb, ⟨hinv.1, fun i b hib => ?_, hinv.2.2⟩, Nat.le_refl _⟩
    have := hinv.2.1 i b hib
    have hlt : i < rs.buffers.slots.length := (List.getElem?_eq_some_iff.mp hib).1
    omega
  | succ fuel ih =>
    intro rs s hb hfuel hinv
    unfold flushBuffered
    split
    · rename_i b hb'
      dsimp only
      rw [writeAll_none _ _ hb]
      dsimp only [pushBuffer]
      have hcur := hinv.2.1 _ b hb'
      obtain ⟨rs', s', h1, h2, h3, h4⟩ := ih
        { current := rs.current + 1,
          buffers := { rs.buffers with slots := rs.buffers.slots.set rs.current none } }
        { s with out := s.out ++ b.data,
                 pool := { s.pool with buffers := { b with data := [] } :: s.pool.buffers } }
        hb (by simp; omega)
        ⟨by simp only [hinv.1, hcur.2.2, range_succ_flatMap, List.append_assoc], fun i b' hib' => by
          simp only [List.getElem?_set] at hib'
          split at hib'
          · split at hib' <;> cases hib'
          · have := hinv.2.1 i b' hib'
            exact ⟨by simp only; omega, this.2⟩, by simp only; omega⟩
      exact ⟨rs', s', h1, h2, h3, by simp only at h4; omega⟩
    · rename_i hnot
      refine ⟨rs, s, rfl, hb, ⟨hinv.1, fun i b hib => ?_, hinv.2.2⟩, Nat.le_refl _⟩
      have := hinv.2.1 i b hib
      refine ⟨?_, this.2⟩
      rcases Nat.lt_or_ge rs.current i with h | h
      · exact h
      · have : i = rs.current := by omega
        subst this
        exact (hnot b hib).elim

theorem flushBuffered_next {fields : List (String × Nat)} {enc : Nat → Bytes} {base : Bytes}
    {rs : RecordState} {s s' : SerState} (hinv : RecInv fields enc base rs s)
    (hlt : rs.current < fields.length) (hout : s'.out = s.out ++ enc rs.current)
    (hb : s'.budget = none) :
    ∃ rs' s'', flushBuffered rs.buffers.slots.length { rs with current := rs.current + 1 } s' =
        (.ok rs', s'') ∧ s''.budget = none ∧ RecInv fields enc base rs' s'' ∧
      rs.current + 1 ≤ rs'.current :=
  flushBuffered_inv fields enc base _ _ s' hb (by simp only; omega)
    ⟨by simp only [hout, hinv.1, range_succ_flatMap, List.append_assoc],
     fun i b hib => by have := hinv.2.1 i b hib; exact ⟨by simp only; omega, this.2⟩, hlt⟩

theorem listResize_of_le {α} {l : List α} {n : Nat} (a : α) (h : l.length ≤ n) :
    listResize l n a = l ++ List.replicate (n - l.length) a := by
  unfold listResize
  split
  · obtain rfl : l.length = n := by omega
    simp
  · rfl

theorem resizedSlots_some (slots : List (Option Buffer)) (idx i : Nat) (b : Buffer) :
    (if slots.length ≤ idx then listResize slots (idx + 1) none else slots)[i]? = some (some b) ↔
      slots[i]? = some (some b) := by
  split
  · rw [listResize_of_le none (by omega), List.getElem?_append]
    split
    · rfl
    · rename_i hi
      rw [List.getElem?_eq_none (Nat.le_of_not_lt hi)]
      simp [List.getElem?_replicate]
  · rfl

theorem resizedSlots_length (slots : List (Option Buffer)) (idx : Nat) :
    idx < (if slots.length ≤ idx then listResize slots (idx + 1) none else slots).length := by
  split
  · rw [listResize_of_le none (by omega)]; simp; omega
  · omega

/-- Field `i` has been presented: already written, or waiting in its slot. -/
def RecDone (rs : RecordState) (i : Nat) : Prop :=
  i < rs.current ∨ ∃ b, rs.buffers.slots[i]? = some (some b)

/-- What `RecInv` adds to `RecInvW`: the field waited for has not been presented. -/
theorem RecInv.not_done {fields enc base rs s} (h : RecInv fields enc base rs s) :
    ¬ RecDone rs rs.current := by
  rintro (h' | ⟨b, hb⟩)
  · omega
  · have := (h.2.1 _ b hb).1; omega

theorem flushBuffered_done : ∀ {fuel : Nat} {rs : RecordState} {s : SerState} {rs' : RecordState},
    (flushBuffered fuel rs s).1 = .ok rs' → ∀ i, RecDone rs' i ↔ RecDone rs i := by
  intro fuel
  induction fuel with
  | zero => intro rs s rs' h i; cases h; rfl
  | succ fuel ih =>
    intro rs s rs' h i
    unfold flushBuffered at h
    split at h
    · rename_i b hb
      dsimp only at h
      split at h
      · cases h
      · rw [ih h i]
        simp only [RecDone, List.getElem?_set]
        by_cases hi : i = rs.current
        · subst hi; simp [hb]
        · rw [if_neg (Ne.symm hi)]
          exact or_congr_left (by omega)
    · cases h; rfl

theorem popBuffer_ok {s s1 : SerState} {buf : Buffer} (h : popBuffer s = (.ok buf, s1)) :
    buf.data = [] ∧ s1.out = s.out ∧ s1.budget = s.budget := by
  unfold popBuffer at h
  split at h
  · cases h; exact ⟨rfl, rfl, rfl⟩
  · split at h
    · cases h
    · rename_i hb
      cases h
      exact ⟨by simpa using hb, rfl, rfl⟩

/-- A successful `serialize_field`: the field waited for was written in place and the flush loop ran,
    or its free slot holds the value's bytes, serialized into a pooled buffer. -/
theorem recordValue_ok_inv {S : Schema} {fields : List (String × Nat)} {rs : RecordState}
    {idx : Nat} {serv : Node → SerM Unit} {s : SerState} {rs' : RecordState} {s' : SerState}
    (hok : recordValue S fields rs idx serv s = (.ok rs', s')) :
    ∃ f node, fields[idx]? = some f ∧ S[f.2]? = some node ∧
      ((idx = rs.current ∧ ∃ s1, serv node s = (.ok (), s1) ∧
          flushBuffered rs.buffers.slots.length { rs with current := rs.current + 1 } s1 =
            (.ok rs', s')) ∨
        (idx ≠ rs.current ∧ (∀ b, rs.buffers.slots[idx]? ≠ some (some b)) ∧
          ∃ buf s1 b, popBuffer s = (.ok buf, s1) ∧ intoBuffer buf (serv node) s1 = (.ok b, s') ∧
            rs' = { rs with buffers := { cap := true, slots :=
              (if rs.buffers.slots.length ≤ idx then listResize rs.buffers.slots (idx + 1) none
                else rs.buffers.slots).set idx (some b) } })) := by
  unfold recordValue at hok
  split at hok
  · cases hok
  · rename_i f hf
    split at hok
    · cases hok
    · rename_i node hnode
      refine ⟨f, node, hf, hnode, ?_⟩
      split at hok
      · rename_i hcur
        split at hok
        · cases hok
        · rename_i s1 hs1
          exact .inl ⟨hcur, s1, hs1, hok⟩
      · rename_i hcur
        dsimp only at hok
        split at hok
        · cases hok
        · rename_i hfree
          split at hok
          · cases hok
          · rename_i buf s1 hpop
            split at hok
            · cases hok
            · rename_i b s2 hinto
              cases hok
              exact .inr ⟨hcur, fun b hb => hfree b ((resizedSlots_some _ _ _ _).mpr hb), buf, s1, b,
                hpop, hinto, rfl⟩

theorem recordValue_done {S : Schema} {fields : List (String × Nat)} {rs : RecordState}
    {idx : Nat} {serv : Node → SerM Unit} {s : SerState} {rs' : RecordState} {s' : SerState}
    (hok : recordValue S fields rs idx serv s = (.ok rs', s')) (i : Nat) :
    RecDone rs' i ↔ RecDone rs i ∨ i = idx := by
  obtain ⟨_, _, _, _, ⟨rfl, s1, _, hfl⟩ | ⟨_, _, buf, s1, b, _, _, rfl⟩⟩ := recordValue_ok_inv hok
  · rw [flushBuffered_done (congrArg Prod.fst hfl) i]
    simp only [RecDone]
    constructor
    · rintro (h | h)
      · by_cases hi : i = rs.current
        · exact .inr hi
        · exact .inl (.inl (by omega))
      · exact .inl (.inr h)
    · rintro ((h | h) | h)
      · exact .inl (by omega)
      · exact .inr h
      · exact .inl (by omega)
  · simp only [RecDone, List.getElem?_set]
    by_cases hi : i = idx
    · subst hi
      simp [resizedSlots_length]
    · rw [if_neg (Ne.symm hi)]
      simp only [resizedSlots_some, hi, or_false]

/-- `C`: what the value serializer needs of the pool; any predicate kept by `popBuffer`, since the
    value of a field not waited for is serialized after a buffer has been popped. -/
theorem recordValue_inv_gen (C : Pool → Prop)
    (hpop : ∀ s buf s1, popBuffer s = (.ok buf, s1) → C s.pool → C s1.pool)
    (fields : List (String × Nat)) (enc : Nat → Bytes) (base : Bytes)
    (S : Schema) (rs : RecordState) (idx : Nat) (serv : Node → SerM Unit) (s : SerState)
    (rs' : RecordState) (s' : SerState)
    (hb : s.budget = none) (hc : C s.pool) (hidx : rs.current ≤ idx)
    (hserv : ∀ f node s, fields[idx]? = some f → S[f.2]? = some node → s.budget = none → C s.pool →
      ∃ s', serv node s = (.ok (), s') ∧ s'.out = s.out ++ enc idx ∧ s'.budget = none)
    (hinv : RecInv fields enc base rs s)
    (hok : recordValue S fields rs idx serv s = (.ok rs', s')) :
    RecInv fields enc base rs' s' ∧ s'.budget = none ∧
      (∀ i, RecDone rs i ∨ i = idx → RecDone rs' i) := by
  suffices h : RecInv fields enc base rs' s' ∧ s'.budget = none from
    ⟨h.1, h.2, fun i => (recordValue_done hok i).mpr⟩
  obtain ⟨f, node, hf, hnode, ⟨rfl, s1, hs1, hfl⟩ | ⟨hcur, _, buf, s1, b, hpop', hinto, rfl⟩⟩ :=
    recordValue_ok_inv hok
  · obtain ⟨s1', h1, h2, h3⟩ := hserv f node s hf hnode hb hc
    obtain rfl : s1' = s1 := by rw [hs1] at h1; cases h1; rfl
    obtain ⟨rs2, s2, g1, g2, g3, _⟩ :=
      flushBuffered_next hinv (List.getElem?_eq_some_iff.mp hf).1 h2 h3
    rw [g1] at hfl
    cases hfl
    exact ⟨g3, g2⟩
  · obtain ⟨p1, p2, p3⟩ := popBuffer_ok hpop'
    obtain ⟨s2, h1, h2, h3⟩ := hserv f node { s1 with out := buf.data, budget := none }
      hf hnode rfl (hpop s buf s1 hpop' hc)
    unfold intoBuffer at hinto
    rw [h1] at hinto
    cases hinto
    refine ⟨⟨by simp only [p2, hinv.1], fun i b hib => ?_, hinv.2.2⟩, by simp only [p3, hb]⟩
    by_cases hi : i = idx
    · subst hi
      rw [List.getElem?_set_self (resizedSlots_length _ _)] at hib
      cases hib
      exact ⟨by simp only; omega, (List.getElem?_eq_some_iff.mp hf).1,
        by simp only [h2, p1, List.nil_append]⟩
    · rw [List.getElem?_set_ne (Ne.symm hi)] at hib
      exact hinv.2.1 i b ((resizedSlots_some _ _ _ _).mp hib)

theorem recordValue_inv (fields : List (String × Nat)) (enc : Nat → Bytes) (base : Bytes)
    (S : Schema) (rs : RecordState) (idx : Nat) (serv : Node → SerM Unit) (s : SerState)
    (rs' : RecordState) (s' : SerState)
    (hb : s.budget = none) (hidx : rs.current ≤ idx)
    (hserv : ∀ node s, s.budget = none →
      ∃ s', serv node s = (.ok (), s') ∧ s'.out = s.out ++ enc idx ∧ s'.budget = none)
    (hinv : RecInv fields enc base rs s)
    (hok : recordValue S fields rs idx serv s = (.ok rs', s')) :
    RecInv fields enc base rs' s' ∧ s'.budget = none ∧
      (∀ i, RecDone rs i ∨ i = idx → RecDone rs' i) :=
  recordValue_inv_gen (fun _ => True) (fun _ _ _ _ _ => trivial) fields enc base S rs idx serv s
    rs' s' hb trivial hidx (fun _ node s _ _ hb _ => hserv node s hb) hinv hok

end Avro.Theorems
