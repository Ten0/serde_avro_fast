import AvroModel.Lemmas.RecordOrder
import AvroModel.Spec.Denotes
/-
The other presentations of a record are the struct presentation: map-presented entries with
`serialize_str` keys do what the struct-presented fields do, on every compound state that is not a
map (`serEntries_as_fields`); on a record node the map presentation and the struct-variant
presentation have the result and the final state of the struct presentation (`ser_map_eq_struct`,
`ser_structVariant_eq_struct`), on every state.
-/
namespace Avro.Theorems
open Avro Avro.Impl

/-- A struct presentation turned into map entries: every key is a `serialize_str` call. -/
def strKeyEntries (pres : List (String × SV)) : List (SV × SV) := pres.map fun p => (.str p.1, p.2)

theorem strKeys_strKeyEntries : ∀ pres : List (String × SV), Spec.strKeys (strKeyEntries pres) = some pres := by
  intro pres
  induction pres with
  | nil => rfl
  | cons p rest ih =>
    simp only [strKeyEntries, List.map_cons] at ih ⊢
    simp only [Spec.strKeys, ih, Option.map_some]

theorem strKeys_cons_none {key v : SV} {rest : List (SV × SV)} (h : keyStr key = none) :
    Spec.strKeys ((key, v) :: rest) = none := by
  cases key <;> first | rfl | cases h

section
variable {ext : Ext} {a : Bool} {S : Schema}

theorem serEntries_as_fields (entries : List (SV × SV)) :
    ∀ (k : StructKind) (s : SerState), (∀ n c, k ≠ .map n c) →
    (∃ fields, Spec.strKeys entries = some fields ∧
      serEntries ext a S k entries s = serFields ext a S k fields s) ∨
    (Spec.strKeys entries = none ∧ ∀ k' s', serEntries ext a S k entries s ≠ (.ok k', s')) := by
  induction entries with
  | nil => intro k s _; exact Or.inl ⟨[], rfl, by simp [serEntries, serFields]⟩
  | cons p rest ih =>
    obtain ⟨key, v⟩ := p
    intro k s hk
    -- the first entry fails, as the first field does
    have fail : ∀ name e k0 s0, key = .str name →
        (∀ fr, serFields ext a S k ((name, v) :: fr) s = (.error (e, k0), s0)) →
        serEntries ext a S k ((key, v) :: rest) s = (.error (e, k0), s0) →
        (∃ fields, Spec.strKeys ((key, v) :: rest) = some fields ∧
          serEntries ext a S k ((key, v) :: rest) s = serFields ext a S k fields s) ∨
        (Spec.strKeys ((key, v) :: rest) = none ∧
          ∀ k' s', serEntries ext a S k ((key, v) :: rest) s ≠ (.ok k', s')) := by
      intro name e k0 s0 hkey hF hE
      subst hkey
      cases hr : Spec.strKeys rest with
      | none => exact Or.inr ⟨by simp [Spec.strKeys, hr], fun k' s' h => by rw [hE] at h; cases h⟩
      | some fr => exact Or.inl ⟨(name, v) :: fr, by simp [Spec.strKeys, hr], by rw [hE, hF]⟩
    -- the first entry goes through, as the first field does
    have step : ∀ name k1 s1, key = .str name → (∀ n c, k1 ≠ .map n c) →
        (∀ fr, serFields ext a S k ((name, v) :: fr) s = serFields ext a S k1 fr s1) →
        serEntries ext a S k ((key, v) :: rest) s = serEntries ext a S k1 rest s1 →
        (∃ fields, Spec.strKeys ((key, v) :: rest) = some fields ∧
          serEntries ext a S k ((key, v) :: rest) s = serFields ext a S k fields s) ∨
        (Spec.strKeys ((key, v) :: rest) = none ∧
          ∀ k' s', serEntries ext a S k ((key, v) :: rest) s ≠ (.ok k', s')) := by
      intro name k1 s1 hkey hk1 hF hE
      subst hkey
      rcases ih k1 s1 hk1 with ⟨fr, hfr, heq⟩ | ⟨hn, he⟩
      · exact Or.inl ⟨(name, v) :: fr, by simp [Spec.strKeys, hfr], by rw [hE, heq, hF]⟩
      · exact Or.inr ⟨by simp [Spec.strKeys, hn], by rw [hE]; exact he⟩
    have keyStr_some : ∀ name, keyStr key = some name → key = .str name := by
      intro name h; cases key <;> simp [keyStr] at h; subst h; rfl
    cases k with
    | map n c => exact (hk n c rfl).elim
    | record sf rs =>
      cases hks : keyStr key with
      | none => exact Or.inr ⟨strKeys_cons_none hks, by simp [serEntries, hks]⟩
      | some name =>
        have hkey := keyStr_some name hks
        cases hfi : fieldIdx sf rs name with
        | error e =>
          exact fail name e (.record sf rs) s hkey (fun fr => by simp only [serFields, hfi])
            (by simp only [serEntries, hks, hfi])
        | ok idx =>
          cases hrv : recordValue S sf rs idx (fun node => ser ext a S node v) s with
          | mk r s1 =>
            cases r with
            | error e =>
              exact fail name e.1 (.record sf e.2) s1 hkey (fun fr => by simp only [serFields, hfi, hrv])
                (by simp only [serEntries, hks, hfi, hrv])
            | ok rs' =>
              exact step name (.record sf rs') s1 hkey nofun
                (fun fr => by simp only [serFields, hfi, hrv])
                (by simp only [serEntries, hks, hfi, hrv])
    | duration vals =>
      cases hks : keyStr key with
      | none => exact Or.inr ⟨strKeys_cons_none hks, by simp [serEntries, hks]⟩
      | some name =>
        have hkey := keyStr_some name hks
        cases hi : durationFieldIdx name with
        | none =>
          exact fail name .custom (.duration vals) s hkey (fun fr => by simp only [serFields, hi])
            (by simp only [serEntries, hks, hi])
        | some i =>
          have hslot : (∃ y, vals[i]? = some (some y)) ∨ vals[i]? = none ∨ vals[i]? = some none := by
            cases vals[i]? with
            | none => exact Or.inr (Or.inl rfl)
            | some o => cases o <;> simp
          rcases hslot with ⟨y, hy⟩ | hv
          · exact fail name .custom (.duration vals) s hkey (fun fr => by simp only [serFields, hi, hy])
              (by simp only [serEntries, hks, hi, hy])
          · cases hx : extractU32 v with
            | none =>
              rcases hv with hv | hv <;>
                exact fail name .custom (.duration vals) s hkey (fun fr => by simp only [serFields, hi, hv, hx])
                  (by simp only [serEntries, hks, hi, hv, hx])
            | some x =>
              rcases hv with hv | hv <;>
                exact step name (.duration (vals.set i (some x))) s hkey nofun
                  (fun fr => by simp only [serFields, hi, hv, hx])
                  (by simp only [serEntries, hks, hi, hv, hx])

end

theorem serEntries_strKeys (ext : Ext) (allowSlow : Bool) (S : Schema)
    (fields : List (String × Nat)) (pres : List (String × SV)) (rs : RecordState) (s : SerState) :
    serEntries ext allowSlow S (.record fields rs) (strKeyEntries pres) s =
      serFields ext allowSlow S (.record fields rs) pres s := by
  rcases serEntries_as_fields (ext := ext) (a := allowSlow) (S := S) (strKeyEntries pres)
    (.record fields rs) s nofun with ⟨fr, hfr, h⟩ | ⟨hn, _⟩
  · rw [strKeys_strKeyEntries] at hfr; cases hfr; exact h
  · rw [strKeys_strKeyEntries] at hn; cases hn

theorem ser_map_eq_struct (ext : Ext) (allowSlow : Bool) (S : Schema) (nm : Name)
    (fields : List (String × Nat)) (len : Option Nat) (name : String) (pres : List (String × SV))
    (s : SerState) :
    ser ext allowSlow S (.record nm fields) (.map len (strKeyEntries pres)) s =
      ser ext allowSlow S (.record nm fields) (.struct name pres) s := by
  rw [ser_struct_record_eq, ser]
  simp only [viaUnion, structStartAt, bind, pure]
  cases popSuperBuffer s with
  | mk r s1 =>
    cases r with
    | error e => rfl
    | ok sb => simp only [serEntries_strKeys]

theorem ser_structVariant_eq_struct (ext : Ext) (allowSlow : Bool) (S : Schema) (nm : Name)
    (fields : List (String × Nat)) (name name' : String) (idx : Nat) (variant : String)
    (pres : List (String × SV)) (s : SerState) :
    ser ext allowSlow S (.record nm fields) (.structVariant name' idx variant pres) s =
      ser ext allowSlow S (.record nm fields) (.struct name pres) s := by
  rw [ser_struct_record_eq, ser]
  simp only [viaName, viaUnion, structStartAt, bind, pure]
  cases popSuperBuffer s with
  | mk r s1 => cases r <;> rfl

end Avro.Theorems
