import AvroModel.Lemmas.DeBounds
import AvroModel.Impl.SchemaParse
/-
The fuels the test driver (`Driver/Main.lean`) passes to the fuelled model functions, defined
ONCE, here, and used both by the driver and by the theorems that speak about the driver's runs
(`Theorems/C04fuel.lean`, `Theorems/GraphFuel.lean`).  `deFuel` is a `max` because `deFuelBase`
(it grows with the input length, which no theorem needs) can be BELOW the bound `fuelBound` of
C04: a record with more than `8 * S.size + 60` fields and a small `max_seq_size`, or a target
larger than the input (`2 * h.size` is not in `deFuelBase`).
-/
namespace Avro.Impl

/-- `len`: length of the unread input. -/
def deFuelBase (cfg : DeConfig) (S : Schema) (depth len : Nat) : Nat :=
  (depth + 4) * (cfg.maxSeqSize + 8 * S.size + 64) + 16 * len + 4096

def deFuel (cfg : DeConfig) (S : Schema) (hint : Hint) (depth len : Nat) : Nat :=
  max ((depth + 4) * (cfg.maxSeqSize + 8 * S.size + 64) + 16 * len + 4096) (fuelBound cfg S hint depth)

theorem deFuel_eq (cfg : DeConfig) (S : Schema) (hint : Hint) (depth len : Nat) :
    deFuel cfg S hint depth len = max (deFuelBase cfg S depth len) (fuelBound cfg S hint depth) := rfl

theorem fuelBound_le_deFuel (cfg : DeConfig) (S : Schema) (hint : Hint) (depth len : Nat) :
    fuelBound cfg S hint depth ≤ deFuel cfg S hint depth len :=
  Nat.le_max_right _ _

theorem deFuelBase_le_deFuel (cfg : DeConfig) (S : Schema) (hint : Hint) (depth len : Nat) :
    deFuelBase cfg S depth len ≤ deFuel cfg S hint depth len :=
  Nat.le_max_left _ _

/-- Fuel for the graph traversals (canonical form, renderer, freeze, fingerprint): the bound of the
    totality theorems `C19_pcf_total` / `C19_render_total`,
    `size * (size+1) * (maxWidth+1) + 1`, with slack. -/
def graphFuel (S : SchemaMut) : Nat := (S.size + 2) * (S.size + 2) * (maxWidth S + 2) + 64

end Avro.Impl
