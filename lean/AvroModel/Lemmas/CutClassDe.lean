import AvroModel.Lemmas.Reader
/-
The read primitives on a reader whose source ends early, against the slice on the whole input (for
`Theorems/C17class.lean`): whenever the slice run succeeds, the reader run succeeds too (it did not
need the missing bytes) or fails with class `io`, which is what the specifications of
`Lemmas/Reader.lean` say of a reader that runs out of input.  `de` itself: `Lemmas/CutClassBig.lean`.
-/
namespace Avro.Theorems.Cut
open Avro Avro.Impl Avro.Theorems

/-- `r`: a reader state between two reads (no `Take`); `sl`: a slice state holding the same bytes
    followed by `z`, the bytes the cut removed. The reader may allocate the whole uncut input. -/
structure TSim (z : Bytes) (r sl : RState) : Prop where
  reader : r.isSlice = false
  slice : sl.isSlice = true
  rest : sl.rest = r.rest ++ z
  avail : r.avail ≤ r.rest.length
  rlim : r.limit = none
  slim : sl.limit = none
  alloc : sl.rest.length ≤ r.maxAlloc

/-- As `TSim`, under a common `Take` limit (`none`: no `Take`). -/
structure TSimL (z : Bytes) (r sl : RState) : Prop where
  reader : r.isSlice = false
  slice : sl.isSlice = true
  rest : sl.rest = r.rest ++ z
  avail : r.avail ≤ r.rest.length
  lim : r.limit = sl.limit
  alloc : sl.rest.length ≤ r.maxAlloc

theorem TSim.toL {z : Bytes} {r sl : RState} (h : TSim z r sl) : TSimL z r sl :=
  ⟨h.reader, h.slice, h.rest, h.avail, by rw [h.rlim, h.slim], h.alloc⟩

theorem TSimL.toSim {z : Bytes} {r sl : RState} (h : TSimL z r sl) (hl : r.limit = none) :
    TSim z r sl :=
  ⟨h.reader, h.slice, h.rest, h.avail, hl, by rw [← h.lim, hl], h.alloc⟩

theorem TSimL.wf_reader {z : Bytes} {r sl : RState} (h : TSimL z r sl) : r.WF := fun _ => h.avail
theorem TSimL.wf_slice {z : Bytes} {r sl : RState} (h : TSimL z r sl) : sl.WF := by
  intro hs; rw [h.slice] at hs; cases hs

theorem TSimL.adv {z : Bytes} {r sl r' sl' : RState} {k : Nat} (h : TSimL z r sl)
    (hk : k ≤ r.rest.length) (hr : Adv k r r') (hs : Adv k sl sl') : TSimL z r' sl' where
  reader := hr.isSlice.trans h.reader
  slice := hs.isSlice.trans h.slice
  rest := by rw [hr.rest, hs.rest, h.rest, List.drop_append_of_le_length hk]
  avail := hr.wf (hr.isSlice.trans h.reader)
  lim := by rw [hr.limit, hs.limit, h.lim]
  alloc := by rw [hs.length, hr.maxAlloc]; have := h.alloc; omega

theorem TSim.wf_reader {z : Bytes} {r sl : RState} (h : TSim z r sl) : r.WF := h.toL.wf_reader
theorem TSim.wf_slice {z : Bytes} {r sl : RState} (h : TSim z r sl) : sl.WF := h.toL.wf_slice

theorem TSim.adv {z : Bytes} {r sl r' sl' : RState} {k : Nat} (h : TSim z r sl)
    (hk : k ≤ r.rest.length) (hr : Adv k r r') (hs : Adv k sl sl') : TSim z r' sl' :=
  (h.toL.adv hk hr hs).toSim (by rw [hr.limit, h.rlim]; rfl)

/-- Outcome of the reader run on the cut input (`x`) against the slice run on the whole input
    (`y`): nothing is claimed when the slice run fails; when it succeeds, the reader run succeeds
    in a corresponding state, or fails with class `io`. -/
def OutT (z : Bytes) {α β : Type} (R : α → β → Prop)
    (x : Except DeErr α × RState) (y : Except DeErr β × RState) : Prop :=
  match y with
  | (.error _, _) => True
  | (.ok b, sl') =>
    match x with
    | (.ok a, r') => R a b ∧ TSim z r' sl'
    | (.error e, _) => e = .io

def TRel (z : Bytes) {α β : Type} (R : α → β → Prop) (m : DeM α) (m' : DeM β) : Prop :=
  ∀ r sl, TSim z r sl → OutT z R (m r) (m' sl)

variable {z : Bytes}

theorem OutT.of_io {α β : Type} {R : α → β → Prop} {r' : RState}
    (y : Except DeErr β × RState) : OutT z R ((.error .io : Except DeErr α), r') y := by
  obtain ⟨(e | b), sl'⟩ := y
  · trivial
  · rfl

theorem OutT.inv {α β : Type} {R : α → β → Prop}
    {x : Except DeErr α × RState} {y : Except DeErr β × RState} (h : OutT z R x y) :
    (∃ e sl', y = (.error e, sl')) ∨
    (∃ b sl', y = (.ok b, sl') ∧
      ((∃ a r', x = (.ok a, r') ∧ R a b ∧ TSim z r' sl') ∨ ∃ r', x = (.error .io, r'))) := by
  obtain ⟨(e | a), r'⟩ := x <;> obtain ⟨(e' | b), sl'⟩ := y
  · exact .inl ⟨_, _, rfl⟩
  · have : e = .io := h
    subst this
    exact .inr ⟨b, sl', rfl, .inr ⟨r', rfl⟩⟩
  · exact .inl ⟨_, _, rfl⟩
  · exact .inr ⟨b, sl', rfl, .inl ⟨a, r', rfl, h.1, h.2⟩⟩

theorem TRel.pure {α β : Type} {R : α → β → Prop} {a : α} {b : β} (h : R a b) :
    TRel z R (pure a) (pure b) := fun _ _ hs => ⟨h, hs⟩

theorem TRel.fail {α β : Type} {R : α → β → Prop} {m : DeM α} {e' : DeErr} :
    TRel z R m (DeM.fail e' : DeM β) := fun _ _ _ => trivial

theorem TRel.bind' {α β γ δ : Type} {R : α → β → Prop} {R' : γ → δ → Prop}
    {m : DeM α} {m' : DeM β} {f : α → DeM γ} {f' : β → DeM δ}
    (h1 : TRel z R m m') (h2 : ∀ a b, R a b → m.Returns a → TRel z R' (f a) (f' b)) :
    TRel z R' (m >>= f) (m' >>= f') := by
  intro r sl hs
  rw [DeM.bind_apply, DeM.bind_apply]
  rcases (h1 r sl hs).inv with ⟨e, sl', e2⟩ | ⟨b, sl', e2, ⟨a, r', e1, hab, h3⟩ | ⟨r', e1⟩⟩
  · rw [e2]; trivial
  · rw [e1, e2]; exact h2 a b hab ⟨r, r', e1⟩ r' sl' h3
  · rw [e1, e2]; exact OutT.of_io _

theorem TRel.bind {α β γ δ : Type} {R : α → β → Prop} {R' : γ → δ → Prop}
    {m : DeM α} {m' : DeM β} {f : α → DeM γ} {f' : β → DeM δ}
    (h1 : TRel z R m m') (h2 : ∀ a b, R a b → TRel z R' (f a) (f' b)) :
    TRel z R' (m >>= f) (m' >>= f') :=
  h1.bind' fun a b h _ => h2 a b h

theorem TRel.mono {α β : Type} {R R' : α → β → Prop} {m : DeM α} {m' : DeM β}
    (h : TRel z R m m') (hR : ∀ a b, R a b → R' a b) : TRel z R' m m' := by
  rw [← DeM.bind_pure m, ← DeM.bind_pure m']
  exact h.bind' fun a b hab _ => TRel.pure (hR a b hab)

theorem readExact_trel (k : Nat) : TRel z (· = ·) (readExact k) (readExact k) := by
  intro r sl hs
  have hr := readExact_spec k r hs.wf_reader
  have hsl := readExact_spec k sl hs.wf_slice
  rw [eff_of_limit_none hs.rlim] at hr
  rw [eff_of_limit_none hs.slim] at hsl
  by_cases hk : k ≤ sl.rest.length
  · obtain ⟨sl', e2, a2⟩ := hsl.1 hk
    rw [e2]
    by_cases hk' : k ≤ r.rest.length
    · obtain ⟨r', e1, a1⟩ := hr.1 hk'
      rw [e1]
      refine ⟨?_, hs.adv hk' a1 a2⟩
      rw [hs.rest, List.take_append_of_le_length hk']
    · obtain ⟨r', e1⟩ := hr.2 (by omega)
      rw [e1]
      rfl
  · obtain ⟨sl', e2⟩ := hsl.2 (by omega)
    rw [e2]; trivial

theorem readVarint_trel (t : VarTy) : TRel z (· = ·) (readVarint t) (readVarint t) := by
  intro r sl hs
  have hr := readVarint_spec t r hs.wf_reader hs.rlim
  have hsl := readVarint_spec t sl hs.wf_slice hs.slim
  cases hd : decodeVar t sl.rest with
  | none =>
    obtain ⟨e, sl', e2, -⟩ := hsl.2 hd
    rw [e2]; trivial
  | some p =>
    obtain ⟨v, k⟩ := p
    obtain ⟨sl', e2, a2⟩ := hsl.1 v k hd
    rw [e2]
    cases hd' : decodeVar t r.rest with
    | some p' =>
      obtain ⟨v', k'⟩ := p'
      have := decodeVar_append z hd'
      rw [← hs.rest, hd] at this
      simp only [Option.some.injEq, Prod.mk.injEq] at this
      obtain ⟨rfl, rfl⟩ := this
      obtain ⟨r', e1, a1⟩ := hr.1 v k hd'
      rw [e1]
      exact ⟨rfl, hs.adv (decodeVar_le hd') a1 a2⟩
    | none =>
      obtain ⟨e, r', e1, he⟩ := hr.2 hd'
      rw [e1]
      exact he hs.reader z (by rw [← hs.rest, hd]; rfl)

theorem readSlice_trel (n : Nat) :
    TRel z (fun a b => a.1 = b.1) (readSlice n) (readSlice n) := by
  intro r sl hs
  have hlen : sl.rest.length = r.rest.length + z.length := by rw [hs.rest, List.length_append]
  have hr := readSlice_spec n r hs.wf_reader hs.rlim
    (fun _ hn => by have := hs.alloc; omega)
  have hsl := readSlice_spec n sl hs.wf_slice hs.slim
    (fun hsl => by rw [hs.slice] at hsl; cases hsl)
  by_cases hk : n ≤ sl.rest.length
  · obtain ⟨sl', e2, a2⟩ := hsl.1 hk
    rw [e2]
    by_cases hk' : n ≤ r.rest.length
    · obtain ⟨r', e1, a1⟩ := hr.1 hk'
      rw [e1]
      refine ⟨?_, hs.adv hk' a1 a2⟩
      show r.rest.take n = sl.rest.take n
      rw [hs.rest, List.take_append_of_le_length hk']
    · obtain ⟨e, r', e1, he⟩ := hr.2 (by omega)
      rw [e1]
      exact he hs.reader (by have := hs.alloc; omega)
  · obtain ⟨e, sl', e2, -⟩ := hsl.2 (by omega)
    rw [e2]; trivial

/-- `DeLogic.len` of `trel_logic`, proved by hand because the field `big` of that logic needs it first -/
theorem readLen_trel : TRel z (· = ·) readLen readLen := by
  unfold readLen
  apply TRel.bind (readVarint_trel _)
  intro a b hab; subst hab
  split
  · exact TRel.fail
  · exact TRel.pure rfl

/-- `read_block_len` when not ignoring: one round, so any two positive fuels do.  Two fuels, because
    `hasMore` takes its fuel from `rest.length`, which differs between the cut and the whole input. -/
theorem readBlockLen_trel (f g : Nat) :
    TRel z (· = ·) (readBlockLen false (f + 1)) (readBlockLen false (g + 1)) := by
  unfold readBlockLen
  apply TRel.bind (readVarint_trel _)
  intro a b hab; subst hab
  split
  · simp only [Bool.false_eq_true, if_false]
    apply TRel.bind (readVarint_trel _)
    intro a b hab; subst hab
    split
    · exact TRel.fail
    · exact TRel.pure rfl
  · exact TRel.pure rfl

/- Used by no proof.  `de` is walked by `DeLogic.block` on `trel_logic` (`Lemmas/CutClassBig.lean`);
   `readString_trel`, `readBytes_trel`, `readBool_trel`, `decDepth_trel` and `DeTRel.*`, which it names,
   are not defined anywhere. -/
macro "trel_auto" ih:term "," hS:term : tactic => `(tactic| repeat (first
  | exact TRel.fail
  | exact TRel.pure trivial
  | exact readString_trel
  | exact readBytes_trel
  | exact readBool_trel
  | exact readDecimal_trel _ _ _ _
  | exact DeTRel.any $ih _ _ (by intro hbig; subst hbig; exact $hS _ ‹_›)
  | (apply TRel.bind (readVarint_trel _); intro a b hab; subst hab)
  | (apply TRel.bind (readExact_trel _); intro a b hab; subst hab)
  | (apply TRel.bind readLen_trel; intro a b hab; subst hab)
  | (apply TRel.bind (decDepth_trel _); intro a b hab; subst hab)
  | (apply TRel.bind (readSlice_trel _); rintro ⟨b1, f1⟩ ⟨b2, f2⟩ hab; simp only at hab; subst hab;
      try dsimp only)
  | (apply TRel.bind (DeTRel.seq $ih _ _ _ _ _ (by intro hbig; subst hbig; exact $hS _ ‹_›));
      intro a b hab)
  | (apply TRel.bind (DeTRel.map $ih _ _ _ _ _ (by intro hbig; subst hbig; exact $hS _ ‹_›));
      intro a b hab)
  | (apply TRel.bind (DeTRel.recd $ih _ _ _ _); intro a b hab)
  | split))

end Avro.Theorems.Cut
