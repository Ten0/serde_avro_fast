import AvroModel.Lemmas.DeLayouts
import AvroModel.Lemmas.SpecExact
/-
Acceptance of the reading loops on inputs `decodeX Limits.impl` accepts, for any request handed to
the items: the loop fields of `SkipAll` and `FitAll` for fixed parameters (`ItemsAcc` … `FieldsAcc`)
and their steps in the fuel of the decoder, given that the items themselves are accepted (`ItemAcc`).
`AccAll` (Lemmas/DeLayouts) has steps of the same shape of its own: it runs against `decodeL` and
names the result of the loop where these statements only assert that there is one.
-/
namespace Avro.Impl
open Avro Avro.Spec

variable (cfg : DeConfig) (S : Schema)

/-- a read of `item` with the request `eh` succeeds on what the decoder accepts with fuel `f` -/
def ItemAcc (eh : Hint) (item : Node) (depth f : Nat) : Prop :=
  ∀ bs v r0 o, decodeX Limits.impl S f item bs = some (v, r0) → observe S item v = some o →
    depthOf v ≤ depth → maxLen v ≤ cfg.maxSeqSize →
    ∀ fuel, 3 * size v ≤ fuel →
      ∃ o', ReadsAt (de deExtModel cfg S fuel item depth false eh) bs r0 o'

/-- the rest of a block, then whatever the loop does after it (`K` units of fuel) -/
def ItemsAcc (ign : Bool) (eh : Hint) (item : Node) (depth f : Nat) : Prop :=
  ∀ c bs vs r1 os nr, decodeItemsX Limits.impl S f item c bs = some (vs, r1) →
    observeList S item vs = some os → depthItems vs ≤ depth → maxLenItems vs ≤ cfg.maxSeqSize →
    ∀ K rest,
      (∀ fuel acc, K ≤ fuel → ∃ os',
        ReadsAt (deSeqLoop deExtModel cfg S fuel item depth ign eh none ⟨0, nr⟩ acc) r1 rest os') →
      ∀ fuel acc, 3 * sizeItems vs + K ≤ fuel → ∃ os',
        ReadsAt (deSeqLoop deExtModel cfg S fuel item depth ign eh none ⟨c, nr⟩ acc) bs rest os'

def BlocksAcc (eh : Hint) (item : Node) (depth f : Nat) : Prop :=
  ∀ bs vs rest os nr, decodeBlocksX Limits.impl S f item bs = some (vs, rest) →
    observeList S item vs = some os → depthItems vs ≤ depth → maxLenItems vs ≤ cfg.maxSeqSize →
    nr + vs.length ≤ cfg.maxSeqSize →
    ∀ fuel acc, 3 * sizeItems vs + 1 ≤ fuel → ∃ os',
      ReadsAt (deSeqLoop deExtModel cfg S fuel item depth false eh none ⟨0, nr⟩ acc) bs rest os'

def MapItemsAcc (ign : Bool) (h : Hint) (item : Node) (depth f : Nat) : Prop :=
  ∀ c bs es r1 os nr, decodeMapItemsX Limits.impl S f item c bs = some (es, r1) →
    observeEntries S item es = some os → depthEntries es ≤ depth →
    maxLenEntries es ≤ cfg.maxSeqSize →
    ∀ K rest,
      (∀ fuel acc, K ≤ fuel → ∃ os',
        ReadsAt (deMapLoop deExtModel cfg S fuel item depth ign h ⟨0, nr⟩ acc) r1 rest os') →
      ∀ fuel acc, 3 * sizeEntries es + K ≤ fuel → ∃ os',
        ReadsAt (deMapLoop deExtModel cfg S fuel item depth ign h ⟨c, nr⟩ acc) bs rest os'

def MapBlocksAcc (h : Hint) (item : Node) (depth f : Nat) : Prop :=
  ∀ bs es rest os nr, decodeMapBlocksX Limits.impl S f item bs = some (es, rest) →
    observeEntries S item es = some os → depthEntries es ≤ depth →
    maxLenEntries es ≤ cfg.maxSeqSize → nr + es.length ≤ cfg.maxSeqSize →
    ∀ fuel acc, 3 * sizeEntries es + 1 ≤ fuel → ∃ os',
      ReadsAt (deMapLoop deExtModel cfg S fuel item depth false h ⟨0, nr⟩ acc) bs rest os'

def FieldsAcc (h : Hint) (fields : List (String × Nat)) (depth f : Nat) : Prop :=
  ∀ bs vals rest os, decodeFieldsX Limits.impl S f (fields.map (·.2)) bs = some (vals, rest) →
    observeFields S fields vals = some os → depthItems vals ≤ depth →
    maxLenItems vals ≤ cfg.maxSeqSize →
    ∀ fuel acc, 3 * sizeItems vals ≤ fuel → ∃ os',
      ReadsAt (deRecordFields deExtModel cfg S fuel fields depth h acc) bs rest os'

variable {cfg S}

theorem itemsAcc_zero (ign : Bool) (eh : Hint) (item : Node) (depth : Nat) :
    ItemsAcc cfg S ign eh item depth 0 := by
  intro c bs vs r1 os nr h _ _ _ K rest hK fuel acc hf
  cases c with
  | zero =>
    rw [decodeItemsX_zero] at h
    cases h
    exact hK fuel acc (Nat.le_trans (Nat.le_add_left _ _) hf)
  | succ c => cases h

theorem itemsAcc_succ {ign : Bool} {eh : Hint} {item : Node} {depth f : Nat}
    (hd : ItemAcc cfg S eh item depth f) (hi : ItemsAcc cfg S ign eh item depth f) :
    ItemsAcc cfg S ign eh item depth (f + 1) := by
  intro c bs vs r1 os nr h hobs hdepth hmax K rest hK fuel acc hf
  cases c with
  | zero =>
    rw [decodeItemsX_zero] at h
    cases h
    exact hK fuel acc (Nat.le_trans (Nat.le_add_left _ _) hf)
  | succ c =>
    obtain ⟨v, r0, vs', hv, hvs, rfl⟩ := decodeItemsX_succ_eq_some.1 h
    obtain ⟨o, os0, ho, hos, rfl⟩ := observeList_cons_eq_some.1 hobs
    simp only [depthItems, Nat.max_le] at hdepth
    simp only [maxLenItems, Nat.max_le] at hmax
    simp only [sizeItems] at hf
    obtain ⟨g, rfl, hfv, hfvs⟩ := fuel_turn hf
    obtain ⟨o', ho'⟩ := hd bs v r0 o hv ho hdepth.1 hmax.1 g hfv
    obtain ⟨os', hos'⟩ := hi c r0 vs' r1 os0 nr hvs hos hdepth.2 hmax.2 K rest hK g (o' :: acc) hfvs
    refine ⟨os', ?_⟩
    rw [deSeqLoop]
    simp only [reduceCtorEq, if_false, Option.map_none]
    refine ReadsAt.bind (readsAt_hasMore_succ cfg ign c nr bs) ?_
    simp only [Bool.not_true, Bool.false_eq_true, if_false]
    exact ReadsAt.bind ho' hos'

theorem blocksAcc_succ {eh : Hint} {item : Node} {depth f : Nat}
    (hi : ItemsAcc cfg S false eh item depth f) (hb : BlocksAcc cfg S eh item depth f) :
    BlocksAcc cfg S eh item depth (f + 1) := by
  intro bs vs rest os nr h hobs hdepth hmax hnr fuel acc hf
  obtain ⟨g, rfl, _⟩ := exists_succ_of_le hf
  obtain ⟨c, sz, r0, hh, ⟨rfl, rfl, rfl⟩ | ⟨hc, vs1, r1, more, hv1, _, hmore, rfl⟩⟩ :=
    decodeBlocksX_succ_eq_some.1 h
  · refine ⟨acc.reverse, ?_⟩
    rw [deSeqLoop]
    simp only [reduceCtorEq, if_false]
    refine ReadsAt.bind (readsAt_hasMore_end cfg nr (decodeBlockHeaderX_L hh)) ?_
    simp only [Bool.not_false, if_true]
    exact ReadsAt.pure _ _
  · obtain ⟨o1, o2, ho1, ho2, rfl⟩ := observeList_append S item vs1 more os hobs
    rw [depthItems_append, Nat.max_le] at hdepth
    rw [maxLenItems_append, Nat.max_le] at hmax
    rw [sizeItems_append] at hf
    rw [List.length_append, decodeItemsL_length _ _ _ _ _ _ _ _ ((subAll _ S _).items _ _ _ _ hv1)] at hnr
    obtain ⟨hnr1, hnr2, hf'⟩ := block_bounds hnr hf
    obtain ⟨os', key⟩ := hi c r0 vs1 r1 o1 (nr + c) hv1 ho1 hdepth.1 hmax.1
      (3 * sizeItems more + 1) rest (hb r1 more rest o2 (nr + c) hmore ho2 hdepth.2 hmax.2 hnr2)
      (g + 1) acc hf'
    exact ⟨os', readsAt_seqLoop_header cfg S (decodeBlockHeaderX_L hh) hc hnr1 key⟩

theorem mapItemsAcc_zero (ign : Bool) (h : Hint) (item : Node) (depth : Nat) :
    MapItemsAcc cfg S ign h item depth 0 := by
  intro c bs es r1 os nr hx _ _ _ K rest hK fuel acc hf
  cases c with
  | zero =>
    rw [decodeMapItemsX_zero] at hx
    cases hx
    exact hK fuel acc (Nat.le_trans (Nat.le_add_left _ _) hf)
  | succ c => cases hx

/-- the key was validated by the decoder, so every key request reads it; the value is read with the
    request the map request `h` gives for that key -/
theorem mapItemsAcc_succ {ign : Bool} {h : Hint} {item : Node} {depth f : Nat}
    (hd : ∀ name, ItemAcc cfg S (h.valFor name) item depth f)
    (hi : MapItemsAcc cfg S ign h item depth f) : MapItemsAcc cfg S ign h item depth (f + 1) := by
  intro c bs es r1 os nr hx hobs hdepth hmax K rest hK fuel acc hf
  cases c with
  | zero =>
    rw [decodeMapItemsX_zero] at hx
    cases hx
    exact hK fuel acc (Nat.le_trans (Nat.le_add_left _ _) hf)
  | succ c =>
    obtain ⟨key, r0, v, r0', es', hs, hv, hes, rfl⟩ := decodeMapItemsX_succ_eq_some.1 hx
    obtain ⟨o, os0, ho, hos, rfl⟩ := observeEntries_cons_eq_some.1 hobs
    simp only [depthEntries, Nat.max_le] at hdepth
    simp only [maxLenEntries, Nat.max_le] at hmax
    simp only [sizeEntries] at hf
    obtain ⟨g, rfl, hfv, hfvs⟩ := fuel_turn hf
    obtain ⟨n, r, b, hlen, htake, hutf⟩ := decodeStringL_inv hs
    have step : ∀ (kOut : Out) (kName : Option String), ∃ os',
        ReadsAt (de deExtModel cfg S g item depth false (h.valFor kName) >>= fun v =>
          deMapLoop deExtModel cfg S g item depth ign h ⟨c, nr⟩ ((kOut, v) :: acc)) r0 rest os' := by
      intro kOut kName
      obtain ⟨o', ho'⟩ := hd kName r0 v r0' o hv ho hdepth.1 hmax.1 g hfv
      obtain ⟨os', hos'⟩ := hi c r0' es' r1 os0 nr hes hos hdepth.2 hmax.2 K rest hK g
        ((kOut, o') :: acc) hfvs
      exact ⟨os', ReadsAt.bind ho' hos'⟩
    rw [deMapLoop]
    by_cases hig : h.key = .ignored
    · obtain ⟨os', hos'⟩ := step .unit none
      refine ⟨os', ReadsAt.bind (readsAt_hasMore_succ cfg ign c nr bs) ?_⟩
      simp only [Bool.not_true, Bool.false_eq_true, if_false]
      refine ReadsAt.bind (readsAt_readLen hlen) (ReadsAt.bind (readsAt_readSlice htake) ?_)
      simp only [hig]
      exact ReadsAt.bind (ReadsAt.pure (Out.unit, none) _) hos'
    · obtain ⟨os', hos'⟩ := step (.str key true) (some key)
      refine ⟨os', ReadsAt.bind (readsAt_hasMore_succ cfg ign c nr bs) ?_⟩
      simp only [Bool.not_true, Bool.false_eq_true, if_false]
      refine ReadsAt.bind (readsAt_readLen hlen) (ReadsAt.bind (readsAt_readSlice htake) ?_)
      refine ReadsAt.bind (a := (Out.str key true, some key)) ?_ hos'
      simp only [bytesToStr?, hutf]
      exact ReadsAt.pure _ _

theorem mapBlocksAcc_succ {h : Hint} {item : Node} {depth f : Nat}
    (hi : MapItemsAcc cfg S false h item depth f) (hb : MapBlocksAcc cfg S h item depth f) :
    MapBlocksAcc cfg S h item depth (f + 1) := by
  intro bs es rest os nr hx hobs hdepth hmax hnr fuel acc hf
  obtain ⟨g, rfl, _⟩ := exists_succ_of_le hf
  obtain ⟨c, sz, r0, hh, ⟨rfl, rfl, rfl⟩ | ⟨hc, es1, r1, more, hes1, _, hmore, rfl⟩⟩ :=
    decodeMapBlocksX_succ_eq_some.1 hx
  · refine ⟨acc.reverse, ?_⟩
    rw [deMapLoop]
    refine ReadsAt.bind (readsAt_hasMore_end cfg nr (decodeBlockHeaderX_L hh)) ?_
    simp only [Bool.not_false, if_true]
    exact ReadsAt.pure _ _
  · obtain ⟨o1, o2, ho1, ho2, rfl⟩ := observeEntries_append S item es1 more os hobs
    rw [depthEntries_append, Nat.max_le] at hdepth
    rw [maxLenEntries_append, Nat.max_le] at hmax
    rw [sizeEntries_append] at hf
    rw [List.length_append, decodeMapItemsL_length _ _ _ _ _ _ _ _ ((subAll _ S _).mitems _ _ _ _ hes1)] at hnr
    obtain ⟨hnr1, hnr2, hf'⟩ := block_bounds hnr hf
    obtain ⟨os', key⟩ := hi c r0 es1 r1 o1 (nr + c) hes1 ho1 hdepth.1 hmax.1
      (3 * sizeEntries more + 1) rest (hb r1 more rest o2 (nr + c) hmore ho2 hdepth.2 hmax.2 hnr2)
      (g + 1) acc hf'
    exact ⟨os', readsAt_mapLoop_header cfg S (decodeBlockHeaderX_L hh) hc hnr1 key⟩

theorem fieldsAcc_nil (h : Hint) (depth f : Nat) : FieldsAcc cfg S h [] depth f := by
  intro bs vals rest os hx _ _ _ fuel acc _
  rw [List.map_nil, decodeFieldsX_nil] at hx
  cases hx
  refine ⟨acc.reverse, ?_⟩
  rw [deRecordFields]
  exact ReadsAt.pure _ _

theorem fieldsAcc_cons {h : Hint} {name : String} {k : Nat} {fs : List (String × Nat)}
    {depth f : Nat}
    (hd : ∀ fnode, S[k]? = some fnode → ItemAcc cfg S (h.valFor (some name)) fnode depth f)
    (hi : FieldsAcc cfg S h fs depth f) : FieldsAcc cfg S h ((name, k) :: fs) depth (f + 1) := by
  intro bs vals rest os hx hobs hdepth hmax fuel acc hf
  obtain ⟨fnode, v, r0, vs, hnode, hv, hvs, rfl⟩ := decodeFieldsX_cons_eq_some.1 hx
  replace hnode : S[k]? = some fnode := hnode
  obtain ⟨o, os0, ho, hos, rfl⟩ := (observeFields_cons_eq_some hnode).1 hobs
  simp only [depthItems, Nat.max_le] at hdepth
  simp only [maxLenItems, Nat.max_le] at hmax
  simp only [sizeItems] at hf
  obtain ⟨g, rfl, hfv, hfvs⟩ := fuel_turn (K := 0) hf
  obtain ⟨o', ho'⟩ := hd fnode hnode bs v r0 o hv ho hdepth.1 hmax.1 g hfv
  obtain ⟨os', hos'⟩ := hi r0 vs rest os0 hvs hos hdepth.2 hmax.2 g
    ((offerName h.key name 0 false, o') :: acc) hfvs
  refine ⟨os', ?_⟩
  rw [deRecordFields]
  simp only [hnode]
  exact ReadsAt.bind ho' hos'

end Avro.Impl
