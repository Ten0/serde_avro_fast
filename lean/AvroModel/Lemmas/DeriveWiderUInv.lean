import AvroModel.Lemmas.DeriveWider
/-
C20, wider, with enums that map to unions: the builder invariant `InvU`.

`KeyNodeU P reg nodes k i`: node `i` of `nodes` is the node of the lookup type with key `k`, its
children being what `reg` gives for the child keys (`reg` and `nodes` are parameters so that
`KeyNodeU.mono` can move both and `app_fillU` can state the arm for the array after `setNode`).  For
`.generic id n :: rest` the tail is the concatenation of the field types' keys; the arm stores the split
`cks` with `Coded 1` per piece because the split of a prefix code is unique (`flatten_unique`): that is
how two types with one key (`Pair<i32>`, `Pair<&i16>`) read one node (`DoneU.record_slots`).  A
non-generic enum that maps to a union owns a `union` node whose branches are, per variant, the node registered
for `()` (unit variant), the node registered for the payload type (newtype variant that goes through
`find_or_build`), or a `fixed` node *owned by the variant* (payload written `[u8; N]`, behind
pointers), named `ownedName d (.newtypeVariant v.ident) ""`.  An instantiation of a *generic* such
enum (key `.generic id n :: keys of the payload types`) owns a `union` node whose branches are
registered for `()` resp. for the key listed at the variant's position among the variants with a
payload (`fieldIdx`).  The names of the named nodes that do not depend on the hash are recorded, so
that the by-name table of a union can be read off the invariant.  Nodes that no lookup type owns
(logical-type fields, variant-owned fixeds) are never `null` placeholders; `KeyNodeU.mono` keeps
every non-placeholder node, and `InvU.set` fills a node that holds the placeholder.
-/
namespace Avro.Theorems.DeriveWU
open Avro Avro.Impl Avro.Impl.Derive Avro.Theorems.DeriveG Avro.Theorems.DeriveW
open Avro.Theorems.DeriveFits

/-- The branch of one variant of an enum instantiated with `args`: `c` is the node index listed in
    the union. -/
def VarNode (P : Prog) (reg : Key → Nat → Prop) (nodes : Array RawNode) (d : Decl) (args : List Ty)
    (v : Variant) (c : Nat) : Prop :=
  match v.field with
  | none => reg [.unit] c
  | some fd =>
    if isDirect fd (.newtypeVariant v.ident) = true then ∃ k, KeyOf P (subst args fd.ty) k ∧ reg k c
    else ∃ n, Derive.peel fd.ty = .byteArray n ∧
      nodes[c]? = some (plain (.fixed (Name.ofFq (ownedName d (.newtypeVariant v.ident) "")) n))

/-- Position of variant `j`'s field among the fields of the variants that have one
    (`Body.lookupFields`). -/
def fieldIdx (vs : List Variant) (j : Nat) : Nat := ((vs.take j).filterMap (·.field)).length

theorem filterMap_fieldIdx : ∀ (vs : List Variant) (j : Nat) (v : Variant) (fd : Field), vs[j]? = some v →
    v.field = some fd → (vs.filterMap (·.field))[fieldIdx vs j]? = some fd
  | [], j, v, fd, hj, _ => by simp at hj
  | x :: rest, 0, v, fd, hj, hf => by
    simp only [List.getElem?_cons_zero, Option.some.injEq] at hj
    subst hj
    simp [fieldIdx, hf]
  | x :: rest, j + 1, v, fd, hj, hf => by
    have ih := filterMap_fieldIdx rest j v fd (by simpa using hj) hf
    unfold fieldIdx at ih ⊢
    cases hx : x.field with
    | none => simpa [List.filterMap_cons, hx] using ih
    | some y => simpa [List.filterMap_cons, hx] using ih

/-- The node a finished lookup type owns, by the head token of its key. -/
def KeyNodeU (P : Prog) (reg : Key → Nat → Prop) (nodes : Array RawNode) : Key → Nat → Prop
  | [], _ => False
  | tok :: rest, i =>
    match tok with
    | .unit => nodes[i]? = some (plain .null)
    | .bool => nodes[i]? = some (plain .boolean)
    | .int => nodes[i]? = some (plain .int)
    | .long => nodes[i]? = some (plain .long)
    | .float => nodes[i]? = some (plain .float)
    | .double => nodes[i]? = some (plain .double)
    | .string => nodes[i]? = some (plain .string)
    | .bytes => nodes[i]? = some (plain .bytes)
    | .byteArray n => nodes[i]? = some (plain (.fixed (Name.ofFq ("u8_array_" ++ toString n)) n))
    | .vec => ∃ c, nodes[i]? = some (plain (.array c)) ∧ reg rest c
    | .map => ∃ c, nodes[i]? = some (plain (.map c)) ∧ reg rest c
    | .option => ∃ a b, nodes[i]? = some (plain (.union [a, b])) ∧ reg [.unit] a ∧ reg rest b
    | .self id =>
      match P[id]? with
      | none => False
      | some d =>
        match d.body with
        | .record fields =>
          ∃ fs, nodes[i]? = some (plain (.record (Name.ofFq (typeName d)) fs)) ∧ fs.length = fields.length ∧
            ∀ (j : Nat) (fd : Field) (p : String × Nat), fields[j]? = some fd → fs[j]? = some p →
              p.1 = fd.name ∧
                ((fd.attr.logical.isNone = true ∧ ∃ k, KeyOf P fd.ty k ∧ reg k p.2) ∨
                 (fd.attr.logical.isNone = false ∧
                    ∃ raw, logicalRaw d fd = some raw ∧ nodes[p.2]? = some raw))
        | .unitEnum vs => nodes[i]? = some (plain (.enum (Name.ofFq (typeName d)) vs))
        | .newtype fd =>
          isDirect fd .newtypeStruct = false ∧
            ∃ n, nodes[i]? = some (plain (.fixed (Name.ofFq (ownedName d .newtypeStruct "")) n)) ∧
              Derive.peel fd.ty = .byteArray n
        | .union vs =>
          ∃ ks, nodes[i]? = some (plain (.union ks)) ∧ ks.length = vs.length ∧
            ∀ (j : Nat) (v : Variant) (c : Nat), vs[j]? = some v → ks[j]? = some c →
              VarNode P reg nodes d [] v c
    | .generic id _ =>
      match P[id]? with
      | none => False
      | some d =>
        match d.body with
        | .record fields =>
          ∃ (nm : Name) (fs : List (String × Nat)) (cks : List Key),
            nodes[i]? = some (plain (.record nm fs)) ∧ fs.length = fields.length ∧
            cks.length = fields.length ∧ rest = cks.flatten ∧ (∀ ck ∈ cks, Coded 1 ck) ∧
            ∀ (j : Nat) (fd : Field) (p : String × Nat) (ck : Key), fields[j]? = some fd →
              fs[j]? = some p → cks[j]? = some ck →
              p.1 = fd.name ∧
                ((fd.attr.logical.isNone = true ∧ reg ck p.2) ∨
                 (fd.attr.logical.isNone = false ∧
                    ∃ tn raw, logicalRawAt d fd fd.name tn = some raw ∧ nodes[p.2]? = some raw))
        | .union vs =>
          -- a generic enum that maps to a union: the key lists the keys of the payload types
          ∃ (ks : List Nat) (cks : List Key),
            nodes[i]? = some (plain (.union ks)) ∧ ks.length = vs.length ∧
            cks.length = (vs.filterMap (·.field)).length ∧ rest = cks.flatten ∧ (∀ ck ∈ cks, Coded 1 ck) ∧
            ∀ (j : Nat) (v : Variant) (c : Nat), vs[j]? = some v → ks[j]? = some c →
              match v.field with
              | none => reg [.unit] c
              | some _ => ∃ ck, cks[fieldIdx vs j]? = some ck ∧ reg ck c
        | _ => False

theorem raw_ne_null {d : Decl} {fd : Field} {name tn : String} {raw : RawNode}
    (h : logicalRawAt d fd name tn = some raw) (hl : fd.attr.logical.isNone = false) :
    raw ≠ plain .null := by
  intro he
  have := logicalRawAt_logical h hl
  rw [he] at this
  exact this rfl

theorem VarNode.mono {P : Prog} {reg reg' : Key → Nat → Prop} {nodes nodes' : Array RawNode}
    {d : Decl} {args : List Ty} {v : Variant} {c : Nat} (hreg : ∀ k c, reg k c → reg' k c)
    (hown : ∀ (j : Nat) (x : RawNode), nodes[j]? = some x → x ≠ plain .null → nodes'[j]? = some x)
    (h : VarNode P reg nodes d args v c) : VarNode P reg' nodes' d args v c := by
  unfold VarNode at h ⊢
  cases hf : v.field with
  | none => rw [hf] at h; exact hreg _ _ h
  | some fd =>
    rw [hf] at h
    dsimp only at h ⊢
    split
    · rename_i hdir
      rw [if_pos hdir] at h
      obtain ⟨k, h1, h2⟩ := h
      exact ⟨k, h1, hreg _ _ h2⟩
    · rename_i hdir
      rw [if_neg hdir] at h
      obtain ⟨n, h1, h2⟩ := h
      exact ⟨n, h1, hown _ _ h2 (by simp [plain])⟩

theorem KeyNodeU.mono {P : Prog} {reg reg' : Key → Nat → Prop} {nodes nodes' : Array RawNode}
    {k : Key} {i : Nat} (hreg : ∀ k c, reg k c → reg' k c) (hn : nodes'[i]? = nodes[i]?)
    (hown : ∀ (j : Nat) (x : RawNode), nodes[j]? = some x → x ≠ plain .null → nodes'[j]? = some x)
    (h : KeyNodeU P reg nodes k i) : KeyNodeU P reg' nodes' k i := by
  cases k with
  | nil => exact h
  | cons tok rest =>
    cases tok with
    | vec => obtain ⟨c, h1, h2⟩ := h; exact ⟨c, by rw [hn]; exact h1, hreg _ _ h2⟩
    | map => obtain ⟨c, h1, h2⟩ := h; exact ⟨c, by rw [hn]; exact h1, hreg _ _ h2⟩
    | option =>
      obtain ⟨a, b, h1, h2, h3⟩ := h
      exact ⟨a, b, by rw [hn]; exact h1, hreg _ _ h2, hreg _ _ h3⟩
    | generic id m =>
      simp only [KeyNodeU] at h ⊢
      cases hd : P[id]? with
      | none => rw [hd] at h; exact h
      | some d =>
        rw [hd] at h
        dsimp only at h ⊢
        cases hb : d.body with
        | record fields =>
          rw [hb] at h
          obtain ⟨nm, fs, cks, h1, h2, h3, h4, h5, h6⟩ := h
          refine ⟨nm, fs, cks, by rw [hn]; exact h1, h2, h3, h4, h5, fun j fd p ck hj hp hc => ?_⟩
          obtain ⟨h7, h8⟩ := h6 j fd p ck hj hp hc
          refine ⟨h7, ?_⟩
          rcases h8 with ⟨hl, h8⟩ | ⟨hl, tn, raw, h8, h9⟩
          · exact .inl ⟨hl, hreg _ _ h8⟩
          · exact .inr ⟨hl, tn, raw, h8, hown _ _ h9 (raw_ne_null h8 hl)⟩
        | unitEnum vs => rw [hb] at h; exact h
        | newtype fd => rw [hb] at h; exact h
        | union vs =>
          rw [hb] at h
          obtain ⟨ks, cks, h1, h2, h3, h4, h5, h6⟩ := h
          refine ⟨ks, cks, by rw [hn]; exact h1, h2, h3, h4, h5, fun j v c hj hc => ?_⟩
          have := h6 j v c hj hc
          cases hf : v.field with
          | none => rw [hf] at this; exact hreg _ _ this
          | some fd =>
            rw [hf] at this
            obtain ⟨ck, h7, h8⟩ := this
            exact ⟨ck, h7, hreg _ _ h8⟩
    | self id =>
      simp only [KeyNodeU] at h ⊢
      cases hd : P[id]? with
      | none => rw [hd] at h; exact h
      | some d =>
        rw [hd] at h
        dsimp only at h ⊢
        cases hb : d.body with
        | record fields =>
          rw [hb] at h
          obtain ⟨fs, h1, h2, h3⟩ := h
          refine ⟨fs, by rw [hn]; exact h1, h2, fun j fd p hj hp => ?_⟩
          obtain ⟨h4, h5⟩ := h3 j fd p hj hp
          refine ⟨h4, ?_⟩
          rcases h5 with ⟨hl, k, h5, h6⟩ | ⟨hl, raw, h5, h6⟩
          · exact .inl ⟨hl, k, h5, hreg _ _ h6⟩
          · exact .inr ⟨hl, raw, h5, hown _ _ h6 (raw_ne_null h5 hl)⟩
        | unitEnum vs =>
          rw [hb] at h
          dsimp only at h ⊢
          rw [hn]; exact h
        | newtype fd =>
          rw [hb] at h
          obtain ⟨h0, n, h1, h2⟩ := h
          exact ⟨h0, n, by rw [hn]; exact h1, h2⟩
        | union vs =>
          rw [hb] at h
          obtain ⟨ks, h1, h2, h3⟩ := h
          exact ⟨ks, by rw [hn]; exact h1, h2, fun j v c hj hc => (h3 j v c hj hc).mono hreg hown⟩
    | _ => exact hn.trans h

def DoneU (P : Prog) (s : BState) (k : Key) (i : Nat) : Prop := KeyNodeU P (Reg s) s.nodes k i

/-- Builder invariant: registered nodes exist, distinct lookup types own distinct nodes, every
    registered lookup type is finished unless it is one of those being built (`pend`), and registered
    nodes carry no logical type (`isPlain`: carried along but read by nothing; `KeyNodeU` already pins
    finished nodes to `plain …`). -/
structure InvU (P : Prog) (pend : List Key) (s : BState) : Prop where
  bnd : ∀ k i, Reg s k i → i < s.nodes.size
  inj : ∀ k k' i, Reg s k i → Reg s k' i → k = k'
  done : ∀ k i, Reg s k i → k ∈ pend ∨ DoneU P s k i
  isPlain : ∀ k i, Reg s k i → ∃ X, s.nodes[i]? = some (plain X)

theorem DoneU.ext {P : Prog} {s s' : BState} {k : Key} {i : Nat} (he : Derive.Ext s s') (hi : i < s.nodes.size)
    (h : DoneU P s k i) : DoneU P s' k i :=
  KeyNodeU.mono he.built (he.old i hi) (fun _ _ hj _ => he.keep hj) h

theorem InvU.empty (P : Prog) : InvU P [] {} :=
  ⟨fun k i h => by simp [Reg, List.lookup] at h, fun k k' i h => by simp [Reg, List.lookup] at h,
   fun k i h => by simp [Reg, List.lookup] at h, fun k i h => by simp [Reg, List.lookup] at h⟩

theorem InvU.register_push {P : Prog} {pend : List Key} {s : BState} (hinv : InvU P pend s)
    {key : Key} (hnew : s.built.lookup key = none) (x : RawNode) (hx : ∃ X, x = plain X) :
    InvU P (key :: pend) { nodes := s.nodes.push x, built := (key, s.nodes.size) :: s.built } := by
  have hext : Derive.Ext s { nodes := s.nodes.push x, built := (key, s.nodes.size) :: s.built } :=
    (Ext.push s x).trans (Ext.register _ key _ hnew)
  refine ⟨fun k i h => ?_, fun k k' i h h' => ?_, fun k i h => ?_, fun k i h => ?_⟩
  · rcases Reg.cons_iff.mp h with ⟨_, rfl⟩ | ⟨_, h⟩
    · simp
    · have := hinv.bnd k i h; simp; omega
  · rcases Reg.cons_iff.mp h with ⟨h1, h2⟩ | ⟨hk, h3⟩
    · rcases Reg.cons_iff.mp h' with ⟨h4, _⟩ | ⟨hk', h6⟩
      · rw [h1, h4]
      · rw [h2] at h6; exact absurd (hinv.bnd _ _ h6) (Nat.lt_irrefl _)
    · rcases Reg.cons_iff.mp h' with ⟨_, h5⟩ | ⟨hk', h6⟩
      · rw [h5] at h3; exact absurd (hinv.bnd _ _ h3) (Nat.lt_irrefl _)
      · exact hinv.inj _ _ _ h3 h6
  · rcases Reg.cons_iff.mp h with ⟨rfl, _⟩ | ⟨hk, h⟩
    · exact .inl (by simp)
    · rcases hinv.done k i h with hp | hd
      · exact .inl (by simp [hp])
      · exact .inr (hd.ext hext (hinv.bnd k i h))
  · rcases Reg.cons_iff.mp h with ⟨_, rfl⟩ | ⟨_, h⟩
    · obtain ⟨X, rfl⟩ := hx
      exact ⟨X, by simp⟩
    · obtain ⟨X, hX⟩ := hinv.isPlain k i h
      exact ⟨X, by rw [hext.old i (hinv.bnd k i h)]; exact hX⟩

/-- Pushing a node that no lookup type owns (a logical-type field, a variant-owned fixed). -/
theorem InvU.push_owned {P : Prog} {pend : List Key} {s s' : BState} (hinv : InvU P pend s)
    (hb : s'.built = s.built) (hsz : s.nodes.size ≤ s'.nodes.size)
    (hn : ∀ j, j < s.nodes.size → s'.nodes[j]? = s.nodes[j]?) : InvU P pend s' := by
  have hreg : ∀ k i, Reg s' k i ↔ Reg s k i := fun k i => by unfold Reg; rw [hb]
  have hext : Derive.Ext s s' := ⟨hsz, hn, fun k i h => (hreg k i).mpr h⟩
  refine ⟨fun k i h => ?_, fun k k' i h h' => ?_, fun k i h => ?_, fun k i h => ?_⟩
  · exact Nat.lt_of_lt_of_le (hinv.bnd k i ((hreg k i).mp h)) hsz
  · exact hinv.inj k k' i ((hreg k i).mp h) ((hreg k' i).mp h')
  · rcases hinv.done k i ((hreg k i).mp h) with hp | hd
    · exact .inl hp
    · exact .inr (hd.ext hext (hinv.bnd k i ((hreg k i).mp h)))
  · obtain ⟨X, hX⟩ := hinv.isPlain k i ((hreg k i).mp h)
    exact ⟨X, by rw [hn i (hinv.bnd k i ((hreg k i).mp h))]; exact hX⟩

theorem kept_of_ne_null {nodes nodes' : Array RawNode} {n : Nat} (hnull : nodes[n]? = some (plain .null))
    (hother : ∀ j, j ≠ n → nodes'[j]? = nodes[j]?) {j : Nat} {x : RawNode} (hj : nodes[j]? = some x)
    (hx : x ≠ plain .null) : nodes'[j]? = some x := by
  rw [hother j ?_]
  · exact hj
  · rintro rfl
    rw [hnull] at hj
    exact hx (Option.some.inj hj).symm

theorem InvU.set {P : Prog} {pend : List Key} {s : BState} {key : Key} {n : Nat}
    (hinv : InvU P (key :: pend) s) (hreg : Reg s key n) (hcur : s.nodes[n]? = some (plain .null))
    (x : RawNode) (hx : ∃ X, x = plain X) :
    InvU P (key :: pend) { s with nodes := s.nodes.set! n x } := by
  refine ⟨fun k i h => by simpa using hinv.bnd k i h, fun k k' i h h' => hinv.inj k k' i h h',
    fun k i h => ?_, fun k i h => ?_⟩
  · by_cases hk : k = key
    · exact .inl (by simp [hk])
    · rcases hinv.done k i h with hp | hd
      · exact .inl hp
      · refine .inr (KeyNodeU.mono (fun _ _ h => h) ?_ ?_ hd)
        · have hne : n ≠ i := fun hni => hk (hinv.inj k key i h (hni ▸ hreg))
          simp [Array.set!_eq_setIfInBounds, hne]
        · refine fun j y => kept_of_ne_null hcur (fun j hj => ?_)
          simp only [Array.set!_eq_setIfInBounds]
          exact Array.getElem?_setIfInBounds_ne (Ne.symm hj)
  · by_cases hni : n = i
    · subst hni
      obtain ⟨X, rfl⟩ := hx
      exact ⟨X, by simp [Array.set!_eq_setIfInBounds, hinv.bnd k n h]⟩
    · obtain ⟨X, hX⟩ := hinv.isPlain k i h
      exact ⟨X, by simp only [Array.set!_eq_setIfInBounds]; rw [Array.getElem?_setIfInBounds_ne hni]; exact hX⟩

theorem InvU.done_of_nil {P : Prog} {s : BState} (hinv : InvU P [] s) {k : Key} {i : Nat} (h : Reg s k i) :
    DoneU P s k i :=
  (hinv.done k i h).resolve_left (by simp)

theorem InvU.finish {P : Prog} {pend : List Key} {s : BState} {key : Key}
    (hinv : InvU P (key :: pend) s) (hdone : ∀ i, Reg s key i → DoneU P s key i) : InvU P pend s := by
  refine ⟨hinv.bnd, hinv.inj, fun k i h => ?_, hinv.isPlain⟩
  rcases hinv.done k i h with hp | hd
  · rcases List.mem_cons.mp hp with rfl | hp
    · exact .inr (hdone i h)
    · exact .inl hp
  · exact .inr hd

/-- `append_schema` (`app`) on a type that owns one pushed node and has no children: registered and
    finished at once. -/
theorem app_leafU {P : Prog} {pend : List Key} {s : BState} {key : Key} (hinv : InvU P pend s)
    (hnew : s.built.lookup key = none) (x : RawNode) (hx : ∃ X, x = plain X)
    (hdone : ∀ (reg : Key → Nat → Prop) (nodes : Array RawNode), nodes[s.nodes.size]? = some x →
      KeyNodeU P reg nodes key s.nodes.size) :
    InvU P pend { nodes := s.nodes.push x, built := (key, s.nodes.size) :: s.built } ∧
      s.nodes.size < (s.nodes.push x).size ∧
      Reg { nodes := s.nodes.push x, built := (key, s.nodes.size) :: s.built } key s.nodes.size := by
  have h1 := hinv.register_push hnew x hx
  refine ⟨h1.finish (fun i hi => ?_), by simp, Reg.cons_self _ _ _ _⟩
  have : i = s.nodes.size := Reg.functional hi (Reg.cons_self _ _ _ _)
  subst this
  exact hdone _ _ (by simp)

theorem placeholder_kept {s s3 : BState} {key : Key}
    (hext3 : Derive.Ext { nodes := s.nodes.push (plain .null), built := (key, s.nodes.size) :: s.built } s3) :
    s3.nodes[s.nodes.size]? = some (plain .null) := by
  rw [hext3.old s.nodes.size (by simp)]
  simp

/-- `append_schema` on a type whose node is reserved (placeholder `null`) at registration, then
    filled by `setNode` once its children are registered (`s3`). -/
theorem app_fillU {P : Prog} {pend : List Key} {s s3 s' : BState} {key : Key} {x : RawNode}
    (hinv3 : InvU P (key :: pend) s3)
    (hext3 : Derive.Ext { nodes := s.nodes.push (plain .null), built := (key, s.nodes.size) :: s.built } s3)
    (hset : setNode s.nodes.size x s3 = some ((), s')) (hx : ∃ X, x = plain X)
    (hdone : s3.nodes[s.nodes.size]? = some (plain .null) →
      ∀ nodes : Array RawNode, nodes[s.nodes.size]? = some x →
      (∀ j, j ≠ s.nodes.size → nodes[j]? = s3.nodes[j]?) →
      KeyNodeU P (Reg s3) nodes key s.nodes.size) :
    InvU P pend s' ∧ s.nodes.size < s'.nodes.size ∧ Reg s' key s.nodes.size := by
  obtain ⟨_, rfl⟩ := setNode_some hset
  have hreg : Reg s3 key s.nodes.size := hext3.built _ _ (Reg.cons_self _ _ _ _)
  have hnull := placeholder_kept hext3
  have hlt : s.nodes.size < s3.nodes.size := hinv3.bnd _ _ hreg
  refine ⟨(hinv3.set hreg hnull x hx).finish (fun i hi => ?_), by simpa using hlt, hreg⟩
  have : i = s.nodes.size := Reg.functional hi hreg
  subst this
  refine hdone hnull _ (by simp [Array.set!_eq_setIfInBounds, hlt]) (fun j hj => ?_)
  simp only [Array.set!_eq_setIfInBounds]
  exact Array.getElem?_setIfInBounds_ne (fun h => hj h.symm)

end Avro.Theorems.DeriveWU
