import AvroModel.Lemmas.OcfReader
/-
`OcfS.leaveOuter` and `OcfS.RdInv` are `Ocf.leaveOuter` and `Ocf.RdInv` of `Lemmas/OcfReader.lean`
(`leaveOuter_eq`, `rdInv_iff`: `rfl`), kept under the names the theorems of `Avro.Theorems.Stream`
(`Lemmas/OcfStream.lean`, `Theorems/C17stream.lean`, `C17class*.lean`) are stated with; three facts
restated for them.  The files above therefore `open Avro.Impl.Ocf hiding RdInv` and
`open Avro.Impl.OcfS (RdInv)`: their `RdInv` is this one.  A new statement should use `Ocf.*`.
-/
namespace Avro.Impl.OcfS
open Avro Avro.Impl Avro.Impl.Ocf

theorem srcAfterBlock_fst_le (o : RState) (size afterLen : Nat) :
    (srcAfterBlock o size afterLen).1 ≤ afterLen :=
  Ocf.srcAfterBlock_fst_le o size afterLen

def leaveOuter (d : Decomp) (r : Reader) : RState :=
  if d.isNull ∧ ¬ r.outer.isSlice then
    { r.blk with rest := r.after,
                 avail := (srcAfterBlock r.outer (r.outer.rest.length - r.after.length) r.after.length).1,
                 sched := (srcAfterBlock r.outer (r.outer.rest.length - r.after.length) r.after.length).2,
                 limit := none }
  else { r.outer with rest := r.after, avail := 0 }

theorem leaveOuter_eq (d : Decomp) (r : Reader) : leaveOuter d r = Ocf.leaveOuter d r := rfl

theorem leaveOuter_wf (d : Decomp) (r : Reader) : (leaveOuter d r).WF :=
  Ocf.leaveOuter_wf d r

def RdInv (r : Reader) : Prop := ∀ n, r.st = .inBlock n → r.after.length ≤ r.outer.rest.length

theorem rdInv_iff (r : Reader) : RdInv r ↔ Ocf.RdInv r := Iff.rfl

theorem readExact_slice_ok {k : Nat} {s s' : RState} {b : Bytes} (hs : s.isSlice = true)
    (hl : s.limit = none) (h : readExact k s = (.ok b, s')) : k ≤ s.rest.length :=
  Ocf.readExact_slice_ok hs hl h

end Avro.Impl.OcfS
