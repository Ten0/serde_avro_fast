import AvroModel.Lemmas.DeriveRealizes
import AvroModel.Lemmas.RecordOrder
import AvroModel.Lemmas.SerTriples
/-
C20 ("derived schemas fit their types"), serializer side: every serializer-call tree a value of a
type presents (`hasShape`) is accepted by `ser` at a node that realizes the type (`Realizes`,
`Lemmas/DeriveRealizes.lean`) — directly, or as the non-null branch of an `Option` union.  Nothing
here speaks of the builder.
-/
namespace Avro.Theorems.DeriveFits
open Avro Avro.Impl Avro.Impl.Derive

theorem exists_node {S : Schema} {k : Nat} (h : k < S.size) : ∃ n, S[k]? = some n :=
  ⟨S[k], Array.getElem?_eq_getElem h⟩

/-- A serializer state with no byte limit and a clean pool (not `Derive.Good`, which is about the
    builder). -/
def Good (s : SerState) : Prop := s.budget = none ∧ PoolClean s.pool

theorem Good.empty : Good {} := ⟨rfl, PoolClean.empty⟩

/-- From every `Good` state `m` returns `.ok a` with `Q a` and leaves a `Good` state: the form in which
    every `fits_*` lemma is stated. -/
def Succ {α} (m : SerM α) (Q : α → Prop) : Prop :=
  ∀ s, Good s → ∃ a s', m s = (.ok a, s') ∧ Good s' ∧ Q a

theorem Succ.pure {α} (a : α) {Q : α → Prop} (h : Q a) : Succ (pure a : SerM α) Q :=
  fun s hs => ⟨a, s, rfl, hs, h⟩

theorem Succ.bind {α β} {m : SerM α} {f : α → SerM β} {Q : α → Prop} {R : β → Prop}
    (hm : Succ m Q) (hf : ∀ a, Q a → Succ (f a) R) : Succ (m >>= f) R := by
  intro s hs
  obtain ⟨a, s', e, hs', qa⟩ := hm s hs
  obtain ⟨b, s'', e', hs'', rb⟩ := hf a qa s' hs'
  refine ⟨b, s'', ?_, hs'', rb⟩
  simp only [Bind.bind, e, e']

theorem Succ.weaken {α} {m : SerM α} {Q Q' : α → Prop} (hm : Succ m Q) (h : ∀ a, Q a → Q' a) :
    Succ m Q' := by
  intro s hs
  obtain ⟨a, s', e, hs', qa⟩ := hm s hs
  exact ⟨a, s', e, hs', h a qa⟩

theorem writeAll_succ (bs : Bytes) : Succ (writeAll bs) (fun _ => True) := by
  intro s hs
  refine ⟨(), _, writeAll_none bs s hs.1, ⟨hs.1, hs.2⟩, trivial⟩

theorem writeVarI64_succ (i : Int) : Succ (writeVarI64 i) (fun _ => True) := writeAll_succ _

theorem writeLengthDelimited_succ (bs : Bytes) : Succ (writeLengthDelimited bs) (fun _ => True) :=
  Succ.bind (writeVarI64_succ _) (fun _ _ => writeAll_succ _)

theorem Succ.of_poolOp {α} {m : SerM α} {Q : α → Prop} (h : PoolOp m Q) : Succ m Q := by
  intro s hs
  obtain ⟨a, s', e, qa, _, b1, c1⟩ := h s hs.2
  exact ⟨a, s', e, ⟨by rw [b1]; exact hs.1, c1⟩, qa⟩

/-- `key` selects `T` in `[null, T]`: `T` registers it, `null` does not or with a larger priority. -/
def Selects (T : Node) (key : LookupKey) : Prop :=
  ∃ p, T.priorityFor key = some p ∧
    (Node.null.priorityFor key = none ∨ ∃ q, Node.null.priorityFor key = some q ∧ p < q)

theorem unnamedLookup_null_T {T : Node} {key : LookupKey} (h : Selects T key) :
    unnamedLookup key [.null, T] = some 1 := by
  obtain ⟨p, hp, hn⟩ := h
  rcases hn with hn | ⟨q, hq, hlt⟩
  · simp [unnamedLookup, slotFor, slotFor.go, hp, hn, Slot.register]
  · simp only [unnamedLookup, slotFor, slotFor.go, hp, hq, Slot.register]
    have h1 : ¬ q < p := by omega
    have h2 : ¬ q = p := by omega
    simp [h1, h2]

/-- `Selects` as a check that evaluates. -/
theorem Selects.of_priority {T : Node} {key : LookupKey} {p : Nat} (hp : T.priorityFor key = some p)
    (hq : (Node.null.priorityFor key).all (fun q => decide (p < q)) = true) : Selects T key := by
  refine ⟨p, hp, ?_⟩
  cases hn : Node.null.priorityFor key with
  | none => exact .inl rfl
  | some q => exact .inr ⟨q, rfl, by simpa [hn] using hq⟩

/-- The node a value of the type realized at `i` is serialized at: node `i` itself, or the
    `Option` union `[null, i]` around it (when node `i` is neither null nor a union). -/
inductive Mode (S : Schema) (i : Nat) : Node → Prop
  | direct (n : Node) (h : S[i]? = some n) : Mode S i n
  | under (a : Nat) (ha : S[a]? = some .null) (hp : PlainAt S i) : Mode S i (.union [a, i])

theorem branchNodes_pair {S : Schema} {a i : Nat} {T : Node} (ha : S[a]? = some .null)
    (hi : S[i]? = some T) : branchNodes S [a, i] = [.null, T] := by
  simp [branchNodes, ha, hi]

theorem viaUnion_mode {α} {S : Schema} {i : Nat} {node T : Node} {key : LookupKey}
    {f : Node → SerM α} {Q : α → Prop} (hm : Mode S i node) (hi : S[i]? = some T)
    (hnu : ∀ vs, T ≠ .union vs) (hsel : Selects T key) (hf : Succ (f T) Q) :
    Succ (viaUnion S node key f) Q := by
  cases hm with
  | direct _ h =>
    have hT : node = T := by rw [hi] at h; exact (Option.some.inj h).symm
    subst hT
    cases node <;> first | exact hf | exact absurd rfl (hnu _)
  | under a ha hp =>
    simp only [viaUnion, branchNodes_pair ha hi, unnamedLookup_null_T hsel]
    refine Succ.bind (writeVarI64_succ _) (fun _ _ => ?_)
    simpa [hi] using hf

theorem namedLookup_null_T (name : String) (T : Node) (hn : name ≠ "Null") :
    namedLookup name [.null, T] = if T.lookupNames.contains name then some 1 else none := by
  have : ¬ (name = "Null") := hn
  simp [namedLookup, namedLookup.go, Node.lookupNames, this]

/-- By-name dispatch in either mode: continue at the realized node (directly, or after the
    discriminant) or at the same node. -/
theorem viaName_mode {α} {S : Schema} {i : Nat} {node T : Node} {name : String}
    {f : Node → SerM α} {Q : α → Prop} (hm : Mode S i node) (hi : S[i]? = some T)
    (hnu : ∀ vs, T ≠ .union vs) (hn : name ≠ "Null") (hT : Succ (f T) Q) (hnode : Succ (f node) Q) :
    Succ (viaName S node name f) Q := by
  cases hm with
  | direct _ h =>
    have hT' : node = T := by rw [hi] at h; exact (Option.some.inj h).symm
    subst hT'
    cases node <;> first | exact hT | exact absurd rfl (hnu _)
  | under a ha hp =>
    simp only [viaName, branchNodes_pair ha hi, namedLookup_null_T name T hn]
    by_cases hc : T.lookupNames.contains name = true
    · simp only [hc, if_true]
      refine Succ.bind (writeVarI64_succ _) (fun _ _ => ?_)
      simpa [hi] using hT
    · simp only [hc]
      exact hnode

section leaves
variable {S : Schema} {i : Nat} {node : Node}

theorem fits_bool (hm : Mode S i node) (hi : S[i]? = some .boolean) (b : Bool) :
    Succ (serBool S node b) (fun _ => True) :=
  viaUnion_mode hm hi nofun (.of_priority rfl rfl) (writeAll_succ _)

theorem fits_f32 (hm : Mode S i node) (hi : S[i]? = some .float) (b : BitVec 32) :
    Succ (serF32 S node b) (fun _ => True) :=
  viaUnion_mode hm hi nofun (.of_priority rfl rfl) (writeAll_succ _)

theorem fits_f64 (ext : Avro.Impl.Ext) (hm : Mode S i node) (hi : S[i]? = some .double) (b : BitVec 64) :
    Succ (serF64 ext S node b) (fun _ => True) :=
  viaUnion_mode hm hi nofun (.of_priority rfl rfl) (writeAll_succ _)

theorem fits_str (ext : Avro.Impl.Ext) (hm : Mode S i node) (hi : S[i]? = some .string) (x : String) :
    Succ (serStr ext S node x) (fun _ => True) :=
  viaUnion_mode hm hi nofun (.of_priority rfl rfl) (writeLengthDelimited_succ _)

theorem fits_bytes (hm : Mode S i node) (hi : S[i]? = some .bytes) (x : Bytes) :
    Succ (serBytes S node x) (fun _ => True) :=
  viaUnion_mode hm hi nofun (.of_priority rfl rfl) (writeLengthDelimited_succ _)

theorem fits_fixed (hm : Mode S i node) {nm : Name} {n : Nat} (hi : S[i]? = some (.fixed nm n))
    (x : Bytes) (hx : x.length = n) : Succ (serBytes S node x) (fun _ => True) := by
  refine viaUnion_mode hm hi nofun (.of_priority rfl rfl) ?_
  simp only [hx, ne_eq, not_true_eq_false, if_false]
  exact writeAll_succ _

end leaves

section unitlike
variable {S : Schema} {i : Nat} {node : Node}

theorem fits_unit (hm : Mode S i node) (hi : S[i]? = some .null) :
    Succ (serUnit S node) (fun _ => True) := by
  cases hm with
  | direct _ h =>
    rw [hi] at h
    cases h
    exact Succ.pure _ trivial
  | under a ha hp =>
    obtain ⟨n, hn, h1, _⟩ := hp
    rw [hi] at hn
    cases hn
    exact absurd rfl h1

theorem unnamedLookup_null_plain {T : Node} (h1 : T ≠ .null) :
    unnamedLookup .null [.null, T] = some 0 := by
  cases T <;> first | exact absurd rfl h1 | rfl

theorem fits_none {a b : Nat} (ha : S[a]? = some .null) (hp : PlainAt S b) :
    Succ (serUnit S (.union [a, b])) (fun _ => True) := by
  obtain ⟨T, hT, h1, _⟩ := hp
  simp only [serUnit, branchNodes_pair ha hT, unnamedLookup_null_plain h1]
  exact writeVarI64_succ _

theorem lookupLast_isSome {xs : List String} {name : String} (h : name ∈ xs) :
    ∃ d, lookupLast xs name = some d := by
  have := lookupLast_go_isSome name xs 0 none (.inl h)
  unfold lookupLast
  cases hj : lookupLast.go name xs 0 none with
  | none => rw [hj] at this; cases this
  | some d => exact ⟨d, rfl⟩

theorem nullVariantBranch_enum {a : Nat} {nm : Name} {vs : List String} {v : String}
    (ha : S[a]? = some .null) (hi : S[i]? = some (.enum nm vs)) (hv : v ∈ vs) :
    nullVariantBranch S [a, i] v = none := by
  unfold nullVariantBranch
  by_cases hN : v = "Null"
  · subst hN
    have hsel : unnamedLookup .unitVariant [.null, .enum nm vs] = some 1 :=
      unnamedLookup_null_T (.of_priority rfl rfl)
    simp only [if_true, branchNodes_pair ha hi, hsel]
    by_cases hc2 : "Null" ∈ (Node.enum nm vs).lookupNames
    · have : namedLookup "Null" [.null, .enum nm vs] = some 1 := by
        simp [namedLookup, namedLookup.go, hc2]
      simp [this, hi]
    · have : namedLookup "Null" [.null, .enum nm vs] = some 0 := by
        simp only [namedLookup, namedLookup.go, List.contains_iff_mem, hc2]
        simp [Node.lookupNames]
      simp [this, ha, hi, hv]
  · simp [hN]

theorem fits_unitVariant (ext : Avro.Impl.Ext) (hm : Mode S i node) {nm : Name} {vs : List String}
    (hi : S[i]? = some (.enum nm vs)) {v : String} (hv : v ∈ vs) :
    Succ (serUnitVariant ext S node v) (fun _ => True) := by
  obtain ⟨d, hd⟩ := lookupLast_isSome hv
  have hat : Succ (serUnitVariantAt ext v (.enum nm vs)) (fun _ => True) := by
    simp only [serUnitVariantAt, serStrAt, hd]
    exact writeVarI64_succ _
  have hvia : Succ (viaUnion S node .unitVariant (serUnitVariantAt ext v)) (fun _ => True) :=
    viaUnion_mode hm hi nofun (.of_priority rfl rfl) hat
  cases hm with
  | direct _ h =>
    have hT : node = .enum nm vs := by rw [hi] at h; exact (Option.some.inj h).symm
    subst hT
    exact hvia
  | under a ha hp =>
    simp only [serUnitVariant, nullVariantBranch_enum ha hi hv]
    exact hvia

theorem fits_unit_in_union (ext : Avro.Impl.Ext) {ks : List Nat} {j k : Nat}
    (hnl : namedLookup "Null" (branchNodes S ks) = some j) (hk : ks[j]? = some k)
    (hS : S[k]? = some .null) :
    Succ (serUnitVariant ext S (.union ks) "Null") (fun _ => True) := by
  simp only [serUnitVariant]
  cases hb : nullVariantBranch S ks "Null" with
  | some d => exact writeVarI64_succ _
  | none =>
    dsimp only
    unfold nullVariantBranch at hb
    simp only [if_true, hnl, hk, hS, Option.bind_some] at hb
    cases he : unnamedLookup .unitVariant (branchNodes S ks) with
    | none => simp [he] at hb
    | some e =>
      simp only [he] at hb
      cases hke : ks[e]? with
      | none => simp [hke] at hb
      | some k' =>
        simp only [hke, Option.bind_some] at hb
        cases hn : S[k']? with
        | none => simp [hn] at hb
        | some n =>
          simp only [hn] at hb
          cases n <;> simp at hb
          rename_i nm syms
          simp only [viaUnion, he, hke, hn]
          refine Succ.bind (writeVarI64_succ _) (fun _ _ => ?_)
          obtain ⟨d, hd⟩ := lookupLast_isSome hb
          simp only [serUnitVariantAt, serStrAt, hd]
          exact writeVarI64_succ _

end unitlike

section compound
variable (ext : Avro.Impl.Ext) (allowSlow : Bool) {S : Schema} {i : Nat} {node : Node}

theorem Succ.finally {α} {m : SerM α} {fin : SerM Unit} {Q : α → Prop}
    (hm : Succ m Q) (hf : Succ fin (fun _ => True)) : Succ (SerM.finally m fin) Q := by
  intro s hs
  obtain ⟨a, s', e, hs', qa⟩ := hm s hs
  obtain ⟨_, s'', e', hs'', _⟩ := hf s' hs'
  refine ⟨a, s'', ?_, hs'', qa⟩
  simp only [SerM.finally, e, e']

theorem blockNew_succ (len : Nat) : Succ (blockNew len) (fun c => c = len) := by
  unfold blockNew
  dsimp only
  split
  · exact Succ.bind (writeVarI64_succ _) (fun _ _ => Succ.pure _ rfl)
  · exact Succ.pure _ rfl

theorem nodeAt_succ {k : Nat} {n : Node} (hk : S[k]? = some n) : Succ (nodeAt S k) (fun x => x = n) := by
  simp only [nodeAt, hk]
  exact Succ.pure _ rfl

theorem serElems_array (n : Node) : ∀ (elems : List SV),
    (∀ e ∈ elems, Succ (ser ext allowSlow S n e) (fun _ => True)) → ∀ s, Good s →
    ∃ s', serElems ext allowSlow S (.array n elems.length) elems s = (.ok (.array n 0), s') ∧ Good s' := by
  intro elems
  induction elems with
  | nil => intro _ s hs; exact ⟨s, by rw [serElems]; rfl, hs⟩
  | cons e rest ih =>
    intro h s hs
    obtain ⟨_, s1, e1, hs1, _⟩ := h e (by simp) s hs
    obtain ⟨s2, e2, hs2⟩ := ih (fun e' he' => h e' (by simp [he'])) s1 hs1
    refine ⟨s2, ?_, hs2⟩
    rw [serElems]
    simp only [List.length_cons, blockSignal, pure, e1, e2]

theorem fits_seq (hm : Mode S i node) {k : Nat} (hi : S[i]? = some (.array k)) {n : Node}
    (hk : S[k]? = some n) (elems : List SV)
    (helems : ∀ e ∈ elems, Succ (ser ext allowSlow S n e) (fun _ => True)) :
    Succ (ser ext allowSlow S node (.seq (some elems.length) elems)) (fun _ => True) := by
  simp only [ser]
  refine Succ.bind (Q := fun kd => kd = .array n elems.length) ?_ ?_
  · refine viaUnion_mode hm hi nofun (.of_priority rfl rfl) ?_
    simp only [seqStartAt, Option.getD_some]
    exact Succ.bind (nodeAt_succ hk) (fun a ha => Succ.bind (blockNew_succ _)
      (fun c hc => Succ.pure _ (by rw [ha, hc])))
  · intro kd hkd
    subst hkd
    intro s hs
    obtain ⟨s1, e1, hs1⟩ := serElems_array ext allowSlow n elems helems s hs
    have hfin : Succ (SerM.finally (seqEnd (.array n 0)) (seqDrop (.array n 0))) (fun _ => True) := by
      refine Succ.finally ?_ (Succ.pure _ trivial)
      simp only [seqEnd, blockEnd, ne_eq, not_true_eq_false, if_false]
      exact writeVarI64_succ _
    obtain ⟨a, s2, e2, hs2, _⟩ := hfin s1 hs1
    exact ⟨a, s2, by simp only [e1, seqFinish, e2], hs2, trivial⟩

theorem serEntries_map (n : Node) : ∀ (entries : List (SV × SV)),
    (∀ kv ∈ entries, isStrKey kv.1 = true ∧ Succ (ser ext allowSlow S n kv.2) (fun _ => True)) →
    ∀ s, Good s →
    ∃ s', serEntries ext allowSlow S (.map n entries.length) entries s = (.ok (.map n 0), s') ∧ Good s' := by
  intro entries
  induction entries with
  | nil => intro _ s hs; exact ⟨s, by rw [serEntries]; rfl, hs⟩
  | cons kv rest ih =>
    intro h s hs
    obtain ⟨key, v⟩ := kv
    obtain ⟨hkey, hv⟩ := h (key, v) (by simp)
    cases key <;> simp only [isStrKey] at hkey <;> try cases hkey
    rename_i str
    have hks : Succ (ser ext allowSlow S .string (.str str)) (fun _ => True) := by
      simp only [ser]
      exact writeLengthDelimited_succ _
    obtain ⟨_, s1, e1, hs1, _⟩ := hks s hs
    obtain ⟨_, s2, e2, hs2, _⟩ := hv s1 hs1
    obtain ⟨s3, e3, hs3⟩ := ih (fun e' he' => h e' (by simp [he'])) s2 hs2
    refine ⟨s3, ?_, hs3⟩
    rw [serEntries]
    simp only [List.length_cons, blockSignal, pure, e1, e2, e3]

theorem fits_map (hm : Mode S i node) {k : Nat} (hi : S[i]? = some (.map k)) {n : Node}
    (hk : S[k]? = some n) (entries : List (SV × SV))
    (hent : ∀ kv ∈ entries, isStrKey kv.1 = true ∧ Succ (ser ext allowSlow S n kv.2) (fun _ => True)) :
    Succ (ser ext allowSlow S node (.map (some entries.length) entries)) (fun _ => True) := by
  simp only [ser]
  refine viaUnion_mode hm hi nofun (.of_priority rfl rfl) ?_
  refine Succ.bind (Q := fun kd => kd = .map n entries.length) ?_ ?_
  · simp only [structStartAt, Option.getD_some]
    exact Succ.bind (nodeAt_succ hk) (fun a ha => Succ.bind (blockNew_succ _)
      (fun c hc => Succ.pure _ (by rw [ha, hc])))
  · intro kd hkd
    subst hkd
    intro s hs
    obtain ⟨s1, e1, hs1⟩ := serEntries_map ext allowSlow n entries hent s hs
    have hfin : Succ (structFinish S (.map n 0)) (fun _ => True) := by
      intro t ht
      obtain ⟨_, t1, f1, ht1, _⟩ := writeVarI64_succ 0 t ht
      refine ⟨(), t1, ?_, ht1, trivial⟩
      simp only [structFinish, structEnd, TrM.lift, blockEnd, ne_eq, not_true_eq_false, if_false,
        bind, f1, pure, SerM.finally, structDrop]
    obtain ⟨a, s2, e2, hs2, _⟩ := hfin s1 hs1
    exact ⟨a, s2, by simp only [e1, structBodyFinish, e2], hs2, trivial⟩

theorem serFields_inorder (fields : List (String × Nat)) : ∀ (pres : List (String × SV)) (rs : RecordState),
    rs.buffers.slots = [] →
    (∀ (j : Nat) (name : String) (v : SV), pres[j]? = some (name, v) →
      ∃ k n, fields[rs.current + j]? = some (name, k) ∧ S[k]? = some n ∧
        Succ (ser ext allowSlow S n v) (fun _ => True)) →
    ∀ s, Good s →
    ∃ rs' s', serFields ext allowSlow S (.record fields rs) pres s = (.ok (.record fields rs'), s') ∧
      Good s' ∧ rs'.current = rs.current + pres.length := by
  intro pres
  induction pres with
  | nil => intro rs _ _ s hs; exact ⟨rs, s, by rw [serFields], hs, rfl⟩
  | cons nv rest ih =>
    intro rs hslots h s hs
    obtain ⟨name, v⟩ := nv
    obtain ⟨k, n, hf, hk, hv⟩ := h 0 name v rfl
    rw [Nat.add_zero] at hf
    obtain ⟨_, s1, e1, hs1, _⟩ := hv s hs
    obtain ⟨rs', s2, e2, hs2, hcur⟩ := ih { rs with current := rs.current + 1 } hslots
      (fun j name' v' hj => by
        have := h (j + 1) name' v' (by simpa using hj)
        simpa [Nat.add_assoc, Nat.add_comm 1 j] using this) s1 hs1
    refine ⟨rs', s2, ?_, hs2, by simp only [hcur, List.length_cons]; omega⟩
    have hidx : fieldIdx fields rs name = .ok rs.current := by
      simp [fieldIdx, hf]
    have hrv : recordValue S fields rs rs.current (fun node => ser ext allowSlow S node v) s =
        (.ok { rs with current := rs.current + 1 }, s1) := by
      simp only [recordValue, hf, hk, if_true, e1, hslots, List.length_nil, flushBuffered]
    rw [serFields]
    simp only [hidx, hrv, e2]

theorem fits_struct (hm : Mode S i node) {nm : Name} {fs : List (String × Nat)}
    (hi : S[i]? = some (.record nm fs)) {name : String} (hname : name ≠ "Null")
    (pres : List (String × SV)) (hlen : pres.length = fs.length)
    (hpres : ∀ (j : Nat) (fname : String) (v : SV), pres[j]? = some (fname, v) →
      ∃ k n, fs[j]? = some (fname, k) ∧ S[k]? = some n ∧
        Succ (ser ext allowSlow S n v) (fun _ => True)) :
    Succ (ser ext allowSlow S node (.struct name pres)) (fun _ => True) := by
  have hnu : ∀ vs, Node.record nm fs ≠ .union vs := by intro vs h; cases h
  have hg : Succ (do
      let k ← structStartAt S (.record nm fs) pres.length (some pres.length)
      fun s => structBodyFinish S (serFields ext allowSlow S k pres s)) (fun _ => True) := by
    refine Succ.bind (Q := fun kd => ∃ sb : SuperBuffer, sb.slots = [] ∧
      kd = .record fs { current := 0, buffers := sb }) ?_ ?_
    · simp only [structStartAt]
      exact Succ.bind (Succ.of_poolOp popSuperBuffer_op) (fun sb hsb => Succ.pure _ ⟨sb, hsb, rfl⟩)
    · rintro kd ⟨sb, hsb, rfl⟩
      intro s hs
      obtain ⟨rs', s1, e1, hs1, hcur⟩ := serFields_inorder ext allowSlow fs pres
        { current := 0, buffers := sb } hsb (fun j fname v hj => by simpa using hpres j fname v hj) s hs
      obtain ⟨s2, e2, _, b2, c2⟩ := structFinish_record_done S fs rs' s1 hs1.2
        (by rw [hcur, hlen]; simp)
      refine ⟨(), s2, ?_, ⟨by rw [b2]; exact hs1.1, c2⟩, trivial⟩
      simp only [e1, structBodyFinish, e2]
  simp only [ser]
  refine viaName_mode hm hi hnu hname ?_ ?_
  · exact hg
  · exact viaUnion_mode hm hi hnu (.of_priority rfl rfl) hg

end compound

section leafshape
variable {P : Prog}

/-- What `hasShape` says of a value of a type that is not a declared one.  Each case reads the
    equation of `hasShape` for "any other `sv`" contrapositively (a case split on `sv` has 21 cases):
    `simp only [hasShape]` finds that equation by its index (`rw [hasShape]` tries them one after the
    other) and discharges its side condition with the hypothesis `hne`. -/
theorem hasShape_inv {f : Nat} {t : Ty} {sv : SV} (hs : hasShape P (f + 1) t sv = true) :
    match t with
    | .unit => sv = .unit
    | .bool => ∃ b, sv = .bool b
    | .i8 | .i16 | .i32 | .i64 | .u16 | .u32 | .u64 | .usize =>
      ∃ ty v, sv = .int ty v ∧ intTyOf t = some ty ∧ ty.inRange v = true ∧ fitsAvro t v = true
    | .f32 => ∃ b, sv = .f32 b
    | .f64 => ∃ b, sv = .f64 b
    | .string | .str => ∃ x, sv = .str x
    | .byteVec | .byteSlice => ∃ b, sv = .bytes b
    | .byteArray n => ∃ b, sv = .bytes b ∧ b.length = n
    | .vec t => ∃ elems, sv = .seq (some elems.length) elems ∧ ∀ e ∈ elems, hasShape P f t e = true
    | .hashMap t | .btreeMap t =>
      ∃ entries, sv = .map (some entries.length) entries ∧
        ∀ kv ∈ entries, isStrKey kv.1 = true ∧ hasShape P f t kv.2 = true
    | .option t => sv = .none ∨ ∃ x, sv = .some x ∧ hasShape P f t x = true
    | _ => True := by
  have no {p : Prop} (h : ¬p → hasShape P (f + 1) t sv = false) : p :=
    Classical.byContradiction fun hn => by rw [h hn] at hs; cases hs
  cases t with
  | unit => exact no fun hne => by simp only [hasShape]
  | bool | f32 | f64 | string | str | byteVec | byteSlice =>
    exact no fun hne => by simp only [not_exists] at hne; simp only [hasShape]
  | byteArray n =>
    obtain ⟨b, rfl⟩ : ∃ b, sv = .bytes b :=
      no fun hne => by simp only [not_exists] at hne; simp only [hasShape]
    exact ⟨b, rfl, by simpa [hasShape] using hs⟩
  | i8 | i16 | i32 | i64 | u16 | u32 | u64 | usize =>
    obtain ⟨ty, v, rfl⟩ : ∃ ty v, sv = .int ty v := no fun hne => by
      simp only [not_exists] at hne
      simp only [hasShape]
    simp only [hasShape, Bool.and_eq_true, decide_eq_true_eq] at hs
    exact ⟨ty, v, rfl, hs.1.1, hs.1.2, hs.2⟩
  | vec t =>
    obtain ⟨len, elems, rfl⟩ : ∃ len elems, sv = .seq (some len) elems := no fun hne => by
      simp only [not_exists] at hne
      simp only [hasShape]
    simp only [hasShape, Bool.and_eq_true, decide_eq_true_eq, List.all_eq_true] at hs
    obtain ⟨rfl, hall⟩ := hs
    exact ⟨elems, rfl, hall⟩
  | hashMap t | btreeMap t =>
    obtain ⟨len, entries, rfl⟩ : ∃ len entries, sv = .map (some len) entries := no fun hne => by
      simp only [not_exists] at hne
      simp only [hasShape]
    simp only [hasShape, Bool.and_eq_true, decide_eq_true_eq, List.all_eq_true] at hs
    obtain ⟨rfl, hall⟩ := hs
    exact ⟨entries, rfl, hall⟩
  | option t =>
    refine no fun hne => ?_
    rw [hasShape]
    · exact fun hb => hne (.inl hb)
    · exact fun x hb => hne (.inr ⟨x, hb, by rw [hb] at hs; simpa [hasShape] using hs⟩)
  | _ => trivial

theorem int_bounds {t : Ty} {ty : IntTy} {v : Int} (ht : intTyOf t = some ty) (hr : ty.inRange v = true)
    (hf : fitsAvro t v = true) :
    (-9223372036854775808 ≤ v ∧ v ≤ 9223372036854775807) ∧
      (t = .i8 ∨ t = .i16 ∨ t = .i32 ∨ t = .u16 → -2147483648 ≤ v ∧ v ≤ 2147483647) := by
  cases t <;> simp only [intTyOf, reduceCtorEq, Option.some.injEq] at ht <;> subst ht <;>
    simp [IntTy.inRange, IntTy.signed, IntTy.sizeOf, fitsAvro] at hr hf ⊢ <;>
    first | omega | (have := of_decide_eq_true hr; omega)

theorem hasShape_peel (t : Ty) : ∀ (f : Nat) (sv : SV), hasShape P f t sv = true →
    ∃ f', hasShape P (f' + 1) (Derive.peel t) sv = true := by
  induction t using peel_induction with
  | ptr t ih =>
    intro f sv h
    cases f with
    | zero => simp [hasShape] at h
    | succ f => exact ih f sv (by simpa [hasShape] using h)
  | other t ht =>
    intro f sv h
    cases f with
    | zero => simp [hasShape] at h
    | succ f => exact ⟨f, by rwa [ht]⟩

end leafshape

/-! ### Leaf values at the node of a logical-type field -/

section accepts
variable {P : Prog} {S : Schema} (ext : Avro.Impl.Ext) (allowSlow : Bool)

theorem fits_accepts {n : Node} {t : Ty} (hacc : nodeAccepts n t = true) {f : Nat} {sv : SV}
    (hs : hasShape P (f + 1) t sv = true) : Succ (ser ext allowSlow S n sv) (fun _ => True) := by
  have hsv := hasShape_inv hs
  have int (hc : t = .i8 ∨ t = .i16 ∨ t = .i32 ∨ t = .u16 ∨ t = .i64 ∨ t = .u32 ∨ t = .u64 ∨ t = .usize)
      (hn : ((t = .i8 ∨ t = .i16 ∨ t = .i32 ∨ t = .u16) ∧ (n = .int ∨ n = .date ∨ n = .timeMillis)) ∨
        n = .long ∨ n = .timestampMillis ∨ n = .timestampMicros ∨ n = .timeMicros) :
      Succ (ser ext allowSlow S n sv) (fun _ => True) := by
    obtain ⟨ty, v, rfl, ht, hr, hf⟩ : ∃ ty v, sv = .int ty v ∧ intTyOf t = some ty ∧
        ty.inRange v = true ∧ fitsAvro t v = true := by
      rcases hc with rfl | rfl | rfl | rfl | rfl | rfl | rfl | rfl <;> exact hsv
    obtain ⟨h64, h32⟩ := int_bounds ht hr hf
    simp only [ser]
    rcases hn with ⟨hsmall, hn⟩ | hn
    · rcases hn with rfl | rfl | rfl <;>
        simp only [serInteger, viaUnion, h32 hsmall, and_self, if_true] <;> exact writeVarI64_succ _
    · rcases hn with rfl | rfl | rfl | rfl <;>
        simp only [serInteger, viaUnion, h64, and_self, if_true] <;> exact writeVarI64_succ _
  cases t with
  | i8 | i16 | i32 | u16 =>
    exact int (by simp) (by simpa [nodeAccepts, or_assoc] using hacc)
  | i64 | u32 | u64 | usize =>
    exact int (by simp) (.inr (by simpa [nodeAccepts, or_assoc] using hacc))
  | unit =>
    obtain rfl : sv = .unit := hsv
    obtain rfl : n = .null := eq_of_beq hacc
    simp only [ser]; exact Succ.pure _ trivial
  | bool =>
    obtain ⟨b, rfl⟩ := hsv
    obtain rfl : n = .boolean := eq_of_beq hacc
    simp only [ser]; exact writeAll_succ _
  | f32 =>
    obtain ⟨b, rfl⟩ := hsv
    obtain rfl : n = .float := eq_of_beq hacc
    simp only [ser]; exact writeAll_succ _
  | f64 =>
    obtain ⟨b, rfl⟩ := hsv
    obtain rfl : n = .double := eq_of_beq hacc
    simp only [ser]; exact writeAll_succ _
  | string | str =>
    obtain ⟨x, rfl⟩ := hsv
    simp only [ser]
    rcases (Bool.or_eq_true _ _).mp hacc with h | h <;> obtain rfl := eq_of_beq h <;>
      exact writeLengthDelimited_succ _
  | byteVec | byteSlice =>
    obtain ⟨b, rfl⟩ := hsv
    obtain rfl : n = .bytes := eq_of_beq hacc
    simp only [ser]; exact writeLengthDelimited_succ _
  | byteArray m =>
    obtain ⟨b, rfl, hb⟩ := hsv
    simp only [ser]
    cases n <;> simp only [nodeAccepts, Bool.false_eq_true, beq_iff_eq] at hacc <;> subst hacc <;>
      simp only [serBytes, viaUnion, hb, ne_eq, not_true_eq_false, if_false] <;> exact writeAll_succ _
  | vec _ | option _ | hashMap _ | btreeMap _ | ptr _ | named _ _ | param _ => simp [nodeAccepts] at hacc

end accepts

section main
variable (ext : Avro.Impl.Ext) (allowSlow : Bool) (P : Prog) (S : Schema)

/-- Induction hypothesis at depth `f`. -/
def FitsAt (f : Nat) : Prop :=
  ∀ (t : Ty) (i : Nat) (sv : SV) (node : Node), Realizes P S f t i → hasShape P f t sv = true →
    Mode S i node → Succ (ser ext allowSlow S node sv) (fun _ => True)

theorem fitsAt_zero : FitsAt ext allowSlow P S 0 := by
  intro t i sv node _ hs
  rw [hasShape_zero] at hs
  cases hs

variable {ext allowSlow P S}

theorem fits_step_int {f : Nat} {t : Ty} {i : Nat} {sv : SV} {node : Node}
    (hc : t = .i8 ∨ t = .i16 ∨ t = .i32 ∨ t = .u16)
    (hr : Realizes P S (f + 1) t i) (hs : hasShape P (f + 1) t sv = true) (hm : Mode S i node) :
    Succ (ser ext allowSlow S node sv) (fun _ => True) := by
  have hi : S[i]? = some .int := by rcases hc with rfl | rfl | rfl | rfl <;> exact hr
  obtain ⟨ty, v, rfl, ht, hrg, hf⟩ : ∃ ty v, sv = .int ty v ∧ intTyOf t = some ty ∧
      ty.inRange v = true ∧ fitsAvro t v = true := by
    rcases hc with rfl | rfl | rfl | rfl <;> exact hasShape_inv hs
  simp only [ser]
  refine viaUnion_mode hm hi nofun
    (by rcases hc with rfl | rfl | rfl | rfl <;> cases ht <;> exact .of_priority rfl rfl) ?_
  simp only [(int_bounds ht hrg hf).2 hc, and_self, if_true]
  exact writeVarI64_succ _

theorem fits_step_long {f : Nat} {t : Ty} {i : Nat} {sv : SV} {node : Node}
    (hc : t = .i64 ∨ t = .u32 ∨ t = .u64 ∨ t = .usize)
    (hr : Realizes P S (f + 1) t i) (hs : hasShape P (f + 1) t sv = true) (hm : Mode S i node) :
    Succ (ser ext allowSlow S node sv) (fun _ => True) := by
  have hi : S[i]? = some .long := by rcases hc with rfl | rfl | rfl | rfl <;> exact hr
  obtain ⟨ty, v, rfl, ht, hrg, hf⟩ : ∃ ty v, sv = .int ty v ∧ intTyOf t = some ty ∧
      ty.inRange v = true ∧ fitsAvro t v = true := by
    rcases hc with rfl | rfl | rfl | rfl <;> exact hasShape_inv hs
  simp only [ser]
  refine viaUnion_mode hm hi nofun
    (by rcases hc with rfl | rfl | rfl | rfl <;> cases ht <;> exact .of_priority rfl rfl) ?_
  simp only [(int_bounds ht hrg hf).1, and_self, if_true]
  exact writeVarI64_succ _

theorem fits_step_vec {f : Nat} (ih : FitsAt ext allowSlow P S f) {t : Ty} {i : Nat} {sv : SV}
    {node : Node} (hr : Realizes P S (f + 1) (.vec t) i) (hs : hasShape P (f + 1) (.vec t) sv = true)
    (hm : Mode S i node) : Succ (ser ext allowSlow S node sv) (fun _ => True) := by
  obtain ⟨k, hi, hk, hrk⟩ := hr
  obtain ⟨n, hn⟩ := exists_node hk
  obtain ⟨elems, rfl, hall⟩ := hasShape_inv hs
  exact fits_seq ext allowSlow hm hi hn elems (fun e he => ih t k e n hrk (hall e he) (Mode.direct n hn))

theorem fits_step_map {f : Nat} (ih : FitsAt ext allowSlow P S f) {t t' : Ty} {i : Nat} {sv : SV}
    {node : Node} (ht : t' = .hashMap t ∨ t' = .btreeMap t)
    (hr : Realizes P S (f + 1) t' i) (hs : hasShape P (f + 1) t' sv = true)
    (hm : Mode S i node) : Succ (ser ext allowSlow S node sv) (fun _ => True) := by
  obtain ⟨k, hi, hk, hrk⟩ : ∃ k, S[i]? = some (.map k) ∧ k < S.size ∧ Realizes P S f t k := by
    rcases ht with rfl | rfl <;> exact hr
  obtain ⟨entries, rfl, hall⟩ : ∃ entries, sv = .map (some entries.length) entries ∧
      ∀ kv ∈ entries, isStrKey kv.1 = true ∧ hasShape P f t kv.2 = true := by
    rcases ht with rfl | rfl <;> exact hasShape_inv hs
  obtain ⟨n, hn⟩ := exists_node hk
  exact fits_map ext allowSlow hm hi hn entries
    (fun kv hkv => ⟨(hall kv hkv).1, ih t k kv.2 n hrk (hall kv hkv).2 (Mode.direct n hn)⟩)

theorem fits_step_option {f : Nat} (ih : FitsAt ext allowSlow P S f) {t : Ty} {i : Nat} {sv : SV}
    {node : Node} (hr : Realizes P S (f + 1) (.option t) i)
    (hs : hasShape P (f + 1) (.option t) sv = true)
    (hm : Mode S i node) : Succ (ser ext allowSlow S node sv) (fun _ => True) := by
  obtain ⟨a, b, hi, ha, hp, hrb⟩ := hr
  have hnode : node = .union [a, b] := by
    cases hm with
    | direct _ h => rw [hi] at h; exact (Option.some.inj h).symm
    | under a' _ hp' =>
      obtain ⟨n, hn, _, h2⟩ := hp'
      rw [hi] at hn
      exact absurd (Option.some.inj hn).symm (h2 _)
  subst hnode
  rcases hasShape_inv hs with rfl | ⟨x, rfl, hx⟩
  · simp only [ser]; exact fits_none ha hp
  · simp only [ser]; exact ih t b x _ hrb hx (Mode.under a ha hp)

theorem fits_step_record {f : Nat} (ih : FitsAt ext allowSlow P S f) {args : List Ty} {d : Decl}
    {fields : List Field} {i : Nat} {sv : SV} {node : Node}
    (hr : d.ident ≠ "Null" ∧ ∃ nm fs, S[i]? = some (.record nm fs) ∧ fs.length = fields.length ∧
      ∀ (j : Nat) (fd : Field) (p : String × Nat), fields[j]? = some fd → fs[j]? = some p →
        p.1 = fd.name ∧ p.2 < S.size ∧
          (if fd.attr.logical.isNone = true then Realizes P S f (subst args fd.ty) p.2
           else ∃ n, S[p.2]? = some n ∧ nodeAccepts n (Derive.peel (subst args fd.ty)) = true))
    (hs : (match sv with
      | .struct name fs =>
        name = d.ident && fs.length = fields.length &&
          (fields.zip fs).all fun (f', (n, v)) => n = f'.name && hasShape P f (subst args f'.ty) v
      | _ => false) = true)
    (hm : Mode S i node) : Succ (ser ext allowSlow S node sv) (fun _ => True) := by
  obtain ⟨hname, nm, fs, hi, hlen, hfs⟩ := hr
  cases sv <;> simp only [Bool.false_eq_true] at hs
  rename_i name pres
  simp only [Bool.and_eq_true, decide_eq_true_eq, List.all_eq_true] at hs
  obtain ⟨⟨hn, hplen⟩, hall⟩ := hs
  subst hn
  refine fits_struct ext allowSlow hm hi hname pres (by rw [hplen, hlen]) ?_
  intro j fname v hj
  -- the `j`-th field of the declaration, its slot in the record node, and the node of the slot
  have hjlt := lt_of_getElem? hj
  obtain ⟨fd, hfd⟩ := exists_getElem? (l := fields) (hplen ▸ hjlt)
  obtain ⟨p, hp⟩ := exists_getElem? (l := fs) (hlen ▸ hplen ▸ hjlt)
  obtain ⟨h1, h2, h3⟩ := hfs j fd p hfd hp
  obtain ⟨n, hn⟩ := exists_node h2
  have hz : (fd, (fname, v)) ∈ fields.zip pres :=
    List.mem_of_getElem? (i := j) (List.getElem?_zip_eq_some.mpr ⟨hfd, hj⟩)
  obtain ⟨h4, h5⟩ : fname = fd.name ∧ hasShape P f (subst args fd.ty) v = true := by
    simpa using hall _ hz
  refine ⟨p.2, n, by rw [hp, h4, ← h1], hn, ?_⟩
  by_cases hl : fd.attr.logical.isNone = true
  · rw [if_pos hl] at h3
    exact ih _ _ v _ h3 h5 (Mode.direct _ hn)
  · rw [if_neg hl] at h3
    obtain ⟨n', hn', hacc⟩ := h3
    obtain rfl : n = n' := Option.some.inj (hn.symm.trans hn')
    obtain ⟨f', hs'⟩ := hasShape_peel _ _ _ h5
    exact fits_accepts ext allowSlow hacc hs'

theorem fits_step_newtype {f : Nat} (ih : FitsAt ext allowSlow P S f) {t : Ty} {d : Decl}
    {i : Nat} {sv : SV} {node : Node}
    (hr : d.ident ≠ "Null" ∧ PlainAt S i ∧ Realizes P S f t i)
    (hs : (match sv with
      | .newtypeStruct name x => name = d.ident && hasShape P f t x
      | _ => false) = true)
    (hm : Mode S i node) : Succ (ser ext allowSlow S node sv) (fun _ => True) := by
  obtain ⟨hname, ⟨T, hi, _, hnu⟩, hrt⟩ := hr
  cases sv <;> simp only [Bool.false_eq_true] at hs
  rename_i name x
  simp only [Bool.and_eq_true, decide_eq_true_eq] at hs
  obtain ⟨hn, hx⟩ := hs
  subst hn
  simp only [ser]
  exact viaName_mode hm hi hnu hname (ih t i x T hrt hx (Mode.direct T hi)) (ih t i x node hrt hx hm)

theorem fits_step_enum {d : Decl} {vs : List String}
    {i : Nat} {sv : SV} {node : Node}
    (hr : ∃ nm, S[i]? = some (.enum nm vs))
    (hs : (match sv with
      | .unitVariant name idx v => name = d.ident && vs[idx]? = some v
      | _ => false) = true)
    (hm : Mode S i node) : Succ (ser ext allowSlow S node sv) (fun _ => True) := by
  obtain ⟨nm, hi⟩ := hr
  cases sv <;> simp only [Bool.false_eq_true] at hs
  rename_i name idx v
  simp only [Bool.and_eq_true, decide_eq_true_eq] at hs
  simp only [ser]
  exact fits_unitVariant ext hm hi (List.mem_of_getElem? hs.2)

theorem fits_step_union {f : Nat} (ih : FitsAt ext allowSlow P S f) {args : List Ty} {d : Decl}
    {vs : List Variant} {i : Nat} {sv : SV} {node : Node}
    (hr : ∃ ks, S[i]? = some (.union ks) ∧ ks.length = vs.length ∧
      ∀ (j : Nat) (v : Variant) (k : Nat), vs[j]? = some v → ks[j]? = some k →
        k < S.size ∧ namedLookup v.serdeName (branchNodes S ks) = some j ∧
          match v.field with
          | none => v.serdeName = "Null" ∧ S[k]? = some .null
          | some fd => Realizes P S f (subst args fd.ty) k)
    (hs : (match sv with
      | .unitVariant name idx v =>
        name = d.ident &&
          (match vs[idx]? with
            | some var => var.field.isNone && var.serdeName = v
            | none => false)
      | .newtypeVariant name idx v x =>
        name = d.ident &&
          (match vs[idx]? with
            | some var =>
              (match var.field with
                | some f' => var.serdeName = v && hasShape P f (subst args f'.ty) x
                | none => false)
            | none => false)
      | _ => false) = true)
    (hm : Mode S i node) : Succ (ser ext allowSlow S node sv) (fun _ => True) := by
  obtain ⟨ks, hi, hlen, hall⟩ := hr
  have hnode : node = .union ks := by
    cases hm with
    | direct _ h => rw [hi] at h; exact (Option.some.inj h).symm
    | under a' _ hp' =>
      obtain ⟨n, hn, _, h2⟩ := hp'
      rw [hi] at hn
      exact absurd (Option.some.inj hn).symm (h2 _)
  subst hnode
  cases sv <;> simp only [Bool.false_eq_true] at hs
  · rename_i name idx v
    simp only [Bool.and_eq_true, decide_eq_true_eq] at hs
    obtain ⟨_, hs⟩ := hs
    cases hv : vs[idx]? with
    | none => simp [hv] at hs
    | some var =>
      simp only [hv, Bool.and_eq_true, decide_eq_true_eq, Option.isNone_iff_eq_none] at hs
      obtain ⟨hfield, rfl⟩ := hs
      obtain ⟨k, hk⟩ := exists_getElem? (l := ks) (hlen ▸ lt_of_getElem? hv)
      obtain ⟨_, hnl, hrest⟩ := hall idx var k hv hk
      rw [hfield] at hrest
      obtain ⟨hnull, hS⟩ := hrest
      simp only [ser, hnull]
      rw [hnull] at hnl
      exact fits_unit_in_union ext hnl hk hS
  · rename_i name idx v x
    simp only [Bool.and_eq_true, decide_eq_true_eq] at hs
    obtain ⟨_, hs⟩ := hs
    cases hv : vs[idx]? with
    | none => simp [hv] at hs
    | some var =>
      simp only [hv] at hs
      cases hfd : var.field with
      | none => simp [hfd] at hs
      | some fd =>
        simp only [hfd, Bool.and_eq_true, decide_eq_true_eq] at hs
        obtain ⟨rfl, hx⟩ := hs
        obtain ⟨k, hk⟩ := exists_getElem? (l := ks) (hlen ▸ lt_of_getElem? hv)
        obtain ⟨hlt, hnl, hrest⟩ := hall idx var k hv hk
        rw [hfd] at hrest
        obtain ⟨n, hn⟩ := exists_node hlt
        simp only [ser]
        simp only [viaName, hnl, hk, hn]
        exact Succ.bind (writeVarI64_succ _)
          (fun _ _ => ih _ _ x _ hrest hx (Mode.direct _ hn))

theorem fits_step_named {f : Nat} (ih : FitsAt ext allowSlow P S f) {id : Nat} {args : List Ty}
    {i : Nat} {sv : SV} {node : Node}
    (hr : Realizes P S (f + 1) (.named id args) i)
    (hs : hasShape P (f + 1) (.named id args) sv = true)
    (hm : Mode S i node) : Succ (ser ext allowSlow S node sv) (fun _ => True) := by
  simp only [Realizes] at hr
  simp only [hasShape] at hs
  cases hd : P[id]? with
  | none => rw [hd] at hr; exact hr.elim
  | some d =>
    rw [hd] at hr hs
    dsimp only at hr hs
    cases hb : d.body with
    | record fields => rw [hb] at hr hs; exact fits_step_record ih hr hs hm
    | newtype fd => rw [hb] at hr hs; exact fits_step_newtype ih hr hs hm
    | unitEnum vs => rw [hb] at hr hs; exact fits_step_enum (d := d) hr hs hm
    | union vs => rw [hb] at hr hs; exact fits_step_union ih hr hs hm

theorem fits_step {f : Nat} (ih : FitsAt ext allowSlow P S f) : FitsAt ext allowSlow P S (f + 1) := by
  intro t i sv node hr hs hm
  have hsv := hasShape_inv hs
  cases t with
  | unit => obtain rfl : sv = .unit := hsv; simp only [ser]; exact fits_unit hm hr
  | bool => obtain ⟨b, rfl⟩ := hsv; simp only [ser]; exact fits_bool hm hr _
  | i8 | i16 | i32 | u16 => exact fits_step_int (by simp) hr hs hm
  | i64 | u32 | u64 | usize => exact fits_step_long (by simp) hr hs hm
  | f32 => obtain ⟨b, rfl⟩ := hsv; simp only [ser]; exact fits_f32 hm hr _
  | f64 => obtain ⟨b, rfl⟩ := hsv; simp only [ser]; exact fits_f64 ext hm hr _
  | string | str => obtain ⟨x, rfl⟩ := hsv; simp only [ser]; exact fits_str ext hm hr _
  | byteVec | byteSlice => obtain ⟨b, rfl⟩ := hsv; simp only [ser]; exact fits_bytes hm hr _
  | byteArray n =>
    obtain ⟨nm, hi⟩ := hr
    obtain ⟨b, rfl, hb⟩ := hsv
    simp only [ser]; exact fits_fixed hm hi _ hb
  | vec t => exact fits_step_vec ih hr hs hm
  | option t => exact fits_step_option ih hr hs hm
  | hashMap t => exact fits_step_map ih (.inl rfl) hr hs hm
  | btreeMap t => exact fits_step_map ih (.inr rfl) hr hs hm
  | ptr t => exact ih t i sv node hr hs hm
  | named id args => exact fits_step_named ih hr hs hm
  | param k => exact hr.elim

theorem fits_all (ext : Avro.Impl.Ext) (allowSlow : Bool) (P : Prog) (S : Schema) :
    ∀ f, FitsAt ext allowSlow P S f
  | 0 => fitsAt_zero ext allowSlow P S
  | f + 1 => fits_step (fits_all ext allowSlow P S f)

end main

end Avro.Theorems.DeriveFits
