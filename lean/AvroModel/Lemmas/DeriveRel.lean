import AvroModel.Lemmas.Derive
/-
The builder of `Impl/Derive.lean` as a labelled transition relation.

`Builds P hash n s c s'`: the call `c` (one of the five builder functions with its arguments AND its
result), run with fuel `n` in state `s`, ends in `s'`.  `Builds.of_ran` / `Builds.ran` (together
`builds_iff`) tie the relation to the fuelled functions; they are the one place where the functions
are unfolded.  What every call does to the state (`Builds.post`), that the fuel is only a bound
(`Builds.mono`) and what `find_or_build` registers (`Builds.find_reg`) are inductions or inversions on
`Builds`, as are the name and shape invariants of `Lemmas/DeriveNames.lean` and
`Lemmas/DeriveWiderUBuild.lean`.
-/
namespace Avro.Impl.Derive

open Avro Avro.Impl Avro.Theorems.DeriveNames

/-- A call of one of the five mutually recursive builder functions, with the value it returns. -/
inductive Step
  | append (t : Ty)
  | find (t : Ty) (k : Nat)
  | field (d : Decl) (args : List Ty) (f : Field) (kind : FieldKind) (rn : String) (k : Nat)
  | fields (d : Decl) (args : List Ty) (tn : String) (fs : List Field) (r : List (String × Nat))
  | variants (d : Decl) (args : List Ty) (vs : List Variant) (ks : List Nat)

def Step.keys : Step → List Nat
  | .append _ => []
  | .find _ k => [k]
  | .field _ _ _ _ _ k => [k]
  | .fields _ _ _ _ r => r.map (·.2)
  | .variants _ _ _ ks => ks

/-- The call, run by the functions of the model. -/
def Step.Ran (P : Prog) (hash : Key → String) (n : Nat) : Step → BState → BState → Prop
  | .append t, s, s' => appendSchema P hash n t s = some ((), s')
  | .find t k, s, s' => findOrBuild P hash n t s = some (k, s')
  | .field d args f kind rn k, s, s' => fieldInst P hash n d args f kind rn s = some (k, s')
  | .fields d args tn fs r, s, s' => recordFields P hash n d args tn fs s = some (r, s')
  | .variants d args vs ks, s, s' => unionVariants P hash n d args vs s = some (ks, s')

/-- The element type and node constructor of `Vec<T>` and the maps. -/
def wrapOf : Ty → Option (Ty × (Nat → RegularType))
  | .vec t => some (t, .array)
  | .hashMap t | .btreeMap t => some (t, .map)
  | _ => none

theorem wrapOf_cases {t0 t : Ty} {mk : Nat → RegularType} (h : wrapOf t0 = some (t, mk)) :
    mk = .array ∨ mk = .map := by
  cases t0 <;> cases h <;> simp

theorem as_wrap (P : Prog) (hash : Key → String) (n : Nat) {t0 t : Ty} {mk : Nat → RegularType}
    (h : wrapOf t0 = some (t, mk)) : appendSchema P hash (n+1) t0 = wrapNode P hash n t mk := by
  cases t0 <;> cases h <;> rfl

/-- The runtime `type_name` of a record (with the hash of its lookup key if it is generic). -/
def recTn (P : Prog) (hash : Key → String) (n : Nat) (d : Decl) (id : Nat) (args : List Ty) : Option String :=
  if d.nparams = 0 then some (typeName d)
  else (lookupKey P n (.named id args)).map fun k => typeName d ++ "_" ++ hash k

/-- One constructor per way a call can succeed; the premises are its sub-calls and the tests it
    passes.
    * By call: `leaf ptr wrap option enum forward newtype record union` are `appendSchema`,
      `found built` are `findOrBuild`, `fixed direct logical` are `fieldInst`, `fnil fcons` are
      `recordFields`, `vnil vunit vfield` are `unionVariants`.
    * Fuel: premises at `n`, conclusion at `n + 1` — except `fnil` / `vnil`, which hold at every `n`
      (`recordFields … []` does not look at the fuel); `found` / `built` take `lookupKey` at the fuel
      of the conclusion (`n + 1`), `record` takes `recTn … n` (`Builds.succ` needs `lookupKey_succ`
      and `recTn_succ` for exactly these).
    * State: `built` is the only constructor that changes `s.built`.  Nodes are pushed by `leaf`,
      `enum`, `fixed`, and by `resv` in `wrap option record union`, which then overwrite the
      reserved node (the `setNode` premise is kept as an equation: `setNode_some`); `logical`
      overwrites the first node its sub-call appended.  `built` calls `append` on a state in which
      the type has just been registered; `logical` (`build_duplicate`) is the only `append` on a
      state where it has not, and this shapes every invariant.
    * A new invariant is a `BState → Step → BState → Prop` by cases on the `Step` (as `NameSpec`,
      `SpecU`), proved by `induction h`; `Builds.post` is the template. -/
inductive Builds (P : Prog) (hash : Key → String) : Nat → BState → Step → BState → Prop
  | leaf {n t x s} : leafType t = some x → Builds P hash (n+1) s (.append t) { s with nodes := s.nodes.push (plain x) }
  | ptr {n t s s'} : Builds P hash n s (.append t) s' → Builds P hash (n+1) s (.append (.ptr t)) s'
  | wrap {n t0 t mk k s s2 s'} : wrapOf t0 = some (t, mk) → Builds P hash n (resv s) (.find t k) s2 →
      setNode s.nodes.size (plain (mk k)) s2 = some ((), s') → Builds P hash (n+1) s (.append t0) s'
  | option {n t a b s s1 s2 s'} : Builds P hash n (resv s) (.find .unit a) s1 →
      Builds P hash n s1 (.find t b) s2 →
      setNode s.nodes.size (plain (.union [a, b])) s2 = some ((), s') →
      Builds P hash (n+1) s (.append (.option t)) s'
  | enum {n id args d vs s} : P[id]? = some d → d.body = .unitEnum vs →
      Builds P hash (n+1) s (.append (.named id args)) { s with nodes := s.nodes.push (plain (.enum (Name.ofFq (typeName d)) vs)) }
  | forward {n id args d f s s'} : P[id]? = some d → d.body = .newtype f →
      isDirect f .newtypeStruct = true → Builds P hash n s (.append (subst args (chosenTy f))) s' →
      Builds P hash (n+1) s (.append (.named id args)) s'
  | newtype {n id args d f s s'} : P[id]? = some d → d.body = .newtype f →
      isDirect f .newtypeStruct = false →
      Builds P hash n s (.field d args f .newtypeStruct "" s.nodes.size) s' →
      Builds P hash (n+1) s (.append (.named id args)) s'
  | record {n id args d fields tn fs s s2 s'} : P[id]? = some d → d.body = .record fields →
      recTn P hash n d id args = some tn → Builds P hash n (resv s) (.fields d args tn fields fs) s2 →
      setNode s.nodes.size (plain (.record (Name.ofFq tn) fs)) s2 = some ((), s') →
      Builds P hash (n+1) s (.append (.named id args)) s'
  | union {n id args d vs ks s s2 s'} : P[id]? = some d → d.body = .union vs →
      Builds P hash n (resv s) (.variants d args vs ks) s2 →
      setNode s.nodes.size (plain (.union ks)) s2 = some ((), s') →
      Builds P hash (n+1) s (.append (.named id args)) s'
  | found {n t key idx s} : lookupKey P (n+1) t = some key → s.built.lookup key = some idx →
      Builds P hash (n+1) s (.find t idx) s
  | built {n t key s s'} : lookupKey P (n+1) t = some key → s.built.lookup key = none →
      Builds P hash n { s with built := (key, s.nodes.size) :: s.built } (.append t) s' →
      s.nodes.size < s'.nodes.size → Builds P hash (n+1) s (.find t s.nodes.size) s'
  | fixed {n d args f kind rn m s} : logicalOf f = none → ownedFixed f kind = some m →
      Builds P hash (n+1) s (.field d args f kind rn s.nodes.size)
        { s with nodes := s.nodes.push (plain (.fixed (Name.ofFq (ownedName d kind rn)) m)) }
  | direct {n d args f kind rn k s s'} : logicalOf f = none → ownedFixed f kind = none →
      Builds P hash n s (.find (subst args (chosenTy f)) k) s' →
      Builds P hash (n+1) s (.field d args f kind rn k) s'
  | logical {n d args f kind rn lt node s s1} : logicalOf f = some lt →
      Builds P hash n s (.append (subst args (chosenTy f))) s1 → s.nodes.size < s1.nodes.size →
      s1.nodes[s.nodes.size]? = some node →
      Builds P hash (n+1) s (.field d args f kind rn s.nodes.size)
        { s1 with nodes := s1.nodes.set! s.nodes.size
                            ⟨renameNode node.type (Name.ofFq (ownedName d kind rn)), some lt⟩ }
  | fnil {n d args tn s} : Builds P hash n s (.fields d args tn [] []) s
  | fcons {n d args tn f rest k fs s s1 s2} :
      Builds P hash n s (.field d args f (.structField f.name) tn k) s1 →
      Builds P hash n s1 (.fields d args tn rest fs) s2 →
      Builds P hash (n+1) s (.fields d args tn (f :: rest) ((f.name, k) :: fs)) s2
  | vnil {n d args s} : Builds P hash n s (.variants d args [] []) s
  | vunit {n d args v rest k ks s s1 s2} : v.field = none → Builds P hash n s (.find .unit k) s1 →
      Builds P hash n s1 (.variants d args rest ks) s2 →
      Builds P hash (n+1) s (.variants d args (v :: rest) (k :: ks)) s2
  | vfield {n d args v f rest k ks s s1 s2} : v.field = some f →
      Builds P hash n s (.field d args f (.newtypeVariant v.ident) "" k) s1 →
      Builds P hash n s1 (.variants d args rest ks) s2 →
      Builds P hash (n+1) s (.variants d args (v :: rest) (k :: ks)) s2

variable {P : Prog} {hash : Key → String}

theorem Builds.of_ran : ∀ (n : Nat) (c : Step) (s s' : BState), c.Ran P hash n s s' →
    Builds P hash n s c s' := by
  intro n
  induction n with
  | zero =>
    intro c s s' h
    cases c with
    | append t => simp only [Step.Ran, as_zero] at h; cases h
    | find t k => simp only [Step.Ran, fob_zero] at h; cases h
    | field d args f kind rn k => simp only [Step.Ran, fi_zero] at h; cases h
    | fields d args tn fs r =>
      cases fs with
      | nil => simp only [Step.Ran, rf_nil] at h; cases h; exact .fnil
      | cons f rest => simp only [Step.Ran, rf_zero] at h; cases h
    | variants d args vs ks =>
      cases vs with
      | nil => simp only [Step.Ran, uv_nil] at h; cases h; exact .vnil
      | cons v rest => simp only [Step.Ran, uv_zero] at h; cases h
  | succ n ih =>
    intro c s s' h
    cases c with
    | append t =>
      simp only [Step.Ran] at h
      cases hl : leafType t with
      | some x =>
        simp only [as_leaf P hash _ hl, push, Option.map_some, Option.some.injEq, Prod.mk.injEq] at h
        obtain ⟨_, rfl⟩ := h
        exact .leaf hl
      | none =>
        cases t with
        | vec t | hashMap t | btreeMap t =>
          simp only [as_vec, as_hashMap, as_btreeMap, wrapNode] at h
          split at h
          · cases h
          · rename_i k s2 h1
            exact .wrap rfl (ih (.find t k) _ _ h1) h
        | option t =>
          simp only [as_option] at h
          split at h
          · cases h
          · rename_i a s1 h1
            split at h
            · cases h
            · rename_i b s2 h2
              exact .option (ih (.find .unit a) _ _ h1) (ih (.find t b) _ _ h2) h
        | ptr t => exact .ptr (ih (.append t) _ _ h)
        | param i => simp [as_param] at h
        | named id args =>
          rw [as_named] at h
          cases hd : P[id]? with
          | none => simp only [hd] at h; cases h
          | some d =>
            simp only [hd] at h
            cases hb : d.body with
            | unitEnum variants =>
              simp only [hb, push, Option.map_some, Option.some.injEq, Prod.mk.injEq] at h
              obtain ⟨_, rfl⟩ := h
              exact .enum hd hb
            | newtype f =>
              simp only [hb] at h
              split at h
              · rename_i hdir
                exact .forward hd hb hdir (ih (.append _) _ _ h)
              · rename_i hdir
                dsimp only at h
                split at h
                · cases h
                · rename_i k s2 h1
                  split at h
                  · rename_i hk
                    cases h
                    subst hk
                    exact .newtype hd hb (by simpa using hdir) (ih (.field ..) _ _ h1)
                  · cases h
            | record fields =>
              simp only [hb] at h
              split at h
              · cases h
              · rename_i tn htn
                split at h
                · cases h
                · rename_i fs s2 h1
                  exact .record hd hb htn (ih (.fields ..) _ _ h1) h
            | union variants =>
              simp only [hb] at h
              split at h
              · cases h
              · rename_i ks s2 h1
                exact .union hd hb (ih (.variants ..) _ _ h1) h
        | _ => cases hl
    | find t k =>
      simp only [Step.Ran, fob_succ] at h
      split at h
      · cases h
      · rename_i key hkey
        split at h
        · rename_i idx hidx
          cases h
          exact .found hkey hidx
        · rename_i hnone
          split at h
          · cases h
          · rename_i u s2 h1
            split at h
            · rename_i hlt
              cases h
              exact .built hkey hnone (ih (.append t) _ _ h1) hlt
            · cases h
    | field d args f kind rn k =>
      simp only [Step.Ran] at h
      rw [fi_succ] at h
      cases hl : logicalOf f with
      | none =>
        cases ho : ownedFixed f kind <;> simp only [hl, ho] at h
        · exact .direct hl ho (ih (.find ..) _ _ h)
        · simp only [push, Option.some.injEq, Prod.mk.injEq] at h
          obtain ⟨rfl, rfl⟩ := h
          exact .fixed hl ho
      | some lt =>
        simp only [hl] at h
        split at h
        · cases h
        · rename_i u s1 h1
          split at h
          · rename_i hsz
            split at h
            · cases h
            · rename_i node hnode
              cases h
              exact .logical hl (ih (.append _) _ _ h1) hsz hnode
          · cases h
    | fields d args tn fs r =>
      cases fs with
      | nil => simp only [Step.Ran, rf_nil] at h; cases h; exact .fnil
      | cons f rest =>
        simp only [Step.Ran, rf_cons] at h
        split at h
        · cases h
        · rename_i k s1 h1
          split at h
          · cases h
          · rename_i fs' s2 h2
            cases h
            exact .fcons (ih (.field ..) _ _ h1) (ih (.fields ..) _ _ h2)
    | variants d args vs ks =>
      cases vs with
      | nil => simp only [Step.Ran, uv_nil] at h; cases h; exact .vnil
      | cons v rest =>
        simp only [Step.Ran, uv_cons] at h
        split at h
        · cases h
        · rename_i k s1 h1
          split at h
          · cases h
          · rename_i ks' s2 h2
            cases h
            cases hv : v.field with
            | none => rw [hv] at h1; exact .vunit hv (ih (.find ..) _ _ h1) (ih (.variants ..) _ _ h2)
            | some f => rw [hv] at h1; exact .vfield hv (ih (.field ..) _ _ h1) (ih (.variants ..) _ _ h2)

theorem Builds.ran {n : Nat} {c : Step} {s s' : BState} (h : Builds P hash n s c s') :
    c.Ran P hash n s s' := by
  induction h with
  | fnil => simp only [Step.Ran, rf_nil]
  | vnil => simp only [Step.Ran, uv_nil]
  | leaf hl => simp only [Step.Ran, as_leaf P hash _ hl]; rfl
  | ptr _ ih => exact ih
  | wrap hw _ hset ih =>
    simp only [Step.Ran] at ih ⊢
    simp only [as_wrap P hash _ hw, wrapNode, ih, hset]
  | option _ _ hset ih1 ih2 =>
    simp only [Step.Ran] at ih1 ih2 ⊢
    simp only [as_option, ih1, ih2, hset]
  | enum hd hb => simp only [Step.Ran, as_named, hd, hb]; rfl
  | forward hd hb hdir _ ih =>
    simp only [Step.Ran] at ih ⊢
    simp only [as_named, hd, hb, hdir, if_true, ih]
  | newtype hd hb hdir _ ih =>
    simp only [Step.Ran] at ih ⊢
    simp only [as_named, hd, hb, hdir, Bool.false_eq_true, if_false, ih, if_true]
  | record hd hb htn _ hset ih =>
    simp only [Step.Ran] at ih ⊢
    unfold recTn at htn
    simp only [as_named, hd, hb, htn, ih, hset]
  | union hd hb _ hset ih =>
    simp only [Step.Ran] at ih ⊢
    simp only [as_named, hd, hb, ih, hset]
  | found hk hidx => simp only [Step.Ran, fob_succ, hk, hidx]
  | built hk hnone _ hlt ih =>
    simp only [Step.Ran] at ih ⊢
    simp only [fob_succ, hk, hnone, ih, gt_iff_lt, hlt, if_true]
  | fixed hl ho => simp only [Step.Ran, fi_succ, hl, ho]; rfl
  | direct hl ho _ ih => simp only [Step.Ran] at ih ⊢; simp only [fi_succ, hl, ho, ih]
  | logical hl _ hsz hnode ih =>
    simp only [Step.Ran] at ih ⊢
    simp only [fi_succ, hl, ih, gt_iff_lt, hsz, if_true, hnode]
  | fcons _ _ ih1 ih2 => simp only [Step.Ran] at ih1 ih2 ⊢; simp only [rf_cons, ih1, ih2]
  | vunit hv _ _ ih1 ih2 => simp only [Step.Ran] at ih1 ih2 ⊢; simp only [uv_cons, hv, ih1, ih2]
  | vfield hv _ _ ih1 ih2 => simp only [Step.Ran] at ih1 ih2 ⊢; simp only [uv_cons, hv, ih1, ih2]

theorem builds_iff {n : Nat} {c : Step} {s s' : BState} : Builds P hash n s c s' ↔ c.Ran P hash n s s' :=
  ⟨Builds.ran, Builds.of_ran n c s s'⟩

/-! ### What every call does to the state; the fuel is only a bound -/

theorem Builds.post {n : Nat} {c : Step} {s s' : BState} (h : Builds P hash n s c s') : Post s s' c.keys := by
  induction h with
  | leaf hl => exact Post.push _ _ (by rename_i t _ _; cases t <;> cases hl <;> rfl)
  | ptr _ ih => exact ih
  | wrap hw _ hset ih =>
    refine ((Post.push _ _ rfl).trans ih).fill hset fun _ hc => ?_
    rcases wrapOf_cases hw with rfl | rfl <;> exact hc
  | option _ _ hset ih1 ih2 => exact (((Post.push _ _ rfl).trans ih1).trans ih2).fill hset fun _ hc => hc
  | enum => exact Post.push _ _ rfl
  | forward _ _ _ _ ih => exact ih
  | newtype _ _ _ _ ih => exact ih.weaken nofun
  | record _ _ _ _ hset ih => exact ((Post.push _ _ rfl).trans ih).fill hset fun _ hc => hc
  | union _ _ _ hset ih => exact ((Post.push _ _ rfl).trans ih).fill hset fun _ hc => hc
  | found _ hidx => exact Post.found _ _ _ hidx
  | built _ hnone _ hlt ih => exact Post.register _ hnone ih hlt
  | fixed => exact Post.pushKey _ _ rfl
  | direct _ _ _ ih => exact ih
  | logical _ _ hsz hnode ih => exact ih.relabel _ _ hsz hnode (renameNode_children _ _)
  | fnil => exact Post.refl _
  | fcons _ _ ih1 ih2 => exact ih1.trans ih2
  | vnil => exact Post.refl _
  | vunit _ _ _ ih1 ih2 => exact ih1.trans ih2
  | vfield _ _ _ ih1 ih2 => exact ih1.trans ih2

theorem recTn_succ {n : Nat} {d : Decl} {id : Nat} {args : List Ty} {tn : String}
    (h : recTn P hash n d id args = some tn) : recTn P hash (n + 1) d id args = some tn := by
  unfold recTn at h ⊢
  split
  · rename_i hnp; rwa [if_pos hnp] at h
  · rename_i hnp
    rw [if_neg hnp] at h
    obtain ⟨k, hk, rfl⟩ := Option.map_eq_some_iff.1 h
    rw [(lookupKey_succ P n).1 _ _ hk]; rfl

theorem Builds.succ {n : Nat} {c : Step} {s s' : BState} (h : Builds P hash n s c s') :
    Builds P hash (n + 1) s c s' := by
  induction h with
  | fnil => exact .fnil
  | vnil => exact .vnil
  | leaf hl => exact .leaf hl
  | ptr _ ih => exact .ptr ih
  | wrap hw _ hset ih => exact .wrap hw ih hset
  | option _ _ hset ih1 ih2 => exact .option ih1 ih2 hset
  | enum hd hb => exact .enum hd hb
  | forward hd hb hdir _ ih => exact .forward hd hb hdir ih
  | newtype hd hb hdir _ ih => exact .newtype hd hb hdir ih
  | record hd hb htn _ hset ih => exact .record hd hb (recTn_succ htn) ih hset
  | union hd hb _ hset ih => exact .union hd hb ih hset
  | found hk hidx => exact .found ((lookupKey_succ P _).1 _ _ hk) hidx
  | built hk hnone _ hlt ih => exact .built ((lookupKey_succ P _).1 _ _ hk) hnone ih hlt
  | fixed hl ho => exact .fixed hl ho
  | direct hl ho _ ih => exact .direct hl ho ih
  | logical hl _ hsz hnode ih => exact .logical hl ih hsz hnode
  | fcons _ _ ih1 ih2 => exact .fcons ih1 ih2
  | vunit hv _ _ ih1 ih2 => exact .vunit hv ih1 ih2
  | vfield hv _ _ ih1 ih2 => exact .vfield hv ih1 ih2

theorem Builds.mono {n m : Nat} {c : Step} {s s' : BState} (h : Builds P hash n s c s') (hle : n ≤ m) :
    Builds P hash m s c s' := by
  induction hle with
  | refl => exact h
  | step _ ih => exact ih.succ

theorem Step.Ran.post {n : Nat} {c : Step} {s s' : BState} (h : c.Ran P hash n s s') : Post s s' c.keys :=
  (Builds.of_ran n c s s' h).post

theorem Step.Ran.mono {n m : Nat} {c : Step} {s s' : BState} (h : c.Ran P hash n s s') (hle : n ≤ m) :
    c.Ran P hash m s s' :=
  ((Builds.of_ran n c s s' h).mono hle).ran

theorem Builds.find_reg {n : Nat} {t : Ty} {k : Nat} {s s' : BState} (h : Builds P hash n s (.find t k) s') :
    ∃ key, lookupKey P n t = some key ∧ s'.built.lookup key = some k := by
  cases h with
  | found hk hb => exact ⟨_, hk, hb⟩
  | built hk _ ha => exact ⟨_, hk, ha.post.ext.built _ _ (by simp)⟩

end Avro.Impl.Derive
