import AvroModel.Impl.Ser
import AvroModel.Lemmas.SchemaKeys

/-! The facts every serializer proof starts from, and the predicates `Avro.PoolClean`, `Avro.Good`
on pools and states. -/
namespace Avro.Impl
open Avro

@[simp] theorem SerM.pure_apply {α : Type} (a : α) (s : SerState) : (pure a : SerM α) s = (.ok a, s) := rfl

@[simp] theorem SerM.fail_apply {α : Type} (e : SerErr) (s : SerState) :
    (SerM.fail e : SerM α) s = (.error e, s) := rfl

@[simp] theorem SerM.fail_bind {α β : Type} (e : SerErr) (f : α → SerM β) :
    (SerM.fail e >>= f) = SerM.fail e := rfl

theorem SerM.bind_eq_ok {α β : Type} {m : SerM α} {f : α → SerM β} {s s' : SerState} {b : β} :
    (m >>= f) s = (.ok b, s') ↔ ∃ a s1, m s = (.ok a, s1) ∧ f a s1 = (.ok b, s') := by
  cases h : m s with
  | mk r s1 =>
    cases r with
    | ok a =>
      simp only [Bind.bind, h]
      exact ⟨fun h' => ⟨a, s1, rfl, h'⟩, fun ⟨_, _, e, h'⟩ => by cases e; exact h'⟩
    | error e =>
      simp only [Bind.bind, h]
      exact ⟨fun h' => (by cases h'), fun ⟨_, _, e', _⟩ => (by cases e')⟩

theorem SerM.bind_fst_ok {α β : Type} {m : SerM α} {f : α → SerM β} {s : SerState} {b : β} :
    ((m >>= f) s).1 = .ok b ↔ ∃ a s1, m s = (.ok a, s1) ∧ (f a s1).1 = .ok b :=
  ⟨fun h => let ⟨a, s1, hm, hf⟩ := bind_eq_ok.1 (Prod.ext h rfl); ⟨a, s1, hm, by rw [hf]⟩,
    fun ⟨a, s1, hm, hf⟩ => by rw [bind_eq_ok.2 ⟨a, s1, hm, Prod.ext hf rfl⟩]⟩

theorem SerM.pure_eq_ok {α : Type} {a b : α} {s s' : SerState} :
    (pure a : SerM α) s = (.ok b, s') ↔ a = b ∧ s = s' := by
  rw [SerM.pure_apply]
  exact ⟨fun h => by cases h; exact ⟨rfl, rfl⟩, fun ⟨h1, h2⟩ => by rw [h1, h2]⟩

theorem exists_of_fst_ok {m : SerM Unit} {s : SerState} (h : (m s).1 = .ok ()) :
    ∃ t, m s = (.ok (), t) := ⟨(m s).2, by rw [← h]⟩

/-! ### The union look-ups -/

theorem branchNodes_length (S : Schema) (vs : List Nat) : (branchNodes S vs).length = vs.length := by
  simp [branchNodes]

theorem Slot.register_some {s : Slot} {p disc p' d' : Nat}
    (h : s.register p disc = .some p' d') : s = .some p' d' ∨ (p' = p ∧ d' = disc) := by
  unfold Slot.register at h
  split at h
  · cases h; exact .inr ⟨rfl, rfl⟩
  · split at h
    · exact .inl h
    · split at h
      · cases h
      · cases h; exact .inr ⟨rfl, rfl⟩
  · split at h
    · cases h; exact .inr ⟨rfl, rfl⟩
    · cases h

theorem slotFor_go_some (key : LookupKey) : ∀ (bs : List Node) (k : Nat) (slot : Slot) {p d : Nat},
    slotFor.go key bs k slot = .some p d →
    slot = .some p d ∨ (k ≤ d ∧ ∃ n, bs[d - k]? = some n ∧ n.priorityFor key = some p) := by
  intro bs
  induction bs with
  | nil => intro k slot p d h; exact .inl h
  | cons n rest ih =>
    intro k slot p d h
    simp only [slotFor.go] at h
    rcases ih _ _ h with h1 | ⟨h1, m, h2, h3⟩
    · split at h1
      · rename_i p0 hp
        rcases Slot.register_some h1 with h4 | ⟨rfl, rfl⟩
        · exact .inl h4
        · exact .inr ⟨Nat.le_refl _, n, by simp, hp⟩
      · exact .inl h1
    · refine .inr ⟨by omega, m, ?_, h3⟩
      have : d - k = (d - (k + 1)) + 1 := by omega
      rw [this]; simpa using h2

theorem unnamedLookup_some {key : LookupKey} {bs : List Node} {d : Nat}
    (h : unnamedLookup key bs = some d) : ∃ n p, bs[d]? = some n ∧ n.priorityFor key = some p := by
  unfold unnamedLookup at h
  split at h
  · rename_i p d' hs
    cases h
    rcases slotFor_go_some key bs 0 .none hs with h1 | ⟨_, n, h2, h3⟩
    · cases h1
    · exact ⟨n, p, by simpa using h2, h3⟩
  · cases h

theorem unnamedLookup_lt {k : LookupKey} {bs : List Node} {d : Nat}
    (h : unnamedLookup k bs = some d) : d < bs.length := by
  obtain ⟨_, _, h, _⟩ := unnamedLookup_some h
  exact (List.getElem?_eq_some_iff.mp h).1

theorem priorityFor_null {n : Node} {p : Nat} (h : n.priorityFor .null = some p) : n = .null := by
  -- a table fact: `null` is the only kind whose `registrations` mention the key `null`
  cases n <;> first | rfl | cases h

theorem unnamedLookup_null_get {bs : List Node} {d : Nat}
    (h : unnamedLookup .null bs = some d) : bs[d]? = some .null := by
  obtain ⟨_, _, h, hp⟩ := unnamedLookup_some h
  rw [h, priorityFor_null hp]

theorem namedLookup_go_lt (name : String) : ∀ (bs : List Node) (disc : Nat) (acc : Option Nat),
    (∀ d, acc = some d → d < disc) →
    ∀ d, namedLookup.go name bs disc acc = some d → d < disc + bs.length := by
  intro bs
  induction bs with
  | nil => intro disc acc h d hg; simp only [namedLookup.go] at hg; simpa using h d hg
  | cons n rest ih =>
    intro disc acc h d hg
    simp only [namedLookup.go] at hg
    have := ih (disc + 1) _ ?_ d hg
    · simp only [List.length_cons]; omega
    · split
      · simp
      · intro d hs; have := h d hs; omega

theorem namedLookup_lt {name : String} {bs : List Node} {d : Nat}
    (h : namedLookup name bs = some d) : d < bs.length := by
  have := namedLookup_go_lt name bs 0 none (by simp) d h
  simpa using this

/-- What `viaUnion` and `viaName` do once a lookup has selected branch `d`. -/
def viaBranch {α : Type} (S : Schema) (vs : List Nat) (d : Nat) (f : Node → SerM α) : SerM α := do
  writeVarI64 d
  match vs[d]? with
  | none => SerM.fail .panic
  | some k => match S[k]? with
    | none => SerM.fail .panic
    | some n => f n

theorem viaUnion_union_eq {α : Type} (S : Schema) (vs : List Nat) (key : LookupKey)
    (f : Node → SerM α) :
    viaUnion S (.union vs) key f =
      match unnamedLookup key (branchNodes S vs) with
      | none => SerM.fail .custom
      | some d => viaBranch S vs d f := rfl

theorem viaName_union_eq {α : Type} (S : Schema) (vs : List Nat) (name : String)
    (f : Node → SerM α) :
    viaName S (.union vs) name f =
      match namedLookup name (branchNodes S vs) with
      | none => f (.union vs)
      | some d => viaBranch S vs d f := rfl

/-! ### `lookupLast`, `writeAll`, field names -/

theorem lookupLast_go_spec (name : String) : ∀ (xs : List String) (i : Nat) (acc : Option Nat) (j : Nat),
    lookupLast.go name xs i acc = some j → acc = some j ∨ (i ≤ j ∧ xs[j - i]? = some name) := by
  intro xs
  induction xs with
  | nil => intro i acc j h; simp only [lookupLast.go] at h; exact .inl h
  | cons x rest ih =>
    intro i acc j h
    simp only [lookupLast.go] at h
    rcases ih _ _ _ h with h1 | ⟨h1, h2⟩
    · split at h1
      · rename_i hx
        simp only [Option.some.injEq] at h1; subst h1
        right; simp [hx]
      · exact .inl h1
    · right
      refine ⟨by omega, ?_⟩
      have : j - i = (j - (i + 1)) + 1 := by omega
      rw [this, List.getElem?_cons_succ]; exact h2

theorem lookupLast_some {xs : List String} {name : String} {i : Nat}
    (h : lookupLast xs name = some i) : xs[i]? = some name := by
  rcases lookupLast_go_spec name xs 0 none i h with h1 | ⟨_, h2⟩
  · cases h1
  · simpa using h2

theorem lookupLast_lt {xs : List String} {name : String} {i : Nat}
    (h : lookupLast xs name = some i) : i < xs.length :=
  (List.getElem?_eq_some_iff.1 (lookupLast_some h)).1

theorem lookupLast_go_isSome (name : String) : ∀ (xs : List String) (i : Nat) (acc : Option Nat),
    (name ∈ xs ∨ acc.isSome) → (lookupLast.go name xs i acc).isSome := by
  intro xs
  induction xs with
  | nil => intro i acc h; simp only [lookupLast.go]; simpa using h
  | cons x rest ih =>
    intro i acc h
    simp only [lookupLast.go]
    apply ih
    by_cases hx : x = name
    · right; simp [hx]
    · rcases h with h | h
      · left; simp only [List.mem_cons] at h; rcases h with h | h
        · exact (hx h.symm).elim
        · exact h
      · right; simp [hx, h]

theorem lookupLast_of_nodup {xs : List String} (hnd : xs.Nodup) {i : Nat} {name : String}
    (h : xs[i]? = some name) : lookupLast xs name = some i := by
  have hs := lookupLast_go_isSome name xs 0 none (.inl (List.mem_of_getElem? h))
  cases hj : lookupLast xs name with
  | none => unfold lookupLast at hj; rw [hj] at hs; cases hs
  | some j =>
    have := lookupLast_some hj
    have hi : i < xs.length := (List.getElem?_eq_some_iff.mp h).1
    rw [(List.getElem?_inj hi hnd).mp (h.trans this.symm)]

theorem writeAll_none (bs : Bytes) (s : SerState) (hb : s.budget = none) :
    writeAll bs s = (.ok (), { s with out := s.out ++ bs }) := by
  unfold writeAll; rw [hb]

theorem names_inj {fields : List (String × Nat)} (hd : (fields.map (·.1)).Nodup) {i j : Nat}
    {f1 f2 : String × Nat} (h1 : fields[i]? = some f1) (h2 : fields[j]? = some f2)
    (he : f1.1 = f2.1) : i = j :=
  (List.getElem?_inj (by simpa using (List.getElem?_eq_some_iff.1 h1).1) hd).mp
    (by simp [List.getElem?_map, h1, h2, he])

/-! ### `finally`, and the finishers of the compound serializers -/

theorem finally_pure {α : Type} (m : SerM α) (s : SerState) : SerM.finally m (pure ()) s = m s := by
  simp only [SerM.finally, pure]

theorem finally_fail_err {α : Type} (e : SerErr) (fin : SerM Unit) (s : SerState) :
    ∃ e', (SerM.finally (SerM.fail e : SerM α) fin s).1 = .error e' := by
  unfold SerM.finally SerM.fail
  dsimp only
  split <;> exact ⟨_, rfl⟩

theorem finally_fail_not_ok {α : Type} (e : SerErr) (fin : SerM Unit) (s : SerState) (x : α) :
    (SerM.finally (SerM.fail e : SerM α) fin s).1 ≠ .ok x := by
  obtain ⟨e', h⟩ := finally_fail_err (α := α) e fin s
  rw [h]; exact fun h' => by cases h'

theorem finally_ok {m : SerM Unit} {fin : SerM Unit} {s s1 s2 : SerState}
    (h1 : m s = (.ok (), s1)) (h2 : fin s1 = (.ok (), s2)) :
    SerM.finally m fin s = (.ok (), s2) := by
  simp only [SerM.finally, h1, h2]

/-- The converse of `finally_ok` for the body; stated for its own sake. -/
theorem _root_.Avro.finally_ok_inv {m : SerM Unit} {fin : SerM Unit} {s : SerState}
    (h : (SerM.finally m fin s).1 = .ok ()) : (m s).1 = .ok () := by
  simp only [SerM.finally] at h
  cases hm : m s with
  | mk r s1 =>
    rw [hm] at h
    simp only [] at h
    cases hf : fin s1 with
    | mk r2 s2 =>
      rw [hf] at h
      cases r2 <;> simp_all

theorem seqFinish_ok {r : Except (SerErr × SeqKind) SeqKind × SerState}
    (hok : (seqFinish r).1 = .ok ()) : ∃ k' s', r = (.ok k', s') := by
  obtain ⟨res, s'⟩ := r
  cases res with
  | ok k' => exact ⟨k', s', rfl⟩
  | error ek => exact absurd hok (finally_fail_not_ok ek.1 _ _ _)

theorem structBodyFinish_err {S : Schema} (e : SerErr) (k : StructKind) (s : SerState) :
    ∃ e', (structBodyFinish S (.error (e, k), s)).1 = .error e' :=
  finally_fail_err _ _ _

theorem structBodyFinish_ok {S : Schema} {r : Except (SerErr × StructKind) StructKind × SerState}
    (hok : (structBodyFinish S r).1 = .ok ()) : ∃ k' s', r = (.ok k', s') := by
  obtain ⟨res, s'⟩ := r
  cases res with
  | ok k' => exact ⟨k', s', rfl⟩
  | error ek =>
    obtain ⟨e', h⟩ := structBodyFinish_err (S := S) ek.1 ek.2 s'
    rw [h] at hok; cases hok

end Avro.Impl

namespace Avro
open Avro.Impl

/-- The pool holds only emptied buffers (what `popBuffer`/`popSuperBuffer` assert).  C13 and C14 are
    stated with a copy, `Avro.Theorems.PoolClean` (`Lemmas/SerTriples.lean` says why). -/
def PoolClean (p : Pool) : Prop :=
  (∀ b ∈ p.buffers, b.data = []) ∧ (∀ sb ∈ p.superBuffers, sb.slots = [])

theorem PoolClean.empty : PoolClean {} := by
  constructor <;> intro _ h <;> cases h

/-- The writer is a `Vec` and the pool is clean. -/
def Good (s : SerState) : Prop := s.budget = none ∧ PoolClean s.pool

/-- for the closed runs of `ser` that are settled by evaluation -/
instance : DecidableEq SerState := fun a b =>
  decidable_of_iff (a.out = b.out ∧ a.budget = b.budget ∧ a.pool = b.pool)
    (by cases a; cases b; simp)

end Avro

namespace Avro.Impl
open Avro

/-! ### The pool operations on a clean pool -/

/-- `m` touches only the pool: on a clean pool it succeeds with a result satisfying `Q`, leaves
    writer and budget alone and the pool clean. -/
def PoolOp {α} (m : SerM α) (Q : α → Prop) : Prop :=
  ∀ s, PoolClean s.pool → ∃ a s', m s = (.ok a, s') ∧ Q a ∧ s'.out = s.out ∧
    s'.budget = s.budget ∧ PoolClean s'.pool

theorem PoolOp.good {α} {m : SerM α} {Q : α → Prop} (h : PoolOp m Q) {s : SerState} (hs : Good s) :
    ∃ a s1, m s = (.ok a, s1) ∧ Q a ∧ s1.out = s.out ∧ Good s1 := by
  obtain ⟨a, s1, e, q, o, b, c⟩ := h s hs.2
  exact ⟨a, s1, e, q, o, by rw [b]; exact hs.1, c⟩

theorem PoolOp.pure {α} (a : α) : PoolOp (pure a : SerM α) (fun _ => True) :=
  fun s hs => ⟨a, s, rfl, trivial, rfl, rfl, hs⟩

theorem popBuffer_op : PoolOp popBuffer (fun b => b.data = []) := by
  intro s ⟨h1, h2⟩
  unfold popBuffer
  split
  · exact ⟨_, s, rfl, rfl, rfl, rfl, h1, h2⟩
  · rename_i b rest heq
    have hb : b.data = [] := h1 b (by simp [heq])
    rw [if_neg (by simp [hb])]
    exact ⟨b, _, rfl, hb, rfl, rfl, fun x hx => h1 x (by simp [heq, hx]), h2⟩

theorem popBuffer_clean {s s1 : SerState} {buf : Buffer} (h : popBuffer s = (.ok buf, s1))
    (hc : PoolClean s.pool) : PoolClean s1.pool := by
  obtain ⟨_, _, e, _, _, _, c⟩ := popBuffer_op s hc
  rw [h] at e
  cases e
  exact c

theorem pushBuffer_op {b : Buffer} (hb : b.data = []) : PoolOp (pushBuffer b) (fun _ => True) := by
  intro s ⟨h1, h2⟩
  refine ⟨(), _, rfl, trivial, rfl, rfl, fun x hx => ?_, h2⟩
  rcases List.mem_cons.mp hx with rfl | hx
  · exact hb
  · exact h1 x hx

theorem popSuperBuffer_op : PoolOp popSuperBuffer (fun b => b.slots = []) := by
  intro s ⟨h1, h2⟩
  unfold popSuperBuffer
  split
  · exact ⟨_, s, rfl, rfl, rfl, rfl, h1, h2⟩
  · rename_i b rest heq
    have hb : b.slots = [] := h2 b (by simp [heq])
    rw [if_neg (by simp [hb])]
    exact ⟨b, _, rfl, hb, rfl, rfl, h1, fun x hx => h2 x (by simp [heq, hx])⟩

theorem seqDrop_op (k : SeqKind) : PoolOp (seqDrop k) (fun _ => True) := by
  unfold seqDrop
  split
  · split
    · exact pushBuffer_op rfl
    · exact PoolOp.pure _
  · exact PoolOp.pure _

theorem recordDrop_op (rs : RecordState) : PoolOp (recordDrop rs) (fun _ => True) := by
  unfold recordDrop
  split
  · intro s ⟨h1, h2⟩
    refine ⟨(), _, rfl, trivial, rfl, rfl, fun x hx => ?_, fun x hx => ?_⟩
    · simp only [List.mem_append, List.mem_reverse, List.mem_filterMap] at hx
      rcases hx with ⟨_ | b, _, ho⟩ | hx
      · cases ho
      · cases ho; rfl
      · exact h1 x hx
    · rcases List.mem_cons.mp hx with rfl | hx
      · rfl
      · exact h2 x hx
  · exact PoolOp.pure _

theorem structDrop_op (k : StructKind) : PoolOp (structDrop k) (fun _ => True) := by
  unfold structDrop
  split
  · exact recordDrop_op _
  · exact PoolOp.pure _

end Avro.Impl
