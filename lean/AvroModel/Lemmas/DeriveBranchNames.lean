import AvroModel.Lemmas.DeriveBuild
/-
C20, the names of union branches.

* `branchNames`: the names under which the branch built for a variant's payload type is
  registered in the by-name table of the union (`Node.lookupNames`), from the program text.  It serves
  `variantNames` of `Theorems/C20more.lean` only; the tower reads names with `branchNamesW`
  (`Lemmas/DeriveWiderURealizes.lean`), which differs in two arms, and takes `nmNames`, `frozenAt` and
  `namedLookup_at` from here.
* `namedLookup_at`: by-name selection picks branch `j` when it registers the name and no later
  branch does.
* `UnionNames`, the hypothesis of `C20_fits_unions` on the built schema; `realizes_of_invU` takes
  `UnionNamesU` (`Lemmas/DeriveWiderURealizes.lean`), which follows from it
  (`UnionNamesU.of_unionNames`).
-/
namespace Avro.Theorems.DeriveFits
open Avro Avro.Impl Avro.Impl.Derive

/-! ### Lookup names from the program text -/

/-- `Node.lookupNames` of a named node -/
def nmNames (nm : Name) : List String := [nm.short, nm.fq]

/-- The names under which the union branch built for a variant payload of type `t` is registered
    (`Node.lookupNames` of the frozen node), read off the program text; pointers and forwarding
    newtypes are looked through (`n` bounds the length of a chain of newtypes).  `none`: not
    determined (types outside the fragment, or a chain of newtypes longer than `n`). -/
def branchNames (P : Prog) : Nat → Ty → Option (List String)
  | 0, _ => none
  | n + 1, t =>
    match Derive.peel t with
    | .unit => some ["Null"]
    | .bool => some ["Boolean"]
    | .i8 | .i16 | .i32 | .u16 => some ["Int"]
    | .i64 | .u32 | .u64 | .usize => some ["Long"]
    | .f32 => some ["Float"]
    | .f64 => some ["Double"]
    | .string | .str => some ["String"]
    | .byteVec | .byteSlice => some ["Bytes"]
    | .byteArray m => some (nmNames (Name.ofFq ("u8_array_" ++ toString m)))
    | .vec _ => some ["Array"]
    | .hashMap _ | .btreeMap _ => some ["Map"]
    | .option _ => some ["Union"]
    | .ptr _ | .param _ => none
    | .named id _ =>
      match P[id]? with
      | none => none
      | some d =>
        match d.body with
        | .record _ => some (nmNames (Name.ofFq (typeName d)))
        | .unitEnum _ => some (nmNames (Name.ofFq (typeName d)))
        | .union _ => some ["Union"]
        | .newtype fd =>
          if fd.attr.logical.isNone then
            if isDirect fd .newtypeStruct then branchNames P n fd.ty
            else some (nmNames (Name.ofFq (ownedName d .newtypeStruct "")))
          else none

/-- The frozen node at `c`, as `branchNodes` reads it. -/
def frozenAt (s : BState) (c : Nat) : Node := ((freezeNodes s.nodes)[c]?).getD .null

theorem frozenAt_plain {s : BState} {c : Nat} {X : RegularType} (h : s.nodes[c]? = some (plain X)) :
    frozenAt s c = freezeNode (plain X) := by
  unfold frozenAt
  rw [freeze_get h]
  rfl

/-! ### By-name selection -/

theorem namedLookup_go_none (name : String) : ∀ (ns : List Node) (disc : Nat) (acc : Option Nat),
    (∀ n ∈ ns, n.lookupNames.contains name = false) → namedLookup.go name ns disc acc = acc
  | [], _, _, _ => rfl
  | n :: rest, disc, acc, h => by
    rw [namedLookup.go, h n (by simp)]
    exact namedLookup_go_none name rest (disc + 1) acc (fun m hm => h m (by simp [hm]))

theorem namedLookup_go_at (name : String) : ∀ (ns : List Node) (disc : Nat) (acc : Option Nat) (j : Nat)
    (n : Node), ns[j]? = some n → n.lookupNames.contains name = true →
    (∀ l m, j < l → ns[l]? = some m → m.lookupNames.contains name = false) →
    namedLookup.go name ns disc acc = some (disc + j)
  | [], _, _, j, n, hj, _, _ => by simp at hj
  | x :: rest, disc, acc, 0, n, hj, hc, hlater => by
    simp only [List.getElem?_cons_zero, Option.some.injEq] at hj
    subst hj
    rw [namedLookup.go, hc]
    simp only [if_true, Nat.add_zero]
    refine namedLookup_go_none name rest (disc + 1) _ (fun m hm => ?_)
    obtain ⟨l, hl⟩ := List.getElem?_of_mem hm
    exact hlater (l + 1) m (by omega) (by simpa using hl)
  | x :: rest, disc, acc, j + 1, n, hj, hc, hlater => by
    rw [namedLookup.go]
    have := namedLookup_go_at name rest (disc + 1)
      (if x.lookupNames.contains name then some disc else acc) j n (by simpa using hj) hc
      (fun l m hl hm => hlater (l + 1) m (by omega) (by simpa using hm))
    rw [this]
    congr 1
    omega

theorem namedLookup_at {name : String} {ns : List Node} {j : Nat} {n : Node} (hj : ns[j]? = some n)
    (hc : n.lookupNames.contains name = true)
    (hlater : ∀ l m, j < l → ns[l]? = some m → m.lookupNames.contains name = false) :
    namedLookup name ns = some j := by
  unfold namedLookup
  rw [namedLookup_go_at name ns 0 none j n hj hc hlater, Nat.zero_add]

/-- The hypothesis on variant names: in the node built for an enum that maps to a union, every
    variant's serde name selects its own branch by name, and unit variants are called `Null`. -/
def UnionNames (P : Prog) (s : BState) : Prop :=
  ∀ (id : Nat) (d : Decl) (vs : List Variant) (i : Nat) (ks : List Nat), P[id]? = some d →
    d.body = .union vs → Reg s [.self id] i → s.nodes[i]? = some (plain (.union ks)) →
    ∀ (j : Nat) (v : Variant), vs[j]? = some v →
      namedLookup v.serdeName (branchNodes (freezeNodes s.nodes) ks) = some j ∧
        (v.field = none → v.serdeName = "Null")

end Avro.Theorems.DeriveFits
