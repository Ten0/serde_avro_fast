import AvroModel.Lemmas.SerCanonicalLeaf
/-
Canonicity as a representation relation (C01): "is the canonical encoding" is the second instance
of `Representation` (`Canon.representation`; the first, decodability, is `Dec.representation` in
Lemmas/SerDecodable.lean), so the induction over presentations (`ser_repr`) gives: a successful
`ser` appends exactly `Spec.encode S node v` for a value `v` the presentation denotes
(`ser_canon_aux`).

Inside `namespace Avro.Canon` the unqualified `Dec`, `NodeOK`, `SchemaOK`, `Dec.union`, … are the
`Canon.` ones (Lemmas/SerCanonicalLeaf.lean); the statements below write the prefix.
-/
namespace Avro.Canon
open Avro Avro.Spec Avro.Impl

theorem encodeFields_of_fields {S : Schema} :
    ∀ (fields : List (String × Nat)) (ves : List (Value × Bytes)),
    ves.length = fields.length →
    (∀ (i : Nat) (f : String × Nat) (ve : Value × Bytes), fields[i]? = some f → ves[i]? = some ve →
      ∃ fnode, S[f.2]? = some fnode ∧ Canon.Dec S fnode ve.2 ve.1) →
    encodeFields S (fields.map (·.2)) (ves.map (·.1)) = some (ves.flatMap (·.2))
  | [], [], _, _ => by simp [encodeFields]
  | f :: fs, ve :: ves, hl, h => by
    obtain ⟨fnode, hfn, hd⟩ := h 0 f ve rfl rfl
    have hd' : encode S fnode ve.1 = some ve.2 := hd
    have ih := encodeFields_of_fields fs ves (by simpa using hl)
      fun i f' ve' h1 h2 => h (i + 1) f' ve' (by simpa using h1) (by simpa using h2)
    simp only [List.map_cons, List.flatMap_cons, encodeFields, nodeOf, hfn, hd', ih]
  | [], _ :: _, hl, _ => by simp at hl
  | _ :: _, [], hl, _ => by simp at hl

/-- "Is the canonical encoding" is a representation relation: it accepts a layout that is not
    canonical on some kind of node only if the schema has no such node (`nodeAllows`). -/
theorem representation {nb : Allow} {S : Schema} (hS : Canon.SchemaOK nb S) :
    Representation nb S (Canon.NodeOK nb S) (Canon.Dec S) where
  ok := fun h => h.toNodeOK
  schema := hS
  str := NodeOK.string
  of_encode := id
  string_inv := fun h => by obtain ⟨k, hk, _⟩ := Dec.string_inv h; exact ⟨k, hk⟩
  union := Dec.union
  decimalNeg := fun hneg _ _ _ hn _ => by have := hn.allows; simp [nodeAllows, hneg] at this
  record := fun hl h => Dec.record (encodeFields_of_fields _ _ hl h)
  array := fun hn hk hL hlt hcov hall =>
    Dec.array_blocks hk hL hlt
      (hcov.resolve_left (by have := hn.allows; simpa [nodeAllows] using this)) hall
  map := fun hn hk hL hlt hcov hall =>
    Dec.map_blocks hk hL hlt
      (hcov.resolve_left (by have := hn.allows; simpa [nodeAllows] using this)) hall

theorem ser_canon_aux {nb : Allow} {ext : Ext} {a : Bool} {S : Schema} (hS : Canon.SchemaOK nb S)
    (hext : ExtOK ext) (sv : SV) (hsv : svOK sv = true) (hcn : svCanon nb sv = true) :
    Sound (Canon.Dec S) (Canon.NodeOK nb S) ext a S sv :=
  ser_repr (representation hS) hext sv hsv hcn

end Avro.Canon
