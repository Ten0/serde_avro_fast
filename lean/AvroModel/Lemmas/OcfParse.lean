import AvroModel.Lemmas.OcfWriter
import AvroModel.Lemmas.Varint
import AvroModel.Spec.Ocf
/-
The bytes the writer model puts in the sink (header, blocks) are read back by the independent
container-file parser of the specification (`Spec/Ocf.lean`).
-/
namespace Avro.Impl.Ocf

open Avro Avro.Impl Avro.Spec Avro.Spec.Ocf

theorem parseBlocks_cons (sync data R : Bytes) (k fuel : Nat) (hsync : sync.length = 16)
    (hk : k < 2 ^ 63) (hl : data.length < 2 ^ 63) :
    parseBlocks sync (fuel + 1)
        (encodeLong (k : Int) ++ (encodeLong (data.length : Int) ++ (data ++ (sync ++ R)))) =
      ({ count := k, data := data } :: (parseBlocks sync fuel R).1,
        (parseBlocks sync fuel R).2.1, (parseBlocks sync fuel R).2.2) := by
  conv => lhs; unfold parseBlocks
  have hne : (encodeLong (k : Int) ++ (encodeLong (data.length : Int) ++ (data ++ (sync ++ R)))).isEmpty
      = false := by
    have := encodeLong_ne_nil (k : Int)
    cases h : encodeLong (k : Int) with
    | nil => exact absurd h this
    | cons x xs => rfl
  have hk0 : ¬ ((k : Int) < 0) := by omega
  have hl0 : ¬ ((data.length : Int) < 0) := by omega
  have hlen : ¬ ((data ++ (sync ++ R)).length < data.length + 16) := by
    simp only [List.length_append, hsync]; omega
  have htake : ((data ++ (sync ++ R)).drop data.length).take 16 = sync := by
    rw [List.drop_left, ← hsync, List.take_left]
  have hdrop : (data ++ (sync ++ R)).drop (data.length + 16) = R := by
    rw [← List.drop_drop, List.drop_left, ← hsync, List.drop_left]
  simp only [hne, Bool.false_eq_true, if_false, decodeLong_encodeLong _ (inI64_of_lt hk),
    decodeLong_encodeLong _ (inI64_of_lt hl), hk0, hl0, Int.toNat_natCast, hlen, htake, hdrop,
    List.take_left, ne_eq, not_true_eq_false]

theorem parseBlocks_blocksBytes (c : Codec) (sync : Bytes) (hsync : sync.length = 16)
    (blocks : List (Nat × Bytes))
    (hb : ∀ b ∈ blocks, b.1 < 2 ^ 63 ∧ (codecData c b.2).length < 2 ^ 63)
    (fuel : Nat) (hf : blocks.length < fuel) :
    parseBlocks sync fuel (blocksBytes c sync blocks) =
      (blocks.map (fun b => { count := b.1, data := codecData c b.2 }), 0, false) := by
  induction blocks generalizing fuel with
  | nil =>
    cases fuel with
    | zero => simp at hf
    | succ fuel => simp [blocksBytes, parseBlocks]
  | cons b blocks ih =>
    cases fuel with
    | zero => simp at hf
    | succ fuel =>
      obtain ⟨hk, hl⟩ := hb b (by simp)
      have e : blocksBytes c sync (b :: blocks) =
          encodeLong (b.1 : Int) ++ (encodeLong ((codecData c b.2).length : Int) ++
            (codecData c b.2 ++ (sync ++ blocksBytes c sync blocks))) := by
        simp only [blocksBytes, List.map_cons, List.flatten_cons, blockBytes, List.append_assoc,
          encodeVarI64_nat _ hk, encodeVarI64_nat _ hl]
      rw [e, parseBlocks_cons sync _ _ _ _ hsync hk hl,
        ih (fun x hx => hb x (List.mem_cons_of_mem _ hx)) fuel (by simpa using hf)]
      simp

theorem length_le_blocksBytes (c : Codec) (sync : Bytes) (hsync : sync.length = 16)
    (blocks : List (Nat × Bytes)) : blocks.length ≤ (blocksBytes c sync blocks).length := by
  induction blocks with
  | nil => simp
  | cons b blocks ih =>
    have e : blocksBytes c sync (b :: blocks) = blockBytes c sync b ++ blocksBytes c sync blocks := by
      simp [blocksBytes]
    rw [e, List.length_append, List.length_cons]
    have : 16 ≤ (blockBytes c sync b).length := by
      simp only [blockBytes, List.length_append, hsync]; omega
    omega

/-- `metaBytes` is a file-metadata map the specification parser reads as `md`, whatever follows
    and with any sufficient fuel. -/
def MetaParses (metaBytes : Bytes) (md : List (Bytes × Bytes)) : Prop :=
  ∀ (rest : Bytes) (fuel : Nat), metaBytes.length < fuel →
    parseMeta fuel (metaBytes ++ rest) = some (md, rest)

theorem parse_header_append (metaBytes sync : Bytes) (md : List (Bytes × Bytes)) (X : Bytes)
    (hmeta : MetaParses metaBytes md) (hsync : sync.length = 16) :
    parse (magic ++ metaBytes ++ sync ++ X) =
      some { metadata := md, sync := sync,
             blocks := (parseBlocks sync ((magic ++ metaBytes ++ sync ++ X).length + 1) X).1,
             trailing := (parseBlocks sync ((magic ++ metaBytes ++ sync ++ X).length + 1) X).2.1,
             badSync := (parseBlocks sync ((magic ++ metaBytes ++ sync ++ X).length + 1) X).2.2 } := by
  unfold parse
  have h4 : (magic ++ metaBytes ++ sync ++ X).take 4 = magic := by
    simp only [List.append_assoc]
    exact List.take_left' rfl
  have hd4 : (magic ++ metaBytes ++ sync ++ X).drop 4 = metaBytes ++ (sync ++ X) := by
    simp only [List.append_assoc]
    exact List.drop_left' rfl
  have hm := hmeta (sync ++ X) ((magic ++ metaBytes ++ sync ++ X).length + 1)
    (by simp only [List.length_append]; omega)
  have h16 : ¬ ((sync ++ X).length < 16) := by
    simp only [List.length_append, hsync]; omega
  have ht16 : (sync ++ X).take 16 = sync := List.take_left' hsync
  have hd16 : (sync ++ X).drop 16 = X := List.drop_left' hsync
  simp only [h4, ne_eq, not_true_eq_false, if_false, hd4, hm, h16, ht16, hd16]

theorem parse_file (c : Codec) (metaBytes sync : Bytes) (md : List (Bytes × Bytes))
    (blocks : List (Nat × Bytes)) (hmeta : MetaParses metaBytes md) (hsync : sync.length = 16)
    (hb : ∀ b ∈ blocks, b.1 < 2 ^ 63 ∧ (codecData c b.2).length < 2 ^ 63) :
    parse (magic ++ metaBytes ++ sync ++ blocksBytes c sync blocks) =
      some { metadata := md, sync := sync,
             blocks := blocks.map (fun b => { count := b.1, data := codecData c b.2 }),
             trailing := 0, badSync := false } := by
  have hlenBB := length_le_blocksBytes c sync hsync blocks
  rw [parse_header_append metaBytes sync md _ hmeta hsync,
    parseBlocks_blocksBytes c sync hsync blocks hb _ (by simp only [List.length_append]; omega)]

/-! ### The header the writer emits -/

def metaEntry (k v : Bytes) : Bytes :=
  encodeVarI64 1 ++ encodeVarI64 k.length ++ k ++ encodeVarI64 v.length ++ v

/-- The metadata map as `build_with_user_metadata` serializes it: one block per entry. -/
def metaBytesOf (entries : List (Bytes × Bytes)) : Bytes :=
  (entries.map fun (k, v) => metaEntry k v).flatten ++ encodeVarI64 0

theorem parseMeta_entry (k v rest : Bytes) (fuel : Nat) (hk : k.length < 2 ^ 63)
    (hv : v.length < 2 ^ 63) :
    parseMeta (fuel + 1) (metaEntry k v ++ rest) =
      match parseMeta fuel rest with
      | none => none
      | some (more, rest'') => some ([(k, v)] ++ more, rest'') := by
  have e : metaEntry k v ++ rest =
      encodeLong ((1 : Nat) : Int) ++ (lenPrefixed k ++ (lenPrefixed v ++ rest)) := by
    simp only [metaEntry, lenPrefixed, List.append_assoc, encodeVarI64_nat _ hk,
      encodeVarI64_nat _ hv]
    rw [← encodeVarI64_nat 1 (by omega)]; rfl
  rw [e]
  conv => lhs; unfold parseMeta
  rw [decodeBlockHeader_encodeLong 1 (by omega)]
  simp only [parseMetaItems, decodeBytes_lenPrefixed _ hk, decodeBytes_lenPrefixed _ hv]
  cases parseMeta fuel rest with
  | none => rfl
  | some p => rfl

theorem metaEntry_length_pos (k v : Bytes) : 0 < (metaEntry k v).length := by
  have h1 : encodeVarI64 1 ≠ [] := by
    rw [show (1 : Int) = ((1 : Nat) : Int) from rfl, encodeVarI64_nat 1 (by omega)]
    exact encodeLong_ne_nil _
  have := List.length_pos_iff.2 h1
  simp only [metaEntry, List.length_append]
  omega

theorem metaParses_metaBytesOf (entries : List (Bytes × Bytes))
    (h : ∀ e ∈ entries, e.1.length < 2 ^ 63 ∧ e.2.length < 2 ^ 63) :
    MetaParses (metaBytesOf entries) entries := by
  intro rest fuel hf
  induction entries generalizing fuel with
  | nil =>
    cases fuel with
    | zero => simp at hf
    | succ fuel =>
      simp only [metaBytesOf, List.map_nil, List.flatten_nil, List.nil_append, encodeVarI64_zero,
        List.cons_append]
      unfold parseMeta
      rw [decodeBlockHeader_zero]
      rfl
  | cons e entries ih =>
    obtain ⟨k, v⟩ := e
    cases fuel with
    | zero => simp at hf
    | succ fuel =>
      obtain ⟨hk, hv⟩ := h (k, v) (by simp)
      have e1 : metaBytesOf ((k, v) :: entries) ++ rest
          = metaEntry k v ++ (metaBytesOf entries ++ rest) := by
        simp [metaBytesOf]
      have hlen : (metaBytesOf entries).length < fuel := by
        have : (metaBytesOf ((k, v) :: entries)).length
            = (metaEntry k v).length + (metaBytesOf entries).length := by
          simp [metaBytesOf]
        have := metaEntry_length_pos k v
        omega
      rw [e1, parseMeta_entry k v _ fuel hk hv,
        ih (fun x hx => h x (List.mem_cons_of_mem _ hx)) fuel hlen]
      simp

theorem headerBytes_eq (schemaJson codecName : Bytes) (userMeta : List (Bytes × Bytes)) (sync : Bytes) :
    headerBytes schemaJson codecName userMeta sync =
      magic ++ metaBytesOf (("avro.schema".toUTF8.data.toList, schemaJson) ::
        ("avro.codec".toUTF8.data.toList, codecName) :: userMeta) ++ sync := by
  simp [headerBytes, metaBytesOf, metaEntry, magic]

end Avro.Impl.Ocf
