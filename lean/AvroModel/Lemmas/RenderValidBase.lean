import AvroModel.Lemmas.RenderPcfSteps
import AvroModel.Lemmas.Renders
import AvroModel.Spec.ValidDoc
import AvroModel.Lemmas.ValidParsesRaw
/-
C09 (the rendered document is a valid document): basis for `Lemmas/RenderValid.lean`.  The walks
of `Spec/ValidDoc.lean` (`definedNamesIn`, `ranked`, `directBelow`, `scalarsOk`, `wellTyped`) on
the object the renderer writes for each kind of node, from those of its parts (the
attribute-directed recursions go through `attr` by the `*_eq` lemmas of
`Lemmas/ValidParsesRaw.lean`), and conversely what `wellTyped` of a written object says about the
node.
-/
namespace Avro.RenderValid
open Avro Avro.Impl Avro.Spec Avro.Spec.Pcf Avro.RenderPcf

/-! ### one field object -/

theorem defsFields_cons (enc : Option String) (n : String) (j : Json) (rest : List Json) :
    defsFields enc (.obj [("name", .str n), ("type", j)] :: rest) =
      definedNamesIn enc j ++ defsFields enc rest := by
  simp only [String.reduceEq, defsFields, defsAttr, if_true, if_false]

theorem wtFields_cons (n : String) (j : Json) (rest : List Json) :
    wtFields (.obj [("name", .str n), ("type", j)] :: rest) = (wellTyped j && wtFields rest) := by
  simp [wtFields, keyOnce, strAttr, attr, wtReq, List.filter]

theorem rankedFields_cons (rank : Fullname → Nat) (owner : Fullname) (n : String) (j : Json)
    (rest : List Json) :
    rankedFields rank owner (.obj [("name", .str n), ("type", j)] :: rest) =
      ((directBelow rank owner owner.1 j && ranked rank owner.1 j) &&
        rankedFields rank owner rest) := by
  simp only [String.reduceEq, rankedFields, rankedFieldType, if_true, if_false]

/-! ### `scalarsOk` -/

theorem filter_key_nil (key : String) (ms : List (String × Json))
    (h : key ∉ ms.map (·.1)) : ms.filter (fun p => p.1 = key) = [] := by
  induction ms with
  | nil => rfl
  | cons p rest ih =>
    obtain ⟨k, v⟩ := p
    have hk : ¬ k = key := fun e => h (by simp [e])
    have hr : key ∉ rest.map (·.1) := fun e => h (by simp only [List.map_cons]; exact List.mem_cons_of_mem _ e)
    simp only [List.filter, hk, decide_false, ih hr]

theorem keyOnce_of_nodup (key : String) (ms : List (String × Json))
    (h : (ms.map (·.1)).Nodup) : keyOnce key ms = true := by
  induction ms with
  | nil => simp [keyOnce]
  | cons p rest ih =>
    obtain ⟨k, v⟩ := p
    simp only [List.map_cons, List.nodup_cons] at h
    by_cases hk : k = key
    · subst hk
      have := filter_key_nil k rest h.1
      simp only [keyOnce, List.filter, decide_true, this, List.length_cons, List.length_nil,
        Nat.zero_add, Nat.le_refl]
    · have := ih h.2
      simp only [keyOnce, List.filter, hk, decide_false] at this ⊢
      exact this

/-- what the parser demands of the value of a scalar member: the seven checks of `scalarsOk`, on
    the member alone -/
def memberOk (p : String × Json) : Bool :=
  optStrAttr "logicalType" [p] && optStrAttr "name" [p] && optStrAttr "namespace" [p] &&
  optSymbolsAttr [p] && optNatAttr "size" (2 ^ 64 - 1) [p] &&
  optNatAttr "precision" (2 ^ 64 - 1) [p] && optNatAttr "scale" (2 ^ 32 - 1) [p]

theorem attr_mem {key : String} {ms : List (String × Json)} {v : Json}
    (h : attr key ms = some v) : (key, v) ∈ ms := by
  induction ms with
  | nil => simp [attr] at h
  | cons p rest ih =>
    obtain ⟨k, w⟩ := p
    by_cases hk : k = key
    · simp only [attr, hk, if_true, Option.some.injEq] at h
      subst h; subst hk
      exact List.mem_cons_self
    · simp only [attr, hk, if_false] at h
      exact List.mem_cons_of_mem _ (ih h)

/-! Each check of `scalarsOk` looks at the first value under a key; it holds of a member list when
it holds of every member alone, since that value sits in one of the members. -/

theorem optStrAttr_of {key : String} {ms : List (String × Json)}
    (hm : ∀ p ∈ ms, optStrAttr key [p] = true) : optStrAttr key ms = true := by
  unfold optStrAttr at hm ⊢
  cases h : attr key ms with
  | none => rfl
  | some v => simpa only [attr, if_true] using hm _ (attr_mem h)

theorem optSymbolsAttr_of {ms : List (String × Json)}
    (hm : ∀ p ∈ ms, optSymbolsAttr [p] = true) : optSymbolsAttr ms = true := by
  unfold optSymbolsAttr at hm ⊢
  cases h : attr "symbols" ms with
  | none => rfl
  | some v => simpa only [attr, if_true] using hm _ (attr_mem h)

theorem optNatAttr_of {key : String} {max : Nat} {ms : List (String × Json)}
    (hm : ∀ p ∈ ms, optNatAttr key max [p] = true) : optNatAttr key max ms = true := by
  unfold optNatAttr at hm ⊢
  cases h : attr key ms with
  | none => rfl
  | some v => simpa only [attr, if_true] using hm _ (attr_mem h)

theorem scalarsOk_of (ms : List (String × Json)) (t : String)
    (hk : (ms.map (·.1)).Nodup) (hm : ∀ p ∈ ms, memberOk p = true)
    (ht : strAttr "type" ms = some t) (htn : isTypeName t = true)
    (hdec : (!(strAttr "logicalType" ms == some "decimal") ||
      (natAttr "precision" ms).isSome) = true) : scalarsOk ms = true := by
  have h1 : knownKeys.all (fun k => keyOnce k ms) = true :=
    List.all_eq_true.mpr fun k _ => keyOnce_of_nodup k ms hk
  have hp : ∀ p ∈ ms, _ := fun p hp => by
    have := hm p hp
    simpa only [memberOk, Bool.and_eq_true] using this
  simp only [scalarsOk, h1, ht, htn, hdec, Bool.and_self,
    optStrAttr_of fun p h => (hp p h).1.1.1.1.1.1, optStrAttr_of fun p h => (hp p h).1.1.1.1.1.2,
    optStrAttr_of fun p h => (hp p h).1.1.1.1.2, optSymbolsAttr_of fun p h => (hp p h).1.1.1.2,
    optNatAttr_of fun p h => (hp p h).1.1.2, optNatAttr_of fun p h => (hp p h).1.2,
    optNatAttr_of fun p h => (hp p h).2]

/-! ### the member lists the renderer writes

A written object is `typeMembers t lg ++ mid ++ rest`: `mid` empty or `nameMembers`, `rest` empty or
one member of `restKeys`; the lemmas below carry that as a spelled-out hypothesis. -/

/-- what the parser demands of a logical type as the renderer writes it: `scale` fits 32 bits and
    `precision` 64 bits (they are `u32` / `usize` in the crate: automatic there), and the name of
    an *unknown* logical type is not `decimal` (that one is written without `precision`, and the
    parser refuses a `decimal` without `precision`).  Weaker than `LogicalType.Expressible`
    (`Lemmas/RenderSpelling.lean`): to be read back as the SAME logical type an unknown name must
    avoid all of `knownLogicalNames`; to be accepted it need only avoid `decimal`. -/
def logicalOkB : Option LogicalType → Bool
  | some (.decimal s p) => decide (s ≤ 2 ^ 32 - 1) && decide (p ≤ 2 ^ 64 - 1)
  | some (.unknown n) => n != "decimal"
  | _ => true

theorem keys_typeMembers (t : String) (lg : Option LogicalType) :
    (typeMembers t lg).map (·.1) = ["type"] ∨
    (typeMembers t lg).map (·.1) = ["logicalType", "type"] ∨
    (typeMembers t lg).map (·.1) = ["logicalType", "type", "scale", "precision"] := by
  cases lg with
  | none => exact Or.inl rfl
  | some lt => cases lt <;> first | exact Or.inr (Or.inl rfl) | exact Or.inr (Or.inr rfl)

theorem keys_nameMembers (ns : Option String) (nm : Name) :
    (nameMembers ns nm).map (·.1) = ["name"] ∨
    (nameMembers ns nm).map (·.1) = ["namespace", "name"] := by
  unfold nameMembers
  split
  · exact Or.inl rfl
  · split
    · exact Or.inr rfl
    · exact Or.inl rfl

theorem memberOk_typeMembers (t : String) (lg : Option LogicalType) (h : logicalOkB lg = true) :
    ∀ p ∈ typeMembers t lg, memberOk p = true := by
  intro p hp
  cases lg with
  | none =>
    simp only [typeMembers, List.mem_singleton] at hp
    subst hp; rfl
  | some lt =>
    cases lt <;>
      simp only [typeMembers, List.cons_append, List.nil_append, List.append_nil, List.mem_cons,
        List.not_mem_nil, or_false] at hp
    case decimal s p' =>
      simp only [logicalOkB, Bool.and_eq_true, decide_eq_true_eq] at h
      rcases hp with rfl | rfl | rfl | rfl
      · rfl
      · rfl
      · simp [memberOk, optStrAttr, optSymbolsAttr, optNatAttr, attr, h.1]
      · simp [memberOk, optStrAttr, optSymbolsAttr, optNatAttr, attr, h.2]
    all_goals
      rcases hp with rfl | rfl
      · rfl
      · rfl

theorem memberOk_nameMembers (ns : Option String) (nm : Name) :
    ∀ p ∈ nameMembers ns nm, memberOk p = true := by
  intro p hp
  unfold nameMembers at hp
  split at hp
  · simp only [List.mem_singleton] at hp; subst hp; rfl
  · split at hp
    · simp only [List.mem_cons, List.not_mem_nil, or_false] at hp
      rcases hp with rfl | rfl <;> rfl
    · simp only [List.mem_singleton] at hp; subst hp; rfl

theorem decimal_written (t : String) (lg : Option LogicalType) (r : List (String × Json))
    (hr : attr "logicalType" r = none) (hlg : logicalOkB lg = true) :
    (!(strAttr "logicalType" (typeMembers t lg ++ r) == some "decimal") ||
      (natAttr "precision" (typeMembers t lg ++ r)).isSome) = true := by
  cases lg with
  | none => simp [typeMembers, strAttr, attr, hr]
  | some lt =>
    cases lt
    case decimal s p => simp [typeMembers, natAttr, attr]
    case unknown n =>
      have : n ≠ "decimal" := by simpa [logicalOkB] using hlg
      simp [typeMembers, strAttr, attr, this]
    all_goals simp [typeMembers, strAttr, attr]

/-- keys of the last member of a written object -/
def restKeys : List String := ["fields", "symbols", "items", "values", "size"]

/-- The keys of a written object are, in this order, some of the type keys, some of the name keys
    and at most one of `restKeys`. -/
theorem keys_written_nodup (t : String) (lg : Option LogicalType) (mid : List (String × Json))
    (hmid : mid = [] ∨ ∃ ns nm, mid = nameMembers ns nm) (rest : List (String × Json))
    (hrest : rest = [] ∨ ∃ k v, rest = [(k, v)] ∧ k ∈ restKeys) :
    ((typeMembers t lg ++ mid ++ rest).map (·.1)).Nodup := by
  have hT : ((typeMembers t lg).map (·.1)).Sublist ["logicalType", "type", "scale", "precision"] := by
    rcases keys_typeMembers t lg with h | h | h <;> rw [h] <;> decide
  have hM : (mid.map (·.1)).Sublist ["namespace", "name"] := by
    rcases hmid with rfl | ⟨ns, nm, rfl⟩
    · decide
    · rcases keys_nameMembers ns nm with h | h <;> rw [h] <;> decide
  have all : ∀ k ∈ restKeys,
      (["logicalType", "type", "scale", "precision"] ++ ["namespace", "name"] ++ [k]).Nodup := by
    decide
  simp only [List.map_append]
  rcases hrest with rfl | ⟨k, v, rfl, hk⟩
  · exact ((hT.append hM).append (List.nil_sublist ["size"])).nodup (all "size" (by decide))
  · exact ((hT.append hM).append (List.Sublist.refl [k])).nodup (all k hk)

theorem attr_other_rest (key : String) (mid rest : List (String × Json))
    (hmid : mid = [] ∨ ∃ ns nm, mid = nameMembers ns nm)
    (hrest : rest = [] ∨ ∃ k v, rest = [(k, v)] ∧ k ∈ restKeys)
    (h1 : key ≠ "namespace") (h2 : key ≠ "name") (h3 : key ∉ restKeys) :
    attr key (mid ++ rest) = none := by
  have e1 : attr key mid = none := by
    rcases hmid with rfl | ⟨ns, nm, rfl⟩
    · rfl
    · exact attr_nameMembers_other ns nm _ (by simp [nameKeys, h1, h2])
  have e2 : attr key rest = none := by
    rcases hrest with rfl | ⟨k, v, rfl, hk⟩
    · rfl
    · have : ¬ k = key := fun e => h3 (e ▸ hk)
      simp [attr, this]
  rw [attr_append, e1, e2]

theorem scalarsOk_written (t : String) (lg : Option LogicalType) (mid rest : List (String × Json))
    (htn : isTypeName t = true) (hlg : logicalOkB lg = true)
    (hmid : mid = [] ∨ ∃ ns nm, mid = nameMembers ns nm)
    (hrest : rest = [] ∨ ∃ k v, rest = [(k, v)] ∧ k ∈ restKeys ∧ memberOk (k, v) = true) :
    scalarsOk (typeMembers t lg ++ mid ++ rest) = true := by
  have hrest' : rest = [] ∨ ∃ k v, rest = [(k, v)] ∧ k ∈ restKeys := by
    rcases hrest with h | ⟨k, v, h1, h2, -⟩
    · exact Or.inl h
    · exact Or.inr ⟨k, v, h1, h2⟩
  apply scalarsOk_of _ t (keys_written_nodup t lg mid hmid rest hrest')
  · intro p hp
    rcases List.mem_append.mp hp with hp | hp
    · rcases List.mem_append.mp hp with hp | hp
      · exact memberOk_typeMembers t lg hlg p hp
      · rcases hmid with rfl | ⟨ns, nm, rfl⟩
        · cases hp
        · exact memberOk_nameMembers ns nm p hp
    · rcases hrest with rfl | ⟨k, v, rfl, -, hok⟩
      · cases hp
      · simp only [List.mem_singleton] at hp
        subst hp; exact hok
  · rw [List.append_assoc]; exact strAttr_type_typeMembers _ _ _
  · exact htn
  · rw [List.append_assoc]
    exact decimal_written t lg _ (attr_other_rest "logicalType" mid rest hmid hrest' (by simp) (by simp) (by simp [restKeys])) hlg

/-! ### `wellTyped` of what the renderer writes -/

theorem wellTyped_prim (t : String) (h : isPrimitive t = true) : wellTyped (.str t) = true := by
  obtain ⟨h1, h2, h3, h4, h5⟩ := isPrimitive_not_complex t h
  simp [wellTyped, complexNames, h1, h2, h3, h4, h5]

theorem complex_ofString (s : String) (h : complexNames.contains s = true) :
    (RawType.ofString s).isSome = true := by
  simp only [complexNames, List.contains_eq_mem, List.mem_cons, List.not_mem_nil,
    or_false, decide_eq_true_eq] at h
  rcases h with rfl | rfl | rfl | rfl | rfl <;> decide

/-- The string written for a reference is never the name of a complex type. -/
theorem wellTyped_ref (name : Name) (h : NameWF name) (parentNs : Option String) :
    wellTyped (.str (refString parentNs name)) = true := by
  cases hp : complexNames.contains (refString parentNs name) with
  | false => simp only [wellTyped, hp, Bool.not_false]
  | true =>
    have := complex_ofString _ hp
    rw [refString_not_typeName name ((nameWF_iff name).mp h) parentNs] at this
    cases this

theorem isTypeName_prim (t : String) (h : isPrimitive t = true) : isTypeName t = true := by
  simp [isTypeName, h]

theorem attr_written_rest (t : String) (lg : Option LogicalType) (mid rest : List (String × Json))
    (hmid : mid = [] ∨ ∃ ns nm, mid = nameMembers ns nm) (key : String)
    (h : key ∉ typeKeys ++ nameKeys) :
    attr key (typeMembers t lg ++ mid ++ rest) = attr key rest := by
  rcases hmid with rfl | ⟨ns, nm, rfl⟩
  · rw [List.append_nil]
    exact attr_unnamed_rest t lg rest key fun hm => h (List.mem_append_left _ hm)
  · exact attr_object_rest t lg ns nm rest key h

theorem wellTyped_written (t : String) (lg : Option LogicalType) (mid rest : List (String × Json))
    (htn : isTypeName t = true) (hlg : logicalOkB lg = true)
    (hmid : mid = [] ∨ ∃ ns nm, mid = nameMembers ns nm)
    (hrest : rest = [] ∨ ∃ k v, rest = [(k, v)] ∧ k ∈ restKeys ∧ memberOk (k, v) = true)
    (hi : wtOpt "items" rest = true) (hv : wtOpt "values" rest = true)
    (hf : wtFieldsAttr rest = true) :
    wellTyped (.obj (typeMembers t lg ++ mid ++ rest)) = true := by
  rw [ValidParses.wtOpt_eq] at hi hv
  rw [ValidParses.wtFieldsAttr_eq] at hf
  simp only [wellTyped, scalarsOk_written t lg mid rest htn hlg hmid hrest, ValidParses.wtOpt_eq,
    ValidParses.wtFieldsAttr_eq,
    attr_written_rest t lg mid rest hmid "items" (by simp [typeKeys, nameKeys]),
    attr_written_rest t lg mid rest hmid "values" (by simp [typeKeys, nameKeys]),
    attr_written_rest t lg mid rest hmid "fields" (by simp [typeKeys, nameKeys]),
    hi, hv, hf, Bool.and_self]

/-! ### `definedNamesIn`, `ranked`, `directBelow` of what the renderer writes, kind by kind

Conjuncts 1–2 of each `valid_written_*` serve `valid_of_renders`, conjunct 3 only
`directBelow_of_renders`. -/

theorem strAttr_name_unnamed (t : String) (lg : Option LogicalType) (rest : List (String × Json))
    (h : attr "name" rest = none) : strAttr "name" (typeMembers t lg ++ rest) = none := by
  simp only [strAttr,
    attr_unnamed_rest t lg rest "name" (by simp [typeKeys]), h]

section
variable (rank : Fullname → Nat) (ns : Option String)

theorem valid_written_prim (t : String) (lt : LogicalType) (hp : isPrimitive t = true) :
    definedNamesIn ns (.obj (typeMembers t (some lt))) = [] ∧
    ranked rank ns (.obj (typeMembers t (some lt))) = true ∧
    ∀ owner, directBelow rank owner ns (.obj (typeMembers t (some lt))) = true := by
  have hty := strAttr_type_typeMembers t (some lt) []
  have hnm := strAttr_name_unnamed t (some lt) [] rfl
  rw [List.append_nil] at hty hnm
  obtain ⟨h1, h2, -, -, h5⟩ := isPrimitive_not_complex t hp
  exact ⟨by simp only [definedNamesIn, hty, hnm, h1, h2, if_false],
    by simp only [ranked, hty, h1, h2, h5, if_false], fun _ => by simp only [directBelow, hty, hnm]⟩

theorem valid_written_array (lg : Option LogicalType) (j : Json) :
    definedNamesIn ns (.obj (typeMembers "array" lg ++ [("items", j)])) = definedNamesIn ns j ∧
    ranked rank ns (.obj (typeMembers "array" lg ++ [("items", j)])) = ranked rank ns j ∧
    ∀ owner,
      directBelow rank owner ns (.obj (typeMembers "array" lg ++ [("items", j)])) = true := by
  have hty := strAttr_type_typeMembers "array" lg [("items", j)]
  have hnm := strAttr_name_unnamed "array" lg [("items", j)] (by simp [attr])
  have hat : attr "items" (typeMembers "array" lg ++ [("items", j)]) = some j :=
    attr_last_unnamed _ _ _ _ (by simp [typeKeys])
  exact ⟨by simp only [definedNamesIn, hty, hnm, if_true, ValidParses.defsAttr_eq, hat],
    by simp only [ranked, hty, if_true, ValidParses.rankedAttr_eq, hat],
    fun _ => by simp only [directBelow, hty, hnm]⟩

theorem valid_written_map (lg : Option LogicalType) (j : Json) :
    definedNamesIn ns (.obj (typeMembers "map" lg ++ [("values", j)])) = definedNamesIn ns j ∧
    ranked rank ns (.obj (typeMembers "map" lg ++ [("values", j)])) = ranked rank ns j ∧
    ∀ owner,
      directBelow rank owner ns (.obj (typeMembers "map" lg ++ [("values", j)])) = true := by
  have hty := strAttr_type_typeMembers "map" lg [("values", j)]
  have hnm := strAttr_name_unnamed "map" lg [("values", j)] (by simp [attr])
  have hat : attr "values" (typeMembers "map" lg ++ [("values", j)]) = some j :=
    attr_last_unnamed _ _ _ _ (by simp [typeKeys])
  exact ⟨by simp only [String.reduceEq, definedNamesIn, hty, hnm, if_true, if_false,
      ValidParses.defsAttr_eq, hat],
    by simp only [String.reduceEq, ranked, hty, if_true, if_false, ValidParses.rankedAttr_eq, hat],
    fun _ => by simp only [directBelow, hty, hnm]⟩

/-- an enum or a fixed: `rest` holds its last member -/
theorem valid_written_named_leaf (t : String) (ht : t ≠ "array" ∧ t ≠ "map" ∧ t ≠ "record")
    (lg : Option LogicalType) (nm : Name) (hnm : NameWF nm) (rest : List (String × Json))
    (hr : attr "namespace" rest = none) :
    definedNamesIn ns (.obj (typeMembers t lg ++ nameMembers ns nm ++ rest)) =
      [(nm.ns, nm.short)] ∧
    ranked rank ns (.obj (typeMembers t lg ++ nameMembers ns nm ++ rest)) = true ∧
    ∀ owner,
      directBelow rank owner ns (.obj (typeMembers t lg ++ nameMembers ns nm ++ rest)) = true := by
  have hty := strAttr_type_named t lg ns nm rest
  obtain ⟨nmstr, hname, hfull⟩ := def_fullname t lg nm hnm ns rest hr
  obtain ⟨h1, h2, h3⟩ := ht
  exact ⟨by simp only [definedNamesIn, hty, hname, h1, h2, h3, if_false, hfull],
    by simp only [ranked, hty, h1, h2, h3, if_false],
    fun _ => by
      have : (t == "record") = false := by simpa using h3
      simp only [directBelow, hty, hname, this, Bool.not_false, Bool.true_or]⟩

theorem valid_written_record (lg : Option LogicalType) (nm : Name) (hnm : NameWF nm)
    (js : List Json) :
    definedNamesIn ns (.obj (typeMembers "record" lg ++ nameMembers ns nm ++
        [("fields", .arr js)])) = (nm.ns, nm.short) :: defsFields nm.ns js ∧
    ranked rank ns (.obj (typeMembers "record" lg ++ nameMembers ns nm ++
        [("fields", .arr js)])) = rankedFields rank (nm.ns, nm.short) js ∧
    ∀ owner, directBelow rank owner ns (.obj (typeMembers "record" lg ++ nameMembers ns nm ++
        [("fields", .arr js)])) = decide (rank (nm.ns, nm.short) < rank owner) := by
  have hty := strAttr_type_named "record" lg ns nm [("fields", .arr js)]
  obtain ⟨nmstr, hname, hfull⟩ := def_fullname "record" lg nm hnm ns
    [("fields", .arr js)] (by simp [attr])
  have hfa : attr "fields" (typeMembers "record" lg ++ nameMembers ns nm ++
      [("fields", .arr js)]) = some (.arr js) :=
    attr_last_named _ _ _ _ _ _ (by simp [typeKeys, nameKeys])
  exact ⟨by simp only [String.reduceEq, definedNamesIn, hty, hname, if_true, if_false, hfull,
      ValidParses.defsFieldsAttr_eq, hfa],
    by simp only [String.reduceEq, ranked, hty, hname, if_true, if_false, hfull,
      ValidParses.rankedFieldsAttr_eq, hfa],
    fun _ => by simp only [directBelow, hty, hname, hfull, beq_self_eq_true, Bool.not_true,
      Bool.false_or]⟩

end

/-! ### what `wellTyped` of a written object says about the node -/

theorem scalarsOk_numbers {ms : List (String × Json)} (h : scalarsOk ms = true) :
    optNatAttr "size" (2 ^ 64 - 1) ms = true ∧ optNatAttr "precision" (2 ^ 64 - 1) ms = true ∧
    optNatAttr "scale" (2 ^ 32 - 1) ms = true ∧
    (!(strAttr "logicalType" ms == some "decimal") || (natAttr "precision" ms).isSome) = true := by
  simp only [scalarsOk, Bool.and_eq_true] at h
  exact ⟨h.1.1.1.2, h.1.1.2, h.1.2, h.2⟩

theorem attr_decimal (t : String) (s p : Nat) (r : List (String × Json)) :
    attr "precision" (typeMembers t (some (.decimal s p)) ++ r) = some (.nat p) ∧
    attr "scale" (typeMembers t (some (.decimal s p)) ++ r) = some (.nat s) := ⟨rfl, rfl⟩

theorem attr_unknown (t n : String) (r : List (String × Json)) :
    attr "logicalType" (typeMembers t (some (.unknown n)) ++ r) = some (.str n) ∧
    attr "precision" (typeMembers t (some (.unknown n)) ++ r) = attr "precision" r := ⟨rfl, rfl⟩

theorem logicalOk_of_scalarsOk (t : String) (lg : Option LogicalType)
    (mid rest : List (String × Json))
    (hmid : mid = [] ∨ ∃ ns nm, mid = nameMembers ns nm)
    (hrest : rest = [] ∨ ∃ k v, rest = [(k, v)] ∧ k ∈ restKeys)
    (h : scalarsOk (typeMembers t lg ++ mid ++ rest) = true) : logicalOkB lg = true := by
  obtain ⟨-, hp, hs, hd⟩ := scalarsOk_numbers h
  rw [List.append_assoc] at hp hs hd
  cases lg with
  | none => rfl
  | some lt =>
    cases lt
    case decimal s p =>
      rw [optNatAttr, (attr_decimal t s p _).1] at hp
      rw [optNatAttr, (attr_decimal t s p _).2] at hs
      simp only [logicalOkB, Bool.and_eq_true]
      exact ⟨hs, hp⟩
    case unknown n =>
      rw [strAttr, natAttr, (attr_unknown t n _).1, (attr_unknown t n _).2,
        attr_other_rest "precision" mid rest hmid hrest (by simp) (by simp) (by simp [restKeys])] at hd
      simpa [logicalOkB] using hd
    all_goals rfl

theorem wellTyped_obj_parts {ms : List (String × Json)} (h : wellTyped (.obj ms) = true) :
    scalarsOk ms = true ∧ wtOpt "items" ms = true ∧ wtOpt "values" ms = true ∧
      wtFieldsAttr ms = true := by
  simp only [wellTyped, Bool.and_eq_true] at h
  exact ⟨h.1.1.1, h.1.1.2, h.1.2, h.2⟩

/-! ### exactly when a written object is `wellTyped`, kind by kind -/

theorem wellTyped_leaf_iff (t : String) (lg : Option LogicalType) (htn : isTypeName t = true) :
    wellTyped (.obj (typeMembers t lg)) = true ↔ logicalOkB lg = true := by
  constructor
  · intro h
    have h' : wellTyped (.obj (typeMembers t lg ++ [] ++ [])) = true := by simpa using h
    exact logicalOk_of_scalarsOk t lg [] [] (Or.inl rfl) (Or.inl rfl) (wellTyped_obj_parts h').1
  · intro hlg
    have := wellTyped_written t lg [] [] htn hlg (Or.inl rfl) (Or.inl rfl) rfl rfl rfl
    simpa using this

theorem wellTyped_array_iff (lg : Option LogicalType) (j : Json) (hj : isNull j = false) :
    wellTyped (.obj (typeMembers "array" lg ++ [("items", j)])) = true ↔
      logicalOkB lg = true ∧ wellTyped j = true := by
  constructor
  · intro h
    have h' : wellTyped (.obj (typeMembers "array" lg ++ [] ++ [("items", j)])) = true := by
      simpa using h
    obtain ⟨h1, h2, -, -⟩ := wellTyped_obj_parts h'
    refine ⟨logicalOk_of_scalarsOk _ lg [] _ (Or.inl rfl) (Or.inr ⟨_, _, rfl, by simp [restKeys]⟩) h1, ?_⟩
    rw [ValidParses.wtOpt_eq, attr_written_rest _ _ _ _ (Or.inl rfl) "items" (by simp [typeKeys, nameKeys])] at h2
    simpa [attr, hj] using h2
  · rintro ⟨hlg, hw⟩
    have := wellTyped_written "array" lg [] [("items", j)] (by decide) hlg (Or.inl rfl)
      (Or.inr ⟨_, _, rfl, by simp [restKeys], rfl⟩) (by simp [wtOpt, hw]) rfl
      rfl
    simpa using this

theorem wellTyped_map_iff (lg : Option LogicalType) (j : Json) (hj : isNull j = false) :
    wellTyped (.obj (typeMembers "map" lg ++ [("values", j)])) = true ↔
      logicalOkB lg = true ∧ wellTyped j = true := by
  constructor
  · intro h
    have h' : wellTyped (.obj (typeMembers "map" lg ++ [] ++ [("values", j)])) = true := by
      simpa using h
    obtain ⟨h1, -, h2, -⟩ := wellTyped_obj_parts h'
    refine ⟨logicalOk_of_scalarsOk _ lg [] _ (Or.inl rfl) (Or.inr ⟨_, _, rfl, by simp [restKeys]⟩) h1, ?_⟩
    rw [ValidParses.wtOpt_eq, attr_written_rest _ _ _ _ (Or.inl rfl) "values" (by simp [typeKeys, nameKeys])] at h2
    simpa [attr, hj] using h2
  · rintro ⟨hlg, hw⟩
    have := wellTyped_written "map" lg [] [("values", j)] (by decide) hlg (Or.inl rfl)
      (Or.inr ⟨_, _, rfl, by simp [restKeys], rfl⟩) rfl (by simp [wtOpt, hw])
      rfl
    simpa using this

theorem wellTyped_record_iff (lg : Option LogicalType) (ns : Option String) (nm : Name)
    (js : List Json) :
    wellTyped (.obj (typeMembers "record" lg ++ nameMembers ns nm ++
      [("fields", .arr js)])) = true ↔ logicalOkB lg = true ∧ wtFields js = true := by
  constructor
  · intro h
    obtain ⟨h1, -, -, h2⟩ := wellTyped_obj_parts h
    refine ⟨logicalOk_of_scalarsOk _ lg _ _ (Or.inr ⟨ns, nm, rfl⟩)
      (Or.inr ⟨_, _, rfl, by simp [restKeys]⟩) h1, ?_⟩
    rw [ValidParses.wtFieldsAttr_eq,
      attr_written_rest _ _ _ _ (Or.inr ⟨ns, nm, rfl⟩) "fields" (by simp [typeKeys, nameKeys])] at h2
    simpa [attr] using h2
  · rintro ⟨hlg, hw⟩
    exact wellTyped_written "record" lg _ [("fields", .arr js)] (by decide) hlg
      (Or.inr ⟨ns, nm, rfl⟩) (Or.inr ⟨_, _, rfl, by simp [restKeys], rfl⟩) rfl rfl
      (by simp [wtFieldsAttr, hw])

theorem wellTyped_enum_iff (lg : Option LogicalType) (ns : Option String) (nm : Name)
    (syms : List String) :
    wellTyped (.obj (typeMembers "enum" lg ++ nameMembers ns nm ++
      [("symbols", .arr (syms.map .str))])) = true ↔ logicalOkB lg = true :=
  ⟨fun h => logicalOk_of_scalarsOk _ lg _ _ (Or.inr ⟨ns, nm, rfl⟩)
      (Or.inr ⟨_, _, rfl, by simp [restKeys]⟩) (wellTyped_obj_parts h).1,
    fun hlg => wellTyped_written "enum" lg _ [("symbols", .arr (syms.map .str))] (by decide) hlg
      (Or.inr ⟨ns, nm, rfl⟩)
      (Or.inr ⟨_, _, rfl, by simp [restKeys], by simp [memberOk, optStrAttr, optSymbolsAttr, optNatAttr, attr, strings_map_str]⟩)
      rfl rfl rfl⟩

theorem wellTyped_fixed_iff (lg : Option LogicalType) (ns : Option String) (nm : Name)
    (size : Nat) :
    wellTyped (.obj (typeMembers "fixed" lg ++ nameMembers ns nm ++
      [("size", .nat size)])) = true ↔ logicalOkB lg = true ∧ size ≤ 2 ^ 64 - 1 := by
  constructor
  · intro h
    obtain ⟨h1, -, -, -⟩ := wellTyped_obj_parts h
    refine ⟨logicalOk_of_scalarsOk _ lg _ _ (Or.inr ⟨ns, nm, rfl⟩)
      (Or.inr ⟨_, _, rfl, by simp [restKeys]⟩) h1, ?_⟩
    obtain ⟨hs, -, -, -⟩ := scalarsOk_numbers h1
    rw [optNatAttr,
      attr_written_rest _ _ _ _ (Or.inr ⟨ns, nm, rfl⟩) "size" (by simp [typeKeys, nameKeys])] at hs
    simpa [attr] using hs
  · rintro ⟨hlg, hsz⟩
    exact wellTyped_written "fixed" lg _ [("size", .nat size)] (by decide) hlg
      (Or.inr ⟨ns, nm, rfl⟩)
      (Or.inr ⟨_, _, rfl, by simp [restKeys], by simp [memberOk, optStrAttr, optSymbolsAttr, optNatAttr, attr, hsz]⟩)
      rfl rfl rfl

end Avro.RenderValid
