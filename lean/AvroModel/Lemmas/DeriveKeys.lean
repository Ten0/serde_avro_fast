import AvroModel.Lemmas.Derive
/-
Lookup keys as token lists, for every program: `KeyOf P t k` ("`t` has key `k`") and its inversions
by the form of `t`; the token lists are prefix codes (`Coded`), so the key of an instantiation of a
generic declaration determines the keys of its field types (`lookupKeys_split`, `flatten_unique`,
`generic_record_key_fields`).  The declarations sit in the namespaces of the modules that open them
(`DeriveFits`: DeriveBuild … DeriveWiderU; `DeriveG`: DeriveGeneric; `DeriveNames`), not of a file of
that name.
-/
namespace Avro.Theorems.DeriveFits
open Avro Avro.Impl Avro.Impl.Derive

/-! ### Lookup keys (`lookupKey` is monotone in the fuel: `lookupKey_mono`, Lemmas/Derive.lean) -/

def KeyOf (P : Prog) (t : Ty) (k : Key) : Prop := ∃ F, lookupKey P F t = some k

theorem KeyOf.unique {P : Prog} {t : Ty} {k k' : Key} (h : KeyOf P t k) (h' : KeyOf P t k') : k = k' :=
  let ⟨_, h⟩ := h
  let ⟨_, h'⟩ := h'
  lookupKey_det P h h'

section keyof
variable {P : Prog}

theorem KeyOf.succ {t : Ty} {k : Key} (h : KeyOf P t k) : ∃ F, lookupKey P (F + 1) t = some k := by
  obtain ⟨F, h⟩ := h
  cases F with
  | zero => rw [lk_zero] at h; cases h
  | succ F => exact ⟨F, h⟩

theorem KeyOf.of_map {t : Ty} {tok : KTok} {k : Key} {F : Nat}
    (h : (lookupKey P F t).map (tok :: ·) = some k) : ∃ k', k = tok :: k' ∧ KeyOf P t k' := by
  cases h1 : lookupKey P F t with
  | none => rw [h1] at h; cases h
  | some k' =>
    rw [h1] at h
    exact ⟨k', (Option.some.inj h).symm, F, h1⟩

theorem KeyOf.of_maps {ts : List Ty} {tok : KTok} {k : Key} {F : Nat}
    (h : (lookupKeys P F ts).map (tok :: ·) = some k) : ∃ k', k = tok :: k' := by
  cases h1 : lookupKeys P F ts with
  | none => rw [h1] at h; cases h
  | some k' =>
    rw [h1] at h
    exact ⟨k', (Option.some.inj h).symm⟩

theorem KeyOf.vec {t : Ty} {k : Key} (h : KeyOf P (.vec t) k) : ∃ k', k = .vec :: k' ∧ KeyOf P t k' := by
  obtain ⟨F, h⟩ := h.succ
  rw [lk_vec] at h
  exact KeyOf.of_map h

theorem KeyOf.option {t : Ty} {k : Key} (h : KeyOf P (.option t) k) :
    ∃ k', k = .option :: k' ∧ KeyOf P t k' := by
  obtain ⟨F, h⟩ := h.succ
  rw [lk_option] at h
  exact KeyOf.of_map h

theorem KeyOf.hashMap {t : Ty} {k : Key} (h : KeyOf P (.hashMap t) k) :
    ∃ k', k = .map :: k' ∧ KeyOf P t k' := by
  obtain ⟨F, h⟩ := h.succ
  rw [lk_hashMap] at h
  exact KeyOf.of_map h

theorem KeyOf.btreeMap {t : Ty} {k : Key} (h : KeyOf P (.btreeMap t) k) :
    ∃ k', k = .map :: k' ∧ KeyOf P t k' := by
  obtain ⟨F, h⟩ := h.succ
  rw [lk_btreeMap] at h
  exact KeyOf.of_map h

theorem KeyOf.ptr {t : Ty} {k : Key} (h : KeyOf P (.ptr t) k) : KeyOf P t k := by
  obtain ⟨F, h⟩ := h.succ
  rw [lk_ptr] at h
  exact ⟨F, h⟩

theorem KeyOf.of_ptr {t : Ty} {k : Key} (h : KeyOf P t k) : KeyOf P (.ptr t) k := by
  obtain ⟨F, h⟩ := h
  refine ⟨F + 1, ?_⟩
  rw [lk_ptr]
  exact h

theorem KeyOf.leaf {t : Ty} {k k0 : Key} (h : KeyOf P t k)
    (h0 : ∀ F, lookupKey P (F + 1) t = some k0) : k = k0 := by
  obtain ⟨F, h⟩ := h.succ
  rw [h0 F] at h
  exact (Option.some.inj h).symm

/-- A declaration whose key kind is `.self` (no forwarding, not generic) has the one-token key. -/
theorem KeyOf.named_self {id : Nat} {args : List Ty} {k : Key} {d : Decl}
    (h : KeyOf P (.named id args) k) (hd : P[id]? = some d) (hk : keyKind d = .self) : k = [.self id] := by
  obtain ⟨F, h⟩ := h.succ
  rw [lk_named] at h
  simp only [hd, hk] at h
  exact (Option.some.inj h).symm

theorem KeyOf.named_enum {id : Nat} {args : List Ty} {k : Key} {d : Decl} {vs : List String}
    (h : KeyOf P (.named id args) k) (hd : P[id]? = some d) (hb : d.body = .unitEnum vs) :
    k = [.self id] :=
  h.named_self hd (by simp [keyKind, hb])

theorem KeyOf.named_record {id : Nat} {args : List Ty} {k : Key} {d : Decl} {fs : List Field}
    (h : KeyOf P (.named id args) k) (hd : P[id]? = some d) (hb : d.body = .record fs)
    (hn : d.nparams = 0) : k = [.self id] :=
  h.named_self hd (by simp [keyKind, hb, hn])

theorem KeyOf.named_union {id : Nat} {args : List Ty} {k : Key} {d : Decl} {vs : List Variant}
    (h : KeyOf P (.named id args) k) (hd : P[id]? = some d) (hb : d.body = .union vs)
    (hn : d.nparams = 0) : k = [.self id] :=
  h.named_self hd (by simp [keyKind, hb, hn])

theorem KeyOf.named_newtype_nd {id : Nat} {args : List Ty} {k : Key} {d : Decl} {fd : Field}
    (h : KeyOf P (.named id args) k) (hd : P[id]? = some d) (hb : d.body = .newtype fd)
    (hdir : isDirect fd .newtypeStruct = false) (hn : d.nparams = 0) : k = [.self id] :=
  h.named_self hd (by simp [keyKind, hb, hn, hdir])

theorem KeyOf.named_newtype {id : Nat} {args : List Ty} {k : Key} {d : Decl} {fd : Field}
    (h : KeyOf P (.named id args) k) (hd : P[id]? = some d) (hb : d.body = .newtype fd)
    (hdir : isDirect fd .newtypeStruct = true) : KeyOf P (subst args (chosenTy fd)) k := by
  obtain ⟨F, h⟩ := h.succ
  rw [lk_named] at h
  simp only [hd, keyKind, hb, hdir, if_true] at h
  exact ⟨F, h⟩

end keyof

end Avro.Theorems.DeriveFits

namespace Avro.Theorems.DeriveG
open Avro Avro.Impl Avro.Impl.Derive Avro.Theorems.DeriveFits

/-! ### Keys are prefix codes -/

/-- Number of codes that follow the token in the code it starts. -/
def arity : KTok → Nat
  | .vec | .option | .map => 1
  | .generic _ m => m
  | _ => 0

/-- `Coded n k`: the token list `k` is the concatenation of `n` codes. -/
inductive Coded : Nat → Key → Prop
  | nil : Coded 0 []
  | cons (tok : KTok) (n : Nat) (rest : Key) : Coded (arity tok + n) rest → Coded (n + 1) (tok :: rest)

theorem Coded.append {n m : Nat} {a b : Key} (ha : Coded n a) (hb : Coded m b) : Coded (n + m) (a ++ b) := by
  induction ha with
  | nil => simpa using hb
  | cons tok n rest _ ih =>
    have : n + 1 + m = (n + m) + 1 := by omega
    rw [this]
    refine Coded.cons tok (n + m) (rest ++ b) ?_
    rw [← Nat.add_assoc]
    exact ih

theorem Coded.unique : ∀ (a : Key) (n : Nat) (b x y : Key), Coded n a → Coded n b → a ++ x = b ++ y →
    a = b ∧ x = y
  | [], n, b, x, y, ha, hb, h => by
    cases ha
    cases hb
    exact ⟨rfl, by simpa using h⟩
  | tok :: a', n, b, x, y, ha, hb, h => by
    cases ha with
    | cons _ n' _ ha' =>
      cases hb with
      | cons tok' _ b' hb' =>
        simp only [List.cons_append, List.cons.injEq] at h
        obtain ⟨rfl, h⟩ := h
        obtain ⟨h1, h2⟩ := Coded.unique a' _ b' x y ha' hb' h
        exact ⟨by rw [h1], h2⟩

theorem lookupKey_coded (P : Prog) : ∀ F,
    (∀ t k, lookupKey P F t = some k → Coded 1 k) ∧
    (∀ ts k, lookupKeys P F ts = some k → Coded ts.length k) := by
  intro F
  induction F with
  | zero =>
    refine ⟨fun t k h => (by rw [lk_zero] at h; cases h), fun ts k h => ?_⟩
    cases ts with
    | nil => rw [lks_nil] at h; cases h; exact Coded.nil
    | cons t ts => cases h
  | succ F ih =>
    obtain ⟨ih1, ih2⟩ := ih
    have leaf : ∀ tok, arity tok = 0 → Coded 1 [tok] := fun tok h =>
      Coded.cons tok 0 [] (by rw [h]; exact Coded.nil)
    have hmap : ∀ (t : Ty) (tok : KTok) (k : Key), arity tok = 1 →
        (lookupKey P F t).map (tok :: ·) = some k → Coded 1 k := by
      intro t tok k har h
      obtain ⟨k', hk', rfl⟩ := Option.map_eq_some_iff.1 h
      exact Coded.cons tok 0 k' (by rw [har]; exact ih1 t k' hk')
    constructor
    · intro t k h
      cases t with
      | vec t => exact hmap _ _ _ rfl h
      | option t => exact hmap _ _ _ rfl h
      | hashMap t => exact hmap _ _ _ rfl h
      | btreeMap t => exact hmap _ _ _ rfl h
      | ptr t => exact ih1 _ _ h
      | param i => cases h
      | named id args =>
        rw [lk_named] at h
        cases hd : P[id]? with
        | none => rw [hd] at h; cases h
        | some d =>
          simp only [hd] at h
          cases hk : keyKind d <;> simp only [hk] at h
          case fwd f => exact ih1 _ _ h
          case self => cases h; exact leaf _ rfl
          case generic fs =>
            obtain ⟨k', hk', rfl⟩ := Option.map_eq_some_iff.1 h
            exact Coded.cons _ 0 k' (by simpa [arity] using ih2 _ k' hk')
      | _ => cases h; exact leaf _ rfl
    · intro ts k h
      cases ts with
      | nil => rw [lks_nil] at h; cases h; exact Coded.nil
      | cons t ts =>
        obtain ⟨_, a, b, hn, h1, h2, rfl⟩ := lks_cons_some h
        cases hn
        have := (ih1 t a h1).append (ih2 ts b h2)
        simpa [Nat.add_comm] using this

theorem _root_.Avro.Theorems.DeriveFits.KeyOf.coded {P : Prog} {t : Ty} {k : Key} (h : KeyOf P t k) : Coded 1 k := by
  obtain ⟨F, h⟩ := h
  exact (lookupKey_coded P F).1 t k h

theorem lookupKeys_split (P : Prog) : ∀ (ts : List Ty) (F : Nat) (k : Key), lookupKeys P F ts = some k →
    ∃ cks : List Key, k = cks.flatten ∧ cks.length = ts.length ∧
      (∀ (j : Nat) (t : Ty) (ck : Key), ts[j]? = some t → cks[j]? = some ck → KeyOf P t ck) ∧
      ∀ ck ∈ cks, Coded 1 ck
  | [], F, k, h => by
    rw [lks_nil] at h; cases h
    exact ⟨[], rfl, rfl, fun j t ck hj => by simp at hj, fun ck h => by simp at h⟩
  | t :: ts, F, k, h => by
    obtain ⟨F, a, b, rfl, h1, h2, rfl⟩ := lks_cons_some h
    obtain ⟨cks, rfl, hlen, hall, hcoded⟩ := lookupKeys_split P ts F b h2
    refine ⟨a :: cks, by simp, by simp [hlen], fun j t' ck hj hc => ?_, fun ck hck => ?_⟩
    · cases j with
      | zero =>
        simp only [List.getElem?_cons_zero, Option.some.injEq] at hj hc
        subst hj hc
        exact ⟨F, h1⟩
      | succ j =>
        simp only [List.getElem?_cons_succ] at hj hc
        exact hall j t' ck hj hc
    · rcases List.mem_cons.mp hck with rfl | hck
      · exact KeyOf.coded ⟨F, h1⟩
      · exact hcoded ck hck

theorem flatten_unique : ∀ (cks cks' : List Key), (∀ ck ∈ cks, Coded 1 ck) → (∀ ck ∈ cks', Coded 1 ck) →
    cks.length = cks'.length → cks.flatten = cks'.flatten → cks = cks'
  | [], [], _, _, _, _ => rfl
  | [], _ :: _, _, _, h, _ => by simp at h
  | _ :: _, [], _, _, h, _ => by simp at h
  | a :: as, b :: bs, ha, hb, hlen, h => by
    simp only [List.flatten_cons] at h
    obtain ⟨h1, h2⟩ := Coded.unique a 1 b _ _ (ha a (by simp)) (hb b (by simp)) h
    rw [h1, flatten_unique as bs (fun ck hck => ha ck (by simp [hck])) (fun ck hck => hb ck (by simp [hck]))
      (by simpa using hlen) h2]

/-! ### The key of an instantiation of a generic declaration -/

theorem _root_.Avro.Theorems.DeriveFits.KeyOf.named_generic {P : Prog} {id : Nat} {args : List Ty} {k : Key}
    {d : Decl} {fs : List Field} (h : KeyOf P (.named id args) k) (hd : P[id]? = some d)
    (hk : keyKind d = .generic fs) :
    ∃ F rest, k = .generic id fs.length :: rest ∧
      lookupKeys P F (fs.map fun f => subst args (chosenTy f)) = some rest := by
  obtain ⟨F, h⟩ := h.succ
  rw [lk_named] at h
  simp only [hd, hk] at h
  cases h1 : lookupKeys P F (fs.map fun f => subst args (chosenTy f)) with
  | none => rw [h1] at h; cases h
  | some rest =>
    rw [h1] at h
    exact ⟨F, rest, (Option.some.inj h).symm, h1⟩

theorem _root_.Avro.Theorems.DeriveFits.KeyOf.named_record_gen {P : Prog} {id : Nat} {args : List Ty} {k : Key}
    {d : Decl} {fs : List Field} (h : KeyOf P (.named id args) k) (hd : P[id]? = some d)
    (hb : d.body = .record fs) (hn : d.nparams ≠ 0) :
    ∃ F rest, k = .generic id fs.length :: rest ∧
      lookupKeys P F (fs.map fun f => subst args (chosenTy f)) = some rest :=
  h.named_generic hd (by simp [keyKind, hb, hn, Body.lookupFields])

theorem _root_.Avro.Theorems.DeriveFits.KeyOf.named_union_gen {P : Prog} {id : Nat} {args : List Ty} {k : Key}
    {d : Decl} {vs : List Variant} (h : KeyOf P (.named id args) k) (hd : P[id]? = some d)
    (hb : d.body = .union vs) (hn : d.nparams ≠ 0) :
    ∃ F rest, k = .generic id (vs.filterMap (·.field)).length :: rest ∧
      lookupKeys P F ((vs.filterMap (·.field)).map fun f => subst args (chosenTy f)) = some rest :=
  h.named_generic hd (by simp [keyKind, hb, hn, Body.lookupFields])

end Avro.Theorems.DeriveG

namespace Avro.Theorems.DeriveNames
open Avro Avro.Impl Avro.Impl.Derive

/-- `∃ k, KeyOf P t k ∧ KeyOf P t' k`, written out. -/
def SameKey (P : Prog) (t t' : Ty) : Prop := ∃ n n' k, lookupKey P n t = some k ∧ lookupKey P n' t' = some k

theorem lookupKeys_inj (P : Prog) {n n' : Nat} {ts ts' : List Ty} {k : Key}
    (h : lookupKeys P n ts = some k) (h' : lookupKeys P n' ts' = some k) (hl : ts.length = ts'.length) :
    ∀ i (hi : i < ts.length) (hi' : i < ts'.length), SameKey P ts[i] ts'[i] := by
  obtain ⟨cks, rfl, hlen, hall, hc⟩ := DeriveG.lookupKeys_split P ts n k h
  obtain ⟨cks', he, hlen', hall', hc'⟩ := DeriveG.lookupKeys_split P ts' n' _ h'
  obtain rfl := DeriveG.flatten_unique cks cks' hc hc' (by omega) he
  intro i hi hi'
  have hik : i < cks.length := by omega
  obtain ⟨F, h1⟩ := hall i ts[i] cks[i] (List.getElem?_eq_getElem hi) (List.getElem?_eq_getElem hik)
  obtain ⟨F', h2⟩ := hall' i ts'[i] cks[i] (List.getElem?_eq_getElem hi') (List.getElem?_eq_getElem hik)
  exact ⟨F, F', cks[i], h1, h2⟩

theorem generic_record_key_fields (P : Prog) {id : Nat} {d : Decl} {fs : List Field}
    {args1 args2 : List Ty} {n1 n2 : Nat} {k : Key} (hP : P[id]? = some d) (hb : d.body = .record fs)
    (hn : d.nparams ≠ 0) (h1 : lookupKey P n1 (.named id args1) = some k)
    (h2 : lookupKey P n2 (.named id args2) = some k) :
    ∀ f ∈ fs, SameKey P (subst args1 (chosenTy f)) (subst args2 (chosenTy f)) := by
  intro f hf
  obtain ⟨F1, r1, rfl, ha1⟩ := DeriveFits.KeyOf.named_record_gen ⟨n1, h1⟩ hP hb hn
  obtain ⟨F2, r2, he, ha2⟩ := DeriveFits.KeyOf.named_record_gen ⟨n2, h2⟩ hP hb hn
  cases he
  obtain ⟨i, hi, rfl⟩ := List.getElem_of_mem hf
  have := lookupKeys_inj P ha1 ha2 (by simp) i (by simpa using hi) (by simpa using hi)
  simpa using this

end Avro.Theorems.DeriveNames
