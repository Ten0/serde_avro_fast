import AvroModel.Spec.Pcf
/-
C08 (injectivity part): the canonical STRUCTURE of a schema document.

`Canon` is the tree that keeps exactly what the rules of "Transforming into Parsing Canonical
Form" keep: the primitive kind; for a named type its FULLNAME (the dotted text) and, for a record,
the ordered list of (field name, field type), for an enum the ordered symbols, for a fixed the
size; an array's items, a map's values, a union's ordered branches.  A further occurrence of a
name is a reference (`ref`), as in the document.

`canonOfIn enc j` reads that structure off the document `j` (same case analysis as
`Spec.Pcf.canon`, which produces a JSON tree: `canon_factors`); `Canon.chars` / `Canon.text` is
the text of a structure (`print_toJson`).
-/
namespace Avro.Spec.Pcf
open Avro.Impl (Json)

inductive Prim
  | null | boolean | int | long | float | double | bytes | string
  deriving DecidableEq, Repr, Inhabited

/-- "Primitive type names" -/
def Prim.name : Prim → String
  | .null => "null" | .boolean => "boolean" | .int => "int" | .long => "long"
  | .float => "float" | .double => "double" | .bytes => "bytes" | .string => "string"

def Prim.ofString? (s : String) : Option Prim :=
  if s = "null" then some .null
  else if s = "boolean" then some .boolean
  else if s = "int" then some .int
  else if s = "long" then some .long
  else if s = "float" then some .float
  else if s = "double" then some .double
  else if s = "bytes" then some .bytes
  else if s = "string" then some .string
  else none

inductive Canon
  | prim (p : Prim)
  /-- a further occurrence of a named type: its fullname -/
  | ref (fullname : String)
  | array (items : Canon)
  | map (values : Canon)
  | union (branches : List Canon)
  | enum (fullname : String) (symbols : List String)
  | fixed (fullname : String) (size : Nat)
  | record (fullname : String) (fields : List (String × Canon))
  deriving Repr, Inhabited

/-! ### the structure as a JSON tree (members in canonical order) -/

mutual

def Canon.toJson : Canon → Json
  | .prim p => .str p.name
  | .ref n => .str n
  | .array i => .obj [("type", .str "array"), ("items", i.toJson)]
  | .map v => .obj [("type", .str "map"), ("values", v.toJson)]
  | .union bs => .arr (Canon.toJsonList bs)
  | .enum n syms => .obj [("name", .str n), ("type", .str "enum"), ("symbols", .arr (syms.map Json.str))]
  | .fixed n size => .obj [("name", .str n), ("type", .str "fixed"), ("size", .nat size)]
  | .record n fs => .obj [("name", .str n), ("type", .str "record"), ("fields", .arr (Canon.toJsonFields fs))]

def Canon.toJsonList : List Canon → List Json
  | [] => []
  | c :: cs => c.toJson :: Canon.toJsonList cs

def Canon.toJsonFields : List (String × Canon) → List Json
  | [] => []
  | (f, c) :: fs => .obj [("name", .str f), ("type", c.toJson)] :: Canon.toJsonFields fs

end

/-! ### the structure of a document -/

mutual

/-- Canonical structure of the schema document `j` met in the enclosing namespace `enc`;
    `none` exactly where `Spec.Pcf.canon` is `none`. -/
def canonOfIn (enc : Option String) : Json → Option Canon
  | .str s =>
    match Prim.ofString? s with
    | some p => some (.prim p)
    | none => some (.ref (fullnameText (fullnameOfRef s enc)))
  | .arr branches => (canonOfList enc branches).map Canon.union
  | .obj ms =>
    match strAttr "type" ms with
    | none => none
    | some t =>
      match Prim.ofString? t with
      | some p => some (.prim p)
      | none =>
        if t = "array" then (canonOfAttr enc "items" ms).map Canon.array
        else if t = "map" then (canonOfAttr enc "values" ms).map Canon.map
        else if t = "enum" then
          match strAttr "name" ms, symbolsAttr ms with
          | some name, some syms =>
            some (.enum (fullnameText (fullnameOfDef name (strAttr "namespace" ms) enc)) syms)
          | _, _ => none
        else if t = "fixed" then
          match strAttr "name" ms, natAttr "size" ms with
          | some name, some size =>
            some (.fixed (fullnameText (fullnameOfDef name (strAttr "namespace" ms) enc)) size)
          | _, _ => none
        else if t = "record" then
          match strAttr "name" ms with
          | none => none
          | some name =>
            (canonOfFieldsAttr (fullnameOfDef name (strAttr "namespace" ms) enc).1 ms).map
              (Canon.record (fullnameText (fullnameOfDef name (strAttr "namespace" ms) enc)))
        else none
  | _ => none

def canonOfList (enc : Option String) : List Json → Option (List Canon)
  | [] => some []
  | j :: rest =>
    match canonOfIn enc j, canonOfList enc rest with
    | some c, some cs => some (c :: cs)
    | _, _ => none

def canonOfAttr (enc : Option String) (key : String) : List (String × Json) → Option Canon
  | [] => none
  | (k, v) :: rest => if k = key then canonOfIn enc v else canonOfAttr enc key rest

def canonOfFieldsAttr (enc : Option String) : List (String × Json) → Option (List (String × Canon))
  | [] => none
  | (k, v) :: rest =>
    if k = "fields" then
      match v with
      | .arr fields => canonOfFields enc fields
      | _ => none
    else canonOfFieldsAttr enc rest

def canonOfFields (enc : Option String) : List Json → Option (List (String × Canon))
  | [] => some []
  | .obj fm :: rest =>
    match strAttr "name" fm, canonOfAttr enc "type" fm, canonOfFields enc rest with
    | some name, some c, some cs => some ((name, c) :: cs)
    | _, _, _ => none
  | _ :: _ => none

end

def canonOf (j : Json) : Option Canon := canonOfIn none j

/-! ### primitives -/

theorem Prim.ofString?_name (p : Prim) : Prim.ofString? p.name = some p := by
  cases p <;> decide

theorem ite_some_inv {α} {c : Prop} [Decidable c] {a b : α} {e : Option α}
    (h : (if c then some a else e) = some b) : c ∧ a = b ∨ ¬c ∧ e = some b := by
  split at h
  · exact .inl ⟨‹c›, Option.some.inj h⟩
  · exact .inr ⟨‹¬c›, h⟩

theorem isSome_ite_some {α} {c : Prop} [Decidable c] (a : α) (e : Option α) :
    (if c then some a else e).isSome = (decide c || e.isSome) := by
  by_cases h : c <;> simp [h]

theorem Prim.ofString?_some {s : String} {p : Prim} (h : Prim.ofString? s = some p) :
    p.name = s := by
  unfold Prim.ofString? at h
  iterate 8 (obtain ⟨rfl, rfl⟩ | ⟨-, h⟩ := ite_some_inv h; exact rfl)
  cases h

/-- Both sides are the same chain of eight comparisons, in the same order. -/
theorem isPrimitive_eq (s : String) : isPrimitive s = (Prim.ofString? s).isSome := by
  simp only [Prim.ofString?, isSome_ite_some, isPrimitive, primitiveNames, List.contains_cons,
    List.contains_nil, Option.isSome_none]
  rfl

theorem isPrimitive_of_some {s : String} {p : Prim} (h : Prim.ofString? s = some p) :
    isPrimitive s = true := by
  rw [isPrimitive_eq, h]; rfl

theorem isPrimitive_of_none {s : String} (h : Prim.ofString? s = none) :
    isPrimitive s = false := by
  rw [isPrimitive_eq, h]; rfl

/-! ### `canon` factors through the structure -/

mutual

theorem canon_factors (enc : Option String) :
    (j : Json) → canon enc j = (canonOfIn enc j).map Canon.toJson
  | .str s => by
    simp only [canon, canonOfIn]
    cases h : Prim.ofString? s with
    | some p => simp [isPrimitive_of_some h, Canon.toJson, Prim.ofString?_some h]
    | none => simp [isPrimitive_of_none h, Canon.toJson]
  | .arr branches => by
    simp only [canon, canonOfIn, canonList_factors enc branches, Option.map_map]
    congr 1
  | .obj ms => by
    simp only [canon, canonOfIn]
    cases ht : strAttr "type" ms with
    | none => rfl
    | some t =>
      simp only
      cases h : Prim.ofString? t with
      | some p => simp [isPrimitive_of_some h, Canon.toJson, Prim.ofString?_some h]
      | none =>
        simp only [isPrimitive_of_none h, Bool.false_eq_true, if_false]
        -- the same chain of tests on both sides, one `by_cases` per test (`split` is too slow on these goals)
        by_cases h1 : t = "array"
        · rw [if_pos h1, if_pos h1]
          simp only [canonAttr_factors enc "items" ms, Option.map_map]; congr 1
        rw [if_neg h1, if_neg h1]
        by_cases h2 : t = "map"
        · rw [if_pos h2, if_pos h2]
          simp only [canonAttr_factors enc "values" ms, Option.map_map]; congr 1
        rw [if_neg h2, if_neg h2]
        by_cases h3 : t = "enum"
        · rw [if_pos h3, if_pos h3]
          cases strAttr "name" ms <;> cases symbolsAttr ms <;> simp [Canon.toJson]
        rw [if_neg h3, if_neg h3]
        by_cases h4 : t = "fixed"
        · rw [if_pos h4, if_pos h4]
          cases strAttr "name" ms <;> cases natAttr "size" ms <;> simp [Canon.toJson]
        rw [if_neg h4, if_neg h4]
        by_cases h5 : t = "record"
        · rw [if_pos h5, if_pos h5]
          cases strAttr "name" ms with
          | none => rfl
          | some name =>
            simp only [fieldsAttr_factors, Option.map_map]
            congr 1
        · rw [if_neg h5, if_neg h5]; rfl
  | .null | .bool _ | .nat _ | .numOther => by simp [canon, canonOfIn]

theorem canonList_factors (enc : Option String) :
    (js : List Json) → canonList enc js = (canonOfList enc js).map Canon.toJsonList
  | [] => by simp [canonList, canonOfList, Canon.toJsonList]
  | j :: rest => by
    simp only [canonList, canonOfList, canon_factors enc j, canonList_factors enc rest]
    cases canonOfIn enc j <;> cases canonOfList enc rest <;> simp [Canon.toJsonList]

theorem canonAttr_factors (enc : Option String) (key : String) :
    (ms : List (String × Json)) → canonAttr enc key ms = (canonOfAttr enc key ms).map Canon.toJson
  | [] => by simp [canonAttr, canonOfAttr]
  | (k, v) :: rest => by
    simp only [canonAttr, canonOfAttr]
    split
    · exact canon_factors enc v
    · exact canonAttr_factors enc key rest

theorem fieldsAttr_factors (enc : Option String) :
    (ms : List (String × Json)) →
      fieldsAttr enc ms = (canonOfFieldsAttr enc ms).map Canon.toJsonFields
  | [] => by simp [fieldsAttr, canonOfFieldsAttr]
  | (k, .arr fields) :: rest => by
    simp only [fieldsAttr, canonOfFieldsAttr]
    split
    · exact canonFields_factors enc fields
    · exact fieldsAttr_factors enc rest
  | (k, .null) :: rest | (k, .bool _) :: rest | (k, .nat _) :: rest | (k, .numOther) :: rest
  | (k, .str _) :: rest | (k, .obj _) :: rest => by
    simp only [fieldsAttr, canonOfFieldsAttr]
    split
    · rfl
    · exact fieldsAttr_factors enc rest

theorem canonFields_factors (enc : Option String) :
    (fs : List Json) → canonFields enc fs = (canonOfFields enc fs).map Canon.toJsonFields
  | [] => by simp [canonFields, canonOfFields, Canon.toJsonFields]
  | .obj fm :: rest => by
    simp only [canonFields, canonOfFields, canonAttr_factors enc "type" fm,
      canonFields_factors enc rest]
    cases strAttr "name" fm <;> cases canonOfAttr enc "type" fm <;>
      cases canonOfFields enc rest <;> simp [Canon.toJsonFields]
  | .str _ :: _ | .arr _ :: _ | .null :: _ | .bool _ :: _ | .nat _ :: _ | .numOther :: _ => by
    simp [canonFields, canonOfFields]

end

/-! ### equality of structures is decidable -/

mutual
def Canon.beq : Canon → Canon → Bool
  | .prim p, .prim q => p == q
  | .ref n, .ref m => n == m
  | .array i, .array j => Canon.beq i j
  | .map i, .map j => Canon.beq i j
  | .union bs, .union cs => Canon.beqList bs cs
  | .enum n s, .enum m t => n == m && s == t
  | .fixed n s, .fixed m t => n == m && s == t
  | .record n fs, .record m gs => n == m && Canon.beqFields fs gs
  | _, _ => false
def Canon.beqList : List Canon → List Canon → Bool
  | [], [] => true
  | c :: cs, d :: ds => Canon.beq c d && Canon.beqList cs ds
  | _, _ => false
def Canon.beqFields : List (String × Canon) → List (String × Canon) → Bool
  | [], [] => true
  | (f, c) :: cs, (g, d) :: ds => f == g && Canon.beq c d && Canon.beqFields cs ds
  | _, _ => false
end

mutual
theorem Canon.beq_iff : (c d : Canon) → (Canon.beq c d = true ↔ c = d)
  | .prim _, d | .ref _, d | .enum _ _, d | .fixed _ _, d => by cases d <;> simp [Canon.beq]
  | .array i, d | .map i, d => by cases d <;> simp [Canon.beq, Canon.beq_iff i]
  | .union bs, d => by cases d <;> simp [Canon.beq, Canon.beqList_iff bs]
  | .record n fs, d => by cases d <;> simp [Canon.beq, Canon.beqFields_iff fs]
theorem Canon.beqList_iff : (cs ds : List Canon) → (Canon.beqList cs ds = true ↔ cs = ds)
  | [], ds => by cases ds <;> simp [Canon.beqList]
  | c :: cs, ds => by cases ds <;> simp [Canon.beqList, Canon.beq_iff c, Canon.beqList_iff cs]
theorem Canon.beqFields_iff : (cs ds : List (String × Canon)) → (Canon.beqFields cs ds = true ↔ cs = ds)
  | [], ds => by cases ds <;> simp [Canon.beqFields]
  | (f, c) :: cs, ds => by
    cases ds with
    | nil => simp [Canon.beqFields]
    | cons d ds => obtain ⟨g, d⟩ := d; simp [Canon.beqFields, Canon.beq_iff c, Canon.beqFields_iff cs, and_assoc]
end

instance : DecidableEq Canon := fun c d =>
  if h : Canon.beq c d = true then isTrue ((Canon.beq_iff c d).mp h)
  else isFalse (fun e => h ((Canon.beq_iff c d).mpr e))

/-! ### the text of a structure -/

/-- `{"type":"array","items":` -/
def kwArray : List Char :=
  ['{', '"', 't', 'y', 'p', 'e', '"', ':', '"', 'a', 'r', 'r', 'a', 'y', '"', ',', '"', 'i', 't', 'e', 'm', 's', '"', ':']
/-- `{"type":"map","values":` -/
def kwMap : List Char :=
  ['{', '"', 't', 'y', 'p', 'e', '"', ':', '"', 'm', 'a', 'p', '"', ',', '"', 'v', 'a', 'l', 'u', 'e', 's', '"', ':']
/-- `{"name":"` -/
def kwName : List Char :=
  ['{', '"', 'n', 'a', 'm', 'e', '"', ':', '"']
/-- `","type":"enum","symbols":[` -/
def kwEnum : List Char :=
  ['"', ',', '"', 't', 'y', 'p', 'e', '"', ':', '"', 'e', 'n', 'u', 'm', '"', ',', '"', 's', 'y', 'm', 'b', 'o', 'l', 's', '"', ':', '[']
/-- `","type":"fixed","size":` -/
def kwFixed : List Char :=
  ['"', ',', '"', 't', 'y', 'p', 'e', '"', ':', '"', 'f', 'i', 'x', 'e', 'd', '"', ',', '"', 's', 'i', 'z', 'e', '"', ':']
/-- `","type":"record","fields":[` -/
def kwRecord : List Char :=
  ['"', ',', '"', 't', 'y', 'p', 'e', '"', ':', '"', 'r', 'e', 'c', 'o', 'r', 'd', '"', ',', '"', 'f', 'i', 'e', 'l', 'd', 's', '"', ':', '[']
/-- `","type":` -/
def kwFieldType : List Char :=
  ['"', ',', '"', 't', 'y', 'p', 'e', '"', ':']

/-- the symbols of an enum, quoted (RAW between the quotes, as `Spec.Pcf.print` writes a JSON
    string) and separated by commas -/
def symsCharsTail : List String → List Char
  | [] => []
  | s :: ss => ',' :: '"' :: s.toList ++ '"' :: symsCharsTail ss

def symsChars : List String → List Char
  | [] => []
  | s :: ss => '"' :: s.toList ++ '"' :: symsCharsTail ss

mutual

def Canon.chars : Canon → List Char
  | .prim p => '"' :: p.name.toList ++ ['"']
  | .ref n => '"' :: n.toList ++ ['"']
  | .array i => kwArray ++ i.chars ++ ['}']
  | .map v => kwMap ++ v.chars ++ ['}']
  | .union bs => '[' :: Canon.charsList bs ++ [']']
  | .enum n syms => kwName ++ n.toList ++ kwEnum ++ symsChars syms ++ [']', '}']
  | .fixed n size => kwName ++ n.toList ++ kwFixed ++ Nat.toDigits 10 size ++ ['}']
  | .record n fs => kwName ++ n.toList ++ kwRecord ++ Canon.charsFields fs ++ [']', '}']

def Canon.charsList : List Canon → List Char
  | [] => []
  | c :: cs => c.chars ++ Canon.charsTail cs

def Canon.charsTail : List Canon → List Char
  | [] => []
  | c :: cs => ',' :: c.chars ++ Canon.charsTail cs

def Canon.charsFields : List (String × Canon) → List Char
  | [] => []
  | (f, c) :: fs => kwName ++ f.toList ++ kwFieldType ++ c.chars ++ '}' :: Canon.charsFieldsTail fs

def Canon.charsFieldsTail : List (String × Canon) → List Char
  | [] => []
  | (f, c) :: fs =>
    ',' :: kwName ++ f.toList ++ kwFieldType ++ c.chars ++ '}' :: Canon.charsFieldsTail fs

end

def Canon.text (c : Canon) : String := String.ofList c.chars

theorem printTail_strs (syms : List String) :
    (printTail (syms.map Json.str)).toList = symsCharsTail syms := by
  induction syms with
  | nil => simp [printTail, symsCharsTail]
  | cons s ss ih => simp [printTail, print, symsCharsTail, ih]

theorem printList_strs (syms : List String) :
    (printList (syms.map Json.str)).toList = symsChars syms := by
  cases syms with
  | nil => simp [printList, symsChars]
  | cons s ss => simp [printList, print, symsChars, printTail_strs]


mutual

theorem print_toJson_chars : (c : Canon) → (print c.toJson).toList = c.chars
  | .prim _ | .ref _ => by simp [Canon.toJson, print, Canon.chars]
  | .array i => by
    simp [Canon.toJson, print, printMembers, printMembersTail, Canon.chars, kwArray,
      print_toJson_chars i]
  | .map v => by
    simp [Canon.toJson, print, printMembers, printMembersTail, Canon.chars, kwMap,
      print_toJson_chars v]
  | .union bs => by
    simp [Canon.toJson, print, Canon.chars, printList_toJson_chars bs]
  | .enum n syms => by
    simp [Canon.toJson, print, printMembers, printMembersTail, Canon.chars, kwName, kwEnum,
      printList_strs]
  | .fixed n size => by
    simp [Canon.toJson, print, printMembers, printMembersTail, Canon.chars, kwName, kwFixed]
  | .record n fs => by
    simp [Canon.toJson, print, printMembers, printMembersTail, Canon.chars, kwName, kwRecord,
      printList_toJsonFields_chars fs]

theorem printList_toJson_chars :
    (cs : List Canon) → (printList (Canon.toJsonList cs)).toList = Canon.charsList cs
  | [] => by simp [Canon.toJsonList, printList, Canon.charsList]
  | c :: cs => by
    simp [Canon.toJsonList, printList, Canon.charsList, print_toJson_chars c,
      printTail_toJson_chars cs]

theorem printTail_toJson_chars :
    (cs : List Canon) → (printTail (Canon.toJsonList cs)).toList = Canon.charsTail cs
  | [] => by simp [Canon.toJsonList, printTail, Canon.charsTail]
  | c :: cs => by
    simp [Canon.toJsonList, printTail, Canon.charsTail, print_toJson_chars c,
      printTail_toJson_chars cs]

theorem printList_toJsonFields_chars :
    (fs : List (String × Canon)) →
      (printList (Canon.toJsonFields fs)).toList = Canon.charsFields fs
  | [] => by simp [Canon.toJsonFields, printList, Canon.charsFields]
  | (f, c) :: fs => by
    simp [Canon.toJsonFields, printList, print, printMembers, printMembersTail, Canon.charsFields,
      kwName, kwFieldType, print_toJson_chars c, printTail_toJsonFields_chars fs]

theorem printTail_toJsonFields_chars :
    (fs : List (String × Canon)) →
      (printTail (Canon.toJsonFields fs)).toList = Canon.charsFieldsTail fs
  | [] => by simp [Canon.toJsonFields, printTail, Canon.charsFieldsTail]
  | (f, c) :: fs => by
    simp [Canon.toJsonFields, printTail, print, printMembers, printMembersTail,
      Canon.charsFieldsTail, kwName, kwFieldType, print_toJson_chars c,
      printTail_toJsonFields_chars fs]

end

theorem print_toJson (c : Canon) : print c.toJson = c.text := by
  rw [Canon.text, ← print_toJson_chars c, String.ofList_toList]

theorem Canon.toList_text (c : Canon) : c.text.toList = c.chars := by
  simp [Canon.text]

theorem parsingCanonicalForm_eq (j : Json) :
    parsingCanonicalForm j = (canonOf j).map Canon.text := by
  simp only [parsingCanonicalForm, canonOf, canon_factors, Option.map_map]
  congr 1
  funext c
  exact print_toJson c

/-! ### comparing a text with a string literal

The concrete documents compare the characters `Canon.chars` and convert to `String` last, for
the reason given at the head of `Lemmas/LiteralEq.lean` (which does the same with bytes). -/

theorem Canon.text_eq_ofList {c : Canon} {l : List Char} (h : c.chars = l) :
    c.text = String.ofList l :=
  congrArg String.ofList h

theorem parsingCanonicalForm_eq_ofList {j : Json} {l : List Char}
    (h : (canonOf j).map Canon.chars = some l) :
    parsingCanonicalForm j = some (String.ofList l) := by
  rw [parsingCanonicalForm_eq]
  cases hc : canonOf j with
  | none => rw [hc] at h; cases h
  | some c => rw [hc] at h; exact congrArg some (Canon.text_eq_ofList (Option.some.inj h))

end Avro.Spec.Pcf
