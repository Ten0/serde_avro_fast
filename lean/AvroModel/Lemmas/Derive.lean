import AvroModel.Lemmas.DeriveEqns
/-
How the builder state of `Impl/Derive.lean` evolves.  `Ext s s'`: `s'` extends `s` (nodes and
registrations of `s` kept).  `Good p s`: every key in a node of `s` and every registered index is a
node of `s` or one of the *pending* indices `p` (registered by a `find_or_build` that has not
returned).  `Post s s' res`: what every successful builder call establishes (`Builds.post`,
`Lemmas/DeriveRel.lean`) — `Ext s s'`, and `Good p s → Good p s'` with the returned keys `res` in
bounds or pending, for every `p` — with the rules by which it composes along a call.
`lookupKey_mono`, `lookupKey_det`: the fuel of `lookupKey` is only a bound.
-/
namespace Avro.Impl.Derive

open Avro Avro.Impl

structure Ext (s s' : BState) : Prop where
  size_le : s.nodes.size ≤ s'.nodes.size
  old : ∀ i, i < s.nodes.size → s'.nodes[i]? = s.nodes[i]?
  built : ∀ k i, s.built.lookup k = some i → s'.built.lookup k = some i

theorem Ext.refl (s : BState) : Ext s s := ⟨Nat.le_refl _, fun _ _ => rfl, fun _ _ h => h⟩

theorem Ext.trans {a b c : BState} (h1 : Ext a b) (h2 : Ext b c) : Ext a c :=
  ⟨Nat.le_trans h1.size_le h2.size_le,
   fun i hi => by rw [h2.old i (Nat.lt_of_lt_of_le hi h1.size_le), h1.old i hi],
   fun k i h => h2.built k i (h1.built k i h)⟩

theorem Ext.push (s : BState) (x : RawNode) : Ext s { s with nodes := s.nodes.push x } := by
  refine ⟨by simp, fun i hi => ?_, fun _ _ h => h⟩
  simp only [Array.getElem?_push]
  rw [if_neg (by omega)]

theorem Ext.set {s s2 : BState} (h : Ext s s2) (r : Nat) (x : RawNode) (hr : s.nodes.size ≤ r) :
    Ext s { s2 with nodes := s2.nodes.set! r x } := by
  refine ⟨by simpa [Array.set!_eq_setIfInBounds] using h.size_le, fun i hi => ?_, h.built⟩
  simp only [Array.set!_eq_setIfInBounds, Array.getElem?_setIfInBounds]
  rw [if_neg (by omega)]
  exact h.old i hi

theorem Ext.register (s : BState) (key : Key) (i : Nat) (hk : s.built.lookup key = none) :
    Ext s { s with built := (key, i) :: s.built } := by
  refine ⟨Nat.le_refl _, fun _ _ => rfl, fun k j h => ?_⟩
  simp only [List.lookup_cons]
  cases hb : k == key with
  | false => exact h
  | true =>
    have : k = key := by simpa using hb
    subst this
    rw [hk] at h
    cases h

def KeyOk (p : List Nat) (s : BState) (k : Nat) : Prop := k < s.nodes.size ∨ k ∈ p

structure Good (p : List Nat) (s : BState) : Prop where
  nodes : ∀ (i : Nat) (x : RawNode), s.nodes[i]? = some x → ∀ k, k ∈ x.type.children → KeyOk p s k
  built : ∀ key i, s.built.lookup key = some i → KeyOk p s i

theorem KeyOk.mono {p : List Nat} {s s' : BState} {k : Nat} (h : KeyOk p s k)
    (hs : s.nodes.size ≤ s'.nodes.size) : KeyOk p s' k := by
  cases h with
  | inl h => exact Or.inl (Nat.lt_of_lt_of_le h hs)
  | inr h => exact Or.inr h

theorem Good.push {p : List Nat} {s : BState} (h : Good p s) (x : RawNode)
    (hx : x.type.children = []) : Good p { s with nodes := s.nodes.push x } := by
  constructor
  · intro i y hy k hk
    simp only [Array.getElem?_push] at hy
    split at hy
    · cases hy
      rw [hx] at hk
      cases hk
    · exact (h.nodes i y hy k hk).mono (by simp)
  · intro key i hi
    exact (h.built key i hi).mono (by simp)

theorem Good.set {p : List Nat} {s : BState} (h : Good p s) (r : Nat) (x : RawNode)
    (hx : ∀ k, k ∈ x.type.children → KeyOk p s k) :
    Good p { s with nodes := s.nodes.set! r x } := by
  have hsz : s.nodes.size ≤ (s.nodes.set! r x).size := by simp [Array.set!_eq_setIfInBounds]
  constructor
  · intro i y hy k hk
    simp only [Array.set!_eq_setIfInBounds, Array.getElem?_setIfInBounds] at hy
    split at hy
    · split at hy
      · cases hy
        exact (hx k hk).mono hsz
      · cases hy
    · exact (h.nodes i y hy k hk).mono hsz
  · intro key i hi
    exact (h.built key i hi).mono hsz

theorem Good.register {p : List Nat} {s : BState} (h : Good p s) (key : Key) :
    Good (s.nodes.size :: p) { s with built := (key, s.nodes.size) :: s.built } := by
  have weaken : ∀ k, KeyOk p s k →
      KeyOk (s.nodes.size :: p) { s with built := (key, s.nodes.size) :: s.built } k := by
    intro k hk
    cases hk with
    | inl hk => exact Or.inl hk
    | inr hk => exact Or.inr (List.mem_cons_of_mem _ hk)
  constructor
  · intro i y hy k hk
    exact weaken k (h.nodes i y hy k hk)
  · intro k i hi
    simp only [List.lookup_cons] at hi
    split at hi
    · cases hi
      exact Or.inr List.mem_cons_self
    · exact weaken i (h.built k i hi)

theorem Good.unpend {p : List Nat} {s : BState} {n : Nat} (h : Good (n :: p) s)
    (hn : n < s.nodes.size) : Good p s := by
  have strengthen : ∀ k, KeyOk (n :: p) s k → KeyOk p s k := by
    intro k hk
    cases hk with
    | inl hk => exact Or.inl hk
    | inr hk =>
      cases List.mem_cons.1 hk with
      | inl e => exact Or.inl (e ▸ hn)
      | inr hk => exact Or.inr hk
  exact ⟨fun i y hy k hk => strengthen k (h.nodes i y hy k hk),
         fun key i hi => strengthen i (h.built key i hi)⟩

theorem Good.empty : Good [] ({} : BState) := by
  constructor
  · intro i x hx
    simp at hx
  · intro key i hi
    simp [List.lookup] at hi

theorem Good.keysInBounds {s : BState} (h : Good [] s) : SchemaMut.keysInBounds s.nodes = true := by
  unfold SchemaMut.keysInBounds
  rw [Array.all_eq_true]
  intro i hi
  rw [List.all_eq_true]
  intro k hk
  have := h.nodes i s.nodes[i] (by simp [hi]) k hk
  cases this with
  | inl h => simpa using h
  | inr h => cases h

structure Post (s s' : BState) (res : List Nat) : Prop where
  ext : Ext s s'
  good : ∀ p, Good p s → Good p s' ∧ ∀ k, k ∈ res → KeyOk p s' k

theorem Post.refl (s : BState) : Post s s [] :=
  ⟨Ext.refl s, fun _ h => ⟨h, fun _ hk => by cases hk⟩⟩

theorem Post.trans {a b c : BState} {r1 r2 : List Nat} (h1 : Post a b r1) (h2 : Post b c r2) :
    Post a c (r1 ++ r2) := by
  refine ⟨h1.ext.trans h2.ext, fun p hp => ?_⟩
  obtain ⟨g1, k1⟩ := h1.good p hp
  obtain ⟨g2, k2⟩ := h2.good p g1
  refine ⟨g2, fun k hk => ?_⟩
  cases List.mem_append.1 hk with
  | inl hk => exact (k1 k hk).mono h2.ext.size_le
  | inr hk => exact k2 k hk

theorem Post.weaken {a b : BState} {r r' : List Nat} (h : Post a b r) (hr : ∀ k, k ∈ r' → k ∈ r) :
    Post a b r' :=
  ⟨h.ext, fun p hp => ⟨(h.good p hp).1, fun k hk => (h.good p hp).2 k (hr k hk)⟩⟩

theorem Post.push (s : BState) (x : RawNode) (hx : x.type.children = []) :
    Post s { s with nodes := s.nodes.push x } [] :=
  ⟨Ext.push s x, fun _ hp => ⟨hp.push x hx, fun _ hk => by cases hk⟩⟩

theorem Post.pushKey (s : BState) (x : RawNode) (hx : x.type.children = []) :
    Post s { s with nodes := s.nodes.push x } [s.nodes.size] :=
  ⟨Ext.push s x, fun _ hp => ⟨hp.push x hx, fun k hk => by
    cases List.mem_singleton.1 hk
    exact Or.inl (by simp)⟩⟩

/-- Filling the slot reserved first with a node whose children were returned by the calls in
    between. -/
theorem Post.fill {s s2 s' : BState} {res : List Nat} {x : RawNode} {u : Unit} (h : Post s s2 res)
    (hset : setNode s.nodes.size x s2 = some (u, s')) (hx : ∀ k, k ∈ x.type.children → k ∈ res) :
    Post s s' [] := by
  obtain ⟨_, rfl⟩ := setNode_some hset
  refine ⟨h.ext.set _ x (Nat.le_refl _), fun p hp => ?_⟩
  obtain ⟨g, k⟩ := h.good p hp
  exact ⟨g.set _ x (fun c hc => k c (hx c hc)), fun _ hk => by cases hk⟩

theorem Post.register {s s2 : BState} (key : Key) (hk : s.built.lookup key = none)
    (h : Post { s with built := (key, s.nodes.size) :: s.built } s2 [])
    (hlt : s.nodes.size < s2.nodes.size) : Post s s2 [s.nodes.size] := by
  refine ⟨(Ext.register s key _ hk).trans h.ext, fun p hp => ?_⟩
  obtain ⟨g, _⟩ := h.good _ (hp.register key)
  refine ⟨g.unpend hlt, fun k hk => ?_⟩
  cases List.mem_singleton.1 hk
  exact Or.inl hlt

theorem Post.found (s : BState) (key : Key) (idx : Nat) (hk : s.built.lookup key = some idx) :
    Post s s [idx] :=
  ⟨Ext.refl s, fun _ hp => ⟨hp, fun k hm => by
    cases List.mem_singleton.1 hm
    exact hp.built key idx hk⟩⟩

/-- `build_logical_type`: the node the call created is relabelled, keeping its children. -/
theorem Post.relabel {s s2 : BState} (h : Post s s2 []) (node node' : RawNode)
    (hlt : s.nodes.size < s2.nodes.size) (hn : s2.nodes[s.nodes.size]? = some node)
    (hc : node'.type.children = node.type.children) :
    Post s { s2 with nodes := s2.nodes.set! s.nodes.size node' } [s.nodes.size] := by
  refine ⟨h.ext.set _ _ (Nat.le_refl _), fun p hp => ?_⟩
  obtain ⟨g, _⟩ := h.good p hp
  refine ⟨g.set _ _ (fun c hcm => g.nodes _ node hn c (hc ▸ hcm)), fun k hk => ?_⟩
  cases List.mem_singleton.1 hk
  exact Or.inl (by simpa [Array.set!_eq_setIfInBounds] using hlt)

theorem renameNode_children (t : RegularType) (nm : Name) :
    (renameNode t nm).children = t.children := by
  cases t <;> rfl

theorem lookupKey_succ (P : Prog) : ∀ n,
    (∀ t k, lookupKey P n t = some k → lookupKey P (n+1) t = some k) ∧
    (∀ ts k, lookupKeys P n ts = some k → lookupKeys P (n+1) ts = some k) := by
  intro n
  induction n with
  | zero =>
    refine ⟨fun t k h => by simp [lk_zero] at h, fun ts k h => ?_⟩
    cases ts with
    | nil => rw [lks_nil] at h ⊢; exact h
    | cons t ts => cases h
  | succ n ih =>
    obtain ⟨ih1, ih2⟩ := ih
    refine ⟨fun t k h => ?_, fun ts k h => ?_⟩
    · cases t with
      | vec t | option t | hashMap t | btreeMap t =>
        simp only [lk_vec, lk_option, lk_hashMap, lk_btreeMap, Option.map_eq_some_iff] at h ⊢
        obtain ⟨a, ha, rfl⟩ := h
        exact ⟨a, ih1 _ _ ha, rfl⟩
      | ptr t => rw [lk_ptr] at h ⊢; exact ih1 _ _ h
      | named id args =>
        rw [lk_named] at h ⊢
        cases hP : P[id]? with
        | none => simp [hP] at h
        | some d =>
          simp only [hP] at h ⊢
          cases hk : keyKind d <;> simp only [hk] at h ⊢
          case fwd f => exact ih1 _ _ h
          case self => exact h
          case generic fs =>
            simp only [Option.map_eq_some_iff] at h ⊢
            obtain ⟨a, ha, rfl⟩ := h
            exact ⟨a, ih2 _ _ ha, rfl⟩
      | _ => exact h
    · cases ts with
      | nil => rw [lks_nil] at h ⊢; exact h
      | cons t ts =>
        obtain ⟨_, a, b, hn, h1, h2, rfl⟩ := lks_cons_some h
        cases hn
        rw [lks_cons, ih1 _ _ h1, ih2 _ _ h2]

theorem lookupKey_mono (P : Prog) {f f' : Nat} {t : Ty} {k : Key} (hle : f ≤ f')
    (h : lookupKey P f t = some k) : lookupKey P f' t = some k := by
  induction hle with
  | refl => exact h
  | step _ ih => exact (lookupKey_succ P _).1 _ _ ih

theorem lookupKeys_mono (P : Prog) {f f' : Nat} {ts : List Ty} {k : Key} (hle : f ≤ f')
    (h : lookupKeys P f ts = some k) : lookupKeys P f' ts = some k := by
  induction hle with
  | refl => exact h
  | step _ ih => exact (lookupKey_succ P _).2 _ _ ih

theorem lookupKey_det (P : Prog) {n m : Nat} {t : Ty} {k k' : Key}
    (h : lookupKey P n t = some k) (h' : lookupKey P m t = some k') : k = k' := by
  have h1 := lookupKey_mono P (Nat.le_max_left n m) h
  rw [lookupKey_mono P (Nat.le_max_right n m) h'] at h1
  exact (Option.some.inj h1).symm

-- Nothing uses this macro.
set_option hygiene false in
/-- `h : (match call_f with | none => none | some (a, s) => rest_f a s) = some r`, the goal the
    same at the larger fuel: consume the call, leaving `h : rest_f a s = some r`. -/
local macro "mstep " ih:term : tactic =>
  `(tactic| (split at h
             · cases h
             rename_i heq
             rw [$ih heq]
             dsimp only))

end Avro.Impl.Derive
