import AvroModel.Lemmas.OcfReader
/-
One call of `next` of the container reader in terms of `nextInner` (`post`); `RdInv`
(Lemmas/OcfReader.lean) is kept by `next` (`rdInv_next`); no panic; and the two steps that are not
calls of their own (a datum read, a block left).
-/
namespace Avro.Impl.Ocf
open Avro Avro.Impl

variable {α : Type} {d : Decomp} {datum : RState → Except DeErr α × RState}

/-- what `next` does with the result of `nextInner` -/
def post (x : Except RdErr (Option α) × Reader) : Except RdErr (Option α) × Reader :=
  match x with
  | (.error e, r') =>
    if e = .io ∨ r'.st = .broken then (.error e, { r' with pretendEof := true }) else (.error e, r')
  | (.ok a, r') => (.ok a, r')

theorem next_eq_post (d : Decomp) (datum : RState → Except DeErr α × RState) (r : Reader)
    (h : r.pretendEof = false) :
    next d datum r = post (nextInner d datum (r.outer.rest.length + 4) r) := by
  unfold next post
  simp only [h, Bool.false_eq_true, if_false]
  generalize nextInner d datum (r.outer.rest.length + 4) r = x
  obtain ⟨res, r'⟩ := x
  cases res <;> rfl

theorem next_pretendEof (d : Decomp) (datum : RState → Except DeErr α × RState) (r : Reader)
    (h : r.pretendEof = true) : next d datum r = (.ok none, r) := by
  simp [next, h]

theorem next_of_inner_err {d : Decomp} {datum : RState → Except DeErr α × RState} {r r1 : Reader}
    {e : RdErr} (hpe : r.pretendEof = false)
    (h : nextInner d datum (r.outer.rest.length + 4) r = (.error e, r1))
    (hc : e = .io ∨ r1.st = .broken) :
    next d datum r = (.error e, { r1 with pretendEof := true }) := by
  rw [next_eq_post d datum r hpe, h]
  simp only [post, hc, if_true]

theorem next_of_inner_ok {d : Decomp} {datum : RState → Except DeErr α × RState} {r r1 : Reader}
    {a : Option α} (hpe : r.pretendEof = false)
    (h : nextInner d datum (r.outer.rest.length + 4) r = (.ok a, r1)) :
    next d datum r = (.ok a, r1) := by
  rw [next_eq_post d datum r hpe, h]; rfl

theorem post_spec (x : Except RdErr (Option α) × Reader) :
    (post x).1 = x.1 ∧ (RdInv x.2 → RdInv (post x).2) := by
  obtain ⟨(e | a), r'⟩ := x
  · simp only [post]
    split
    · exact ⟨rfl, fun h n hn => h n hn⟩
    · exact ⟨rfl, id⟩
  · exact ⟨rfl, id⟩

theorem rdInv_init (r : Reader) (h : r.st = .notInBlock) : RdInv r := by
  intro n hn; rw [h] at hn; cases hn

theorem rdInv_next (d : Decomp) (datum : RState → Except DeErr α × RState) (r : Reader)
    (hi : RdInv r) : RdInv (next d datum r).2 := by
  cases hp : r.pretendEof with
  | true => rw [next_pretendEof d datum r hp]; exact hi
  | false =>
    rw [next_eq_post d datum r hp]
    exact (post_spec _).2 ((nextInner_keeps d datum (r.outer.rest.length + 4) r).2.2 hi)

theorem mu_le_of_inv (r : Reader) (hi : RdInv r) : mu r ≤ r.outer.rest.length := by
  unfold mu
  split
  · exact Nat.le_refl _
  · rename_i n hn; exact hi n hn
  · exact Nat.zero_le _

/-- `.panic` is the model's out-of-fuel result; the read primitives never produce it. -/
theorem next_no_panic (d : Decomp) (datum : RState → Except DeErr α × RState)
    (hd : ∀ s, (datum s).1 ≠ .error .panic) (r : Reader) (hi : RdInv r) :
    (next d datum r).1 ≠ .error .panic := by
  cases hp : r.pretendEof with
  | true => rw [next_pretendEof d datum r hp]; nofun
  | false =>
    have hm := mu_le_of_inv r hi
    rw [next_eq_post d datum r hp, (post_spec _).1]
    exact nextInner_no_panic d datum hd (r.outer.rest.length + 4) r (by omega)

theorem next_datum_ok {r : Reader} {n : Nat} {a : α} {blk' : RState} (hst : r.st = .inBlock (n + 1))
    (hpe : r.pretendEof = false) (hd : datum r.blk = (.ok a, blk')) :
    next d datum r =
      (.ok (some a), { r with st := .inBlock n, blk := blk',
                              blkLimit := r.blkLimit - (r.blk.rest.length - blk'.rest.length) }) := by
  rw [next_eq_post d datum r hpe, nextInner_succ]
  simp only [hst, hd]
  rfl

/-- leaving a block is not a call of its own: `next` goes on from the block boundary -/
theorem next_leave_ok {r rn : Reader} (hst : r.st = .inBlock 0) (hpe : r.pretendEof = false)
    (hinv : r.after.length ≤ r.outer.rest.length) (hl : leaveBlock d r = (.ok (), rn))
    (hst' : rn.st = .notInBlock) (hpe' : rn.pretendEof = false)
    (hlen : rn.outer.rest.length ≤ r.after.length) : next d datum r = next d datum rn := by
  rw [next_eq_post d datum r hpe, next_eq_post d datum rn hpe', nextInner_succ]
  simp only [hst, hl]
  have hm : mu rn = rn.outer.rest.length := by simp [mu, hst']
  rw [nextInner_fuel d datum (r.outer.rest.length + 3) (rn.outer.rest.length + 4) rn
    (by omega) (by omega)]

end Avro.Impl.Ocf
