import AvroModel.Impl.Freeze
/-
The freeze event trace (`Impl/Freeze.lean`) in closed form, for `Theorems/C10.lean`: what
`phase1Node` / `phase1` / `phase2` emit, over the child keys `kids` and the phase-2 block `blk` of
a cell; the three shapes of a trace (`trace_cases`) with every event classified (`trace_mem`); and
where the writes stand (`phase1_filterMap`, `phase2_write_pos`).
-/
namespace Avro.Lemmas.Freeze
open Avro Avro.Impl Avro.Impl.Freeze

/-- index of a phase-1 write (the function `initialisedBefore` filters with). -/
def w1idx (e : Ev) : Option Nat := match e with | .write 1 i => some i | _ => none

theorem initialisedBefore_eq (evs : List Ev) (p : Nat) :
    initialisedBefore evs p = (evs.take p).filterMap w1idx := rfl

@[simp] theorem w1idx_write1 (i : Nat) : w1idx (.write 1 i) = some i := rfl
@[simp] theorem w1idx_write2 (i : Nat) : w1idx (.write 2 i) = none := rfl
@[simp] theorem w1idx_mkRef (k : Nat) : w1idx (.mkRef k) = none := rfl
@[simp] theorem w1idx_readKind (k : Nat) : w1idx (.readKind k) = none := rfl
@[simp] theorem w1idx_alloc (k : Nat) : w1idx (.alloc k) = none := rfl
@[simp] theorem w1idx_ret (b : Bool) : w1idx (.ret b) = none := rfl

/-- child keys of cell `i` as phase 1 sees them -/
def kids (S : SchemaMut) (i : Nat) : List Nat :=
  (S[i]?.map fun n => (freezeNode n).children).getD []

/-! ### phase 1, one node -/

theorem phase1Node_go_eq (len i : Nat) (cs : List Nat) (acc : List Ev) :
    phase1Node.go len i cs acc =
      (acc ++ (cs.takeWhile (· < len)).map Ev.mkRef ++
        (if cs.all (· < len) then [Ev.write 1 i] else []), cs.all (· < len)) := by
  induction cs generalizing acc with
  | nil => simp [phase1Node.go]
  | cons c rest ih =>
    by_cases hc : c < len
    · simp [phase1Node.go, hc, ih]
    · simp [phase1Node.go, hc]

theorem phase1Node_eq (len i : Nat) (cs : List Nat) :
    phase1Node len i cs =
      ((cs.takeWhile (· < len)).map Ev.mkRef ++
        (if cs.all (· < len) then [Ev.write 1 i] else []), cs.all (· < len)) := by
  unfold phase1Node
  rw [phase1Node_go_eq]
  simp

theorem phase1Node_snd (len i : Nat) (cs : List Nat) :
    (phase1Node len i cs).2 = cs.all (· < len) := by
  rw [phase1Node_eq]

theorem phase1Node_mem {len i : Nat} {cs : List Nat} {e : Ev}
    (h : e ∈ (phase1Node len i cs).1) :
    (∃ k, e = .mkRef k ∧ k < len ∧ k ∈ cs) ∨ (e = .write 1 i ∧ cs.all (· < len) = true) := by
  rw [phase1Node_eq] at h
  simp only [List.mem_append, List.mem_map] at h
  rcases h with ⟨k, hk, rfl⟩ | h
  · left
    refine ⟨k, rfl, ?_, (List.takeWhile_sublist _).subset hk⟩
    have := List.all_eq_true.mp List.all_takeWhile k hk
    simpa using this
  · right
    split at h
    · rename_i hall
      simp at h
      exact ⟨h, hall⟩
    · simp at h

theorem phase1Node_filterMap (len i : Nat) (cs : List Nat) :
    (phase1Node len i cs).1.filterMap w1idx = if (phase1Node len i cs).2 then [i] else [] := by
  rw [phase1Node_eq]
  simp only [List.filterMap_append]
  have : ((cs.takeWhile (· < len)).map Ev.mkRef).filterMap w1idx = [] := by
    simp [List.filterMap_eq_nil_iff]
  rw [this]
  split <;> simp

/-! ### phase 1, all nodes -/

theorem phase1_nil (S : SchemaMut) (len : Nat) : phase1 S len [] = ([], true) := by
  simp [phase1]

theorem phase1_cons (S : SchemaMut) (len i : Nat) (rest : List Nat) :
    phase1 S len (i :: rest) =
      if (phase1Node len i (kids S i)).2 = true then
        ((phase1Node len i (kids S i)).1 ++ (phase1 S len rest).1, (phase1 S len rest).2)
      else ((phase1Node len i (kids S i)).1, false) := by
  rw [phase1]
  unfold kids
  split
  · rename_i evs h; simp [h]
  · rename_i evs h; simp [h]

theorem phase1_mem {S : SchemaMut} {len : Nat} {idxs : List Nat} {e : Ev}
    (h : e ∈ (phase1 S len idxs).1) :
    (∃ k, e = .mkRef k ∧ k < len) ∨ (∃ i, e = .write 1 i ∧ i ∈ idxs) := by
  induction idxs with
  | nil => simp [phase1_nil] at h
  | cons i rest ih =>
    rw [phase1_cons] at h
    split at h
    · simp only [List.mem_append] at h
      rcases h with h | h
      · rcases phase1Node_mem h with ⟨k, rfl, hk, _⟩ | ⟨rfl, _⟩
        · exact .inl ⟨k, rfl, hk⟩
        · exact .inr ⟨i, rfl, by simp⟩
      · rcases ih h with h | ⟨j, rfl, hj⟩
        · exact .inl h
        · exact .inr ⟨j, rfl, by simp [hj]⟩
    · rcases phase1Node_mem h with ⟨k, rfl, hk, _⟩ | ⟨rfl, _⟩
      · exact .inl ⟨k, rfl, hk⟩
      · exact .inr ⟨i, rfl, by simp⟩

theorem phase1_ok_kids {S : SchemaMut} {len : Nat} {idxs : List Nat}
    (h : (phase1 S len idxs).2 = true) :
    ∀ i ∈ idxs, ∀ k ∈ kids S i, k < len := by
  induction idxs with
  | nil => simp
  | cons i rest ih =>
    rw [phase1_cons] at h
    split at h
    · rename_i hnode
      intro j hj k hk
      rcases List.mem_cons.1 hj with rfl | hj
      · rw [phase1Node_snd] at hnode
        simpa using List.all_eq_true.1 hnode k hk
      · exact ih h j hj k hk
    · cases h

theorem phase1_filterMap (S : SchemaMut) (len : Nat) (idxs : List Nat) :
    ∃ j, j ≤ idxs.length ∧ (phase1 S len idxs).1.filterMap w1idx = idxs.take j ∧
      ((phase1 S len idxs).2 = true → j = idxs.length) ∧
      ((phase1 S len idxs).2 = false → j < idxs.length) := by
  induction idxs with
  | nil => exact ⟨0, by simp [phase1_nil]⟩
  | cons i rest ih =>
    rcases ih with ⟨j, hj, heq, hok, hfail⟩
    rw [phase1_cons]
    split
    · rename_i hnode
      refine ⟨j + 1, by simp [hj], ?_, ?_, ?_⟩
      · simp [List.filterMap_append, phase1Node_filterMap, hnode, heq]
      · intro h; simp [hok h]
      · intro h; simpa using hfail h
    · rename_i hnode
      refine ⟨0, by simp, ?_, by simp, by simp⟩
      simp [phase1Node_filterMap, hnode]

/-! ### phase 2 -/

/-- the events phase 2 emits for cell `i` -/
def blk (S : SchemaMut) (i : Nat) : List Ev :=
  match S[i]?.map freezeNode with
  | some (.union vs) => vs.map Ev.readKind ++ [.write 2 i]
  | _ => []

theorem phase2_nil (S : SchemaMut) : phase2 S [] = [] := rfl

theorem phase2_cons (S : SchemaMut) (i : Nat) (rest : List Nat) :
    phase2 S (i :: rest) = blk S i ++ phase2 S rest := rfl

theorem blk_cases (S : SchemaMut) (i : Nat) :
    (∃ vs, S[i]?.map freezeNode = some (.union vs) ∧
      blk S i = vs.map Ev.readKind ++ [.write 2 i]) ∨ blk S i = [] := by
  unfold blk
  split
  · rename_i vs h; exact .inl ⟨vs, h, rfl⟩
  · exact .inr rfl

theorem kids_of_union {S : SchemaMut} {i : Nat} {vs : List Nat}
    (h : S[i]?.map freezeNode = some (.union vs)) : kids S i = vs := by
  unfold kids
  cases hS : S[i]? with
  | none => simp [hS] at h
  | some n =>
    simp only [hS, Option.map_some, Option.some.injEq] at h
    simp [h, Node.children]

theorem phase2_mem {S : SchemaMut} {idxs : List Nat} {e : Ev} (h : e ∈ phase2 S idxs) :
    ∃ i vs, i ∈ idxs ∧ S[i]?.map freezeNode = some (.union vs) ∧
      (e = .write 2 i ∨ ∃ j ∈ vs, e = .readKind j) := by
  induction idxs with
  | nil => simp [phase2_nil] at h
  | cons i rest ih =>
    rw [phase2_cons, List.mem_append] at h
    rcases h with h | h
    · rcases blk_cases S i with ⟨vs, hvs, hb⟩ | hb
      · rw [hb] at h
        simp only [List.mem_append, List.mem_map, List.mem_singleton] at h
        refine ⟨i, vs, by simp, hvs, ?_⟩
        rcases h with ⟨j, hj, rfl⟩ | rfl
        · exact .inr ⟨j, hj, rfl⟩
        · exact .inl rfl
      · simp [hb] at h
    · rcases ih h with ⟨j, vs, hj, hvs, he⟩
      exact ⟨j, vs, by simp [hj], hvs, he⟩

theorem phase2_filterMap (S : SchemaMut) (idxs : List Nat) :
    (phase2 S idxs).filterMap w1idx = [] := by
  rw [List.filterMap_eq_nil_iff]
  intro e he
  rcases phase2_mem he with ⟨i, vs, _, _, rfl | ⟨j, _, rfl⟩⟩ <;> rfl

def NoReadEnd (l : List Ev) : Prop := ∀ e, l.getLast? = some e → ∀ j, e ≠ .readKind j

theorem NoReadEnd_nil : NoReadEnd [] := by intro e h; simp at h

theorem NoReadEnd_append_write (l : List Ev) (p i : Nat) : NoReadEnd (l ++ [.write p i]) := by
  intro e h j
  simp at h
  subst h
  simp

theorem NoReadEnd_append {a b : List Ev} (ha : NoReadEnd a) (hb : NoReadEnd b) :
    NoReadEnd (a ++ b) := by
  intro e h j
  rw [List.getLast?_append] at h
  cases hb' : b.getLast? with
  | none => rw [hb'] at h; exact ha e (by simpa using h) j
  | some x => rw [hb'] at h; simp at h; subst h; exact hb _ hb' j

theorem NoReadEnd_of_not_mem {l : List Ev} (h : ∀ j, Ev.readKind j ∉ l) : NoReadEnd l := by
  intro e he j hj
  subst hj
  exact h j (List.mem_of_getLast? he)

theorem blk_noReadEnd (S : SchemaMut) (i : Nat) : NoReadEnd (blk S i) := by
  rcases blk_cases S i with ⟨vs, _, hb⟩ | hb
  · rw [hb]; exact NoReadEnd_append_write _ _ _
  · rw [hb]; exact NoReadEnd_nil

/-- positional description of phase 2: a `write 2 i` at position `p` is for a union cell and is
    immediately preceded by exactly the `readKind`s of its branch keys. -/
theorem phase2_write_pos {S : SchemaMut} {idxs : List Nat} {p i : Nat}
    (h : (phase2 S idxs)[p]? = some (.write 2 i)) :
    ∃ vs pre, i ∈ idxs ∧ S[i]?.map freezeNode = some (.union vs) ∧
      (phase2 S idxs).take p = pre ++ vs.map Ev.readKind ∧ NoReadEnd pre := by
  induction idxs generalizing p with
  | nil => simp [phase2_nil] at h
  | cons a rest ih =>
    rw [phase2_cons] at h ⊢
    by_cases hp : p < (blk S a).length
    · rw [List.getElem?_append_left hp] at h
      rcases blk_cases S a with ⟨vs, hvs, hb⟩ | hb
      · rw [hb] at h
        by_cases hp' : p < (vs.map Ev.readKind).length
        · rw [List.getElem?_append_left hp'] at h
          simp only [List.getElem?_map] at h
          cases hv : vs[p]? <;> simp [hv] at h
        · have hlen : p = vs.length := by
            rw [hb] at hp; simp at hp hp'; omega
          subst hlen
          simp at h
          subst h
          refine ⟨vs, [], by simp, hvs, ?_, NoReadEnd_nil⟩
          rw [hb]
          simp
      · rw [hb] at hp; simp at hp
    · have hp : (blk S a).length ≤ p := Nat.le_of_not_lt hp
      rw [List.getElem?_append_right hp] at h
      rcases ih h with ⟨vs, pre, hi, hvs, htake, hpre⟩
      refine ⟨vs, blk S a ++ pre, by simp [hi], hvs, ?_, NoReadEnd_append (blk_noReadEnd S a) hpre⟩
      rw [List.take_append, List.take_of_length_le hp, htake, List.append_assoc]

/-! ### the whole trace -/

theorem trace_empty {S : SchemaMut} (h : S.size = 0) : trace S = [.ret false] := by
  simp [trace, h]

theorem trace_fail {S : SchemaMut} (h0 : S.size ≠ 0)
    (h : (phase1 S S.size (List.range S.size)).2 = false) :
    trace S = .alloc S.size :: (phase1 S S.size (List.range S.size)).1 ++ [.ret false] := by
  unfold trace
  simp only [h0, if_false]
  rcases hp : phase1 S S.size (List.range S.size) with ⟨evs, ok⟩
  rw [hp] at h
  simp only at h
  subst h
  simp

theorem trace_ok {S : SchemaMut} (h0 : S.size ≠ 0)
    (h : (phase1 S S.size (List.range S.size)).2 = true) :
    trace S = (.alloc S.size :: (phase1 S S.size (List.range S.size)).1) ++
      phase2 S (List.range S.size) ++ [.ret true] := by
  unfold trace
  simp only [h0, if_false]
  rcases hp : phase1 S S.size (List.range S.size) with ⟨evs, ok⟩
  rw [hp] at h
  simp only at h
  subst h
  simp

theorem trace_cases (S : SchemaMut) :
    (S.size = 0 ∧ trace S = [.ret false]) ∨
    (S.size ≠ 0 ∧ (phase1 S S.size (List.range S.size)).2 = false ∧
      trace S = .alloc S.size :: (phase1 S S.size (List.range S.size)).1 ++ [.ret false]) ∨
    (S.size ≠ 0 ∧ (phase1 S S.size (List.range S.size)).2 = true ∧
      trace S = (.alloc S.size :: (phase1 S S.size (List.range S.size)).1) ++
        phase2 S (List.range S.size) ++ [.ret true]) := by
  by_cases h0 : S.size = 0
  · exact .inl ⟨h0, trace_empty h0⟩
  · cases h : (phase1 S S.size (List.range S.size)).2
    · exact .inr (.inl ⟨h0, rfl, trace_fail h0 h⟩)
    · exact .inr (.inr ⟨h0, rfl, trace_ok h0 h⟩)

theorem trace_mem {S : SchemaMut} {e : Ev} (h : e ∈ trace S) :
    e = .alloc S.size ∨ (∃ b, e = .ret b) ∨ (∃ k, e = .mkRef k ∧ k < S.size) ∨
    (∃ i, e = .write 1 i ∧ i < S.size) ∨
    ((phase1 S S.size (List.range S.size)).2 = true ∧
      ∃ i vs, i < S.size ∧ S[i]?.map freezeNode = some (.union vs) ∧
        (e = .write 2 i ∨ ∃ j ∈ vs, e = .readKind j)) := by
  have hp1 : e ∈ (phase1 S S.size (List.range S.size)).1 →
      (∃ k, e = .mkRef k ∧ k < S.size) ∨ (∃ i, e = .write 1 i ∧ i < S.size) := by
    intro h
    rcases phase1_mem h with h | ⟨i, rfl, hi⟩
    · exact .inl h
    · exact .inr ⟨i, rfl, List.mem_range.1 hi⟩
  rcases trace_cases S with ⟨_, ht⟩ | ⟨_, _, ht⟩ | ⟨_, hok, ht⟩
  · rw [ht] at h; simp at h; exact .inr (.inl ⟨false, h⟩)
  · rw [ht] at h
    simp only [List.cons_append, List.mem_cons, List.mem_append, List.not_mem_nil, or_false] at h
    rcases h with rfl | h | rfl
    · exact .inl rfl
    · rcases hp1 h with h | h
      · exact .inr (.inr (.inl h))
      · exact .inr (.inr (.inr (.inl h)))
    · exact .inr (.inl ⟨false, rfl⟩)
  · rw [ht] at h
    simp only [List.cons_append, List.mem_cons, List.mem_append, List.not_mem_nil, or_false] at h
    rcases h with rfl | (h | h) | rfl
    · exact .inl rfl
    · rcases hp1 h with h | h
      · exact .inr (.inr (.inl h))
      · exact .inr (.inr (.inr (.inl h)))
    · rcases phase2_mem h with ⟨i, vs, hi, hvs, he⟩
      exact .inr (.inr (.inr (.inr ⟨hok, i, vs, List.mem_range.1 hi, hvs, he⟩)))
    · exact .inr (.inl ⟨true, rfl⟩)

end Avro.Lemmas.Freeze
