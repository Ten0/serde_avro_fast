import AvroModel.Spec.ValidDoc
import AvroModel.Lemmas.RenderPcfBase
/-
C08 (the canonical form is the specification's): first half.

The specification's transformation (`Spec/Pcf.lean`, on JSON documents) read on the raw schema
tree `RawSchema` the parser builds from the document: `canonRaw`, `scanRaw`, `raw_of_json_spec`.

`raw_read_ind` (namespace `Avro.ValidParses`, as are `AttrsRead`, `OptRead`, `FieldsRead`) is the
induction principle for "`rawOfJson` read `raw` from `j`": every transfer of a walk of the
document to the raw tree (this one, and those of `Lemmas/ValidParsesRead.lean`) is an instance
of it.
-/
namespace Avro.PcfSpec
open Avro Avro.Impl Avro.Spec Avro.Spec.Pcf

/-! ### type names -/

def typeText : RawType → String
  | .null => "null" | .boolean => "boolean" | .int => "int" | .long => "long"
  | .float => "float" | .double => "double" | .bytes => "bytes" | .string => "string"
  | .array => "array" | .map => "map" | .record => "record" | .enum => "enum" | .fixed => "fixed"

theorem ofString_some {s t} (h : RawType.ofString s = some t) : s = typeText t := by
  unfold RawType.ofString at h
  split at h <;> first | (cases h; rfl) | cases h

theorem ofString_none {s} (h : RawType.ofString s = none) : isPrimitive s = false := by
  unfold RawType.ofString at h
  split at h <;> first | cases h | skip
  rename_i h1 h2 h3 h4 h5 h6 h7 h8 h9 h10 h11 h12 h13
  simp only [isPrimitive, primitiveNames, List.contains_cons, List.contains_nil, Bool.or_false,
    Bool.or_eq_false_iff, beq_eq_false_iff_ne, ne_eq]
  exact ⟨h1, h2, h3, h4, h5, h6, h7, h8⟩

/-! ### the transformation on raw schema trees -/

/-- what `canon` makes of a schema object, given the canonical forms of its parts -/
def canonParts (enc : Option String) (t : RawType) (name nsAttr : Option String)
    (symbols : Option (List String)) (size : Option Nat)
    (cfields : Option String → Option (List Json)) (citems cvalues : Option Json) : Option Json :=
  match t with
  | .array => citems.map fun c => .obj [("type", .str "array"), ("items", c)]
  | .map => cvalues.map fun c => .obj [("type", .str "map"), ("values", c)]
  | .enum =>
    match name, symbols with
    | some name, some syms =>
      some (.obj [("name", .str (fullnameText (fullnameOfDef name nsAttr enc))),
                  ("type", .str "enum"),
                  ("symbols", .arr (syms.map Json.str))])
    | _, _ => none
  | .fixed =>
    match name, size with
    | some name, some size =>
      some (.obj [("name", .str (fullnameText (fullnameOfDef name nsAttr enc))),
                  ("type", .str "fixed"),
                  ("size", .nat size)])
    | _, _ => none
  | .record =>
    match name with
    | none => none
    | some name =>
      (cfields (fullnameOfDef name nsAttr enc).1).map fun fs =>
        .obj [("name", .str (fullnameText (fullnameOfDef name nsAttr enc))),
              ("type", .str "record"),
              ("fields", .arr fs)]
  | t => some (.str (typeText t))

mutual

def canonRaw (enc : Option String) : RawSchema → Option Json
  | .type t =>
    if isPrimitive (typeText t) then some (.str (typeText t))
    else some (.str (fullnameText (fullnameOfRef (typeText t) enc)))
  | .ref r => some (.str (fullnameText (fullnameOfRef r enc)))
  | .union bs => (canonRawList enc bs).map Json.arr
  | .object a fields items values =>
    canonParts enc a.type a.name a.nsAttr a.symbols a.size
      (fun ns => canonRawOFields ns fields) (canonRawO enc items) (canonRawO enc values)

def canonRawO (enc : Option String) : Option RawSchema → Option Json
  | none => none
  | some r => canonRaw enc r

def canonRawOFields (enc : Option String) : Option (List (String × RawSchema)) → Option (List Json)
  | none => none
  | some fs => canonRawFields enc fs

def canonRawList (enc : Option String) : List RawSchema → Option (List Json)
  | [] => some []
  | r :: rest =>
    match canonRaw enc r, canonRawList enc rest with
    | some c, some cs => some (c :: cs)
    | _, _ => none

def canonRawFields (enc : Option String) : List (String × RawSchema) → Option (List Json)
  | [] => some []
  | (name, r) :: rest =>
    match canonRaw enc r, canonRawFields enc rest with
    | some c, some cs => some (.obj [("name", .str name), ("type", c)] :: cs)
    | _, _ => none

end

/-- what `scan` makes of a schema object, given the scans of its parts -/
def scanParts (enc : Option String) (t : RawType) (name nsAttr : Option String)
    (sfields : Option String → List Fullname → Option (List Fullname))
    (sitems svalues : List Fullname → Option (List Fullname)) (D : List Fullname) :
    Option (List Fullname) :=
  match t with
  | .array => sitems D
  | .map => svalues D
  | .enum | .fixed =>
    match name with
    | some name => some (fullnameOfDef name nsAttr enc :: D)
    | none => some D
  | .record =>
    match name with
    | some name => sfields (fullnameOfDef name nsAttr enc).1 (fullnameOfDef name nsAttr enc :: D)
    | none => some D
  | _ => some D

mutual

def scanRaw (enc : Option String) : RawSchema → List Fullname → Option (List Fullname)
  | .type t, D =>
    if isPrimitive (typeText t) then some D
    else if D.contains (fullnameOfRef (typeText t) enc) then some D else none
  | .ref r, D => if D.contains (fullnameOfRef r enc) then some D else none
  | .union bs, D => scanRawList enc bs D
  | .object a fields items values, D =>
    scanParts enc a.type a.name a.nsAttr (fun ns D => scanRawOFields ns fields D)
      (scanRawO enc items) (scanRawO enc values) D

def scanRawO (enc : Option String) : Option RawSchema → List Fullname → Option (List Fullname)
  | none, D => some D
  | some r, D => scanRaw enc r D

def scanRawOFields (enc : Option String) :
    Option (List (String × RawSchema)) → List Fullname → Option (List Fullname)
  | none, D => some D
  | some fs, D => scanRawFields enc fs D

def scanRawList (enc : Option String) : List RawSchema → List Fullname → Option (List Fullname)
  | [], D => some D
  | r :: rest, D =>
    match scanRaw enc r D with
    | some D' => scanRawList enc rest D'
    | none => none

def scanRawFields (enc : Option String) :
    List (String × RawSchema) → List Fullname → Option (List Fullname)
  | [], D => some D
  | (_, r) :: rest, D =>
    match scanRaw enc r D with
    | some D' => scanRawFields enc rest D'
    | none => none

end

/-! ### the fields of a record as the list of their types -/

theorem canonRawFields_eq (enc : Option String) (fs : List (String × RawSchema)) :
    canonRawFields enc fs =
      (canonRawList enc (fs.map (·.2))).map (RenderPcf.fieldDocs (fs.map (·.1))) := by
  induction fs with
  | nil => simp [canonRawFields, canonRawList, RenderPcf.fieldDocs]
  | cons x rest ih =>
    obtain ⟨name, r⟩ := x
    simp only [canonRawFields, List.map_cons, canonRawList, ih]
    cases canonRaw enc r <;> cases canonRawList enc (rest.map (·.2)) <;>
      simp [RenderPcf.fieldDocs]

theorem scanRawFields_eq (enc : Option String) (fs : List (String × RawSchema))
    (D : List Fullname) : scanRawFields enc fs D = scanRawList enc (fs.map (·.2)) D := by
  induction fs generalizing D with
  | nil => simp [scanRawFields, scanRawList]
  | cons x rest ih =>
    obtain ⟨name, r⟩ := x
    simp only [scanRawFields, List.map_cons, scanRawList]
    cases scanRaw enc r D <;> simp [ih]

/-! ### the stages of `rawObjectOfJson` -/

def stType (ms : List (String × Json)) : Except SchemaErr RawType :=
  match member ms "type" with
  | .error e => .error e
  | .ok (some (.str s)) => (match RawType.ofString s with
    | some t => .ok t
    | none => .error .json)
  | .ok _ => .error .json

/-! The string and number stages are `readStr` and `readNat` (`Lemmas/RenderSpelling.lean`). -/

def stFields (fuel : Nat) (ms : List (String × Json)) :
    Except SchemaErr (Option (List (String × RawSchema))) :=
  match member ms "fields" with
  | .error e => .error e
  | .ok none | .ok (some .null) => .ok none
  | .ok (some (.arr items)) => (match rawFieldsOfJson fuel items with
    | .ok fs => .ok (some fs)
    | .error e => .error e)
  | .ok (some _) => .error .json

def stSymbols (ms : List (String × Json)) : Except SchemaErr (Option (List String)) :=
  match member ms "symbols" with
  | .error e => .error e
  | .ok none | .ok (some .null) => .ok none
  | .ok (some (.arr items)) =>
    (match items.mapM (fun j => match j with | .str s => some s | _ => none) with
      | some l => .ok (some l)
      | none => .error .json)
  | .ok (some _) => .error .json

def stSchema (fuel : Nat) (ms : List (String × Json)) (key : String) :
    Except SchemaErr (Option RawSchema) :=
  match member ms key with
  | .error e => .error e
  | .ok none | .ok (some .null) => .ok none
  | .ok (some j) => (match rawOfJson fuel j with
    | .ok r => .ok (some r)
    | .error e => .error e)

theorem rawObjectOfJson_eq (fuel : Nat) (ms : List (String × Json)) :
    rawObjectOfJson (fuel + 1) ms = (do
      let ty ← stType ms
      let logicalType ← readStr ms "logicalType"
      let name ← readStr ms "name"
      let ns ← readStr ms "namespace"
      let fields ← stFields fuel ms
      let symbols ← stSymbols ms
      let items ← stSchema fuel ms "items"
      let values ← stSchema fuel ms "values"
      let size ← readNat ms "size" (2 ^ 64 - 1)
      let precision ← readNat ms "precision" (2 ^ 64 - 1)
      let scale ← readNat ms "scale" (2 ^ 32 - 1)
      pure (.object { type := ty, logicalType, name, nsAttr := ns, symbols, size, precision, scale }
        fields items values)) := by
  rw [rawObjectOfJson]
  rfl

/-- `andThen_ok` / `andThen_error` for the `do` blocks of the readers (`andThen r f` is `r >>= f`) -/
theorem bind_ok {α β : Type} {x : Except SchemaErr α} {f : α → Except SchemaErr β} {b : β}
    (h : x >>= f = .ok b) : ∃ a, x = .ok a ∧ f a = .ok b :=
  andThen_ok (r := x) (f := f) (by cases x <;> exact h)

theorem bind_err {α β : Type} {x : Except SchemaErr α} {f : α → Except SchemaErr β} {e : SchemaErr}
    (h : x >>= f = .error e) : x = .error e ∨ ∃ a, x = .ok a ∧ f a = .error e :=
  andThen_error (r := x) (f := f) (by cases x <;> exact h)

theorem stType_ok {ms t} (h : stType ms = .ok t) :
    ∃ s, strAttr "type" ms = some s ∧ RawType.ofString s = some t := by
  unfold stType at h
  split at h
  · cases h
  · rename_i s hm
    split at h
    · rename_i t' ho
      cases h
      exact ⟨s, by simp [strAttr, RenderPcf.attr_of_member hm], ho⟩
    · cases h
  · cases h

theorem natAttr_of_readNat {ms key max r} (h : readNat ms key max = .ok r) : natAttr key ms = r := by
  unfold readNat at h
  obtain ⟨x, hm, ho⟩ := bind_ok h
  unfold natAttr
  rw [RenderPcf.attr_of_member hm]
  unfold optNat at ho
  split at ho
  · cases ho; rfl
  · cases ho; rfl
  · split at ho
    · cases ho; rfl
    · cases ho
  · cases ho

theorem mapM_strings (items : List Json) :
    items.mapM (fun j => match j with | .str s => some s | _ => none) = strings items := by
  induction items with
  | nil => rfl
  | cons j rest ih =>
    rw [List.mapM_cons, ih]
    cases j <;> simp [strings]
    · cases strings rest <;> rfl

theorem stSymbols_ok {ms r} (h : stSymbols ms = .ok r) : symbolsAttr ms = r := by
  unfold stSymbols at h
  unfold symbolsAttr
  split at h
  · cases h
  · rename_i hm; cases h; rw [RenderPcf.attr_of_member hm]
  · rename_i hm; cases h; rw [RenderPcf.attr_of_member hm]
  · rename_i items hm
    rw [RenderPcf.attr_of_member hm]
    show strings items = r
    rw [← mapM_strings]
    split at h
    · rename_i l hl; cases h; exact hl
    · cases h
  · cases h

theorem stFields_ok {fuel ms r} (h : stFields fuel ms = .ok r) :
    (r = none ∧ (attr "fields" ms = none ∨ attr "fields" ms = some .null)) ∨
    ∃ its fs, attr "fields" ms = some (.arr its) ∧ rawFieldsOfJson fuel its = .ok fs ∧
      r = some fs := by
  unfold stFields at h
  split at h
  · cases h
  · rename_i hm; cases h; exact Or.inl ⟨rfl, Or.inl (RenderPcf.attr_of_member hm)⟩
  · rename_i hm; cases h; exact Or.inl ⟨rfl, Or.inr (RenderPcf.attr_of_member hm)⟩
  · rename_i items hm
    split at h
    · rename_i fs hf; cases h; exact Or.inr ⟨items, fs, RenderPcf.attr_of_member hm, hf, rfl⟩
    · cases h
  · cases h

theorem stSchema_ok {fuel ms key r} (h : stSchema fuel ms key = .ok r) :
    (r = none ∧ (attr key ms = none ∨ attr key ms = some .null)) ∨
    ∃ j x, attr key ms = some j ∧ rawOfJson fuel j = .ok x ∧ r = some x := by
  unfold stSchema at h
  split at h
  · cases h
  · rename_i hm; cases h; exact Or.inl ⟨rfl, Or.inl (RenderPcf.attr_of_member hm)⟩
  · rename_i hm; cases h; exact Or.inl ⟨rfl, Or.inr (RenderPcf.attr_of_member hm)⟩
  · rename_i j hnn hm
    split at h
    · rename_i x hx; cases h; exact Or.inr ⟨j, x, RenderPcf.attr_of_member hm, hx, rfl⟩
    · cases h

end Avro.PcfSpec

namespace Avro.ValidParses
open Avro Avro.Impl Avro.Spec Avro.Spec.Pcf Avro.PcfSpec

/-! ### induction on "`rawOfJson` read `raw` from `j`" -/

/-- the scalar attributes read from the members of an object (`scale` is left out: no walk of the
    raw tree in `Lemmas/` reads it) -/
structure AttrsRead (ms : List (String × Json)) (a : RawAttrs) : Prop where
  type : strAttr "type" ms = some (typeText a.type)
  logicalType : strAttr "logicalType" ms = a.logicalType
  name : strAttr "name" ms = a.name
  nsAttr : strAttr "namespace" ms = a.nsAttr
  symbols : symbolsAttr ms = a.symbols
  size : natAttr "size" ms = a.size
  precision : natAttr "precision" ms = a.precision

/-- an optional schema member: absent / `null` and nothing read, or read from its value -/
def OptRead (P : Json → RawSchema → Prop) (key : String) (ms : List (String × Json))
    (r : Option RawSchema) : Prop :=
  (r = none ∧ (attr key ms = none ∨ attr key ms = some .null)) ∨
  ∃ j x, attr key ms = some j ∧ isNull j = false ∧ P j x ∧ r = some x

/-- the same for the `fields` member, an array -/
def FieldsRead (PF : List Json → List (String × RawSchema) → Prop) (ms : List (String × Json))
    (r : Option (List (String × RawSchema))) : Prop :=
  (r = none ∧ (attr "fields" ms = none ∨ attr "fields" ms = some .null)) ∨
  ∃ its fs, attr "fields" ms = some (.arr its) ∧ PF its fs ∧ r = some fs

theorem rawOfJson_not_null {fuel : Nat} {j : Json} {raw : RawSchema}
    (h : rawOfJson fuel j = .ok raw) : isNull j = false := by
  cases j <;> first | rfl | (cases fuel <;> simp [rawOfJson] at h)

section
variable (PJ : Json → RawSchema → Prop) (PL : List Json → List RawSchema → Prop)
  (PF : List Json → List (String × RawSchema) → Prop)

theorem optRead_of {fuel ms key r}
    (ihJ : ∀ j raw, rawOfJson fuel j = .ok raw → PJ j raw)
    (h : stSchema fuel ms key = .ok r) : OptRead PJ key ms r := by
  rcases stSchema_ok h with ⟨rfl, ha⟩ | ⟨j, x, ha, hx, rfl⟩
  · exact Or.inl ⟨rfl, ha⟩
  · exact Or.inr ⟨j, x, ha, rawOfJson_not_null hx, ihJ j x hx, rfl⟩

theorem fieldsRead_of {fuel ms r}
    (ihF : ∀ js fs, rawFieldsOfJson fuel js = .ok fs → PF js fs)
    (h : stFields fuel ms = .ok r) : FieldsRead PF ms r := by
  rcases stFields_ok h with ⟨rfl, ha⟩ | ⟨its, fs, ha, hx, rfl⟩
  · exact Or.inl ⟨rfl, ha⟩
  · exact Or.inr ⟨its, fs, ha, ihF its fs hx, rfl⟩

theorem rawObject_read {fuel ms raw}
    (hobj : ∀ ms a fields items values, AttrsRead ms a → FieldsRead PF ms fields →
      OptRead PJ "items" ms items → OptRead PJ "values" ms values →
      PJ (.obj ms) (.object a fields items values))
    (ihJ : ∀ j raw, rawOfJson fuel j = .ok raw → PJ j raw)
    (ihF : ∀ js fs, rawFieldsOfJson fuel js = .ok fs → PF js fs)
    (h : rawObjectOfJson (fuel + 1) ms = .ok raw) : PJ (.obj ms) raw := by
  rw [rawObjectOfJson_eq] at h
  obtain ⟨ty, hty, h⟩ := bind_ok h
  obtain ⟨lt, hlt, h⟩ := bind_ok h
  obtain ⟨name, hname, h⟩ := bind_ok h
  obtain ⟨ns, hns, h⟩ := bind_ok h
  obtain ⟨fields, hfields, h⟩ := bind_ok h
  obtain ⟨symbols, hsymbols, h⟩ := bind_ok h
  obtain ⟨items, hitems, h⟩ := bind_ok h
  obtain ⟨values, hvalues, h⟩ := bind_ok h
  obtain ⟨size, hsize, h⟩ := bind_ok h
  obtain ⟨precision, hprec, h⟩ := bind_ok h
  obtain ⟨scale, -, h⟩ := bind_ok h
  cases h
  obtain ⟨s, hs, hos⟩ := stType_ok hty
  have := ofString_some hos
  subst this
  exact hobj ms _ fields items values
    ⟨hs, RenderPcf.strAttr_of_readStr hlt, RenderPcf.strAttr_of_readStr hname,
      RenderPcf.strAttr_of_readStr hns, stSymbols_ok hsymbols, natAttr_of_readNat hsize,
      natAttr_of_readNat hprec⟩
    (fieldsRead_of PF ihF hfields) (optRead_of PJ ihJ hitems) (optRead_of PJ ihJ hvalues)

theorem raw_read_ind
    (hty : ∀ s t, RawType.ofString s = some t → PJ (.str s) (.type t))
    (href : ∀ s, RawType.ofString s = none → PJ (.str s) (.ref s))
    (harr : ∀ js rs, PL js rs → PJ (.arr js) (.union rs))
    (hobj : ∀ ms a fields items values, AttrsRead ms a → FieldsRead PF ms fields →
      OptRead PJ "items" ms items → OptRead PJ "values" ms values →
      PJ (.obj ms) (.object a fields items values))
    (hnilL : PL [] [])
    (hconsL : ∀ j js r rs, PJ j r → PL js rs → PL (j :: js) (r :: rs))
    (hnilF : PF [] [])
    (hconsF : ∀ fm js name t r fs, strAttr "name" fm = some name → attr "type" fm = some t →
      PJ t r → PF js fs → PF (.obj fm :: js) ((name, r) :: fs))
    (fuel : Nat) :
    (∀ j raw, rawOfJson fuel j = .ok raw → PJ j raw) ∧
    (∀ js rs, rawListOfJson fuel js = .ok rs → PL js rs) ∧
    (∀ ms raw, rawObjectOfJson fuel ms = .ok raw → PJ (.obj ms) raw) ∧
    (∀ js fs, rawFieldsOfJson fuel js = .ok fs → PF js fs) := by
  induction fuel with
  | zero =>
    refine ⟨?_, ?_, ?_, ?_⟩
    · intro j raw h; simp [rawOfJson] at h
    · intro js rs h
      cases js with
      | nil => simp [rawListOfJson] at h; subst h; exact hnilL
      | cons j js => simp [rawListOfJson] at h
    · intro ms raw h; simp [rawObjectOfJson] at h
    · intro js fs h
      cases js with
      | nil => simp [rawFieldsOfJson] at h; subst h; exact hnilF
      | cons j js => simp [rawFieldsOfJson] at h
  | succ fuel ih =>
    obtain ⟨ihJ, ihL, ihO, ihF⟩ := ih
    refine ⟨?_, ?_, ?_, ?_⟩
    · intro j raw h
      cases j with
      | str s =>
        simp only [rawOfJson] at h
        cases ho : RawType.ofString s with
        | some t => rw [ho] at h; cases h; exact hty s t ho
        | none => rw [ho] at h; cases h; exact href s ho
      | arr items =>
        simp only [rawOfJson] at h
        split at h
        · rename_i l hl; cases h; exact harr _ _ (ihL _ _ hl)
        · cases h
      | obj ms =>
        simp only [rawOfJson] at h
        exact ihO _ _ h
      | _ => simp [rawOfJson] at h
    · intro js rs h
      cases js with
      | nil => simp [rawListOfJson] at h; subst h; exact hnilL
      | cons j js =>
        simp only [rawListOfJson] at h
        split at h
        · cases h
        · rename_i r hr
          split at h
          · cases h
          · rename_i rs' hrs
            cases h
            exact hconsL _ _ _ _ (ihJ _ _ hr) (ihL _ _ hrs)
    · intro ms raw h
      exact rawObject_read PJ PF hobj ihJ ihF h
    · intro js fs h
      cases js with
      | nil => simp [rawFieldsOfJson] at h; subst h; exact hnilF
      | cons j js =>
        cases j with
        | obj fm =>
          simp only [rawFieldsOfJson] at h
          split at h
          · rename_i name t hn ht
            split at h
            · cases h
            · rename_i r hr
              split at h
              · cases h
              · rename_i fs' hfs
                cases h
                exact hconsF fm js name t r fs' (by simp [strAttr, RenderPcf.attr_of_member hn])
                  (RenderPcf.attr_of_member ht) (ihJ _ _ hr) (ihF _ _ hfs)
          · cases h
        | _ => simp [rawFieldsOfJson] at h

end

end Avro.ValidParses

namespace Avro.PcfSpec
open Avro Avro.Impl Avro.Spec Avro.Spec.Pcf Avro.ValidParses

/-! ### the transformation read on the raw tree: an instance of `raw_read_ind` -/

def JSpec (j : Json) (raw : RawSchema) : Prop :=
  ∀ enc, canon enc j = canonRaw enc raw ∧ ∀ D, scan enc j D = scanRaw enc raw D

def LSpec (js : List Json) (rs : List RawSchema) : Prop :=
  ∀ enc, canonList enc js = canonRawList enc rs ∧ ∀ D, scanList enc js D = scanRawList enc rs D

def FSpec (js : List Json) (fs : List (String × RawSchema)) : Prop :=
  ∀ enc, canonFields enc js = canonRawFields enc fs ∧
    ∀ D, scanFields enc js D = scanRawFields enc fs D

theorem schemaAttr_spec {ms key r} (h : OptRead JSpec key ms r) (enc : Option String) :
    canonAttr enc key ms = canonRawO enc r ∧
    ∀ D, scanAttr enc key ms D = scanRawO enc r D := by
  rcases h with ⟨rfl, ha | ha⟩ | ⟨j, x, ha, -, hx, rfl⟩
  · simp [RenderPcf.canonAttr_eq, RenderPcf.scanAttr_eq, ha, canonRawO, scanRawO]
  · simp [RenderPcf.canonAttr_eq, RenderPcf.scanAttr_eq, ha, canonRawO, scanRawO, canon, scan]
  · obtain ⟨h1, h2⟩ := hx enc
    simp [RenderPcf.canonAttr_eq, RenderPcf.scanAttr_eq, ha, canonRawO, scanRawO, h1, h2]

theorem fieldsAttr_spec {ms r} (h : FieldsRead FSpec ms r) (enc : Option String) :
    fieldsAttr enc ms = canonRawOFields enc r ∧
    ∀ D, scanFieldsAttr enc ms D = scanRawOFields enc r D := by
  rcases h with ⟨rfl, ha | ha⟩ | ⟨its, fs, ha, hx, rfl⟩
  · simp [RenderPcf.fieldsAttr_eq, RenderPcf.scanFieldsAttr_eq, ha, canonRawOFields, scanRawOFields]
  · simp [RenderPcf.fieldsAttr_eq, RenderPcf.scanFieldsAttr_eq, ha, canonRawOFields, scanRawOFields]
  · obtain ⟨h1, h2⟩ := hx enc
    simp [RenderPcf.fieldsAttr_eq, RenderPcf.scanFieldsAttr_eq, ha, canonRawOFields, scanRawOFields, h1, h2]

theorem rawObject_spec {ms a fields items values} (ha : AttrsRead ms a)
    (hF : FieldsRead FSpec ms fields) (hI : OptRead JSpec "items" ms items)
    (hV : OptRead JSpec "values" ms values) : JSpec (.obj ms) (.object a fields items values) := by
  have hI := schemaAttr_spec hI
  have hV := schemaAttr_spec hV
  have hF := fieldsAttr_spec hF
  obtain ⟨hs, -, hname, hns, hsymbols, hsize, -⟩ := ha
  obtain ⟨ty, lt, name, ns, symbols, size, precision, scale⟩ := a
  intro enc
  constructor
  · simp only [canon, canonRaw, hs]
    cases ty <;>
      simp [typeText, isPrimitive, primitiveNames, canonParts, hname, hns, hsymbols, hsize,
        (hI enc).1, (hV enc).1, (hF _).1]
    all_goals (cases name <;> cases symbols <;> cases size <;> rfl)
  · intro D
    simp only [scan, scanRaw, hs]
    cases ty <;>
      simp [typeText, scanParts, hname, hns, (hI enc).2, (hV enc).2, (hF _).2]
    all_goals (cases name <;> rfl)

theorem raw_spec (fuel : Nat) :
    (∀ j raw, rawOfJson fuel j = .ok raw → JSpec j raw) ∧
    (∀ js rs, rawListOfJson fuel js = .ok rs → LSpec js rs) ∧
    (∀ ms raw, rawObjectOfJson fuel ms = .ok raw → JSpec (.obj ms) raw) ∧
    (∀ js fs, rawFieldsOfJson fuel js = .ok fs → FSpec js fs) := by
  refine raw_read_ind JSpec LSpec FSpec ?_ ?_ ?_ (fun _ _ _ _ _ => rawObject_spec) ?_ ?_ ?_ ?_ fuel
  · intro s t ho enc
    cases ofString_some ho
    exact ⟨by simp only [canon, canonRaw], fun D => by simp only [scan, scanRaw]⟩
  · intro s ho enc
    have hp := ofString_none ho
    exact ⟨by simp [canon, canonRaw, hp], fun D => by simp [scan, scanRaw, hp]⟩
  · intro js rs hL enc
    obtain ⟨h1, h2⟩ := hL enc
    exact ⟨by simp only [canon, canonRaw, h1], fun D => by simp only [scan, scanRaw, h2]⟩
  · intro enc; simp [canonList, canonRawList, scanList, scanRawList]
  · intro j js r rs hJ hL enc
    obtain ⟨h1, h2⟩ := hJ enc
    obtain ⟨h3, h4⟩ := hL enc
    refine ⟨?_, fun D => ?_⟩
    · simp only [canonList, canonRawList, h1, h3]
      cases canonRaw enc r <;> cases canonRawList enc rs <;> rfl
    · simp only [scanList, scanRawList, h2, h4]
      cases scanRaw enc r D <;> rfl
  · intro enc; simp [canonFields, canonRawFields, scanFields, scanRawFields]
  · intro fm js name t r fs hname hty hJ hF enc
    obtain ⟨h1, h2⟩ := hJ enc
    obtain ⟨h3, h4⟩ := hF enc
    refine ⟨?_, fun D => ?_⟩
    · simp only [canonFields, canonRawFields, hname, RenderPcf.canonAttr_eq, hty,
        Option.bind_some, h1, h3]
      cases canonRaw enc r <;> cases canonRawFields enc fs <;> rfl
    · simp only [scanFields, scanRawFields, RenderPcf.scanAttr_eq, hty, h2, h4]
      cases scanRaw enc r D <;> rfl

theorem raw_of_json_spec {fuel : Nat} {j : Json} {raw : RawSchema}
    (h : rawOfJson fuel j = .ok raw) (enc : Option String) :
    canon enc j = canonRaw enc raw ∧ ∀ D, scan enc j D = scanRaw enc raw D :=
  (raw_spec fuel).1 j raw h enc

end Avro.PcfSpec
