import AvroModel.Lemmas.DeM
/-
What the read primitives may do to the state, proved once: a relation `T` on states that allows
their moves (`StepRel T`) is kept by every read primitive (`Keeps T`, up to `readBlockLen`), with no
reference to the deserializer proper.  `NoPanic` is the instance the container reader uses;
`Lemmas/DeBounds.lean` carries `Keeps` over the whole deserializer.
-/
namespace Avro.Impl
open Avro

def errOf {α : Type} : Except DeErr α → Option DeErr
  | .ok _ => none
  | .error e => some e

/-- `T s e s'` is meant as: a run from `s` may end in `s'`, with the error `e` or (`none`) with a
    value.  The conditions say that `T` allows everything the read primitives do to the state,
    and every error but a panic.  Growing the scratch buffer, which only `read_slice` does, is
    asked for where `readSlice` is (`Keeps.readSlice`). -/
structure StepRel (T : RState → Option DeErr → RState → Prop) : Prop where
  err : ∀ s e, e ≠ .panic → T s (some e) s
  trans : ∀ {s s' s'' e}, T s none s' → T s' e s'' → T s e s''
  post : ∀ {s s' s'' e}, T s e s' → T s' none s'' → T s e s''
  forget : ∀ {s s' e}, T s e s' → T s none s'
  fill : ∀ s, T s none (fillBuf s).2
  advance : ∀ s k a, T s none { s with rest := s.rest.drop k, avail := a }
  limit : ∀ s l, T s none { s with limit := l }

theorem StepRel.imp {T : RState → Option DeErr → RState → Prop} (H : StepRel T) (c : Prop) :
    StepRel fun s e s' => c → T s e s' where
  err s e he _ := H.err s e he
  trans h h' hc := H.trans (h hc) (h' hc)
  post h h' hc := H.post (h hc) (h' hc)
  forget h hc := H.forget (h hc)
  fill s _ := H.fill s
  advance s k a _ := H.advance s k a
  limit s l _ := H.limit s l

theorem StepRel.refl {T : RState → Option DeErr → RState → Prop} (H : StepRel T) (s : RState) :
    T s none s := H.limit s s.limit

/-- every run of `m` is a move that `T` allows.  `Mono` of `Lemmas/DeBounds.lean` is `Keeps` at the
    relation of `Mono.rel` by unfolding; `NoPanic` is stated on the result and reached through
    `NoPanic.of_keeps`. -/
def Keeps (T : RState → Option DeErr → RState → Prop) {α : Type} (m : DeM α) : Prop :=
  ∀ s, T s (errOf (m s).1) (m s).2

section
variable {T : RState → Option DeErr → RState → Prop} (H : StepRel T)
include H

theorem Keeps.pure {α : Type} (a : α) : Keeps T (pure a : DeM α) := fun s => H.refl s

theorem Keeps.fail {α : Type} {e : DeErr} (he : e ≠ .panic) : Keeps T (DeM.fail e : DeM α) :=
  fun s => H.err s e he

theorem Keeps.bind {α β : Type} {m : DeM α} {f : α → DeM β} (hm : Keeps T m)
    (hf : ∀ a, m.Returns a → Keeps T (f a)) : Keeps T (m >>= f) := by
  intro s
  have := hm s
  rcases h : m s with ⟨(e | a), s'⟩ <;> rw [h] at this
  · rw [DeM.bind_error h]; exact this
  · rw [DeM.bind_ok h]; exact H.trans this (hf a ⟨s, s', h⟩ s')

theorem StepRel.after_fill {s : RState} {e : Option DeErr} {s'' : RState}
    (h : ∀ buf s', fillBuf s = (.ok buf, s') → T s' e s'') : T s e s'' := by
  obtain ⟨b, hb⟩ := fillBuf_ok s
  have hf := H.fill s
  rcases hfs : fillBuf s with ⟨(e' | buf), s'⟩ <;> rw [hfs] at hb hf
  · cases hb
  · exact H.trans hf (h buf s' hfs)

theorem Keeps.readSome (k : Nat) : Keeps T (readSome k) := by
  intro s
  unfold Impl.readSome
  simp only
  split <;>
  · split
    · exact H.refl s
    · refine H.after_fill fun buf s' hfs => ?_
      rw [hfs]
      exact H.trans (H.advance s' _ _) (H.limit _ _)

theorem Keeps.readExactR : ∀ (fuel k : Nat) (acc : Bytes), Keeps T (readExactR fuel k acc)
  | _, 0, acc => by unfold Impl.readExactR; exact Keeps.pure H _
  | 0, _ + 1, _ => by unfold Impl.readExactR; exact Keeps.fail H nofun
  | fuel + 1, k + 1, acc => by
    unfold Impl.readExactR
    refine Keeps.bind H (Keeps.readSome H _) fun got _ => ?_
    split
    · exact Keeps.fail H nofun
    · exact Keeps.readExactR fuel _ _

theorem Keeps.readExact (k : Nat) : Keeps T (readExact k) := Keeps.readExactR H k k []

theorem Keeps.varintBytewise (t : VarTy) : ∀ (fuel : Nat) (buf : Bytes), Keeps T (varintBytewise t fuel buf)
  | 0, buf => by
    unfold Impl.varintBytewise
    split
    · exact Keeps.pure H _
    · exact Keeps.fail H nofun
  | fuel + 1, buf => by
    unfold Impl.varintBytewise
    refine Keeps.bind H (Keeps.readSome H _) fun got _ => ?_
    split
    · exact Keeps.fail H nofun
    · simp only
      split
      · split
        · exact Keeps.pure H _
        · exact Keeps.fail H nofun
      · exact Keeps.varintBytewise t fuel _

theorem Keeps.varintProcessor (t : VarTy) : ∀ (fuel : Nat) (buf : Bytes), Keeps T (varintProcessor t fuel buf)
  | 0, buf => by
    unfold Impl.varintProcessor
    split
    · exact Keeps.pure H _
    · exact Keeps.fail H nofun
  | fuel + 1, buf => by
    unfold Impl.varintProcessor
    split
    · split
      · exact Keeps.pure H _
      · exact Keeps.fail H nofun
    · refine Keeps.bind H (Keeps.readSome H _) fun got _ => ?_
      split
      · split
        · exact Keeps.fail H nofun
        · split
          · exact Keeps.pure H _
          · exact Keeps.fail H nofun
      · split
        · exact Keeps.fail H nofun
        · exact Keeps.varintProcessor t fuel _

theorem Keeps.readVarint (t : VarTy) : Keeps T (readVarint t) := by
  intro s
  unfold Impl.readVarint
  split
  · split
    · exact H.err s _ nofun
    · exact H.advance s _ s.avail
  · refine H.after_fill fun buf s' hfs => ?_
    rw [hfs]
    dsimp only
    split
    · exact H.advance s' _ _
    · exact Keeps.varintBytewise H t 10 [] s'

theorem Keeps.readSlice
    (ha : ∀ s n, n ≤ s.maxAlloc → T s none { s with scratch := max s.scratch n }) (n : Nat) :
    Keeps T (readSlice n) := by
  intro s
  unfold Impl.readSlice
  split
  · split
    · exact H.err s _ nofun
    · exact H.advance s _ s.avail
  · refine H.after_fill fun buf s' hfs => ?_
    rw [hfs]
    dsimp only
    split
    · exact H.advance s' _ _
    · split
      · exact H.err s' _ nofun
      · next hn =>
        have := Keeps.readExactR H n n [] { s' with scratch := max s'.scratch n }
        refine H.trans (ha s' n (Nat.le_of_not_gt hn)) ?_
        rcases h2 : Impl.readExactR n n [] { s' with scratch := max s'.scratch n } with
          ⟨(e | b), s''⟩ <;> rw [h2] at this <;> exact this

theorem StepRel.skipBytes_go (fuel left : Nat) (st : RState) :
    T st none (skipBytes.go fuel left st) := by
  rw [skipBytes_go_eq fuel left []]
  exact H.forget (Keeps.readExactR H fuel left [] st)

theorem Keeps.skipBytes (n : Nat) : Keeps T (skipBytes n) := by
  intro s
  unfold Impl.skipBytes
  split
  · split
    · exact H.advance s _ s.avail
    · exact H.err s _ nofun
  · dsimp only
    split
    · exact H.skipBytes_go _ _ _
    · exact H.trans (H.skipBytes_go _ _ _) (H.err _ _ nofun)

theorem Keeps.readBlockLen (ignored : Bool) : ∀ fuel, Keeps T (readBlockLen ignored fuel)
  | 0 => by unfold Impl.readBlockLen; exact Keeps.fail H nofun
  | fuel + 1 => by
    unfold Impl.readBlockLen
    refine Keeps.bind H (Keeps.readVarint H _) fun len _ => ?_
    split
    · split
      · refine Keeps.bind H (Keeps.readVarint H _) fun sz _ => ?_
        split
        · exact Keeps.fail H nofun
        · exact Keeps.bind H (Keeps.skipBytes H _) fun _ _ => Keeps.readBlockLen ignored fuel
      · refine Keeps.bind H (Keeps.readVarint H _) fun sz _ => ?_
        split
        · exact Keeps.fail H nofun
        · exact Keeps.pure H _
    · exact Keeps.pure H _

end

def NoPanic {α : Type} (m : DeM α) : Prop := ∀ s, (m s).1 ≠ .error .panic

theorem NoPanic.rel : StepRel fun _ e _ => e ≠ some .panic where
  err _ _ he h := he (Option.some.inj h)
  trans _ h := h
  post h _ := h
  forget _ := nofun
  fill _ := nofun
  advance _ _ _ := nofun
  limit _ _ := nofun

theorem NoPanic.of_keeps {α : Type} {m : DeM α} (h : Keeps (fun _ e _ => e ≠ some .panic) m) :
    NoPanic m := fun s hp => h s (by rw [hp]; rfl)

end Avro.Impl
