import AvroModel.Lemmas.DeWalk
import AvroModel.Lemmas.DeStep
import AvroModel.Lemmas.SchemaKeys
/-
Lemmas for C04 (robustness of the datum deserializer model).  What the read primitives may do to
the state is proved once (`StepRel`, `Keeps`: `Lemmas/DeStep.lean`); input monotonicity, bounded
allocation and absence of panics are three instances, lifted to the whole deserializer by the walk
of `Lemmas/DeWalk.lean`, as are fuel monotonicity, the fuel bound and the nesting bound.  The block
reader facts for the sequence limit and the zero-budget rejections are proved directly.
-/
namespace Avro.Impl
open Avro

section
variable {T : RState → Option DeErr → RState → Prop} (H : StepRel T)
include H

theorem Keeps.readBigRaw : Keeps T readBigRaw := by
  have hbody : Keeps T bigDecimalBody := by
    unfold bigDecimalBody
    refine Keeps.bind H (Keeps.varintProcessor H _ _ _) fun l _ => ?_
    split
    · exact Keeps.fail H nofun
    · dsimp only
      split
      · exact Keeps.fail H nofun
      · refine Keeps.bind H (Keeps.readExact H _) fun _ _ =>
          Keeps.bind H (Keeps.varintProcessor H _ _ _) fun sc _ => ?_
        split
        · exact Keeps.fail H nofun
        · refine Keeps.bind H (fun s => H.refl s) fun left _ => ?_
          split
          · exact Keeps.fail H nofun
          · exact Keeps.pure H _
  have hclear : Keeps T (withLimitCleared bigDecimalBody) := fun s =>
    H.post (hbody s) (H.limit _ none)
  refine Keeps.bind H (Keeps.bind H (Keeps.readVarint H _) fun l _ => ?_) fun _ _ =>
    Keeps.bind H (fun s => H.limit s _) fun _ _ => hclear
  split
  · exact Keeps.fail H nofun
  · exact Keeps.pure H _

variable (ha : ∀ s n, n ≤ s.maxAlloc → T s none { s with scratch := max s.scratch n })
include ha

/-- `Rel R m m' := Agree A R m m' ∧ Keeps T m`: a property of one run rides on a walk of two.  Walked
    with `block`, the right conjunct is `Keeps T` for all seven functions (`Keeps.block`); walked with
    the steps, the left one relates the block at two amounts of fuel while the right one is carried
    along (`settled_all`). -/
theorem Keeps.logic (A : DeErr → Prop) :
    DeLogic (fun R m m' => DeM.Agree A R m m' ∧ Keeps T m) (fun _ => (· = ·)) (· = ·) fun _ => True :=
  have L := DeM.Agree.logicEq A
  { toOutRel := OutRel.eq
    pure := fun h => ⟨L.pure h, Keeps.pure H _⟩
    fail := ⟨L.fail, Keeps.fail H nofun⟩
    bind := fun h₁ h₂ =>
      ⟨L.bind h₁.1 fun a b hab ha => (h₂ a b hab ha).1, Keeps.bind H h₁.2 fun a ha =>
        have ⟨b, hab⟩ := h₁.1.witness ha
        (h₂ a b hab ha).2⟩
    varint := fun t => ⟨L.varint t, Keeps.readVarint H t⟩
    exact := fun k => ⟨L.exact k, Keeps.readExact H k⟩
    slice := fun n => ⟨L.slice n, Keeps.readSlice H ha n⟩
    blockLen := fun ign h => ⟨L.blockLen ign h, fun s => Keeps.readBlockLen H ign _ s⟩
    big := ⟨L.big, Keeps.readBigRaw H⟩ }

variable (T) in
structure Keeps.Block (ext : DeExt) (cfg : DeConfig) (S : Schema) (fuel : Nat) : Prop where
  de : ∀ node depth favor h, Keeps T (de ext cfg S fuel node depth favor h)
  tne : ∀ node depth vs, Keeps T (deTypeNameEnum ext cfg S fuel node depth vs)
  any : ∀ node depth h, Keeps T (deAny ext cfg S fuel node depth h)
  ign : ∀ node depth, Keeps T (deIgnored ext cfg S fuel node depth)
  seq : ∀ item depth ign eh mi bs acc, Keeps T (deSeqLoop ext cfg S fuel item depth ign eh mi bs acc)
  map : ∀ item depth ign h bs acc, Keeps T (deMapLoop ext cfg S fuel item depth ign h bs acc)
  recd : ∀ fields depth h acc, Keeps T (deRecordFields ext cfg S fuel fields depth h acc)

theorem Keeps.block (hp : ∀ s, T s (some .panic) s) (ext : DeExt) (cfg : DeConfig) (S : Schema)
    (fuel : Nat) : Keeps.Block T ext cfg S fuel :=
  have B := (Keeps.logic H ha fun _ => True).block (ext := ext) (cfg := cfg) .all
    ⟨.of_refl (fun _ => rfl) _, hp⟩ S fuel
  { de := fun _ _ _ _ => (B.de _ _ _ _ trivial).2
    tne := fun _ _ _ => (B.tne _ _ _ trivial).2
    any := fun _ _ _ => (B.any _ _ _ trivial).2
    ign := fun _ _ => (B.ign _ _ trivial).2
    seq := fun _ _ _ _ _ _ acc =>
      (B.seq _ _ _ _ _ _ acc acc trivial (fun _ => trivial) (.refl (fun _ => rfl) _)).2
    map := fun _ _ _ _ _ acc =>
      (B.map _ _ _ _ _ acc acc trivial (fun _ => trivial) (.refl (fun _ => ⟨rfl, rfl⟩) _)).2
    recd := fun _ _ _ acc => (B.recd _ _ _ acc acc trivial (.refl (fun _ => ⟨rfl, rfl⟩) _)).2 }

end

def Mono {α : Type} (m : DeM α) : Prop := ∀ s, (m s).2.rest <:+ s.rest

theorem Mono.fillBuf : Mono fillBuf := by
  intro s
  obtain ⟨n, a, sc, -, e⟩ := fillBuf_eq s
  rw [e]
  exact List.suffix_refl _

theorem Mono.consume (n : Nat) : Mono (consume n) := by
  intro s
  exact List.drop_suffix n s.rest

theorem Mono.rel : StepRel fun s _ s' => s'.rest <:+ s.rest where
  err _ _ _ := List.suffix_refl _
  trans h h' := h'.trans h
  post h h' := h'.trans h
  forget h := h
  fill := Mono.fillBuf
  advance s k _ := List.drop_suffix k s.rest
  limit _ _ := List.suffix_refl _

theorem Mono.logic : DeLogic (fun R m m' => DeM.Agree (fun _ => True) R m m' ∧ Mono m)
    (fun _ => (· = ·)) (· = ·) fun _ => True :=
  Keeps.logic Mono.rel (fun _ _ _ => List.suffix_refl _) _

theorem Mono.deAll (ext : DeExt) (cfg : DeConfig) (S : Schema) (fuel : Nat) :
    Keeps.Block (fun s _ s' => s'.rest <:+ s.rest) ext cfg S fuel :=
  Keeps.block Mono.rel (fun _ _ _ => List.suffix_refl _) (fun _ => List.suffix_refl _) ext cfg S fuel


/-- The scratch buffer is the only allocation driven by a length read from the input. -/
def MemLe (s s' : RState) : Prop := s'.maxAlloc = s.maxAlloc ∧ s'.scratch ≤ max s.scratch s.maxAlloc

theorem MemLe.refl (s : RState) : MemLe s s := ⟨rfl, Nat.le_max_left _ _⟩

theorem MemLe.of_eq {s s' : RState} (h1 : s'.maxAlloc = s.maxAlloc) (h2 : s'.scratch = s.scratch) :
    MemLe s s' := ⟨h1, by rw [h2]; exact Nat.le_max_left _ _⟩

theorem MemLe.trans {s s' s'' : RState} (h1 : MemLe s s') (h2 : MemLe s' s'') : MemLe s s'' := by
  unfold MemLe at *
  omega

theorem fillBuf_mem (s : RState) :
    (fillBuf s).2.maxAlloc = s.maxAlloc ∧ (fillBuf s).2.scratch = s.scratch := by
  obtain ⟨n, a, sc, -, e⟩ := fillBuf_eq s
  rw [e]
  exact ⟨rfl, rfl⟩

theorem MemLe.rel : StepRel fun s _ s' => MemLe s s' where
  err s _ _ := MemLe.refl s
  trans := MemLe.trans
  post := MemLe.trans
  forget h := h
  fill s := MemLe.of_eq (fillBuf_mem s).1 (fillBuf_mem s).2
  advance _ _ _ := MemLe.of_eq rfl rfl
  limit _ _ := MemLe.of_eq rfl rfl

theorem MemLe.deAll (ext : DeExt) (cfg : DeConfig) (S : Schema) (fuel : Nat) :
    Keeps.Block (fun s _ s' => MemLe s s') ext cfg S fuel :=
  Keeps.block MemLe.rel (fun s n h =>
    ⟨rfl, by show max s.scratch n ≤ max s.scratch s.maxAlloc; omega⟩) (fun s => MemLe.refl s)
    ext cfg S fuel


def Post {α : Type} (m : DeM α) (P : α → Prop) : Prop := ∀ s a s', m s = (.ok a, s') → P a

theorem Post.pure {α : Type} {P : α → Prop} {a : α} (h : P a) : Post (pure a : DeM α) P := by
  intro s b s' hb
  rw [← (DeM.pure_eq_ok.mp hb).1]; exact h

theorem Post.fail {α : Type} {P : α → Prop} (e : DeErr) : Post (DeM.fail e : DeM α) P :=
  fun _ _ _ hb => (DeM.fail_eq_ok.mp hb).elim

theorem Post.bind {α β : Type} {m : DeM α} {f : α → DeM β} {Q : α → Prop} {P : β → Prop}
    (hm : Post m Q) (hf : ∀ a, Q a → Post (f a) P) : Post (m >>= f) P := by
  intro s b s' hb
  obtain ⟨a, s1, h1, h2⟩ := DeM.bind_eq_ok.mp hb
  exact hf a (hm s a s1 h1) s1 b s' h2

theorem Post.bind_any {α β : Type} {m : DeM α} {f : α → DeM β} {P : β → Prop}
    (hf : ∀ a, Post (f a) P) : Post (m >>= f) P :=
  Post.bind (Q := fun _ => True) (fun _ _ _ _ => trivial) fun a _ => hf a

theorem readBlockLen_pos (ignored : Bool) :
    ∀ fuel, Post (readBlockLen ignored fuel) (fun r => ∀ l, r = some l → 1 ≤ l)
  | 0 => by unfold readBlockLen; exact Post.fail _
  | fuel + 1 => by
    unfold readBlockLen
    refine Post.bind_any fun len => ?_
    split
    · split
      · refine Post.bind_any fun sz => ?_
        split
        · exact Post.fail _
        · exact Post.bind_any fun _ => readBlockLen_pos ignored fuel
      · refine Post.bind_any fun sz => ?_
        split
        · exact Post.fail _
        · refine Post.pure fun l hl => ?_
          split at hl
          · cases hl
          · cases hl; omega
    · refine Post.pure fun l hl => ?_
      split at hl
      · cases hl
      · cases hl; omega

theorem hasMore_true (cfg : DeConfig) (ign : Bool) (bs bs' : BlockState) (s s' : RState)
    (h : hasMore cfg ign bs s = (.ok (true, bs'), s')) :
    (bs.nRead ≤ cfg.maxSeqSize → bs'.nRead ≤ cfg.maxSeqSize) ∧
    bs'.nRead + bs.current = bs.nRead + bs'.current + 1 ∧
    cfg.maxSeqSize - bs'.nRead + bs'.current + 1 = cfg.maxSeqSize - bs.nRead + bs.current := by
  unfold hasMore at h
  split at h
  · next c hc =>
    simp only [Prod.mk.injEq, Except.ok.injEq, true_and] at h
    obtain ⟨rfl, -⟩ := h
    simp only [hc]
    omega
  · next hc =>
    split at h
    · simp at h
    · simp at h
    · next l s1 h1 =>
      have hl := readBlockLen_pos _ _ _ _ _ h1 l rfl
      simp only at h
      split at h
      · simp at h
      · simp only [Prod.mk.injEq, Except.ok.injEq, true_and] at h
        obtain ⟨rfl, -⟩ := h
        simp only [hc]
        omega

theorem Post.hasMore (cfg : DeConfig) (ign : Bool) (bs : BlockState) :
    Post (hasMore cfg ign bs) (fun p => p.1 = true →
      (bs.nRead ≤ cfg.maxSeqSize → p.2.nRead ≤ cfg.maxSeqSize) ∧
      p.2.nRead + bs.current = bs.nRead + p.2.current + 1) :=
  fun s p s' h ht => by
    obtain ⟨more, bs'⟩ := p
    obtain ⟨hA, hB, -⟩ := hasMore_true cfg ign bs bs' s s' (by rw [h]; cases ht; rfl)
    exact ⟨hA, hB⟩

theorem deSeqLoop_length (ext : DeExt) (cfg : DeConfig) (S : Schema) :
    ∀ (fuel : Nat) (item : Node) (depth : Nat) (ign : Bool) (eh : Hint) (mi : Option Nat)
      (bs : BlockState) (acc : List Out),
      bs.nRead ≤ cfg.maxSeqSize → acc.length + bs.current = bs.nRead →
      Post (deSeqLoop ext cfg S fuel item depth ign eh mi bs acc)
        (fun items => items.length ≤ cfg.maxSeqSize)
  | 0, item, depth, ign, eh, mi, bs, acc => by
    intros; unfold deSeqLoop; exact Post.fail _
  | fuel + 1, item, depth, ign, eh, mi, bs, acc => by
    intro hn hinv
    have hdone : (acc.reverse).length ≤ cfg.maxSeqSize := by
      rw [List.length_reverse]; omega
    unfold deSeqLoop
    split
    · refine Post.bind_any fun (more, _) => ?_
      dsimp only
      split
      · exact Post.fail _
      · exact Post.pure hdone
    · refine Post.bind (Post.hasMore cfg ign bs) fun (more, bs') hp => ?_
      cases more
      · exact Post.pure hdone
      · obtain ⟨hA, hB⟩ := hp rfl
        dsimp only at hA hB
        exact Post.bind_any fun o => deSeqLoop_length ext cfg S fuel _ _ _ _ _ _ _ (hA hn)
          (by simp only [List.length_cons]; omega)

theorem deMapLoop_length (ext : DeExt) (cfg : DeConfig) (S : Schema) :
    ∀ (fuel : Nat) (item : Node) (depth : Nat) (ign : Bool) (h : Hint)
      (bs : BlockState) (acc : List (Out × Out)),
      bs.nRead ≤ cfg.maxSeqSize → acc.length + bs.current = bs.nRead →
      Post (deMapLoop ext cfg S fuel item depth ign h bs acc)
        (fun entries => entries.length ≤ cfg.maxSeqSize)
  | 0, item, depth, ign, h, bs, acc => by
    intros; unfold deMapLoop; exact Post.fail _
  | fuel + 1, item, depth, ign, h, bs, acc => by
    intro hn hinv
    unfold deMapLoop
    refine Post.bind (Post.hasMore cfg ign bs) fun (more, bs') hp => ?_
    cases more
    · exact Post.pure (by rw [List.length_reverse]; omega)
    · obtain ⟨hA, hB⟩ := hp rfl
      dsimp only at hA hB
      exact Post.bind_any fun _ => Post.bind_any fun _ => Post.bind_any fun _ =>
        Post.bind_any fun v => deMapLoop_length ext cfg S fuel _ _ _ _ _ _ (hA hn)
          (by simp only [List.length_cons]; omega)


mutual
/-- how many steps into the target `de` can take without descending into the datum (an option inside
    an option, the payload of a variant, …); `enum` and the `tuple` / `struct` variants weigh 2 because
    such a step takes two calls (see `settled_all`); enters the fuel bound `fuelBound` -/
def Hint.size : Hint → Nat
  | .option h => h.size + 1
  | .seq e => e.size + 1
  | .tuple _ e => e.size + 1
  | .map k v => k.size + v.size + 1
  | .struct fs => fieldsSize fs + 1
  | .enum vs => variantsSize vs + 2
  | _ => 1
def VariantHint.size : VariantHint → Nat
  | .unit => 1
  | .newtype h => h.size + 1
  | .tuple _ e => e.size + 2
  | .struct fs => fieldsSize fs + 2
def fieldsSize : List (String × Hint) → Nat
  | [] => 0
  | (_, h) :: r => h.size + fieldsSize r
def variantsSize : List (String × VariantHint) → Nat
  | [] => 0
  | (_, v) :: r => v.size + variantsSize r
end

theorem Hint.size_pos (h : Hint) : 1 ≤ h.size := by
  cases h <;> simp only [Hint.size] <;> omega

theorem lookupHint_size (n : String) : ∀ (fs : List (String × Hint)) (h : Hint),
    lookupHint n fs = some h → h.size ≤ fieldsSize fs
  | [], h => by simp [lookupHint]
  | (k, h') :: r, h => by
    simp only [lookupHint, fieldsSize]
    split
    · intro e; cases e; omega
    · intro e; have := lookupHint_size n r h e; omega


theorem lookupVariant_size (n : String) : ∀ (vs : List (String × VariantHint)) (v : VariantHint),
    lookupVariant n vs = some v → v.size ≤ variantsSize vs
  | [], v => by simp [lookupVariant]
  | (k, v') :: r, v => by
    simp only [lookupVariant, variantsSize]
    split
    · intro e; cases e; omega
    · intro e; have := lookupVariant_size n r v e; omega

theorem Hint.elem_size (h : Hint) : h.elem.size ≤ h.size := by
  cases h <;> simp only [Hint.elem, Hint.size] <;> omega

theorem Hint.inner_size (h : Hint) : h.inner.size ≤ h.size := by
  cases h <;> simp only [Hint.inner, Hint.size] <;> omega

theorem Hint.valFor_size (h : Hint) (n : Option String) : (h.valFor n).size ≤ h.size := by
  cases h <;> simp only [Hint.valFor, Hint.size] <;> try omega
  next fs =>
    cases n with
    | none => simp only [Hint.size]; omega
    | some n =>
      simp only
      cases hl : lookupHint n fs with
      | none => simp only [Option.getD, Hint.size]; omega
      | some h' => have := lookupHint_size n fs h' hl; simp only [Option.getD]; omega

theorem VariantHint.payload_size {v : VariantHint} {h : Hint} (hp : v.payload = some h) :
    h.size + 1 ≤ v.size := by
  cases v <;> cases hp <;> simp only [VariantHint.size, Hint.size] <;> omega

def nodeFields : Node → Nat
  | .record _ fs => fs.length
  | _ => 0

def maxFields (S : Schema) : Nat := (S.toList.map nodeFields).foldr max 0

theorem le_foldr_max : ∀ (l : List Nat) (x : Nat), x ∈ l → x ≤ l.foldr max 0
  | [], x, h => by cases h
  | a :: l, x, h => by
    simp only [List.foldr]
    cases h with
    | head => exact Nat.le_max_left _ _
    | tail _ h => exact Nat.le_trans (le_foldr_max l x h) (Nat.le_max_right _ _)

theorem nodeFields_le {S : Schema} {k : Nat} {n : Node} (h : S[k]? = some n) :
    nodeFields n ≤ maxFields S := by
  apply le_foldr_max
  rw [List.mem_map]
  refine ⟨n, ?_, rfl⟩
  rw [Array.mem_toList_iff]
  exact Array.mem_of_getElem? h


/-- `m'` agrees with `m` on every run of `m` that does not panic:
    `DeM.Agree (· ≠ .panic) (· = ·) m m'` with the equation unfolded (`Refines.iff_agree`), the form
    that `C04_fuel_mono` and `Lemmas/MetaDe.lean` apply to a state.  In `de_refines_le` the FIRST
    argument is the run with less fuel. -/
def Refines {α : Type} (m m' : DeM α) : Prop := ∀ s, (m s).1 ≠ .error .panic → m' s = m s

theorem Refines.iff_agree {α : Type} {m m' : DeM α} :
    Refines m m' ↔ DeM.Agree (· ≠ .panic) (· = ·) m m' :=
  ⟨fun h s hs => by
    rw [h s fun hp => hs _ hp rfl]
    exact SameOutcome.of_refl (fun _ => rfl) _,
   fun h s hs => (h s fun e he hp => hs (by rw [he, hp])).eq.symm⟩

theorem Refines.of_agree {α : Type} {m m' : DeM α}
    (h : DeM.Agree (· ≠ .panic) (· = ·) m m') : Refines m m' := Refines.iff_agree.2 h

theorem Refines.refl {α : Type} (m : DeM α) : Refines m m := .of_agree (.of_refl (fun _ => rfl) m)

theorem Refines.of_panic {α : Type} (m' : DeM α) : Refines (DeM.fail .panic) m' :=
  .of_agree (.of_fail (fun h => h rfl) m')

theorem Refines.bind {α β : Type} {m m' : DeM α} {f g : α → DeM β} (hm : Refines m m')
    (hf : ∀ a, Refines (f a) (g a)) : Refines (m >>= f) (m' >>= g) :=
  .of_agree ((Refines.iff_agree.1 hm).bind fun a _ hab _ => hab ▸ Refines.iff_agree.1 (hf a))

section
variable (ext : DeExt) (cfg : DeConfig) (S : Schema)

theorem de_refines_le {fuel fuel' : Nat} (hle : fuel ≤ fuel') (node : Node) (depth : Nat)
    (favor : Bool) (h : Hint) :
    Refines (de ext cfg S fuel node depth favor h) (de ext cfg S fuel' node depth favor h) := by
  obtain ⟨k, rfl⟩ := Nat.exists_eq_add_of_le' hle
  exact .of_agree (((DeM.Agree.logicEq _).blockAdd .all k
    (fun m' _ => .of_fail (fun h => h rfl) m') S fuel).de node depth favor h trivial)
end

/-- fuel that one level of the depth budget may need: `max_seq_size + 4` for an array or map (the
    step of `deAny`, the loop's `max_seq_size + 1` rounds, two more for the `de` call of a round),
    `maxFields S + 3` for a record.  A bound, not sharp: the sum stands where the maximum would do. -/
def levelCost (cfg : DeConfig) (S : Schema) : Nat := cfg.maxSeqSize + maxFields S + 4

/-- The fuel bound of C04: `levelCost` per level of the depth budget, and `2 * h.size + 2` for the
    calls that the target directs without descending (`settled_all`).  Independent of the input
    bytes; a bound, not sharp. -/
def fuelBound (cfg : DeConfig) (S : Schema) (h : Hint) (depth : Nat) : Nat :=
  depth * levelCost cfg S + 2 * h.size + 2


/-- the child keys of `n` are in bounds of `S`, and `n` is no wider than the widest record of `S`
    (true of every node of a schema whose keys are in bounds, `nodeOK_of_get`); not the
    serializer's `Avro.NodeOK` -/
def NodeOK (S : Schema) (n : Node) : Prop :=
  (∀ k ∈ n.children, k < S.size) ∧ nodeFields n ≤ maxFields S

theorem nodeOK_of_get {S : Schema} (hS : S.keysInBounds = true) {k : Nat} {n : Node}
    (h : S[k]? = some n) : NodeOK S n :=
  ⟨Schema.children_lt hS h, nodeFields_le h⟩

/-- `m'` does exactly what `m` does, and `m` does not panic if `c`.  (With `c := False` this is
    `m = m'`; with `c := True` it adds `NoPanic m`: one induction serves both.) -/
abbrev Settled (c : Prop) {α β : Type} (R : α → β → Prop) (m : DeM α) (m' : DeM β) : Prop :=
  DeM.Agree (fun _ => True) R m m' ∧ Keeps (fun _ e _ => c → e ≠ some .panic) m

/-- `NodeOK` with the key bound under `c` (as in `Settled`) -/
def NodeOKIf (c : Prop) (S : Schema) (n : Node) : Prop :=
  nodeFields n ≤ maxFields S ∧ (c → ∀ k ∈ n.children, k < S.size)

theorem NodeOK.toIf {c : Prop} {S : Schema} {n : Node} (h : NodeOK S n) : NodeOKIf c S n :=
  ⟨h.2, fun _ => h.1⟩

section
variable (ext : DeExt) (cfg : DeConfig) (S : Schema)

/-- Above a bound that grows by at least `W` per level of the depth budget (`D`), one more unit
    of fuel changes nothing, and (`c`) for a schema whose keys are in bounds there is no panic.
    The measure of a block loop is what `hasMore_true` decreases; that of the record loop is the
    number of fields left.  The offsets (`+ 2` for `de`, `+ 4` for `deTypeNameEnum`, `+ 0` for
    `deAny`, `+ 3` for `deIgnored` and the loops) are the least for which each callee's bound follows
    from the caller's; a step into the hint may take two calls (`de` → `deTypeNameEnum` → `de`, with
    the payload hint re-wrapped: `VariantHint.payload_size`), hence `2 * h.size` and the weight 2 of
    `enum` and of the `tuple` / `struct` variants in `Hint.size`.  `hW` spells `levelCost` out because
    `omega` has to see its summands. -/
theorem settled_all (c : Prop) (hS : c → S.keysInBounds = true) (W : Nat) (D : Nat → Nat)
    (hW : cfg.maxSeqSize + maxFields S + 4 ≤ W) (hD : ∀ d, D d + W ≤ D (d + 1)) : ∀ fuel : Nat,
    (∀ node depth favor h, NodeOKIf c S node → D depth + 2 * h.size + 2 ≤ fuel →
      Settled c (· = ·) (de ext cfg S fuel node depth favor h)
        (de ext cfg S (fuel + 1) node depth favor h)) ∧
    (∀ node depth vs, NodeOKIf c S node → D depth + 2 * variantsSize vs + 4 ≤ fuel →
      Settled c (· = ·) (deTypeNameEnum ext cfg S fuel node depth vs)
        (deTypeNameEnum ext cfg S (fuel + 1) node depth vs)) ∧
    (∀ node depth h, NodeOKIf c S node → D depth + 2 * h.size ≤ fuel →
      Settled c (· = ·) (deAny ext cfg S fuel node depth h)
        (deAny ext cfg S (fuel + 1) node depth h)) ∧
    (∀ node depth, NodeOKIf c S node → D depth + 3 ≤ fuel →
      Settled c (· = ·) (deIgnored ext cfg S fuel node depth)
        (deIgnored ext cfg S (fuel + 1) node depth)) ∧
    (∀ item depth ign eh mi bs acc, NodeOKIf c S item →
      D depth + 2 * eh.size + 3 + (cfg.maxSeqSize - bs.nRead + bs.current) ≤ fuel →
      Settled c (ListRel (· = ·)) (deSeqLoop ext cfg S fuel item depth ign eh mi bs acc)
        (deSeqLoop ext cfg S (fuel + 1) item depth ign eh mi bs acc)) ∧
    (∀ item depth ign h bs acc, NodeOKIf c S item →
      D depth + 2 * h.size + 3 + (cfg.maxSeqSize - bs.nRead + bs.current) ≤ fuel →
      Settled c (ListRel (EntryRel (· = ·))) (deMapLoop ext cfg S fuel item depth ign h bs acc)
        (deMapLoop ext cfg S (fuel + 1) item depth ign h bs acc)) ∧
    (∀ fields depth h acc, (c → ∀ f ∈ fields, f.2 < S.size) →
      D depth + 2 * h.size + 2 + fields.length ≤ fuel →
      Settled c (ListRel (EntryRel (· = ·))) (deRecordFields ext cfg S fuel fields depth h acc)
        (deRecordFields ext cfg S (fuel + 1) fields depth h acc))
  | 0 =>
    ⟨by intros; omega, by intros; omega, fun _ _ h _ _ => by have := h.size_pos; omega,
      by intros; omega, by intros; omega, by intros; omega, by intros; omega⟩
  | fuel + 1 => by
    obtain ⟨ih1, ih2, ih3, ih4, ih5, ih6, ih7⟩ := settled_all c hS W D hW hD fuel
    have L : DeLogic (Settled c) (fun _ => (· = ·)) (· = ·) fun _ => True := Keeps.logic (NoPanic.rel.imp c) (fun _ _ _ _ => nofun) _
    have hget {k : Nat} {n : Node} (h : S[k]? = some n) : NodeOKIf c S n :=
      ⟨nodeFields_le h, fun hc => (nodeOK_of_get (hS hc) h).1⟩
    -- a missing key: the same panic on both sides, and excluded when the keys are in bounds
    have hmiss {α β : Type} {R : α → β → Prop} {k : Nat} (hk : c → k < S.size)
        (h : S[k]? = none) : Settled c R (DeM.fail .panic) (DeM.fail .panic) :=
      ⟨fun _ _ => ⟨rfl, rfl⟩, fun _ hc => by
        rw [Array.getElem?_eq_getElem (hk hc)] at h; cases h⟩
    refine ⟨?_, ?_, ?_, ?_, ?_, ?_, ?_⟩
    · intro node depth favor h hn hb
      have hsz := h.size_pos
      refine L.de_step node depth favor h (fun k hk => hmiss fun hc => hn.2 hc k hk)
        (fun _ => ih4 _ _ hn (by omega)) (ih3 _ _ _ hn (by omega)) ?_ ?_ ?_ ?_ ?_
      · rintro inner rfl
        exact ih1 _ _ _ _ hn (by simp only [Hint.size] at hb; omega)
      · rintro inner k variant d b rfl _ hv rfl
        have := hD d
        exact ih1 _ _ _ _ (hget hv) (by simp only [Hint.size] at hb; omega)
      · rintro vs d rfl (rfl | rfl)
        · exact ih2 _ _ _ hn (by simp only [Hint.size] at hb; omega)
        · have := hD d
          exact ih2 _ _ _ hn (by simp only [Hint.size] at hb; omega)
      · rintro vs k variant d rfl _ hv rfl
        have := hD d
        exact ih2 _ _ _ (hget hv) (by simp only [Hint.size] at hb; omega)
      · rintro vs d rfl rfl
        have := hD d
        exact ih1 _ _ _ _ hn (by simp only [Hint.size]; omega)
    · intro node depth vs hn hb
      refine L.tne_step node depth vs (fun _ => ih4 _ _ hn (by omega)) fun v h hs hp => ?_
      have := lookupVariant_size _ _ _ hs
      have := v.payload_size hp
      exact ih1 _ _ _ _ hn (by omega)
    · intro node depth h hn hb
      have hsz := h.size_pos
      refine L.any_step node depth h (fun k hk => hmiss fun hc => hn.2 hc k hk) ?_ ?_ ?_ ?_
      · rintro k item d rfl hk rfl
        have := hD d
        have := h.elem_size
        exact ih5 _ _ _ _ _ _ _ (hget hk) (by simp only [Nat.sub_zero, Nat.add_zero]; omega)
      · rintro k item d rfl hk rfl
        have := hD d
        exact ih6 _ _ _ _ _ _ (hget hk) (by simp only [Nat.sub_zero, Nat.add_zero]; omega)
      · rintro k variant d _ hv rfl
        have := hD d
        exact ih3 _ _ _ (hget hv) (by omega)
      · rintro nm fields d rfl rfl
        have := hD d
        have hlen := hn.1
        simp only [nodeFields] at hlen
        exact ih7 _ _ _ _ (fun hc f hf => hn.2 hc f.2 (List.mem_map.mpr ⟨f, hf, rfl⟩)) (by omega)
    · intro node depth hn hb
      refine L.ign_step node depth (fun k hk => hmiss fun hc => hn.2 hc k hk) ?_ ?_
        (ih3 _ _ _ hn (by simp only [Hint.size]; omega))
      · rintro k item d rfl hk rfl
        have := hD d
        exact ih5 _ _ _ _ _ _ _ (hget hk)
          (by simp only [Nat.sub_zero, Nat.add_zero, Hint.size]; omega)
      · rintro k item d rfl hk rfl
        have := hD d
        exact ih6 _ _ _ _ _ _ (hget hk)
          (by simp only [Nat.sub_zero, Nat.add_zero, Hint.size]; omega)
    · intro item depth ign eh mi bs acc hn hb
      refine L.seq_step item depth ign eh mi bs (.refl (fun _ => rfl) acc) (fun _ => trivial)
        (ih1 _ _ _ _ hn (by omega)) ?_
      rintro bs' o _ ⟨s, s', h1⟩ rfl
      obtain ⟨-, -, hr⟩ := hasMore_true _ _ _ _ _ _ h1
      exact ih5 _ _ _ _ _ _ _ hn (by omega)
    · intro item depth ign h bs acc hn hb
      refine L.map_step item depth ign h bs (.refl (fun _ => ⟨rfl, rfl⟩) acc) (fun _ => trivial)
        (fun name => ih1 _ _ _ _ hn (by have := h.valFor_size name; omega)) ?_
      rintro bs' e e' ⟨s, s', h1⟩ he
      obtain rfl : e = e' := Prod.ext he.1 he.2
      obtain ⟨-, -, hr⟩ := hasMore_true _ _ _ _ _ _ h1
      exact ih6 _ _ _ _ _ _ hn (by omega)
    · intro fields depth h acc hf hb
      cases fields with
      | nil => rw [deRecordFields_nil, deRecordFields_nil]; exact L.pure (.refl (fun _ => ⟨rfl, rfl⟩) _)
      | cons f rest =>
        obtain ⟨name, k⟩ := f
        simp only [List.length_cons] at hb
        refine L.recd_step name k rest depth h (hmiss fun hc => hf hc _ List.mem_cons_self)
          (fun fnode hk => ih1 _ _ _ _ (hget hk) (by have := h.valFor_size (some name); omega)) ?_
        rintro e e' he
        obtain rfl : e = e' := Prod.ext he.1 he.2
        exact ih7 _ _ _ _ (fun hc f hf' => hf hc f (List.mem_cons_of_mem _ hf')) (by omega)

theorem de_settled (c : Prop) (hS : c → S.keysInBounds = true) (fuel : Nat) (node : Node)
    (depth : Nat) (favor : Bool) (h : Hint) (hn : NodeOKIf c S node)
    (hf : fuelBound cfg S h depth ≤ fuel) :
    Settled c (· = ·) (de ext cfg S fuel node depth favor h)
      (de ext cfg S (fuel + 1) node depth favor h) :=
  (settled_all ext cfg S c hS (levelCost cfg S) (fun d => d * levelCost cfg S) (Nat.le_refl _)
    (fun d => by simp only [Nat.succ_mul]; exact Nat.le_refl _) fuel).1 node depth favor h hn hf
end

def NeverOk {α : Type} (m : DeM α) : Prop := Post m fun _ => False

theorem NeverOk.ne_ok {α : Type} {m : DeM α} (h : NeverOk m) (s : RState) (a : α) :
    (m s).1 ≠ .ok a := fun e => h s a (m s).2 (Prod.ext e rfl)

theorem NeverOk.fail {α : Type} (e : DeErr) : NeverOk (DeM.fail e : DeM α) := Post.fail e

theorem NeverOk.bind_left {α β : Type} {m : DeM α} (f : α → DeM β) (hm : NeverOk m) :
    NeverOk (m >>= f) := Post.bind hm fun _ h => h.elim

theorem NeverOk.bind_right {α β : Type} (m : DeM α) {f : α → DeM β} (hf : ∀ a, NeverOk (f a)) :
    NeverOk (m >>= f) := Post.bind_any hf

theorem NeverOk.decDepth_zero : NeverOk (decDepth 0) := NeverOk.fail _

def Node.isContainer : Node → Bool
  | .array _ | .map _ | .record _ _ => true
  | _ => false

theorem depth_zero_all (ext : DeExt) (cfg : DeConfig) (S : Schema) : ∀ fuel : Nat,
    (∀ node favor h, node.isContainer = true → NeverOk (de ext cfg S fuel node 0 favor h)) ∧
    (∀ node vs, node.isContainer = true → NeverOk (deTypeNameEnum ext cfg S fuel node 0 vs)) ∧
    (∀ node h, node.isContainer = true → NeverOk (deAny ext cfg S fuel node 0 h)) ∧
    (∀ node, node.isContainer = true → NeverOk (deIgnored ext cfg S fuel node 0))
  | 0 => by
    refine ⟨?_, ?_, ?_, ?_⟩
    · intros; rw [de_zero]; exact NeverOk.fail _
    · intros; rw [deTypeNameEnum_zero]; exact NeverOk.fail _
    · intros; rw [deAny_zero]; exact NeverOk.fail _
    · intros; rw [deIgnored_zero]; exact NeverOk.fail _
  | fuel + 1 => by
    obtain ⟨ih1, ih2, ih3, ih4⟩ := depth_zero_all ext cfg S fuel
    refine ⟨?_, ?_, ?_, ?_⟩
    · intro node favor h hc
      -- every arm of `de` on a container node either hands the same node at depth 0 to another
      -- function of the block, or goes through `decDepth 0`
      cases node <;> simp only [Node.isContainer, Bool.false_eq_true] at hc <;>
        (unfold de; dsimp only; split) <;>
        first
          | exact ih3 _ _ rfl
          | exact ih4 _ rfl
          | exact NeverOk.bind_left _ (ih1 _ _ _ rfl)
          | (split
             · exact ih2 _ _ rfl
             · exact NeverOk.bind_left _ NeverOk.decDepth_zero)
    · intro node vs hc
      unfold deTypeNameEnum
      dsimp only
      split
      · exact NeverOk.fail _
      · exact NeverOk.bind_left _ (ih4 _ hc)
      · exact NeverOk.bind_left _ (ih1 _ _ _ hc)
      · exact NeverOk.bind_left _ (ih1 _ _ _ hc)
      · exact NeverOk.bind_left _ (ih1 _ _ _ hc)
    · intro node h hc
      cases node <;> simp only [Node.isContainer, Bool.false_eq_true] at hc <;> unfold deAny <;>
        dsimp only
      · split
        · exact NeverOk.fail _
        · exact NeverOk.bind_left _ NeverOk.decDepth_zero
      · split
        · exact NeverOk.fail _
        · exact NeverOk.bind_left _ NeverOk.decDepth_zero
      · exact NeverOk.bind_left _ NeverOk.decDepth_zero
    · intro node hc
      cases node <;> simp only [Node.isContainer, Bool.false_eq_true] at hc <;> unfold deIgnored <;>
        dsimp only
      · split
        · exact NeverOk.fail _
        · exact NeverOk.bind_left _ NeverOk.decDepth_zero
      · split
        · exact NeverOk.fail _
        · exact NeverOk.bind_left _ NeverOk.decDepth_zero
      · exact NeverOk.bind_left _ (ih3 _ _ rfl)

theorem depth_zero_union (ext : DeExt) (cfg : DeConfig) (S : Schema) (fuel : Nat) (vs : List Nat)
    (h : Hint) : NeverOk (deAny ext cfg S fuel (.union vs) 0 h) := by
  cases fuel with
  | zero => rw [deAny_zero]; exact NeverOk.fail _
  | succ fuel =>
    simp only [deAny]
    refine NeverOk.bind_right _ fun d => ?_
    split
    · exact NeverOk.fail _
    · split
      · exact NeverOk.fail _
      · exact NeverOk.bind_left _ NeverOk.decDepth_zero


theorem nestingList_le_of_rel {n : Nat} {l l' : List Out}
    (h : ListRel (fun o o' => o = o' ∧ o.nesting ≤ n) l l') : l = l' ∧ nestingList l ≤ n := by
  induction h with
  | nil => exact ⟨rfl, Nat.zero_le _⟩
  | cons h _ ih => exact ⟨by rw [h.1, ih.1], Nat.max_le.mpr ⟨h.2, ih.2⟩⟩

theorem nestingEntries_le_of_rel {n : Nat} {l l' : List (Out × Out)}
    (h : ListRel (EntryRel fun o o' => o = o' ∧ o.nesting ≤ n) l l') :
    l = l' ∧ nestingEntries l ≤ n := by
  induction h with
  | nil => exact ⟨rfl, Nat.zero_le _⟩
  | cons h _ ih =>
    exact ⟨by rw [Prod.ext h.1.1 h.2.1, ih.1], Nat.max_le.mpr ⟨Nat.max_le.mpr ⟨h.1.2, h.2.2⟩, ih.2⟩⟩

/-- the `+ 1` is the flat map or sequence a `duration` is presented as, which costs no budget -/
theorem OutRel.nesting : OutRel (fun d o o' => o = o' ∧ o.nesting ≤ d + 1) (· = ·) where
  vmono h := ⟨h.1, Nat.le_succ_of_le h.2⟩
  vflat d _ h := ⟨rfl, Nat.le_trans h (Nat.le_add_left 1 d)⟩
  vstr _ _ _ _ h := ⟨by rw [h], Nat.zero_le _⟩
  vbytes _ _ _ _ h := ⟨by rw [h], Nat.zero_le _⟩
  vsome h := ⟨by rw [h.1], h.2⟩
  vseq h := ⟨by rw [(nestingList_le_of_rel h).1], Nat.succ_le_succ (nestingList_le_of_rel h).2⟩
  vmap h :=
    ⟨by rw [(nestingEntries_le_of_rel h).1], Nat.succ_le_succ (nestingEntries_le_of_rel h).2⟩
  vvariant h h' := ⟨by rw [h.1, h'.1], Nat.max_le.mpr ⟨h.2, h'.2⟩⟩
  vselect h _ := by rw [h.1]

/-- Every value the block returns under depth budget `depth` nests at most `depth + 1` deep. -/
theorem nesting_all (ext : DeExt) (cfg : DeConfig) (S : Schema) (fuel : Nat) :
    DeLogic.Block (DeM.Agree fun _ => True) (fun d o o' => o = o' ∧ o.nesting ≤ d + 1)
      (fun _ => True) ext cfg S fuel fuel :=
  (DeM.Agree.logic _ OutRel.nesting).block .all (fun _ _ => ⟨rfl, rfl⟩) S fuel

end Avro.Impl
