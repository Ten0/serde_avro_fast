import AvroModel.Lemmas.SerReprSeq
import AvroModel.Lemmas.RecordFull
import AvroModel.Lemmas.RecordPresentations
/-
The struct arms of the walk (`ser_repr`, Lemmas/SerReprWalk.lean): a `struct`, or a map whose keys
are strings, presented on a `duration` node and on a `record` node (`map` is in
Lemmas/SerReprSeq.lean).

What the field reordering machine writes on a record is taken from the byte-level theorems
`record_body_presentable`, `record_body_total` (Lemmas/RecordFull.lean): a successful presentation
appends the schema-order concatenation of `recBytes`.  Here each of those byte strings is shown to
represent a value, one field at a time: that of a presented field by the soundness of its own
value run from `{}`, that of an omitted one because it is the null encoding.
-/
namespace Avro
open Avro.Spec Avro.Impl

open Avro.Theorems (fieldNullable nullableNode nullEnc nullEncNode recBytes)

/-! ### `Duration` presented as a struct -/

def cntSome (vals : List (Option Nat)) : Nat := vals.countP Option.isSome

theorem cntSome_set {vals : List (Option Nat)} {i x : Nat} (h : vals[i]? = some none) :
    cntSome (vals.set i (some x)) = cntSome vals + 1 := by
  induction vals generalizing i with
  | nil => simp at h
  | cons v vs ih =>
    cases i with
    | zero =>
      simp only [List.getElem?_cons_zero, Option.some.injEq] at h
      subst h
      simp [cntSome]
    | succ i =>
      have := ih (i := i) (by simpa using h)
      simp only [cntSome, List.set_cons_succ, List.countP_cons] at this ⊢
      omega

theorem durationFieldIdx_cases {name : String} {i : Nat} (h : durationFieldIdx name = some i) :
    (i = 0 ∧ name = "months") ∨ (i = 1 ∧ name = "days") ∨ (i = 2 ∧ name = "milliseconds") := by
  unfold durationFieldIdx at h
  split at h
  · simp at h; left; exact ⟨h.symm, ‹_›⟩
  · split at h
    · simp at h; right; left; exact ⟨h.symm, ‹_›⟩
    · split at h
      · simp at h; right; right; exact ⟨h.symm, ‹_›⟩
      · simp at h

theorem durationFieldIdx_name {name : String} {i : Nat} (h : durationFieldIdx name = some i) :
    ["months", "days", "milliseconds"][i]? = some name := by
  rcases durationFieldIdx_cases h with ⟨rfl, rfl⟩ | ⟨rfl, rfl⟩ | ⟨rfl, rfl⟩ <;> rfl

section
variable {ext : Ext} {a : Bool} {S : Schema}

theorem serFields_duration_sound (fields : List (String × SV)) :
    ∀ vals s k' s', vals.length = 3 →
    serFields ext a S (.duration vals) fields s = (.ok k', s') →
    ∃ vals', k' = .duration vals' ∧ s' = s ∧ vals'.length = 3 ∧
      cntSome vals' = cntSome vals + fields.length ∧
      (∀ p ∈ fields, ∃ i x, durationFieldIdx p.1 = some i ∧ u32Of p.2 = some x ∧
        vals'[i]? = some (some x)) ∧
      (∀ (i x : Nat), vals[i]? = some (some x) → vals'[i]? = some (some x)) ∧
      (∀ (i x : Nat), vals'[i]? = some (some x) →
        vals[i]? = some (some x) ∨ ∃ p ∈ fields, durationFieldIdx p.1 = some i) := by
  induction fields with
  | nil =>
    intro vals s k' s' hl hrun
    simp only [serFields, Prod.mk.injEq, Except.ok.injEq] at hrun
    obtain ⟨rfl, rfl⟩ := hrun
    exact ⟨vals, rfl, rfl, hl, by simp, by simp, fun i x h => h, fun i x h => Or.inl h⟩
  | cons p rest ih =>
    obtain ⟨name, sv⟩ := p
    intro vals s k' s' hl hrun
    simp only [serFields] at hrun
    cases hi : durationFieldIdx name with
    | none => simp [hi] at hrun
    | some i =>
      simp only [hi] at hrun
      have hi3 : i < 3 := by rcases durationFieldIdx_cases hi with ⟨h, _⟩ | ⟨h, _⟩ | ⟨h, _⟩ <;> omega
      have hnone : vals[i]? = some none := by
        cases hv : vals[i]? with
        | none => simp at hv; omega
        | some o =>
          cases o with
          | none => rfl
          | some y => simp [hv] at hrun
      simp only [hnone] at hrun
      rw [extractU32_eq] at hrun
      cases hx : u32Of sv with
      | none => simp [hx] at hrun
      | some x =>
        simp only [hx] at hrun
        obtain ⟨vals', hk', hs', hl', hcnt, hmem, hmono, hinv⟩ :=
          ih (vals.set i (some x)) s k' s' (by simp [hl]) hrun
        have hseti : (vals.set i (some x))[i]? = some (some x) := by
          simp [hl, hi3]
        have hsetj : ∀ j, j ≠ i → (vals.set i (some x))[j]? = vals[j]? := by
          intro j hj; simp [Ne.symm hj]
        refine ⟨vals', hk', hs', hl', ?_, ?_, ?_, ?_⟩
        · rw [hcnt]
          rw [cntSome_set hnone]; simp; omega
        · intro p hp
          simp only [List.mem_cons] at hp
          rcases hp with rfl | hp
          · exact ⟨i, x, hi, hx, hmono i x hseti⟩
          · exact hmem p hp
        · intro j y hj
          by_cases hji : j = i
          · subst hji; rw [hnone] at hj; simp at hj
          · exact hmono j y (by rw [hsetj j hji]; exact hj)
        · intro j y hj
          rcases hinv j y hj with h1 | ⟨p, hp, hpj⟩
          · by_cases hji : j = i
            · subst hji; right; exact ⟨(name, sv), by simp, hi⟩
            · left; rw [← hsetj j hji]; exact h1
          · right; exact ⟨p, by simp [hp], hpj⟩

end

theorem structFinish_duration_ok {S : Schema} {vals : List (Option Nat)} {s : SerState}
    (hok : (structFinish S (.duration vals) s).1 = .ok ()) :
    ∃ a b c, vals = [some a, some b, some c] := by
  unfold structFinish at hok
  simp only [structEnd] at hok
  split at hok
  · rename_i h
    split at h
    · exact ⟨_, _, _, rfl⟩
    · simp at h
  · exact absurd hok (finally_fail_not_ok _ _ _ _)

theorem denotesDurFields_of {mo d ms : Nat} (fields : List (String × SV))
    (h : ∀ p ∈ fields, ∃ x, durField p.1 mo d ms = some x ∧ u32Of p.2 = some x) :
    denotesDurFields mo d ms fields = true := by
  induction fields with
  | nil => rfl
  | cons p rest ih =>
    obtain ⟨name, sv⟩ := p
    obtain ⟨x, h1, h2⟩ := h (name, sv) (by simp)
    simp only [] at h1 h2
    simp [denotesDurFields, h1, h2, ih (fun p hp => h p (by simp [hp]))]

section
variable {nb : Canon.Allow} {ext : Ext} {a : Bool} {S : Schema} {OK : Node → Prop}
  {D : Node → Bytes → Value → Prop} (F : Representation nb S OK D)
include F

theorem structCore_duration_sound (L : Nat) (durLen : Option Nat) (fields : List (String × SV))
    (s : SerState) (hs : Good s)
    (hok : (structCore S .duration L durLen (fun k s => serFields ext a S k fields s) s).1 = .ok ()) :
    Res D .duration (structCore S .duration L durLen (fun k s => serFields ext a S k fields s)) s
      (fun v => ∃ mo d ms, v = .duration mo d ms ∧
        durationComplete (fields.map (·.1)) = true ∧ denotesDurFields mo d ms fields = true) := by
  have hstart : structStartAt S .duration L durLen s = (.ok (.duration [none, none, none]), s) := by
    cases durLen with
    | none => rfl
    | some l =>
      by_cases hl : l ≠ 3
      · simp [structCore, structStartAt, hl] at hok
      · simp [structStartAt, hl, pure]
  unfold Res
  simp only [structCore, bind, hstart] at hok ⊢
  obtain ⟨k', s2, hrun⟩ := structBodyFinish_ok hok
  rw [hrun] at hok ⊢
  obtain ⟨vals', hk', hs2, hl', hcnt, hmem, _, hinv⟩ :=
    serFields_duration_sound fields [none, none, none] s k' s2 rfl hrun
  subst hk' hs2
  simp only [structBodyFinish] at hok ⊢
  obtain ⟨x0, x1, x2, rfl⟩ := structFinish_duration_ok hok
  simp only [structFinish]
  have hlen : fields.length = 3 := by
    simp [cntSome] at hcnt; omega
  -- who set each slot
  have hsrc : ∀ (i x : Nat), [some x0, some x1, some x2][i]? = some (some x) →
      ∃ p ∈ fields, durationFieldIdx p.1 = some i := by
    intro i x hx
    rcases hinv i x hx with h1 | h1
    · have : i < 3 := by
        cases hi : [some x0, some x1, some x2][i]? with
        | none => rw [hi] at hx; simp at hx
        | some _ => have := (List.getElem?_eq_some_iff.1 hi).1; simpa using this
      have : i = 0 ∨ i = 1 ∨ i = 2 := by omega
      rcases this with rfl | rfl | rfl <;> simp at h1
    · exact h1
  have hval : ∀ p ∈ fields, ∃ x, durField p.1 x0 x1 x2 = some x ∧ u32Of p.2 = some x := by
    intro p hp
    obtain ⟨i, x, hi, hx, hv⟩ := hmem p hp
    refine ⟨x, ?_, hx⟩
    rcases durationFieldIdx_cases hi with ⟨rfl, hn⟩ | ⟨rfl, hn⟩ | ⟨rfl, hn⟩ <;>
      simp at hv <;> subst hv <;> simp [durField, hn]
  have hlt : ∀ (i x : Nat), [some x0, some x1, some x2][i]? = some (some x) → x < 2 ^ 32 := by
    intro i x hx
    obtain ⟨p, hp, hpi⟩ := hsrc i x hx
    obtain ⟨j, y, hj, hy, hv⟩ := hmem p hp
    rw [hpi] at hj; simp at hj; subst hj
    rw [hx] at hv; simp at hv; subst hv
    exact u32Of_lt hy
  have h0 := hlt 0 x0 (by simp)
  have h1 := hlt 1 x1 (by simp)
  have h2 := hlt 2 x2 (by simp)
  have hcontains : ∀ (i : Nat) (nm : String), ["months", "days", "milliseconds"][i]? = some nm →
      (∃ x, [some x0, some x1, some x2][i]? = some (some x)) →
      (fields.map (·.1)).contains nm = true := by
    intro i nm hnm ⟨x, hx⟩
    obtain ⟨p, hp, hpi⟩ := hsrc i x hx
    have := durationFieldIdx_name hpi
    rw [hnm, Option.some.injEq] at this
    simp only [List.contains_eq_mem, List.mem_map, decide_eq_true_eq]
    exact ⟨p, hp, this.symm⟩
  have hc0 := hcontains 0 "months" rfl ⟨x0, by simp⟩
  have hc1 := hcontains 1 "days" rfl ⟨x1, by simp⟩
  have hc2 := hcontains 2 "milliseconds" rfl ⟨x2, by simp⟩
  simp only [structEnd, TrM.lift, bind, writeAll_none _ s2 hs.1, pure, structDrop,
    SerM.finally]
  refine ⟨_, .duration x0 x1 x2, leBytes 4 x0 ++ leBytes 4 x1 ++ leBytes 4 x2, rfl, rfl,
    hs.append _, F.of_encode (by simp [encode, h0, h1, h2]), x0, x1, x2, rfl, ?_,
    denotesDurFields_of fields hval⟩
  simp only [durationComplete, List.length_map, hlen, hc0, hc1, hc2, decide_true, Bool.and_self]

end

/-! ### A record presented as a struct or as a map -/

theorem exists_list_of_forall_lt {α : Type} {P : Nat → α → Prop} (n : Nat)
    (h : ∀ i, i < n → ∃ x, P i x) : ∃ l : List α, l.length = n ∧ ∀ i x, l[i]? = some x → P i x := by
  induction n with
  | zero => exact ⟨[], rfl, fun i x hx => by simp at hx⟩
  | succ n ih =>
    obtain ⟨l, hl, hP⟩ := ih fun i hi => h i (by omega)
    obtain ⟨x, hx⟩ := h n (by omega)
    refine ⟨l ++ [x], by simp [hl], fun i y hy => ?_⟩
    rcases Nat.lt_or_ge i l.length with hi | hi
    · rw [List.getElem?_append_left hi] at hy; exact hP i y hy
    · rw [List.getElem?_append_right hi] at hy
      have h0 : i - l.length = 0 := by
        rcases Nat.eq_zero_or_pos (i - l.length) with h0 | h0
        · exact h0
        · rw [List.getElem?_eq_none (by simp only [List.length_singleton]; omega)] at hy; cases hy
      rw [h0] at hy
      obtain rfl : i = n := by omega
      cases hy; exact hx

theorem flatMap_range_eq {α β : Type} {l : List α} {g : α → List β} {enc : Nat → List β}
    (h : ∀ i x, l[i]? = some x → g x = enc i) : (List.range l.length).flatMap enc = l.flatMap g := by
  rw [List.flatMap_def, List.flatMap_def]
  congr 1
  apply List.ext_getElem?
  intro i
  rw [List.getElem?_map, List.getElem?_map]
  rcases Nat.lt_or_ge i l.length with hi | hi
  · rw [List.getElem?_range hi, List.getElem?_eq_getElem hi]
    exact congrArg some (h i _ (List.getElem?_eq_getElem hi)).symm
  · rw [List.getElem?_eq_none (by simpa using hi), List.getElem?_eq_none hi]; rfl

theorem indexOfName_of_nodup {fields : List (String × Nat)} (hd : (fields.map (·.1)).Nodup)
    {i : Nat} {f : String × Nat} (hf : fields[i]? = some f) : indexOfName f.1 fields = some i := by
  induction fields generalizing i with
  | nil => simp at hf
  | cons g rest ih =>
    obtain ⟨gn, gk⟩ := g
    cases i with
    | zero =>
      simp at hf; subst hf
      simp [indexOfName]
    | succ i =>
      simp only [List.getElem?_cons_succ] at hf
      simp only [List.map_cons, List.nodup_cons] at hd
      have hne : gn ≠ f.1 := by
        intro h
        apply hd.1
        rw [h]
        exact List.mem_map.2 ⟨f, List.mem_of_getElem? hf, rfl⟩
      simp [indexOfName, hne, ih hd.2 hf]

section
variable {ext : DenExt} {S : Schema} {fields : List (String × Nat)} {vals : List Value}

theorem denotesPresented_of (hd : (fields.map (·.1)).Nodup) : ∀ l : List (String × SV),
    (∀ p ∈ l, ∃ (i : Nat) (f : String × Nat) (fnode : Node) (v : Value), fields[i]? = some f ∧
      f.1 = p.1 ∧ S[f.2]? = some fnode ∧ vals[i]? = some v ∧ denotes ext S fnode p.2 v = true) →
    denotesPresented ext S fields vals l = true := by
  intro l
  induction l with
  | nil => intro _; rfl
  | cons p rest ih =>
    intro h
    obtain ⟨name, sv⟩ := p
    obtain ⟨i, f, fnode, v, hf, hfn, hS, hv, hden⟩ := h (name, sv) (by simp)
    simp only [] at hfn hden
    have hidx : indexOfName name fields = some i := by rw [← hfn]; exact indexOfName_of_nodup hd hf
    simp only [denotesPresented, hidx, hf, hv, hS, hden, Bool.true_and]
    exact ih fun p hp => h p (by simp [hp])

theorem recordComplete_of {presented : List String} (hnd : presented.Nodup)
    (hsub : ∀ nm ∈ presented, nm ∈ fields.map (·.1)) (hlen : vals.length = fields.length)
    (hnull : ∀ (i : Nat) (f : String × Nat) (v : Value), fields[i]? = some f → vals[i]? = some v →
      f.1 ∈ presented ∨ ∃ fnode, S[f.2]? = some fnode ∧ isNullish S fnode v = true) :
    recordComplete S fields presented vals = true := by
  simp only [recordComplete, Bool.and_eq_true, decide_eq_true_eq, List.all_eq_true, List.mem_range]
  refine ⟨⟨⟨hnd, fun nm hnm => by simpa using hsub nm hnm⟩, hlen⟩, fun i hi => ?_⟩
  have hf : fields[i]? = some fields[i] := List.getElem?_eq_getElem hi
  have hv : vals[i]? = some vals[i] := List.getElem?_eq_getElem (by omega)
  rw [hf, hv]
  rcases hnull i _ _ hf hv with h | ⟨fnode, hS, h⟩
  · simp [h]
  · simp [hS, h]

end

section
variable {nb : Canon.Allow} {ext : Ext} {a : Bool} {S : Schema} {OK : Node → Prop}
  {D : Node → Bytes → Value → Prop} (F : Representation nb S OK D)
include F

theorem Representation.nullable {k : Nat} (hn : fieldNullable S k = true) :
    ∃ fnode v, S[k]? = some fnode ∧ D fnode (nullEnc S k) v ∧ isNullish S fnode v = true := by
  unfold fieldNullable at hn
  unfold nullEnc
  cases hk : S[k]? with
  | none => rw [hk] at hn; cases hn
  | some fnode =>
    rw [hk] at hn
    simp only [] at hn ⊢
    have hfnok := F.schema k fnode hk
    cases fnode <;> simp only [nullableNode] at hn <;> try cases hn
    · exact ⟨.null, .null, rfl, F.of_encode (by simp [encode, nullEncNode]), rfl⟩
    · rename_i vs
      obtain ⟨d, hl⟩ := Option.isSome_iff_exists.1 hn
      obtain ⟨kd, hkd, hSk⟩ := F.null_lookup hfnok hl
      have hlt : d < 2 ^ 63 :=
        Nat.lt_trans (List.getElem?_eq_some_iff.1 hkd).1 (F.union_small hfnok)
      refine ⟨.union vs, .union d .null, rfl, ?_, by simp [isNullish, hkd, hSk]⟩
      simp only [nullEncNode, hl]
      rw [encodeVarI64_eq_spec _ (inI64_of_lt hlt), ← List.append_nil (encodeLong _)]
      exact F.union hkd hSk hlt (F.of_encode (by simp [encode]))

theorem structCore_record_sound (nm : Name) (fields : List (String × Nat))
    (hnok : OK (.record nm fields)) (L : Nat) (durLen : Option Nat)
    (flds : List (String × SV)) (hIH : ∀ p ∈ flds, Sound D OK ext a S p.2)
    (s : SerState) (hs : Good s)
    (hok : (structCore S (.record nm fields) L durLen
      (fun k s => serFields ext a S k flds s) s).1 = .ok ()) :
    Res D (.record nm fields)
      (structCore S (.record nm fields) L durLen (fun k s => serFields ext a S k flds s)) s
      (fun v => ∃ vals, v = .record vals ∧
        recordComplete S fields (flds.map (·.1)) vals = true ∧
        denotesPresented (denExtOf ext) S fields vals flds = true) := by
  have hd : (fields.map (·.1)).Nodup := by simpa [nodeNamesDistinct] using (F.ok hnok).distinct
  obtain ⟨sb, s1, hpop, hsb, hout1, hb1, hc1⟩ := popSuperBuffer_op s hs.2
  have hstart : structStartAt S (.record nm fields) L durLen s =
      (.ok (.record fields { current := 0, buffers := sb }), s1) := by
    simp only [structStartAt, bind, hpop, pure]
  unfold Res
  simp only [structCore, bind, hstart] at hok ⊢
  have hs1 : Good s1 := ⟨by rw [hb1]; exact hs.1, hc1⟩
  have hpres := Theorems.record_body_presentable hd hsb hs1 hok
  obtain ⟨s3, hfin, hout3, hg3⟩ := Theorems.record_body_total hd hsb hpres s1 hs1
  obtain ⟨hndp, hall, hnullable⟩ := hpres
  rw [hout1] at hout3
  -- each field's bytes represent a value
  obtain ⟨ves, hlen, hves⟩ := exists_list_of_forall_lt (α := Value × Bytes)
    (P := fun i ve => ve.2 = recBytes ext a S fields flds i ∧ ∃ f fnode, fields[i]? = some f ∧
      S[f.2]? = some fnode ∧ D fnode ve.2 ve.1 ∧
      (∀ p ∈ flds, p.1 = f.1 → denotes (denExtOf ext) S fnode p.2 ve.1 = true) ∧
      (f.1 ∈ flds.map (·.1) ∨ isNullish S fnode ve.1 = true)) fields.length (by
    intro i hi
    have hf : fields[i]? = some fields[i] := List.getElem?_eq_getElem hi
    by_cases hmem : fields[i].1 ∈ flds.map (·.1)
    · obtain ⟨p, hp, hpf⟩ := List.mem_map.1 hmem
      obtain ⟨i', f', node, hf', hfp', hnode, hok0⟩ := hall p hp
      obtain rfl : i = i' := names_inj hd hf hf' (by rw [hfp', hpf])
      rw [hf] at hf'; cases hf'
      obtain ⟨v, bytes, ho, _, hD, hden⟩ := (hIH p hp).run (F.schema _ _ hnode) ⟨rfl, PoolClean.empty⟩
        (Prod.ext hok0 rfl : ser ext a S node p.2 {} = (.ok (), (ser ext a S node p.2 {}).2))
      refine ⟨(v, bytes), ?_, _, node, hf, hnode, hD, fun q hq hqf => ?_, .inl hmem⟩
      · rw [Theorems.recBytes_presented ext a S fields hndp hp hf hfp' hnode, ho]; rfl
      · have h1 := Theorems.find?_name_of_nodup hndp hq hqf
        rw [Theorems.find?_name_of_nodup hndp hp hpf] at h1
        cases h1; exact hden
    · obtain ⟨fnode, v, hnode, hD, hnl⟩ := F.nullable (hnullable i _ hf hmem)
      refine ⟨(v, nullEnc S fields[i].2), (Theorems.recBytes_omitted ext a S fields hf hmem).symm, _,
        fnode, hf, hnode, hD, fun q hq hqf => ?_, .inr hnl⟩
      exact (hmem (List.mem_map.2 ⟨q, hq, hqf⟩)).elim)
  have hget : ∀ {i : Nat} {v : Value}, (ves.map (·.1))[i]? = some v → ∃ ve, ves[i]? = some ve ∧ ve.1 = v := by
    intro i v h
    rw [List.getElem?_map] at h
    cases hve : ves[i]? with
    | none => rw [hve] at h; cases h
    | some ve => rw [hve] at h; cases h; exact ⟨ve, rfl, rfl⟩
  refine ⟨s3, .record (ves.map (·.1)), ves.flatMap (·.2), hfin, ?_, hg3, ?_, _, rfl, ?_, ?_⟩
  · rw [hout3, ← hlen]
    exact congrArg _ (flatMap_range_eq fun i ve hve => (hves i ve hve).1)
  · refine F.record hlen fun i f ve hf hve => ?_
    obtain ⟨_, f', fnode, hf', hnode, hD, _⟩ := hves i ve hve
    rw [hf] at hf'; cases hf'
    exact ⟨fnode, hnode, hD⟩
  · refine recordComplete_of hndp (fun nm hnm => ?_) (by simp [hlen]) fun i f v hf hv => ?_
    · obtain ⟨p, hp, rfl⟩ := List.mem_map.1 hnm
      obtain ⟨_, f, _, hf, hfp, _⟩ := hall p hp
      exact List.mem_map.2 ⟨f, List.mem_of_getElem? hf, hfp⟩
    · obtain ⟨ve, hve, rfl⟩ := hget hv
      obtain ⟨_, f', fnode, hf', hnode, _, _, hor⟩ := hves i ve hve
      rw [hf] at hf'; cases hf'
      exact hor.imp id fun h => ⟨fnode, hnode, h⟩
  · refine denotesPresented_of hd flds fun p hp => ?_
    obtain ⟨i, f, node, hf, hfp, hnode, _⟩ := hall p hp
    have hi : i < ves.length := by rw [hlen]; exact (List.getElem?_eq_some_iff.1 hf).1
    obtain ⟨_, f', fnode, hf', hnode', _, hden, _⟩ := hves i _ (List.getElem?_eq_getElem hi)
    rw [hf] at hf'; cases hf'
    rw [hnode] at hnode'; cases hnode'
    exact ⟨i, f, node, ves[i].1, hf, hfp, hnode, by simp [hi], hden p hp hfp.symm⟩

end

theorem strKeys_mem {entries : List (SV × SV)} {fields : List (String × SV)}
    (h : strKeys entries = some fields) {p : String × SV} (hp : p ∈ fields) :
    (SV.str p.1, p.2) ∈ entries := by
  induction entries generalizing fields with
  | nil => simp [strKeys] at h; subst h; simp at hp
  | cons q rest ih =>
    obtain ⟨key, v⟩ := q
    cases key <;> simp only [strKeys, reduceCtorEq] at h
    rename_i name
    cases hr : strKeys rest with
    | none => simp [hr] at h
    | some fr =>
      simp only [hr, Option.map_some, Option.some.injEq] at h
      subst h
      simp only [List.mem_cons] at hp
      rcases hp with rfl | hp
      · simp
      · exact List.mem_cons_of_mem _ (ih hr hp)

theorem denotesPresentedE_eq {ext : DenExt} {S : Schema} {sf : List (String × Nat)}
    {vals : List Value} {entries : List (SV × SV)} {fields : List (String × SV)}
    (h : strKeys entries = some fields) :
    denotesPresentedE ext S sf vals entries = denotesPresented ext S sf vals fields := by
  induction entries generalizing fields with
  | nil => simp [strKeys] at h; subst h; rfl
  | cons q rest ih =>
    obtain ⟨key, v⟩ := q
    cases key <;> simp only [strKeys, reduceCtorEq] at h
    rename_i name
    cases hr : strKeys rest with
    | none => simp [hr] at h
    | some fr =>
      simp only [hr, Option.map_some, Option.some.injEq] at h
      subst h
      simp only [denotesPresentedE, denotesPresented, ih hr]

theorem structStartAt_kind {S : Schema} {n : Node} {L : Nat} {durLen : Option Nat} {s s1 : SerState}
    {k : StructKind} (h : structStartAt S n L durLen s = (.ok k, s1))
    (hn : (∃ nm fs, n = .record nm fs) ∨ n = .duration) : ∀ v c, k ≠ .map v c := by
  rcases hn with ⟨nm, fs, rfl⟩ | rfl
  · obtain ⟨sb, s', _, h⟩ := SerM.bind_eq_ok.1 h
    obtain ⟨rfl, _⟩ := SerM.pure_eq_ok.1 h
    nofun
  · simp only [structStartAt] at h
    cases durLen with
    | none => simp [pure] at h; rw [← h.1]; nofun
    | some l =>
      simp only [] at h
      by_cases hl : l ≠ 3
      · simp [hl, SerM.fail] at h
      · simp [hl, pure] at h; rw [← h.1]; nofun

theorem structCore_entries_eq {ext : Ext} {a : Bool} {S : Schema} {n : Node} {L : Nat}
    {durLen : Option Nat} {entries : List (SV × SV)}
    (hn : (∃ nm fs, n = .record nm fs) ∨ n = .duration) {s : SerState}
    (hok : (structCore S n L durLen (fun k s => serEntries ext a S k entries s) s).1 = .ok ()) :
    ∃ fields, strKeys entries = some fields ∧
      structCore S n L durLen (fun k s => serEntries ext a S k entries s) s =
        structCore S n L durLen (fun k s => serFields ext a S k fields s) s := by
  obtain ⟨k, s1, hst, hok⟩ := SerM.bind_fst_ok.1 hok
  obtain ⟨k2, s2, hr⟩ := structBodyFinish_ok hok
  rcases Theorems.serEntries_as_fields (ext := ext) (a := a) (S := S) entries k s1
    (structStartAt_kind hst hn) with ⟨fields, hf, heq⟩ | ⟨_, hfail⟩
  · exact ⟨fields, hf, by simp only [structCore, bind, hst, heq]⟩
  · exact (hfail k2 s2 hr).elim

section
variable {nb : Canon.Allow} {ext : Ext} {a : Bool} {S : Schema} {OK : Node → Prop}
  {D : Node → Bytes → Value → Prop} (F : Representation nb S OK D)
include F

theorem structCoreF_sound (n : Node) (hnok : OK n)
    (durLen : Option Nat) (flds : List (String × SV)) (hlen : flds.length < 2 ^ 63)
    (hIH : ∀ p ∈ flds, (utf8 p.1).length < 2 ^ 63 ∧ Sound D OK ext a S p.2)
    (s : SerState) (hs : Good s)
    (hok : (structCore S n flds.length durLen (fun k s => serFields ext a S k flds s) s).1 = .ok ()) :
    Res D n (structCore S n flds.length durLen (fun k s => serFields ext a S k flds s)) s (fun v =>
      structAtNode S (flds.map (·.1))
        (fun sf vals => denotesPresented (denExtOf ext) S sf vals flds)
        (fun item ents => denotesMapFields (denExtOf ext) S item flds ents)
        (fun mo d ms => denotesDurFields mo d ms flds) n v = true) := by
  cases n
  case record nm fields =>
    refine (structCore_record_sound F nm fields hnok _ durLen flds (fun p hp => (hIH p hp).2)
      s hs hok).mono ?_
    rintro v ⟨vals, rfl, h1, h2⟩
    simp [structAtNode, h1, h2]
  case map k =>
    refine (structCore_map_sound F k hnok _ durLen _ flds.length hlen
      (Or.inr (Canon.lenCovers_iff.2 (Or.inl (Nat.le_refl _))))
      (fun item ents => denotesMapFields (denExtOf ext) S item flds ents)
      (fun item hitem => serFields_map_run F item (F.schema k item hitem) flds hIH) s hs hok).mono ?_
    · rintro v ⟨item, ents, hk, rfl, hden⟩
      simp [structAtNode, hk, hden]
  case duration =>
    refine (structCore_duration_sound F _ durLen flds s hs hok).mono ?_
    rintro v ⟨mo, d, ms, rfl, h1, h2⟩
    simp [structAtNode, h1, h2]
  all_goals simp [structCore, structStartAt] at hok

theorem structCoreE_sound (n : Node) (hnok : OK n)
    (L : Nat) (durLen : Option Nat) (entries : List (SV × SV)) (hlen : entries.length < 2 ^ 63)
    (hle : nb.openMap = true ∨ Canon.lenCovers L entries.length = true)
    (hIH : ∀ p ∈ entries, Sound D OK ext a S p.1 ∧ Sound D OK ext a S p.2)
    (s : SerState) (hs : Good s)
    (hok : (structCore S n L durLen (fun k s => serEntries ext a S k entries s) s).1 = .ok ()) :
    Res D n (structCore S n L durLen (fun k s => serEntries ext a S k entries s)) s (fun v =>
      (match strKeys entries with
        | some fields =>
          structAtNode S (fields.map (·.1))
            (fun sf vals => denotesPresentedE (denExtOf ext) S sf vals entries)
            (fun item ents => denotesMapEntries (denExtOf ext) S item entries ents)
            (fun mo d ms => denotesDurFields mo d ms fields) n v
        | none =>
          structAtNode S [] (fun _ _ => false)
            (fun item ents => denotesMapEntries (denExtOf ext) S item entries ents)
            (fun _ _ _ => false) n v) = true) := by
  by_cases hmap : ∃ k, n = .map k
  · obtain ⟨k, rfl⟩ := hmap
    refine (structCore_map_sound F k hnok L durLen _ entries.length hlen hle
      (fun item ents => denotesMapEntries (denExtOf ext) S item entries ents)
      (fun item hitem => serEntries_map_run F item (F.schema k item hitem) entries hIH) s hs hok).mono ?_
    · rintro v ⟨item, ents, hk, rfl, hden⟩
      cases strKeys entries <;> simp [structAtNode, hk, hden]
  · by_cases hrd : (∃ nm fs, n = .record nm fs) ∨ n = .duration
    · obtain ⟨fields, hfields, hcongr⟩ := structCore_entries_eq hrd hok
      rw [hcongr] at hok
      unfold Res
      rw [hcongr]
      simp only [hfields]
      have hIHf : ∀ p ∈ fields, Sound D OK ext a S p.2 := fun p hp =>
        (hIH _ (strKeys_mem hfields hp)).2
      rcases hrd with ⟨nm, fs, rfl⟩ | rfl
      · refine (structCore_record_sound F nm fs hnok L durLen fields hIHf s hs hok).mono ?_
        rintro v ⟨vals, rfl, h1, h2⟩
        simp [structAtNode, h1, denotesPresentedE_eq hfields, h2]
      · refine (structCore_duration_sound F L durLen fields s hs hok).mono ?_
        rintro v ⟨mo, d, ms, rfl, h1, h2⟩
        simp [structAtNode, h1, h2]
    · exfalso
      cases n <;> first
        | (simp [structCore, structStartAt] at hok; done)
        | exact hmap ⟨_, rfl⟩
        | exact hrd (Or.inl ⟨_, _, rfl⟩)
        | exact hrd (Or.inr rfl)

end

end Avro
