import AvroModel.Lemmas.DeLayouts
/-
C03, all layouts, soundness: every successful run of `de` on the slice back-end is a run of the
limited specification decoder `decodeL Limits.impl` whose value it observes, within the depth budget
and the sequence limit (`sndS`, by induction on the fuel of the deserializer); `de_sound_layouts`.
-/

namespace Avro.Impl
open Avro Avro.Spec

def SoundQ (S : Schema) (n : Node) (bs : Bytes) : Out → Bytes → Prop :=
  fun o rest => ∃ v fS, decodeL Limits.impl S fS n bs = some (v, rest) ∧ observe S n v = some o

/-- `SndS` below without the budgets: the form `de_sound_layouts` and the typed reads use (`sndAll`,
    a projection of `sndS`) -/
structure SndAll (cfg : DeConfig) (S : Schema) (fuel : Nat) : Prop where
  any : ∀ n depth bs, Inv (deAny deExtModel cfg S fuel n depth .any) bs (SoundQ S n bs)
  de : ∀ n depth bs, Inv (de deExtModel cfg S fuel n depth false .any) bs (SoundQ S n bs)
  seq : ∀ item depth c nr acc bs,
    Inv (deSeqLoop deExtModel cfg S fuel item depth false .any none ⟨c, nr⟩ acc) bs
      (fun out rest => ∃ vs1 r1 more os fS,
        decodeItemsL Limits.impl S fS item c bs = some (vs1, r1) ∧
        decodeBlocksL Limits.impl S fS item r1 = some (more, rest) ∧
        observeList S item (vs1 ++ more) = some os ∧ out = acc.reverse ++ os)
  map : ∀ item depth c nr acc bs,
    Inv (deMapLoop deExtModel cfg S fuel item depth false .any ⟨c, nr⟩ acc) bs
      (fun out rest => ∃ es1 r1 more os fS,
        decodeMapItemsL Limits.impl S fS item c bs = some (es1, r1) ∧
        decodeMapBlocksL Limits.impl S fS item r1 = some (more, rest) ∧
        observeEntries S item (es1 ++ more) = some os ∧ out = acc.reverse ++ os)
  fields : ∀ fields depth acc bs,
    Inv (deRecordFields deExtModel cfg S fuel fields depth .any acc) bs
      (fun out rest => ∃ vals os fS,
        decodeFieldsL Limits.impl S fS (fields.map (·.2)) bs = some (vals, rest) ∧
        observeFields S fields vals = some os ∧ out = acc.reverse ++ os)

def SoundQB (cfg : DeConfig) (S : Schema) (n : Node) (bs : Bytes) (depth : Nat) :
    Out → Bytes → Prop :=
  fun o rest => ∃ v fS, decodeL Limits.impl S fS n bs = some (v, rest) ∧ observe S n v = some o ∧
    depthOf v ≤ depth ∧ maxLen v ≤ cfg.maxSeqSize

/-- the statements proved together by induction on the fuel of the deserializer: every successful
    run is a run of the limited specification decoder whose value respects the depth budget and the
    sequence limit (`nr` items of the current array or map have been counted so far) -/
structure SndS (cfg : DeConfig) (S : Schema) (fuel : Nat) : Prop where
  any : ∀ n depth bs, Inv (deAny deExtModel cfg S fuel n depth .any) bs (SoundQB cfg S n bs depth)
  de : ∀ n depth bs, Inv (de deExtModel cfg S fuel n depth false .any) bs (SoundQB cfg S n bs depth)
  seq : ∀ item depth c nr acc bs,
    Inv (deSeqLoop deExtModel cfg S fuel item depth false .any none ⟨c, nr⟩ acc) bs
      (fun out rest => ∃ vs1 r1 more os fS,
        decodeItemsL Limits.impl S fS item c bs = some (vs1, r1) ∧
        decodeBlocksL Limits.impl S fS item r1 = some (more, rest) ∧
        observeList S item (vs1 ++ more) = some os ∧ out = acc.reverse ++ os ∧
        depthItems (vs1 ++ more) ≤ depth ∧ maxLenItems (vs1 ++ more) ≤ cfg.maxSeqSize ∧
        (nr ≤ cfg.maxSeqSize → nr + more.length ≤ cfg.maxSeqSize))
  map : ∀ item depth c nr acc bs,
    Inv (deMapLoop deExtModel cfg S fuel item depth false .any ⟨c, nr⟩ acc) bs
      (fun out rest => ∃ es1 r1 more os fS,
        decodeMapItemsL Limits.impl S fS item c bs = some (es1, r1) ∧
        decodeMapBlocksL Limits.impl S fS item r1 = some (more, rest) ∧
        observeEntries S item (es1 ++ more) = some os ∧ out = acc.reverse ++ os ∧
        depthEntries (es1 ++ more) ≤ depth ∧ maxLenEntries (es1 ++ more) ≤ cfg.maxSeqSize ∧
        (nr ≤ cfg.maxSeqSize → nr + more.length ≤ cfg.maxSeqSize))
  fields : ∀ fields depth acc bs,
    Inv (deRecordFields deExtModel cfg S fuel fields depth .any acc) bs
      (fun out rest => ∃ vals os fS,
        decodeFieldsL Limits.impl S fS (fields.map (·.2)) bs = some (vals, rest) ∧
        observeFields S fields vals = some os ∧ out = acc.reverse ++ os ∧
        depthItems vals ≤ depth ∧ maxLenItems vals ≤ cfg.maxSeqSize)

variable (cfg : DeConfig) (S : Schema)

theorem fuelMono (f : Nat) : MonoAll Limits.impl Limits.impl S f := monoAll (Limits.le_refl _) S f

theorem sndS_fields (g : Nat) (ih : ∀ g', g = g' + 1 → SndS cfg S g') (fields : List (String × Nat))
    (depth : Nat) (acc : List (Out × Out)) (bs : Bytes) :
    Inv (deRecordFields deExtModel cfg S g fields depth .any acc) bs
      (fun out rest => ∃ vals os fS,
        decodeFieldsL Limits.impl S fS (fields.map (·.2)) bs = some (vals, rest) ∧
        observeFields S fields vals = some os ∧ out = acc.reverse ++ os ∧
        depthItems vals ≤ depth ∧ maxLenItems vals ≤ cfg.maxSeqSize) := by
  cases fields with
  | nil =>
    rw [deRecordFields]
    exact Inv.pure ⟨[], [], 0, rfl, rfl, (List.append_nil _).symm, Nat.zero_le _, Nat.zero_le _⟩
  | cons fk fs =>
    obtain ⟨name, k⟩ := fk
    cases g with
    | zero =>
      rw [deRecordFields]
      exact Inv.fail _ _ _
    | succ g =>
      have ih := ih g rfl
      rw [deRecordFields]
      split
      · exact Inv.fail _ _ _
      · rename_i fnode hnode
        simp only [Hint.valFor, Hint.key, offerName]
        refine Inv.bind (ih.de fnode depth bs) ?_
        rintro o r1 ⟨v, f1, hd, ho, hvd, hvm⟩
        refine (ih.fields fs depth ((.str name false, o) :: acc) r1).mono ?_
        rintro out rest ⟨vals, os, f2, hf, hos, rfl, hdp, hml⟩
        have e1 := (fuelMono S _).dec _ _ _ _ (Nat.le_max_left f1 f2) hd
        have e2 := (fuelMono S _).fields _ _ _ _ (Nat.le_max_right f1 f2) hf
        exact ⟨v :: vals, (.str name false, o) :: os, max f1 f2 + 1,
          decodeFieldsL_cons_eq_some.2 ⟨fnode, v, r1, vals, hnode, e1, e2, rfl⟩,
          (observeFields_cons_eq_some hnode).2 ⟨o, os, ho, hos, rfl⟩, by simp,
          Nat.max_le.2 ⟨hvd, hdp⟩, Nat.max_le.2 ⟨hvm, hml⟩⟩

theorem sndS_succ_any (g : Nat) (ih : SndS cfg S g) (n : Node) (depth : Nat) (bs : Bytes) :
    Inv (deAny deExtModel cfg S (g + 1) n depth .any) bs (SoundQB cfg S n bs depth) := by
  by_cases hl : n.isLeaf = true
  · refine ((exact_deAny_leaf cfg S hl g depth .any).inv bs).mono fun o rest hsem => ?_
    obtain ⟨⟨v, r⟩, hdec, hmap⟩ := Option.bind_eq_some_iff.1 hsem
    obtain ⟨o', hobs, heq⟩ := Option.map_eq_some_iff.1 hmap
    cases heq
    have ⟨h1, h2⟩ : depthOf v = 0 ∧ maxLen v = 0 := depthOf_maxLen_of_leaf hl hobs
    exact ⟨v, 1, hdec, hobs, by omega, by omega⟩
  cases n with
  | duration =>
    simp only [deAny]
    refine Inv.bind (inv_readExact 12 bs) ?_
    intro b r ht
    refine Inv.pure ⟨.duration (leToNat (b.take 4)) (leToNat ((b.drop 4).take 4)) (leToNat (b.drop 8)),
      1, by simp [decodeL, ht], ?_, Nat.zero_le _, Nat.zero_le _⟩
    rw [durationOut_any b (takeN_eq ht).2]
    rfl
  | array k =>
    simp only [deAny]
    split
    · exact Inv.fail _ _ _
    · rename_i item hitem
      refine Inv.bind (inv_decDepth depth bs) ?_
      rintro d r ⟨rfl, rfl⟩
      refine Inv.bind (ih.seq item d 0 0 [] r) ?_
      rintro items rest ⟨vs1, r1, more, os, fS, hi, hb, hos, rfl, hdp, hml, hcnt⟩
      rw [decodeItemsL_zero] at hi
      cases hi
      refine Inv.pure ⟨.array more, fS + 1, ?_, ?_, ?_, ?_⟩
      · simp only [decodeL, nodeOf, hitem, hb, Option.map_some]
      · simp only [List.nil_append] at hos
        simp only [observe, hitem, hos, Option.map_some]
      · simp only [depthOf]
        exact Nat.add_comm _ _ ▸ Nat.succ_le_succ hdp
      · simp only [maxLen]
        exact Nat.max_le.2 ⟨by simpa using hcnt (Nat.zero_le _), hml⟩
  | map k =>
    simp only [deAny]
    split
    · exact Inv.fail _ _ _
    · rename_i item hitem
      refine Inv.bind (inv_decDepth depth bs) ?_
      rintro d r ⟨rfl, rfl⟩
      refine Inv.bind (ih.map item d 0 0 [] r) ?_
      rintro items rest ⟨es1, r1, more, os, fS, hi, hb, hos, rfl, hdp, hml, hcnt⟩
      rw [decodeMapItemsL_zero] at hi
      cases hi
      refine Inv.pure ⟨.map more, fS + 1, ?_, ?_, ?_, ?_⟩
      · simp only [decodeL, nodeOf, hitem, hb, Option.map_some]
      · simp only [List.nil_append] at hos
        simp only [observe, hitem, hos, Option.map_some]
      · simp only [depthOf]
        exact Nat.add_comm _ _ ▸ Nat.succ_le_succ hdp
      · simp only [maxLen]
        exact Nat.max_le.2 ⟨by simpa using hcnt (Nat.zero_le _), hml⟩
  | union vs =>
    simp only [deAny]
    refine Inv.bind (inv_readLen bs) ?_
    intro d r0 hd
    split
    · exact Inv.fail _ _ _
    · rename_i k hk
      split
      · exact Inv.fail _ _ _
      · rename_i variant hvar
        refine Inv.bind (inv_decDepth depth r0) ?_
        rintro dd r ⟨rfl, rfl⟩
        refine (ih.any variant dd r).mono ?_
        rintro o rest ⟨v, fS, hv, ho, hvd, hvm⟩
        refine ⟨.union d v, fS + 1, ?_, ?_, ?_, ?_⟩
        · simp only [decodeL, hd, hk, nodeOf, hvar, hv, Option.map_some]
        · simp only [observe, hk, hvar, ho]
        · simp only [depthOf]
          exact Nat.add_comm _ _ ▸ Nat.succ_le_succ hvd
        · simp only [maxLen]; exact hvm
  | record nm fields =>
    rw [deAny_record]
    refine Inv.bind (inv_decDepth depth bs) ?_
    rintro d r ⟨rfl, rfl⟩
    refine Inv.bind (ih.fields fields d [] r) ?_
    rintro entries rest ⟨vals, os, fS, hf, hos, rfl, hdp, hml⟩
    refine Inv.pure ⟨.record vals, fS + 1, ?_, ?_, ?_, ?_⟩
    · simp only [decodeL, hf, Option.map_some]
    · simp only [observe, hos, Option.map_some]
    · simp only [depthOf]
      exact Nat.add_comm _ _ ▸ Nat.succ_le_succ hdp
    · simp only [maxLen]; exact hml
  | _ => exact absurd rfl hl

theorem sndS : ∀ fuel, SndS cfg S fuel := by
  intro fuel
  induction fuel with
  | zero =>
    refine ⟨?_, ?_, ?_, ?_, sndS_fields cfg S 0 (fun _ h => nomatch h)⟩
    · intro n depth bs; rw [deAny]; exact Inv.fail _ _ _
    · intro n depth bs; rw [de]; exact Inv.fail _ _ _
    · intro item depth c nr acc bs; rw [deSeqLoop]; exact Inv.fail _ _ _
    · intro item depth c nr acc bs; rw [deMapLoop]; exact Inv.fail _ _ _
  | succ g ih =>
    refine ⟨sndS_succ_any cfg S g ih, ?de, ?seq, ?map,
      sndS_fields cfg S (g + 1) (fun _ h => Nat.succ.inj h ▸ ih)⟩
    case de =>
      intro n depth bs
      rw [de_any]
      exact ih.any n depth bs
    case seq =>
      intro item depth c nr acc bs
      rw [deSeqLoop]
      simp only [reduceCtorEq, if_false, Option.map_none]
      -- the part of the iteration after `has_more` said yes
      have body : ∀ (c' nr' : Nat) (r0 : Bytes),
          Inv (do
            let o ← de deExtModel cfg S g item depth false .any
            deSeqLoop deExtModel cfg S g item depth false .any none ⟨c', nr'⟩ (o :: acc)) r0
          (fun out rest => ∃ vs1 r1 more os fS,
            decodeItemsL Limits.impl S fS item (c' + 1) r0 = some (vs1, r1) ∧
            decodeBlocksL Limits.impl S fS item r1 = some (more, rest) ∧
            observeList S item (vs1 ++ more) = some os ∧ out = acc.reverse ++ os ∧
            depthItems (vs1 ++ more) ≤ depth ∧ maxLenItems (vs1 ++ more) ≤ cfg.maxSeqSize ∧
            (nr' ≤ cfg.maxSeqSize → nr' + more.length ≤ cfg.maxSeqSize)) := by
        intro c' nr' r0
        refine Inv.bind (ih.de item depth r0) ?_
        rintro o r1 ⟨v, f1, hd, ho, hvd, hvm⟩
        refine (ih.seq item depth c' nr' (o :: acc) r1).mono ?_
        rintro out rest ⟨vs1, r2, more, os, f2, hi, hb, hos, rfl, hdp, hml, hcnt⟩
        have e1 := (fuelMono S _).dec _ _ _ _ (Nat.le_max_left f1 f2) hd
        have e2 := (fuelMono S _).items _ _ _ _ _ (Nat.le_max_right f1 f2) hi
        have e3 := (fuelMono S _).blocks _ _ _ _ (Nat.le_succ_of_le (Nat.le_max_right f1 f2)) hb
        exact ⟨v :: vs1, r2, more, o :: os, max f1 f2 + 1,
          decodeItemsL_succ_eq_some.2 ⟨v, r1, vs1, e1, e2, rfl⟩, e3,
          observeList_cons_eq_some.2 ⟨o, os, ho, hos, rfl⟩, by simp,
          Nat.max_le.2 ⟨hvd, hdp⟩, Nat.max_le.2 ⟨hvm, hml⟩, hcnt⟩
      cases c with
      | zero =>
        refine Inv.bind (inv_hasMore_zero cfg nr bs) ?_
        rintro ⟨more, bst⟩ r0 ⟨l, hh, ⟨rfl, hp⟩ | ⟨hl, hmax, hp⟩⟩
        · cases hp
          simp only [Bool.not_false, if_true]
          exact Inv.pure ⟨[], bs, [], [], 1, rfl,
            decodeBlocksL_succ_eq_some.2 ⟨0, r0, hh, Or.inl ⟨rfl, rfl, rfl⟩⟩,
            rfl, (List.append_nil _).symm, Nat.zero_le _, Nat.zero_le _, id⟩
        · cases hp
          obtain ⟨l', rfl⟩ := Nat.exists_eq_succ_of_ne_zero (Nat.ne_of_gt hl)
          simp only [Bool.not_true, Bool.false_eq_true, if_false]
          refine (body l' (nr + (l' + 1)) r0).mono ?_
          rintro out rest ⟨vs1, r1, more, os, fS, hi, hb, hos, rfl, hdp, hml, hcnt⟩
          have hlen := decodeItemsL_length _ _ _ _ _ _ _ _ hi
          refine ⟨[], bs, vs1 ++ more, os, fS + 1, rfl,
            decodeBlocksL_succ_eq_some.2 ⟨l' + 1, r0, hh, Or.inr ⟨hl, vs1, r1, more, hi, hb, rfl⟩⟩,
            hos, rfl, hdp, hml, fun _ => ?_⟩
          have := hcnt hmax
          simp only [List.length_append, hlen] at this ⊢
          omega
      | succ c' =>
        refine Inv.bind (inv_hasMore_succ cfg false c' nr bs) ?_
        rintro ⟨more, bst⟩ r0 ⟨rfl, hp⟩
        cases hp
        simp only [Bool.not_true, Bool.false_eq_true, if_false]
        exact body c' nr r0
    case map =>
      intro item depth c nr acc bs
      rw [deMapLoop]
      -- the part of the iteration after `has_more` said yes
      have body : ∀ (c' nr' : Nat) (r0 : Bytes),
          Inv (do
            let n ← readLen
            let (kb, borrowed) ← readSlice n
            let (kOut, kName) ← (match Hint.any.key with
              | .ignored => pure (Out.unit, none)
              | _ =>
                match bytesToStr? kb with
                | some s => pure (Out.str s borrowed, some s)
                | none => DeM.fail .custom : DeM (Out × Option String))
            let v ← de deExtModel cfg S g item depth false (Hint.any.valFor kName)
            deMapLoop deExtModel cfg S g item depth false .any ⟨c', nr'⟩ ((kOut, v) :: acc)) r0
          (fun out rest => ∃ es1 r1 more os fS,
            decodeMapItemsL Limits.impl S fS item (c' + 1) r0 = some (es1, r1) ∧
            decodeMapBlocksL Limits.impl S fS item r1 = some (more, rest) ∧
            observeEntries S item (es1 ++ more) = some os ∧ out = acc.reverse ++ os ∧
            depthEntries (es1 ++ more) ≤ depth ∧ maxLenEntries (es1 ++ more) ≤ cfg.maxSeqSize ∧
            (nr' ≤ cfg.maxSeqSize → nr' + more.length ≤ cfg.maxSeqSize)) := by
        intro c' nr' r0
        refine Inv.bind (inv_readLen r0) ?_
        intro n ra hlen
        refine Inv.bind (inv_readSlice n ra) ?_
        rintro ⟨kb, borrowed⟩ rb ⟨ht, hbor⟩
        simp only at ht hbor
        subst hbor
        simp only [Hint.key, bytesToStr?]
        split
        · rename_i k hk
          refine Inv.bind (Inv.pure (Q := fun p r => p = (Out.str k true, some k) ∧ r = rb) ⟨rfl, rfl⟩) ?_
          rintro ⟨kOut, kName⟩ r ⟨hp, rfl⟩
          cases hp
          simp only [Hint.valFor]
          have hstr : decodeStringL Limits.impl r0 = some (k, r) := by
            unfold decodeStringL decodeBytesL
            rw [hlen]
            simp only [ht, hk]
          refine Inv.bind (ih.de item depth r) ?_
          rintro o r1 ⟨v, f1, hd, ho, hvd, hvm⟩
          refine (ih.map item depth c' nr' ((.str k true, o) :: acc) r1).mono ?_
          rintro out rest ⟨es1, r2, more, os, f2, hi, hb, hos, rfl, hdp, hml, hcnt⟩
          have e1 := (fuelMono S _).dec _ _ _ _ (Nat.le_max_left f1 f2) hd
          have e2 := (fuelMono S _).mitems _ _ _ _ _ (Nat.le_max_right f1 f2) hi
          have e3 := (fuelMono S _).mblocks _ _ _ _ (Nat.le_succ_of_le (Nat.le_max_right f1 f2)) hb
          exact ⟨(k, v) :: es1, r2, more, (.str k true, o) :: os, max f1 f2 + 1,
            decodeMapItemsL_succ_eq_some.2 ⟨k, r, v, r1, es1, hstr, e1, e2, rfl⟩, e3,
            observeEntries_cons_eq_some.2 ⟨o, os, ho, hos, rfl⟩, by simp,
            Nat.max_le.2 ⟨hvd, hdp⟩, Nat.max_le.2 ⟨hvm, hml⟩, hcnt⟩
        · refine Inv.bind (Inv.fail _ _ (fun _ _ => False)) ?_
          intro _ _ hf
          exact absurd hf id
      cases c with
      | zero =>
        refine Inv.bind (inv_hasMore_zero cfg nr bs) ?_
        rintro ⟨more, bst⟩ r0 ⟨l, hh, ⟨rfl, hp⟩ | ⟨hl, hmax, hp⟩⟩
        · cases hp
          simp only [Bool.not_false, if_true]
          exact Inv.pure ⟨[], bs, [], [], 1, rfl,
            decodeMapBlocksL_succ_eq_some.2 ⟨0, r0, hh, Or.inl ⟨rfl, rfl, rfl⟩⟩,
            rfl, (List.append_nil _).symm, Nat.zero_le _, Nat.zero_le _, id⟩
        · cases hp
          obtain ⟨l', rfl⟩ := Nat.exists_eq_succ_of_ne_zero (Nat.ne_of_gt hl)
          simp only [Bool.not_true, Bool.false_eq_true, if_false]
          refine (body l' (nr + (l' + 1)) r0).mono ?_
          rintro out rest ⟨es1, r1, more, os, fS, hi, hb, hos, rfl, hdp, hml, hcnt⟩
          have hlen := decodeMapItemsL_length _ _ _ _ _ _ _ _ hi
          refine ⟨[], bs, es1 ++ more, os, fS + 1, rfl,
            decodeMapBlocksL_succ_eq_some.2 ⟨l' + 1, r0, hh, Or.inr ⟨hl, es1, r1, more, hi, hb, rfl⟩⟩,
            hos, rfl, hdp, hml, fun _ => ?_⟩
          have := hcnt hmax
          simp only [List.length_append, hlen] at this ⊢
          omega
      | succ c' =>
        refine Inv.bind (inv_hasMore_succ cfg false c' nr bs) ?_
        rintro ⟨more, bst⟩ r0 ⟨rfl, hp⟩
        cases hp
        simp only [Bool.not_true, Bool.false_eq_true, if_false]
        exact body c' nr r0

theorem sndAll (fuel : Nat) : SndAll cfg S fuel :=
  have h := sndS cfg S fuel
  ⟨fun n depth bs => (h.any n depth bs).mono fun _ _ ⟨v, fS, hv, ho, _⟩ => ⟨v, fS, hv, ho⟩,
   fun n depth bs => (h.de n depth bs).mono fun _ _ ⟨v, fS, hv, ho, _⟩ => ⟨v, fS, hv, ho⟩,
   fun item depth c nr acc bs => (h.seq item depth c nr acc bs).mono
     fun _ _ ⟨vs1, r1, more, os, fS, hi, hb, hos, ho, _⟩ => ⟨vs1, r1, more, os, fS, hi, hb, hos, ho⟩,
   fun item depth c nr acc bs => (h.map item depth c nr acc bs).mono
     fun _ _ ⟨es1, r1, more, os, fS, hi, hb, hos, ho, _⟩ => ⟨es1, r1, more, os, fS, hi, hb, hos, ho⟩,
   fun fields depth acc bs => (h.fields fields depth acc bs).mono
     fun _ _ ⟨vals, os, fS, hf, hos, ho, _⟩ => ⟨vals, os, fS, hf, hos, ho⟩⟩

/-- **Soundness**: whatever the deserializer accepts (slice back-end, dynamically typed target),
    the specification decoder restricted to the implementation's limits accepts, with the same
    value and the same remainder. -/
theorem de_sound_layouts (n : Node) (depth fuel : Nat) (s s' : RState) (o : Out)
    (hs : s.isSlice = true) (hl : s.limit = none) (ha : s.avail = 0)
    (h : de deExtModel cfg S fuel n depth false .any s = (.ok o, s')) :
    ∃ v fuelS, decodeL Limits.impl S fuelS n s.rest = some (v, s'.rest) ∧
      observe S n v = some o ∧ s' = { s with rest := s'.rest } := by
  obtain ⟨r, rfl, v, fS, hv, ho⟩ := ((sndAll cfg S fuel).de n depth s.rest).run hs hl ha h
  exact ⟨v, fS, hv, ho, rfl⟩

end Avro.Impl
