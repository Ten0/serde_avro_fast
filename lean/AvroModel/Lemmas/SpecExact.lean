import AvroModel.Lemmas.SpecLayouts
/-
`Spec.decode` (and `decodeL`) accept any non-negative byte size after a negative block count.
`decodeX L` is `decodeL L` with one additional check (`sizeOk`): the announced size is the number
of bytes the items of the block occupy.  `decodeX L ⊆ decodeL L` (`decodeX_sub`).  It is the
hypothesis under which skipping (`IgnoredAny`, which trusts the announced size) agrees with reading:
Lemmas/SkipLayouts, C12.  `decodeX` needs no `Loc`: all that is used is that the remainder is a
suffix of the input, which `decodeX_sub` inherits from `locL` (`decodeItemsX_suffix`); so its
equations are inverted directly.
-/
namespace Avro.Spec
open Avro Avro.Impl

/-- block header: `(count, announced byte size if the count was negative, rest)` -/
def decodeBlockHeaderX (L : Limits) (bs : Bytes) : Option (Nat × Option Nat × Bytes) :=
  match decodeLongL L bs with
  | none => none
  | some (c, rest) =>
    if c ≥ 0 then some (c.toNat, none, rest)
    else match decodeLongL L rest with
      | none => none
      | some (size, rest') =>
        if size ≥ 0 then some ((-c).toNat, some size.toNat, rest') else none

/-- the announced byte size (if any) is the number of bytes the items of the block occupy:
    `r0` is the input after the header, `r1` the input after the items -/
def sizeOk : Option Nat → Bytes → Bytes → Bool
  | none, _, _ => true
  | some n, r0, r1 => n + r1.length == r0.length

mutual

def decodeX (L : Limits) (S : Schema) : Nat → Node → Bytes → Option (Value × Bytes)
  | 0, _, _ => none
  | fuel + 1, n, bs =>
    match n with
    | .null => some (.null, bs)
    | .boolean =>
      match bs with
      | b :: rest => if b = 0 then some (.bool false, rest) else if b = 1 then some (.bool true, rest) else none
      | [] => none
    | .int | .date | .timeMillis =>
      match decodeLongL L bs with
      | some (i, rest) => if InI32 i then some (.int i, rest) else none
      | none => none
    | .long | .timeMicros | .timestampMillis | .timestampMicros =>
      match decodeLongL L bs with
      | some (i, rest) => some (.long i, rest)
      | none => none
    | .float => (takeN 4 bs).map fun (b, rest) => (.float (BitVec.ofNat 32 (leToNat b)), rest)
    | .double => (takeN 8 bs).map fun (b, rest) => (.double (BitVec.ofNat 64 (leToNat b)), rest)
    | .bytes => (decodeBytesL L bs).map fun (b, rest) => (.bytes b, rest)
    | .string | .uuid => (decodeStringL L bs).map fun (s, rest) => (.string s, rest)
    | .array k =>
      match nodeOf S k with
      | none => none
      | some item => (decodeBlocksX L S fuel item bs).map fun (vs, rest) => (.array vs, rest)
    | .map k =>
      match nodeOf S k with
      | none => none
      | some item => (decodeMapBlocksX L S fuel item bs).map fun (vs, rest) => (.map vs, rest)
    | .union vs =>
      match decodeLenL L bs with
      | none => none
      | some (idx, rest) =>
        match vs[idx]? with
        | none => none
        | some k =>
          match nodeOf S k with
          | none => none
          | some branch => (decodeX L S fuel branch rest).map fun (v, rest') => (.union idx v, rest')
    | .record _ fields =>
      (decodeFieldsX L S fuel (fields.map (·.2)) bs).map fun (vs, rest) => (.record vs, rest)
    | .enum _ syms =>
      match decodeLenL L bs with
      | some (idx, rest) => if idx < syms.length then some (.enum idx, rest) else none
      | none => none
    | .fixed _ size => (takeN size bs).map fun (b, rest) => (.fixed b, rest)
    | .decimal _ _ .bytes =>
      match decodeBytesL L bs with
      | some (b, rest) =>
        if fitsOpt L.maxDecimal b.length then some (.decimal (fromTwosComplementBE b), rest) else none
      | none => none
    | .decimal _ _ (.fixed _ size) =>
      if fitsOpt L.maxDecimal size then
        (takeN size bs).map fun (b, rest) => (.decimal (fromTwosComplementBE b), rest)
      else none
    | .bigDecimal =>
      match decodeBytesL L bs with
      | none => none
      | some (inner, rest) =>
        match decodeBytesL L inner with
        | none => none
        | some (m, inner') =>
          if fitsOpt L.maxDecimal m.length then
            match decodeLenL L inner' with
            | some (scale, []) => some (.bigDecimal (fromTwosComplementBE m) scale, rest)
            | _ => none
          else none
    | .duration =>
      (takeN 12 bs).map fun (b, rest) =>
        (.duration (leToNat (b.take 4)) (leToNat ((b.drop 4).take 4)) (leToNat (b.drop 8)), rest)

def decodeBlocksX (L : Limits) (S : Schema) : Nat → Node → Bytes → Option (List Value × Bytes)
  | 0, _, _ => none
  | fuel + 1, item, bs =>
    match decodeBlockHeaderX L bs with
    | none => none
    | some (0, _, rest) => some ([], rest)
    | some (c, sz, rest) =>
      match decodeItemsX L S fuel item c rest with
      | none => none
      | some (vs, rest') =>
        if sizeOk sz rest rest' = true then
          match decodeBlocksX L S fuel item rest' with
          | none => none
          | some (more, rest'') => some (vs ++ more, rest'')
        else none

def decodeItemsX (L : Limits) (S : Schema) : Nat → Node → Nat → Bytes → Option (List Value × Bytes)
  | _, _, 0, bs => some ([], bs)
  | 0, _, _ + 1, _ => none
  | fuel + 1, item, c + 1, bs =>
    match decodeX L S fuel item bs with
    | none => none
    | some (v, rest) =>
      match decodeItemsX L S fuel item c rest with
      | none => none
      | some (vs, rest') => some (v :: vs, rest')

def decodeMapBlocksX (L : Limits) (S : Schema) : Nat → Node → Bytes → Option (List (String × Value) × Bytes)
  | 0, _, _ => none
  | fuel + 1, item, bs =>
    match decodeBlockHeaderX L bs with
    | none => none
    | some (0, _, rest) => some ([], rest)
    | some (c, sz, rest) =>
      match decodeMapItemsX L S fuel item c rest with
      | none => none
      | some (vs, rest') =>
        if sizeOk sz rest rest' = true then
          match decodeMapBlocksX L S fuel item rest' with
          | none => none
          | some (more, rest'') => some (vs ++ more, rest'')
        else none

def decodeMapItemsX (L : Limits) (S : Schema) : Nat → Node → Nat → Bytes → Option (List (String × Value) × Bytes)
  | _, _, 0, bs => some ([], bs)
  | 0, _, _ + 1, _ => none
  | fuel + 1, item, c + 1, bs =>
    match decodeStringL L bs with
    | none => none
    | some (k, rest) =>
      match decodeX L S fuel item rest with
      | none => none
      | some (v, rest') =>
        match decodeMapItemsX L S fuel item c rest' with
        | none => none
        | some (vs, rest'') => some ((k, v) :: vs, rest'')

def decodeFieldsX (L : Limits) (S : Schema) : Nat → List Nat → Bytes → Option (List Value × Bytes)
  | _, [], bs => some ([], bs)
  | 0, _ :: _, _ => none
  | fuel + 1, k :: ks, bs =>
    match nodeOf S k with
    | none => none
    | some n =>
      match decodeX L S fuel n bs with
      | none => none
      | some (v, rest) =>
        match decodeFieldsX L S fuel ks rest with
        | none => none
        | some (vs, rest') => some (v :: vs, rest')

end

theorem decodeItemsX_zero {L : Limits} {S : Schema} (f : Nat) (item : Node) (bs : Bytes) :
    decodeItemsX L S f item 0 bs = some ([], bs) := by cases f <;> rfl

theorem decodeItemsX_succ_eq_some {L : Limits} {S : Schema} {f c : Nat} {item : Node}
    {bs r1 : Bytes} {vs : List Value} :
    decodeItemsX L S (f + 1) item (c + 1) bs = some (vs, r1) ↔
      ∃ v r0 vs', decodeX L S f item bs = some (v, r0) ∧
        decodeItemsX L S f item c r0 = some (vs', r1) ∧ vs = v :: vs' := by
  rw [decodeItemsX]
  constructor
  · intro h
    split at h
    · cases h
    · rename_i v r0 hd
      split at h
      · cases h
      · rename_i vs' r hi
        cases h
        exact ⟨v, r0, vs', hd, hi, rfl⟩
  · rintro ⟨v, r0, vs', hd, hi, rfl⟩
    simp only [hd, hi]

theorem decodeMapItemsX_zero {L : Limits} {S : Schema} (f : Nat) (item : Node) (bs : Bytes) :
    decodeMapItemsX L S f item 0 bs = some ([], bs) := by cases f <;> rfl

theorem decodeMapItemsX_succ_eq_some {L : Limits} {S : Schema} {f c : Nat} {item : Node} {bs r1 : Bytes}
    {es : List (String × Value)} :
    decodeMapItemsX L S (f + 1) item (c + 1) bs = some (es, r1) ↔
      ∃ k r v r0 es', decodeStringL L bs = some (k, r) ∧ decodeX L S f item r = some (v, r0) ∧
        decodeMapItemsX L S f item c r0 = some (es', r1) ∧ es = (k, v) :: es' := by
  rw [decodeMapItemsX]
  constructor
  · intro h
    split at h
    · cases h
    · rename_i k r hk
      split at h
      · cases h
      · rename_i v r0 hd
        split at h
        · cases h
        · rename_i es' r' hi
          cases h
          exact ⟨k, r, v, r0, es', hk, hd, hi, rfl⟩
  · rintro ⟨k, r, v, r0, es', hk, hd, hi, rfl⟩
    simp only [hk, hd, hi]

theorem decodeBlocksX_succ_eq_some {L : Limits} {S : Schema} {f : Nat} {item : Node}
    {bs rest : Bytes} {vs : List Value} :
    decodeBlocksX L S (f + 1) item bs = some (vs, rest) ↔
      ∃ c sz r0, decodeBlockHeaderX L bs = some (c, sz, r0) ∧
        (c = 0 ∧ vs = [] ∧ rest = r0 ∨
         0 < c ∧ ∃ vs1 r1 more, decodeItemsX L S f item c r0 = some (vs1, r1) ∧
           sizeOk sz r0 r1 = true ∧ decodeBlocksX L S f item r1 = some (more, rest) ∧
           vs = vs1 ++ more) := by
  rw [decodeBlocksX]
  constructor
  · intro h
    split at h
    · cases h
    · rename_i sz r0 hh
      simp only [Option.some.injEq, Prod.mk.injEq] at h
      obtain ⟨rfl, rfl⟩ := h
      exact ⟨0, sz, r0, hh, Or.inl ⟨rfl, rfl, rfl⟩⟩
    · rename_i c sz r0 hc hh
      split at h
      · cases h
      · rename_i vs1 r1 hi
        split at h
        · rename_i hsz
          split at h
          · cases h
          · rename_i more r2 hb
            simp only [Option.some.injEq, Prod.mk.injEq] at h
            obtain ⟨rfl, rfl⟩ := h
            exact ⟨c, sz, r0, hh,
              Or.inr ⟨Nat.pos_of_ne_zero hc, vs1, r1, more, hi, hsz, hb, rfl⟩⟩
        · cases h
  · rintro ⟨c, sz, r0, hh, ⟨rfl, rfl, rfl⟩ | ⟨hc, vs1, r1, more, hi, hsz, hb, rfl⟩⟩
    · simp only [hh]
    · obtain ⟨c, rfl⟩ := Nat.exists_eq_succ_of_ne_zero (Nat.ne_of_gt hc)
      simp only [hh, hi, hsz, hb, if_true]

theorem decodeMapBlocksX_succ_eq_some {L : Limits} {S : Schema} {f : Nat} {item : Node}
    {bs rest : Bytes} {vs : List (String × Value)} :
    decodeMapBlocksX L S (f + 1) item bs = some (vs, rest) ↔
      ∃ c sz r0, decodeBlockHeaderX L bs = some (c, sz, r0) ∧
        (c = 0 ∧ vs = [] ∧ rest = r0 ∨
         0 < c ∧ ∃ vs1 r1 more, decodeMapItemsX L S f item c r0 = some (vs1, r1) ∧
           sizeOk sz r0 r1 = true ∧ decodeMapBlocksX L S f item r1 = some (more, rest) ∧
           vs = vs1 ++ more) := by
  rw [decodeMapBlocksX]
  constructor
  · intro h
    split at h
    · cases h
    · rename_i sz r0 hh
      simp only [Option.some.injEq, Prod.mk.injEq] at h
      obtain ⟨rfl, rfl⟩ := h
      exact ⟨0, sz, r0, hh, Or.inl ⟨rfl, rfl, rfl⟩⟩
    · rename_i c sz r0 hc hh
      split at h
      · cases h
      · rename_i vs1 r1 hi
        split at h
        · rename_i hsz
          split at h
          · cases h
          · rename_i more r2 hb
            simp only [Option.some.injEq, Prod.mk.injEq] at h
            obtain ⟨rfl, rfl⟩ := h
            exact ⟨c, sz, r0, hh,
              Or.inr ⟨Nat.pos_of_ne_zero hc, vs1, r1, more, hi, hsz, hb, rfl⟩⟩
        · cases h
  · rintro ⟨c, sz, r0, hh, ⟨rfl, rfl, rfl⟩ | ⟨hc, vs1, r1, more, hi, hsz, hb, rfl⟩⟩
    · simp only [hh]
    · obtain ⟨c, rfl⟩ := Nat.exists_eq_succ_of_ne_zero (Nat.ne_of_gt hc)
      simp only [hh, hi, hsz, hb, if_true]

theorem decodeFieldsX_nil {L : Limits} {S : Schema} (f : Nat) (bs : Bytes) :
    decodeFieldsX L S f [] bs = some ([], bs) := by cases f <;> rfl

theorem decodeFieldsX_cons_eq_some {L : Limits} {S : Schema} {f k : Nat} {ks : List Nat}
    {bs rest : Bytes} {vs : List Value} :
    decodeFieldsX L S (f + 1) (k :: ks) bs = some (vs, rest) ↔
      ∃ n v r0 vs', nodeOf S k = some n ∧ decodeX L S f n bs = some (v, r0) ∧
        decodeFieldsX L S f ks r0 = some (vs', rest) ∧ vs = v :: vs' := by
  rw [decodeFieldsX]
  constructor
  · intro h
    split at h
    · cases h
    · rename_i n hn
      split at h
      · cases h
      · rename_i v r0 hd
        split at h
        · cases h
        · rename_i vs' r hi
          cases h
          exact ⟨n, v, r0, vs', hn, hd, hi, rfl⟩
  · rintro ⟨n, v, r0, vs', hn, hd, hi, rfl⟩
    simp only [hn, hd, hi]

theorem decodeX_array_eq_some {L : Limits} {S : Schema} {f k : Nat} {bs rest : Bytes} {v : Value} :
    decodeX L S (f + 1) (.array k) bs = some (v, rest) ↔
      ∃ item vs, S[k]? = some item ∧ decodeBlocksX L S f item bs = some (vs, rest) ∧
        v = .array vs := by
  simp only [decodeX, nodeOf]
  constructor
  · intro h
    split at h
    · cases h
    · rename_i item hk
      obtain ⟨⟨vs, r⟩, hb, h⟩ := Option.map_eq_some_iff.1 h
      cases h
      exact ⟨item, vs, hk, hb, rfl⟩
  · rintro ⟨item, vs, hk, hb, rfl⟩
    simp only [hk, hb, Option.map_some]

theorem decodeX_map_eq_some {L : Limits} {S : Schema} {f k : Nat} {bs rest : Bytes} {v : Value} :
    decodeX L S (f + 1) (.map k) bs = some (v, rest) ↔
      ∃ item es, S[k]? = some item ∧ decodeMapBlocksX L S f item bs = some (es, rest) ∧
        v = .map es := by
  simp only [decodeX, nodeOf]
  constructor
  · intro h
    split at h
    · cases h
    · rename_i item hk
      obtain ⟨⟨es, r⟩, hb, h⟩ := Option.map_eq_some_iff.1 h
      cases h
      exact ⟨item, es, hk, hb, rfl⟩
  · rintro ⟨item, es, hk, hb, rfl⟩
    simp only [hk, hb, Option.map_some]

theorem decodeX_union_eq_some {L : Limits} {S : Schema} {f : Nat} {ks : List Nat} {bs rest : Bytes}
    {v : Value} :
    decodeX L S (f + 1) (.union ks) bs = some (v, rest) ↔
      ∃ idx r0 k branch v', decodeLenL L bs = some (idx, r0) ∧ ks[idx]? = some k ∧
        S[k]? = some branch ∧ decodeX L S f branch r0 = some (v', rest) ∧ v = .union idx v' := by
  simp only [decodeX, nodeOf]
  constructor
  · intro h
    split at h
    · cases h
    · rename_i idx r0 hd
      split at h
      · cases h
      · rename_i k hk
        split at h
        · cases h
        · rename_i branch hb
          obtain ⟨⟨v', r⟩, hv, h⟩ := Option.map_eq_some_iff.1 h
          cases h
          exact ⟨idx, r0, k, branch, v', hd, hk, hb, hv, rfl⟩
  · rintro ⟨idx, r0, k, branch, v', hd, hk, hb, hv, rfl⟩
    simp only [hd, hk, hb, hv, Option.map_some]

theorem decodeX_record_eq_some {L : Limits} {S : Schema} {f : Nat} {nm : Name}
    {fields : List (String × Nat)} {bs rest : Bytes} {v : Value} :
    decodeX L S (f + 1) (.record nm fields) bs = some (v, rest) ↔
      ∃ vals, decodeFieldsX L S f (fields.map (·.2)) bs = some (vals, rest) ∧ v = .record vals := by
  simp only [decodeX]
  constructor
  · intro h
    obtain ⟨⟨vals, r⟩, hb, h⟩ := Option.map_eq_some_iff.1 h
    cases h
    exact ⟨vals, hb, rfl⟩
  · rintro ⟨vals, hb, rfl⟩
    simp only [hb, Option.map_some]

theorem decodeBlockHeaderX_inv {L : Limits} {bs r0 : Bytes} {c : Nat} {sz : Option Nat}
    (h : decodeBlockHeaderX L bs = some (c, sz, r0)) :
    ∃ cnt r, decodeLongL L bs = some (cnt, r) ∧
      ((0 ≤ cnt ∧ c = cnt.toNat ∧ sz = none ∧ r0 = r) ∨
       (cnt < 0 ∧ c = (-cnt).toNat ∧ ∃ size, decodeLongL L r = some (size, r0) ∧ 0 ≤ size ∧
          sz = some size.toNat)) := by
  unfold decodeBlockHeaderX at h
  split at h
  · cases h
  · rename_i cnt r hd
    refine ⟨cnt, r, hd, ?_⟩
    split at h
    · rename_i hc
      simp only [Option.some.injEq, Prod.mk.injEq] at h
      obtain ⟨rfl, rfl, rfl⟩ := h
      exact Or.inl ⟨hc, rfl, rfl, rfl⟩
    · rename_i hc
      split at h
      · cases h
      · rename_i size r' hd2
        split at h
        · rename_i hs
          simp only [Option.some.injEq, Prod.mk.injEq] at h
          obtain ⟨rfl, rfl, rfl⟩ := h
          exact Or.inr ⟨by omega, rfl, size, hd2, hs, rfl⟩
        · cases h

theorem decodeBlockHeaderX_L {L : Limits} {bs r0 : Bytes} {c : Nat} {sz : Option Nat}
    (h : decodeBlockHeaderX L bs = some (c, sz, r0)) : decodeBlockHeaderL L bs = some (c, r0) := by
  obtain ⟨cnt, r, hd, hcase⟩ := decodeBlockHeaderX_inv h
  unfold decodeBlockHeaderL
  rw [hd]
  rcases hcase with ⟨hc, rfl, _, rfl⟩ | ⟨hc, rfl, size, hd2, hs, _⟩
  · simp only [ge_iff_le, hc, if_true]
  · have : ¬ (cnt ≥ 0) := by omega
    simp only [this, if_false, hd2]
    rw [if_pos (Or.inl hs)]

structure SubAll (L : Limits) (S : Schema) (fuel : Nat) : Prop where
  dec : ∀ n bs r, decodeX L S fuel n bs = some r → decodeL L S fuel n bs = some r
  blocks : ∀ item bs r, decodeBlocksX L S fuel item bs = some r →
    decodeBlocksL L S fuel item bs = some r
  items : ∀ item c bs r, decodeItemsX L S fuel item c bs = some r →
    decodeItemsL L S fuel item c bs = some r
  mblocks : ∀ item bs r, decodeMapBlocksX L S fuel item bs = some r →
    decodeMapBlocksL L S fuel item bs = some r
  mitems : ∀ item c bs r, decodeMapItemsX L S fuel item c bs = some r →
    decodeMapItemsL L S fuel item c bs = some r
  fields : ∀ ks bs r, decodeFieldsX L S fuel ks bs = some r →
    decodeFieldsL L S fuel ks bs = some r

theorem subAll (L : Limits) (S : Schema) : ∀ fuel, SubAll L S fuel := by
  intro fuel
  induction fuel with
  | zero =>
    refine ⟨?_, ?_, ?_, ?_, ?_, ?_⟩
    · intro n bs r h; simp [decodeX] at h
    · intro item bs r h; simp [decodeBlocksX] at h
    · intro item c bs r h
      cases c with
      | zero => exact h
      | succ c => simp [decodeItemsX] at h
    · intro item bs r h; simp [decodeMapBlocksX] at h
    · intro item c bs r h
      cases c with
      | zero => exact h
      | succ c => simp [decodeMapItemsX] at h
    · intro ks bs r h
      cases ks with
      | nil => exact h
      | cons k ks => simp [decodeFieldsX] at h
  | succ fuel ih =>
    refine ⟨?_, ?_, ?_, ?_, ?_, ?_⟩
    · intro n bs r h
      cases n with
      | array k =>
        obtain ⟨v, rest⟩ := r
        obtain ⟨item, vs, hk, hb, rfl⟩ := decodeX_array_eq_some.1 h
        exact decodeL_array_eq_some.2 ⟨item, vs, hk, ih.blocks _ _ _ hb, rfl⟩
      | map k =>
        obtain ⟨v, rest⟩ := r
        obtain ⟨item, es, hk, hb, rfl⟩ := decodeX_map_eq_some.1 h
        exact decodeL_map_eq_some.2 ⟨item, es, hk, ih.mblocks _ _ _ hb, rfl⟩
      | union vs =>
        obtain ⟨v, rest⟩ := r
        obtain ⟨idx, r0, k, branch, v', hd, hk, hb, hv, rfl⟩ := decodeX_union_eq_some.1 h
        exact decodeL_union_eq_some.2 ⟨idx, r0, k, branch, v', hd, hk, hb, ih.dec _ _ _ hv, rfl⟩
      | record nm fields =>
        obtain ⟨v, rest⟩ := r
        obtain ⟨vals, hb, rfl⟩ := decodeX_record_eq_some.1 h
        exact decodeL_record_eq_some.2 ⟨vals, ih.fields _ _ _ hb, rfl⟩
      -- at a node without nested values the two decoders have the same arm
      | decimal sc pr repr => cases repr <;> exact h
      | _ => exact h
    · rintro item bs ⟨vs, rest⟩ h
      obtain ⟨c, sz, r0, hh, h0 | ⟨hc, vs1, r1, more, hi, _, hb, rfl⟩⟩ := decodeBlocksX_succ_eq_some.1 h
      · exact decodeBlocksL_succ_eq_some.2 ⟨c, r0, decodeBlockHeaderX_L hh, Or.inl h0⟩
      · exact decodeBlocksL_succ_eq_some.2 ⟨c, r0, decodeBlockHeaderX_L hh,
          Or.inr ⟨hc, vs1, r1, more, ih.items _ _ _ _ hi, ih.blocks _ _ _ hb, rfl⟩⟩
    · rintro item c bs ⟨vs, r1⟩ h
      cases c with
      | zero => rwa [decodeItemsX_zero, ← decodeItemsL_zero (L := L) (S := S) (fuel + 1) item bs] at h
      | succ c =>
        obtain ⟨v, r0, vs', hd, hi, rfl⟩ := decodeItemsX_succ_eq_some.1 h
        exact decodeItemsL_succ_eq_some.2 ⟨v, r0, vs', ih.dec _ _ _ hd, ih.items _ _ _ _ hi, rfl⟩
    · rintro item bs ⟨es, rest⟩ h
      obtain ⟨c, sz, r0, hh, h0 | ⟨hc, es1, r1, more, hi, _, hb, rfl⟩⟩ :=
        decodeMapBlocksX_succ_eq_some.1 h
      · exact decodeMapBlocksL_succ_eq_some.2 ⟨c, r0, decodeBlockHeaderX_L hh, Or.inl h0⟩
      · exact decodeMapBlocksL_succ_eq_some.2 ⟨c, r0, decodeBlockHeaderX_L hh,
          Or.inr ⟨hc, es1, r1, more, ih.mitems _ _ _ _ hi, ih.mblocks _ _ _ hb, rfl⟩⟩
    · rintro item c bs ⟨es, r1⟩ h
      cases c with
      | zero =>
        rwa [decodeMapItemsX_zero, ← decodeMapItemsL_zero (L := L) (S := S) (fuel + 1) item bs] at h
      | succ c =>
        obtain ⟨k, r, v, r0, es', hk, hd, hi, rfl⟩ := decodeMapItemsX_succ_eq_some.1 h
        exact decodeMapItemsL_succ_eq_some.2
          ⟨k, r, v, r0, es', hk, ih.dec _ _ _ hd, ih.mitems _ _ _ _ hi, rfl⟩
    · rintro ks bs ⟨vs, rest⟩ h
      cases ks with
      | nil => rwa [decodeFieldsX_nil, ← decodeFieldsL_nil (L := L) (S := S) (fuel + 1) bs] at h
      | cons k ks =>
        obtain ⟨n, v, r0, vs', hn, hd, hi, rfl⟩ := decodeFieldsX_cons_eq_some.1 h
        exact decodeFieldsL_cons_eq_some.2 ⟨n, v, r0, vs', hn, ih.dec _ _ _ hd, ih.fields _ _ _ hi, rfl⟩

theorem decodeX_sub (L : Limits) (S : Schema) (fuel : Nat) (n : Node) (bs : Bytes)
    (r : Value × Bytes) (h : decodeX L S fuel n bs = some r) : decodeL L S fuel n bs = some r :=
  (subAll L S fuel).dec n bs r h

theorem decodeItemsX_length (L : Limits) (S : Schema) (item : Node) (fuel c : Nat) (bs : Bytes)
    (vs : List Value) (r : Bytes) (h : decodeItemsX L S fuel item c bs = some (vs, r)) :
    vs.length = c :=
  decodeItemsL_length L S item fuel c bs vs r ((subAll L S fuel).items _ _ _ _ h)

theorem decodeMapItemsX_length (L : Limits) (S : Schema) (item : Node) (fuel c : Nat) (bs : Bytes)
    (vs : List (String × Value)) (r : Bytes) (h : decodeMapItemsX L S fuel item c bs = some (vs, r)) :
    vs.length = c :=
  decodeMapItemsL_length L S item fuel c bs vs r ((subAll L S fuel).mitems _ _ _ _ h)

theorem decodeItemsX_suffix {L : Limits} (S : Schema) (item : Node) (fuel c : Nat) (bs : Bytes)
    (vs : List Value) (r : Bytes) (h : decodeItemsX L S fuel item c bs = some (vs, r)) :
    ∃ mid, bs = mid ++ r := by
  obtain ⟨mid, hm, _⟩ := (locL (Limits.le_refl _) S fuel fuel (Nat.le_refl _)).items item c bs vs r
    ((subAll _ S fuel).items _ _ _ _ h)
  exact ⟨mid, hm⟩

theorem decodeMapItemsX_suffix {L : Limits} (S : Schema) (item : Node) (fuel c : Nat) (bs : Bytes)
    (vs : List (String × Value)) (r : Bytes)
    (h : decodeMapItemsX L S fuel item c bs = some (vs, r)) :
    ∃ mid, bs = mid ++ r := by
  obtain ⟨mid, hm, _⟩ := (locL (Limits.le_refl _) S fuel fuel (Nat.le_refl _)).mitems item c bs vs r
    ((subAll _ S fuel).mitems _ _ _ _ h)
  exact ⟨mid, hm⟩

end Avro.Spec
