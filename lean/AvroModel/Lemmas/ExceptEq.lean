/-
Decidable equality of `Except ε α`, by which equations between closed runs of the model (whose
results are `Except` values) are settled by evaluation.
-/
instance {ε α} [DecidableEq ε] [DecidableEq α] : DecidableEq (Except ε α)
  | .ok a, .ok b => decidable_of_iff (a = b) (by simp)
  | .error a, .error b => decidable_of_iff (a = b) (by simp)
  | .ok _, .error _ => isFalse nofun
  | .error _, .ok _ => isFalse nofun

theorem exists_ok_of_isOk {ε α} {x : Except ε α} (h : x.isOk = true) : ∃ a, x = .ok a := by
  cases x with
  | ok a => exact ⟨a, rfl⟩
  | error e => cases h
