import AvroModel.Lemmas.DeM
import AvroModel.Lemmas.DeEqns
/-
One walk over the mutual block `de / deTypeNameEnum / deAny / deIgnored / deSeqLoop / deMapLoop /
deRecordFields`, shared by the properties whose statement does not depend on the schema node (C11,
Lemmas/CutClassBig, Lemmas/DeBounds).  A `DeLogic` is a relation between `DeM` computations that is
compatible with `pure`, `fail`, `bind` and holds of the read primitives; its relation on results
(`OutRel`) is indexed by the depth budget, so that a bound on what is returned can follow the budget
(the nesting bound of C04).  A `*_step` lemma relates a function of the block at fuels `f₁ + 1`,
`f₂ + 1` given its callees at `f₁`, `f₂`; the callee hypotheses carry what is known at the call site
(the schema lookup that succeeded, the decremented depth budget, the block reader's answer), so that
a proof that has its induction hypothesis only under a side condition (a fuel bound, say) can
discharge them one by one.  `DeLogic.blockAdd` and `DeLogic.block` are the unconditional inductions.
-/
namespace Avro.Impl
open Avro

inductive ListRel {α β : Type} (R : α → β → Prop) : List α → List β → Prop
  | nil : ListRel R [] []
  | cons {a b l l'} : R a b → ListRel R l l' → ListRel R (a :: l) (b :: l')

theorem ListRel.append {α β : Type} {R : α → β → Prop} {l₁ l₁' l₂ l₂'} (h₁ : ListRel R l₁ l₁')
    (h₂ : ListRel R l₂ l₂') : ListRel R (l₁ ++ l₂) (l₁' ++ l₂') := by
  induction h₁ with
  | nil => exact h₂
  | cons h _ ih => exact .cons h ih

theorem ListRel.reverse {α β : Type} {R : α → β → Prop} {l l'} (h : ListRel R l l') :
    ListRel R l.reverse l'.reverse := by
  induction h with
  | nil => exact .nil
  | cons h _ ih =>
    rw [List.reverse_cons, List.reverse_cons]
    exact ih.append (.cons h .nil)

theorem ListRel.refl {α : Type} {R : α → α → Prop} (h : ∀ a, R a a) : ∀ l, ListRel R l l
  | [] => .nil
  | a :: l => .cons (h a) (ListRel.refl h l)

theorem ListRel.eq {α : Type} {l l' : List α} (h : ListRel (· = ·) l l') : l = l' := by
  induction h with
  | nil => rfl
  | cons h _ ih => rw [h, ih]

mutual
def Out.nesting : Out → Nat
  | .some o => o.nesting
  | .seq items => nestingList items + 1
  | .map entries => nestingEntries entries + 1
  | .variant n p => max n.nesting p.nesting
  | _ => 0
def nestingList : List Out → Nat
  | [] => 0
  | o :: r => max o.nesting (nestingList r)
def nestingEntries : List (Out × Out) → Nat
  | [] => 0
  | (k, v) :: r => max (max k.nesting v.nesting) (nestingEntries r)
end

theorem nestingList_le {n : Nat} : ∀ {l : List Out}, (∀ o ∈ l, o.nesting ≤ n) → nestingList l ≤ n
  | [], _ => by simp [nestingList]
  | o :: r, h => by
    simp only [nestingList]
    have h1 := h o List.mem_cons_self
    have h2 := nestingList_le (l := r) fun o ho => h o (List.mem_cons_of_mem _ ho)
    omega

theorem nestingEntries_le {n : Nat} : ∀ {l : List (Out × Out)},
    (∀ e ∈ l, e.1.nesting ≤ n ∧ e.2.nesting ≤ n) → nestingEntries l ≤ n
  | [], _ => by simp [nestingEntries]
  | (k, v) :: r, h => by
    simp only [nestingEntries]
    have h1 := h (k, v) List.mem_cons_self
    have h2 := nestingEntries_le (l := r) fun e he => h e (List.mem_cons_of_mem _ he)
    simp only at h1
    omega

theorem offerName_flat (kh : Hint) (name : String) (idx : Nat) (dk : Bool) :
    (offerName kh name idx dk).nesting = 0 := by
  unfold offerName
  split
  · rfl
  · split <;> rfl
  · rfl

theorem ite_unit_u32 (c : Prop) [Decidable c] (x : Nat) :
    (if c then Out.unit else Out.u32 x).nesting ≤ 0 := by
  split <;> simp only [Out.nesting, Nat.le_refl]

theorem durationSeqOut_nesting (b : Bytes) (eh : Hint) (mi : Option Nat) :
    (durationSeqOut b eh mi).nesting ≤ 1 := by
  unfold durationSeqOut
  simp only [Out.nesting]
  refine Nat.succ_le_succ (nestingList_le fun o ho => ?_)
  have ho := List.mem_of_mem_take ho
  simp only [List.mem_cons, List.not_mem_nil, or_false] at ho
  rcases ho with rfl | rfl | rfl <;> exact ite_unit_u32 _ _

theorem durationOut_nesting (b : Bytes) (h : Hint) : (durationOut b h).nesting ≤ 1 := by
  unfold durationOut
  simp only [Out.nesting]
  refine Nat.succ_le_succ (nestingEntries_le ?_)
  intro e he
  simp only [List.mem_cons, List.not_mem_nil, or_false] at he
  rcases he with rfl | rfl | rfl <;>
  · refine ⟨Nat.le_of_eq (offerName_flat _ _ _ _), ?_⟩
    exact ite_unit_u32 _ _

/-- the part of `readBigRaw` that runs under the `Take` -/
def bigDecimalBody : DeM (Int × Nat) := do
  let l ← varintProcessor .i64 12 []
  if l < 0 then DeM.fail .custom else
  let size := l.toNat
  if size > 16 then DeM.fail .custom else
  let b ← readExact size
  let sc ← varintProcessor .i64 12 []
  if sc < 0 ∨ sc ≥ 4294967296 then DeM.fail .custom else
  let left ← getLimit
  if left ≠ some 0 then DeM.fail .custom else
  pure (i128OfBE b, sc.toNat)

/-- the reads of `read_decimal` on a `big-decimal` -/
def readBigRaw : DeM (Int × Nat) := do
  let bytesLen ← readLen
  setLimit (some bytesLen)
  let r ← withLimitCleared bigDecimalBody
  pure r

/-- The reads of `read_decimal`.  This and `decimalTail` repeat the text of `readDecimal`
    (Impl/De.lean) in two parts, so that a logic owes only the `big-decimal` reads (`DeLogic.big`);
    `readDecimal_raw_tail` keeps them in step. -/
def readDecimalRaw : DecMode → DeM (Int × Nat)
  | .regular scale .bytes => do
    let size ← readLen
    if size > 16 then DeM.fail .custom else
    let b ← readExact size
    pure (i128OfBE b, scale)
  | .regular scale (.fixed _ size) => do
    if size > 16 then DeM.fail .custom else
    let b ← readExact size
    pure (i128OfBE b, scale)
  | .big => readBigRaw

/-- what `read_decimal` hands to the visitor once unscaled integer and scale are read -/
def decimalTail (ext : DeExt) (hint : DecHint) : Int × Nat → DeM Out := fun (unscaled, scale) => do
  if scale = 0 then
    match hint with
    | .u64 =>
      if 0 ≤ unscaled ∧ unscaled < 2 ^ 64 then return .u64 unscaled.toNat
      else if unscaled < 0 then return .i128 unscaled
      else pure ()
    | .i64 =>
      if -(2 : Int) ^ 63 ≤ unscaled ∧ unscaled < 2 ^ 63 then return .i64 unscaled
      else return .i128 unscaled
    | .u128 =>
      if 0 ≤ unscaled then return .u128 unscaled.toNat else return .i128 unscaled
    | .i128 => return .i128 unscaled
    | _ => pure ()
  match ext.decToString unscaled scale with
  | none => DeM.fail .custom
  | some s =>
    if hint = .f64 then
      match ext.decToF64 unscaled scale with
      | some bits => pure (.f64 bits)
      | none => pure (.str s false)
    else pure (.str s false)

theorem readDecimal_raw_tail (ext : DeExt) (mode : DecMode) (hint : DecHint) :
    readDecimal ext mode hint = readDecimalRaw mode >>= decimalTail ext hint := by
  unfold readDecimal readDecimalRaw
  split <;> rfl

/-- `read_block_len` at the fuel `has_more` gives it, which it takes from the state -/
def readBlockLenAuto (ign : Bool) : DeM (Option Nat) := fun s =>
  readBlockLen ign (s.rest.length + 2) s

def hasMoreTail (cfg : DeConfig) (bs : BlockState) : Option Nat → DeM (Bool × BlockState)
  | none => pure (false, bs)
  | some l =>
    if bs.nRead + l > cfg.maxSeqSize then DeM.fail .custom
    else pure (true, { current := l - 1, nRead := bs.nRead + l })

theorem hasMore_succ {cfg : DeConfig} {ign : Bool} {bs : BlockState} {c : Nat}
    (h : bs.current = c + 1) : hasMore cfg ign bs = pure (true, { bs with current := c }) := by
  unfold hasMore
  rw [h]
  rfl

/-- between two blocks `has_more` is a `bind` like the rest of the model -/
theorem hasMore_zero {cfg : DeConfig} {ign : Bool} {bs : BlockState} (h : bs.current = 0) :
    hasMore cfg ign bs = readBlockLenAuto ign >>= hasMoreTail cfg bs := by
  funext s
  rw [DeM.bind_apply]
  unfold hasMore readBlockLenAuto
  rw [h]
  dsimp only
  rcases readBlockLen ign (s.rest.length + 2) s with ⟨(e | (_ | l)), s'⟩
  · rfl
  · rfl
  · dsimp only [hasMoreTail]
    split <;> rfl

/-- no read, and a scalar if anything -/
def DeM.Scalar (m : DeM Out) : Prop := m = DeM.fail .custom ∨ ∃ o, o.nesting = 0 ∧ m = pure o

theorem DeM.Scalar.pure (o : Out) (h : o.nesting = 0 := by rfl) : DeM.Scalar (pure o) :=
  .inr ⟨o, h, rfl⟩

theorem decimalTail_scalar (ext : DeExt) (hint : DecHint) (p : Int × Nat) :
    (decimalTail ext hint p).Scalar := by
  obtain ⟨unscaled, scale⟩ := p
  have hstr : DeM.Scalar (match ext.decToString unscaled scale with
      | none => DeM.fail .custom
      | some s =>
        if hint = .f64 then
          match ext.decToF64 unscaled scale with
          | some bits => Pure.pure (Out.f64 bits)
          | none => Pure.pure (Out.str s false)
        else Pure.pure (Out.str s false)) := by
    split
    · exact .inl rfl
    · split
      · split <;> exact .pure _
      · exact .pure _
  unfold decimalTail
  dsimp only
  split
  · split
    · split
      · exact .pure _
      · split
        · exact .pure _
        · exact hstr
    · split <;> exact .pure _
    · split <;> exact .pure _
    · exact .pure _
    · exact hstr
  · exact hstr

def EntryRel (V : Out → Out → Prop) (e e' : Out × Out) : Prop := V e.1 e'.1 ∧ V e.2 e'.2

/-- `F` relates the `borrowed` flags.  Reflexivity is asked only of the shallow trees (`nesting ≤ 1`:
    scalars, and the flat map or sequence a `duration` is presented as). -/
structure OutRel (V : Nat → Out → Out → Prop) (F : Bool → Bool → Prop) : Prop where
  /-- where a callee ran on budget `d` and its result is returned at `d + 1` with no constructor
      around it: the branch of a union, of an option, of an enum -/
  vmono : ∀ {d a b}, V d a b → V (d + 1) a b
  vflat : ∀ d {o}, o.nesting ≤ 1 → V d o o
  vstr : ∀ d s {f f'}, F f f' → V d (.str s f) (.str s f')
  vbytes : ∀ d b {f f'}, F f f' → V d (.bytes b f) (.bytes b f')
  vsome : ∀ {d a b}, V d a b → V d (.some a) (.some b)
  vseq : ∀ {d l l'}, ListRel (V d) l l' → V (d + 1) (.seq l) (.seq l')
  vmap : ∀ {d l l'}, ListRel (EntryRel (V d)) l l' → V (d + 1) (.map l) (.map l')
  vvariant : ∀ {d a b c e}, V d a b → V d c e → V d (.variant a c) (.variant b e)
  /-- an enum target on an identifier node selects its variant by the identifier read, on both sides -/
  vselect : ∀ {d a b}, V d a b → ∀ vs, selectVariant vs a = selectVariant vs b

theorem ListRel.eq_of_entry {l l' : List (Out × Out)} (h : ListRel (EntryRel (· = ·)) l l') :
    l = l' := by
  induction h with
  | nil => rfl
  | cons h _ ih => rw [Prod.ext h.1 h.2, ih]

theorem OutRel.eq : OutRel (fun _ => (· = ·)) (· = ·) where
  vmono h := h
  vflat _ _ _ := rfl
  vstr _ _ _ _ h := by rw [h]
  vbytes _ _ _ _ h := by rw [h]
  vsome h := by rw [h]
  vseq h := by rw [h.eq]
  vmap h := by rw [h.eq_of_entry]
  vvariant h h' := by rw [h, h']
  vselect h _ := by rw [h]

/-- the hint under which `deTypeNameEnum` reads the payload of the variant it selected -/
def VariantHint.payload : VariantHint → Option Hint
  | .unit => none
  | .newtype h => some h
  | .tuple n e => some (.tuple n e)
  | .struct fs => some (.struct fs)

/-- A set of hints closed under the hints that `de` on one of them hands to its callees.
    `H .ignored` says whether the walk enters `deIgnored` (and the ignoring block reader): a relation
    that `skip_bytes` breaks (the cut-input simulation) is still a logic for targets that never ignore. -/
structure Hint.Closed (H : Hint → Prop) : Prop where
  elem : ∀ {h}, H h → H h.elem
  valFor : ∀ {h} name, H h → H (h.valFor name)
  inner : ∀ {h}, H (.option h) → H h
  ident : ∀ {vs}, H (.enum vs) → H .identifier
  payload : ∀ {vs o v h}, H (.enum vs) → selectVariant vs o = .some v → v.payload = .some h → H h
  unit : ∀ {vs o}, H (.enum vs) → selectVariant vs o = .some .unit → H .ignored

theorem Hint.Closed.all : Hint.Closed fun _ => True :=
  ⟨fun _ => trivial, fun _ _ => trivial, fun _ => trivial, fun _ => trivial,
    fun _ _ _ => trivial, fun _ _ => trivial⟩

/-- a dynamically typed target: `deserialize_any` all the way down -/
theorem Hint.Closed.any : Hint.Closed (· = .any) where
  elem h := by rw [h]; rfl
  valFor _ h := by rw [h]; rfl
  inner h := nomatch h
  ident h := nomatch h
  payload h := nomatch h
  unit h := nomatch h

/-- `H`: the hints covered. -/
structure DeLogic
    (Rel : ∀ {α β : Type}, (α → β → Prop) → DeM α → DeM β → Prop)
    (V : Nat → Out → Out → Prop) (F : Bool → Bool → Prop) (H : Hint → Prop) :
    Prop extends OutRel V F where
  pure : ∀ {α β : Type} {R : α → β → Prop} {a : α} {b : β}, R a b → Rel R (pure a) (pure b)
  /-- `custom` only: `io` arises inside the read primitives, `panic` is the argument `hp` of the walk -/
  fail : ∀ {α β : Type} {R : α → β → Prop}, Rel R (DeM.fail .custom) (DeM.fail .custom)
  /-- the continuations need only be related on values that the first computation can return -/
  bind : ∀ {α β γ δ : Type} {R : α → β → Prop} {R' : γ → δ → Prop} {m : DeM α} {m' : DeM β}
    {f : α → DeM γ} {f' : β → DeM δ}, Rel R m m' →
    (∀ a b, R a b → m.Returns a → Rel R' (f a) (f' b)) → Rel R' (m >>= f) (m' >>= f')
  varint : ∀ t, Rel (· = ·) (readVarint t) (readVarint t)
  exact : ∀ k, Rel (· = ·) (readExact k) (readExact k)
  slice : ∀ n, Rel (fun a b => a.1 = b.1 ∧ F a.2 b.2) (readSlice n) (readSlice n)
  /-- the block reader in ignoring mode (`skip_bytes`) is asked for only if `.ignored` is covered;
      `has_more` follows (`DeLogic.more`) -/
  blockLen : ∀ ign, (ign = true → H .ignored) →
    Rel (· = ·) (readBlockLenAuto ign) (readBlockLenAuto ign)
  /-- one field for the whole read: under the `Take` a relation between two runs is another one than
      outside (`RelD false false`, `TRelL`), so its pieces `setLimit … varintProcessor` are not
      expressible in `Rel`; a property of one run is uniform (`Keeps.readBigRaw`) -/
  big : Rel (· = ·) readBigRaw readBigRaw

section
variable
  {Rel : ∀ {α β : Type}, (α → β → Prop) → DeM α → DeM β → Prop}
  {V : Nat → Out → Out → Prop} {F : Bool → Bool → Prop} {H : Hint → Prop}

theorem DeLogic.bindEq (L : DeLogic Rel V F H) {α γ δ : Type} {R' : γ → δ → Prop}
    {m : DeM α} {f : α → DeM γ} {f' : α → DeM δ} (hm : Rel (· = ·) m m)
    (hf : ∀ a, m.Returns a → Rel R' (f a) (f' a)) : Rel R' (m >>= f) (m >>= f') :=
  L.bind hm fun a _ hab ha => hab ▸ hf a ha

theorem DeLogic.more (L : DeLogic Rel V F H) (cfg : DeConfig) (ign : Bool) (bs : BlockState)
    (hi : ign = true → H .ignored) : Rel (· = ·) (hasMore cfg ign bs) (hasMore cfg ign bs) := by
  cases hc : bs.current with
  | succ c => rw [hasMore_succ hc]; exact L.pure rfl
  | zero =>
    rw [hasMore_zero hc]
    refine L.bindEq (L.blockLen ign hi) fun o _ => ?_
    cases o with
    | none => exact L.pure rfl
    | some l =>
      dsimp only [hasMoreTail]
      split
      · exact L.fail
      · exact L.pure rfl

theorem DeLogic.mono (L : DeLogic Rel V F H) {α β : Type} {R R' : α → β → Prop} {m : DeM α}
    {m' : DeM β} (hR : ∀ a b, R a b → R' a b) (h : Rel R m m') : Rel R' m m' := by
  have := L.bind (R' := R') (f := Pure.pure) (f' := Pure.pure) h fun a b hab _ => L.pure (hR a b hab)
  rwa [DeM.bind_pure, DeM.bind_pure] at this

theorem DeLogic.decDepth (L : DeLogic Rel V F H) {γ δ : Type} {R' : γ → δ → Prop}
    (depth : Nat) {f : Nat → DeM γ} {f' : Nat → DeM δ}
    (hf : ∀ d, depth = d + 1 → Rel R' (f d) (f' d)) :
    Rel R' (decDepth depth >>= f) (decDepth depth >>= f') := by
  cases depth with
  | zero => exact L.fail
  | succ d => exact hf d rfl

theorem DeLogic.len (L : DeLogic Rel V F H) : Rel (· = ·) readLen readLen :=
  L.bindEq (L.varint _) fun l _ => by
    split
    · exact L.fail
    · exact L.pure rfl

/-- `read_decimal`: the reads are related by equality, and what follows is a scalar or a failure -/
theorem DeLogic.decimal (L : DeLogic Rel V F H) (d : Nat) (ext : DeExt) (mode : DecMode)
    (hint : DecHint) : Rel (V d) (readDecimal ext mode hint) (readDecimal ext mode hint) := by
  have hexact (size scale : Nat) : Rel (· = ·)
      (if size > 16 then DeM.fail .custom else
        readExact size >>= fun b => Pure.pure (i128OfBE b, scale))
      (if size > 16 then DeM.fail .custom else
        readExact size >>= fun b => Pure.pure (i128OfBE b, scale)) := by
    split
    · exact L.fail
    · exact L.bindEq (L.exact _) fun _ _ => L.pure rfl
  rw [readDecimal_raw_tail]
  refine L.bindEq ?_ fun p _ => ?_
  · unfold readDecimalRaw
    split
    · exact L.bindEq L.len fun size _ => hexact size _
    · exact hexact _ _
    · exact L.big
  · rcases decimalTail_scalar ext hint p with h | ⟨o, ho, h⟩ <;> rw [h]
    · exact L.fail
    · exact L.pure (L.vflat _ (by rw [ho]; exact Nat.zero_le _))

theorem DeLogic.sliceBytes (L : DeLogic Rel V F H) (d n : Nat) :
    Rel (V d) (readSlice n >>= fun (b, borrowed) => Pure.pure (.bytes b borrowed))
      (readSlice n >>= fun (b, borrowed) => Pure.pure (.bytes b borrowed)) :=
  L.bind (L.slice n) fun (b, f) (b', f') hb _ => by
    obtain ⟨rfl, hf⟩ : b = b' ∧ F f f' := hb
    exact L.pure (L.vbytes _ _ hf)

theorem DeLogic.sliceStr (L : DeLogic Rel V F H) (d n : Nat) :
    Rel (V d) (readSlice n >>= fun (b, borrowed) =>
        match bytesToStr? b with | some s => Pure.pure (.str s borrowed) | none => DeM.fail .custom)
      (readSlice n >>= fun (b, borrowed) =>
        match bytesToStr? b with | some s => Pure.pure (.str s borrowed) | none => DeM.fail .custom) :=
  L.bind (L.slice n) fun (b, f) (b', f') hb _ => by
    obtain ⟨rfl, hf⟩ : b = b' ∧ F f f' := hb
    dsimp only
    split
    · exact L.pure (L.vstr _ _ hf)
    · exact L.fail

theorem DeLogic.string (L : DeLogic Rel V F H) (d : Nat) : Rel (V d) readString readString :=
  L.bindEq L.len fun n _ => L.sliceStr d n

theorem DeLogic.bytes (L : DeLogic Rel V F H) (d : Nat) : Rel (V d) readBytes readBytes :=
  L.bindEq L.len fun n _ => L.sliceBytes d n

theorem DeLogic.bool (L : DeLogic Rel V F H) (d : Nat) : Rel (V d) readBool readBool :=
  L.bind (L.slice 1) fun (b, f) (b', f') hb _ => by
    obtain ⟨rfl, -⟩ : b = b' ∧ F f f' := hb
    dsimp only
    split
    · exact L.pure (L.vflat _ (Nat.zero_le _))
    · exact L.pure (L.vflat _ (Nat.zero_le _))
    · exact L.fail

theorem DeLogic.discriminant (L : DeLogic Rel V F H) :
    Rel (· = ·) readDiscriminant readDiscriminant := L.len

theorem DeLogic.branch (L : DeLogic Rel V F H) {γ δ : Type} {R' : γ → δ → Prop} (vs : List Nat)
    {g : Nat → Nat → DeM γ} {g' : Nat → Nat → DeM δ}
    (hg : ∀ d k, k ∈ vs → Rel R' (g d k) (g' d k)) :
    Rel R' (readDiscriminant >>= fun d => match vs[d]? with | none => DeM.fail .custom | some k => g d k)
      (readDiscriminant >>= fun d => match vs[d]? with | none => DeM.fail .custom | some k => g' d k) := by
  refine L.bindEq L.discriminant fun d _ => ?_
  split
  · exact L.fail
  · next k hk => exact hg d k (List.mem_of_getElem? hk)

theorem DeLogic.leaf (L : DeLogic Rel V F H) {α : Type} {m : DeM α} (hm : Rel (· = ·) m m)
    (d : Nat) {g : α → Out} (hg : ∀ a, (g a).nesting ≤ 1) :
    Rel (V d) (m >>= fun a => Pure.pure (g a)) (m >>= fun a => Pure.pure (g a)) :=
  L.bindEq hm fun _ _ => L.pure (L.vflat _ (hg _))

theorem DeLogic.unsigned (L : DeLogic Rel V F H) (d : Nat) (t : VarTy) :
    Rel (V d) (readVarint t >>= fun d => if d < 0 then DeM.fail .custom else Pure.pure (.u64 d.toNat))
      (readVarint t >>= fun d => if d < 0 then DeM.fail .custom else Pure.pure (.u64 d.toNat)) :=
  L.bindEq (L.varint t) fun d _ => by
    split
    · exact L.fail
    · exact L.pure (L.vflat _ (Nat.zero_le _))

variable {ext : DeExt} {cfg : DeConfig} {S : Schema} {f₁ f₂ : Nat}

theorem DeLogic.recd_step (L : DeLogic Rel V F H) (name : String) (k : Nat)
    (rest : List (String × Nat)) (depth : Nat) (h : Hint) {acc acc' : List (Out × Out)}
    (hmiss : S[k]? = none → Rel (ListRel (EntryRel (V depth))) (DeM.fail .panic) (DeM.fail .panic))
    (hde : ∀ fnode, S[k]? = .some fnode →
      Rel (V depth) (de ext cfg S f₁ fnode depth false (h.valFor (.some name)))
        (de ext cfg S f₂ fnode depth false (h.valFor (.some name))))
    (hrec : ∀ e e', EntryRel (V depth) e e' →
      Rel (ListRel (EntryRel (V depth))) (deRecordFields ext cfg S f₁ rest depth h (e :: acc))
        (deRecordFields ext cfg S f₂ rest depth h (e' :: acc'))) :
    Rel (ListRel (EntryRel (V depth))) (deRecordFields ext cfg S (f₁ + 1) ((name, k) :: rest) depth h acc)
      (deRecordFields ext cfg S (f₂ + 1) ((name, k) :: rest) depth h acc') := by
  unfold deRecordFields
  split
  · next hk => exact hmiss hk
  · next fnode hk =>
    exact L.bind (hde fnode hk) fun _ _ hv _ =>
      hrec _ _ ⟨L.vflat _ (by rw [offerName_flat]; exact Nat.zero_le _), hv⟩

theorem DeLogic.seq_step (L : DeLogic Rel V F H) (item : Node) (depth : Nat) (ign : Bool)
    (eh : Hint) (mi : Option Nat) (bs : BlockState) {acc acc' : List Out} (hacc : ListRel (V depth) acc acc')
    (hi : ign = true → H .ignored)
    (hde : Rel (V depth) (de ext cfg S f₁ item depth false eh) (de ext cfg S f₂ item depth false eh))
    (hseq : ∀ bs' o o', (hasMore cfg ign bs).Returns (true, bs') → V depth o o' →
      Rel (ListRel (V depth)) (deSeqLoop ext cfg S f₁ item depth ign eh (mi.map (· - 1)) bs' (o :: acc))
        (deSeqLoop ext cfg S f₂ item depth ign eh (mi.map (· - 1)) bs' (o' :: acc'))) :
    Rel (ListRel (V depth)) (deSeqLoop ext cfg S (f₁ + 1) item depth ign eh mi bs acc)
      (deSeqLoop ext cfg S (f₂ + 1) item depth ign eh mi bs acc') := by
  unfold deSeqLoop
  split
  · refine L.bindEq (L.more _ _ _ hi) fun (more, _) _ => ?_
    dsimp only
    split
    · exact L.fail
    · exact L.pure hacc.reverse
  · refine L.bindEq (L.more _ _ _ hi) fun (more, bs') hret => ?_
    cases more
    · exact L.pure hacc.reverse
    · exact L.bind hde fun o o' ho _ => hseq bs' o o' hret ho

theorem DeLogic.map_step (L : DeLogic Rel V F H) (item : Node) (depth : Nat) (ign : Bool)
    (h : Hint) (bs : BlockState) {acc acc' : List (Out × Out)}
    (hacc : ListRel (EntryRel (V depth)) acc acc') (hi : ign = true → H .ignored)
    (hde : ∀ name, Rel (V depth) (de ext cfg S f₁ item depth false (h.valFor name))
      (de ext cfg S f₂ item depth false (h.valFor name)))
    (hmap : ∀ bs' e e', (hasMore cfg ign bs).Returns (true, bs') → EntryRel (V depth) e e' →
      Rel (ListRel (EntryRel (V depth))) (deMapLoop ext cfg S f₁ item depth ign h bs' (e :: acc))
        (deMapLoop ext cfg S f₂ item depth ign h bs' (e' :: acc'))) :
    Rel (ListRel (EntryRel (V depth))) (deMapLoop ext cfg S (f₁ + 1) item depth ign h bs acc)
      (deMapLoop ext cfg S (f₂ + 1) item depth ign h bs acc') := by
  unfold deMapLoop
  refine L.bindEq (L.more _ _ _ hi) fun (more, bs') hret => ?_
  cases more
  · exact L.pure hacc.reverse
  · refine L.bindEq L.len fun n _ => L.bind (L.slice n) fun (kb, f) (kb', f') hkb _ => ?_
    obtain ⟨rfl, hf⟩ : kb = kb' ∧ F f f' := hkb
    refine L.bind (R := fun p q => V depth p.1 q.1 ∧ p.2 = q.2) ?_ fun (kOut, kName) (kOut', kName') hk _ => ?_
    · split
      · exact L.pure ⟨L.vflat _ (Nat.zero_le _), rfl⟩
      · split
        · exact L.pure ⟨L.vstr _ _ hf, rfl⟩
        · exact L.fail
    · obtain ⟨hk, rfl⟩ : V depth kOut kOut' ∧ kName = kName' := hk
      exact L.bind (hde _) fun _ _ hv _ => hmap bs' _ _ hret ⟨hk, hv⟩

theorem DeLogic.tne_step (L : DeLogic Rel V F H) (node : Node) (depth : Nat)
    (vs : List (String × VariantHint))
    (hign : selectVariant vs (.str node.typeName false) = .some .unit →
      Rel (V depth) (deIgnored ext cfg S f₁ node depth) (deIgnored ext cfg S f₂ node depth))
    (hde : ∀ v h, selectVariant vs (.str node.typeName false) = .some v → v.payload = .some h →
      Rel (V depth) (de ext cfg S f₁ node depth false h) (de ext cfg S f₂ node depth false h)) :
    Rel (V depth) (deTypeNameEnum ext cfg S (f₁ + 1) node depth vs)
      (deTypeNameEnum ext cfg S (f₂ + 1) node depth vs) := by
  unfold deTypeNameEnum
  dsimp only
  split
  · exact L.fail
  · next hs => exact L.bind (hign hs) fun _ _ _ _ => L.pure (L.vflat _ (Nat.zero_le _))
  all_goals
    next hs =>
    exact L.bind (hde _ _ hs rfl) fun _ _ ho _ =>
      L.pure (L.vvariant (L.vflat _ (Nat.zero_le _)) ho)

theorem DeLogic.ign_step (L : DeLogic Rel V F H) (node : Node) (depth : Nat)
    (hmiss : ∀ k ∈ node.children, S[k]? = none → Rel (V depth) (DeM.fail .panic) (DeM.fail .panic))
    (hseq : ∀ k item d, node = .array k → S[k]? = .some item → depth = d + 1 →
      Rel (ListRel (V d)) (deSeqLoop ext cfg S f₁ item d true .ignored none {} [])
        (deSeqLoop ext cfg S f₂ item d true .ignored none {} []))
    (hmap : ∀ k item d, node = .map k → S[k]? = .some item → depth = d + 1 →
      Rel (ListRel (EntryRel (V d))) (deMapLoop ext cfg S f₁ item d true .ignored {} [])
        (deMapLoop ext cfg S f₂ item d true .ignored {} []))
    (hany : Rel (V depth) (deAny ext cfg S f₁ node depth .ignored) (deAny ext cfg S f₂ node depth .ignored)) :
    Rel (V depth) (deIgnored ext cfg S (f₁ + 1) node depth) (deIgnored ext cfg S (f₂ + 1) node depth) := by
  -- tags as in `de_step`: h_1 string, h_2 array, h_3 map, h_4 int, h_5 long, h_6 enum, h_7 duration,
  -- h_8 every other node
  unfold deIgnored
  split
  case h_1 =>
    exact L.bindEq L.len fun n _ => L.bind (L.slice n) fun _ _ _ _ =>
      L.pure (L.vflat _ (Nat.zero_le _))
  case h_2 k =>
    split
    · next hk => exact hmiss k (List.mem_singleton.mpr rfl) hk
    · next item hk =>
      exact L.decDepth depth fun d hd =>
        L.bind (hseq k item d rfl hk hd) fun _ _ _ _ => L.pure (L.vflat _ (Nat.zero_le _))
  case h_3 k =>
    split
    · next hk => exact hmiss k (List.mem_singleton.mpr rfl) hk
    · next item hk =>
      exact L.decDepth depth fun d hd =>
        L.bind (hmap k item d rfl hk hd) fun _ _ _ _ => L.pure (L.vflat _ (Nat.zero_le _))
  case h_4 | h_5 | h_6 => exact L.leaf (L.varint _) _ fun _ => Nat.zero_le _
  case h_7 => exact L.leaf (L.exact _) _ fun _ => Nat.zero_le _
  case h_8 => exact L.bind hany fun _ _ _ _ => L.pure (L.vflat _ (Nat.zero_le _))

theorem DeLogic.any_step (L : DeLogic Rel V F H) (node : Node) (depth : Nat) (h : Hint)
    (hmiss : ∀ k ∈ node.children, S[k]? = none → Rel (V depth) (DeM.fail .panic) (DeM.fail .panic))
    (hseq : ∀ k item d, node = .array k → S[k]? = .some item → depth = d + 1 →
      Rel (ListRel (V d)) (deSeqLoop ext cfg S f₁ item d false h.elem h.maxItems {} [])
        (deSeqLoop ext cfg S f₂ item d false h.elem h.maxItems {} []))
    (hmap : ∀ k item d, node = .map k → S[k]? = .some item → depth = d + 1 →
      Rel (ListRel (EntryRel (V d))) (deMapLoop ext cfg S f₁ item d false h {} [])
        (deMapLoop ext cfg S f₂ item d false h {} []))
    (hunion : ∀ k variant d, k ∈ node.children → S[k]? = .some variant → depth = d + 1 →
      Rel (V d) (deAny ext cfg S f₁ variant d h) (deAny ext cfg S f₂ variant d h))
    (hrec : ∀ nm fields d, node = .record nm fields → depth = d + 1 →
      Rel (ListRel (EntryRel (V d))) (deRecordFields ext cfg S f₁ fields d h [])
        (deRecordFields ext cfg S f₂ fields d h [])) :
    Rel (V depth) (deAny ext cfg S (f₁ + 1) node depth h) (deAny ext cfg S (f₂ + 1) node depth h) := by
  cases node <;> simp only [deAny]
  case null => exact L.pure (L.vflat _ (Nat.zero_le _))
  case boolean => exact L.bool _
  case int | date | timeMillis | long | timeMicros | timestampMillis | timestampMicros =>
    exact L.leaf (L.varint _) _ fun _ => Nat.zero_le _
  case float | double => exact L.leaf (L.exact _) _ fun _ => Nat.zero_le _
  case duration => exact L.leaf (L.exact _) _ fun _ => durationOut_nesting _ _
  case bytes => exact L.bytes _
  case string | uuid => exact L.string _
  case array k =>
    split
    · next hk => exact hmiss k (List.mem_singleton.mpr rfl) hk
    · next item hk =>
      exact L.decDepth depth fun d hd => by
        subst hd
        exact L.bind (hseq k item d rfl hk rfl) fun _ _ hl _ => L.pure (L.vseq hl)
  case map k =>
    split
    · next hk => exact hmiss k (List.mem_singleton.mpr rfl) hk
    · next item hk =>
      exact L.decDepth depth fun d hd => by
        subst hd
        exact L.bind (hmap k item d rfl hk rfl) fun _ _ hl _ => L.pure (L.vmap hl)
  case union vs =>
    refine L.branch vs fun _ k hmem => ?_
    split
    · next hn => exact hmiss k hmem hn
    · next variant hv =>
      exact L.decDepth depth fun d hd => by
        subst hd
        exact L.mono (fun _ _ => L.vmono) (hunion k variant d hmem hv rfl)
  case record nm fields =>
    exact L.decDepth depth fun d hd => by
      subst hd
      exact L.bind (hrec nm fields d rfl rfl) fun _ _ hl _ => L.pure (L.vmap hl)
  case «enum» =>
    refine L.bindEq L.discriminant fun i _ => ?_
    split
    · exact L.fail
    · exact L.pure (L.vflat _ (Nat.zero_le _))
  case fixed => exact L.sliceBytes _ _
  case decimal | bigDecimal => exact L.decimal _ _ _ _

theorem DeLogic.de_step (L : DeLogic Rel V F H) (node : Node) (depth : Nat) (favor : Bool)
    (h : Hint)
    (hmiss : ∀ k ∈ node.children, S[k]? = none → Rel (V depth) (DeM.fail .panic) (DeM.fail .panic))
    (hign : h = .ignored →
      Rel (V depth) (deIgnored ext cfg S f₁ node depth) (deIgnored ext cfg S f₂ node depth))
    (hany : Rel (V depth) (deAny ext cfg S f₁ node depth h) (deAny ext cfg S f₂ node depth h))
    (hopt : ∀ inner, h = .option inner →
      Rel (V depth) (de ext cfg S f₁ node depth favor inner) (de ext cfg S f₂ node depth favor inner))
    (hoptVariant : ∀ inner k variant d b, h = .option inner → k ∈ node.children →
      S[k]? = .some variant → depth = d + 1 →
      Rel (V d) (de ext cfg S f₁ variant d b inner) (de ext cfg S f₂ variant d b inner))
    -- `d = depth`: favoured, same budget; `depth = d + 1`: neither a union nor an identifier kind
    (henum : ∀ vs d, h = .enum vs → d = depth ∨ depth = d + 1 →
      Rel (V d) (deTypeNameEnum ext cfg S f₁ node d vs) (deTypeNameEnum ext cfg S f₂ node d vs))
    (henumVariant : ∀ vs k variant d, h = .enum vs → k ∈ node.children → S[k]? = .some variant →
      depth = d + 1 →
      Rel (V d) (deTypeNameEnum ext cfg S f₁ variant d vs) (deTypeNameEnum ext cfg S f₂ variant d vs))
    (hident : ∀ vs d, h = .enum vs → depth = d + 1 →
      Rel (V d) (de ext cfg S f₁ node d false .identifier) (de ext cfg S f₂ node d false .identifier)) :
    Rel (V depth) (de ext cfg S (f₁ + 1) node depth favor h) (de ext cfg S (f₂ + 1) node depth favor h) := by
  -- One unfolding and a `split` on the match on the hint (`cases h` with an unfolding per hint is
  -- slower to check).  `split` tags its goals by the position of the arm in `de` (Impl/De.lean), an
  -- or-pattern counting once per alternative; an arm inserted there renumbers all later tags, here
  -- and in the inner `split`s on the node, which start again at `h_1`:
  --   h_1 .ignored   h_2 .u64    h_3 .i64     h_4 .u128   h_5 .i128     h_6 .f64          h_7 .str    h_8 .bytes
  --   h_9 .option    h_10 .seq   h_11 .tuple  h_12 .map   h_13 .struct  h_14 .identifier  h_15 .enum  h_16 .any
  -- Inner tags: under `.option`, node `h_1 null`, `h_2 union`, else; under `.enum` (not favoured), node
  -- `h_1 union`, `h_2 … h_7` the six identifier kinds, else.
  unfold de
  dsimp only
  split
  case h_1 => exact hign rfl
  case h_2 =>
    split
    · exact L.unsigned _ _
    · exact L.decimal _ _ _ _
    · exact L.decimal _ _ _ _
    · exact hany
  case h_3 =>
    split
    · exact L.leaf (L.varint _) _ fun _ => Nat.zero_le _
    · exact L.decimal _ _ _ _
    · exact L.decimal _ _ _ _
    · exact hany
  case h_4 | h_5 =>
    split
    · exact L.decimal _ _ _ _
    · exact L.decimal _ _ _ _
    · exact hany
  case h_6 =>
    split
    · exact L.leaf (L.exact _) _ fun _ => Nat.zero_le _
    · exact L.decimal _ _ _ _
    · exact L.decimal _ _ _ _
    · exact hany
  case h_7 =>
    split
    · exact L.string _
    · exact L.string _
    · exact L.sliceStr _ _
    · exact hany
  case h_8 =>
    split
    · exact L.bytes _
    · exact L.sliceBytes _ _
    · exact hany
  case h_9 inner =>
    split
    case h_1 => exact L.pure (L.vflat _ (Nat.zero_le _))
    case h_2 vs =>
      refine L.branch vs fun _ k hmem => ?_
      split
      · next hn => exact hmiss k hmem hn
      · exact L.pure (L.vflat _ (Nat.zero_le _))
      · next variant _ hv =>
        exact L.decDepth depth fun d hd => by
          subst hd
          exact L.bind (hoptVariant inner k variant d _ rfl hmem hv rfl) fun _ _ ho _ =>
            L.pure (L.vsome (L.vmono ho))
    all_goals exact L.bind (hopt inner rfl) fun _ _ ho _ => L.pure (L.vsome ho)
  case h_10 =>
    split
    · exact L.leaf (L.exact _) _ fun _ => durationSeqOut_nesting _ _ _
    · exact hany
  case h_11 =>
    split
    · split
      · exact L.leaf (L.exact _) _ fun _ => durationSeqOut_nesting _ _ _
      · exact hany
    · exact hany
  case h_14 =>
    split
    · exact L.unsigned _ _
    · exact L.unsigned _ _
    · exact hany
  case h_15 vs =>
    split
    · exact henum vs depth rfl (.inl rfl)
    · split
      case h_1 us =>
        refine L.branch us fun _ k hmem => ?_
        split
        · next hn => exact hmiss k hmem hn
        · next variant hv =>
          exact L.decDepth depth fun d hd => by
            subst hd
            exact L.mono (fun _ _ => L.vmono) (henumVariant vs k variant d rfl hmem hv rfl)
      case h_2 | h_3 | h_4 | h_5 | h_6 | h_7 =>
        exact L.decDepth depth fun d hd => by
          subst hd
          refine L.bind (hident vs d rfl rfl) fun a b hab _ => ?_
          rw [L.vselect hab]
          split
          · exact L.pure (L.vvariant (L.vmono hab) (L.vflat _ (Nat.zero_le _)))
          · exact L.fail
          · exact L.fail
      all_goals
        exact L.decDepth depth fun d hd => by
          subst hd
          exact L.mono (fun _ _ => L.vmono) (henum vs d rfl (.inr rfl))

  case h_12 | h_13 | h_16 => exact hany
variable (Rel V H ext cfg S) in
structure DeLogic.Block (f₁ f₂ : Nat) : Prop where
  de : ∀ node depth favor h, H h →
    Rel (V depth) (de ext cfg S f₁ node depth favor h) (de ext cfg S f₂ node depth favor h)
  tne : ∀ node depth vs, H (.enum vs) →
    Rel (V depth) (deTypeNameEnum ext cfg S f₁ node depth vs) (deTypeNameEnum ext cfg S f₂ node depth vs)
  any : ∀ node depth h, H h →
    Rel (V depth) (deAny ext cfg S f₁ node depth h) (deAny ext cfg S f₂ node depth h)
  ign : ∀ node depth, H .ignored →
    Rel (V depth) (deIgnored ext cfg S f₁ node depth) (deIgnored ext cfg S f₂ node depth)
  seq : ∀ item depth ign eh mi bs acc acc', H eh → (ign = true → H .ignored) →
    ListRel (V depth) acc acc' →
    Rel (ListRel (V depth)) (deSeqLoop ext cfg S f₁ item depth ign eh mi bs acc)
      (deSeqLoop ext cfg S f₂ item depth ign eh mi bs acc')
  map : ∀ item depth ign h bs acc acc', H h → (ign = true → H .ignored) →
    ListRel (EntryRel (V depth)) acc acc' →
    Rel (ListRel (EntryRel (V depth))) (deMapLoop ext cfg S f₁ item depth ign h bs acc)
      (deMapLoop ext cfg S f₂ item depth ign h bs acc')
  recd : ∀ fields depth h acc acc', H h → ListRel (EntryRel (V depth)) acc acc' →
    Rel (ListRel (EntryRel (V depth))) (deRecordFields ext cfg S f₁ fields depth h acc)
      (deRecordFields ext cfg S f₂ fields depth h acc')

/-- `hp`: here a panic is a schema index out of range, on both sides. -/
theorem DeLogic.step (L : DeLogic Rel V F H) (hH : Hint.Closed H)
    (hp : ∀ {α β : Type} {R : α → β → Prop}, Rel R (DeM.fail .panic) (DeM.fail .panic))
    (ih : Block @Rel V H ext cfg S f₁ f₂) : Block @Rel V H ext cfg S (f₁ + 1) (f₂ + 1) where
  de node depth favor h hh :=
    L.de_step node depth favor h
      (hmiss := fun _ _ _ => hp)
      (hign := fun e => ih.ign _ _ (e ▸ hh))
      (hany := ih.any _ _ _ hh)
      (hopt := fun _ e => ih.de _ _ _ _ (hH.inner (e ▸ hh)))
      (hoptVariant := fun _ _ _ _ _ e _ _ _ => ih.de _ _ _ _ (hH.inner (e ▸ hh)))
      (henum := fun _ _ e _ => ih.tne _ _ _ (e ▸ hh))
      (henumVariant := fun _ _ _ _ e _ _ _ => ih.tne _ _ _ (e ▸ hh))
      (hident := fun _ _ e _ => ih.de _ _ _ _ (hH.ident (e ▸ hh)))
  tne node depth vs hh :=
    L.tne_step node depth vs
      (hign := fun hs => ih.ign _ _ (hH.unit hh hs))
      (hde := fun _ _ hs hv => ih.de _ _ _ _ (hH.payload hh hs hv))
  any node depth h hh :=
    L.any_step node depth h
      (hmiss := fun _ _ _ => hp)
      (hseq := fun _ _ _ _ _ _ => ih.seq _ _ _ _ _ _ _ _ (hH.elem hh) (fun e => nomatch e) .nil)
      (hmap := fun _ _ _ _ _ _ => ih.map _ _ _ _ _ _ _ hh (fun e => nomatch e) .nil)
      (hunion := fun _ _ _ _ _ _ => ih.any _ _ _ hh)
      (hrec := fun _ _ _ _ _ => ih.recd _ _ _ _ _ hh .nil)
  ign node depth hh :=
    L.ign_step node depth
      (hmiss := fun _ _ _ => hp)
      (hseq := fun _ _ _ _ _ _ => ih.seq _ _ _ _ _ _ _ _ hh (fun _ => hh) .nil)
      (hmap := fun _ _ _ _ _ _ => ih.map _ _ _ _ _ _ _ hh (fun _ => hh) .nil)
      (hany := ih.any _ _ _ hh)
  seq item depth ign eh mi bs _ _ hh hi hacc :=
    L.seq_step item depth ign eh mi bs hacc hi (ih.de _ _ _ _ hh)
      fun _ _ _ _ ho => ih.seq _ _ _ _ _ _ _ _ hh hi (.cons ho hacc)
  map item depth ign h bs _ _ hh hi hacc :=
    L.map_step item depth ign h bs hacc hi (fun _ => ih.de _ _ _ _ (hH.valFor _ hh))
      fun _ _ _ _ he => ih.map _ _ _ _ _ _ _ hh hi (.cons he hacc)
  recd fields depth h _ _ hh hacc := by
    cases fields with
    | nil => rw [deRecordFields_nil, deRecordFields_nil]; exact L.pure hacc.reverse
    | cons f rest =>
      exact L.recd_step f.1 f.2 rest depth h (fun _ => hp)
        (fun _ _ => ih.de _ _ _ _ (hH.valFor _ hh))
        fun _ _ he => ih.recd _ _ _ _ _ hh (.cons he hacc)

/-- The walk with `k` more units of fuel on the right.  `hp`: a computation out of fuel (or with a
    schema index out of range) is related to what stands on the right, which for `k = 0` is out of
    fuel too.  Panic is no field of `DeLogic`, because a proof that excludes or weakens it
    (`settled_all`) calls the `*_step` lemmas itself with its own `hmiss`. -/
theorem DeLogic.blockAdd (L : DeLogic Rel V F H) (hH : Hint.Closed H) (k : Nat)
    (hp : ∀ {α β : Type} {R : α → β → Prop} (m' : DeM β), (k = 0 → m' = DeM.fail .panic) →
      Rel R (DeM.fail .panic : DeM α) m')
    (S : Schema) : ∀ fuel, Block @Rel V H ext cfg S fuel (k + fuel)
  | 0 => by
    refine ⟨?_, ?_, ?_, ?_, ?_, ?_, ?_⟩
    · intros; rw [de_zero]; exact hp _ fun hk => by subst hk; exact de_zero
    · intros; rw [deTypeNameEnum_zero]; exact hp _ fun hk => by subst hk; exact deTypeNameEnum_zero
    · intros; rw [deAny_zero]; exact hp _ fun hk => by subst hk; exact deAny_zero
    · intros; rw [deIgnored_zero]; exact hp _ fun hk => by subst hk; exact deIgnored_zero
    · intros; rw [deSeqLoop_zero]; exact hp _ fun hk => by subst hk; exact deSeqLoop_zero
    · intros; rw [deMapLoop_zero]; exact hp _ fun hk => by subst hk; exact deMapLoop_zero
    · intro fields depth h acc acc' _ hacc
      cases fields with
      | nil => rw [deRecordFields_nil, deRecordFields_nil]; exact L.pure hacc.reverse
      | cons =>
        rw [deRecordFields_zero]; exact hp _ fun hk => by subst hk; exact deRecordFields_zero
  | fuel + 1 => L.step hH (hp _ fun _ => rfl) (L.blockAdd hH k hp S fuel)

theorem DeLogic.block (L : DeLogic Rel V F H) (hH : Hint.Closed H)
    (hp : ∀ {α β : Type} {R : α → β → Prop}, Rel R (DeM.fail .panic) (DeM.fail .panic))
    (S : Schema) (fuel : Nat) : Block @Rel V H ext cfg S fuel fuel := by
  have := L.blockAdd (ext := ext) (cfg := cfg) hH 0 (fun m' hm => by rw [hm rfl]; exact hp) S fuel
  rwa [Nat.zero_add] at this

end

def SameOutcome {α β : Type} (R : α → β → Prop)
    (x : Except DeErr α × RState) (y : Except DeErr β × RState) : Prop :=
  match x, y with
  | (.ok a, s), (.ok b, s') => R a b ∧ s = s'
  | (.error e, s), (.error e', s') => e = e' ∧ s = s'
  | _, _ => False

theorem SameOutcome.of_refl {α : Type} {R : α → α → Prop} (h : ∀ a, R a a)
    (x : Except DeErr α × RState) : SameOutcome R x x := by
  obtain ⟨(e | a), s⟩ := x
  · exact ⟨rfl, rfl⟩
  · exact ⟨h a, rfl⟩

theorem SameOutcome.eq {α : Type} {x y : Except DeErr α × RState} (h : SameOutcome (· = ·) x y) : x = y := by
  obtain ⟨(e | a), s⟩ := x <;> obtain ⟨(e' | b), s'⟩ := y
  · rw [h.1, h.2]
  · exact h.elim
  · exact h.elim
  · rw [h.1, h.2]

/-- `m'` does what `m` does (up to `R` on the results) on every run of `m` that does not end in an
    error outside `A`. -/
def DeM.Agree {α β : Type} (A : DeErr → Prop) (R : α → β → Prop) (m : DeM α) (m' : DeM β) : Prop :=
  ∀ s, (∀ e, (m s).1 = .error e → A e) → SameOutcome R (m s) (m' s)

theorem DeM.Agree.of_refl {α : Type} {A : DeErr → Prop} {R : α → α → Prop} (h : ∀ a, R a a)
    (m : DeM α) : DeM.Agree A R m m := fun s _ => SameOutcome.of_refl h (m s)

theorem DeM.Agree.eq {α : Type} {m m' : DeM α} (h : DeM.Agree (fun _ => True) (· = ·) m m') :
    m = m' := funext fun s => (h s fun _ _ => trivial).eq

theorem DeM.Agree.bind {A : DeErr → Prop} {α β γ δ : Type} {R : α → β → Prop} {R' : γ → δ → Prop}
    {m : DeM α} {m' : DeM β} {f : α → DeM γ} {f' : β → DeM δ} (h₁ : DeM.Agree A R m m')
    (h₂ : ∀ a b, R a b → m.Returns a → DeM.Agree A R' (f a) (f' b)) :
    DeM.Agree A R' (m >>= f) (m' >>= f') := by
  intro s hA
  have h := h₁ s
  rcases hm : m s with ⟨(e | a), t⟩ <;> rw [hm] at h
  · rw [DeM.bind_error hm] at hA ⊢
    have h := h fun _ he => hA _ (by cases he; rfl)
    rcases hm' : m' s with ⟨(e' | b), t'⟩ <;> rw [hm'] at h
    · rw [DeM.bind_error hm']; exact h
    · exact h.elim
  · rw [DeM.bind_ok hm] at hA ⊢
    have h := h fun _ he => nomatch he
    rcases hm' : m' s with ⟨(e' | b), t'⟩ <;> rw [hm'] at h
    · exact h.elim
    · obtain ⟨hab, rfl⟩ := h
      rw [DeM.bind_ok hm']
      exact h₂ a b hab ⟨s, t, hm⟩ t hA

theorem DeM.Agree.witness {A : DeErr → Prop} {α β : Type} {R : α → β → Prop} {m : DeM α}
    {m' : DeM β} (h : DeM.Agree A R m m') {a : α} (ha : m.Returns a) : ∃ b, R a b := by
  obtain ⟨s, t, hm⟩ := ha
  have h := h s fun _ he => by rw [hm] at he; cases he
  rw [hm] at h
  rcases hm' : m' s with ⟨(e' | b), t'⟩ <;> rw [hm'] at h
  · exact h.elim
  · exact ⟨b, h.1⟩

theorem DeM.Agree.of_fail {α β : Type} {A : DeErr → Prop} {R : α → β → Prop} {e : DeErr}
    (h : ¬ A e) (m' : DeM β) : DeM.Agree A R (DeM.fail e) m' := fun _ hA => absurd (hA e rfl) h

theorem DeM.Agree.logic (A : DeErr → Prop) {V : Nat → Out → Out → Prop} (hV : OutRel V (· = ·)) :
    DeLogic (DeM.Agree A) V (· = ·) fun _ => True where
  toOutRel := hV
  pure h _ _ := ⟨h, rfl⟩
  fail _ _ := ⟨rfl, rfl⟩
  bind := DeM.Agree.bind
  varint _ := .of_refl (fun _ => rfl) _
  exact _ := .of_refl (fun _ => rfl) _
  slice _ := .of_refl (fun _ => ⟨rfl, rfl⟩) _
  blockLen _ _ := .of_refl (fun _ => rfl) _
  big := .of_refl (fun _ => rfl) _

theorem DeM.Agree.logicEq (A : DeErr → Prop) :
    DeLogic (DeM.Agree A) (fun _ => (· = ·)) (· = ·) fun _ => True :=
  DeM.Agree.logic A OutRel.eq

end Avro.Impl
