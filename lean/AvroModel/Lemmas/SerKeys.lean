import AvroModel.Lemmas.SerBase
/-
What makes the panic sites of the serializer model (`Impl/Ser.lean`) unreachable: child keys in
bounds (`NodeIn`, and `SeqIn`/`StructIn` for the nodes a compound state holds), the branch a
look-up selects, `fieldIdx` (`fieldIdx_spec`) and the fill step of `recordEnd` (`recordFill`).
-/
namespace Avro.Theorems
open Avro Avro.Impl

/-- The child keys of `n` are keys of `S`.  `NodeIn`, `SeqIn`, `StructIn` have copies `NodeOK`, `SeqOK`,
    `StructOK` (`Lemmas/SerTriples.lean` says why). -/
def NodeIn (S : Schema) (n : Node) : Prop := ∀ k ∈ n.children, k < S.size

theorem NodeIn.of_get {S : Schema} (hk : S.keysInBounds) {k : Nat} {n : Node} (h : S[k]? = some n) :
    NodeIn S n := Schema.children_lt hk h

section via
variable {α : Type} {S : Schema} {vs : List Nat} {d k : Nat} {n : Node} (f : Node → SerM α)

theorem viaUnion_sel {key : LookupKey} (hsel : unnamedLookup key (branchNodes S vs) = some d)
    (hd : vs[d]? = some k) (hk : S[k]? = some n) :
    viaUnion S (.union vs) key f = (do writeVarI64 d; f n) := by
  simp only [viaUnion_union_eq, hsel, viaBranch, hd, hk]

theorem viaName_sel {name : String} (hsel : namedLookup name (branchNodes S vs) = some d)
    (hd : vs[d]? = some k) (hk : S[k]? = some n) :
    viaName S (.union vs) name f = (do writeVarI64 d; f n) := by
  simp only [viaName_union_eq, hsel, viaBranch, hd, hk]

theorem viaName_union_none {name : String} (h : namedLookup name (branchNodes S vs) = none) :
    viaName S (.union vs) name f = f (.union vs) := by
  simp only [viaName_union_eq, h]

end via

/-- The nodes a compound state holds have their child keys in `S`. -/
def SeqIn (S : Schema) : SeqKind → Prop
  | .array items _ => NodeIn S items
  | .duration _ | .buffered _ | .fixed _ => True

def StructIn (S : Schema) : StructKind → Prop
  | .record fields _ => ∀ f ∈ fields, f.2 < S.size
  | .map values _ => NodeIn S values
  | _ => True

theorem flushBuffered_current : ∀ (fuel : Nat) (rs : RecordState) (s : SerState) (rs' : RecordState),
    (flushBuffered fuel rs s).1 = .ok rs' → rs.current ≤ rs'.current := by
  intro fuel
  induction fuel with
  | zero => intro rs s rs' h; cases h; exact Nat.le_refl _
  | succ fuel ih =>
    intro rs s rs' h
    unfold flushBuffered at h
    split at h
    · dsimp only at h
      split at h
      · cases h
      · exact Nat.le_of_succ_le (ih _ _ _ h)
    · cases h; exact Nat.le_refl _

section record
variable {S : Schema}

/-- The "fill an omitted nullable field" step of `recordEnd`. -/
def recordFill (S : Schema) (f : String × Nat) : SerM Unit := do
  let n ← nodeAt S f.2
  match n with
  | .null => pure ()
  | .union vs =>
    match unnamedLookup .null (branchNodes S vs) with
    | some d =>
      match (branchNodes S vs)[d]? with
      | some .null => writeVarI64 d
      | _ => SerM.fail .custom
    | none => SerM.fail .custom
  | _ => SerM.fail .custom

/-- The fill step is `serialize_unit` at the field's node: the extra test that the selected branch
    is a `null` node always succeeds. -/
theorem recordFill_eq (f : String × Nat) : recordFill S f = nodeAt S f.2 >>= serUnit S := by
  unfold recordFill
  congr 1
  funext n
  unfold serUnit
  cases n <;> try rfl
  rename_i vs
  dsimp only
  cases hd : unnamedLookup .null (branchNodes S vs) with
  | none => rfl
  | some d => simp only [unnamedLookup_null_get hd]

theorem recordEnd_succ (fields : List (String × Nat)) (fuel : Nat) (rs : RecordState) (s : SerState) :
    recordEnd S fields (fuel + 1) rs s =
      match fields[rs.current]? with
      | none => (.ok rs, s)
      | some f =>
        match recordFill S f s with
        | (.error e, s') => (.error (e, rs), s')
        | (.ok _, s') =>
          match flushBuffered rs.buffers.slots.length { rs with current := rs.current + 1 } s' with
          | (.error e, s'') => (.error e, s'')
          | (.ok rs', s'') => recordEnd S fields fuel rs' s'' := by
  rw [recordEnd]; rfl

theorem recordEnd_current (fields : List (String × Nat)) : ∀ (fuel : Nat) (rs : RecordState)
    (s : SerState) (rs' : RecordState), (recordEnd S fields fuel rs s).1 = .ok rs' →
    fields.length ≤ rs'.current ∨ rs.current + fuel ≤ rs'.current := by
  intro fuel
  induction fuel with
  | zero => intro rs s rs' h; cases h; exact .inr (Nat.le_refl _)
  | succ fuel ih =>
    intro rs s rs' h
    rw [recordEnd_succ] at h
    split at h
    · rename_i hnone
      cases h
      exact .inl (List.getElem?_eq_none_iff.mp hnone)
    · split at h
      · cases h
      · split at h
        · cases h
        · rename_i rs1 s'' heq
          have h1 : rs.current + 1 ≤ rs1.current :=
            flushBuffered_current _ _ _ rs1 (congrArg Prod.fst heq)
          have h2 := ih _ _ _ h
          omega

/-- `field_idx`: a failure is `custom`, i.e. the `Ordering::Equal => panic!` arm is dead. -/
theorem fieldIdx_spec (fields : List (String × Nat)) (rs : RecordState) (name : String) :
    match fieldIdx fields rs name with
    | .ok i => (∃ k, fields[i]? = some (name, k)) ∧ i ≥ rs.current
    | .error e => e = .custom := by
  generalize h : fieldIdx fields rs name = r
  unfold fieldIdx at h
  split at h
  · subst h; rfl
  · rename_i first hfirst
    split at h
    · rename_i hname
      subst h
      exact ⟨⟨first.2, by rw [hfirst, ← hname]⟩, Nat.le_refl _⟩
    · rename_i hname
      split at h
      · subst h; rfl
      · rename_i j hj
        have hs := lookupLast_some hj
        rw [List.getElem?_map] at hs
        split at h
        · subst h
          cases hfj : fields[j]? with
          | none => simp [hfj] at hs
          | some p =>
            simp [hfj] at hs
            exact ⟨⟨p.2, by rw [hfj, ← hs]⟩, by omega⟩
        · split at h
          · subst h; rfl
          · -- `j = current`: then the first comparison had succeeded
            obtain rfl : j = rs.current := by omega
            simp [hfirst] at hs
            exact (hname hs).elim

theorem fieldIdx_sound {fields : List (String × Nat)} {rs : RecordState} {name : String} {i : Nat}
    (h : fieldIdx fields rs name = .ok i) :
    (∃ k, fields[i]? = some (name, k)) ∧ i ≥ rs.current := by
  have := fieldIdx_spec fields rs name
  rwa [h] at this

theorem fieldIdx_of_nodup {fields : List (String × Nat)} (hnd : (fields.map (·.1)).Nodup)
    {rs : RecordState} {i : Nat} {f : String × Nat} (hf : fields[i]? = some f)
    (hi : rs.current ≤ i) : fieldIdx fields rs f.1 = .ok i := by
  have hlt : i < fields.length := (List.getElem?_eq_some_iff.mp hf).1
  have hni : (fields.map (·.1))[i]? = some f.1 := by rw [List.getElem?_map, hf]; rfl
  unfold fieldIdx
  have hcur : rs.current < fields.length := by omega
  rw [List.getElem?_eq_getElem hcur]
  dsimp only
  by_cases hname : fields[rs.current].1 = f.1
  · rw [if_pos hname]
    rw [names_inj hnd (List.getElem?_eq_getElem hcur) hf hname]
  · rw [if_neg hname, lookupLast_of_nodup hnd hni]
    dsimp only
    have : i ≠ rs.current := by
      intro h; subst h
      apply hname
      rw [List.getElem?_eq_getElem hcur] at hf
      simp only [Option.some.injEq] at hf
      rw [hf]
    rw [if_pos (by omega)]

theorem fieldIdx_no_panic (fields : List (String × Nat)) (rs : RecordState) (name : String) :
    fieldIdx fields rs name ≠ .error .panic := fun h => by
  have := fieldIdx_spec fields rs name
  rw [h] at this
  cases this

end record
end Avro.Theorems
