import AvroModel.Lemmas.OcfStream
import AvroModel.Lemmas.OcfWriter
/-
The container reader on a valid file cut after any number of bytes, EXACTLY: which values it yields
and how the run ends (end of stream / which error class) — either back-end (`sl : Bool`), any chunk
schedule, the data of a block in the file as they are (null codec) or compressed (`Wire`).
`run_start` is the one induction; prefix safety, the whole file and the error classes of
`Theorems/C17class.lean` are read off it.

Vocabulary: that of `Avro.Theorems.Stream` (Lemmas/OcfStream.lean) plus the framing `wire`: `hdr`,
`Stream.fileBody`, `Stream.BlockOk` are the case `wire := blockData enc` of `hdrW`, `fileBodyW`,
`BlockOkW`, and `fileBodyC enc c` / `BlockOkC` of Theorems/C05.lean the case
`wire b := c.compress (blockData enc b)`, both by `rfl`.

The datum deserializer is a parameter.  `DatumOkP`: on `enc v ++ y` it returns `v` (through
`proj`/`tgt`) and leaves `y`, keeping `P` — what `run_start` asks.  `DatumOk` (C17, slice) and
`DatumOkR` (C05, reader) are its instances for every state of the back-end; the real `de` does not meet
them (Theorems/C17stream.lean says why).  `Stream.DatumCutOk` is `DatumOkP` and an error on a cut
value: what `de` is proved to satisfy; `DatumCutCls … C` adds the class of that error.
-/
namespace Avro.Theorems.Cut
open Avro Avro.Impl Avro.Theorems Avro.Theorems.Stream
open Avro.Impl.Ocf hiding RdInv
open Avro.Impl.OcfS (RdInv)

theorem take_min_len {α : Type} (l : List α) (n : Nat) : l.take (min l.length n) = l.take n := by
  by_cases h : n ≤ l.length
  · rw [Nat.min_eq_right h]
  · rw [Nat.min_eq_left (by omega), List.take_of_length_le (Nat.le_refl _),
      List.take_of_length_le (by omega)]

theorem take_append_ge {α : Type} (a b : List α) (j : Nat) (h : a.length ≤ j) :
    (a ++ b).take j = a ++ b.take (j - a.length) := by
  rw [List.take_append, List.take_of_length_le h]

/-! ### Cut varints, cut markers -/

/-- the class of the error met on a cut varint: the slice says "custom" (`decode_var` returned
    `None`), the reader reports the failed read.  `expStart` and `cutEnd` spell `ofDe (hdrCls sl)`
    out as `if sl then .custom else .io` (`ofDe_hdrCls`). -/
def hdrCls (sl : Bool) : DeErr := if sl then .custom else .io

theorem readVarint_cut_err {sl : Bool} {M : Nat} {o : RState} {i : Int} {Y : Bytes} {j : Nat}
    (hb : KOk sl M o) (hi : Spec.InI64 i) (hr : o.rest = (encodeVarI64 i ++ Y).take j)
    (hj : j < (encodeVarI64 i).length) :
    ∃ o', readVarint .i64 o = (.error (hdrCls sl), o') := by
  have hrest : o.rest = (encodeVarI64 i).take j := by
    rw [hr, List.take_append_of_le_length (Nat.le_of_lt hj)]
  have hnone : decodeVar .i64 o.rest = none := by rw [hrest]; exact decodeVar_cut_none i hi j hj
  cases sl with
  | true =>
    rw [Impl.readVarint_slice hb.back, hnone]
    exact ⟨o, rfl⟩
  | false =>
    obtain ⟨e, o', he, hio⟩ := (readVarint_spec .i64 o hb.wf hb.limit).2 hnone
    have : e = .io := by
      refine hio hb.back ((encodeVarI64 i).drop j) ?_
      rw [hrest, List.take_append_drop]
      have h2 : decodeVar .i64 (encodeVarI64 i ++ []) = some (i, (encodeVarI64 i).length) :=
        decodeVarI64_encode i hi []
      rw [List.append_nil] at h2
      rw [h2]; rfl
    subst this
    exact ⟨o', he⟩

/-! ### The layout of a file, the datum deserializer's interface -/

section Layout
variable {V α β : Type} (enc : V → Bytes)

/-- count and size of a block, as written -/
def hdr (b : List V) : Bytes :=
  encodeVarI64 b.length ++ encodeVarI64 (blockData enc b).length

variable (wire : List V → Bytes)

/-- count and size of a block whose data reach the file as `wire b` -/
def hdrW (b : List V) : Bytes := encodeVarI64 b.length ++ encodeVarI64 (wire b).length

/-- the file after its header: per block count, size, `wire b`, marker; `Stream.fileBody` for
    `wire := blockData enc` -/
def fileBodyW (sync : Bytes) (bs : List (List V)) : Bytes :=
  (bs.map fun b => encodeVarI64 b.length ++ encodeVarI64 (wire b).length ++ wire b ++ sync).flatten

theorem fileBodyW_cons (sync : Bytes) (b : List V) (bs : List (List V)) :
    fileBodyW wire sync (b :: bs) = hdrW wire b ++ (wire b ++ (sync ++ fileBodyW wire sync bs)) := by
  simp only [fileBodyW, hdrW, List.map_cons, List.flatten_cons, List.append_assoc]

/-- count and size fit an `i64` (`BlockOk enc` for `wire := blockData enc`) -/
def BlockOkW (b : List V) : Prop :=
  Spec.InI64 (b.length : Int) ∧ Spec.InI64 ((wire b).length : Int)

/-- How the reader with decompressor `d` gets the data of a block back from `wire b`: as they are
    (null codec), or by decompressing them (a compressing codec without a checksum frame, law L1).
    The theorems about a run are stated once over `wire`; `nul` says which case it is. -/
structure Wire (d : Decomp) (nul : Bool) : Prop where
  isNull : d.isNull = nul
  null : nul = true → ∀ b, wire b = blockData enc b
  codec : nul = false → d.isSnappy = false ∧ ∀ b, d.decompress (wire b) = some (blockData enc b)

theorem Wire.ofNull {d : Decomp} (hn : d.isNull = true) : Wire enc (blockData enc) d true :=
  ⟨hn, fun _ _ => rfl, nofun⟩

/-- a compressing codec `c` (not snappy, whose blocks carry a checksum) under law L1 -/
theorem Wire.ofL1 {d : Decomp} {c : Bytes → Bytes} (hnn : d.isNull = false)
    (hns : d.isSnappy = false) (hL1 : ∀ x, d.decompress (c x) = some x) :
    Wire enc (fun b => c (blockData enc b)) d false :=
  ⟨hnn, nofun, fun _ => ⟨hns, fun _ => hL1 _⟩⟩

end Layout

section Datum
variable {V α β : Type}

/-- What is known of the error a datum deserializer produces on an encoding cut short (reader
    back-end): its class satisfies `C`.  What follows the value plays no part: a cut inside
    `enc v ++ y` leaves `(enc v).take j`. -/
def DatumCutCls (enc : V → Bytes) (M : Nat) (Q : V → Prop) (C : DeErr → Prop)
    (datum : RState → Except DeErr α × RState) : Prop :=
  ∀ (s : RState) (v : V) (j : Nat), Q v → KOk false M s → j < (enc v).length →
    s.rest = (enc v).take j → ∃ e s', datum s = (.error e, s') ∧ C e

theorem DatumCutCls.of_ok {enc : V → Bytes} {M : Nat} {Q : V → Prop} {proj : α → β} {tgt : V → β}
    {datum : RState → Except DeErr α × RState} {sl : Bool}
    (hd : DatumCutOk enc Q (KOk sl M) proj tgt datum) (hs : sl = false) :
    DatumCutCls enc M Q (fun _ => True) datum := fun s v j hq hk hj hr => by
  subst hs
  obtain ⟨e, s', h⟩ := (hd s v [] j hq hk (by rw [List.append_nil]; exact hr)).2 hj
  exact ⟨e, s', h, trivial⟩

/-- the datum deserializer decodes what `enc` wrote and leaves what follows, keeping `P`
    (the half of `DatumCutOk` that does not speak of cuts) -/
def DatumOkP (enc : V → Bytes) (Q : V → Prop) (P : RState → Prop) (proj : α → β) (tgt : V → β)
    (datum : RState → Except DeErr α × RState) : Prop :=
  ∀ (s : RState) (v : V) (y : Bytes), Q v → P s → s.rest = enc v ++ y →
    ∃ a s', datum s = (.ok a, s') ∧ proj a = tgt v ∧ s'.rest = y ∧ P s'

theorem DatumCutOk.okP {enc : V → Bytes} {Q : V → Prop} {P : RState → Prop} {proj : α → β}
    {tgt : V → β} {datum : RState → Except DeErr α × RState}
    (hd : DatumCutOk enc Q P proj tgt datum) : DatumOkP enc Q P proj tgt datum :=
  fun s v y hq hp hr => by
  have := (hd s v y (enc v ++ y).length hq hp (by rw [List.take_length]; exact hr)).1
    (by rw [List.length_append]; omega)
  rwa [List.length_append, Nat.add_sub_cancel_left, List.take_length] at this

theorem DatumCutOk.mono {enc : V → Bytes} {Q Q' : V → Prop} {P : RState → Prop} {proj : α → β}
    {tgt : V → β} {datum : RState → Except DeErr α × RState} (hd : DatumCutOk enc Q P proj tgt datum)
    (h : ∀ v, Q' v → Q v) : DatumCutOk enc Q' P proj tgt datum :=
  fun s v y j hq => hd s v y j (h v hq)

end Datum

/-! ### The reader at a known position of a cut file -/

section Pos
variable {V α β : Type} (enc : V → Bytes) (wire : List V → Bytes) (sl nul : Bool)
  (P : RState → Prop)

/-- What the invariant `P` of the back-end of a block, kept by the datum deserializer, has to do
    with `KOk`.  Null codec: `enterBlock` hands over a `KOk` state, and on a reader `leaveBlock`
    builds the source from the block's state (on a slice it does not look at it).  A compressing
    codec hands over a reader on the decompressed block (`P` of it is asked block by block) and
    never looks at it again. -/
structure BlkInv (M : Nat) : Prop where
  enter : nul = true → ∀ s, KOk sl M s → P s
  leave : nul = true → sl = false → ∀ s, P s → KOk false M s

theorem BlkInv.kOk (M : Nat) : BlkInv sl true (KOk sl M) M :=
  ⟨fun _ _ h => h, fun _ hs _ h => hs ▸ h⟩

/-- between blocks: the source holds the blocks `bs` cut after `j` bytes -/
structure XStart (M : Nat) (sync : Bytes) (r : Reader) (bs : List (List V)) (j : Nat) : Prop where
  st : r.st = .notInBlock
  peof : r.pretendEof = false
  hsync : r.sync = sync
  outer : KOk sl M r.outer
  orest : r.outer.rest = (fileBodyW wire sync bs).take j

/-- In a block: `vals` still to be read; `j` bytes are left of the data of `vals` followed by the
    marker and the following blocks.  A block that is entered only if whole (slice, compressing
    codec) has all its data (`full`); with a compressing codec `j` counts decompressed bytes up to
    the end of the block. -/
structure XPos (M : Nat) (sync : Bytes) (r : Reader) (vals : List V) (bs : List (List V))
    (j : Nat) : Prop where
  st : r.st = .inBlock vals.length
  peof : r.pretendEof = false
  hsync : r.sync = sync
  oback : r.outer.isSlice = sl
  olimit : r.outer.limit = none
  oalloc : sl = false → r.outer.maxAlloc = M
  blk : P r.blk
  brest : r.blk.rest = (blockData enc vals).take j
  lim : nul = true → r.blkLimit = (blockData enc vals).length
  after : r.after = (sync ++ fileBodyW wire sync bs).take (j - (blockData enc vals).length)
  alen : sl = false → r.after.length ≤ M
  inv : r.after.length ≤ r.outer.rest.length
  full : sl = true ∨ nul = false → (blockData enc vals).length ≤ j

/-- Where the reader stands after entering block `b` with `j` bytes left from its first byte.  A
    block entered only if whole: what is left counted from the END of its data (so that, with a
    compressing codec, the data themselves count in decompressed bytes); a block that a `BufRead`
    enters cut: what is left after its header. -/
def enterPos (b : List V) (j : Nat) : Nat :=
  if sl = true ∨ nul = false then
    (blockData enc b).length + (j - (hdrW wire b).length - (wire b).length)
  else j - (hdrW wire b).length

variable {enc wire sl nul P}

theorem mu_xpos {M : Nat} {sync : Bytes} {r : Reader} {vals : List V} {bs : List (List V)} {j : Nat}
    (hp : XPos enc wire sl nul P M sync r vals bs j) : mu r = r.after.length := by
  simp [mu, hp.st]

theorem enterBlock_x {d : Decomp} {M : Nat} {sync : Bytes} {r : Reader} {b : List V}
    {bs : List (List V)} {j : Nat} (hw : Wire enc wire d nul) (hP : BlkInv sl nul P M)
    (hPc : nul = false → P (plainReader (blockData enc b) 8192)) (hb : BlockOkW wire b)
    (hp : XStart wire sl M sync r (b :: bs) j) (hj : (hdrW wire b).length ≤ j)
    (hfull : sl = true ∨ nul = false → (wire b).length ≤ j - (hdrW wire b).length) :
    ∃ r2, enterBlock d r = (.ok (), r2) ∧
      XPos enc wire sl nul P M sync r2 b bs (enterPos enc wire sl nul b j) ∧
      r2.after.length ≤ r.outer.rest.length := by
  obtain ⟨hst, hpe, hsy, hbo, hor⟩ := hp
  rw [fileBodyW_cons, take_append_ge _ _ _ hj] at hor
  unfold enterPos
  generalize j - (hdrW wire b).length = j2 at hor hfull ⊢
  rw [hdrW, List.append_assoc] at hor
  cases nul with
  | true =>
    have hwb := hw.null rfl b
    obtain ⟨o2, hb2, hr2, hblk, he⟩ := enterBlock_ok sl hw.isNull hb.1 hb.2 hbo hor (fun hs => by
      have := hfull (Or.inl hs); simp only [List.length_take, List.length_append]; omega)
    have hjp : (if sl = true ∨ true = false then (blockData enc b).length + (j2 - (wire b).length)
        else j2) = j2 := by
      by_cases hs : sl = true
      · have := hfull (Or.inl hs)
        rw [if_pos (Or.inl hs), ← hwb]; omega
      · rw [if_neg (by rintro (h | h); exact hs h; cases h)]
    rw [hjp]
    have hlen2 : o2.rest.length
        = min j2 ((wire b).length + (sync ++ fileBodyW wire sync bs).length) := by
      rw [hr2, List.length_take, List.length_append]
    refine ⟨_, he, ⟨rfl, hpe, hsy, hb2.back, hb2.limit, hb2.alloc, hP.enter rfl _ hblk, ?_,
      fun _ => congrArg List.length hwb, ?_, ?_, ?_, ?_⟩, ?_⟩
    · show o2.rest.take _ = _
      rw [hr2, List.take_take, List.take_append_of_le_length (Nat.min_le_left _ _), take_min_len,
        hwb]
    · show o2.rest.drop _ = _
      rw [hr2, List.drop_take, List.drop_left', hwb]
      rfl
    · intro hs; have := hb2.len hs
      show (o2.rest.drop _).length ≤ M
      simp only [List.length_drop]; omega
    · show (o2.rest.drop _).length ≤ o2.rest.length
      simp only [List.length_drop]; omega
    · rintro (hs | h)
      · have := hfull (Or.inl hs); rw [← hwb]; exact this
      · cases h
    · show (o2.rest.drop _).length ≤ _
      rw [hor, hr2]
      simp only [List.length_drop, List.length_append]; omega
  | false =>
    obtain ⟨hns, hdec⟩ := hw.codec rfl
    have hsz := hfull (Or.inr rfl)
    have htk : ((wire b ++ (sync ++ fileBodyW wire sync bs)).take j2).take (wire b).length = wire b := by
      rw [List.take_take, Nat.min_eq_left hsz, List.take_left' rfl]
    obtain ⟨o2, hb2, hr2, he⟩ := enterBlock_ok_codec sl hw.isNull hns hb.1 hb.2 hbo hor
      (by simp only [List.length_take, List.length_append]; omega) (by rw [htk]; exact hdec b)
    rw [if_pos (Or.inr rfl)]
    refine ⟨_, he, ⟨rfl, hpe, hsy, hb2.back, hb2.limit, hb2.alloc, hPc rfl, ?_, nofun, ?_, ?_, ?_,
      fun _ => Nat.le_add_right _ _⟩, ?_⟩
    · show blockData enc b = _
      rw [List.take_of_length_le (Nat.le_add_right _ _)]
    · show o2.rest.drop _ = _
      rw [hr2, List.drop_take, List.drop_left', Nat.add_sub_cancel_left]
      rfl
    · intro hs; have := hb2.len hs
      show (o2.rest.drop _).length ≤ M
      simp only [List.length_drop]; omega
    · show (o2.rest.drop _).length ≤ o2.rest.length
      simp only [List.length_drop]; omega
    · show (o2.rest.drop _).length ≤ _
      rw [hor, hr2]
      simp only [List.length_drop, List.length_append]; omega

theorem ofDe_hdrCls (sl : Bool) : ofDe (hdrCls sl) = if sl then RdErr.custom else RdErr.io := by
  cases sl <;> rfl

theorem enterBlock_x_hdr {d : Decomp} {M : Nat} {sync : Bytes} {r : Reader} {b : List V}
    {bs : List (List V)} {j : Nat} (hb : BlockOkW wire b)
    (hp : XStart wire sl M sync r (b :: bs) j) (hj : j < (hdrW wire b).length) :
    ∃ r1, enterBlock d r = (.error (ofDe (hdrCls sl)), r1) ∧ r1.st = .broken := by
  obtain ⟨hst, hpe, hsy, hbo, hor⟩ := hp
  rw [fileBodyW_cons, hdrW, List.append_assoc] at hor
  simp only [hdrW, List.length_append] at hj
  rw [enterBlock_eq]
  by_cases hj1 : j < (encodeVarI64 (b.length : Int)).length
  · obtain ⟨o', he⟩ := readVarint_cut_err hbo hb.1 hor hj1
    rw [he]
    exact ⟨_, rfl, rfl⟩
  · rw [take_append_ge _ _ _ (by omega)] at hor
    obtain ⟨o1, e1, hb1, hr1⟩ := readVarint_encode_k hbo hb.1 hor
    rw [e1]
    simp only [show ¬ ((b.length : Int) < 0) by omega, if_false]
    obtain ⟨o', he⟩ := readVarint_cut_err hb1 hb.2 hr1 (by omega)
    rw [he]
    exact ⟨_, rfl, rfl⟩

/-- a block that must be whole and is not: `SliceRead::take` refuses, the decompressor's read fails -/
theorem enterBlock_x_take {d : Decomp} {M : Nat} {sync : Bytes} {r : Reader} {b : List V}
    {bs : List (List V)} {j : Nat} (hw : Wire enc wire d nul) (hb : BlockOkW wire b)
    (hp : XStart wire sl M sync r (b :: bs) j) (hj : (hdrW wire b).length ≤ j)
    (hwhole : sl = true ∨ nul = false) (hcut : j - (hdrW wire b).length < (wire b).length) :
    ∃ r1, enterBlock d r = (.error (ofDe (hdrCls sl)), r1) ∧ r1.st = .broken := by
  obtain ⟨hst, hpe, hsy, hbo, hor⟩ := hp
  rw [fileBodyW_cons, hdrW, List.append_assoc] at hor
  simp only [hdrW, List.length_append] at hj hcut
  rw [take_append_ge _ _ _ (by omega), take_append_ge _ _ _ (by omega), Nat.sub_sub] at hor
  obtain ⟨o2, hb2, hr2, he⟩ := enterBlock_hdr sl (d := d) hb.1 hb.2 hbo hor
  have hlt : (wire b).length > o2.rest.length := by rw [hr2, List.length_take]; omega
  rw [he, enterTail, blockView, hw.isNull]
  cases nul with
  | true =>
    have hs : sl = true := by rcases hwhole with h | h; exact h; cases h
    subst hs
    rw [if_pos rfl, if_pos ⟨hb2.back, hlt⟩]
    exact ⟨_, rfl, rfl⟩
  | false =>
    rw [if_neg Bool.false_ne_true, if_pos hlt, hb2.back]
    cases sl <;> exact ⟨_, rfl, rfl⟩

theorem blockData_nil : blockData enc ([] : List V) = [] := rfl

theorem leaveBlock_x_ok {d : Decomp} {M : Nat} {sync : Bytes} {r : Reader}
    {bs : List (List V)} {j : Nat} (hw : Wire enc wire d nul) (hP : BlkInv sl nul P M)
    (hsy : sync.length = 16) (hp : XPos enc wire sl nul P M sync r [] bs j) (hj : 16 ≤ j) :
    ∃ rn, leaveBlock d r = (.ok (), rn) ∧ XStart wire sl M sync rn bs (j - 16) ∧
      rn.outer.rest.length ≤ r.after.length := by
  have haf := hp.after
  simp only [blockData_nil, List.length_nil, Nat.sub_zero] at haf
  rw [take_append_ge _ _ _ (by omega), hsy] at haf
  obtain ⟨o', hl, hk', hrest⟩ := leaveBlock_ok sl hsy hp.hsync hp.oback hp.olimit hp.oalloc
    (fun hn hs => hP.leave (hw.isNull.symm.trans hn) hs _ hp.blk)
    (by rw [hp.brest]; exact List.take_nil) (fun hn => hp.lim (hw.isNull.symm.trans hn)) haf hp.alen
  refine ⟨_, hl, ⟨rfl, hp.peof, hp.hsync, hk', hrest⟩, ?_⟩
  · show o'.rest.length ≤ _
    rw [hrest, haf, List.length_append]; omega

/-- `leaveBlock` when the cut falls inside the sync marker (or just before it): `read_exact`
    fails, on either back-end -/
theorem leaveBlock_x_err {d : Decomp} {M : Nat} {sync : Bytes} {r : Reader}
    {bs : List (List V)} {j : Nat} (hw : Wire enc wire d nul) (hP : BlkInv sl nul P M)
    (hp : XPos enc wire sl nul P M sync r [] bs j) (hj : j < 16) :
    ∃ r1, leaveBlock d r = (.error .io, r1) ∧ r1.st = .broken := by
  have haf := hp.after
  simp only [blockData_nil, List.length_nil, Nat.sub_zero] at haf
  have hbr : r.blk.rest = [] := by rw [hp.brest]; exact List.take_nil
  have hlo : leftover d r = false := by
    cases hn : d.isNull with
    | false => simp [leftover, hn, hbr]
    | true =>
      have := hp.lim (hw.isNull.symm.trans hn)
      cases sl <;> simp [leftover, hn, hp.oback, this, hbr, Stream.blockData]
  have hbo := leaveOuter_ok sl (d := d) hp.oback hp.olimit hp.oalloc
    (fun hn hs => hP.leave (hw.isNull.symm.trans hn) hs _ hp.blk) hp.alen
  have h16 : (leaveOuter d r).rest.length < 16 := by
    rw [leaveOuter_rest, haf, List.length_take]; omega
  obtain ⟨s', hs'⟩ := (hbo.exact 16).2 h16
  rw [leaveBlock_eq, hlo, hs']
  exact ⟨_, rfl, rfl⟩

/-! ### One call of `next` from a known position

`next_xs_*`: from a block boundary (`XStart`); `next_xp_*`: inside a block (`XPos`); `xs_inner*`: the
same for `nextInner`. -/

theorem xs_inner_eos {d : Decomp} {M : Nat} (datum : RState → Except DeErr α × RState)
    {sync : Bytes} {r : Reader} {bs : List (List V)} {j : Nat}
    (hp : XStart wire sl M sync r bs j) (hnil : (fileBodyW wire sync bs).take j = []) (F : Nat) :
    ∃ r1, nextInner d datum (F + 1) r = (.ok none, r1) := by
  rw [nextInner_succ]
  simp only [hp.st]
  obtain ⟨buf, o, hf, _, _, hn, _⟩ := hp.outer.fill
  rw [hf, hn (by rw [hp.orest, hnil])]
  exact ⟨_, rfl⟩

theorem xs_inner {d : Decomp} {M : Nat} (datum : RState → Except DeErr α × RState)
    {sync : Bytes} {r : Reader} {bs : List (List V)} {j : Nat}
    (hp : XStart wire sl M sync r bs j) (hne : (fileBodyW wire sync bs).take j ≠ []) :
    ∃ r0, XStart wire sl M sync r0 bs j ∧ r0.outer.rest.length = r.outer.rest.length ∧
      ∀ F, nextInner d datum (F + 1) r =
        match enterBlock d r0 with
        | (.error e, r') => (.error e, r')
        | (.ok _, r') => nextInner d datum F r' := by
  obtain ⟨st, pe, sy, outer, blk, after, lim⟩ := r
  have hst := hp.st
  simp only at hst
  subst hst
  obtain ⟨buf, o, hf, hbo, hro, _, hne'⟩ := hp.outer.fill
  have hbne : buf.isEmpty = false := by
    have : buf ≠ [] := hne' (by rw [hp.orest]; exact hne)
    cases buf with
    | nil => exact absurd rfl this
    | cons => rfl
  have hp1 : XStart wire sl M sync (Reader.mk .notInBlock pe sy o blk after lim) bs j :=
    ⟨rfl, hp.peof, hp.hsync, hbo, by rw [← hp.orest]; exact hro⟩
  refine ⟨_, hp1, by show o.rest.length = outer.rest.length; rw [hro], fun F => ?_⟩
  rw [nextInner_succ]
  simp only [hf, hbne, Bool.false_eq_true, if_false]
  rfl

theorem next_xs_eos {d : Decomp} {M : Nat} (datum : RState → Except DeErr α × RState)
    {sync : Bytes} {r : Reader} {bs : List (List V)} {j : Nat}
    (hp : XStart wire sl M sync r bs j) (hnil : (fileBodyW wire sync bs).take j = []) :
    ∃ r1, next d datum r = (.ok none, r1) := by
  obtain ⟨r1, h1⟩ := xs_inner_eos (d := d) datum hp hnil (r.outer.rest.length + 3)
  exact ⟨r1, next_of_inner_ok hp.peof h1⟩

theorem next_xs_err {d : Decomp} {M : Nat} (datum : RState → Except DeErr α × RState)
    {sync : Bytes} {r : Reader} {bs : List (List V)} {j : Nat} {e : RdErr}
    (hp : XStart wire sl M sync r bs j) (hne : (fileBodyW wire sync bs).take j ≠ [])
    (he : ∀ r0, XStart wire sl M sync r0 bs j →
      ∃ r1, enterBlock d r0 = (.error e, r1) ∧ r1.st = .broken) :
    ∃ r1, next d datum r = (.error e, r1) ∧ r1.pretendEof = true := by
  obtain ⟨r0, hp0, _, hstep⟩ := xs_inner (d := d) datum hp hne
  obtain ⟨r1, h1, hb⟩ := he r0 hp0
  have := hstep (r.outer.rest.length + 3)
  rw [h1] at this
  exact ⟨_, next_of_inner_err hp.peof this (Or.inr hb), rfl⟩

theorem hdrW_pos (b : List V) : 0 < (hdrW wire b).length := by
  have := encodeVarI64_ne_nil (b.length : Int)
  simp only [hdrW, List.length_append]
  cases hx : encodeVarI64 (b.length : Int) with
  | nil => exact absurd hx this
  | cons x xs => simp only [List.length_cons]; omega

theorem fileBody_take_ne {sync : Bytes} {b : List V} {bs : List (List V)} {j : Nat} (hj : 0 < j) :
    (fileBodyW wire sync (b :: bs)).take j ≠ [] := by
  intro h
  have := congrArg List.length h
  rw [fileBodyW_cons, List.length_take, List.length_append] at this
  have := hdrW_pos (wire := wire) b
  simp only [List.length_nil] at *
  omega

theorem next_xs_enter {d : Decomp} {M : Nat} (datum : RState → Except DeErr α × RState)
    {sync : Bytes} {r : Reader} {b : List V} {bs : List (List V)} {j : Nat}
    (hw : Wire enc wire d nul) (hP : BlkInv sl nul P M)
    (hPc : nul = false → P (plainReader (blockData enc b) 8192)) (hb : BlockOkW wire b)
    (hp : XStart wire sl M sync r (b :: bs) j) (hj : (hdrW wire b).length ≤ j)
    (hfull : sl = true ∨ nul = false → (wire b).length ≤ j - (hdrW wire b).length) :
    ∃ r2, XPos enc wire sl nul P M sync r2 b bs (enterPos enc wire sl nul b j) ∧
      next d datum r = next d datum r2 := by
  have hpos := hdrW_pos (wire := wire) b
  obtain ⟨r0, hp0, hlen0, hstep⟩ := xs_inner (d := d) datum hp (fileBody_take_ne (by omega))
  obtain ⟨r2, he, hp2, hlen⟩ := enterBlock_x hw hP hPc hb hp0 hj hfull
  refine ⟨r2, hp2, ?_⟩
  rw [next_eq_post d datum r hp.peof, next_eq_post d datum r2 hp2.peof,
    hstep (r.outer.rest.length + 3), he]
  have hm := mu_xpos hp2
  have h2 := hp2.inv
  simp only
  rw [nextInner_fuel d datum (r.outer.rest.length + 3) (r2.outer.rest.length + 4) r2
    (by omega) (by omega)]

/-- the `Take` limit of the block after a datum of `a` bytes, `b` more to come, `j` present -/
theorem blkLimit_step (a b j : Nat) (h : a ≤ j) :
    a + b - (min j (a + b) - min (j - a) b) = b := by
  rcases Nat.le_total j (a + b) with h1 | h1
  · rw [Nat.min_eq_left h1, Nat.min_eq_left (Nat.sub_le_iff_le_add'.2 h1), Nat.sub_sub_self h,
      Nat.add_sub_cancel_left]
  · rw [Nat.min_eq_right h1, Nat.min_eq_right (Nat.le_sub_of_add_le' h1), Nat.add_sub_cancel,
      Nat.add_sub_cancel_left]

theorem next_xp_val {d : Decomp} {Q : V → Prop} {M : Nat} {sync : Bytes} {proj : α → β}
    {tgt : V → β} {datum : RState → Except DeErr α × RState} {r : Reader} {v : V} {vs : List V}
    {bs : List (List V)} {j : Nat} (hd : DatumOkP enc Q P proj tgt datum)
    (hq : Q v) (hp : XPos enc wire sl nul P M sync r (v :: vs) bs j) (hj : (enc v).length ≤ j) :
    ∃ a r1, next d datum r = (.ok (some a), r1) ∧ proj a = tgt v ∧
      XPos enc wire sl nul P M sync r1 vs bs (j - (enc v).length) := by
  obtain ⟨h1, h2, h3, h4, h4a, h4b, h5, h6, h7, h8, h9, h10, h11⟩ := hp
  rw [blockData_cons] at h6 h7 h8 h11
  simp only [List.length_append] at h7 h8 h11
  obtain ⟨a, s', hs', hav, hr', hb'⟩ := hd r.blk v ((blockData enc vs).take (j - (enc v).length)) hq h5
    (by rw [h6, take_append_ge _ _ _ hj])
  refine ⟨a, _, next_datum_ok h1 h2 hs', hav, rfl, h2, h3, h4, h4a, h4b, hb', hr', fun hn => ?_, ?_,
    h9, h10, ?_⟩
  · show r.blkLimit - (r.blk.rest.length - s'.rest.length) = _
    rw [h7 hn, h6, hr']
    simp only [List.length_take, List.length_append]
    exact blkLimit_step _ _ _ hj
  · show r.after = _
    rw [h8, Nat.sub_add_eq]
  · intro hs; have := h11 hs; omega

theorem next_xp_cut {d : Decomp} {Q : V → Prop} {M : Nat} {sync : Bytes} {C : DeErr → Prop}
    {datum : RState → Except DeErr α × RState} {r : Reader} {v : V} {vs : List V}
    {bs : List (List V)} {j : Nat} (hP : BlkInv sl nul P M)
    (hc : sl = false → DatumCutCls enc M Q C datum)
    (hq : Q v) (hp : XPos enc wire sl nul P M sync r (v :: vs) bs j) (hj : j < (enc v).length) :
    ∃ e r1, C e ∧ next d datum r = (.error (ofDe e), r1) ∧ (e = .io → r1.pretendEof = true) := by
  by_cases hwhole : sl = true ∨ nul = false
  · have := hp.full hwhole
    rw [blockData_cons, List.length_append] at this
    omega
  · have hsl : sl = false := by cases sl; rfl; exact absurd (Or.inl rfl) hwhole
    have hnul : nul = true := by cases nul; exact absurd (Or.inr rfl) hwhole; rfl
    subst hsl
    have h6 := hp.brest
    rw [blockData_cons, List.take_append_of_le_length (Nat.le_of_lt hj)] at h6
    obtain ⟨e, s', hs', hC⟩ := hc rfl r.blk v j hq (hP.leave hnul rfl _ hp.blk) hj h6
    have hin : nextInner d datum (r.outer.rest.length + 3 + 1) r = (.error (ofDe e),
        { r with st := .inBlock vs.length, blk := s',
                 blkLimit := r.blkLimit - (r.blk.rest.length - s'.rest.length) }) := by
      rw [nextInner_succ]
      simp only [hp.st, List.length_cons, hs']
    rw [show r.outer.rest.length + 3 + 1 = r.outer.rest.length + 4 from rfl] at hin
    by_cases he : e = .io
    · subst he
      exact ⟨_, _, hC, next_of_inner_err hp.peof hin (Or.inl rfl), fun _ => rfl⟩
    · have hne : ¬ (ofDe e = RdErr.io ∨ RdState.inBlock vs.length = RdState.broken) := by
        rintro (h | h)
        · exact he (ofDe_io.1 h)
        · cases h
      have hnx := next_eq_post d datum r hp.peof
      rw [hin] at hnx
      simp only [post, if_neg hne] at hnx
      exact ⟨e, _, hC, hnx, fun h => (he h).elim⟩

theorem next_xp_sync_err {d : Decomp} {M : Nat} (datum : RState → Except DeErr α × RState)
    {sync : Bytes} {r : Reader} {bs : List (List V)} {j : Nat} (hw : Wire enc wire d nul)
    (hP : BlkInv sl nul P M) (hp : XPos enc wire sl nul P M sync r [] bs j) (hj : j < 16) :
    ∃ r1, next d datum r = (.error .io, r1) ∧ r1.pretendEof = true := by
  obtain ⟨r1, h1, _⟩ := leaveBlock_x_err hw hP hp hj
  have hin : nextInner d datum (r.outer.rest.length + 3 + 1) r = (.error .io, r1) := by
    rw [nextInner_succ]
    simp only [hp.st, List.length_nil, h1]
  exact ⟨_, next_of_inner_err hp.peof hin (Or.inl rfl), rfl⟩

theorem next_xp_leave {d : Decomp} {M : Nat} (datum : RState → Except DeErr α × RState)
    {sync : Bytes} {r : Reader} {bs : List (List V)} {j : Nat} (hw : Wire enc wire d nul)
    (hP : BlkInv sl nul P M) (hsy : sync.length = 16)
    (hp : XPos enc wire sl nul P M sync r [] bs j) (hj : 16 ≤ j) :
    ∃ rn, XStart wire sl M sync rn bs (j - 16) ∧ next d datum r = next d datum rn := by
  obtain ⟨rn, hl, hs, hlen⟩ := leaveBlock_x_ok hw hP hsy hp hj
  exact ⟨rn, hs, next_leave_ok hp.st hp.peof hp.inv hl hs.st hs.peof hlen⟩

end Pos

/-! ### The whole run, exactly -/

section Run
variable {V α β : Type}

/-- `readAll`, also returning the reader as the last call left it -/
def readAllR (d : Decomp) (datum : RState → Except DeErr α × RState) :
    Nat → Reader → List α × End × Reader
  | 0, r => ([], .more, r)
  | k + 1, r =>
    match next d datum r with
    | (.ok (some a), r') => (a :: (readAllR d datum k r').1, (readAllR d datum k r').2)
    | (.ok none, r') => ([], .eos, r')
    | (.error e, r') => ([], .err e, r')

theorem readAllR_eq (d : Decomp) (datum : RState → Except DeErr α × RState) :
    ∀ (k : Nat) (r : Reader),
      readAll d datum k r = ((readAllR d datum k r).1, (readAllR d datum k r).2.1) := by
  intro k
  induction k with
  | zero => intro r; rfl
  | succ k ih =>
    intro r
    simp only [readAll, readAllR]
    generalize next d datum r = x
    obtain ⟨(e | (_ | a)), r'⟩ := x
    · rfl
    · rfl
    · simp only [ih r']

theorem readAllR_congr {d : Decomp} {datum : RState → Except DeErr α × RState} {r r2 : Reader}
    (h : next d datum r = next d datum r2) (k : Nat) :
    readAllR d datum (k + 1) r = readAllR d datum (k + 1) r2 := by
  simp only [readAllR, h]

theorem readAllR_some {d : Decomp} {datum : RState → Except DeErr α × RState} {r r' : Reader}
    {a : α} (h : next d datum r = (.ok (some a), r')) (k : Nat) :
    readAllR d datum (k + 1) r = (a :: (readAllR d datum k r').1, (readAllR d datum k r').2) := by
  simp only [readAllR, h]

theorem readAllR_none {d : Decomp} {datum : RState → Except DeErr α × RState} {r r' : Reader}
    (h : next d datum r = (.ok none, r')) (k : Nat) :
    readAllR d datum (k + 1) r = ([], .eos, r') := by
  simp only [readAllR, h]

theorem readAllR_err {d : Decomp} {datum : RState → Except DeErr α × RState} {r r' : Reader}
    {e : RdErr} (h : next d datum r = (.error e, r')) (k : Nat) :
    readAllR d datum (k + 1) r = ([], .err e, r') := by
  simp only [readAllR, h]

variable (enc : V → Bytes) (wire : List V → Bytes) (sl nul : Bool)

/-- what the run yields from inside a block (`vals` to come, `j` bytes left from there), given
    what it yields from the following block boundary (`k`) -/
def expPos (k : Nat → List V × End) : List V → Nat → List V × End
  | [], j => if j < 16 then ([], .err .io) else k (j - 16)
  | v :: vs, j =>
    if j < (enc v).length then ([], .err .io)
    else (v :: (expPos k vs (j - (enc v).length)).1, (expPos k vs (j - (enc v).length)).2)

/-- what the run yields from a block boundary with `j` bytes left: the values and how it ends -/
def expStart : List (List V) → Nat → List V × End
  | [], _ => ([], .eos)
  | b :: bs, j =>
    if j = 0 then ([], .eos)
    else if j < (hdrW wire b).length then ([], .err (if sl then .custom else .io))
    else if (sl = true ∨ nul = false) ∧ j - (hdrW wire b).length < (wire b).length then
      ([], .err (if sl then .custom else .io))
    else expPos enc (expStart bs) b (enterPos enc wire sl nul b j)

/-- the run against its prediction: the values (through `proj`/`tgt`), the end, and after an
    error the reader pretends end of stream -/
def Res (proj : α → β) (tgt : V → β) (x : List α × End × Reader) (y : List V × End) : Prop :=
  x.1.map proj = y.1.map tgt ∧ x.2.1 = y.2 ∧ (∀ e, y.2 = .err e → x.2.2.pretendEof = true)

/-- … the class of the error on a cut datum known only as far as `C` says (`y` predicts `io`
    there) -/
def ResC (C : DeErr → Prop) (proj : α → β) (tgt : V → β) (x : List α × End × Reader)
    (y : List V × End) : Prop :=
  x.1.map proj = y.1.map tgt ∧
  (x.2.1 = y.2 ∨ (y.2 = .err .io ∧ ∃ e, C e ∧ x.2.1 = .err (ofDe e))) ∧
  (x.2.1 = y.2 → ∀ e, y.2 = .err e → x.2.2.pretendEof = true)

variable {enc wire sl nul}
variable {d : Decomp} {Q : V → Prop} {M : Nat} {sync : Bytes} {proj : α → β} {tgt : V → β}
  {datum : RState → Except DeErr α × RState} {C : DeErr → Prop} {P : RState → Prop}

theorem Res.toC {x : List α × End × Reader} {y : List V × End} (h : Res proj tgt x y) :
    ResC C proj tgt x y := ⟨h.1, Or.inl h.2.1, fun _ => h.2.2⟩

theorem ResC.exact {x : List α × End × Reader} {y : List V × End}
    (h : ResC (· = .io) proj tgt x y) : Res proj tgt x y := by
  obtain ⟨h1, h2, h3⟩ := h
  have : x.2.1 = y.2 := by
    rcases h2 with h2 | ⟨hy, e, rfl, hx⟩
    · exact h2
    · rw [hx, hy]; rfl
  exact ⟨h1, this, h3 this⟩

theorem ResC.weak {x : List α × End × Reader} {y : List V × End} (h : ResC C proj tgt x y) :
    x.1.map proj = y.1.map tgt ∧ (y.2 = .eos → x.2.1 = .eos) ∧ (y.2 ≠ .more → x.2.1 ≠ .more) := by
  obtain ⟨h1, h2, -⟩ := h
  refine ⟨h1, fun hy => ?_, fun hy => ?_⟩
  · rcases h2 with h2 | ⟨hy', -⟩
    · rw [h2, hy]
    · rw [hy] at hy'; cases hy'
  · rcases h2 with h2 | ⟨-, e, -, hx⟩
    · rw [h2]; exact hy
    · rw [hx]; nofun

theorem run_pos (hw : Wire enc wire d nul) (hP : BlkInv sl nul P M) (hsy : sync.length = 16)
    (hd : DatumOkP enc Q P proj tgt datum)
    (hc : sl = false → DatumCutCls enc M Q C datum)
    (bs : List (List V))
    (hstart : ∀ r j k, XStart wire sl M sync r bs j → bs.flatten.length < k →
      ResC C proj tgt (readAllR d datum k r) (expStart enc wire sl nul bs j)) :
    ∀ (vals : List V) (r : Reader) (j k : Nat), (∀ v ∈ vals, Q v) →
      XPos enc wire sl nul P M sync r vals bs j → vals.length + bs.flatten.length < k →
      ResC C proj tgt (readAllR d datum k r) (expPos enc (expStart enc wire sl nul bs) vals j) := by
  intro vals
  induction vals with
  | nil =>
    intro r j k _ hp hk
    obtain ⟨k, rfl⟩ : ∃ k', k = k' + 1 := ⟨k - 1, by omega⟩
    unfold expPos
    by_cases hj : j < 16
    · obtain ⟨r1, h1, hpe⟩ := next_xp_sync_err (d := d) datum hw hP hp hj
      rw [if_pos hj, readAllR_err h1]
      exact Res.toC ⟨rfl, rfl, fun _ _ => hpe⟩
    · obtain ⟨rn, hs, heq⟩ := next_xp_leave (d := d) datum hw hP hsy hp (by omega)
      rw [if_neg hj, readAllR_congr heq]
      exact hstart rn _ _ hs (by simp only [List.length_nil] at hk; omega)
  | cons v vs ih =>
    intro r j k hq hp hk
    obtain ⟨k, rfl⟩ : ∃ k', k = k' + 1 := ⟨k - 1, by omega⟩
    unfold expPos
    by_cases hj : j < (enc v).length
    · obtain ⟨e, r1, hC, h1, hpe⟩ := next_xp_cut (d := d) hP hc (hq v (by simp)) hp hj
      rw [if_pos hj, readAllR_err h1]
      exact ⟨rfl, Or.inr ⟨rfl, e, hC, rfl⟩, fun h _ _ => hpe (ofDe_io.1 (End.err.inj h))⟩
    · obtain ⟨a, r1, h1, hav, hp1⟩ := next_xp_val (d := d) hd (hq v (by simp)) hp (by omega)
      rw [if_neg hj, readAllR_some h1]
      obtain ⟨i1, i2, i3⟩ := ih r1 _ k (fun w hw => hq w (by simp [hw])) hp1
        (by simp only [List.length_cons] at hk; omega)
      exact ⟨by simp only [List.map_cons, hav, i1], i2, i3⟩

theorem run_start_nil (r : Reader) (j k : Nat) (hp : XStart wire sl M sync r [] j) (hk : 0 < k) :
    ResC C proj tgt (readAllR d datum k r) (expStart enc wire sl nul [] j) := by
  obtain ⟨k, rfl⟩ : ∃ k', k = k' + 1 := ⟨k - 1, by omega⟩
  obtain ⟨r1, h1⟩ := next_xs_eos (d := d) datum hp (by simp [fileBodyW])
  rw [readAllR_none h1]
  exact Res.toC ⟨rfl, rfl, fun _ h => by cases h⟩

theorem run_start_cons (hw : Wire enc wire d nul) (hP : BlkInv sl nul P M) (b : List V)
    (bs : List (List V)) (hb : BlockOkW wire b)
    (hPc : nul = false → P (plainReader (blockData enc b) 8192))
    (hpos : ∀ (r : Reader) (j k : Nat), XPos enc wire sl nul P M sync r b bs j →
      b.length + bs.flatten.length < k →
      ResC C proj tgt (readAllR d datum k r) (expPos enc (expStart enc wire sl nul bs) b j)) :
    ∀ r j k, XStart wire sl M sync r (b :: bs) j → (b :: bs).flatten.length < k →
      ResC C proj tgt (readAllR d datum k r) (expStart enc wire sl nul (b :: bs) j) := by
  intro r j k hp hk
  obtain ⟨k, rfl⟩ : ∃ k', k = k' + 1 := ⟨k - 1, by omega⟩
  unfold expStart
  by_cases hj0 : j = 0
  · obtain ⟨r1, h1⟩ := next_xs_eos (d := d) datum hp (by rw [hj0]; rfl)
    rw [if_pos hj0, readAllR_none h1]
    exact Res.toC ⟨rfl, rfl, fun _ h => by cases h⟩
  · rw [if_neg hj0]
    have hne : (fileBodyW wire sync (b :: bs)).take j ≠ [] := fileBody_take_ne (by omega)
    by_cases hj1 : j < (hdrW wire b).length
    · obtain ⟨r1, h1, hpe⟩ := next_xs_err (d := d) datum hp hne
        (fun r0 h0 => enterBlock_x_hdr hb h0 hj1)
      rw [if_pos hj1, readAllR_err h1, ofDe_hdrCls]
      exact Res.toC ⟨rfl, rfl, fun _ _ => hpe⟩
    · rw [if_neg hj1]
      by_cases hj2 : (sl = true ∨ nul = false) ∧ j - (hdrW wire b).length < (wire b).length
      · obtain ⟨r1, h1, hpe⟩ := next_xs_err (d := d) datum hp hne
          (fun r0 h0 => enterBlock_x_take hw hb h0 (by omega) hj2.1 hj2.2)
        rw [if_pos hj2, readAllR_err h1, ofDe_hdrCls]
        exact Res.toC ⟨rfl, rfl, fun _ _ => hpe⟩
      · obtain ⟨r2, hp2, heq⟩ := next_xs_enter (d := d) datum hw hP hPc hb hp (by omega)
          (fun hs => by
            have : ¬ (j - (hdrW wire b).length < (wire b).length) := fun h => hj2 ⟨hs, h⟩
            omega)
        rw [if_neg hj2, readAllR_congr heq]
        exact hpos r2 _ _ hp2 (by simp only [List.flatten_cons, List.length_append] at hk; omega)

/-- **The run from a block boundary of a cut valid file is exactly the predicted one** (`expStart`).
    `P` is the invariant of the block's back-end that `datum` keeps; with a compressing codec
    `enterBlock` hands `datum` a reader over the decompressed block, `plainReader plain 8192`
    (Impl/Ocf.lean: an 8 KiB `BufReader`), and the third hypothesis on `bs` asks `P` of it, block by
    block.  `hc`, the class `C` of `datum`'s error on a cut value, is asked for `sl = false` only: a
    slice, like a compressing codec, enters a block only if it is whole (`XPos.full`), so `datum`
    never meets a cut value there.  `ResC.weak` gives the values and whether the run ends cleanly,
    whatever `C`; `ResC.exact`, for `C := (· = .io)`, that the run is `expStart` exactly. -/
theorem run_start (hw : Wire enc wire d nul) (hP : BlkInv sl nul P M) (hsy : sync.length = 16)
    (hd : DatumOkP enc Q P proj tgt datum)
    (hc : sl = false → DatumCutCls enc M Q C datum) :
    ∀ (bs : List (List V)), (∀ b ∈ bs, BlockOkW wire b) →
      (nul = false → ∀ b ∈ bs, P (plainReader (blockData enc b) 8192)) → (∀ v ∈ bs.flatten, Q v) →
      ∀ r j k, XStart wire sl M sync r bs j → bs.flatten.length < k →
        ResC C proj tgt (readAllR d datum k r) (expStart enc wire sl nul bs j) := by
  intro bs
  induction bs with
  | nil => intro _ _ _ r j k hp hk; exact run_start_nil r j k hp (by omega)
  | cons b bs ih =>
    intro hbs hPc hq
    have hq' : ∀ v ∈ bs.flatten, Q v := fun v hv => hq v (by simp [hv])
    have hqb : ∀ v ∈ b, Q v := fun v hv => hq v (by simp [hv])
    have hst := ih (fun b' hb' => hbs b' (by simp [hb']))
      (fun h b' hb' => hPc h b' (by simp [hb'])) hq'
    exact run_start_cons hw hP b bs (hbs b (by simp)) (fun h => hPc h b (by simp))
      (fun r j k hp hk => run_pos hw hP hsy hd hc bs hst b r j k hqb hp hk)

/-- a slice does not look at the allocation cap: any `M` -/
theorem XStart.ofSlice (wire : List V → Bytes) (sync bytes : Bytes) (M : Nat) (bs : List (List V))
    (j : Nat) (h : bytes = (fileBodyW wire sync bs).take j) :
    XStart wire true M sync (openSlice sync bytes) bs j :=
  ⟨rfl, rfl, rfl, ⟨rfl, rfl, Nat.zero_le _, fun _ => rfl, nofun, nofun⟩, h⟩

theorem xstart_open (sync : Bytes) (blocks : List (List V)) (m : Nat) (sched : List Nat)
    (lastChunk M : Nat) (hM : sl = false → ((fileBody enc sync blocks).take m).length ≤ M) :
    XStart (blockData enc) sl M sync
      (openSrc sl sync ((fileBody enc sync blocks).take m) sched lastChunk M) blocks m :=
  ⟨rfl, rfl, rfl, kOk_open sl _ _ _ _ _ hM, rfl⟩

end Run

/-! ### The prediction in closed form: where the cut falls -/

section Where
variable {V : Type} (enc : V → Bytes)

/-- where a cut after `m` bytes of `fileBody enc sync bs` (16-byte markers) falls -/
inductive Where
  | clean    -- at a block boundary (also `m = 0`) or at/after the end of the file
  | header   -- inside the count or the size of a block, or between the two
  | data     -- count and size complete, the block's data incomplete
  | marker   -- data complete, the sync marker incomplete (possibly entirely missing)
  deriving DecidableEq, Repr

def cutWhere : List (List V) → Nat → Where
  | [], _ => .clean
  | b :: bs, m =>
    if m = 0 then .clean
    else if m < (hdr enc b).length then .header
    else if m - (hdr enc b).length < (blockData enc b).length then .data
    else if m - (hdr enc b).length - (blockData enc b).length < 16 then .marker
    else cutWhere bs (m - (hdr enc b).length - (blockData enc b).length - 16)

/-- the values delivered before the run ends (`sl`: slice back-end) -/
def cutVals (sl : Bool) : List (List V) → Nat → List V
  | [], _ => []
  | b :: bs, m =>
    if m < (hdr enc b).length then []
    else if m - (hdr enc b).length < (blockData enc b).length then
      (if sl then [] else fitting enc b (m - (hdr enc b).length))
    else if m - (hdr enc b).length - (blockData enc b).length < 16 then b
    else b ++ cutVals sl bs (m - (hdr enc b).length - (blockData enc b).length - 16)

def cutEnd (sl : Bool) : Where → End
  | .clean => .eos
  | .header => .err (if sl then .custom else .io)
  | .data => .err (if sl then .custom else .io)
  | .marker => .err .io

theorem cutEnd_reader (w : Where) (h : w ≠ .clean) : cutEnd false w = .err .io := by
  cases w <;> first | rfl | exact absurd rfl h

theorem expPos_eq (k : Nat → List V × End) : ∀ (vals : List V) (j : Nat),
    expPos enc k vals j =
      if j < (blockData enc vals).length then (fitting enc vals j, .err .io)
      else if j - (blockData enc vals).length < 16 then (vals, .err .io)
      else (vals ++ (k (j - (blockData enc vals).length - 16)).1,
            (k (j - (blockData enc vals).length - 16)).2) := by
  intro vals
  induction vals with
  | nil => intro j; rfl
  | cons v vs ih =>
    intro j
    rw [expPos, blockData_cons, List.length_append, ih, fitting]
    by_cases h1 : j < (enc v).length
    · rw [if_pos h1, if_pos (show j < _ + _ by omega), if_neg (show ¬ _ ≤ j by omega)]
    · rw [if_neg h1, if_pos (Nat.le_of_not_lt h1)]
      by_cases h2 : j - (enc v).length < (blockData enc vs).length
      · rw [if_pos h2, if_pos (show j < _ + _ by omega)]
      · rw [if_neg h2, if_neg (show ¬ j < _ + _ by omega), Nat.sub_add_eq]
        split <;> rfl

theorem fileBody_cons (sync : Bytes) (b : List V) (bs : List (List V)) :
    fileBody enc sync (b :: bs) = hdr enc b ++ (blockData enc b ++ (sync ++ fileBody enc sync bs)) :=
  fileBodyW_cons (blockData enc) sync b bs

theorem hdr_pos (b : List V) : 0 < (hdr enc b).length := hdrW_pos (wire := blockData enc) b

theorem enterPos_null (sl : Bool) (b : List V) (m : Nat)
    (h : ¬ (sl = true ∧ m - (hdr enc b).length < (blockData enc b).length)) :
    enterPos enc (blockData enc) sl true b m = m - (hdr enc b).length := by
  unfold enterPos
  cases sl with
  | false => rw [if_neg (by simp)]; rfl
  | true =>
    rw [if_pos (Or.inl rfl)]
    show _ + (m - (hdr enc b).length - _) = _
    have : ¬ (m - (hdr enc b).length < (blockData enc b).length) := fun h' => h ⟨rfl, h'⟩
    omega

/-- the recursive prediction `expStart` for the null codec in closed form: by the position of the
    cut in the first block — before it, in its header, in its data, in its marker, or beyond -/
theorem expStart_eq (sl : Bool) : ∀ (bs : List (List V)) (m : Nat),
    expStart enc (blockData enc) sl true bs m
      = (cutVals enc sl bs m, cutEnd sl (cutWhere enc bs m)) := by
  intro bs
  induction bs with
  | nil => intro m; rfl
  | cons b bs ih =>
    intro m
    have hpos := hdr_pos enc b
    rw [expStart, cutVals, cutWhere]
    simp only [show hdrW (blockData enc) b = hdr enc b from rfl]
    by_cases h0 : m = 0
    · rw [if_pos h0, if_pos h0, if_pos (show m < _ by omega)]; rfl
    rw [if_neg h0, if_neg h0]
    by_cases h1 : m < (hdr enc b).length
    · rw [if_pos h1, if_pos h1, if_pos h1]; rfl
    rw [if_neg h1, if_neg h1, if_neg h1]
    by_cases h2 : m - (hdr enc b).length < (blockData enc b).length
    · cases sl
      · rw [if_neg (by simp), enterPos_null enc false b m (by simp), expPos_eq, if_pos h2, if_pos h2,
          if_pos h2]
        rfl
      · rw [if_pos ⟨Or.inl rfl, h2⟩, if_pos h2, if_pos h2]; rfl
    rw [if_neg (fun h => h2 h.2), enterPos_null enc sl b m (fun h => h2 h.2), expPos_eq, if_neg h2,
      if_neg h2, if_neg h2]
    by_cases h3 : m - (hdr enc b).length - (blockData enc b).length < 16
    · rw [if_pos h3, if_pos h3, if_pos h3]; rfl
    · rw [if_neg h3, if_neg h3, if_neg h3, ih]

theorem blockBytes_length (sync : Bytes) (hsy : sync.length = 16) (b : List V) :
    (blockBytes enc sync b).length = (hdr enc b).length + (blockData enc b).length + 16 := by
  simp only [Stream.blockBytes, hdr, List.length_append, hsy]

theorem fileBody_length_cons (sync : Bytes) (hsy : sync.length = 16) (b : List V)
    (bs : List (List V)) : (fileBody enc sync (b :: bs)).length =
      (hdr enc b).length + (blockData enc b).length + 16 + (fileBody enc sync bs).length := by
  rw [fileBody_cons]; simp only [List.length_append, hsy]; omega

theorem cutWhere_cons_clean (b : List V) (bs : List (List V)) (m : Nat) :
    cutWhere enc (b :: bs) m = .clean ↔
      m = 0 ∨ ((hdr enc b).length + (blockData enc b).length + 16 ≤ m ∧
        cutWhere enc bs (m - (hdr enc b).length - (blockData enc b).length - 16) = .clean) := by
  have hpos := hdr_pos enc b
  rw [cutWhere]
  by_cases h0 : m = 0
  · simp only [h0, if_true, true_or]
  rw [if_neg h0]
  by_cases h1 : m < (hdr enc b).length
  · rw [if_pos h1]
    exact ⟨nofun, fun h => h.elim (fun h => absurd h h0) fun h => by omega⟩
  rw [if_neg h1]
  by_cases h2 : m - (hdr enc b).length < (blockData enc b).length
  · rw [if_pos h2]
    exact ⟨nofun, fun h => h.elim (fun h => absurd h h0) fun h => by omega⟩
  rw [if_neg h2]
  by_cases h3 : m - (hdr enc b).length - (blockData enc b).length < 16
  · rw [if_pos h3]
    exact ⟨nofun, fun h => h.elim (fun h => absurd h h0) fun h => by omega⟩
  rw [if_neg h3]
  exact ⟨fun h => .inr ⟨by omega, h⟩, fun h => h.elim (fun h => absurd h h0) fun h => h.2⟩

theorem cutWhere_clean_iff (sync : Bytes) (hsy : sync.length = 16) :
    ∀ (bs : List (List V)) (m : Nat),
      cutWhere enc bs m = .clean ↔
        ((fileBody enc sync bs).length ≤ m ∨
          ∃ i, i ≤ bs.length ∧ m = (fileBody enc sync (bs.take i)).length) := by
  intro bs
  induction bs with
  | nil => intro m; simp [cutWhere, fileBody]
  | cons b bs ih =>
    intro m
    have hlen := fileBody_length_cons enc sync hsy b
    rw [cutWhere_cons_clean, ih, hlen]
    constructor
    · rintro (rfl | ⟨hm, h | ⟨i, hi, hmi⟩⟩)
      · exact .inr ⟨0, Nat.zero_le _, rfl⟩
      · exact .inl (by omega)
      · exact .inr ⟨i + 1, Nat.succ_le_succ hi, by rw [List.take_succ_cons, hlen]; omega⟩
    · rintro (h | ⟨i, hi, hmi⟩)
      · exact .inr ⟨by omega, .inl (by omega)⟩
      · cases i with
        | zero => exact .inl hmi
        | succ i =>
          rw [List.take_succ_cons, hlen] at hmi
          exact .inr ⟨by omega, .inr ⟨i, Nat.le_of_succ_le_succ hi, by omega⟩⟩

theorem cutVals_cons_beyond (sl : Bool) (b : List V) (bs : List (List V)) (m : Nat)
    (h : (hdr enc b).length + (blockData enc b).length + 16 ≤ m) :
    cutVals enc sl (b :: bs) m =
      b ++ cutVals enc sl bs (m - (hdr enc b).length - (blockData enc b).length - 16) := by
  rw [cutVals, if_neg (by omega), if_neg (by omega), if_neg (by omega)]

theorem cutVals_boundary (sl : Bool) (sync : Bytes) (hsy : sync.length = 16) :
    ∀ (bs : List (List V)) (i : Nat),
      cutVals enc sl bs (fileBody enc sync (bs.take i)).length = (bs.take i).flatten := by
  intro bs
  induction bs with
  | nil => intro i; simp [cutVals]
  | cons b bs ih =>
    intro i
    cases i with
    | zero =>
      have hpos := hdr_pos enc b
      simp only [List.take_zero, List.flatten_nil, cutVals, fileBody, List.map_nil,
        List.length_nil]; rw [if_pos hpos]
    | succ i =>
      have hlen := fileBody_length_cons enc sync hsy b (bs.take i)
      rw [List.take_succ_cons, cutVals_cons_beyond enc sl b bs _ (by omega), hlen,
        List.flatten_cons]
      have e : (hdr enc b).length + (blockData enc b).length + 16
          + (fileBody enc sync (bs.take i)).length - (hdr enc b).length
          - (blockData enc b).length - 16 = (fileBody enc sync (bs.take i)).length := by omega
      rw [e, ih]

theorem cutVals_all (sl : Bool) (sync : Bytes) (hsy : sync.length = 16) (bs : List (List V))
    (m : Nat) (h : (fileBody enc sync bs).length ≤ m) : cutVals enc sl bs m = bs.flatten := by
  induction bs generalizing m with
  | nil => rfl
  | cons b bs ih =>
    have hlen := fileBody_length_cons enc sync hsy b bs
    rw [hlen] at h
    rw [cutVals_cons_beyond enc sl b bs m (by omega), List.flatten_cons, ih _ (by omega)]

theorem cutVals_prefix (sl : Bool) : ∀ (bs : List (List V)) (m : Nat),
    cutVals enc sl bs m <+: bs.flatten
  | [], _ => List.prefix_refl _
  | b :: bs, m => by
    have hb : b <+: (b :: bs).flatten := by rw [List.flatten_cons]; exact List.prefix_append _ _
    rw [cutVals]
    repeat' split
    · exact List.nil_prefix
    · exact List.nil_prefix
    · exact (fitting_prefix enc b _).trans hb
    · exact hb
    · rw [List.flatten_cons]; exact (List.prefix_append_right_inj b).2 (cutVals_prefix sl bs _)

theorem length_le_blockData {v : V} : ∀ {b : List V}, v ∈ b → (enc v).length ≤ (blockData enc b).length
  | w :: b, h => by
    rw [blockData_cons, List.length_append]
    rcases List.mem_cons.1 h with rfl | h
    · omega
    · have := length_le_blockData h; omega

theorem length_le_fileBody (sync : Bytes) {v : V} : ∀ {bs : List (List V)}, v ∈ bs.flatten →
    (enc v).length ≤ (fileBody enc sync bs).length
  | b :: bs, h => by
    rw [fileBody_cons]
    simp only [List.length_append]
    rcases List.mem_append.1 (List.flatten_cons ▸ h) with h | h
    · have := length_le_blockData enc h; omega
    · have := length_le_fileBody sync h; omega

end Where

/-! ### A run from a block boundary -/

section Open
variable {V α β : Type} {enc : V → Bytes} {wire : List V → Bytes} {sl nul : Bool} {d : Decomp}
  {Q : V → Prop} {M : Nat} {sync : Bytes} {proj : α → β} {tgt : V → β}
  {datum : RState → Except DeErr α × RState}

theorem expStart_whole (hw : Wire enc wire d nul) (hsy : sync.length = 16) :
    ∀ (bs : List (List V)) (j : Nat),
      (fileBodyW wire sync bs).length ≤ j → expStart enc wire sl nul bs j = (bs.flatten, .eos)
  | [], _, _ => rfl
  | b :: bs, j, h => by
    have hpos := hdrW_pos (wire := wire) b
    rw [fileBodyW_cons] at h
    simp only [List.length_append, hsy] at h
    have hin : (blockData enc b).length + 16 + (fileBodyW wire sync bs).length
        ≤ enterPos enc wire sl nul b j := by
      unfold enterPos
      split
      · omega
      · rename_i hnw
        have hnul : nul = true := by cases nul; exact absurd (Or.inr rfl) hnw; rfl
        rw [← hw.null hnul b]; omega
    rw [expStart, if_neg (by omega), if_neg (by omega), if_neg (fun h' => by have := h'.2; omega),
      expPos_eq, if_neg (by omega), if_neg (by omega),
      expStart_whole hw hsy bs _ (by omega), List.flatten_cons]

theorem expPos_ne_more {k : Nat → List V × End} (hk : ∀ j, (k j).2 ≠ .more) :
    ∀ (vals : List V) (j : Nat), (expPos enc k vals j).2 ≠ .more
  | [], j => by
    rw [expPos]
    by_cases h : j < 16
    · rw [if_pos h]; nofun
    · rw [if_neg h]; exact hk _
  | v :: vs, j => by
    rw [expPos]
    by_cases h : j < (enc v).length
    · rw [if_pos h]; nofun
    · rw [if_neg h]; exact expPos_ne_more hk vs _

theorem expStart_ne_more : ∀ (bs : List (List V)) (j : Nat),
    (expStart enc wire sl nul bs j).2 ≠ .more
  | [], _ => nofun
  | b :: bs, j => by
    have herr : (([] : List V), End.err (if sl = true then RdErr.custom else RdErr.io)).2 ≠ .more :=
      nofun
    rw [expStart]
    by_cases h0 : j = 0
    · rw [if_pos h0]; nofun
    rw [if_neg h0]
    by_cases h1 : j < (hdrW wire b).length
    · rw [if_pos h1]; exact herr
    rw [if_neg h1]
    by_cases h2 : (sl = true ∨ nul = false) ∧ j - (hdrW wire b).length < (wire b).length
    · rw [if_pos h2]; exact herr
    · rw [if_neg h2]; exact expPos_ne_more (expStart_ne_more bs) b _

/-- **Prefix safety and the whole file at once.**  From a block boundary of a valid file cut after
    `j` bytes, whatever class of error the datum deserializer gives on a cut value: the run yields
    exactly the values predicted, stops by itself, and ends cleanly when predicted. -/
theorem readAll_xstart {P : RState → Prop} {C : DeErr → Prop} (hw : Wire enc wire d nul)
    (hP : BlkInv sl nul P M) (hsy : sync.length = 16) (hd : DatumOkP enc Q P proj tgt datum)
    (hc : sl = false → DatumCutCls enc M Q C datum)
    (bs : List (List V)) (hbs : ∀ b ∈ bs, BlockOkW wire b)
    (hPc : nul = false → ∀ b ∈ bs, P (plainReader (blockData enc b) 8192))
    (hq : ∀ v ∈ bs.flatten, Q v)
    {r : Reader} {j k : Nat} (hx : XStart wire sl M sync r bs j) (hk : bs.flatten.length < k) :
    (readAll d datum k r).1.map proj = (expStart enc wire sl nul bs j).1.map tgt ∧
    ((expStart enc wire sl nul bs j).2 = .eos → (readAll d datum k r).2 = .eos) ∧
    (readAll d datum k r).2 ≠ .more := by
  have h := (run_start hw hP hsy hd hc bs hbs hPc hq r j k hx hk).weak
  rw [readAllR_eq]
  exact ⟨h.1, h.2.1, h.2.2 (expStart_ne_more bs j)⟩

theorem readAll_xstart_null {P : RState → Prop} {C : DeErr → Prop} (hP : BlkInv sl true P M)
    (hn : d.isNull = true) (hsy : sync.length = 16) (hd : DatumOkP enc Q P proj tgt datum)
    (hc : sl = false → DatumCutCls enc M Q C datum)
    (bs : List (List V)) (hbs : ∀ b ∈ bs, BlockOk enc b) (hq : ∀ v ∈ bs.flatten, Q v)
    {r : Reader} {j k : Nat} (hx : XStart (blockData enc) sl M sync r bs j)
    (hk : bs.flatten.length < k) :
    (readAll d datum k r).1.map proj = (cutVals enc sl bs j).map tgt ∧
    (cutWhere enc bs j = .clean → (readAll d datum k r).2 = .eos) ∧
    (readAll d datum k r).2 ≠ .more := by
  have h := readAll_xstart (Wire.ofNull enc hn) hP hsy hd hc bs hbs nofun hq hx hk
  rw [expStart_eq] at h
  exact ⟨h.1, fun hw => h.2.1 (by rw [hw]; rfl), h.2.2⟩

theorem readAll_xstart_cutOk (hn : d.isNull = true) (hsy : sync.length = 16)
    (hd : DatumCutOk enc Q (KOk sl M) proj tgt datum)
    (bs : List (List V)) (hbs : ∀ b ∈ bs, BlockOk enc b) (hq : ∀ v ∈ bs.flatten, Q v)
    {r : Reader} {j k : Nat} (hx : XStart (blockData enc) sl M sync r bs j)
    (hk : bs.flatten.length < k) :
    (readAll d datum k r).1.map proj = (cutVals enc sl bs j).map tgt ∧
    (cutWhere enc bs j = .clean → (readAll d datum k r).2 = .eos) ∧
    (readAll d datum k r).2 ≠ .more :=
  readAll_xstart_null (BlkInv.kOk sl M) hn hsy (DatumCutOk.okP hd)
    (DatumCutCls.of_ok hd) bs hbs hq hx hk

/-- **… and with its error class**, when the datum deserializer fails with `io` on a cut value
    (which asks that the allocation cap cover each value: put it into `Q`). -/
theorem run_open_io (hn : d.isNull = true) (hsy : sync.length = 16)
    (hd : DatumOkP enc Q (KOk sl M) proj tgt datum)
    (hc : sl = false → DatumCutCls enc M Q (· = .io) datum)
    (blocks : List (List V)) (hbs : ∀ b ∈ blocks, BlockOk enc b) (hq : ∀ v ∈ blocks.flatten, Q v)
    (m : Nat) (sched : List Nat) (lastChunk : Nat)
    (hM : sl = false → ((fileBody enc sync blocks).take m).length ≤ M) :
    Res proj tgt (readAllR d datum (blocks.flatten.length + 1)
        (openSrc sl sync ((fileBody enc sync blocks).take m) sched lastChunk M))
      (cutVals enc sl blocks m, cutEnd sl (cutWhere enc blocks m)) := by
  rw [← expStart_eq]
  exact (run_start (Wire.ofNull enc hn) (BlkInv.kOk sl M) hsy hd hc blocks hbs nofun
    hq _ m _ (xstart_open sync blocks m sched lastChunk M hM) (Nat.lt_succ_self _)).exact

end Open

end Avro.Theorems.Cut
