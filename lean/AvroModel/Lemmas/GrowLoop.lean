import AvroModel.Impl.GrowLoop
/-
The grow loops of `writer/compression.rs` (model: `Impl/GrowLoop.lean`), for C05, for every emission
schedule of the compressor (`Comp.sched`).  The loop invariant `LInv`: the output holds exactly the
first `done` bytes of the stream and there is room left (`done < cap`: the buffer is never full when
the compressor is called, so it never reports "no progress").  `encodeLoop_complete`: with fuel for
one call per byte left plus one the loop ends with the whole stream.
-/
namespace Avro.C05
open Avro Avro.Impl.GrowLoop

/-- the bytes one call emits into `space` -/
def emitLen (c : Comp) (space : Nat) : Nat :=
  min (min (match c.sched with | [] => space | k :: _ => max k 1) space) (c.total.length - c.done)

/-- the status a call that emitted `k` bytes reports -/
def statusOf (c : Comp) (k : Nat) : Status :=
  if c.done + k = c.total.length then .streamEnd else if k = 0 then .noProgress else .pending

theorem call_eq (c : Comp) (space : Nat) :
    c.call space =
      (statusOf c (emitLen c space), (c.total.drop c.done).take (emitLen c space),
        { c with done := c.done + emitLen c space, sched := c.sched.tail }) := by
  unfold Comp.call emitLen statusOf
  cases c.sched <;> dsimp only [List.tail] <;> repeat' split
  all_goals simp only [*]

theorem emitLen_le_space (c : Comp) (space : Nat) : emitLen c space ≤ space := by
  unfold emitLen; omega

theorem emitLen_le_left (c : Comp) (space : Nat) : emitLen c space ≤ c.total.length - c.done := by
  unfold emitLen; omega

theorem emitLen_pos (c : Comp) (space : Nat) (hs : 1 ≤ space) (hl : 1 ≤ c.total.length - c.done) :
    1 ≤ emitLen c space := by
  unfold emitLen
  cases c.sched with
  | nil => simp only; omega
  | cons k r => simp only; omega

structure LInv (total : Bytes) (st : LoopState) : Prop where
  tot : st.comp.total = total
  out : st.out = total.take st.comp.done
  le : st.comp.done ≤ total.length
  lt : st.comp.done < st.cap

theorem LInv.out_length {total : Bytes} {st : LoopState} (h : LInv total st) :
    st.out.length = st.comp.done := by
  rw [h.out, List.length_take]; have := h.le; omega

/-- the capacity the loop goes on with after a call that reported "pending" and left `n` bytes in
    the output: deflate doubles always, bzip2 and xz only a full buffer -/
def capNext (kind : Kind) (cap n : Nat) : Nat :=
  match kind with
  | .deflate => cap * 2
  | _ => if n = cap then cap * 2 else cap

theorem le_capNext (kind : Kind) (cap n : Nat) : cap ≤ capNext kind cap n := by
  unfold capNext; split
  · omega
  · split <;> omega

theorem lt_capNext (kind : Kind) (cap n : Nat) (h : n ≤ cap) (hc : 0 < cap) :
    n < capNext kind cap n := by
  unfold capNext; split
  · omega
  · split <;> omega

theorem capNext_le (kind : Kind) (cap n : Nat) (hk : kind ≠ .deflate) :
    capNext kind cap n ≤ max cap (2 * n) := by
  unfold capNext; split
  · exact absurd rfl hk
  · split <;> omega

/-- the loop state after a call that emitted `k` bytes, the capacity now `cap` -/
def afterCall (total : Bytes) (st : LoopState) (k cap : Nat) : LoopState :=
  { cap := cap, out := total.take (st.comp.done + k),
    comp := { st.comp with done := st.comp.done + k, sched := st.comp.sched.tail } }

/-- **One round of the loop under the invariant**: the call emits `k ≥ 1` bytes (there is room);
    either the stream is complete, or the loop goes on, the invariant restored. -/
theorem encodeLoop_succ (kind : Kind) (total : Bytes) (fuel : Nat) (st : LoopState)
    (h : LInv total st) :
    ∃ k, (st.comp.done + k = total.length ∨ 1 ≤ k) ∧ st.comp.done + k ≤ total.length ∧
      encodeLoop kind (fuel + 1) st =
        (if st.comp.done + k = total.length then .ok (afterCall total st k st.cap)
         else encodeLoop kind fuel
          (afterCall total st k (capNext kind st.cap (st.comp.done + k)))) ∧
      (st.comp.done + k ≠ total.length →
        LInv total (afterCall total st k (capNext kind st.cap (st.comp.done + k)))) := by
  obtain ⟨cap, out, comp⟩ := st
  have hlen := h.out_length
  obtain ⟨htot, hout, hle, hlt⟩ := h
  simp only at htot hout hle hlt hlen
  subst htot
  generalize hk : emitLen comp (cap - out.length) = k
  have hk1 : k ≤ cap - out.length := hk ▸ emitLen_le_space _ _
  have hk2 : k ≤ comp.total.length - comp.done := hk ▸ emitLen_le_left _ _
  have hout' : out ++ (comp.total.drop comp.done).take k = comp.total.take (comp.done + k) := by
    rw [hout, List.take_add]
  have hcap := le_capNext kind cap (comp.done + k)
  refine ⟨k, ?_, ?_, ?_, fun hend => ⟨rfl, rfl, ?_, ?_⟩⟩
  · by_cases hend : comp.done + k = comp.total.length
    · exact .inl hend
    · exact .inr (hk ▸ emitLen_pos _ _ (by omega) (by omega))
  · dsimp only; omega
  rotate_left
  · dsimp only [afterCall]; omega
  · show comp.done + k < capNext kind cap (comp.done + k)
    exact lt_capNext kind cap _ (by omega) (by omega)
  · simp only [encodeLoop, call_eq, hk, hout', statusOf, afterCall]
    by_cases hend : comp.done + k = comp.total.length
    · simp only [hend, if_true]
    · have hk0 : k ≠ 0 := by
        have := emitLen_pos comp (cap - out.length) (by omega) (by omega); omega
      have hl : (comp.total.take (comp.done + k)).length = comp.done + k := by
        rw [List.length_take]; omega
      simp only [hend, hk0, if_false, hl]
      cases kind <;> simp only [capNext] <;> split <;> rfl

/-- The grow loops are complete; the capacity reached is at most `max cap (2 * total.length)` for
    bzip2 and xz (they double only a full buffer) and `cap * 2 ^ p` for deflate, `p` the number of
    calls that returned "pending". -/
theorem encodeLoop_complete (kind : Kind) (total : Bytes) (fuel : Nat) :
    ∀ (st : LoopState), LInv total st → total.length - st.comp.done + 1 ≤ fuel →
      ∃ st', encodeLoop kind fuel st = .ok st' ∧ st'.out = total ∧ st'.comp.done = total.length ∧
        st.cap ≤ st'.cap ∧
        (kind ≠ .deflate → st'.cap ≤ max st.cap (2 * total.length)) ∧
        (kind = .deflate → ∃ p, p ≤ total.length - st.comp.done ∧ st'.cap = st.cap * 2 ^ p) := by
  induction fuel with
  | zero => intro st _ hf; omega
  | succ fuel ih =>
    intro st hinv hf
    obtain ⟨k, hk, hle, hstep, hnext⟩ := encodeLoop_succ kind total fuel st hinv
    rw [hstep]
    by_cases hend : st.comp.done + k = total.length
    · rw [if_pos hend]
      exact ⟨_, rfl, by simp only [afterCall, hend, List.take_length], hend, Nat.le_refl _,
        fun _ => Nat.le_max_left _ _, fun _ => ⟨0, Nat.zero_le _, by simp [afterCall]⟩⟩
    · rw [if_neg hend]
      have hk1 : 1 ≤ k := hk.resolve_left hend
      obtain ⟨st', h1, h2, h3, h4, h5, h6⟩ := ih _ (hnext hend)
        (by simp only [afterCall]; omega)
      simp only [afterCall] at h4 h5 h6
      have hc1 := le_capNext kind st.cap (st.comp.done + k)
      refine ⟨st', h1, h2, h3, by omega, fun hd => ?_, fun hd => ?_⟩
      · have := h5 hd
        have := capNext_le kind st.cap (st.comp.done + k) hd
        omega
      · obtain ⟨p, hp, hcap⟩ := h6 hd
        subst hd
        exact ⟨p + 1, by omega, by rw [hcap, capNext, Nat.pow_succ, Nat.mul_assoc, Nat.mul_comm 2]⟩

theorem LInv_init (c : Comp) (cap0 : Nat) (h0 : c.done = 0) (hc : 1 ≤ cap0) :
    LInv c.total { cap := cap0, comp := c } :=
  ⟨rfl, by simp [h0], by simp [h0], by simp only [h0]; omega⟩

end Avro.C05
