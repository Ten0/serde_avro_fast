import AvroModel.Lemmas.TypedConsume
/-
C01 / C03, typed targets: WHAT a typed read returns, the notions.

`consistent o' o`: `o'`, what a target asking with some hint received, is consistent with `o`, what
the self-describing read delivers for the same datum. It is the relation the driver uses
(`Driver/Main.lean`, `consistentOut`) as a structural definition, completed with the coercions of
the visitor dispatch of `de`, without which the statement is false (Theorems/C03typed).  Also
here: two runs from one state (`Inv2`), and the requests that make `de` the self-describing read
(`AC`, `shallowFits`).
-/
namespace Avro.Impl
open Avro Avro.Spec

mutual
/-- Drop the `borrowed` flags (`Driver/Main.lean`, `unborrow`); `consistent` ignores the flags by
    itself.  `Theorems.unborrow` (Lemmas/SliceReader.lean) is a second constant, the same function written
    with a catch-all: inside `namespace Avro.Theorems` the bare name resolves to that one once
    that module is imported; write `Impl.unborrow`. -/
def unborrow : Out → Out
  | .str s _ => .str s false
  | .bytes b _ => .bytes b false
  | .some o => .some (unborrow o)
  | .seq items => .seq (unborrowL items)
  | .map es => .map (unborrowM es)
  | .variant n p => .variant (unborrow n) (unborrow p)
  | .unit => .unit
  | .bool b => .bool b
  | .i32 i => .i32 i
  | .i64 i => .i64 i
  | .i128 i => .i128 i
  | .u32 n => .u32 n
  | .u64 n => .u64 n
  | .u128 n => .u128 n
  | .f32 b => .f32 b
  | .f64 b => .f64 b
  | .none => .none
def unborrowL : List Out → List Out
  | [] => []
  | x :: xs => unborrow x :: unborrowL xs
def unborrowM : List (Out × Out) → List (Out × Out)
  | [] => []
  | (k, v) :: xs => (unborrow k, unborrow v) :: unborrowM xs
end

mutual
/-- hinted result vs full result.  Spread over the arms below are the seven clauses of
    `consistentOut` of the driver (ignored parts match anything; a unit variant matches whatever
    the branch held; a newtype / tuple / struct variant's payload matches the branch's value;
    sequences and maps elementwise; `Some` against `Some`; otherwise equal up to the `borrowed`
    flags, which the arms on `str` and `bytes` ignore — what `unborrow` forgets); the
    other alternatives are the coercions of the visitor dispatch:
      * `Option` target: `None` for `null`, `Some(x)` for a value that is not wrapped;
      * `deserialize_str` on `bytes` / `fixed`: the UTF-8 reading of the bytes;
      * `deserialize_bytes` on a duration: its 12 bytes; `deserialize_seq/tuple` on a duration (and
        only there a sequence meets a map): the three values;
      * an integer asked for where the self-describing read gives `i32` / `i64` (identifiers) or the
        string of a decimal of scale 0 (`decToStringModel · 0`);
      * `u64` against a string: an enum read as its index, a decimal, a duration key — NOT checked
        (the index cannot be compared with the symbol without the schema; see
        `C03_typed_enum_index` for the precise statement at top level). -/
def consistent : Out → Out → Prop
  | .unit, _ => True
  | .variant _ p, full => p = .unit ∨ consistent p full
  | .seq a, full =>
    match full with
    | .seq b => consistentL a b
    | .map es => consistentL a (es.map Prod.snd)
    | _ => False
  | .map a, full =>
    match full with
    | .map b => consistentM a b
    | _ => False
  | .some a, full => consistent a full ∨ ∃ b, full = .some b ∧ consistent a b
  | .none, full => full = .none ∨ full = .unit
  | .str s _, full =>
    match full with
    | .str s' _ => s = s'
    | .bytes b _ => bytesToStr? b = some s
    | _ => False
  | .bytes b _, full =>
    match full with
    | .bytes b' _ => b = b'
    | .map es => Out.map es = durationOut b .any
    | _ => False
  | .u64 n, full =>
    match full with
    | .u64 m => n = m
    | .i32 i => i = (n : Int)
    | .i64 i => i = (n : Int)
    | .str _ _ => True
    | _ => False
  | .i64 i, full =>
    match full with
    | .i64 j => i = j
    | .str s _ => decToStringModel i 0 = some s
    | _ => False
  | .i128 i, full =>
    match full with
    | .i128 j => i = j
    | .str s _ => decToStringModel i 0 = some s
    | _ => False
  | .u128 n, full =>
    match full with
    | .u128 m => n = m
    | .str s _ => decToStringModel (n : Int) 0 = some s
    | _ => False
  | .bool b, full => full = .bool b
  | .i32 i, full => full = .i32 i
  | .u32 n, full => full = .u32 n
  | .f32 b, full => full = .f32 b
  | .f64 b, full => full = .f64 b
def consistentL : List Out → List Out → Prop
  | [], ys => ys = []
  | x :: xs, ys =>
    match ys with
    | [] => False
    | y :: ys' => consistent x y ∧ consistentL xs ys'
def consistentM : List (Out × Out) → List (Out × Out) → Prop
  | [], ys => ys = []
  | (k, v) :: xs, ys =>
    match ys with
    | [] => False
    | (k', v') :: ys' => consistent k k' ∧ consistent v v' ∧ consistentM xs ys'
end

theorem consistentL_nil : consistentL [] [] := rfl

theorem consistentL_cons {x y : Out} {xs ys : List Out} :
    consistentL (x :: xs) (y :: ys) ↔ consistent x y ∧ consistentL xs ys := Iff.rfl

theorem consistentM_cons {k v k' v' : Out} {xs ys : List (Out × Out)} :
    consistentM ((k, v) :: xs) ((k', v') :: ys) ↔
      consistent k k' ∧ consistent v v' ∧ consistentM xs ys := Iff.rfl

theorem consistentL_append : ∀ {xs ys xs' ys' : List Out}, consistentL xs ys →
    consistentL xs' ys' → consistentL (xs ++ xs') (ys ++ ys')
  | [], _, _, _, h, h' => by cases (h : _ = []); exact h'
  | _ :: _, [], _, _, h, _ => (h : False).elim
  | _ :: _, _ :: _, _, _, h, h' => ⟨h.1, consistentL_append h.2 h'⟩

theorem consistentM_append : ∀ {xs ys xs' ys' : List (Out × Out)}, consistentM xs ys →
    consistentM xs' ys' → consistentM (xs ++ xs') (ys ++ ys')
  | [], _, _, _, h, h' => by cases (h : _ = []); exact h'
  | (_, _) :: _, [], _, _, h, _ => (h : False).elim
  | (_, _) :: _, (_, _) :: _, _, _, h, h' => ⟨h.1, h.2.1, consistentM_append h.2.2 h'⟩

/-- Two readers started in the same state on `bs`: whenever both succeed they end in the same
    state, on a common remainder, with results related by `Q`. -/
def Inv2 {α β : Type} (m1 : DeM α) (m2 : DeM β) (bs : Bytes) (Q : α → β → Bytes → Prop) : Prop :=
  ∀ s, SlBase s → ∀ a s1 b s2, m1 (s.mk' bs none) = (.ok a, s1) → m2 (s.mk' bs none) = (.ok b, s2) →
    ∃ r, s1 = s.mk' r none ∧ s2 = s.mk' r none ∧ Q a b r

theorem Inv2.run {α β : Type} {m1 : DeM α} {m2 : DeM β} {Q : α → β → Bytes → Prop}
    {s s1 s2 : RState} {a : α} {b : β} (h : Inv2 m1 m2 s.rest Q)
    (hs : s.isSlice = true) (hl : s.limit = none) (ha : s.avail = 0)
    (h1 : m1 s = (.ok a, s1)) (h2 : m2 s = (.ok b, s2)) : s1 = s2 ∧ ∃ r, Q a b r := by
  obtain ⟨isS, r0, av, sched, lc, ma, scr, lim⟩ := s
  cases hl
  obtain ⟨r, rfl, rfl, q⟩ := h _ ⟨hs, ha⟩ a s1 b s2 h1 h2
  exact ⟨rfl, r, q⟩

theorem Inv2.of_inv {α β : Type} {m1 : DeM α} {m2 : DeM β} {bs : Bytes}
    {Q1 : α → Bytes → Prop} {Q2 : β → Bytes → Prop} {Q : α → β → Bytes → Prop}
    (h1 : Inv m1 bs Q1) (h2 : Inv m2 bs Q2)
    (hq : ∀ a r1 b r2, Q1 a r1 → Q2 b r2 → r1 = r2 ∧ Q a b r1) : Inv2 m1 m2 bs Q := by
  intro s hs a s1 b s2 e1 e2
  obtain ⟨r1, rfl, q1⟩ := h1 s hs a s1 e1
  obtain ⟨r2, rfl, q2⟩ := h2 s hs b s2 e2
  obtain ⟨rfl, q⟩ := hq a r1 b r2 q1 q2
  exact ⟨r1, rfl, rfl, q⟩


/-- only the left reader reads (the right one is done) -/
theorem Inv2.left {α β : Type} {m1 : DeM α} {b : β} {bs : Bytes} {P : α → Bytes → Prop}
    {Q : α → β → Bytes → Prop} (h : Inv m1 bs P) (hq : ∀ a r, P a r → r = bs ∧ Q a b bs) :
    Inv2 m1 (Pure.pure b : DeM β) bs Q := by
  intro s hs a s1 b' s2 e1 e2
  simp only [DeM.pure_apply, Prod.mk.injEq, Except.ok.injEq] at e2
  obtain ⟨rfl, rfl⟩ := e2
  obtain ⟨r, rfl, p⟩ := h s hs a s1 e1
  obtain ⟨rfl, q⟩ := hq a r p
  exact ⟨r, rfl, rfl, q⟩

variable (S : Schema)

theorem observe_leaf_refl {n : Node} {v : Value} {o : Out} (hn : n.isLeaf = true)
    (h : observe S n v = some o) : consistent o o := by
  cases v <;> simp only [observe] at h
  case union | array | map | record => split at h <;> first | cases hn | cases h
  case «enum» | decimal =>
    split at h
    · obtain ⟨s, _, rfl⟩ := Option.map_eq_some_iff.1 h
      exact rfl
    · cases h
  case bigDecimal =>
    obtain ⟨s, _, rfl⟩ := Option.map_eq_some_iff.1 h
    exact rfl
  case duration =>
    cases h
    exact ⟨rfl, rfl, rfl, rfl, rfl, rfl, rfl⟩
  case null =>
    cases h
    trivial
  -- the other scalars: equal to themselves
  all_goals
    cases h
    exact rfl

theorem offerName_consistent (kh : Hint) (name : String) (idx : Nat) (dk : Bool) :
    consistent (offerName kh name idx dk) (.str name false) := by
  unfold offerName
  split
  · trivial
  · split
    · trivial
    · exact rfl
  · exact rfl

/-- a part that may be ignored, against the same part read -/
theorem consistent_ite_unit (c : Bool) (x : Nat) :
    consistent (if c then Out.unit else .u32 x) (.u32 x) := by
  cases c
  · exact rfl
  · trivial

theorem durationOut_consistent (b : Bytes) (h : Hint) :
    consistent (durationOut b h) (durationOut b .any) := by
  have hk := fun name idx => offerName_consistent h.key name idx true
  show _ ∧ _ ∧ _ ∧ _ ∧ _ ∧ _ ∧ _
  exact ⟨hk _ _, consistent_ite_unit _ _, hk _ _, consistent_ite_unit _ _, hk _ _,
    consistent_ite_unit _ _, rfl⟩

theorem durationSeqOut_consistent (b : Bytes) (eh : Hint) (mi : Option Nat)
    (hmi : mi = none ∨ mi = some 3) :
    consistent (durationSeqOut b eh mi) (durationOut b .any) := by
  rcases hmi with rfl | rfl <;>
  · show _ ∧ _ ∧ _ ∧ _
    exact ⟨consistent_ite_unit _ _, consistent_ite_unit _ _, consistent_ite_unit _ _, rfl⟩

/-- what `read_decimal` hands to the visitor under a hint, against the string it hands to
    `deserialize_any` -/
theorem decimalTail_consistent (hint : DecHint) (u : Int) (sc : Nat) (t t1 : RState) (a : Out)
    (h1 : decimalTail deExtModel hint (u, sc) t = (.ok a, t1)) (str : String)
    (hs : decToStringModel u sc = some str) : consistent a (.str str false) := by
  unfold decimalTail at h1
  simp only [deExtModel] at h1
  rw [hs] at h1
  by_cases hsc : sc = 0
  · subst hsc
    cases hint <;> simp [pure] at h1
    case str => obtain ⟨rfl, _⟩ := h1; exact rfl
    case f64 => obtain ⟨rfl, _⟩ := h1; exact rfl
    case i128 => obtain ⟨rfl, _⟩ := h1; exact hs
    case u64 =>
      split at h1
      · simp only [Prod.mk.injEq, Except.ok.injEq] at h1
        obtain ⟨rfl, _⟩ := h1; trivial
      · split at h1 <;> simp only [Prod.mk.injEq, Except.ok.injEq] at h1 <;>
          obtain ⟨rfl, _⟩ := h1 <;> first | exact hs | exact rfl
    case i64 =>
      split at h1 <;> simp only [Prod.mk.injEq, Except.ok.injEq] at h1 <;>
        obtain ⟨rfl, _⟩ := h1 <;> exact hs
    case u128 =>
      split at h1
      · rename_i hu
        simp only [Prod.mk.injEq, Except.ok.injEq] at h1
        obtain ⟨rfl, _⟩ := h1
        show decToStringModel _ 0 = _
        rw [Int.toNat_of_nonneg hu]
        exact hs
      · simp only [Prod.mk.injEq, Except.ok.injEq] at h1
        obtain ⟨rfl, _⟩ := h1; exact hs
  · cases hint <;> simp [hsc, pure] at h1 <;> (obtain ⟨rfl, _⟩ := h1; exact rfl)

variable (cfg : DeConfig)

/-- `deserialize_u64` on an enum against `deserialize_any`: the index of the symbol -/
theorem inv2_enum_index (syms : List String) (bs : Bytes) :
    Inv2 (do let d ← readVarint .i64
             if d < 0 then DeM.fail .custom else pure (Out.u64 d.toNat))
      (do let d ← readDiscriminant
          match syms[d]? with
          | none => DeM.fail .custom
          | some sym => pure (Out.str sym false)) bs
      (fun o' o _ => ∃ idx sym, o' = .u64 idx ∧ o = .str sym false ∧ syms[idx]? = some sym) := by
  refine Inv2.of_inv
    (Q1 := fun o r => ∃ i : Int, decodeLongL Limits.impl bs = some (i, r) ∧ 0 ≤ i ∧ o = .u64 i.toNat)
    (Q2 := fun o r => ∃ dsc sym, decodeLenL Limits.impl bs = some (dsc, r) ∧
      syms[dsc]? = some sym ∧ o = .str sym false) ?_ ?_ ?_
  · refine Inv.bind (inv_varint_i64 bs) fun i r hd => ?_
    split
    · exact Inv.fail _ _ _
    · exact Inv.pure ⟨i, hd, by omega, rfl⟩
  · refine Inv.bind (inv_readLen bs) fun dsc r hd => ?_
    split
    · exact Inv.fail _ _ _
    · rename_i sym hsym
      exact Inv.pure ⟨dsc, sym, hd, hsym, rfl⟩
  · rintro _ r1 _ r2 ⟨i, h1, hi, rfl⟩ ⟨dsc, sym, h2, hsym, rfl⟩
    obtain ⟨j, hj, _, rfl⟩ := decodeLenL_inv h2
    rw [h1] at hj
    cases hj
    exact ⟨rfl, _, sym, rfl, rfl, hsym⟩

/-- the sub-requests a visitor with this hint makes are those of the self-describing target -/
structure Hint.AnyLike (h : Hint) : Prop where
  elem : h.elem = .any
  maxItems : h.maxItems = none
  key : h.key = .any
  valFor : ∀ nm, h.valFor nm = .any

/-- under a request whose sub-requests are those of `.any` (`Hint.AnyLike`) `deAny`, `deMapLoop`,
    `deRecordFields` are the same programs as under `.any` -/
structure AC (cfg : DeConfig) (S : Schema) (h : Hint) (f : Nat) : Prop where
  any : ∀ n d, deAny deExtModel cfg S f n d h = deAny deExtModel cfg S f n d .any
  map : ∀ item d ign bst acc, deMapLoop deExtModel cfg S f item d ign h bst acc =
    deMapLoop deExtModel cfg S f item d ign .any bst acc
  fields : ∀ fields d acc, deRecordFields deExtModel cfg S f fields d h acc =
    deRecordFields deExtModel cfg S f fields d .any acc

theorem ac_fields (h : Hint) (hl : h.AnyLike) (f : Nat) (ih : ∀ g, f = g + 1 → AC cfg S h g)
    (fields : List (String × Nat)) (d : Nat) (acc : List (Out × Out)) :
    deRecordFields deExtModel cfg S f fields d h acc =
      deRecordFields deExtModel cfg S f fields d .any acc := by
  cases fields with
  | nil => rw [deRecordFields, deRecordFields]
  | cons fk fs =>
    cases f with
    | zero => rw [deRecordFields, deRecordFields]
    | succ g =>
      obtain ⟨name, k⟩ := fk
      rw [deRecordFields, deRecordFields]
      simp only [hl.key, hl.valFor, (ih g rfl).fields]
      rfl

theorem ac (h : Hint) (hl : h.AnyLike) : ∀ f, AC cfg S h f := by
  intro f
  induction f with
  | zero =>
    refine ⟨?_, ?_, ?_⟩
    · intro n d; rw [deAny.eq_1, deAny.eq_1]
    · intros; rw [deMapLoop.eq_1, deMapLoop.eq_1]
    · intro fields d acc
      exact ac_fields S cfg h hl 0 (fun g e => by cases e) fields d acc
  | succ g ih =>
    refine ⟨?_, ?_, ?_⟩
    · intro n d
      by_cases hn : n.isLeaf = true
      · exact deAny_leaf hn ..
      cases n with
      | array k => simp only [deAny, hl.elem, hl.maxItems]; rfl
      | map k => simp only [deAny, ih.map]
      | union vs => simp only [deAny, ih.any]
      | record nm fs => simp only [deAny, ih.fields]
      | duration => simp only [deAny, durationOut, hl.key, hl.valFor]; rfl
      | _ => exact absurd rfl hn
    · intro item d ign bst acc
      rw [deMapLoop, deMapLoop]
      simp only [hl.key, hl.valFor, ih.map]
      rfl
    · intro fields d acc
      exact ac_fields S cfg h hl (g + 1) (fun g' e => by cases e; exact ih) fields d acc

/-- the (request, node) pairs of the shallow fragment: the request fits the node and asks its
    children for what `deserialize_any` asks -/
def shallowFits : Hint → Node → Bool
  | .seq .any, n => match n with
    | .duration => false
    | _ => true
  | .map .any .any, _ => true
  | .i64, .long => true
  | .f64, .double => true
  | .str, .string => true
  | .bytes, .bytes => true
  | _, _ => false

theorem de_shallow_eq (h : Hint) (n : Node) (hf : shallowFits h n = true) (f d : Nat)
    (fv : Bool) :
    de deExtModel cfg S (f + 2) n d fv h = de deExtModel cfg S (f + 2) n d false .any := by
  rw [de_any]
  have anyLike : ∀ {h : Hint}, h.AnyLike → deAny deExtModel cfg S (f + 1) n d h = deAny deExtModel cfg S (f + 1) n d .any := fun hl => (ac S cfg _ hl _).any _ _
  revert hf
  fun_cases shallowFits h n <;> intro hf
  · cases hf
  · rw [de.eq_def]
    dsimp only
    split
    · contradiction
    · exact anyLike ⟨rfl, rfl, rfl, fun _ => rfl⟩
  · simp only [de]
    exact anyLike ⟨rfl, rfl, rfl, fun _ => rfl⟩
  · simp only [de, deAny]
  · simp only [de, deAny]
  · simp only [de, deAny]
  · simp only [de, deAny]
  · cases hf

/-! ### Kept statements, off the proof path (see Lemmas/TypedConsume.lean) -/

/-- `decodeX Limits.impl` accepts `bs` at `n` -/
def HasX (n : Node) (bs : Bytes) : Prop := ∃ rest, DecX S n bs rest

abbrev QC : Out → Out → Bytes → Prop := fun o' o _ => consistent o' o

/-- `consistent` between a typed and a self-describing run from one state, for the seven functions
    of the deserializer; it holds for every family `ok` (`tv`, Lemmas/TypedSound.lean, from `TS` and
    `sndAll`) -/
structure TV (cfg : DeConfig) (S : Schema) (ok : Hint → Node → Prop) (fuel : Nat) : Prop where
  any : ∀ cfg2 f2 n d d2 h bs, h.anyRouted = true → ok h n → HasX S n bs →
    Inv2 (deAny deExtModel cfg S fuel n d h) (deAny deExtModel cfg2 S f2 n d2 .any) bs QC
  de : ∀ cfg2 f2 n d d2 favor h bs, ok h n → HasX S n bs →
    Inv2 (de deExtModel cfg S fuel n d favor h) (deAny deExtModel cfg2 S f2 n d2 .any) bs QC
  tn : ∀ cfg2 f2 n d d2 vts bs, (∀ vh, lookupVariant n.typeName vts = some vh → ok vh.toHint n) →
    HasX S n bs →
    Inv2 (deTypeNameEnum deExtModel cfg S fuel n d vts) (deAny deExtModel cfg2 S f2 n d2 .any) bs QC
  seq : ∀ cfg2 f2 item d d2 eh mi bst acc acc2 bs, ok eh item →
    (∃ r1 rest, ItmX S item bst.current bs r1 ∧ BlkX S item r1 rest) →
    consistentL acc.reverse acc2.reverse →
    Inv2 (deSeqLoop deExtModel cfg S fuel item d false eh mi bst acc)
      (deSeqLoop deExtModel cfg2 S f2 item d2 false .any none bst acc2) bs
      (fun a b _ => consistentL a b)
  map : ∀ cfg2 f2 item d d2 h bst acc acc2 bs, (∀ name, ok (h.valFor name) item) →
    (∃ r1 rest, MItmX S item bst.current bs r1 ∧ MBlkX S item r1 rest) →
    consistentM acc.reverse acc2.reverse →
    Inv2 (deMapLoop deExtModel cfg S fuel item d false h bst acc)
      (deMapLoop deExtModel cfg2 S f2 item d2 false .any bst acc2) bs
      (fun a b _ => consistentM a b)
  fields : ∀ cfg2 f2 fields d d2 h acc acc2 bs,
    (∀ name k fnode, (name, k) ∈ fields → S[k]? = some fnode → ok (h.valFor (some name)) fnode) →
    (∃ rest, FldX S (fields.map (·.2)) bs rest) →
    consistentM acc.reverse acc2.reverse →
    Inv2 (deRecordFields deExtModel cfg S fuel fields d h acc)
      (deRecordFields deExtModel cfg2 S f2 fields d2 .any acc2) bs
      (fun a b _ => consistentM a b)

end Avro.Impl
