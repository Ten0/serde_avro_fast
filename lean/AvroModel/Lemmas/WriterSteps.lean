import AvroModel.Impl.SchemaRender
import AvroModel.Lemmas.SchemaParse
/-
One step of the canonical-form writer `pcf` and of the renderer `render`: the one-level views
`pcfStep` / `renderStep` (written with the combinators `mapOk`, `andThen` of
`Lemmas/SchemaParse.lean`), their generation cells, `UnnamedClosed`; last, in namespace
`Avro.RenderPcf`, `pcf` on each kind of node from the results of its sub-calls (`pcf_prim` …
`pcf_union`).  What is proved of the two writers — by fuel (`Lemmas/SchemaRender.lean`) or through
the relations `CanonTree` / `Renders` — starts here.
-/
namespace Avro.Impl
open Avro

/-! ### One-level view of `pcf` -/

/-- The guard of an array, map or union: the cell of `key` (`PcfState.cell`, below) against the
    current generation (`PcfState.gen`), both spelled as `pcf` spells them, so that `pcf_succ` is
    by unfolding. -/
def pcfUnnamed (st : PcfState) (key : Nat) (body : PcfState → Except SchemaErr PcfState) :
    Except SchemaErr PcfState :=
  if (st.onPath.lookup key).getD 0 = st.written.length + 1 then .error .custom
  else mapOk (body { st with onPath := (key, st.written.length + 1) :: st.onPath.filter (·.1 ≠ key) })
    fun st' => { st' with
      onPath := (key, (st.onPath.lookup key).getD 0) :: st'.onPath.filter (·.1 ≠ key) }

def pcfNamed (st : PcfState) (key : Nat) (name : Name)
    (full : PcfState → Except SchemaErr PcfState) : Except SchemaErr PcfState :=
  if st.written.contains key then .ok { st with out := st.out ++ "\"" ++ name.fq ++ "\"" }
  else full { st with written := key :: st.written }

def pcfStep (S : SchemaMut) (rp : Nat → PcfState → Except SchemaErr PcfState)
    (rl : List Nat → Bool → PcfState → Except SchemaErr PcfState)
    (rf : List (String × Nat) → Bool → PcfState → Except SchemaErr PcfState)
    (key : Nat) (st : PcfState) : Except SchemaErr PcfState :=
  match S[key]? with
  | none => .error .custom
  | some node =>
    let prim (s : String) : Except SchemaErr PcfState := .ok { st with out := st.out ++ "\"" ++ s ++ "\"" }
    match node.type with
    | .null => prim "null" | .boolean => prim "boolean" | .bytes => prim "bytes"
    | .double => prim "double" | .float => prim "float" | .int => prim "int"
    | .long => prim "long" | .string => prim "string"
    | .union vs => pcfUnnamed st key fun st =>
        mapOk (rl vs true { st with out := st.out ++ "[" }) fun st => { st with out := st.out ++ "]" }
    | .array items => pcfUnnamed st key fun st =>
        mapOk (rp items { st with out := st.out ++ "{\"type\":\"array\",\"items\":" })
          fun st => { st with out := st.out ++ "}" }
    | .map values => pcfUnnamed st key fun st =>
        mapOk (rp values { st with out := st.out ++ "{\"type\":\"map\",\"values\":" })
          fun st => { st with out := st.out ++ "}" }
    | .enum name syms => pcfNamed st key name fun st =>
        let text := "{\"name\":\"" ++ name.fq ++ "\",\"type\":\"enum\",\"symbols\":[" ++ joinWith "," (syms.map fun s => "\"" ++ s ++ "\"") ++ "]}"
        .ok { st with out := st.out ++ text }
    | .fixed name size => pcfNamed st key name fun st =>
        let text := "{\"name\":\"" ++ name.fq ++ "\",\"type\":\"fixed\",\"size\":" ++ toString size ++ "}"
        .ok { st with out := st.out ++ text }
    | .record name fields => pcfNamed st key name fun st =>
        let text := "{\"name\":\"" ++ name.fq ++ "\",\"type\":\"record\",\"fields\":["
        mapOk (rf fields true { st with out := st.out ++ text }) fun st => { st with out := st.out ++ "]}" }

theorem pcf_succ (S : SchemaMut) (fuel key : Nat) (st : PcfState) :
    pcf S (fuel + 1) key st = pcfStep S (pcf S fuel) (pcfList S fuel) (pcfFields S fuel) key st := by
  rw [pcf]
  unfold pcfStep
  cases S[key]? with
  | none => rfl
  | some node =>
    obtain ⟨ty, lg⟩ := node
    cases ty <;> simp only [pcfUnnamed, pcfNamed, mapOk]
    all_goals first
      | rfl
      | (split <;> first
          | rfl
          | (generalize pcf S fuel _ _ = r; cases r <;> rfl)
          | (generalize pcfList S fuel _ _ _ = r; cases r <;> rfl)
          | (generalize pcfFields S fuel _ _ _ = r; cases r <;> rfl))


theorem pcfList_nil (S : SchemaMut) (fuel : Nat) (first : Bool) (st : PcfState) :
    pcfList S fuel [] first st = .ok st := by
  cases fuel <;> rfl

theorem pcfList_cons (S : SchemaMut) (fuel k : Nat) (rest : List Nat) (first : Bool) (st : PcfState) :
    pcfList S (fuel + 1) (k :: rest) first st =
      andThen (pcf S fuel k (if first then st else { st with out := st.out ++ "," }))
        (fun st => pcfList S fuel rest false st) := by
  rw [pcfList]; unfold andThen
  generalize pcf S fuel _ _ = r; cases r <;> rfl

theorem pcfFields_nil (S : SchemaMut) (fuel : Nat) (first : Bool) (st : PcfState) :
    pcfFields S fuel [] first st = .ok st := by
  cases fuel <;> rfl

theorem pcfFields_cons (S : SchemaMut) (fuel k : Nat) (name : String) (rest : List (String × Nat))
    (first : Bool) (st : PcfState) :
    pcfFields S (fuel + 1) ((name, k) :: rest) first st =
      andThen (pcf S fuel k
          { (if first then st else { st with out := st.out ++ "," }) with
            out := (if first then st else { st with out := st.out ++ "," }).out ++ "{\"name\":\"" ++ name ++ "\",\"type\":" })
        (fun st => pcfFields S fuel rest false { st with out := st.out ++ "}" }) := by
  rw [pcfFields]; unfold andThen
  generalize pcf S fuel _ _ = r; cases r <;> rfl

/-! ### the generation cells -/

theorem lookup_filter_ne (l : List (Nat × Nat)) (i j : Nat) (h : j ≠ i) :
    (l.filter (·.1 ≠ i)).lookup j = l.lookup j := by
  induction l with
  | nil => rfl
  | cons x xs ih =>
    obtain ⟨a, b⟩ := x
    by_cases ha : a = i
    · subst ha
      have : (j == a) = false := by simpa using h
      have hd : decide ((a, b).1 ≠ a) = false := by simp
      simp only [List.filter, hd, List.lookup_cons, this, ih]
    · have : decide ((a, b).1 ≠ i) = true := by simpa using ha
      simp only [List.filter, this, List.lookup_cons, ih]

/-- the generation recorded for an unnamed node (`0` = not being written) -/
def PcfState.cell (st : PcfState) (i : Nat) : Nat := (st.onPath.lookup i).getD 0

/-- the current generation: `1 +` the number of named types written -/
def PcfState.gen (st : PcfState) : Nat := st.written.length + 1

theorem lookup_set (l : List (Nat × Nat)) (i v j : Nat) :
    (((i, v) :: l.filter (·.1 ≠ i)).lookup j).getD 0 = if j = i then v else (l.lookup j).getD 0 := by
  by_cases h : j = i
  · subst h; simp
  · have : (j == i) = false := by simpa using h
    simp only [List.lookup_cons, this, lookup_filter_ne _ _ _ h, h, if_false]

/-- `pcfUnnamed` succeeds iff the guard passes and the body runs from the entered state; the cell
    is then restored.  (With the output set, the two states are `RenderPcf.unnamedEnter` /
    `unnamedExit`.) -/
theorem pcfUnnamed_ok {st st' : PcfState} {key : Nat}
    {body : PcfState → Except SchemaErr PcfState} :
    pcfUnnamed st key body = .ok st' ↔
      st.cell key ≠ st.gen ∧ ∃ st2,
        body { st with onPath := (key, st.gen) :: st.onPath.filter (·.1 ≠ key) } = .ok st2 ∧
        st' = { st2 with onPath := (key, st.cell key) :: st2.onPath.filter (·.1 ≠ key) } := by
  unfold pcfUnnamed PcfState.cell PcfState.gen
  constructor
  · intro h
    split at h
    · cases h
    · rename_i hg
      obtain ⟨st2, h2, rfl⟩ := mapOk_ok h
      exact ⟨hg, st2, h2, rfl⟩
  · rintro ⟨hg, st2, h2, rfl⟩
    simp only [hg, if_false, h2, mapOk]

/-! ### One-level view of `render` -/

abbrev RenderRes := Except SchemaErr (Json × RenderState)
abbrev RenderListRes := Except SchemaErr (List Json × RenderState)

def renderGuarded (st : RenderState) (key : Nat) (body : RenderState → RenderRes) : RenderRes :=
  if st.get key ≥ st.nWritten then .error .custom
  else mapOk (body (st.set key st.nWritten)) fun p => (p.1, p.2.set key 0)

def renderNamed (st : RenderState) (key : Nat) (parentNs : Option String) (name : Name)
    (full : RenderState → RenderRes) : RenderRes :=
  if st.get key > 0 then .ok (.str (refString parentNs name), st)
  else full { (st.set key st.nWritten) with nWritten := st.nWritten + 1 }

def renderStep (S : SchemaMut) (rr : Nat → Option String → RenderState → RenderRes)
    (rl : List Nat → Option String → RenderState → RenderListRes)
    (rf : List (String × Nat) → Option String → RenderState → RenderListRes)
    (key : Nat) (parentNs : Option String) (st : RenderState) : RenderRes :=
  match S[key]? with
  | none => .error .custom
  | some node =>
    let prim (t : String) : RenderRes :=
      match node.logical with
      | none => .ok (.str t, st)
      | some _ => .ok (.obj (typeMembers t node.logical), st)
    match node.type with
    | .null => prim "null" | .boolean => prim "boolean" | .int => prim "int" | .long => prim "long"
    | .float => prim "float" | .double => prim "double" | .bytes => prim "bytes"
    | .string => prim "string"
    | .array items => renderGuarded st key fun st =>
        mapOk (rr items parentNs st) fun p =>
          (.obj (typeMembers "array" node.logical ++ [("items", p.1)]), p.2)
    | .map values => renderGuarded st key fun st =>
        mapOk (rr values parentNs st) fun p =>
          (.obj (typeMembers "map" node.logical ++ [("values", p.1)]), p.2)
    | .union vs =>
      if node.logical.isSome then .error .custom
      else renderGuarded st key fun st =>
        mapOk (rl vs parentNs st) fun p => (.arr p.1, p.2)
    | .record name fields => renderNamed st key parentNs name fun st =>
        mapOk (rf fields name.ns st) fun p =>
          (.obj (typeMembers "record" node.logical ++ nameMembers parentNs name ++ [("fields", .arr p.1)]), p.2)
    | .enum name syms => renderNamed st key parentNs name fun st =>
        .ok (.obj (typeMembers "enum" node.logical ++ nameMembers parentNs name
          ++ [("symbols", .arr (syms.map .str))]), st)
    | .fixed name size => renderNamed st key parentNs name fun st =>
        .ok (.obj (typeMembers "fixed" node.logical ++ nameMembers parentNs name ++ [("size", .nat size)]), st)

theorem render_succ (S : SchemaMut) (fuel key : Nat) (ns : Option String) (st : RenderState) :
    render S (fuel + 1) key ns st =
      renderStep S (render S fuel) (renderList S fuel) (renderFields S fuel) key ns st := by
  rw [render]
  unfold renderStep
  cases S[key]? with
  | none => rfl
  | some node =>
    obtain ⟨ty, lg⟩ := node
    cases ty <;> simp only [renderGuarded, renderNamed, mapOk]
    all_goals first
      | rfl
      | (split <;> first
          | rfl
          | (generalize render S fuel _ _ _ = r; rcases r with _ | ⟨_, _⟩ <;> rfl)
          | (generalize renderFields S fuel _ _ _ = r; rcases r with _ | ⟨_, _⟩ <;> rfl)
          | (split <;> first
              | rfl
              | (generalize renderList S fuel _ _ _ = r; rcases r with _ | ⟨_, _⟩ <;> rfl)))

theorem renderList_nil (S : SchemaMut) (fuel : Nat) (ns : Option String) (st : RenderState) :
    renderList S fuel [] ns st = .ok ([], st) := by
  cases fuel <;> rfl

theorem renderList_cons (S : SchemaMut) (fuel k : Nat) (rest : List Nat) (ns : Option String)
    (st : RenderState) :
    renderList S (fuel + 1) (k :: rest) ns st =
      andThen (render S fuel k ns st) fun p =>
        mapOk (renderList S fuel rest ns p.2) fun q => (p.1 :: q.1, q.2) := by
  rw [renderList]; unfold andThen mapOk
  generalize render S fuel _ _ _ = r
  rcases r with _ | ⟨j, st'⟩
  · rfl
  · simp only
    generalize renderList S fuel _ _ _ = r
    rcases r with _ | ⟨_, _⟩ <;> rfl

theorem renderFields_nil (S : SchemaMut) (fuel : Nat) (ns : Option String) (st : RenderState) :
    renderFields S fuel [] ns st = .ok ([], st) := by
  cases fuel <;> rfl

theorem renderFields_cons (S : SchemaMut) (fuel k : Nat) (name : String) (rest : List (String × Nat))
    (ns : Option String) (st : RenderState) :
    renderFields S (fuel + 1) ((name, k) :: rest) ns st =
      andThen (render S fuel k ns st) fun p =>
        mapOk (renderFields S fuel rest ns p.2) fun q =>
          (.obj [("name", .str name), ("type", p.1)] :: q.1, q.2) := by
  rw [renderFields]; unfold andThen mapOk
  generalize render S fuel _ _ _ = r
  rcases r with _ | ⟨j, st'⟩
  · rfl
  · simp only
    generalize renderFields S fuel _ _ _ = r
    rcases r with _ | ⟨_, _⟩ <;> rfl


theorem renderGuarded_ok {st st' : RenderState} {key : Nat} {body : RenderState → RenderRes}
    {j : Json} (h : renderGuarded st key body = .ok (j, st')) :
    st.get key < st.nWritten ∧
      ∃ st1, body (st.set key st.nWritten) = .ok (j, st1) ∧ st' = st1.set key 0 := by
  unfold renderGuarded at h
  split at h
  · cases h
  · obtain ⟨⟨j1, st1⟩, hb, e⟩ := mapOk_ok h
    cases e
    exact ⟨by omega, st1, hb, rfl⟩

theorem RenderState.get_set (st : RenderState) (i v j : Nat) :
    (st.set i v).get j = if j = i then v else st.get j :=
  lookup_set st.gen i v j

theorem RenderState.get_init (j : Nat) : ({} : RenderState).get j = 0 := rfl


/-! ### unnamed nodes -/

def isUnnamedKey (S : SchemaMut) (k : Nat) : Bool :=
  match S[k]? with
  | some node =>
    (match node.type with
      | .array _ => true | .map _ => true | .union _ => true | _ => false)
  | none => false

/-- A set of keys closed under "has a child in the set through an unnamed node": every member
    lies on (or leads into) a cycle made of arrays, maps and unions only. -/
def UnnamedClosed (S : SchemaMut) (C : Nat → Prop) : Prop :=
  ∀ k, C k → ∃ node, S[k]? = some node ∧
    (match node.type with
      | .array i => C i
      | .map i => C i
      | .union vs => ∃ v, v ∈ vs ∧ C v
      | _ => False)

end Avro.Impl

/-! ### `pcf` by kind of node, from the results of its sub-calls -/

namespace Avro.RenderPcf
open Avro Avro.Impl

def primText : RegularType → Option String
  | .null => some "null" | .boolean => some "boolean" | .int => some "int" | .long => some "long"
  | .float => some "float" | .double => some "double" | .bytes => some "bytes"
  | .string => some "string"
  | _ => none

def nameOf : RegularType → Option Name
  | .record nm _ => some nm | .enum nm _ => some nm | .fixed nm _ => some nm
  | _ => none

theorem pcf_prim {S : SchemaMut} {pf key : Nat} {ps : PcfState} {node : RawNode} {s : String}
    (hk : S[key]? = some node) (hp : primText node.type = some s) :
    pcf S (pf + 1) key ps = .ok { ps with out := ps.out ++ "\"" ++ s ++ "\"" } := by
  simp only [pcf, hk]
  cases ht : node.type <;> rw [ht] at hp <;>
    simp only [primText, Option.some.injEq, reduceCtorEq] at hp
  all_goals subst hp; rfl

theorem pcf_named_again {S : SchemaMut} {pf key : Nat} {ps : PcfState} {node : RawNode}
    {nm : Name} (hk : S[key]? = some node) (hn : nameOf node.type = some nm)
    (hw : ps.written.contains key = true) :
    pcf S (pf + 1) key ps = .ok { ps with out := ps.out ++ "\"" ++ nm.fq ++ "\"" } := by
  simp only [pcf, hk]
  cases ht : node.type <;> rw [ht] at hn <;>
    simp only [nameOf, Option.some.injEq, reduceCtorEq] at hn
  all_goals subst hn; simp only [hw, if_true]

theorem pcf_enum_first {S : SchemaMut} {pf key : Nat} {ps : PcfState} {lg}
    {nm : Name} {syms : List String} (hk : S[key]? = some ⟨.enum nm syms, lg⟩)
    (hw : ps.written.contains key = false) :
    pcf S (pf + 1) key ps = .ok { ps with
      written := key :: ps.written,
      out := ps.out ++ ("{\"name\":\"" ++ nm.fq ++ "\",\"type\":\"enum\",\"symbols\":[" ++
        joinWith "," (syms.map fun s => "\"" ++ s ++ "\"") ++ "]}") } := by
  simp only [pcf, hk, hw, Bool.false_eq_true, if_false]

theorem pcf_fixed_first {S : SchemaMut} {pf key : Nat} {ps : PcfState} {lg}
    {nm : Name} {size : Nat} (hk : S[key]? = some ⟨.fixed nm size, lg⟩)
    (hw : ps.written.contains key = false) :
    pcf S (pf + 1) key ps = .ok { ps with
      written := key :: ps.written,
      out := ps.out ++ ("{\"name\":\"" ++ nm.fq ++ "\",\"type\":\"fixed\",\"size\":" ++
        toString size ++ "}") } := by
  simp only [pcf, hk, hw, Bool.false_eq_true, if_false]

/-- the same function as `Impl.PcfState.cell` -/
def cell (ps : PcfState) (i : Nat) : Nat := (ps.onPath.lookup i).getD 0

theorem pcf_record_first {S : SchemaMut} {pf key : Nat} {ps ps2 : PcfState} {lg}
    {nm : Name} {fields : List (String × Nat)} (hk : S[key]? = some ⟨.record nm fields, lg⟩)
    (hw : ps.written.contains key = false)
    (h2 : pcfFields S pf fields true { ps with
      written := key :: ps.written,
      out := ps.out ++ ("{\"name\":\"" ++ nm.fq ++ "\",\"type\":\"record\",\"fields\":[") } = .ok ps2) :
    pcf S (pf + 1) key ps = .ok { ps2 with out := ps2.out ++ "]}" } := by
  simp only [pcf, hk, hw, Bool.false_eq_true, if_false, h2]

/-- the state in which the body of an unnamed type is written: the entered state of `pcfUnnamed`
    (`pcfUnnamed_ok`) with the output `o` -/
def unnamedEnter (ps : PcfState) (key : Nat) (o : String) : PcfState :=
  { ps with onPath := (key, ps.written.length + 1) :: ps.onPath.filter (·.1 ≠ key), out := o }

/-- … and the state after it -/
def unnamedExit (ps ps2 : PcfState) (key : Nat) (o : String) : PcfState :=
  { ps2 with out := o, onPath := (key, cell ps key) :: ps2.onPath.filter (·.1 ≠ key) }

theorem cell_unnamedEnter (ps : PcfState) (key : Nat) (o : String) (i : Nat) :
    cell (unnamedEnter ps key o) i = if i = key then ps.written.length + 1 else cell ps i := by
  simp only [cell, unnamedEnter]
  exact lookup_set ps.onPath key _ i

theorem cell_unnamedExit (ps ps2 : PcfState) (key : Nat) (o : String) (i : Nat) :
    cell (unnamedExit ps ps2 key o) i = if i = key then cell ps key else cell ps2 i := by
  simp only [cell, unnamedExit]
  exact lookup_set ps2.onPath key _ i

theorem pcf_array {S : SchemaMut} {pf key : Nat} {ps ps2 : PcfState} {lg} {items : Nat}
    (hk : S[key]? = some ⟨.array items, lg⟩) (hg : cell ps key ≠ ps.written.length + 1)
    (h2 : pcf S pf items (unnamedEnter ps key (ps.out ++ "{\"type\":\"array\",\"items\":")) = .ok ps2) :
    pcf S (pf + 1) key ps = .ok (unnamedExit ps ps2 key (ps2.out ++ "}")) := by
  simp only [pcf_succ, pcfStep, hk]
  exact pcfUnnamed_ok.mpr ⟨hg, _, congrArg (mapOk · _) h2, rfl⟩

theorem pcf_map {S : SchemaMut} {pf key : Nat} {ps ps2 : PcfState} {lg} {values : Nat}
    (hk : S[key]? = some ⟨.map values, lg⟩) (hg : cell ps key ≠ ps.written.length + 1)
    (h2 : pcf S pf values (unnamedEnter ps key (ps.out ++ "{\"type\":\"map\",\"values\":")) = .ok ps2) :
    pcf S (pf + 1) key ps = .ok (unnamedExit ps ps2 key (ps2.out ++ "}")) := by
  simp only [pcf_succ, pcfStep, hk]
  exact pcfUnnamed_ok.mpr ⟨hg, _, congrArg (mapOk · _) h2, rfl⟩

theorem pcf_union {S : SchemaMut} {pf key : Nat} {ps ps2 : PcfState} {lg} {vs : List Nat}
    (hk : S[key]? = some ⟨.union vs, lg⟩) (hg : cell ps key ≠ ps.written.length + 1)
    (h2 : pcfList S pf vs true (unnamedEnter ps key (ps.out ++ "[")) = .ok ps2) :
    pcf S (pf + 1) key ps = .ok (unnamedExit ps ps2 key (ps2.out ++ "]")) := by
  simp only [pcf_succ, pcfStep, hk]
  exact pcfUnnamed_ok.mpr ⟨hg, _, congrArg (mapOk · _) h2, rfl⟩

end Avro.RenderPcf
