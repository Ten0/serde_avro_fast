import AvroModel.Lemmas.ValidParsesRaw
/-
C07 (valid documents parse) and C19: the reader `rawOfJson`.  Its fuel is pure gas: what it
consumes on `j` (`Spec.parseDepth`) is at most `rawGas j`, the gas `parseJson` hands it, and with
at least that much the result — value or error — does not depend on the gas; a success stays one
with more gas, without the depth hypothesis.  Hence the only `json` errors of `parseJson` are the
explicit nesting check and genuine type / shape errors of the document.  For
`Theorems/C19register.lean` (namespace `Avro.Impl`): the readers of `raw.rs` fail with `json` only
(`raw_errors`, `rawOfJson_error`), and the nesting depth `rawDepth` of the raw tree is at most
`jsonNesting j + 1` (`read_depth`).
-/
namespace Avro.ValidParses
open Avro Avro.Impl Avro.Spec Avro.Spec.Pcf Avro.PcfSpec

/-! ### `rawGas` is enough -/

mutual

theorem parseDepth_le : (j : Json) → parseDepth j ≤ 2 * jsonWeight j
  | .arr l => by
    have := depthList_le l
    simp only [parseDepth, jsonWeight]; omega
  | .obj m => by
    have := depthAttr_le "items" m
    have := depthAttr_le "values" m
    have := depthFieldsAttr_le m
    simp only [parseDepth, jsonWeight]; omega
  | .null | .bool _ | .nat _ | .numOther | .str _ => by simp [parseDepth, jsonWeight]

theorem depthList_le : (l : List Json) → depthList l ≤ 2 * jsonWeightList l
  | [] => by simp [depthList]
  | j :: l => by
    have := parseDepth_le j
    have := depthList_le l
    simp only [depthList, jsonWeightList]; omega

theorem depthAttr_le (key : String) : (m : List (String × Json)) →
    depthAttr key m ≤ 2 * jsonWeightMembers m
  | [] => by simp [depthAttr]
  | (k, v) :: m => by
    have := parseDepth_le v
    have := depthAttr_le key m
    simp only [depthAttr, jsonWeightMembers]
    split <;> omega

theorem depthFieldsAttr_le : (m : List (String × Json)) →
    depthFieldsAttr m ≤ 2 * jsonWeightMembers m
  | [] => by simp [depthFieldsAttr]
  | (k, .arr fields) :: m => by
    have := depthFields_le fields
    have := depthFieldsAttr_le m
    simp only [depthFieldsAttr, jsonWeightMembers, jsonWeight]
    split <;> omega
  | (k, .null) :: m | (k, .bool _) :: m | (k, .nat _) :: m | (k, .numOther) :: m
  | (k, .str _) :: m | (k, .obj _) :: m => by
    have := depthFieldsAttr_le m
    simp only [depthFieldsAttr, jsonWeightMembers]
    split <;> omega

theorem depthFields_le : (l : List Json) → depthFields l ≤ 2 * jsonWeightList l
  | [] => by simp [depthFields]
  | .obj fm :: l => by
    have := depthAttr_le "type" fm
    have := depthFields_le l
    simp only [depthFields, jsonWeightList, jsonWeight]; omega
  | .null :: l | .bool _ :: l | .nat _ :: l | .numOther :: l | .str _ :: l | .arr _ :: l => by
    have := depthFields_le l
    simp only [depthFields, jsonWeightList]; omega

end
theorem parseDepth_le_rawGas (j : Json) : parseDepth j ≤ rawGas j := by
  have := parseDepth_le j
  unfold rawGas; omega

/-! ### one unit of gas more

One induction for both readings: above the depth the result does not depend on the gas, and a
success stays one with more gas whatever the depth. -/

/-- a result `x` against the result `y` of the same call with one unit of gas more: the same,
    unless `x` is an error and the gas was below the depth (`low`) -/
def GasStep {α : Type} (low : Prop) (x y : Except SchemaErr α) : Prop :=
  x = y ∨ low ∧ ∃ e, x = .error e

theorem GasStep.bind {α β : Type} {low : Prop} {x y : Except SchemaErr α}
    {f g : α → Except SchemaErr β} (h : GasStep low x y) (hfg : ∀ a, GasStep low (f a) (g a)) :
    GasStep low (x >>= f) (y >>= g) := by
  rcases h with rfl | ⟨hl, e, rfl⟩
  · cases x with
    | error e => exact .inl rfl
    | ok a => exact hfg a
  · exact .inr ⟨hl, e, rfl⟩

theorem stSchema_gas {f : Nat} {ms : List (String × Json)} {key : String} {low : Prop}
    (ihJ : ∀ j, GasStep (f < parseDepth j) (rawOfJson f j) (rawOfJson (f + 1) j))
    (hl : f < depthAttr key ms → low) :
    GasStep low (stSchema f ms key) (stSchema (f + 1) ms key) := by
  unfold stSchema
  cases hm : member ms key with
  | error e => exact .inl rfl
  | ok r =>
    cases r with
    | none => exact .inl rfl
    | some v =>
      rw [depthAttr_eq, RenderPcf.attr_of_member hm] at hl
      cases v with
      | null => exact .inl rfl
      | _ =>
        simp only
        rcases ihJ _ with h | ⟨hv, e, h⟩
        · rw [h]; exact .inl rfl
        · exact .inr ⟨hl hv, e, by rw [h]⟩

theorem stFields_gas {f : Nat} {ms : List (String × Json)} {low : Prop}
    (ihF : ∀ js, GasStep (f < depthFields js) (rawFieldsOfJson f js) (rawFieldsOfJson (f + 1) js))
    (hl : f < depthFieldsAttr ms → low) : GasStep low (stFields f ms) (stFields (f + 1) ms) := by
  unfold stFields
  cases hm : member ms "fields" with
  | error e => exact .inl rfl
  | ok r =>
    cases r with
    | none => exact .inl rfl
    | some v =>
      rw [depthFieldsAttr_eq, RenderPcf.attr_of_member hm] at hl
      cases v with
      | arr items =>
        simp only
        rcases ihF items with h | ⟨hv, e, h⟩
        · rw [h]; exact .inl rfl
        · exact .inr ⟨hl hv, e, by rw [h]⟩
      | _ => exact .inl rfl

theorem raw_gas (f : Nat) :
    (∀ j, GasStep (f < parseDepth j) (rawOfJson f j) (rawOfJson (f + 1) j)) ∧
    (∀ js, GasStep (f < depthList js) (rawListOfJson f js) (rawListOfJson (f + 1) js)) ∧
    (∀ ms, GasStep (f + 1 < parseDepth (.obj ms)) (rawObjectOfJson f ms)
      (rawObjectOfJson (f + 1) ms)) ∧
    (∀ js, GasStep (f < depthFields js) (rawFieldsOfJson f js) (rawFieldsOfJson (f + 1) js)) := by
  induction f with
  | zero =>
    refine ⟨fun j => .inr ⟨?_, _, rfl⟩, fun js => ?_, fun ms => .inr ⟨?_, _, rfl⟩, fun js => ?_⟩
    · cases j <;> simp only [parseDepth] <;> omega
    · cases js with
      | nil => exact .inl rfl
      | cons j js => exact .inr ⟨by simp only [depthList]; omega, _, rfl⟩
    · simp only [parseDepth]; omega
    · cases js with
      | nil => exact .inl rfl
      | cons j js => exact .inr ⟨by cases j <;> simp only [depthFields] <;> omega, _, rfl⟩
  | succ f ih =>
    obtain ⟨ihJ, ihL, ihO, ihF⟩ := ih
    refine ⟨?_, ?_, ?_, ?_⟩
    · intro j
      cases j with
      | arr items =>
        simp only [rawOfJson, parseDepth]
        rcases ihL items with h | ⟨hl, e, h⟩
        · rw [h]; exact .inl rfl
        · exact .inr ⟨by omega, e, by rw [h]⟩
      | obj ms => exact ihO ms
      | _ => exact .inl rfl
    · intro js
      cases js with
      | nil => exact .inl rfl
      | cons j js =>
        simp only [rawListOfJson, depthList]
        rcases ihJ j with h | ⟨hl, e, h⟩
        · rw [← h]
          rcases ihL js with h' | ⟨hl', e', h'⟩
          · rw [h']; exact .inl rfl
          · -- the tail ran out of gas: an error, that of the head if it has one
            refine .inr ⟨by omega, ?_⟩
            rw [h']; cases rawOfJson f j <;> exact ⟨_, rfl⟩
        · exact .inr ⟨by omega, e, by rw [h]⟩
    · intro ms
      rw [rawObjectOfJson_eq, rawObjectOfJson_eq]
      have hd : ∀ {n}, n ≤ max (max (depthAttr "items" ms) (depthAttr "values" ms))
          (depthFieldsAttr ms) → f < n → f + 1 + 1 < parseDepth (.obj ms) := by
        intro n h1 h2; simp only [parseDepth]; omega
      -- only `fields`, `items`, `values` are read with the gas
      refine .bind (.inl rfl) fun _ => .bind (.inl rfl) fun _ => .bind (.inl rfl) fun _ =>
        .bind (.inl rfl) fun _ => .bind (stFields_gas ihF (hd (by omega))) fun _ =>
        .bind (.inl rfl) fun _ => .bind (stSchema_gas ihJ (hd (by omega))) fun _ =>
        .bind (stSchema_gas ihJ (hd (by omega))) fun _ => .inl rfl
    · intro js
      cases js with
      | nil => exact .inl rfl
      | cons j js =>
        cases j with
        | obj fm =>
          simp only [rawFieldsOfJson, depthFields]
          split
          · rename_i name t hn ht
            have hdt : parseDepth t = depthAttr "type" fm := by
              rw [depthAttr_eq, RenderPcf.attr_of_member ht]
            rcases ihJ t with h | ⟨hl, e, h⟩
            · rw [← h]
              rcases ihF js with h' | ⟨hl', e', h'⟩
              · rw [h']; exact .inl rfl
              · refine .inr ⟨by omega, ?_⟩
                rw [h']; cases rawOfJson f t <;> exact ⟨_, rfl⟩
            · exact .inr ⟨by omega, e, by rw [h]⟩
          · exact .inl rfl
        | _ => exact .inl rfl

theorem rawOfJson_gas_le {j : Json} {f f' : Nat} (hd : parseDepth j ≤ f) (hle : f ≤ f') :
    rawOfJson f j = rawOfJson f' j := by
  induction hle with
  | refl => rfl
  | @step m h ih =>
    rcases (raw_gas m).1 j with h' | ⟨hl, -⟩
    · rw [ih, h']
    · exact absurd (Nat.le_trans hd h) (Nat.not_le.2 hl)

theorem rawOfJson_gas_irrelevant {j : Json} {f f' : Nat} (hd : parseDepth j ≤ f)
    (hd' : parseDepth j ≤ f') : rawOfJson f j = rawOfJson f' j := by
  rw [rawOfJson_gas_le hd (Nat.le_max_left f f'), rawOfJson_gas_le hd' (Nat.le_max_right f f')]

theorem rawOfJson_rawGas {j : Json} {f : Nat} (hd : parseDepth j ≤ f) :
    rawOfJson f j = rawOfJson (rawGas j) j :=
  rawOfJson_gas_irrelevant hd (parseDepth_le_rawGas j)

theorem rawOfJson_mono {j : Json} {raw : RawSchema} {f f' : Nat}
    (h : rawOfJson f j = .ok raw) (hle : f ≤ f') : rawOfJson f' j = .ok raw := by
  induction hle with
  | refl => exact h
  | @step m _ ih =>
    rcases (raw_gas m).1 j with h' | ⟨-, e, he⟩
    · rw [← h', ih]
    · rw [he] at ih; cases ih

end Avro.ValidParses

namespace Avro.Impl

/-! ### the readers of `raw.rs` only fail with `json` -/

open Avro.PcfSpec

theorem member_error {ms : List (String × Json)} {key : String} {e : SchemaErr}
    (h : member ms key = .error e) : e = .json := by
  unfold member at h
  split at h
  · cases h
  · cases h
  · cases h; rfl

theorem optString_error {j : Option Json} {e : SchemaErr} (h : optString j = .error e) :
    e = .json := by
  unfold optString at h
  split at h <;> cases h
  rfl

theorem optNat_error {j : Option Json} {max : Nat} {e : SchemaErr} (h : optNat j max = .error e) :
    e = .json := by
  unfold optNat at h
  split at h
  · cases h
  · cases h
  · split at h
    · cases h
    · cases h; rfl
  · cases h; rfl

theorem stType_error {ms e} (h : stType ms = .error e) : e = .json := by
  unfold stType at h
  split at h
  · rename_i e' hm; cases h; exact member_error hm
  · split at h
    · cases h
    · cases h; rfl
  · cases h; rfl

theorem readStr_error {ms key e} (h : readStr ms key = .error e) : e = .json := by
  unfold readStr at h
  rcases bind_err h with hm | ⟨a, -, ha⟩
  · exact member_error hm
  · exact optString_error ha

theorem readNat_error {ms key max e} (h : readNat ms key max = .error e) : e = .json := by
  unfold readNat at h
  rcases bind_err h with hm | ⟨a, -, ha⟩
  · exact member_error hm
  · exact optNat_error ha

theorem stSymbols_error {ms e} (h : stSymbols ms = .error e) : e = .json := by
  unfold stSymbols at h
  split at h
  · rename_i e' hm; cases h; exact member_error hm
  · cases h
  · cases h
  · split at h
    · cases h
    · cases h; rfl
  · cases h; rfl

theorem stFields_error {f ms e}
    (ihF : ∀ js e, rawFieldsOfJson f js = .error e → e = .json)
    (h : stFields f ms = .error e) : e = .json := by
  unfold stFields at h
  split at h
  · rename_i e' hm; cases h; exact member_error hm
  · cases h
  · cases h
  · split at h
    · cases h
    · rename_i e' he; cases h; exact ihF _ _ he
  · cases h; rfl

theorem stSchema_error {f ms key e}
    (ihJ : ∀ j e, rawOfJson f j = .error e → e = .json)
    (h : stSchema f ms key = .error e) : e = .json := by
  unfold stSchema at h
  split at h
  · rename_i e' hm; cases h; exact member_error hm
  · cases h
  · cases h
  · split at h
    · cases h
    · rename_i e' he; cases h; exact ihJ _ _ he

theorem rawObject_error {f ms e}
    (ihJ : ∀ j e, rawOfJson f j = .error e → e = .json)
    (ihF : ∀ js e, rawFieldsOfJson f js = .error e → e = .json)
    (h : rawObjectOfJson (f + 1) ms = .error e) : e = .json := by
  rw [rawObjectOfJson_eq] at h
  rcases bind_err h with h | ⟨_, -, h⟩
  · exact stType_error h
  rcases bind_err h with h | ⟨_, -, h⟩
  · exact readStr_error h
  rcases bind_err h with h | ⟨_, -, h⟩
  · exact readStr_error h
  rcases bind_err h with h | ⟨_, -, h⟩
  · exact readStr_error h
  rcases bind_err h with h | ⟨_, -, h⟩
  · exact stFields_error ihF h
  rcases bind_err h with h | ⟨_, -, h⟩
  · exact stSymbols_error h
  rcases bind_err h with h | ⟨_, -, h⟩
  · exact stSchema_error ihJ h
  rcases bind_err h with h | ⟨_, -, h⟩
  · exact stSchema_error ihJ h
  rcases bind_err h with h | ⟨_, -, h⟩
  · exact readNat_error h
  rcases bind_err h with h | ⟨_, -, h⟩
  · exact readNat_error h
  rcases bind_err h with h | ⟨_, -, h⟩
  · exact readNat_error h
  cases h

theorem raw_errors (f : Nat) :
    (∀ j e, rawOfJson f j = .error e → e = .json) ∧
    (∀ js e, rawListOfJson f js = .error e → e = .json) ∧
    (∀ ms e, rawObjectOfJson f ms = .error e → e = .json) ∧
    (∀ js e, rawFieldsOfJson f js = .error e → e = .json) := by
  induction f with
  | zero =>
    refine ⟨?_, ?_, ?_, ?_⟩
    · intro j e h; simp only [rawOfJson] at h; cases h; rfl
    · intro js e h
      cases js with
      | nil => simp [rawListOfJson] at h
      | cons j js => simp only [rawListOfJson] at h; cases h; rfl
    · intro ms e h; simp only [rawObjectOfJson] at h; cases h; rfl
    · intro js e h
      cases js with
      | nil => simp [rawFieldsOfJson] at h
      | cons j js => simp only [rawFieldsOfJson] at h; cases h; rfl
  | succ f ih =>
    obtain ⟨ihJ, ihL, ihO, ihF⟩ := ih
    refine ⟨?_, ?_, ?_, ?_⟩
    · intro j e h
      cases j with
      | str s =>
        simp only [rawOfJson] at h
        split at h <;> cases h
      | arr items =>
        simp only [rawOfJson] at h
        split at h
        · cases h
        · rename_i e' he; cases h; exact ihL _ _ he
      | obj ms => simp only [rawOfJson] at h; exact ihO _ _ h
      | _ => simp only [rawOfJson] at h; cases h; rfl
    · intro js e h
      cases js with
      | nil => simp [rawListOfJson] at h
      | cons j js =>
        simp only [rawListOfJson] at h
        split at h
        · rename_i e' he; cases h; exact ihJ _ _ he
        · split at h
          · rename_i e' he; cases h; exact ihL _ _ he
          · cases h
    · intro ms e h; exact rawObject_error ihJ ihF h
    · intro js e h
      cases js with
      | nil => simp [rawFieldsOfJson] at h
      | cons j js =>
        cases j with
        | obj fm =>
          simp only [rawFieldsOfJson] at h
          split at h
          · split at h
            · rename_i e' he; cases h; exact ihJ _ _ he
            · split at h
              · rename_i e' he; cases h; exact ihF _ _ he
              · cases h
          · cases h; rfl
        | _ => simp only [rawFieldsOfJson] at h; cases h; rfl

theorem rawOfJson_error {f : Nat} {j : Json} {e : SchemaErr} (h : rawOfJson f j = .error e) :
    e = .json := (raw_errors f).1 j e h

theorem resolveKeys_error {st : PState} {e : SchemaErr} (h : resolveKeys st = .error e) :
    e = .custom := by
  unfold resolveKeys at h
  split at h
  · cases h; rfl
  · cases h


/-! ### nesting depth of the raw tree (the recursion depth of `register_node` in the crate)

The fuel of the model also pays for the position in a union / field list (`registerList` and
`registerFields` hand the tail one unit less).  The crate iterates there; its call stack only
grows with the nesting of the raw tree, `rawDepth`, which `serde_json`'s recursion limit bounds:
`rawDepth raw ≤ jsonNesting j + 1`. -/

mutual
/-- number of nested `register_node` frames on `raw`, at most (every attribute counted, whatever
    the type name) -/
def rawDepth : RawSchema → Nat
  | .type _ => 1
  | .ref _ => 1
  | .union bs => 1 + rawDepthList bs
  | .object _ fields items values =>
    1 + max (rawDepthOF fields) (max (rawDepthO items) (rawDepthO values))
def rawDepthO : Option RawSchema → Nat
  | none => 0
  | some r => rawDepth r
def rawDepthOF : Option (List (String × RawSchema)) → Nat
  | none => 0
  | some fs => rawDepthFields fs
def rawDepthList : List RawSchema → Nat
  | [] => 0
  | r :: rest => max (rawDepth r) (rawDepthList rest)
def rawDepthFields : List (String × RawSchema) → Nat
  | [] => 0
  | (_, r) :: rest => max (rawDepth r) (rawDepthFields rest)
end

open Avro.Spec.Pcf Avro.ValidParses

theorem jsonNesting_attr {key : String} {ms : List (String × Json)} {j : Json}
    (h : attr key ms = some j) : jsonNesting j ≤ jsonNestingMembers ms := by
  induction ms with
  | nil => simp [attr] at h
  | cons p rest ih =>
    obtain ⟨k, v⟩ := p
    simp only [attr] at h
    simp only [jsonNestingMembers]
    split at h
    · cases h; omega
    · have := ih h; omega

theorem depth_opt {key ms r}
    (h : OptRead (fun j raw => rawDepth raw ≤ jsonNesting j + 1) key ms r) :
    rawDepthO r ≤ jsonNestingMembers ms + 1 := by
  rcases h with ⟨rfl, -⟩ | ⟨j, x, ha, -, hP, rfl⟩
  · simp [rawDepthO]
  · have := jsonNesting_attr ha
    simp only [rawDepthO]; omega

theorem depth_fields {ms r}
    (h : FieldsRead (fun js fs => rawDepthFields fs ≤ jsonNestingList js) ms r) :
    rawDepthOF r ≤ jsonNestingMembers ms := by
  rcases h with ⟨rfl, -⟩ | ⟨its, fs, ha, hP, rfl⟩
  · simp [rawDepthOF]
  · have := jsonNesting_attr ha
    simp only [jsonNesting] at this
    simp only [rawDepthOF]; omega

theorem read_depth_aux (fuel : Nat) :
    (∀ j raw, rawOfJson fuel j = .ok raw → rawDepth raw ≤ jsonNesting j + 1) ∧
    (∀ js rs, rawListOfJson fuel js = .ok rs → rawDepthList rs ≤ jsonNestingList js + 1) ∧
    (∀ ms raw, rawObjectOfJson fuel ms = .ok raw → rawDepth raw ≤ jsonNesting (.obj ms) + 1) ∧
    (∀ js fs, rawFieldsOfJson fuel js = .ok fs → rawDepthFields fs ≤ jsonNestingList js) := by
  apply raw_read_ind (fun j raw => rawDepth raw ≤ jsonNesting j + 1)
    (fun js rs => rawDepthList rs ≤ jsonNestingList js + 1)
    (fun js fs => rawDepthFields fs ≤ jsonNestingList js)
  · intro s t _; simp [rawDepth]
  · intro s _; simp [rawDepth]
  · intro js rs h; simp only [rawDepth, jsonNesting]; omega
  · intro ms a fields items values _ hf hi hv
    have h1 := depth_fields hf
    have h2 := depth_opt hi
    have h3 := depth_opt hv
    simp only [rawDepth, jsonNesting]; omega
  · simp [rawDepthList]
  · intro j js r rs h1 h2; simp only [rawDepthList, jsonNestingList]; omega
  · simp [rawDepthFields]
  · intro fm js name t r fs _ ht h1 h2
    have := jsonNesting_attr ht
    simp only [rawDepthFields, jsonNestingList, jsonNesting]; omega

theorem read_depth {fuel j raw} (h : rawOfJson fuel j = .ok raw) :
    rawDepth raw ≤ jsonNesting j + 1 := (read_depth_aux fuel).1 j raw h

end Avro.Impl
