import AvroModel.Lemmas.SliceBase
import AvroModel.Lemmas.DeWalk
import AvroModel.Lemmas.Reader
import AvroModel.Lemmas.SpecLayouts
/-
The read primitives of the deserializer model on the slice back-end, against the limited
specification parsers of Lemmas/SpecLayouts.

On a slice-base state an action of `DeM` is a partial function of the unread bytes: `Exact m f` says
which, and `ReadsAt` (a run that succeeds) and `Inv` (what every successful run satisfies) are its
two readings. A primitive or a leaf is analysed once as an `Exact` equation. Acceptance (induction on
the fuel of the specification decoder, constructing a run) composes `ReadsAt` facts; soundness and
the typed reads (induction on the fuel of the deserializer, inspecting a run) compose `Inv` facts; the
budgets are hypotheses of the first and conclusions of the second, which is why containers have no
`Exact` fact. `Reads m enc a` (Lemmas/SliceBase) is `∀ r, ReadsAt m (enc ++ r) r a`; `Inv2`
(Lemmas/TypedValue) relates two runs from one state; under an `io::Take` the window form `ExactW`
(Lemmas/SliceTake) stands for `Exact`.
-/

namespace Avro.Impl
open Avro Avro.Spec

def ReadsAt {α : Type} (m : DeM α) (bs rest : Bytes) (a : α) : Prop :=
  ∀ s, SlBase s → m (s.mk' bs none) = (.ok a, s.mk' rest none)

/-- every successful run of `m` on the slice (no `Take`), started on `bs`, changes nothing but
    the unread input, to some `rest` that `Q` relates to the result (partial correctness; that
    `rest` is a suffix of `bs` is not part of it) -/
def Inv {α : Type} (m : DeM α) (bs : Bytes) (Q : α → Bytes → Prop) : Prop :=
  ∀ s, SlBase s → ∀ a s', m (s.mk' bs none) = (.ok a, s') → ∃ rest, s' = s.mk' rest none ∧ Q a rest

theorem ReadsAt.pure {α : Type} (a : α) (bs : Bytes) : ReadsAt (pure a : DeM α) bs bs a := by
  intro s _; rfl

theorem ReadsAt.bind {α β : Type} {m : DeM α} {f : α → DeM β} {b1 b2 b3 : Bytes} {a : α} {b : β}
    (h1 : ReadsAt m b1 b2 a) (h2 : ReadsAt (f a) b2 b3 b) : ReadsAt (m >>= f) b1 b3 b := by
  intro s hs
  rw [DeM.bind_apply, h1 s hs]
  exact h2 s hs

theorem ReadsAt.map_pure {α β : Type} {m : DeM α} {b1 b2 : Bytes} {a : α} (g : α → β)
    (h1 : ReadsAt m b1 b2 a) : ReadsAt (m >>= fun x => Pure.pure (g x)) b1 b2 (g a) :=
  ReadsAt.bind h1 (ReadsAt.pure _ _)

theorem ReadsAt.congr {α : Type} {m m' : DeM α} {b1 b2 : Bytes} {a a' : α}
    (h : ReadsAt m b1 b2 a) (hm : m = m') (ha : a = a') : ReadsAt m' b1 b2 a' := by
  subst hm ha; exact h

theorem Inv.pure {α : Type} {a : α} {bs : Bytes} {Q : α → Bytes → Prop} (h : Q a bs) :
    Inv (pure a : DeM α) bs Q := by
  intro s _ a' s' hrun
  obtain ⟨rfl, rfl⟩ := DeM.pure_eq_ok.1 hrun
  exact ⟨bs, rfl, h⟩

theorem Inv.fail {α : Type} (e : DeErr) (bs : Bytes) (Q : α → Bytes → Prop) :
    Inv (DeM.fail e : DeM α) bs Q :=
  fun _ _ _ _ hrun => (DeM.fail_eq_ok.1 hrun).elim

theorem Inv.bind {α β : Type} {m : DeM α} {f : α → DeM β} {bs : Bytes} {Q1 : α → Bytes → Prop}
    {Q2 : β → Bytes → Prop} (h1 : Inv m bs Q1) (h2 : ∀ a r, Q1 a r → Inv (f a) r Q2) :
    Inv (m >>= f) bs Q2 := by
  intro s hs b s' hrun
  obtain ⟨a, s1, hm, hf⟩ := DeM.bind_eq_ok.1 hrun
  obtain ⟨r, rfl, hq⟩ := h1 s hs a s1 hm
  exact h2 a r hq s hs b s' hf

theorem Inv.mono {α : Type} {m : DeM α} {bs : Bytes} {Q Q' : α → Bytes → Prop} (h : Inv m bs Q)
    (hq : ∀ a r, Q a r → Q' a r) : Inv m bs Q' := by
  intro s hs a s' hrun
  obtain ⟨r, hr, hq'⟩ := h s hs a s' hrun
  exact ⟨r, hr, hq _ _ hq'⟩

theorem Inv.run {α : Type} {m : DeM α} {Q : α → Bytes → Prop} {s s' : RState} {a : α}
    (h : Inv m s.rest Q) (hs : s.isSlice = true) (hl : s.limit = none) (ha : s.avail = 0)
    (hrun : m s = (.ok a, s')) : ∃ r, s' = { s with rest := r } ∧ Q a r := by
  obtain ⟨isS, r0, av, sched, lc, ma, scr, lim⟩ := s
  cases hl
  exact h _ ⟨hs, ha⟩ a s' hrun

theorem ReadsAt.run {α : Type} {m : DeM α} {bs rest : Bytes} {a : α} (h : ReadsAt m bs rest a)
    (s : RState) (hs : s.isSlice = true) (hl : s.limit = none) (ha : s.avail = 0)
    (hr : s.rest = bs) : m s = (.ok a, { s with rest := rest }) := by
  obtain ⟨isS, r0, av, sched, lc, ma, scr, lim⟩ := s
  cases hl
  cases hr
  exact h _ ⟨hs, ha⟩

theorem Inv.of_readsAt_or_fail {α : Type} {m : DeM α} {bs : Bytes} {Q : α → Bytes → Prop}
    (h : (∃ a rest, ReadsAt m bs rest a ∧ Q a rest) ∨ (∀ s, SlBase s → ∀ a s', m (s.mk' bs none) ≠ (.ok a, s'))) :
    Inv m bs Q := by
  intro s hs a s' hrun
  rcases h with ⟨a0, rest, hr, hq⟩ | hf
  · rw [hr s hs] at hrun
    simp only [Prod.mk.injEq, Except.ok.injEq] at hrun
    obtain ⟨rfl, rfl⟩ := hrun
    exact ⟨rest, rfl, hq⟩
  · exact absurd hrun (hf s hs a s')

/-! ### The exact semantics of an action -/

def okOf {α : Type} (p : Except DeErr α × RState) : Option (α × RState) :=
  match p with
  | (.ok a, s) => some (a, s)
  | (.error _, _) => none

theorem okOf_eq_some {α : Type} {p : Except DeErr α × RState} {a : α} {s : RState} :
    okOf p = some (a, s) ↔ p = (.ok a, s) := by
  obtain ⟨r, s'⟩ := p
  cases r <;> simp [okOf]

@[simp] theorem okOf_ok {α : Type} (a : α) (s : RState) : okOf (Except.ok a, s) = some (a, s) := rfl
@[simp] theorem okOf_pure {α : Type} (a : α) (s : RState) : okOf ((pure a : DeM α) s) = some (a, s) := rfl
@[simp] theorem okOf_fail {α : Type} (e : DeErr) (s : RState) : okOf ((DeM.fail e : DeM α) s) = none := rfl

theorem okOf_bind {α β : Type} (m : DeM α) (g : α → DeM β) (s : RState) :
    okOf ((m >>= g) s) = (okOf (m s)).bind fun p => okOf (g p.1 p.2) := by
  rw [DeM.bind_apply]
  rcases m s with ⟨_ | a, s'⟩ <;> rfl

/-- On the slice, with no `Take` in place, `m` started on `bs` succeeds exactly when `f bs` is
    defined, with that result and that unread rest, and changes nothing else in the state. The
    equation is closed under `pure`, `fail` and `>>=`, so a primitive is analysed once, by walking
    `m` and `f` in step (`rw [okOf_bind]; simp only [exact_… s hs]`, then a case split on the
    specification's call). -/
def Exact {α : Type} (m : DeM α) (f : Parser α) : Prop :=
  ∀ s, SlBase s → ∀ bs, okOf (m (s.mk' bs none)) = (f bs).map fun p => (p.1, s.mk' p.2 none)

theorem Exact.pure {α : Type} (a : α) : Exact (pure a : DeM α) (fun bs => some (a, bs)) :=
  fun _ _ _ => rfl

theorem Exact.fail {α : Type} (e : DeErr) : Exact (DeM.fail e : DeM α) (fun _ => none) :=
  fun _ _ _ => rfl

theorem Exact.bind {α β : Type} {m : DeM α} {g : α → DeM β} {f : Bytes → Option (α × Bytes)}
    {k : α → Bytes → Option (β × Bytes)} (h1 : Exact m f) (h2 : ∀ a, Exact (g a) (k a)) :
    Exact (m >>= g) (fun bs => (f bs).bind fun p => k p.1 p.2) := by
  intro s hs bs
  rw [okOf_bind, h1 s hs]
  show _ = Option.map _ ((f bs).bind _)
  cases f bs with
  | none => rfl
  | some p => exact h2 p.1 s hs p.2

theorem Exact.congr {α : Type} {m : DeM α} {f f' : Bytes → Option (α × Bytes)} (h : Exact m f)
    (hf : ∀ bs, f bs = f' bs) : Exact m f' := by
  intro s hs bs; rw [← hf]; exact h s hs bs

theorem Exact.map {α β : Type} {m : DeM α} {f : Bytes → Option (α × Bytes)} (h : Exact m f)
    (g : α → β) :
    Exact (m >>= fun a => Pure.pure (g a)) (fun bs => (f bs).map fun p => (g p.1, p.2)) := by
  refine (h.bind fun a => Exact.pure (g a)).congr fun bs => ?_
  cases f bs <;> rfl

theorem Exact.readsAt {α : Type} {m : DeM α} {f : Bytes → Option (α × Bytes)} (h : Exact m f)
    {bs rest : Bytes} {a : α} (hf : f bs = some (a, rest)) : ReadsAt m bs rest a := by
  intro s hs
  have := h s hs bs
  rw [hf] at this
  exact okOf_eq_some.1 this

theorem Exact.inv {α : Type} {m : DeM α} {f : Bytes → Option (α × Bytes)} (h : Exact m f)
    (bs : Bytes) : Inv m bs (fun a rest => f bs = some (a, rest)) := by
  intro s hs a s' hrun
  have := h s hs bs
  rw [okOf_eq_some.2 hrun] at this
  cases hf : f bs with
  | none => rw [hf] at this; cases this
  | some p =>
    rw [hf] at this
    simp only [Option.map_some, Option.some.injEq, Prod.mk.injEq] at this
    exact ⟨p.2, this.2, by rw [this.1]⟩

theorem Exact.readsAt_map {α β : Type} {m : DeM α} {f : Bytes → Option (β × Bytes)} {g : β → α}
    (h : Exact m fun bs => (f bs).map fun p => (g p.1, p.2)) {bs rest : Bytes} {b : β}
    (hf : f bs = some (b, rest)) : ReadsAt m bs rest (g b) :=
  h.readsAt (by simp only [hf, Option.map_some])

theorem Exact.inv_map {α β : Type} {m : DeM α} {f : Bytes → Option (β × Bytes)} {g : β → α}
    (h : Exact m fun bs => (f bs).map fun p => (g p.1, p.2)) (bs : Bytes) :
    Inv m bs (fun a rest => ∃ b, f bs = some (b, rest) ∧ a = g b) := by
  refine (h.inv bs).mono fun a rest hf => ?_
  obtain ⟨p, h1, h2⟩ := Option.map_eq_some_iff.1 hf
  cases h2
  exact ⟨p.1, h1, rfl⟩

/-! ### Varints and lengths -/

theorem exact_readVarint (t : VarTy) :
    Exact (readVarint t) (fun bs => (decodeVar t bs).map fun p => (p.1, bs.drop p.2)) := by
  intro s hs bs
  rw [readVarint_slice (s := s.mk' bs none) hs.isSlice]
  show okOf (match decodeVar t bs with | none => _ | some (v, k) => _) =
    Option.map _ (Option.map _ (decodeVar t bs))
  cases decodeVar t bs <;> rfl

/-- the limited parser of a long with the implementation's limits is `i64::decode_var`: both are
    `decodeNat`, accepted when the value fits 64 bits and the varint ends within ten bytes -/
theorem decodeLongL_impl_eq (bs : Bytes) :
    decodeLongL Limits.impl bs = (decodeVar .i64 bs).map fun p => (p.1, bs.drop p.2) := by
  have hfit : ∀ k, fitsOpt Limits.impl.maxVarint k = true ↔ k ≤ 10 := fun k => by
    simp only [Limits.impl, fitsOpt, decide_eq_true_eq]
  simp only [decodeVar, decodeVarI64, decodeLongL, decodeLong]
  rcases hN : decodeNat bs with _ | ⟨n, rest⟩
  · rcases hU : decodeVarU64 bs with _ | ⟨v, k⟩
    · rfl
    · rw [(decodeVarU64_to_spec bs v k hU).1] at hN; cases hN
  · by_cases hok : n < 2 ^ 64 ∧ bs.length - rest.length ≤ 10
    · have hU := decodeVarU64_of_spec bs n rest hN hok.1 hok.2
      have hr := (decodeVarU64_to_spec bs n _ hU).1
      rw [hN] at hr
      simp only [Option.some.injEq, Prod.mk.injEq, true_and] at hr
      simp only [hU, hok.1, if_true, (hfit _).2 hok.2, Option.map_some, unzigzagBV_toInt n hok.1,
        ← hr]
    · rcases hU : decodeVarU64 bs with _ | ⟨v, k⟩
      · by_cases hn : n < 2 ^ 64
        · simp only [hn, if_true, mt (hfit _).1 (fun h => hok ⟨hn, h⟩), Bool.false_eq_true, if_false,
            Option.map_none]
        · simp only [hn, if_false, Option.map_none]
      · obtain ⟨hd, hv, _, hk, hlen⟩ := decodeVarU64_to_spec bs v k hU
        rw [hN] at hd
        simp only [Option.some.injEq, Prod.mk.injEq] at hd
        obtain ⟨rfl, rfl⟩ := hd
        exact absurd ⟨hv, by rw [List.length_drop]; omega⟩ hok

theorem decodeLenL_impl_eq (bs : Bytes) : decodeLenL Limits.impl bs =
    (decodeVar .i64 bs).bind fun p => if p.1 < 0 then none else some (p.1.toNat, bs.drop p.2) := by
  unfold decodeLenL
  rw [decodeLongL_impl_eq]
  rcases decodeVar .i64 bs with _ | ⟨i, k⟩
  · rfl
  · by_cases h : i < 0
    · simp only [Option.map_some, Option.bind_some, h, if_true, show ¬ (0 ≤ i) by omega, if_false]
    · simp only [Option.map_some, Option.bind_some, h, if_false, show 0 ≤ i by omega, if_true]

theorem exact_varint_i64 : Exact (readVarint .i64) (decodeLongL Limits.impl) :=
  (exact_readVarint .i64).congr fun bs => (decodeLongL_impl_eq bs).symm

theorem exact_varint_i32 : Exact (readVarint .i32)
    (fun bs => (decodeLongL Limits.impl bs).bind fun p => if InI32 p.1 then some p else none) := by
  refine (exact_readVarint .i32).congr fun bs => ?_
  rw [decodeLongL_impl_eq]
  simp only [decodeVar, decodeVarI32]
  rcases decodeVarI64 bs with _ | ⟨i, k⟩
  · rfl
  · by_cases h : InI32 i
    · have h' : -2147483648 ≤ i ∧ i ≤ 2147483647 := h
      simp only [Option.map_some, Option.bind_some, if_pos h, if_pos h']
    · have h' : ¬ (-2147483648 ≤ i ∧ i ≤ 2147483647) := h
      simp only [Option.map_some, Option.bind_some, if_neg h, if_neg h', Option.map_none]

/-- `u64::decode_var` on the bytes of a long: the zigzag code of that long -/
theorem exact_varint_u64 : Exact (readVarint .u64)
    (fun bs => (decodeLongL Limits.impl bs).map fun p => ((zigzag p.1 : Int), p.2)) := by
  refine (exact_readVarint .u64).congr fun bs => ?_
  rw [decodeLongL_impl_eq]
  simp only [decodeVar, decodeVarI64]
  rcases h : decodeVarU64 bs with _ | ⟨n, k⟩
  · rfl
  · have hlt := (decodeVarU64_to_spec bs n k h).2.1
    simp only [Option.map_some, unzigzagBV_toInt n hlt, zigzag_unzigzag]

/-- `u32::decode_var` on the bytes of a long: the zigzag code, when the long is an `int` -/
theorem exact_varint_u32 : Exact (readVarint .u32) (fun bs => (decodeLongL Limits.impl bs).bind fun p =>
    if InI32 p.1 then some ((zigzag p.1 : Int), p.2) else none) := by
  refine (exact_readVarint .u32).congr fun bs => ?_
  rw [decodeLongL_impl_eq]
  simp only [decodeVar, decodeVarI64, decodeVarU32]
  rcases h : decodeVarU64 bs with _ | ⟨n, k⟩
  · rfl
  · have hlt := (decodeVarU64_to_spec bs n k h).2.1
    have hiff : n < 2 ^ 32 ↔ InI32 (unzigzag n) := by
      by_cases hp : n % 2 = 0 <;> simp only [InI32, unzigzag, hp, if_true, if_false] <;> omega
    by_cases hn : n < 2 ^ 32
    · simp only [hn, if_true, Option.map_some, Option.bind_some, unzigzagBV_toInt n hlt, hiff.1 hn,
        zigzag_unzigzag]
    · simp only [hn, if_false, Option.map_none, Option.map_some, Option.bind_some,
        unzigzagBV_toInt n hlt, mt hiff.2 hn]

theorem readsAt_varint_i64 {bs rest : Bytes} {i : Int}
    (h : decodeLongL Limits.impl bs = some (i, rest)) : ReadsAt (readVarint .i64) bs rest i :=
  exact_varint_i64.readsAt h

theorem inv_varint_i64 (bs : Bytes) :
    Inv (readVarint .i64) bs (fun i rest => decodeLongL Limits.impl bs = some (i, rest)) :=
  exact_varint_i64.inv bs

theorem inv_varint_i32 (bs : Bytes) :
    Inv (readVarint .i32) bs (fun i rest => decodeLongL Limits.impl bs = some (i, rest) ∧ InI32 i) := by
  refine (exact_varint_i32.inv bs).mono fun i rest h => ?_
  obtain ⟨p, h1, h2⟩ := Option.bind_eq_some_iff.1 h
  split at h2
  · cases h2; exact ⟨h1, ‹_›⟩
  · cases h2

theorem readsAt_varint_u64 {bs rest : Bytes} {i : Int}
    (h : decodeLongL Limits.impl bs = some (i, rest)) :
    ReadsAt (readVarint .u64) bs rest (zigzag i : Int) :=
  exact_varint_u64.readsAt_map (g := fun i => (zigzag i : Int)) h

theorem inv_varint_u64 (bs : Bytes) :
    Inv (readVarint .u64) bs (fun _ rest => ∃ i, decodeLongL Limits.impl bs = some (i, rest)) :=
  (exact_varint_u64.inv_map (g := fun i => (zigzag i : Int)) bs).mono fun _ _ ⟨i, h, _⟩ => ⟨i, h⟩

theorem readsAt_varint_u32 {bs rest : Bytes} {i : Int}
    (h : decodeLongL Limits.impl bs = some (i, rest)) (h32 : InI32 i) :
    ReadsAt (readVarint .u32) bs rest (zigzag i : Int) :=
  exact_varint_u32.readsAt (by simp only [h, Option.bind_some, h32, if_true])

theorem inv_varint_u32 (bs : Bytes) :
    Inv (readVarint .u32) bs (fun _ rest => ∃ i, decodeLongL Limits.impl bs = some (i, rest)) := by
  refine (exact_varint_u32.inv bs).mono fun _ rest h => ?_
  obtain ⟨p, h1, h2⟩ := Option.bind_eq_some_iff.1 h
  split at h2
  · cases h2; exact ⟨p.1, h1⟩
  · cases h2

theorem exact_readLen : Exact readLen (decodeLenL Limits.impl) := by
  intro s hs bs
  rw [readLen, okOf_bind, exact_varint_i64 s hs]
  unfold decodeLenL
  rcases decodeLongL Limits.impl bs with _ | ⟨i, r⟩
  · rfl
  · by_cases h : i < 0
    · simp only [Option.map_some, Option.bind_some, h, if_true, show ¬ (0 ≤ i) by omega, if_false]; rfl
    · simp only [Option.map_some, Option.bind_some, h, if_false, show 0 ≤ i by omega, if_true]; rfl

theorem readsAt_readLen {bs rest : Bytes} {n : Nat}
    (h : decodeLenL Limits.impl bs = some (n, rest)) : ReadsAt readLen bs rest n :=
  exact_readLen.readsAt h

theorem inv_readLen (bs : Bytes) :
    Inv readLen bs (fun n rest => decodeLenL Limits.impl bs = some (n, rest)) :=
  exact_readLen.inv bs

theorem inv_decDepth (depth : Nat) (bs : Bytes) :
    Inv (decDepth depth) bs (fun d r => r = bs ∧ depth = d + 1) := by
  cases depth with
  | zero => exact Inv.fail _ _ _
  | succ d => exact Inv.pure ⟨rfl, rfl⟩

theorem inv_decDepth_rest (depth : Nat) (bs : Bytes) :
    Inv (decDepth depth) bs (fun _ r => r = bs) :=
  (inv_decDepth depth bs).mono fun _ _ h => h.1

/-! ### Slices, bytes, strings -/

theorem exact_readSlice (n : Nat) :
    Exact (readSlice n) (fun bs => (takeN n bs).map fun p => ((p.1, true), p.2)) := by
  intro s hs bs
  obtain ⟨isS, rest, av, sched, lc, ma, scr, lim⟩ := s
  obtain ⟨h1, h2⟩ := hs
  simp only at h1 h2
  subst h1 h2
  by_cases hn : n ≤ bs.length
  · simp [readSlice, RState.mk', takeN, hn, show ¬ (n > bs.length) by omega, okOf]
  · simp [readSlice, RState.mk', takeN, hn, show n > bs.length by omega, okOf]

theorem readsAt_readSlice {n : Nat} {bs b rest : Bytes} (h : takeN n bs = some (b, rest)) :
    ReadsAt (readSlice n) bs rest (b, true) :=
  (exact_readSlice n).readsAt_map (g := fun b => (b, true)) h

theorem inv_readSlice (n : Nat) (bs : Bytes) :
    Inv (readSlice n) bs (fun p rest => takeN n bs = some (p.1, rest) ∧ p.2 = true) :=
  ((exact_readSlice n).inv_map (g := fun b => (b, true)) bs).mono
    fun _ _ ⟨_, h, hp⟩ => by rw [hp]; exact ⟨h, rfl⟩

theorem SlBase.wf {s : RState} (hs : SlBase s) (bs : Bytes) (l : Option Nat) : (s.mk' bs l).WF := by
  intro h
  have := hs.isSlice
  simp only [RState.mk'_isSlice] at h
  rw [this] at h; cases h

/-- `read_exact` on the slice, under a `Take` or not: all or nothing -/
theorem okOf_readExact (s : RState) (hs : SlBase s) (n : Nat) (bs : Bytes) (l : Option Nat) :
    okOf (readExact n (s.mk' bs l)) =
      if n ≤ (s.mk' bs l).eff then some (bs.take n, s.mk' (bs.drop n) (l.map (· - n))) else none := by
  by_cases hn : n ≤ (s.mk' bs l).eff
  · rw [if_pos hn]
    have hlen : n ≤ bs.length ∧ ∀ x, l = some x → n ≤ x := by
      unfold RState.eff at hn
      simp only [RState.mk'_limit, RState.mk'_rest] at hn
      cases l with
      | none => exact ⟨hn, fun x hx => by cases hx⟩
      | some x =>
        simp only at hn
        exact ⟨by omega, fun y hy => by cases hy; omega⟩
    have hl : (bs.take n).length = n := by rw [List.length_take]; omega
    have := readExact_slice s hs (bs.take n) (bs.drop n) l (by rw [hl]; exact hlen.2)
    rw [List.take_append_drop, hl] at this
    rw [this]; rfl
  · rw [if_neg hn]
    obtain ⟨s', he⟩ := (readExact_spec n (s.mk' bs l) (hs.wf bs l)).2 (by omega)
    rw [he]; rfl

theorem exact_readExact (n : Nat) : Exact (readExact n) (takeN n) := by
  intro s hs bs
  rw [okOf_readExact s hs]
  simp only [RState.eff, RState.mk'_limit, RState.mk'_rest, takeN]
  by_cases h : n ≤ bs.length <;> simp only [h, if_true, if_false, Option.map_some, Option.map_none]

theorem readsAt_readExact {n : Nat} {bs b rest : Bytes} (h : takeN n bs = some (b, rest)) :
    ReadsAt (readExact n) bs rest b :=
  (exact_readExact n).readsAt h

theorem inv_readExact (n : Nat) (bs : Bytes) :
    Inv (readExact n) bs (fun b rest => takeN n bs = some (b, rest)) :=
  (exact_readExact n).inv bs

theorem exact_readBytes : Exact readBytes
    (fun bs => (decodeBytesL Limits.impl bs).map fun p => (.bytes p.1 true, p.2)) := by
  intro s hs bs
  rw [readBytes, okOf_bind, exact_readLen s hs]
  show _ = Option.map _ (Option.map _ (decodeBytesL Limits.impl bs))
  unfold decodeBytesL
  rcases decodeLenL Limits.impl bs with _ | ⟨n, r⟩
  · rfl
  · simp only [Option.map_some, Option.bind_some, okOf_bind, exact_readSlice n s hs]
    rcases takeN n r with _ | ⟨b, r'⟩ <;> rfl

theorem exact_readString : Exact readString
    (fun bs => (decodeStringL Limits.impl bs).map fun p => (.str p.1 true, p.2)) := by
  intro s hs bs
  rw [readString, okOf_bind, exact_readLen s hs]
  show _ = Option.map _ (Option.map _ (decodeStringL Limits.impl bs))
  unfold decodeStringL decodeBytesL
  rcases decodeLenL Limits.impl bs with _ | ⟨n, r⟩
  · rfl
  · simp only [Option.map_some, Option.bind_some, okOf_bind, exact_readSlice n s hs]
    rcases takeN n r with _ | ⟨b, r'⟩
    · rfl
    · simp only [Option.map_some, Option.bind_some, bytesToStr?]
      generalize String.fromUTF8? _ = o
      cases o <;> rfl

theorem inv_readString (bs : Bytes) :
    Inv readString bs (fun o rest => ∃ str, decodeStringL Limits.impl bs = some (str, rest) ∧
      o = .str str true) :=
  exact_readString.inv_map bs

theorem exact_readBool : Exact readBool (fun bs => match bs with
    | b :: rest => if b = 0 then some (.bool false, rest) else if b = 1 then some (.bool true, rest) else none
    | [] => none) := by
  intro s hs bs
  rw [readBool, okOf_bind]
  simp only [exact_readSlice 1 s hs, takeN]
  rcases bs with _ | ⟨b, r⟩
  · rfl
  · simp only [List.length_cons, Nat.le_add_left, if_true, Option.map_some, Option.bind_some,
      List.take_succ_cons, List.take_zero, List.drop_succ_cons, List.drop_zero]
    by_cases h0 : b = 0
    · subst h0; rfl
    · by_cases h1 : b = 1
      · subst h1; rfl
      · simp only [h0, h1, if_false]
        simp [h0, h1]

/-! ### Block headers -/

theorem exact_readBlockLen (k : Nat) : Exact (readBlockLen false (k + 1))
    (fun bs => (decodeBlockHeaderL Limits.impl bs).map fun p =>
      (if p.1 = 0 then none else some p.1, p.2)) := by
  intro s hs bs
  rw [readBlockLen, okOf_bind, exact_varint_i64 s hs]
  show _ = Option.map _ (Option.map _ (decodeBlockHeaderL Limits.impl bs))
  unfold decodeBlockHeaderL
  rcases decodeLongL Limits.impl bs with _ | ⟨c, r⟩
  · rfl
  · simp only [Option.map_some, Option.bind_some]
    by_cases hc : c < 0
    · simp only [hc, if_true, show ¬ (c ≥ 0) by omega, if_false, Bool.false_eq_true]
      rw [okOf_bind, exact_varint_i64 s hs]
      rcases decodeLongL Limits.impl r with _ | ⟨sz, r'⟩
      · rfl
      · by_cases hsz : sz < 0
        · have e : ¬ (sz ≥ 0 ∨ Limits.impl.checkBlockSize = false) := by
            simp only [Limits.impl, reduceCtorEq, or_false]; omega
          simp only [Option.map_some, Option.bind_some, hsz, if_true, okOf_fail, e, if_false,
            Option.map_none]
        · simp only [Option.map_some, Option.bind_some, hsz, if_false, okOf_pure,
            show sz ≥ 0 ∨ Limits.impl.checkBlockSize = false from Or.inl (by omega), if_true]
    · have : (c = 0) ↔ (c.toNat = 0) := by omega
      simp only [hc, if_false, okOf_pure, show c ≥ 0 by omega, if_true, Option.map_some, this]

theorem exact_readBlockLenAuto : Exact (readBlockLenAuto false)
    (fun bs => (decodeBlockHeaderL Limits.impl bs).map fun p =>
      (if p.1 = 0 then none else some p.1, p.2)) :=
  fun s hs bs => exact_readBlockLen ((s.mk' bs none).rest.length + 1) s hs bs

theorem exact_hasMoreTail (cfg : DeConfig) (nr : Nat) (o : Option Nat) :
    Exact (hasMoreTail cfg ⟨0, nr⟩ o) (fun bs => match o with
      | none => some ((false, ⟨0, nr⟩), bs)
      | some l => if nr + l > cfg.maxSeqSize then none else some ((true, ⟨l - 1, nr + l⟩), bs)) := by
  cases o with
  | none => exact Exact.pure _
  | some l =>
    dsimp only [hasMoreTail]
    split
    · exact Exact.fail _
    · exact Exact.pure _

theorem exact_hasMore_zero (cfg : DeConfig) (nr : Nat) : Exact (hasMore cfg false ⟨0, nr⟩) (fun bs =>
    (decodeBlockHeaderL Limits.impl bs).bind fun p =>
      if p.1 = 0 then some ((false, ⟨0, nr⟩), p.2)
      else if nr + p.1 > cfg.maxSeqSize then none else some ((true, ⟨p.1 - 1, nr + p.1⟩), p.2)) := by
  rw [hasMore_zero rfl]
  refine (exact_readBlockLenAuto.bind (exact_hasMoreTail cfg nr)).congr fun bs => ?_
  rcases decodeBlockHeaderL Limits.impl bs with _ | ⟨c, r⟩
  · rfl
  · by_cases hc : c = 0 <;> simp [hc]

theorem readsAt_hasMore_succ (cfg : DeConfig) (ign : Bool) (c nr : Nat) (bs : Bytes) :
    ReadsAt (hasMore cfg ign ⟨c + 1, nr⟩) bs bs (true, ⟨c, nr⟩) := by
  intro s hs; rfl

theorem readsAt_hasMore_end (cfg : DeConfig) (nr : Nat) {bs rest : Bytes}
    (h : decodeBlockHeaderL Limits.impl bs = some (0, rest)) :
    ReadsAt (hasMore cfg false ⟨0, nr⟩) bs rest (false, ⟨0, nr⟩) :=
  (exact_hasMore_zero cfg nr).readsAt (by simp only [h, Option.bind_some, if_true])

theorem readsAt_hasMore_count (cfg : DeConfig) (nr : Nat) {bs rest : Bytes} {c : Nat}
    (h : decodeBlockHeaderL Limits.impl bs = some (c, rest)) (hc : 0 < c)
    (hmax : nr + c ≤ cfg.maxSeqSize) :
    ReadsAt (hasMore cfg false ⟨0, nr⟩) bs rest (true, ⟨c - 1, nr + c⟩) :=
  (exact_hasMore_zero cfg nr).readsAt (by
    simp only [h, Option.bind_some, show ¬ c = 0 by omega, show ¬ nr + c > cfg.maxSeqSize by omega,
      if_false])

theorem inv_hasMore_succ (cfg : DeConfig) (ign : Bool) (c nr : Nat) (bs : Bytes) :
    Inv (hasMore cfg ign ⟨c + 1, nr⟩) bs (fun p rest => rest = bs ∧ p = (true, ⟨c, nr⟩)) := by
  intro s hs p s' hrun
  simp only [hasMore, Prod.mk.injEq, Except.ok.injEq] at hrun
  obtain ⟨rfl, rfl⟩ := hrun
  exact ⟨bs, rfl, rfl, rfl⟩

theorem inv_hasMore_zero (cfg : DeConfig) (nr : Nat) (bs : Bytes) :
    Inv (hasMore cfg false ⟨0, nr⟩) bs (fun p rest => ∃ c,
      decodeBlockHeaderL Limits.impl bs = some (c, rest) ∧
      ((c = 0 ∧ p = (false, ⟨0, nr⟩)) ∨
       (0 < c ∧ nr + c ≤ cfg.maxSeqSize ∧ p = (true, ⟨c - 1, nr + c⟩)))) := by
  refine ((exact_hasMore_zero cfg nr).inv bs).mono fun p rest h => ?_
  obtain ⟨⟨c, r⟩, hh, h⟩ := Option.bind_eq_some_iff.1 h
  refine ⟨c, ?_⟩
  by_cases hc : c = 0
  · simp only [hc, if_true, Option.some.injEq, Prod.mk.injEq] at h
    obtain ⟨rfl, rfl⟩ := h
    exact ⟨hc ▸ hh, Or.inl ⟨hc, rfl⟩⟩
  · simp only [hc, if_false] at h
    split at h
    · cases h
    · simp only [Option.some.injEq, Prod.mk.injEq] at h
      obtain ⟨rfl, rfl⟩ := h
      exact ⟨hh, Or.inr ⟨by omega, by omega, rfl⟩⟩

theorem fits16 {k : Nat} : fitsOpt Limits.impl.maxDecimal k = true ↔ k ≤ 16 := by
  simp only [Limits.impl, fitsOpt, decide_eq_true_eq]

end Avro.Impl
