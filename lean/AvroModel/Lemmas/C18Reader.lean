import AvroModel.Impl.Single
import AvroModel.Lemmas.ReaderTransfer
import AvroModel.Lemmas.DeStep
/-
Helpers for `Theorems/C18reader.lean`: the header `read_exact` of `from_single_object_reader` on
the streaming back-end, for ANY refill schedule, and C11 carried through it
(`fromSingleObject_rel`).
-/
namespace Avro.Theorems
open Avro Avro.Impl

universe u

/-- What `Adv` (Lemmas/Reader.lean) is silent on: `read_exact` leaves `scratch` and `lastChunk`
    alone, and the refill schedule only advances. -/
structure Frame (s s' : RState) : Prop where
  scratch : s'.scratch = s.scratch
  lastChunk : s'.lastChunk = s.lastChunk
  sched : s'.sched <:+ s.sched

theorem Frame.refl (s : RState) : Frame s s := ⟨rfl, rfl, List.suffix_refl _⟩

theorem Frame.trans {s s' s'' : RState} (h1 : Frame s s') (h2 : Frame s' s'') : Frame s s'' :=
  ⟨h2.scratch.trans h1.scratch, h2.lastChunk.trans h1.lastChunk, h2.sched.trans h1.sched⟩

theorem fillBuf_frame (s : RState) : Frame s (fillBuf s).2 := by
  obtain ⟨n, a, sc, h, e⟩ := fillBuf_eq s
  rw [e]
  exact ⟨rfl, rfl, h⟩

/-- Only for the read primitives that do not allocate: `readSlice` grows `scratch`. -/
theorem Frame.rel : StepRel fun s _ s' => Frame s s' where
  err s _ _ := Frame.refl s
  trans := Frame.trans
  post := Frame.trans
  forget h := h
  fill := fillBuf_frame
  advance _ _ _ := ⟨rfl, rfl, List.suffix_refl _⟩
  limit _ _ := ⟨rfl, rfl, List.suffix_refl _⟩

theorem readExact_spec_frame (k : Nat) (s : RState) (h : s.WF) :
    (k ≤ s.eff → ∃ s', readExact k s = (.ok (s.rest.take k), s') ∧ Adv k s s' ∧ Frame s s') ∧
    (s.eff < k → ∃ s', readExact k s = (.error .io, s') ∧ Frame s s') := by
  have hsp := readExact_spec k s h
  have hfr : Frame s (readExact k s).2 := Keeps.readExact Frame.rel k s
  constructor
  · intro hk
    obtain ⟨s', e, a⟩ := hsp.1 hk
    rw [e] at hfr
    exact ⟨s', e, a, hfr⟩
  · intro hk
    obtain ⟨s', he⟩ := hsp.2 hk
    rw [he] at hfr
    exact ⟨s', he, hfr⟩

/-- The order of the quantifiers is the point: ONE state `r'`, which depends on the refill schedule
    only, serves every `fp` and `datum`. -/
theorem fromSingleObject_reader_spec (r : RState) (hs : r.isSlice = false)
    (hw : r.avail ≤ r.rest.length) :
    (r.eff < 10 → ∃ r', Frame r r' ∧ ∀ (α : Type u) (fp : Bytes)
        (datum : RState → Except DeErr α × RState),
        fromSingleObject fp datum r = (.error .io, r')) ∧
    (10 ≤ r.eff → ∃ r', Adv 10 r r' ∧ Frame r r' ∧ ∀ (α : Type u) (fp : Bytes)
        (datum : RState → Except DeErr α × RState),
        fromSingleObject fp datum r =
          if checkHeader fp (r.rest.take 10) then datum r' else (.error .custom, r')) := by
  have hsp := readExact_spec_frame 10 r (fun _ => hw)
  constructor
  · intro hk
    obtain ⟨r', e, hf⟩ := hsp.2 hk
    refine ⟨r', hf, fun α fp datum => ?_⟩
    unfold fromSingleObject
    simp [hs, e]
  · intro hk
    obtain ⟨r', e, a, hf⟩ := hsp.1 hk
    refine ⟨r', a, hf, fun α fp datum => ?_⟩
    unfold fromSingleObject
    cases hc : checkHeader fp (r.rest.take 10) <;> simp [hs, e, hc]

theorem fromSingleObject_rel {α β : Type} {R : α → β → Prop} {q : Bool} (fp : Bytes)
    {m : DeM α} {m' : DeM β} (h : RelD true q R m m') :
    RelD true q R (fromSingleObject fp m) (fromSingleObject fp m') := by
  intro r sl hsim
  have hlim : r.limit = none := hsim.nolimit rfl
  have heff : r.eff = r.rest.length := eff_of_limit_none hlim
  have hsp := fromSingleObject_reader_spec r hsim.sim.reader hsim.sim.avail
  have hrest : sl.rest = r.rest := hsim.sim.rest.symm
  by_cases hk : 10 ≤ r.rest.length
  · obtain ⟨r', a, _, e⟩ := hsp.2 (by omega)
    rw [e α fp m]
    have hsl : fromSingleObject fp m' sl =
        if checkHeader fp (r.rest.take 10) then m' { sl with rest := sl.rest.drop 10 }
        else (.error .custom, sl) := by
      unfold fromSingleObject
      have : ¬ r.rest.length < 10 := by omega
      cases hc : checkHeader fp (r.rest.take 10) <;> simp [hsim.sim.slice, this, hrest, hc]
    rw [hsl]
    cases hc : checkHeader fp (r.rest.take 10)
    · simp only [Bool.false_eq_true, if_false]; trivial
    · simp only [if_true]
      apply h
      exact hsim.adv a ⟨rfl, rfl, by rw [← hsim.sim.limit, hlim]; rfl, rfl,
        fun h' => by rw [hsim.sim.slice] at h'; cases h'⟩
  · obtain ⟨r', _, e⟩ := hsp.1 (by omega)
    rw [e α fp m]
    have hsl : fromSingleObject fp m' sl = (.error .custom, sl) := by
      unfold fromSingleObject
      have : r.rest.length < 10 := by omega
      simp [hsim.sim.slice, hrest, this]
    rw [hsl]
    trivial

end Avro.Theorems
