import AvroModel.Lemmas.RecordOrder
/-
The record as a whole, used by C13 and by the record arm of `ser_repr`
(`Lemmas/SerReprStruct.lean`).  The general theorem is `ser_record_ok_iff` with `ser_record_bytes`: on
a good state, with distinct field names, a struct presentation of a record goes through exactly
when it is `Presentable` (distinct names of fields, each value serializing on its own, every field
not named nullable: those are filled in by `end`), and then it appends the fields' bytes in schema
order (`recBytes`).  `ser_record_partial` is the case of a presentation given by the indices of its
fields (`presOf`).  Also here: the three rejections (unknown field, duplicate field, missing
non-nullable field), which hold on every state.
-/
namespace Avro.Theorems
open Avro Avro.Impl

/-! ### Nullable fields and what `end` writes for them -/

/-- A node that accepts `serialize_none`: `null`, or a union with a (selectable) null branch. -/
def nullableNode (S : Schema) : Node → Bool
  | .null => true
  | .union vs => (unnamedLookup .null (branchNodes S vs)).isSome
  | _ => false

/-- The field whose schema key is `k` may be omitted. -/
def fieldNullable (S : Schema) (k : Nat) : Bool :=
  match S[k]? with
  | some n => nullableNode S n
  | none => false

/-- The encoding of null at a node: nothing for `null`, the discriminant of the null branch for a
    union. -/
def nullEncNode (S : Schema) : Node → Bytes
  | .union vs =>
    match unnamedLookup .null (branchNodes S vs) with
    | some d => encodeVarI64 d
    | none => []
  | _ => []

def nullEnc (S : Schema) (k : Nat) : Bytes :=
  match S[k]? with
  | some n => nullEncNode S n
  | none => []

theorem serUnit_nullable {S : Schema} {node : Node} (hn : nullableNode S node = true)
    (s : SerState) (hb : s.budget = none) :
    serUnit S node s = (.ok (), { s with out := s.out ++ nullEncNode S node }) := by
  unfold serUnit
  cases node <;> first | cases hn | skip
  · simp [nullEncNode, pure]
  · rename_i vs
    cases hl : unnamedLookup .null (branchNodes S vs) with
    | none => simp only [nullableNode, hl] at hn; cases hn
    | some d =>
      simp only [nullEncNode, hl]
      exact writeAll_none _ _ hb

theorem recordFill_nullable {S : Schema} {f : String × Nat} (hn : fieldNullable S f.2 = true)
    (s : SerState) (hb : s.budget = none) :
    recordFill S f s = (.ok (), { s with out := s.out ++ nullEnc S f.2 }) := by
  unfold fieldNullable at hn
  rw [recordFill_eq]
  unfold nullEnc nodeAt
  cases hk : S[f.2]? with
  | none => rw [hk] at hn; cases hn
  | some node => rw [hk] at hn; exact serUnit_nullable hn s hb

theorem serUnit_ok_nullable {S : Schema} {node : Node} {s : SerState}
    (h : (serUnit S node s).1 = .ok ()) : nullableNode S node = true := by
  unfold serUnit at h
  cases node <;> first | rfl | cases h | skip
  rename_i vs
  dsimp only at h
  cases hl : unnamedLookup .null (branchNodes S vs) with
  | none => rw [hl] at h; cases h
  | some d => simp only [nullableNode, hl, Option.isSome_some]

theorem recordFill_ok_nullable {S : Schema} {f : String × Nat} {s : SerState}
    (h : (recordFill S f s).1 = .ok ()) : fieldNullable S f.2 = true := by
  rw [recordFill_eq] at h
  unfold nodeAt at h
  unfold fieldNullable
  cases hk : S[f.2]? with
  | none => rw [hk] at h; cases h
  | some node => rw [hk] at h; exact serUnit_ok_nullable h

/-! ### `end` on a partial presentation -/

theorem recordEnd_fill (S : Schema) (fields : List (String × Nat)) (enc : Nat → Bytes)
    (base : Bytes) : ∀ (fuel : Nat) (rs : RecordState) (s : SerState), s.budget = none →
      fields.length ≤ fuel + rs.current → RecInv fields enc base rs s →
      (∀ i f, fields[i]? = some f → ¬ RecDone rs i →
        fieldNullable S f.2 = true ∧ enc i = nullEnc S f.2) →
      ∃ rs' s', recordEnd S fields fuel rs s = (.ok rs', s') ∧ s'.budget = none ∧
        RecInv fields enc base rs' s' ∧ rs'.current = fields.length := by
  intro fuel
  induction fuel with
  | zero =>
    intro rs s hb hfuel hinv _
    exact ⟨rs, s, rfl, hb, hinv, by have := hinv.2.2; omega⟩
  | succ fuel ih =>
    intro rs s hb hfuel hinv hnull
    rw [recordEnd_succ]
    rcases Nat.lt_or_ge rs.current fields.length with hlt | hge
    · rw [List.getElem?_eq_getElem hlt]
      dsimp only
      obtain ⟨hn, he⟩ := hnull rs.current fields[rs.current] (List.getElem?_eq_getElem hlt)
        hinv.not_done
      rw [recordFill_nullable hn s hb]
      dsimp only
      obtain ⟨rs2, s2, g1, g2, g3, g4⟩ := flushBuffered_next
        (s' := { s with out := s.out ++ nullEnc S fields[rs.current].2 }) hinv hlt
        (by simp only [he]) hb
      rw [g1]
      dsimp only
      exact ih rs2 s2 g2 (by omega) g3 fun i f hf hnd => hnull i f hf fun h => hnd <|
        (flushBuffered_done (congrArg Prod.fst g1) i).mpr <| h.imp (fun h => by simp only; omega) id
    · rw [List.getElem?_eq_none hge]
      exact ⟨rs, s, rfl, hb, hinv, by have := hinv.2.2; omega⟩

theorem structFinish_record_fill (S : Schema) (fields : List (String × Nat)) (enc : Nat → Bytes)
    (base : Bytes) (rs : RecordState) (s : SerState) (hb : s.budget = none)
    (hc : PoolClean s.pool) (hinv : RecInv fields enc base rs s)
    (hnull : ∀ i f, fields[i]? = some f → ¬ RecDone rs i →
      fieldNullable S f.2 = true ∧ enc i = nullEnc S f.2) :
    ∃ s', structFinish S (.record fields rs) s = (.ok (), s') ∧
      s'.out = base ++ (List.range fields.length).flatMap enc ∧ s'.budget = none ∧
      PoolClean s'.pool := by
  obtain ⟨rs', s1, e1, b1, hinv1, hcur⟩ := recordEnd_fill S fields enc base (fields.length + 1) rs s
    hb (by omega) hinv hnull
  have hc1 : PoolClean s1.pool := by
    have := (recordEnd_sim (S := S) (P := False) (fields := fields) nofun nofun
      (fields.length + 1) rs rs ⟨rfl, rfl⟩).clean hc
    rwa [e1] at this
  obtain ⟨_, s', e2, _, o2, b2, c2⟩ := structDrop_op
    (.record fields { rs' with buffers := { rs'.buffers with slots := [] } }) s1 hc1
  refine ⟨s', ?_, by rw [o2, hinv1.1, hcur], by rw [b2, b1], c2⟩
  unfold structFinish structEnd
  dsimp only
  rw [e1]
  dsimp only
  rw [if_neg (by omega)]
  dsimp only
  unfold SerM.finally
  simp only [pure]
  rw [e2]

theorem recDone_init {sb : SuperBuffer} (h : sb.slots = []) (i : Nat) :
    ¬ RecDone { current := 0, buffers := sb } i := by
  intro hd
  rcases hd with hd | ⟨b, hb⟩
  · simp at hd
  · simp [h] at hb


/-! ### Rejections (on every state) -/

/-- Occupied slots are strictly after the field waited for: the part of `RecInv` that holds on
    every state (failing sinks, dirty pools). -/
def SlotInv (rs : RecordState) : Prop :=
  ∀ i b, rs.buffers.slots[i]? = some (some b) → rs.current < i

theorem RecInv.slotInv {fields enc base rs s} (h : RecInv fields enc base rs s) : SlotInv rs :=
  fun i b hb => (h.2.1 i b hb).1

theorem flushBuffered_slotInv : ∀ (fuel : Nat) (rs : RecordState) (s : SerState)
    (rs' : RecordState), rs.buffers.slots.length ≤ fuel + rs.current →
    (∀ i b, rs.buffers.slots[i]? = some (some b) → rs.current ≤ i) →
    (flushBuffered fuel rs s).1 = .ok rs' → SlotInv rs' := by
  intro fuel
  induction fuel with
  | zero =>
    intro rs s rs' hfuel hw h i b hib
    cases h
    have := hw i b hib
    have hlt : i < rs.buffers.slots.length := (List.getElem?_eq_some_iff.mp hib).1
    omega
  | succ fuel ih =>
    intro rs s rs' hfuel hw h
    unfold flushBuffered at h
    split at h
    · dsimp only at h
      split at h
      · cases h
      · refine ih _ _ _ (by simp; omega) ?_ h
        intro i b hib
        simp only [List.getElem?_set] at hib
        split at hib
        · split at hib <;> cases hib
        · have := hw i b hib
          simp only; omega
    · rename_i hnot
      cases h
      intro i b hib
      have := hw i b hib
      rcases Nat.lt_or_ge rs.current i with h | h
      · exact h
      · have : i = rs.current := by omega
        subst this
        exact (hnot b hib).elim

theorem recordValue_slotInv {S : Schema} {fields : List (String × Nat)} {rs : RecordState}
    {idx : Nat} {serv : Node → SerM Unit} {s : SerState} {rs' : RecordState} {s' : SerState}
    (hinv : SlotInv rs) (hidx : rs.current ≤ idx)
    (hok : recordValue S fields rs idx serv s = (.ok rs', s')) : SlotInv rs' := by
  obtain ⟨_, _, _, _, ⟨rfl, s1, _, hfl⟩ | ⟨hcur, _, buf, s1, b, _, _, rfl⟩⟩ := recordValue_ok_inv hok
  · exact flushBuffered_slotInv _ _ _ rs' (by simp only; omega)
      (fun i b hib => by have := hinv i b hib; simp only; omega) (congrArg Prod.fst hfl)
  · intro i b' hib
    by_cases hi : i = idx
    · subst hi; simp only; omega
    · rw [List.getElem?_set_ne (Ne.symm hi)] at hib
      exact hinv i b' ((resizedSlots_some _ _ _ _).mp hib)

theorem fieldIdx_done {fields : List (String × Nat)} (hnd : (fields.map (·.1)).Nodup)
    {rs : RecordState} (hinv : SlotInv rs) {i : Nat} {f : String × Nat}
    (hf : fields[i]? = some f) (hd : RecDone rs i) :
    (i < rs.current ∧ fieldIdx fields rs f.1 = .error .custom) ∨
      (fieldIdx fields rs f.1 = .ok i ∧ rs.current < i ∧
        ∃ b, rs.buffers.slots[i]? = some (some b)) := by
  rcases Nat.lt_or_ge i rs.current with hlt | hge
  · left
    refine ⟨hlt, ?_⟩
    cases hfi : fieldIdx fields rs f.1 with
    | error e =>
      have := fieldIdx_spec fields rs f.1
      rw [hfi] at this
      rw [this]
    | ok j =>
      -- a success would be the index of a field named `f.1` at or after `current`: that is `i`
      obtain ⟨⟨k, hk⟩, hj⟩ := fieldIdx_sound hfi
      have hlen : j < (fields.map (·.1)).length := by
        simpa using (List.getElem?_eq_some_iff.mp hk).1
      have : j = i := (List.getElem?_inj hlen hnd).mp (by simp [List.getElem?_map, hk, hf])
      omega
  · right
    rcases hd with hd | ⟨b, hb⟩
    · omega
    · exact ⟨fieldIdx_of_nodup hnd hf hge, hinv i b hb, b, hb⟩

theorem recordValue_occupied {S : Schema} {fields : List (String × Nat)} {rs : RecordState}
    {idx : Nat} {serv : Node → SerM Unit} {s : SerState} {b : Buffer}
    (hne : idx ≠ rs.current) (hb : rs.buffers.slots[idx]? = some (some b)) :
    ∃ e rs' s', recordValue S fields rs idx serv s = (.error (e, rs'), s') := by
  unfold recordValue
  split
  · exact ⟨_, _, _, rfl⟩
  · split
    · exact ⟨_, _, _, rfl⟩
    · rw [if_neg hne]
      dsimp only
      split
      · exact ⟨_, _, _, rfl⟩
      · rename_i hfree
        exact (hfree b ((resizedSlots_some _ _ _ _).mpr hb)).elim

/-- The duplicate whose first copy is still buffered. -/
theorem recordValue_occupied_custom {S : Schema} {fields : List (String × Nat)} {rs : RecordState}
    {idx : Nat} {serv : Node → SerM Unit} {s : SerState} {b : Buffer} {f : String × Nat}
    {node : Node} (hf : fields[idx]? = some f) (hnode : S[f.2]? = some node)
    (hne : idx ≠ rs.current) (hb : rs.buffers.slots[idx]? = some (some b)) :
    ∃ rs', recordValue S fields rs idx serv s = (.error (.custom, rs'), s) := by
  unfold recordValue
  simp only [hf, hnode, if_neg hne]
  split
  · exact ⟨_, rfl⟩
  · rename_i hfree
    exact (hfree b ((resizedSlots_some _ _ _ _).mpr hb)).elim

section rejections
variable (ext : Ext) (allowSlow : Bool) (S : Schema) (fields : List (String × Nat))

theorem serFields_record_step (name : String) (v : SV) (rest : List (String × SV))
    (rs : RecordState) (s : SerState) :
    (∃ e k s', serFields ext allowSlow S (.record fields rs) ((name, v) :: rest) s =
        (.error (e, k), s')) ∨
    (∃ idx rs1 s1, fieldIdx fields rs name = .ok idx ∧
      recordValue S fields rs idx (fun node => ser ext allowSlow S node v) s = (.ok rs1, s1) ∧
      serFields ext allowSlow S (.record fields rs) ((name, v) :: rest) s =
        serFields ext allowSlow S (.record fields rs1) rest s1) := by
  rw [serFields]
  cases hfi : fieldIdx fields rs name with
  | error e => exact .inl ⟨_, _, _, rfl⟩
  | ok idx =>
    dsimp only
    cases hrv : recordValue S fields rs idx (fun node => ser ext allowSlow S node v) s with
    | mk r s1 =>
      cases r with
      | error q => obtain ⟨e, rs'⟩ := q; exact .inl ⟨_, _, _, rfl⟩
      | ok rs1 => exact .inr ⟨idx, rs1, s1, rfl, hrv, rfl⟩

theorem serFields_ok_conv : ∀ (pres : List (String × SV)) (rs : RecordState) (s : SerState)
    (k' : StructKind) (s' : SerState),
    serFields ext allowSlow S (.record fields rs) pres s = (.ok k', s') →
    ∃ rs', k' = .record fields rs' ∧ (∀ name ∈ pres.map (·.1), name ∈ fields.map (·.1)) ∧
      ∀ i, RecDone rs' i → RecDone rs i ∨ ∃ f, fields[i]? = some f ∧ f.1 ∈ pres.map (·.1) := by
  intro pres
  induction pres with
  | nil =>
    intro rs s k' s' h
    rw [serFields] at h
    cases h
    exact ⟨rs, rfl, nofun, fun i hi => .inl hi⟩
  | cons p rest ih =>
    intro rs s k' s' h
    obtain ⟨name, v⟩ := p
    rcases serFields_record_step ext allowSlow S fields name v rest rs s with
      ⟨e, k, s2, herr⟩ | ⟨idx, rs1, s1, hfi, hrv, heq⟩
    · rw [herr] at h; cases h
    · rw [heq] at h
      obtain ⟨rs', hk', hnames, hconv⟩ := ih rs1 s1 k' s' h
      obtain ⟨k, hk⟩ := (fieldIdx_sound hfi).1
      refine ⟨rs', hk', fun n hn => ?_, fun i hi => ?_⟩
      · rcases List.mem_cons.mp hn with rfl | hn
        · exact List.mem_map_of_mem (f := (·.1)) (List.mem_of_getElem? hk)
        · exact hnames n hn
      · rcases hconv i hi with h1 | ⟨f, hf, hmem⟩
        · rcases (recordValue_done hrv i).mp h1 with h2 | h2
          · exact .inl h2
          · subst h2; exact .inr ⟨_, hk, by simp⟩
        · exact .inr ⟨f, hf, by simp only [List.map_cons, List.mem_cons]; exact .inr hmem⟩

theorem serFields_unknown_err {name : String} (hname : name ∉ fields.map (·.1))
    (pres : List (String × SV)) (rs : RecordState) (s : SerState) (hmem : name ∈ pres.map (·.1)) :
    ∃ e, (structBodyFinish S (serFields ext allowSlow S (.record fields rs) pres s)).1 = .error e := by
  cases h : serFields ext allowSlow S (.record fields rs) pres s with
  | mk r s' =>
    cases r with
    | error q => exact structBodyFinish_err q.1 q.2 s'
    | ok k' =>
      obtain ⟨_, _, hnames, _⟩ := serFields_ok_conv ext allowSlow S fields pres rs s k' s' h
      exact (hname (hnames name hmem)).elim

theorem serFields_ok_nodup (hnd : (fields.map (·.1)).Nodup) :
    ∀ (pres : List (String × SV)) (rs : RecordState) (s : SerState) (k' : StructKind)
      (s' : SerState), SlotInv rs →
    serFields ext allowSlow S (.record fields rs) pres s = (.ok k', s') →
    (pres.map (·.1)).Nodup ∧
      ∀ i f, fields[i]? = some f → f.1 ∈ pres.map (·.1) → ¬ RecDone rs i := by
  intro pres
  induction pres with
  | nil => intro rs s k' s' _ _; exact ⟨List.nodup_nil, fun _ _ _ h => nomatch h⟩
  | cons p rest ih =>
    intro rs s k' s' hinv h
    obtain ⟨name, v⟩ := p
    rcases serFields_record_step ext allowSlow S fields name v rest rs s with
      ⟨e, k, s2, herr⟩ | ⟨idx, rs1, s1, hfi, hrv, heq⟩
    · rw [herr] at h; cases h
    · rw [heq] at h
      obtain ⟨hnd', hfresh⟩ := ih rs1 s1 k' s'
        (recordValue_slotInv hinv (fieldIdx_sound hfi).2 hrv) h
      obtain ⟨k, hk⟩ := (fieldIdx_sound hfi).1
      -- the field just presented had not been presented before: else `field_idx` or the slot test
      -- would have failed
      have hidx : ¬ RecDone rs idx := fun hd => by
        rcases fieldIdx_done hnd hinv hk hd with ⟨_, he⟩ | ⟨_, hlt, b, hb⟩
        · rw [he] at hfi; cases hfi
        · obtain ⟨e, rs', s2, he⟩ := recordValue_occupied (S := S) (fields := fields)
            (serv := fun node => ser ext allowSlow S node v) (s := s)
            (by omega : idx ≠ rs.current) hb
          rw [he] at hrv; cases hrv
      refine ⟨List.nodup_cons.mpr ⟨fun hmem =>
        hfresh idx _ hk hmem ((recordValue_done hrv idx).mpr (.inr rfl)), hnd'⟩,
        fun i f hf hmem hd => ?_⟩
      rcases List.mem_cons.mp hmem with hname | hmem
      · have hlen : i < (fields.map (·.1)).length := by
          simpa using (List.getElem?_eq_some_iff.mp hf).1
        obtain rfl : i = idx := (List.getElem?_inj hlen hnd).mp (by
          simp only [List.getElem?_map, hf, hk, Option.map_some, hname])
        exact hidx hd
      · exact hfresh i f hf hmem ((recordValue_done hrv i).mpr (.inl hd))

theorem serFields_dup_err (hnd : (fields.map (·.1)).Nodup) (pres : List (String × SV))
    (rs : RecordState) (s : SerState) (hinv : SlotInv rs) (hdup : ¬ (pres.map (·.1)).Nodup) :
    ∃ e, (structBodyFinish S (serFields ext allowSlow S (.record fields rs) pres s)).1 = .error e := by
  cases h : serFields ext allowSlow S (.record fields rs) pres s with
  | mk r s' =>
    cases r with
    | error q => exact structBodyFinish_err q.1 q.2 s'
    | ok k' =>
      exact (hdup (serFields_ok_nodup ext allowSlow S fields hnd pres rs s k' s' hinv h).1).elim

theorem recordEnd_missing {i : Nat} {f : String × Nat} (hf : fields[i]? = some f)
    (hnn : fieldNullable S f.2 = false) : ∀ (fuel : Nat) (rs : RecordState) (s : SerState)
    (rs' : RecordState) (s' : SerState), ¬ RecDone rs i →
    recordEnd S fields fuel rs s = (.ok rs', s') → ¬ RecDone rs' i := by
  intro fuel
  induction fuel with
  | zero =>
    intro rs s rs' s' hd h
    cases h; exact hd
  | succ fuel ih =>
    intro rs s rs' s' hd h
    rw [recordEnd_succ] at h
    split at h
    · cases h; exact hd
    · rename_i f0 hf0
      split at h
      · cases h
      · rename_i s1 hfill
        have hn0 := recordFill_ok_nullable (S := S) (f := f0) (s := s) (by rw [hfill])
        have hne : rs.current ≠ i := by
          intro hci
          rw [hci, hf] at hf0
          simp only [Option.some.injEq] at hf0
          rw [← hf0, hnn] at hn0
          cases hn0
        split at h
        · cases h
        · rename_i rs2 s2 hfl
          refine ih rs2 s2 rs' s' (fun hd2 => hd ?_) h
          rcases (flushBuffered_done (congrArg Prod.fst hfl) i).mp hd2 with h1 | ⟨b, hb⟩
          · simp only at h1
            exact .inl (by omega)
          · exact .inr ⟨b, hb⟩

theorem structFinish_missing {i : Nat} {f : String × Nat} (hf : fields[i]? = some f)
    (hnn : fieldNullable S f.2 = false) (rs : RecordState) (s : SerState) (hd : ¬ RecDone rs i) :
    ∃ e, (structFinish S (.record fields rs) s).1 = .error e := by
  have hlt : i < fields.length := (List.getElem?_eq_some_iff.mp hf).1
  unfold structFinish structEnd
  dsimp only
  cases hre : recordEnd S fields (fields.length + 1) rs s with
  | mk r s1 =>
    cases r with
    | error q => obtain ⟨e, rs'⟩ := q; exact finally_fail_err _ _ _
    | ok rs' =>
      have hd' := recordEnd_missing S fields hf hnn _ rs s rs' s1 hd hre
      have : rs'.current < fields.length := by
        rcases Nat.lt_or_ge i rs'.current with h | h
        · exact (hd' (.inl h)).elim
        · omega
      dsimp only
      rw [if_pos this]
      exact finally_fail_err _ _ _

theorem popSuperBuffer_ok_slots {s s1 : SerState} {sb : SuperBuffer}
    (h : popSuperBuffer s = (.ok sb, s1)) : sb.slots = [] := by
  unfold popSuperBuffer at h
  split at h
  · cases h; rfl
  · split at h
    · cases h
    · rename_i hne
      cases h
      simpa using hne

theorem slotInv_init {sb : SuperBuffer} (h : sb.slots = []) :
    SlotInv { current := 0, buffers := sb } := by
  intro i b hib
  simp [h] at hib

/-- A failure of the body (fields, `end`, `Drop`) on whatever `popSuperBuffer` hands out is a failure
    of the presentation. -/
theorem ser_struct_err_of_body (nm : Name) (name : String) (pres : List (String × SV))
    (s : SerState)
    (h : ∀ sb s1, popSuperBuffer s = (.ok sb, s1) → sb.slots = [] →
      ∃ e, (structBodyFinish S (serFields ext allowSlow S
        (.record fields { current := 0, buffers := sb }) pres s1)).1 = .error e) :
    ∃ e, (ser ext allowSlow S (.record nm fields) (.struct name pres) s).1 = .error e := by
  rw [ser_struct_record_eq]
  cases hp : popSuperBuffer s with
  | mk r s1 =>
    cases r with
    | error e => exact ⟨e, rfl⟩
    | ok sb => exact h sb s1 hp (popSuperBuffer_ok_slots hp)

theorem ser_struct_unknown_err (nm : Name) (name : String) (pres : List (String × SV))
    (s : SerState) {bad : String} (hbad : bad ∉ fields.map (·.1)) (hmem : bad ∈ pres.map (·.1)) :
    ∃ e, (ser ext allowSlow S (.record nm fields) (.struct name pres) s).1 = .error e :=
  ser_struct_err_of_body ext allowSlow S fields nm name pres s fun _ s1 _ _ =>
    serFields_unknown_err ext allowSlow S fields hbad pres _ s1 hmem

theorem ser_struct_dup_err (hnd : (fields.map (·.1)).Nodup) (nm : Name) (name : String)
    (pres : List (String × SV)) (s : SerState) (hdup : ¬ (pres.map (·.1)).Nodup) :
    ∃ e, (ser ext allowSlow S (.record nm fields) (.struct name pres) s).1 = .error e :=
  ser_struct_err_of_body ext allowSlow S fields nm name pres s fun _ s1 _ hsb =>
    serFields_dup_err ext allowSlow S fields hnd pres _ s1 (slotInv_init hsb) hdup

theorem record_body_missing_err {sb : SuperBuffer} (hsb : sb.slots = [])
    (pres : List (String × SV)) (s1 : SerState) {i : Nat} {f : String × Nat}
    (hf : fields[i]? = some f) (hnn : fieldNullable S f.2 = false)
    (habs : f.1 ∉ pres.map (·.1)) :
    ∃ e, (structBodyFinish S (serFields ext allowSlow S
      (.record fields { current := 0, buffers := sb }) pres s1)).1 = .error e := by
  cases hsf : serFields ext allowSlow S (.record fields { current := 0, buffers := sb }) pres s1 with
  | mk r2 s2 =>
    cases r2 with
    | error q => exact structBodyFinish_err q.1 q.2 s2
    | ok k' =>
      obtain ⟨rs', hk', _, hconv⟩ := serFields_ok_conv ext allowSlow S fields pres _ s1 k' s2 hsf
      subst hk'
      refine structFinish_missing S fields hf hnn rs' s2 fun hd => ?_
      rcases hconv i hd with h1 | ⟨g, hg, hmem⟩
      · exact recDone_init hsb i h1
      · rw [hf] at hg; cases hg; exact habs hmem

theorem ser_struct_missing_err (nm : Name) (name : String) (pres : List (String × SV))
    (s : SerState) {i : Nat} {f : String × Nat} (hf : fields[i]? = some f)
    (hnn : fieldNullable S f.2 = false)
    (habs : f.1 ∉ pres.map (·.1)) :
    ∃ e, (ser ext allowSlow S (.record nm fields) (.struct name pres) s).1 = .error e :=
  ser_struct_err_of_body ext allowSlow S fields nm name pres s fun _ s1 _ hsb =>
    record_body_missing_err ext allowSlow S fields hsb pres s1 hf hnn habs

end rejections

/-! ### The presentations that go through -/

/-- success on one good state is success from `{}` -/
theorem ser_ok_init {ext : Ext} {a : Bool} {S : Schema} {node : Node} {sv : SV} {t : SerState}
    (ht : Good t) (h : (ser ext a S node sv t).1 = .ok ()) : (ser ext a S node sv {}).1 = .ok () := by
  obtain ⟨_, e, _⟩ := ser_frame ext a node sv t ht
  rw [e] at h; exact h

section back
variable (ext : Ext) (a : Bool) (S : Schema) (fields : List (String × Nat))

/-- A value went through in place or inside a side buffer, in either case on a good state, and
    success on one good state is success from `{}` (`ser_ok_init`).  No invariant of the machine is
    involved: the states between two fields are good because `recordValue` is simulated by itself
    (`STrT.good`). -/
theorem serFields_record_back :
    ∀ (pres : List (String × SV)) (rs : RecordState) (s : SerState) (k' : StructKind)
      (s' : SerState), Good s → serFields ext a S (.record fields rs) pres s = (.ok k', s') →
    ∀ p ∈ pres, ∃ (i : Nat) (f : String × Nat) (node : Node), fields[i]? = some f ∧ f.1 = p.1 ∧
      S[f.2]? = some node ∧ (ser ext a S node p.2 {}).1 = .ok () := by
  intro pres
  induction pres with
  | nil => intro _ _ _ _ _ _; nofun
  | cons p rest ih =>
    obtain ⟨name, v⟩ := p
    intro rs s k' s' hs h
    rcases serFields_record_step ext a S fields name v rest rs s with
      ⟨e, k, s2, herr⟩ | ⟨idx, rs1, s1, hfi, hrv, heq⟩
    · rw [herr] at h; cases h
    · rw [heq] at h
      obtain ⟨⟨k0, hf⟩, _⟩ := fieldIdx_sound hfi
      obtain ⟨f, node, hf', hnode, hcase⟩ := recordValue_ok_inv hrv
      rw [hf] at hf'; cases hf'
      have hwas : ∃ t, Good t ∧ (ser ext a S node v t).1 = .ok () := by
        rcases hcase with ⟨_, s1', h1, _⟩ | ⟨_, _, buf, s1', b, hpop, hinto, _⟩
        · exact ⟨s, hs, by rw [h1]⟩
        · refine ⟨{ s1' with out := buf.data, budget := none },
            ⟨rfl, popBuffer_clean (s1 := s1') hpop hs.2⟩, ?_⟩
          unfold intoBuffer at hinto
          split at hinto
          · rename_i hm; rw [hm]
          · cases hinto
      obtain ⟨t, ht, hokt⟩ := hwas
      have hs1 := (recordValue_sim (U := True) (P := False) (S := S) (fields := fields) (idx := idx)
        nofun (⟨rfl, rfl⟩ : RsRel rs rs) nofun nofun
        fun n _ => ser_sim (S := S) ext a nofun v n nofun).good hs
      rw [hrv] at hs1
      intro p hp
      rcases List.mem_cons.1 hp with rfl | hp
      · exact ⟨idx, (name, k0), node, hf, rfl, hnode, ser_ok_init ht hokt⟩
      · exact ih rs1 s1 k' s' hs1 h p hp

end back

theorem find?_name_of_nodup {α : Type} : ∀ {l : List (String × α)}, (l.map (·.1)).Nodup →
    ∀ {p : String × α}, p ∈ l → ∀ {n : String}, p.1 = n → l.find? (fun q => q.1 = n) = some p
  | [], _, _, hp, _, _ => nomatch hp
  | q :: rest, hnd, p, hp, n, hn => by
    rw [List.map_cons, List.nodup_cons] at hnd
    rcases List.mem_cons.1 hp with rfl | hp
    · simp [hn]
    · have hne : ¬ q.1 = n := fun h => hnd.1 (List.mem_map.2 ⟨p, hp, by rw [hn, h]⟩)
      rw [List.find?_cons_of_neg (by simpa using hne)]
      exact find?_name_of_nodup hnd.2 hp hn

/-- The bytes of field `i` of a record under the struct presentation `flds`: those of the value
    presented under the field's name, or the null encoding.  C13 is stated with presentations given
    by indices and values (`presOf`) and their `fieldBytes` (`Theorems/C13full.lean`);
    `ser_record_partial` is the bridge. -/
def recBytes (ext : Ext) (a : Bool) (S : Schema) (fields : List (String × Nat))
    (flds : List (String × SV)) (i : Nat) : Bytes :=
  match fields[i]? with
  | none => []
  | some f =>
    match flds.find? (fun p => p.1 = f.1) with
    | some p =>
      (match S[f.2]? with
        | some node => (ser ext a S node p.2 {}).2.out
        | none => [])
    | none => nullEnc S f.2

section bytes
variable (ext : Ext) (a : Bool) (S : Schema) (fields : List (String × Nat))

theorem recBytes_presented {flds : List (String × SV)} (hndp : (flds.map (·.1)).Nodup)
    {p : String × SV} (hp : p ∈ flds) {i : Nat} {f : String × Nat} {node : Node}
    (hf : fields[i]? = some f) (hfp : f.1 = p.1) (hnode : S[f.2]? = some node) :
    recBytes ext a S fields flds i = (ser ext a S node p.2 {}).2.out := by
  simp only [recBytes, hf, find?_name_of_nodup hndp hp hfp.symm, hnode]

theorem recBytes_omitted {flds : List (String × SV)} {i : Nat} {f : String × Nat}
    (hf : fields[i]? = some f) (hnot : f.1 ∉ flds.map (·.1)) :
    recBytes ext a S fields flds i = nullEnc S f.2 := by
  have : flds.find? (fun p => p.1 = f.1) = none := by
    rw [List.find?_eq_none]
    intro p hp hpf
    exact hnot (List.mem_map.2 ⟨p, hp, by simpa using hpf⟩)
  simp only [recBytes, hf, this]

/-- `flds` can be presented to a record with the fields `fields`: distinct names, each the name of a
    field at whose node the value serializes on its own, and every field not named nullable. -/
structure Presentable (flds : List (String × SV)) : Prop where
  nodup : (flds.map (·.1)).Nodup
  field : ∀ p ∈ flds, ∃ (i : Nat) (f : String × Nat) (node : Node), fields[i]? = some f ∧
    f.1 = p.1 ∧ S[f.2]? = some node ∧ (ser ext a S node p.2 {}).1 = .ok ()
  rest : ∀ (i : Nat) (f : String × Nat), fields[i]? = some f → f.1 ∉ flds.map (·.1) →
    fieldNullable S f.2 = true

variable {ext a S fields}

/-- The body: the fields after `serialize_struct`/`_map` up to `end` and `Drop`. -/
theorem record_body_total (hd : (fields.map (·.1)).Nodup) {sb : SuperBuffer} (hsb : sb.slots = [])
    {flds : List (String × SV)} (h : Presentable ext a S fields flds) (s1 : SerState)
    (hs1 : Good s1) :
    ∃ s3, structBodyFinish S
        (serFields ext a S (.record fields { current := 0, buffers := sb }) flds s1) = (.ok (), s3) ∧
      s3.out = s1.out ++ (List.range fields.length).flatMap (recBytes ext a S fields flds) ∧
      Good s3 := by
  have hinv0 : RecInv fields (recBytes ext a S fields flds) s1.out
      { current := 0, buffers := sb } s1 :=
    ⟨by simp, fun i b hib => by simp [hsb] at hib, Nat.zero_le _⟩
  obtain ⟨rs', s2, hsf, hinv, hb2, hc2, hdone⟩ := serFields_record_total ext a S fields _ s1.out hd
    flds _ s1 hs1.1 hs1.2 hinv0 h.nodup fun p hp => by
      obtain ⟨i, f, node, hf, hfp, hnode, hok0⟩ := h.field p hp
      exact ⟨i, f, node, _, hf, hfp, hnode, recDone_init hsb i, Prod.ext hok0 rfl,
        (recBytes_presented ext a S fields h.nodup hp hf hfp hnode).symm⟩
  rw [hsf]
  exact structFinish_record_fill S fields _ s1.out rs' s2 hb2 hc2 hinv fun i f hf hnd' => by
    have hnot : f.1 ∉ flds.map (·.1) := fun hm => hnd' ((hdone i).2 (.inr ⟨f, hf, hm⟩))
    exact ⟨h.rest i f hf hnot, recBytes_omitted ext a S fields hf hnot⟩

theorem record_body_ok_iff (hd : (fields.map (·.1)).Nodup) {sb : SuperBuffer}
    (hsb : sb.slots = []) {flds : List (String × SV)} {s1 : SerState} (hs1 : Good s1) :
    (structBodyFinish S
      (serFields ext a S (.record fields { current := 0, buffers := sb }) flds s1)).1 = .ok () ↔
    Presentable ext a S fields flds := by
  refine ⟨fun hok => ?_, fun h => by obtain ⟨s3, e, _⟩ := record_body_total hd hsb h s1 hs1; rw [e]⟩
  obtain ⟨k', s2, hrun⟩ := structBodyFinish_ok hok
  obtain ⟨hndp, _⟩ := serFields_ok_nodup ext a S fields hd flds _ s1 k' s2
    (slotInv_init hsb) hrun
  refine ⟨hndp, serFields_record_back ext a S fields flds _ s1 _ s2 hs1 hrun,
    fun i f hf hnot => ?_⟩
  -- `end` went through: what was not presented is nullable
  cases hfn : fieldNullable S f.2 with
  | true => rfl
  | false =>
    obtain ⟨e, he⟩ := record_body_missing_err ext a S fields hsb flds s1 hf hfn hnot
    rw [he] at hok; cases hok

theorem record_body_presentable (hd : (fields.map (·.1)).Nodup) {sb : SuperBuffer}
    (hsb : sb.slots = []) {flds : List (String × SV)} {s1 : SerState} (hs1 : Good s1)
    (hok : (structBodyFinish S
      (serFields ext a S (.record fields { current := 0, buffers := sb }) flds s1)).1 = .ok ()) :
    Presentable ext a S fields flds := (record_body_ok_iff hd hsb hs1).1 hok

variable (ext a S fields)

theorem ser_record_ok_iff (hd : (fields.map (·.1)).Nodup) (nm : Name) (name : String)
    (flds : List (String × SV)) (s : SerState) (hs : Good s) :
    (ser ext a S (.record nm fields) (.struct name flds) s).1 = .ok () ↔
      Presentable ext a S fields flds := by
  rw [ser_struct_record_eq]
  obtain ⟨sb, s1, e1, hsb, o1, b1, c1⟩ := popSuperBuffer_op s hs.2
  rw [e1]
  exact record_body_ok_iff hd hsb ⟨by rw [b1]; exact hs.1, c1⟩

theorem ser_record_bytes (hd : (fields.map (·.1)).Nodup) (nm : Name) (name : String)
    {flds : List (String × SV)} (h : Presentable ext a S fields flds) (s : SerState) (hs : Good s) :
    ∃ s', ser ext a S (.record nm fields) (.struct name flds) s = (.ok (), s') ∧
      s'.out = s.out ++ (List.range fields.length).flatMap (recBytes ext a S fields flds) ∧
      Good s' := by
  rw [ser_struct_record_eq]
  obtain ⟨sb, s1, e1, hsb, o1, b1, c1⟩ := popSuperBuffer_op s hs.2
  rw [e1, ← o1]
  exact record_body_total hd hsb h s1 ⟨by rw [b1]; exact hs.1, c1⟩

end bytes

/-! ### Presentations given by the indices of the presented fields -/

section presOf
variable {fields : List (String × Nat)} {vals : Nat → SV} {order : List Nat}

theorem mem_presOf {p : String × SV} :
    p ∈ presOf fields vals order ↔ ∃ i ∈ order, ((fields[i]?.getD ("", 0)).1, vals i) = p := by
  simp only [presOf, List.mem_map]

theorem name_mem_presOf (hnd : (fields.map (·.1)).Nodup) (hlt : ∀ i ∈ order, i < fields.length)
    {i : Nat} {f : String × Nat} (hf : fields[i]? = some f) :
    f.1 ∈ (presOf fields vals order).map (·.1) ↔ i ∈ order := by
  simp only [presOf, List.map_map, List.mem_map, Function.comp]
  constructor
  · rintro ⟨j, hj, h⟩
    obtain ⟨g, hfj⟩ := exists_getElem? (hlt j hj)
    rw [hfj] at h
    rwa [names_inj hnd hf hfj h.symm]
  · exact fun hi => ⟨i, hi, by rw [hf]; rfl⟩

theorem presOf_names_nodup (hnd : (fields.map (·.1)).Nodup) (hon : order.Nodup)
    (hlt : ∀ i ∈ order, i < fields.length) : ((presOf fields vals order).map (·.1)).Nodup := by
  simp only [presOf, List.map_map]
  refine List.pairwise_map.2 (hon.imp_of_mem fun {i j} hi hj hne h => hne ?_)
  obtain ⟨fi, hfi⟩ := exists_getElem? (hlt i hi)
  obtain ⟨fj, hfj⟩ := exists_getElem? (hlt j hj)
  simp only [Function.comp, hfi, hfj, Option.getD_some] at h
  exact names_inj hnd hfi hfj h

end presOf

section partialPres
variable (ext : Ext) (allowSlow : Bool) (S : Schema) (nm : Name) (fields : List (String × Nat))
  (enc : Nat → Bytes) (vals : Nat → SV)

theorem ser_record_partial (hnd : (fields.map (·.1)).Nodup)
    (hkeys : ∀ f ∈ fields, ∃ node, S[f.2]? = some node)
    (order : List Nat) (hon : order.Nodup) (hlt : ∀ i ∈ order, i < fields.length)
    (henc : ∀ i ∈ order, ∀ f node, fields[i]? = some f → S[f.2]? = some node →
      ∃ t, ser ext allowSlow S node (vals i) {} = (.ok (), t) ∧ t.out = enc i)
    (hnull : ∀ i f, fields[i]? = some f → i ∉ order →
      fieldNullable S f.2 = true ∧ enc i = nullEnc S f.2)
    (name : String) (s : SerState) (hb : s.budget = none) (hc : PoolClean s.pool) :
    ∃ s', ser ext allowSlow S (.record nm fields) (.struct name (presOf fields vals order)) s =
        (.ok (), s') ∧
      s'.out = s.out ++ (List.range fields.length).flatMap enc ∧ s'.budget = none ∧
      PoolClean s'.pool := by
  have hndp := presOf_names_nodup (vals := vals) hnd hon hlt
  have hpres : Presentable ext allowSlow S fields (presOf fields vals order) :=
    ⟨hndp, fun p hp => by
      obtain ⟨i, hi, rfl⟩ := mem_presOf.1 hp
      obtain ⟨f, hf⟩ := exists_getElem? (hlt i hi)
      have hmem := List.mem_of_getElem? hf
      obtain ⟨node, hnode⟩ := hkeys f hmem
      obtain ⟨t, ht, _⟩ := henc i hi f node hf hnode
      exact ⟨i, f, node, hf, by rw [hf]; rfl, hnode, by rw [ht]⟩,
    fun i f hf hnot => (hnull i f hf fun hi => hnot ((name_mem_presOf hnd hlt hf).2 hi)).1⟩
  obtain ⟨s', e, o, g⟩ := ser_record_bytes ext allowSlow S fields hnd nm name hpres s ⟨hb, hc⟩
  refine ⟨s', e, ?_, g.1, g.2⟩
  rw [o]
  congr 1
  rw [List.flatMap_def, List.flatMap_def]
  congr 1
  apply List.map_congr_left
  intro i hi
  obtain ⟨f, hf⟩ := exists_getElem? (l := fields) (j := i) (by simpa using hi)
  have hmem := List.mem_of_getElem? hf
  by_cases hio : i ∈ order
  · obtain ⟨node, hnode⟩ := hkeys f hmem
    obtain ⟨t, ht, hto⟩ := henc i hio f node hf hnode
    rw [recBytes_presented ext allowSlow S fields hndp
      (mem_presOf.2 ⟨i, hio, rfl⟩) hf (by rw [hf]; rfl) hnode, ht, hto]
  · rw [recBytes_omitted ext allowSlow S fields hf
      (fun h => hio ((name_mem_presOf hnd hlt hf).1 h)), (hnull i f hf hio).2]

end partialPres

end Avro.Theorems
