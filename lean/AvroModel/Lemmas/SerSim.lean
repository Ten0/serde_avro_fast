import AvroModel.Lemmas.SerKeys
/-
A relational Hoare logic for the serializer model.  `STr U P m1 m2 R`: from states that agree on the
budget, whose writers differ by a prefix `o` and whose pools are clean but otherwise unrelated, `m1`
and `m2` give the same result in states related the same way (compound states up to `cap` flags:
`SeqRel`, `StructRel`); under `P` the common error is not a panic.  One walk over the model
(`ser_sim` and its companions) establishes it for every call.

`P` and `U` are parameters so that the one walk serves every reading: at `P := False` nothing is
assumed of the schema and nothing claimed about panics (`RTr`, `ser_frame`, `STr.clean`); with
`hk : P → S.keysInBounds` at `P := True` the common error is not a panic (`Tr`).  `U := True` is the
unlimited writer of `ser_frame`, `U := False` admits the failing sinks of C14.
-/
namespace Avro.Theorems
open Avro Avro.Impl

/-- `s1` is `s2` with `o` prepended to the writer, and any other clean pool.  With `U` both
    writers are moreover unlimited.  (`SerSim` of `Lemmas/SerTriples.lean` is a copy, in which
    `RTr`/`RTrT` there are stated.) -/
def StateSim (U : Prop) (o : Bytes) (s1 s2 : SerState) : Prop :=
  s1.out = o ++ s2.out ∧ s1.budget = s2.budget ∧ (U → s2.budget = none) ∧
    PoolClean s1.pool ∧ PoolClean s2.pool

/-- Related outcomes: the same result (`.ok` values related by `R`) in related states; under `P`
    the common error is not a panic. -/
def Outs {α} (U P : Prop) (R : α → α → Prop) (o : Bytes) (x1 x2 : Except SerErr α × SerState) : Prop :=
  (∃ a b t1 t2, x1 = (.ok a, t1) ∧ x2 = (.ok b, t2) ∧ R a b ∧ StateSim U o t1 t2) ∨
  (∃ e t1 t2, x1 = (.error e, t1) ∧ x2 = (.error e, t2) ∧ (P → e ≠ .panic) ∧ StateSim U o t1 t2)

/-- `Outs` for computations that return their compound state with an error: the compound states
    carried by errors are unrelated, they are only dropped. -/
def OutsT {σ α} (U P : Prop) (R : α → α → Prop) (o : Bytes)
    (x1 x2 : Except (SerErr × σ) α × SerState) : Prop :=
  (∃ a b t1 t2, x1 = (.ok a, t1) ∧ x2 = (.ok b, t2) ∧ R a b ∧ StateSim U o t1 t2) ∨
  (∃ e k1 k2 t1 t2, x1 = (.error (e, k1), t1) ∧ x2 = (.error (e, k2), t2) ∧ (P → e ≠ .panic) ∧
    StateSim U o t1 t2)

structure STr {α} (U P : Prop) (m1 m2 : SerM α) (R : α → α → Prop) : Prop where
  out : ∀ o s1 s2, StateSim U o s1 s2 → Outs U P R o (m1 s1) (m2 s2)

structure STrT {σ α} (U P : Prop) (m1 m2 : TrM σ α) (R : α → α → Prop) : Prop where
  out : ∀ o s1 s2, StateSim U o s1 s2 → OutsT U P R o (m1 s1) (m2 s2)

/-- `STr` on the diagonal: the run of `m` depends neither on the prefix of the writer nor on the
    (clean) pool. -/
abbrev Par {α} (U P : Prop) (m : SerM α) (R : α → α → Prop := Eq) : Prop := STr U P m m R

variable {U : Prop}

section rules
variable {α β σ : Type} {P : Prop}

theorem Outs.ok {R : α → α → Prop} {o a b t1 t2} (h : R a b) (hs : StateSim U o t1 t2) :
    Outs U P R o (.ok a, t1) (.ok b, t2) := .inl ⟨a, b, t1, t2, rfl, rfl, h, hs⟩

theorem Outs.err {R : α → α → Prop} {o t1 t2} (e : SerErr) (he : P → e ≠ .panic)
    (hs : StateSim U o t1 t2) : Outs U P R o (.error e, t1) (.error e, t2) :=
  .inr ⟨e, t1, t2, rfl, rfl, he, hs⟩

theorem OutsT.ok {R : α → α → Prop} {o a b t1 t2} (h : R a b) (hs : StateSim U o t1 t2) :
    OutsT (σ := σ) U P R o (.ok a, t1) (.ok b, t2) := .inl ⟨a, b, t1, t2, rfl, rfl, h, hs⟩

theorem OutsT.err {R : α → α → Prop} {o t1 t2} (e : SerErr) (k1 k2 : σ) (he : P → e ≠ .panic)
    (hs : StateSim U o t1 t2) : OutsT U P R o (.error (e, k1), t1) (.error (e, k2), t2) :=
  .inr ⟨e, k1, k2, t1, t2, rfl, rfl, he, hs⟩

/-- Case analysis on related outcomes; the motive is read off the goal, so this also serves inside
    the hand-written `match m s with …` sequencing of the `TrM` functions. -/
@[elab_as_elim]
theorem Outs.elim {R : α → α → Prop} {o : Bytes} {x1 x2 : Except SerErr α × SerState}
    {C : Except SerErr α × SerState → Except SerErr α × SerState → Prop} (h : Outs U P R o x1 x2)
    (ok : ∀ a b t1 t2, R a b → StateSim U o t1 t2 → C (.ok a, t1) (.ok b, t2))
    (err : ∀ e t1 t2, (P → e ≠ .panic) → StateSim U o t1 t2 → C (.error e, t1) (.error e, t2)) :
    C x1 x2 := by
  rcases h with ⟨a, b, t1, t2, rfl, rfl, hab, ht⟩ | ⟨e, t1, t2, rfl, rfl, he, ht⟩
  · exact ok a b t1 t2 hab ht
  · exact err e t1 t2 he ht

@[elab_as_elim]
theorem OutsT.elim {R : α → α → Prop} {o : Bytes} {x1 x2 : Except (SerErr × σ) α × SerState}
    {C : Except (SerErr × σ) α × SerState → Except (SerErr × σ) α × SerState → Prop}
    (h : OutsT U P R o x1 x2)
    (ok : ∀ a b t1 t2, R a b → StateSim U o t1 t2 → C (.ok a, t1) (.ok b, t2))
    (err : ∀ e k1 k2 t1 t2, (P → e ≠ .panic) → StateSim U o t1 t2 →
      C (.error (e, k1), t1) (.error (e, k2), t2)) : C x1 x2 := by
  rcases h with ⟨a, b, t1, t2, rfl, rfl, hab, ht⟩ | ⟨e, k1, k2, t1, t2, rfl, rfl, he, ht⟩
  · exact ok a b t1 t2 hab ht
  · exact err e k1 k2 t1 t2 he ht

/-- `OutsT.err` in the shape of the error case of `Outs.elim`. -/
theorem OutsT.err' {R : α → α → Prop} {o : Bytes} (k1 k2 : σ) (e : SerErr) (t1 t2 : SerState)
    (he : P → e ≠ .panic) (hs : StateSim U o t1 t2) :
    OutsT U P R o (.error (e, k1), t1) (.error (e, k2), t2) := .err e k1 k2 he hs

theorem STr.pure {R : α → α → Prop} {a b : α} (h : R a b) :
    STr U P (pure a : SerM α) (pure b) R := ⟨fun _ _ _ hs => Outs.ok h hs⟩

theorem STr.fail {R : α → α → Prop} (e : SerErr) (he : P → e ≠ .panic := by intro; decide) :
    STr U P (SerM.fail e : SerM α) (SerM.fail e) R := ⟨fun _ _ _ hs => Outs.err e he hs⟩

/-- A failure that `P` excludes (the panics on out-of-bounds schema keys). -/
theorem STr.absurd {R : α → α → Prop} (e : SerErr) (h : P → False) :
    STr U P (SerM.fail e : SerM α) (SerM.fail e) R := .fail e fun hp => (h hp).elim

theorem STr.bind {m1 m2 : SerM α} {f1 f2 : α → SerM β} {R : α → α → Prop} {R' : β → β → Prop}
    (hm : STr U P m1 m2 R) (hf : ∀ a b, R a b → STr U P (f1 a) (f2 b) R') :
    STr U P (m1 >>= f1) (m2 >>= f2) R' := by
  refine ⟨fun o s1 s2 hs => ?_⟩
  simp only [Bind.bind]
  exact (hm.out o s1 s2 hs).elim (fun a b t1 t2 hab ht => (hf a b hab).out o t1 t2 ht)
    fun e _ _ he ht => .err e he ht

theorem Par.bind {m : SerM α} {f1 f2 : α → SerM β} {R' : β → β → Prop}
    (hm : Par U P m) (hf : ∀ a, STr U P (f1 a) (f2 a) R') : STr U P (m >>= f1) (m >>= f2) R' :=
  STr.bind hm (fun a _ h => h ▸ hf a)

theorem STrT.weaken {m1 m2 : TrM σ α} {R R' : α → α → Prop} (hm : STrT U P m1 m2 R)
    (h : ∀ a b, R a b → R' a b) : STrT U P m1 m2 R' := by
  refine ⟨fun o s1 s2 hs => ?_⟩
  rcases hm.out o s1 s2 hs with ⟨a, b, t1, t2, e1, e2, hab, ht⟩ | h'
  · exact .inl ⟨a, b, t1, t2, e1, e2, h a b hab, ht⟩
  · exact .inr h'

theorem STr.ite {c : Prop} [Decidable c] {m1 m2 n1 n2 : SerM α} {R : α → α → Prop}
    (h1 : STr U P m1 m2 R) (h2 : STr U P n1 n2 R) :
    STr U P (if c then m1 else n1) (if c then m2 else n2) R := by
  split
  · exact h1
  · exact h2

theorem StateSim.refl {s : SerState} (hs : PoolClean s.pool) : StateSim False [] s s :=
  ⟨rfl, rfl, nofun, hs, hs⟩

theorem STr.clean {m : SerM α} {R : α → α → Prop} (h : STr False P m m R) {s : SerState}
    (hs : PoolClean s.pool) : PoolClean (m s).2.pool := by
  rcases h.out [] s s (.refl hs) with ⟨_, _, _, _, e1, _, _, ht⟩ | ⟨_, _, _, e1, _, _, ht⟩ <;>
    exact e1 ▸ ht.2.2.2.1

theorem STrT.clean {m : TrM σ α} {R : α → α → Prop} (h : STrT False P m m R) {s : SerState}
    (hs : PoolClean s.pool) : PoolClean (m s).2.pool := by
  rcases h.out [] s s (.refl hs) with ⟨_, _, _, _, e1, _, _, ht⟩ | ⟨_, _, _, _, _, e1, _, _, ht⟩ <;>
    exact e1 ▸ ht.2.2.2.1

theorem STrT.good {m : TrM σ α} {R : α → α → Prop} (h : STrT True P m m R) {s : SerState}
    (hs : Good s) : Good (m s).2 := by
  rcases h.out [] s s ⟨rfl, rfl, fun _ => hs.1, hs.2, hs.2⟩ with
    ⟨_, _, _, _, e1, _, _, ht⟩ | ⟨_, _, _, _, _, e1, _, _, ht⟩ <;>
    exact e1 ▸ ⟨ht.2.1.trans (ht.2.2.1 trivial), ht.2.2.2.1⟩

end rules

section prims
variable {P : Prop}

theorem writeAll_sim (bs : Bytes) : Par U P (writeAll bs) := by
  refine ⟨fun o s1 s2 hs => ?_⟩
  obtain ⟨h1, h2, hu, h3, h4⟩ := hs
  unfold writeAll
  rw [h2]
  split
  · exact Outs.ok rfl ⟨by simp [h1], by simp, fun _ => by assumption, h3, h4⟩
  · rename_i r hr
    have hu' : U → False := fun u => by rw [hu u] at hr; cases hr
    split
    · exact Outs.ok rfl ⟨by simp [h1], rfl, fun u => (hu' u).elim, h3, h4⟩
    · exact Outs.err _ (fun _ => nofun) ⟨by simp [h1], rfl, fun u => (hu' u).elim, h3, h4⟩

theorem writeVarI64_sim (i : Int) : Par U P (writeVarI64 i) := writeAll_sim _

theorem forM_sim {α} (l : List α) (f : α → SerM PUnit) (hf : ∀ a, Par U P (f a)) :
    Par U P (l.forM f) := by
  induction l with
  | nil => show Par U P (pure PUnit.unit); exact STr.pure rfl
  | cons a l ih => show Par U P (f a >>= fun _ => l.forM f); exact Par.bind (hf a) (fun _ => ih)

theorem writeLengthDelimited_sim (bs : Bytes) : Par U P (writeLengthDelimited bs) :=
  Par.bind (writeVarI64_sim _) fun _ => writeAll_sim _

theorem serDecimal_sim (ext : Ext) (mode : DecimalMode) (d : Int × Nat) :
    Par U P (serDecimal ext mode d) := by
  unfold serDecimal
  refine Par.bind ?_ fun ⟨d, sc⟩ => Par.bind ?_ fun start =>
    Par.bind (writeAll_sim _) fun _ => .ite (writeAll_sim _) (.pure rfl)
  · cases mode
    · exact .pure rfl
    · exact .ite (.fail _) (.pure rfl)
  · rcases mode with _ | ⟨_, _ | _⟩
    · exact Par.bind (writeVarI64_sim _) fun _ => Par.bind (writeAll_sim _) fun _ => .pure rfl
    · exact Par.bind (writeVarI64_sim _) fun _ => .pure rfl
    · exact .ite (.ite (.ite (.fail _) (.pure rfl)) (.ite (.fail _) (.pure rfl)))
        (Par.bind (forM_sim _ _ fun _ => writeAll_sim _) fun _ => .pure rfl)

theorem serIntegerAsDecimal_sim (scale : Nat) (repr : DecimalRepr) (v : Int) :
    Par U P (serIntegerAsDecimal scale repr v) := by
  unfold serIntegerAsDecimal
  refine .ite (.fail _) (.ite (.fail _) (.ite (.fail _) ?_))
  cases repr
  · exact writeLengthDelimited_sim _
  · exact .ite (.ite (writeAll_sim _) (.fail _)) (.fail _)

theorem serDecimal?_sim (ext : Ext) (mode : DecimalMode) (d? : Option (Int × Nat)) :
    Par U P (match d? with
      | none => SerM.fail .custom
      | some d => serDecimal ext mode d) := by
  split
  · exact .fail _
  · exact serDecimal_sim ..

theorem serStrAt_sim (ext : Ext) (node : Node) (s : String) : Par U P (serStrAt ext node s) := by
  unfold serStrAt
  split
  · exact writeLengthDelimited_sim _
  · exact writeLengthDelimited_sim _
  · exact writeLengthDelimited_sim _
  · split
    · exact .fail _
    · exact writeVarI64_sim _
  · exact .ite (.fail _) (writeAll_sim _)
  · exact serDecimal?_sim ..
  · exact serDecimal?_sim ..
  · exact .fail _

end prims

section via
variable {α : Type} {P : Prop} {S : Schema} {node : Node}

theorem viaBranch_sim {vs : List Nat} {d : Nat} {f1 f2 : Node → SerM α} {R : α → α → Prop}
    (hk : P → S.keysInBounds) (hn : P → NodeIn S (.union vs)) (hd : d < vs.length)
    (hf : ∀ n, (P → NodeIn S n) → STr U P (f1 n) (f2 n) R) :
    STr U P (viaBranch S vs d f1) (viaBranch S vs d f2) R := by
  unfold viaBranch
  refine Par.bind (writeVarI64_sim _) (fun _ => ?_)
  split
  · rename_i h; simp at h; omega
  · rename_i k hvk
    split
    · rename_i hSk
      refine .absurd _ fun hp => ?_
      have : k < S.size := hn hp k (List.mem_of_getElem? hvk)
      simp at hSk; omega
    · rename_i n hSk
      exact hf n (fun hp => NodeIn.of_get (hk hp) hSk)

theorem viaUnion_sim {key : LookupKey} {f1 f2 : Node → SerM α} {R : α → α → Prop}
    (hk : P → S.keysInBounds) (hn : P → NodeIn S node)
    (hf : ∀ n, (P → NodeIn S n) → STr U P (f1 n) (f2 n) R) :
    STr U P (viaUnion S node key f1) (viaUnion S node key f2) R := by
  unfold viaUnion
  split
  · split
    · exact .fail _
    · rename_i d hd
      exact viaBranch_sim hk hn (by have := unnamedLookup_lt hd; rwa [branchNodes_length] at this) hf
  · exact hf _ hn

theorem viaName_sim {name : String} {f1 f2 : Node → SerM α} {R : α → α → Prop}
    (hk : P → S.keysInBounds) (hn : P → NodeIn S node)
    (hf : ∀ n, (P → NodeIn S n) → STr U P (f1 n) (f2 n) R) :
    STr U P (viaName S node name f1) (viaName S node name f2) R := by
  unfold viaName
  split
  · split
    · exact hf _ hn
    · rename_i d hd
      exact viaBranch_sim hk hn (by have := namedLookup_lt hd; rwa [branchNodes_length] at this) hf
  · exact hf _ hn

end via

section leaves
variable {P : Prop} {S : Schema} {node : Node} (hk : P → S.keysInBounds) (hn : P → NodeIn S node)
include hk hn

theorem serBool_sim (b : Bool) : Par U P (serBool S node b) :=
  viaUnion_sim hk hn fun n _ => by
    split
    · exact writeAll_sim _
    · exact .fail _

theorem serInteger_sim (t : IntTy) (v : Int) : Par U P (serInteger S node t v) :=
  viaUnion_sim hk hn fun n _ => by
    split
    all_goals first
      | exact .fail _
      | exact serIntegerAsDecimal_sim ..
      | exact .ite (writeVarI64_sim _) (.fail _)

theorem serF32_sim (bits : BitVec 32) : Par U P (serF32 S node bits) :=
  viaUnion_sim hk hn fun n _ => by
    split
    · exact writeAll_sim _
    · exact .fail _

theorem serF64_sim (ext : Ext) (bits : BitVec 64) : Par U P (serF64 ext S node bits) :=
  viaUnion_sim hk hn fun n _ => by
    split
    · exact writeAll_sim _
    · exact writeAll_sim _
    · exact serDecimal?_sim ..
    · exact serDecimal?_sim ..
    · exact .fail _

theorem serStr_sim (ext : Ext) (s : String) : Par U P (serStr ext S node s) :=
  viaUnion_sim hk hn fun n _ => serStrAt_sim ext n s

theorem serBytes_sim (b : Bytes) : Par U P (serBytes S node b) :=
  viaUnion_sim hk hn fun n _ => by
    split
    · exact writeLengthDelimited_sim _
    · exact .ite (writeLengthDelimited_sim _) (.fail _)
    · exact .ite (.fail _) (writeAll_sim _)
    · exact .ite (.fail _) (writeAll_sim _)
    · exact .fail _

theorem serUnitStruct_sim (ext : Ext) (name : String) : Par U P (serUnitStruct ext S node name) :=
  viaUnion_sim hk hn fun n _ => by
    split
    all_goals first | exact .pure rfl | exact serStrAt_sim .. | exact .fail _

theorem serUnitVariant_sim (ext : Ext) (v : String) : Par U P (serUnitVariant ext S node v) := by
  have hAt : ∀ n, (P → NodeIn S n) → Par U P (serUnitVariantAt ext v n) := fun n _ => by
    unfold serUnitVariantAt
    split
    all_goals first | exact .ite (.pure rfl) (.fail _) | exact serStrAt_sim .. | exact .fail _
  unfold serUnitVariant
  split
  · split
    · exact writeVarI64_sim _
    · exact viaUnion_sim hk hn hAt
  · exact viaUnion_sim hk hn hAt

omit hk hn

theorem serUnit_sim : Par U P (serUnit S node) := by
  unfold serUnit
  split
  · exact .pure rfl
  · split
    · exact .fail _
    · exact writeVarI64_sim _
  · exact .fail _

theorem blockNew_sim (n : Nat) : Par U P (blockNew n) := by
  unfold blockNew
  exact .ite (Par.bind (writeVarI64_sim _) fun _ => .pure rfl) (.pure rfl)

theorem blockSignal_sim (n : Nat) : Par U P (blockSignal n) := by
  cases n
  · exact Par.bind (writeVarI64_sim _) fun _ => .pure rfl
  · exact .pure rfl

theorem blockEnd_sim (n : Nat) : Par U P (blockEnd n) := .ite (.fail _) (writeVarI64_sim _)

theorem nodeAt_sim (hk : P → S.keysInBounds) {k : Nat} (hlt : P → k < S.size) :
    Par U P (nodeAt S k) fun n n' => n = n' ∧ (P → NodeIn S n) := by
  unfold nodeAt
  split
  · rename_i n h
    exact .pure ⟨rfl, fun hp => NodeIn.of_get (hk hp) h⟩
  · rename_i h
    refine .absurd _ fun hp => ?_
    have := hlt hp; simp at h; omega

end leaves

section pool
variable {P : Prop}

theorem _root_.Avro.Impl.PoolOp.run {α} {m1 m2 : SerM α} {Q1 Q2 : α → Prop} (h1 : PoolOp m1 Q1) (h2 : PoolOp m2 Q2)
    {o s1 s2} (hs : StateSim U o s1 s2) : ∃ a b t1 t2, m1 s1 = (.ok a, t1) ∧ m2 s2 = (.ok b, t2) ∧
      Q1 a ∧ Q2 b ∧ StateSim U o t1 t2 := by
  obtain ⟨g1, g2, gu, g3, g4⟩ := hs
  obtain ⟨a, t1, e1, qa, o1, b1, c1⟩ := h1 s1 g3
  obtain ⟨b, t2, e2, qb, o2, b2, c2⟩ := h2 s2 g4
  exact ⟨a, b, t1, t2, e1, e2, qa, qb, by rw [o1, o2, g1], by rw [b1, b2, g2],
    fun u => by rw [b2, gu u], c1, c2⟩

theorem _root_.Avro.Impl.PoolOp.sim {α} {m1 m2 : SerM α} {Q1 Q2 : α → Prop} (h1 : PoolOp m1 Q1) (h2 : PoolOp m2 Q2) :
    STr U P m1 m2 (fun a b => Q1 a ∧ Q2 b) := by
  refine ⟨fun o s1 s2 hs => ?_⟩
  obtain ⟨a, b, t1, t2, e1, e2, qa, qb, ht⟩ := h1.run h2 hs
  rw [e1, e2]
  exact Outs.ok ⟨qa, qb⟩ ht

theorem intoBuffer_sim {b1 b2 : Buffer} {m1 m2 : SerM Unit} {R : Unit → Unit → Prop}
    (hb1 : b1.data = []) (hb2 : b2.data = []) (hm : STr U P m1 m2 R) :
    STr U P (intoBuffer b1 m1) (intoBuffer b2 m2) (fun x y => x.data = y.data) := by
  refine ⟨fun o s1 s2 hs => ?_⟩
  obtain ⟨g1, g2, gu, g3, g4⟩ := hs
  unfold intoBuffer
  have hs' : StateSim U [] { s1 with out := b1.data, budget := none }
      { s2 with out := b2.data, budget := none } :=
    ⟨by simp [hb1, hb2], rfl, fun _ => rfl, g3, g4⟩
  rcases hm.out _ _ _ hs' with ⟨a, b, t1, t2, e1, e2, _, ht⟩ | ⟨e, t1, t2, e1, e2, he, ht⟩
  · rw [e1, e2]
    exact Outs.ok (by simpa using ht.1) ⟨g1, g2, gu, ht.2.2.2.1, ht.2.2.2.2⟩
  · rw [e1, e2]
    exact Outs.err e he ⟨g1, g2, gu, ht.2.2.2.1, ht.2.2.2.2⟩

theorem finally_sim {α} {m1 m2 : SerM α} {fin1 fin2 : SerM Unit} {R : α → α → Prop}
    {Q1 Q2 : Unit → Prop} (hm : STr U P m1 m2 R) (h1 : PoolOp fin1 Q1) (h2 : PoolOp fin2 Q2) :
    STr U P (SerM.finally m1 fin1) (SerM.finally m2 fin2) R := by
  refine ⟨fun o s1 s2 hs => ?_⟩
  unfold SerM.finally
  rcases hm.out o s1 s2 hs with ⟨a, b, t1, t2, e1, e2, hab, ht⟩ | ⟨e, t1, t2, e1, e2, he, ht⟩
  · obtain ⟨_, _, u1, u2, f1, f2, _, _, hu⟩ := h1.run h2 ht
    rw [e1, e2]; dsimp only; rw [f1, f2]; exact Outs.ok hab hu
  · obtain ⟨_, _, u1, u2, f1, f2, _, _, hu⟩ := h1.run h2 ht
    rw [e1, e2]; dsimp only; rw [f1, f2]; exact Outs.err e he hu

end pool

/-- Slot vectors with the same contents (capacities ignored). -/
def SlotsRel (l1 l2 : List (Option Buffer)) : Prop :=
  l1.map (Option.map Buffer.data) = l2.map (Option.map Buffer.data)

/-- `RsRel`, `SeqRel`, `StructRel`: the same compound state up to the `cap` flags of its buffers. -/
def RsRel (rs1 rs2 : RecordState) : Prop :=
  rs1.current = rs2.current ∧ SlotsRel rs1.buffers.slots rs2.buffers.slots

def SeqRel : SeqKind → SeqKind → Prop
  | .array i1 c1, .array i2 c2 => i1 = i2 ∧ c1 = c2
  | .duration n1, .duration n2 => n1 = n2
  | .buffered b1, .buffered b2 => b1.data = b2.data
  | .fixed n1, .fixed n2 => n1 = n2
  | _, _ => False

def StructRel : StructKind → StructKind → Prop
  | .record f1 rs1, .record f2 rs2 => f1 = f2 ∧ RsRel rs1 rs2
  | .map v1 c1, .map v2 c2 => v1 = v2 ∧ c1 = c2
  | .duration l1, .duration l2 => l1 = l2
  | _, _ => False

theorem SlotsRel.length {l1 l2} (h : SlotsRel l1 l2) : l1.length = l2.length := by
  have := congrArg List.length h; simpa using this

theorem SlotsRel.get {l1 l2} (h : SlotsRel l1 l2) (i : Nat) :
    (l1[i]?).map (Option.map Buffer.data) = (l2[i]?).map (Option.map Buffer.data) := by
  have := congrArg (·[i]?) h; simpa [List.getElem?_map] using this

theorem SlotsRel.some {l1 l2} (h : SlotsRel l1 l2) {i : Nat} {b1 : Buffer}
    (h1 : l1[i]? = some (some b1)) : ∃ b2, l2[i]? = some (some b2) ∧ b1.data = b2.data := by
  have := h.get i
  rw [h1] at this
  match h2 : l2[i]? with
  | .some (.some b2) => rw [h2] at this; exact ⟨b2, rfl, by simpa using this⟩
  | .some .none | .none => rw [h2] at this; cases this

theorem SlotsRel.symm {l1 l2} (h : SlotsRel l1 l2) : SlotsRel l2 l1 := Eq.symm h

theorem SlotsRel.free {l1 l2} (h : SlotsRel l1 l2) {i : Nat}
    (h1 : ∀ b, l1[i]? = .some (.some b) → False) (b : Buffer) : l2[i]? = .some (.some b) → False :=
  fun h2 => by obtain ⟨b1, hb1, _⟩ := h.symm.some h2; exact h1 b1 hb1

theorem SlotsRel.set {l1 l2} (h : SlotsRel l1 l2) (i : Nat) {o1 o2 : Option Buffer}
    (ho : o1.map Buffer.data = o2.map Buffer.data) : SlotsRel (l1.set i o1) (l2.set i o2) := by
  unfold SlotsRel at *
  rw [List.map_set, List.map_set, h, ho]

theorem listResize_map {α β} (g : α → β) (l : List α) (n : Nat) (a : α) :
    (listResize l n a).map g = listResize (l.map g) n (g a) := by
  unfold listResize
  simp only [List.length_map]
  split
  · rw [List.map_take]
  · simp

theorem SlotsRel.resize {l1 l2} (h : SlotsRel l1 l2) (idx : Nat) :
    SlotsRel (if l1.length ≤ idx then listResize l1 (idx + 1) none else l1)
      (if l2.length ≤ idx then listResize l2 (idx + 1) none else l2) := by
  rw [h.length]
  split
  · unfold SlotsRel at *
    rw [listResize_map, listResize_map, h]
  · exact h

theorem SeqRel.cases {k1 k2 : SeqKind} (h : SeqRel k1 k2) :
    (∃ i c, k1 = .array i c ∧ k2 = .array i c) ∨ (∃ n, k1 = .duration n ∧ k2 = .duration n) ∨
    (∃ b1 b2, k1 = .buffered b1 ∧ k2 = .buffered b2 ∧ b1.data = b2.data) ∨
    (∃ n, k1 = .fixed n ∧ k2 = .fixed n) := by
  cases k1 <;> cases k2 <;> simp only [SeqRel] at h
  · obtain ⟨rfl, rfl⟩ := h; exact .inl ⟨_, _, rfl, rfl⟩
  · subst h; exact .inr (.inl ⟨_, rfl, rfl⟩)
  · exact .inr (.inr (.inl ⟨_, _, rfl, rfl, h⟩))
  · subst h; exact .inr (.inr (.inr ⟨_, rfl, rfl⟩))

theorem StructRel.cases {k1 k2 : StructKind} (h : StructRel k1 k2) :
    (∃ fs rs1 rs2, k1 = .record fs rs1 ∧ k2 = .record fs rs2 ∧ RsRel rs1 rs2) ∨
    (∃ v c, k1 = .map v c ∧ k2 = .map v c) ∨ (∃ l, k1 = .duration l ∧ k2 = .duration l) := by
  cases k1 <;> cases k2 <;> simp only [StructRel] at h
  · obtain ⟨rfl, h⟩ := h; exact .inl ⟨_, _, _, rfl, rfl, h⟩
  · obtain ⟨rfl, rfl⟩ := h; exact .inr (.inl ⟨_, _, rfl, rfl⟩)
  · subst h; exact .inr (.inr ⟨_, rfl, rfl⟩)

theorem SeqRel.refl : ∀ k, SeqRel k k
  | .array .. => ⟨rfl, rfl⟩
  | .duration _ | .buffered _ | .fixed _ => rfl

theorem StructRel.refl : ∀ k, StructRel k k
  | .record .. => ⟨rfl, rfl, rfl⟩
  | .map .. => ⟨rfl, rfl⟩
  | .duration _ => rfl

section startend
variable {P : Prop} {S : Schema} (hk : P → S.keysInBounds)
include hk

theorem seqStartAt_sim (allowSlow : Bool) {node : Node} (hn : P → NodeIn S node)
    (len : Option Nat) :
    Par U P (seqStartAt allowSlow S node len) fun k1 k2 => SeqRel k1 k2 ∧ (P → SeqIn S k1) := by
  unfold seqStartAt
  split
  · rename_i items
    exact STr.bind (nodeAt_sim hk fun hp => hn hp items (by simp [Node.children]))
      fun n _ ⟨e, hn'⟩ => e ▸ Par.bind (blockNew_sim _) fun c => .pure ⟨⟨rfl, rfl⟩, hn'⟩
  · split
    · exact .ite (.fail _) (.pure ⟨rfl, fun _ => trivial⟩)
    · exact .pure ⟨rfl, fun _ => trivial⟩
  · refine .ite (.fail _) ?_
    split
    · exact STr.bind (PoolOp.sim popBuffer_op popBuffer_op) fun b1 b2 h =>
        .pure ⟨h.1.trans h.2.symm, fun _ => trivial⟩
    · exact Par.bind (writeVarI64_sim _) fun _ => .pure ⟨rfl, fun _ => trivial⟩
  · refine .ite (.fail _) ?_
    split
    · exact .ite (.fail _) (.pure ⟨rfl, fun _ => trivial⟩)
    · exact .pure ⟨rfl, fun _ => trivial⟩
  · exact .fail _

theorem seqStart_sim (allowSlow : Bool) {node : Node} (hn : P → NodeIn S node) (len : Option Nat) :
    Par U P (seqStart allowSlow S node len) fun k1 k2 => SeqRel k1 k2 ∧ (P → SeqIn S k1) :=
  viaUnion_sim hk hn fun _ hn' => seqStartAt_sim hk allowSlow hn' len

theorem structStartAt_sim {node : Node} (hn : P → NodeIn S node) (len : Nat) (durLen : Option Nat) :
    Par U P (structStartAt S node len durLen)
      fun k1 k2 => StructRel k1 k2 ∧ (P → StructIn S k1) := by
  unfold structStartAt
  split
  · rename_i nm fields
    refine STr.bind (PoolOp.sim popSuperBuffer_op popSuperBuffer_op) fun b1 b2 h =>
      .pure ⟨⟨rfl, rfl, ?_⟩, fun hp f hf => hn hp f.2 ?_⟩
    · show SlotsRel b1.slots b2.slots
      rw [h.1, h.2]; rfl
    · simp only [Node.children, List.mem_map]; exact ⟨f, hf, rfl⟩
  · rename_i values
    exact STr.bind (nodeAt_sim hk fun hp => hn hp values (by simp [Node.children]))
      fun n _ ⟨e, hn'⟩ => e ▸ Par.bind (blockNew_sim _) fun c => .pure ⟨⟨rfl, rfl⟩, hn'⟩
  · split
    · exact .ite (.fail _) (.pure ⟨rfl, fun _ => trivial⟩)
    · exact .pure ⟨rfl, fun _ => trivial⟩
  · exact .fail _

omit hk

theorem seqEnd_sim {k1 k2 : SeqKind} (h : SeqRel k1 k2) : STr U P (seqEnd k1) (seqEnd k2) Eq := by
  obtain ⟨_, _, rfl, rfl⟩ | ⟨_, rfl, rfl⟩ | ⟨_, _, rfl, rfl, hd⟩ | ⟨_, rfl, rfl⟩ := h.cases
  · exact blockEnd_sim _
  · exact .ite (.fail _) (.pure rfl)
  · unfold seqEnd; dsimp only; rw [hd]; exact writeLengthDelimited_sim _
  · exact .ite (.fail _) (.pure rfl)

end startend

section trm
variable {P : Prop} {S : Schema}

theorem STrT.lift {σ α} {R : α → α → Prop} (k1 k2 : σ) {m1 m2 : SerM α} (hm : STr U P m1 m2 R) :
    STrT U P (TrM.lift k1 m1) (TrM.lift k2 m2) R := by
  refine ⟨fun o s1 s2 hs => ?_⟩
  unfold TrM.lift
  exact (hm.out o s1 s2 hs).elim (fun _ _ _ _ hab ht => .ok hab ht) (.err' _ _)

theorem flushBuffered_sim : ∀ (fuel : Nat) (rs1 rs2 : RecordState), RsRel rs1 rs2 →
    STrT U P (flushBuffered fuel rs1) (flushBuffered fuel rs2) RsRel := by
  intro fuel
  induction fuel with
  | zero => intro rs1 rs2 h; exact ⟨fun o s1 s2 hs => OutsT.ok h hs⟩
  | succ fuel ih =>
    intro rs1 rs2 ⟨hc, hsl⟩
    refine ⟨fun o s1 s2 hs => ?_⟩
    unfold flushBuffered
    split
    · rename_i b1 hb1
      obtain ⟨b2, hb2, hd⟩ := hsl.some hb1
      rw [← hc, hb2]
      dsimp only
      rw [hd]
      refine ((writeAll_sim b2.data).out o s1 s2 hs).elim (fun _ _ t1 t2 _ ht => ?_) (.err' _ _)
      obtain ⟨_, _, u1, u2, f1, f2, _, _, hu⟩ :=
        (pushBuffer_op (b := { b1 with data := [] }) rfl).run
          (pushBuffer_op (b := { b2 with data := [] }) rfl) ht
      dsimp only
      rw [f1, f2]
      exact (ih _ _ ⟨by simp only [hc], hsl.set _ rfl⟩).out o u1 u2 hu
    · rename_i hn1
      split
      · rename_i b2 hb2; exact (hsl.free (hc ▸ hn1) b2 hb2).elim
      · exact OutsT.ok ⟨hc, hsl⟩ hs

variable (hk : P → S.keysInBounds)
include hk

theorem recordFill_sim {f : String × Nat} (hf : P → f.2 < S.size) : Par U P (recordFill S f) := by
  rw [recordFill_eq]
  exact STr.bind (nodeAt_sim hk hf) fun n _ ⟨e, _⟩ => e ▸ serUnit_sim

theorem recordEnd_sim {fields : List (String × Nat)} (hf : P → ∀ f ∈ fields, f.2 < S.size) :
    ∀ (fuel : Nat) (rs1 rs2 : RecordState), RsRel rs1 rs2 →
      STrT U P (recordEnd S fields fuel rs1) (recordEnd S fields fuel rs2) RsRel := by
  intro fuel
  induction fuel with
  | zero => intro rs1 rs2 h; exact ⟨fun o s1 s2 hs => OutsT.ok h hs⟩
  | succ fuel ih =>
    intro rs1 rs2 h
    refine ⟨fun o s1 s2 hs => ?_⟩
    rw [recordEnd_succ, recordEnd_succ, ← h.1]
    split
    · exact OutsT.ok h hs
    · rename_i f hfs
      refine ((recordFill_sim hk fun hp => hf hp f (List.mem_of_getElem? hfs)).out o s1 s2 hs).elim
        (fun _ _ t1 t2 _ ht => ?_) (.err' _ _)
      dsimp only
      rw [← h.2.length]
      exact ((flushBuffered_sim rs1.buffers.slots.length { rs1 with current := rs1.current + 1 }
          { rs2 with current := rs1.current + 1 } ⟨rfl, h.2⟩).out o t1 t2 ht).elim
        (fun a b u1 u2 hab hu => (ih a b hab).out o u1 u2 hu)
        fun e _ _ _ _ he hu => .err e _ _ he hu

theorem structEnd_sim {k1 k2 : StructKind} (h : StructRel k1 k2) (hok : P → StructIn S k1) :
    STrT U P (structEnd S k1) (structEnd S k2) StructRel := by
  refine ⟨fun o s1 s2 hs => ?_⟩
  obtain ⟨fields, rs1, rs2, rfl, rfl, hrs⟩ | ⟨_, _, rfl, rfl⟩ | ⟨_, rfl, rfl⟩ := h.cases
  · unfold structEnd
    dsimp only
    rcases (recordEnd_sim hk hok (fields.length + 1) rs1 rs2 hrs).out o s1 s2 hs with
      ⟨a, b, u1, u2, f1, f2, hab, hu⟩ | ⟨e, k1, k2, u1, u2, f1, f2, he, hu⟩
    · -- the loop has run out of fields, not of fuel: the `panic` arm is dead
      have := recordEnd_current fields (fields.length + 1) rs1 s1 a (by rw [f1])
      rw [f1, f2]
      dsimp only
      rw [← hab.1, if_neg (by omega), if_neg (by omega)]
      exact OutsT.ok ⟨rfl, rfl, rfl⟩ hu
    · rw [f1, f2]
      exact OutsT.err e _ _ he hu
  · exact (STrT.lift _ _ (Par.bind (blockEnd_sim _) fun _ => .pure ⟨rfl, rfl⟩)).out o s1 s2 hs
  · unfold structEnd
    dsimp only
    split
    · exact (STrT.lift _ _ (Par.bind (writeAll_sim _) fun _ => .pure (StructRel.refl _))).out
        o s1 s2 hs
    · exact OutsT.err _ _ _ (fun _ => nofun) hs

theorem structFinish_sim {k1 k2 : StructKind} (h : StructRel k1 k2) (hok : P → StructIn S k1) :
    STr U P (structFinish S k1) (structFinish S k2) Eq := by
  refine ⟨fun o s1 s2 hs => ?_⟩
  unfold structFinish
  exact ((structEnd_sim hk h hok).out o s1 s2 hs).elim
    (fun a b u1 u2 _ hu =>
      (finally_sim (.pure rfl) (structDrop_op a) (structDrop_op b)).out o u1 u2 hu)
    fun _ k1' k2' u1 u2 he hu =>
      (finally_sim (.fail _ he) (structDrop_op k1') (structDrop_op k2')).out o u1 u2 hu

omit hk in
theorem seqFinish_sim {m1 m2 : TrM SeqKind SeqKind} (hm : STrT U P m1 m2 SeqRel) :
    STr U P (fun s => seqFinish (m1 s)) (fun s => seqFinish (m2 s)) Eq := by
  refine ⟨fun o s1 s2 hs => ?_⟩
  unfold seqFinish
  exact (hm.out o s1 s2 hs).elim
    (fun a b u1 u2 hab hu =>
      (finally_sim (seqEnd_sim hab) (seqDrop_op a) (seqDrop_op b)).out o u1 u2 hu)
    fun _ k1' k2' u1 u2 he hu =>
      (finally_sim (.fail _ he) (seqDrop_op k1') (seqDrop_op k2')).out o u1 u2 hu

theorem structBodyFinish_sim {m1 m2 : TrM StructKind StructKind}
    (hm : STrT U P m1 m2 fun k1 k2 => StructRel k1 k2 ∧ (P → StructIn S k1)) :
    STr U P (fun s => structBodyFinish S (m1 s)) (fun s => structBodyFinish S (m2 s)) Eq := by
  refine ⟨fun o s1 s2 hs => ?_⟩
  unfold structBodyFinish
  exact (hm.out o s1 s2 hs).elim
    (fun _ _ u1 u2 hab hu => (structFinish_sim hk hab.1 hab.2).out o u1 u2 hu)
    fun _ k1' k2' u1 u2 he hu =>
      (finally_sim (.fail _ he) (structDrop_op k1') (structDrop_op k2')).out o u1 u2 hu

theorem recordValue_sim {fields : List (String × Nat)} {rs1 rs2 : RecordState} {idx : Nat}
    {serv1 serv2 : Node → SerM Unit} (h : RsRel rs1 rs2) (hidx : P → idx < fields.length)
    (hf : P → ∀ f ∈ fields, f.2 < S.size)
    (hserv : ∀ node, (P → NodeIn S node) → STr U P (serv1 node) (serv2 node) Eq) :
    STrT U P (recordValue S fields rs1 idx serv1) (recordValue S fields rs2 idx serv2) RsRel := by
  refine ⟨fun o s1 s2 hs => ?_⟩
  obtain ⟨hc, hsl⟩ := h
  unfold recordValue
  split
  · rename_i hnone
    refine OutsT.err _ _ _ (fun hp => ?_) hs
    have := hidx hp; simp at hnone; omega
  · rename_i f hfi
    split
    · rename_i hnone
      refine OutsT.err _ _ _ (fun hp => ?_) hs
      have := hf hp f (List.mem_of_getElem? hfi); simp at hnone; omega
    · rename_i node hnode
      have hserv := hserv node fun hp => NodeIn.of_get (hk hp) hnode
      rw [← hc]
      by_cases hcur : idx = rs1.current
      · rw [if_pos hcur, if_pos hcur]
        refine (hserv.out o s1 s2 hs).elim (fun _ _ t1 t2 _ ht => ?_) (.err' _ _)
        dsimp only
        rw [← hsl.length]
        exact (flushBuffered_sim _ { rs1 with current := rs1.current + 1 }
          { rs2 with current := rs1.current + 1 } ⟨rfl, hsl⟩).out o t1 t2 ht
      · rw [if_neg hcur, if_neg hcur]
        dsimp only
        have hres := hsl.resize idx
        generalize (if rs1.buffers.slots.length ≤ idx then listResize rs1.buffers.slots (idx + 1) none
          else rs1.buffers.slots) = l1 at hres ⊢
        generalize (if rs2.buffers.slots.length ≤ idx then listResize rs2.buffers.slots (idx + 1) none
          else rs2.buffers.slots) = l2 at hres ⊢
        split
        · rename_i b1 hb1
          obtain ⟨b2, hb2, _⟩ := hres.some hb1
          rw [hb2]
          exact OutsT.err _ _ _ (fun _ => nofun) hs
        · rename_i hn1
          obtain ⟨b1, b2, t1, t2, e1, e2, hb1, hb2, ht⟩ := popBuffer_op.run popBuffer_op hs
          rw [e1]
          dsimp only
          rcases (intoBuffer_sim hb1 hb2 hserv).out o t1 t2 ht with
            ⟨c1, c2, u1, u2, f1, f2, hcd, hu⟩ | ⟨e, u1, u2, f1, f2, he, hu⟩
          · rw [f1]
            dsimp only
            split
            · rename_i b hb; exact (hres.free hn1 b hb).elim
            · rw [e2]; dsimp only; rw [f2]
              exact OutsT.ok ⟨rfl, hres.set idx (by simp [hcd])⟩ hu
          · rw [f1]
            dsimp only
            split
            · rename_i b hb; exact (hres.free hn1 b hb).elim
            · rw [e2]; dsimp only; rw [f2]
              exact OutsT.err e _ _ he hu

end trm

section steps
variable {P : Prop} {S : Schema} (ext : Ext) (allowSlow : Bool)

theorem serElems_cons_sim (e : SV) (rest : List SV)
    (hser : ∀ node, (P → NodeIn S node) → Par U P (ser ext allowSlow S node e))
    (hrest : ∀ k1 k2, SeqRel k1 k2 → (P → SeqIn S k1) →
      STrT U P (serElems ext allowSlow S k1 rest) (serElems ext allowSlow S k2 rest) SeqRel)
    (k1 k2 : SeqKind) (h : SeqRel k1 k2) (hok : P → SeqIn S k1) :
    STrT U P (serElems ext allowSlow S k1 (e :: rest)) (serElems ext allowSlow S k2 (e :: rest))
      SeqRel := by
  refine ⟨fun o s1 s2 hs => ?_⟩
  obtain ⟨items, current, rfl, rfl⟩ | ⟨n, rfl, rfl⟩ | ⟨b1, b2, rfl, rfl, hd⟩ | ⟨n, rfl, rfl⟩ :=
    h.cases
  · rw [serElems, serElems]
    refine ((blockSignal_sim current).out o s1 s2 hs).elim (fun c _ t1 t2 hc ht => ?_) (.err' _ _)
    subst hc
    dsimp only
    exact ((hser items hok).out o t1 t2 ht).elim
      (fun _ _ u1 u2 _ hu =>
        (hrest (.array items c) (.array items c) ⟨rfl, rfl⟩ hok).out o u1 u2 hu)
      (.err' _ _)
  · rw [serElems, serElems]
    split
    · exact OutsT.err _ _ _ (fun _ => nofun) hs
    · split
      · exact OutsT.err _ _ _ (fun _ => nofun) hs
      · rename_i v hv
        exact ((writeAll_sim (leBytes 4 v)).out o s1 s2 hs).elim
          (fun _ _ t1 t2 _ ht =>
            (hrest (.duration _) (.duration _) rfl fun _ => trivial).out o t1 t2 ht)
          (.err' _ _)
  · rw [serElems, serElems]
    split
    · exact OutsT.err _ _ _ (fun _ => nofun) hs
    · exact (hrest (.buffered _) (.buffered _) (by simp [SeqRel, hd]) fun _ => trivial).out o s1 s2 hs
  · cases n with
    | zero => rw [serElems, serElems]; exact OutsT.err _ _ _ (fun _ => nofun) hs
    | succ n =>
      rw [serElems, serElems]
      split
      · exact OutsT.err _ _ _ (fun _ => nofun) hs
      · rename_i b hb
        exact ((writeAll_sim [b]).out o s1 s2 hs).elim
          (fun _ _ t1 t2 _ ht => (hrest (.fixed _) (.fixed _) rfl fun _ => trivial).out o t1 t2 ht)
          (.err' _ _)

variable (hk : P → S.keysInBounds)
include hk

/-- One `serialize_field` on the record kind, as it occurs in `serFields` and `serEntries`
    (`cont1`/`cont2` are the recursive calls on the remaining fields). -/
theorem recordStep_sim {fields : List (String × Nat)} {rs1 rs2 : RecordState} (hrs : RsRel rs1 rs2)
    (hok : P → StructIn S (.record fields rs1)) (name : String) (v : SV)
    (hser : ∀ node, (P → NodeIn S node) → Par U P (ser ext allowSlow S node v))
    {cont1 cont2 : RecordState → TrM StructKind StructKind}
    (hcont : ∀ a b, RsRel a b → STrT U P (cont1 a) (cont2 b)
      fun k1 k2 => StructRel k1 k2 ∧ (P → StructIn S k1)) {o s1 s2} (hs : StateSim U o s1 s2) :
    let step (rs : RecordState) (cont : RecordState → TrM StructKind StructKind) (s : SerState) :
        Except (SerErr × StructKind) StructKind × SerState :=
      match fieldIdx fields rs name with
      | .error e => (.error (e, .record fields rs), s)
      | .ok idx =>
        match recordValue S fields rs idx (fun node => ser ext allowSlow S node v) s with
        | (.error (e, rs'), s') => (.error (e, .record fields rs'), s')
        | (.ok rs', s') => cont rs' s'
    OutsT U P (fun k1 k2 => StructRel k1 k2 ∧ (P → StructIn S k1)) o
      (step rs1 cont1 s1) (step rs2 cont2 s2) := by
  intro step
  simp only [step]
  have hfi : fieldIdx fields rs2 name = fieldIdx fields rs1 name := by
    unfold fieldIdx; rw [hrs.1]
  rw [hfi]
  split
  · rename_i e he
    exact OutsT.err _ _ _ (fun _ h => fieldIdx_no_panic fields rs1 name (h ▸ he)) hs
  · rename_i idx hidx
    have hlt : idx < fields.length := by
      obtain ⟨⟨k, hk'⟩, _⟩ := fieldIdx_sound hidx
      exact (List.getElem?_eq_some_iff.mp hk').1
    exact ((recordValue_sim hk hrs (fun _ => hlt) hok hser).out o s1 s2 hs).elim
      (fun a b u1 u2 hab hu => (hcont a b hab).out o u1 u2 hu)
      fun e _ _ _ _ he hu => .err e _ _ he hu

theorem serFields_cons_sim (name : String) (v : SV) (rest : List (String × SV))
    (hser : ∀ node, (P → NodeIn S node) → Par U P (ser ext allowSlow S node v))
    (hrest : ∀ k1 k2, StructRel k1 k2 → (P → StructIn S k1) →
      STrT U P (serFields ext allowSlow S k1 rest) (serFields ext allowSlow S k2 rest)
        fun k1 k2 => StructRel k1 k2 ∧ (P → StructIn S k1))
    (k1 k2 : StructKind) (h : StructRel k1 k2) (hok : P → StructIn S k1) :
    STrT U P (serFields ext allowSlow S k1 ((name, v) :: rest))
      (serFields ext allowSlow S k2 ((name, v) :: rest))
      fun k1 k2 => StructRel k1 k2 ∧ (P → StructIn S k1) := by
  refine ⟨fun o s1 s2 hs => ?_⟩
  obtain ⟨fields, rs1, rs2, rfl, rfl, hrs⟩ | ⟨values, current, rfl, rfl⟩ | ⟨_, rfl, rfl⟩ := h.cases
  · rw [serFields, serFields]
    exact recordStep_sim ext allowSlow hk hrs hok name v hser
      (fun a b hab => hrest (.record fields a) (.record fields b) ⟨rfl, hab⟩ hok) hs
  · rw [serFields, serFields]
    refine ((Par.bind (blockSignal_sim current) fun c =>
      Par.bind (writeLengthDelimited_sim (strBytes name)) fun _ => .pure rfl).out o s1 s2 hs).elim
      (fun c _ t1 t2 hc ht => ?_) (.err' _ _)
    subst hc
    dsimp only
    exact ((hser values hok).out o t1 t2 ht).elim
      (fun _ _ u1 u2 _ hu => (hrest (.map values c) (.map values c) ⟨rfl, rfl⟩ hok).out o u1 u2 hu)
      (.err' _ _)
  · -- the duration kind writes nothing before `end`: each arm fails or recurses from `s1`, `s2`
    rw [serFields, serFields]
    repeat' split
    all_goals first
      | exact OutsT.err _ _ _ (fun _ => nofun) hs
      | exact (hrest (.duration _) (.duration _) rfl fun _ => trivial).out o s1 s2 hs

theorem serEntries_cons_sim (key v : SV) (rest : List (SV × SV))
    (hkey : ∀ node, (P → NodeIn S node) → Par U P (ser ext allowSlow S node key))
    (hser : ∀ node, (P → NodeIn S node) → Par U P (ser ext allowSlow S node v))
    (hrest : ∀ k1 k2, StructRel k1 k2 → (P → StructIn S k1) →
      STrT U P (serEntries ext allowSlow S k1 rest) (serEntries ext allowSlow S k2 rest)
        fun k1 k2 => StructRel k1 k2 ∧ (P → StructIn S k1))
    (k1 k2 : StructKind) (h : StructRel k1 k2) (hok : P → StructIn S k1) :
    STrT U P (serEntries ext allowSlow S k1 ((key, v) :: rest))
      (serEntries ext allowSlow S k2 ((key, v) :: rest))
      fun k1 k2 => StructRel k1 k2 ∧ (P → StructIn S k1) := by
  refine ⟨fun o s1 s2 hs => ?_⟩
  obtain ⟨fields, rs1, rs2, rfl, rfl, hrs⟩ | ⟨values, current, rfl, rfl⟩ | ⟨_, rfl, rfl⟩ := h.cases
  · rw [serEntries, serEntries]
    split
    · exact OutsT.err _ _ _ (fun _ => nofun) hs
    · rename_i name hname
      exact recordStep_sim ext allowSlow hk hrs hok name v hser
        (fun a b hab => hrest (.record fields a) (.record fields b) ⟨rfl, hab⟩ hok) hs
  · rw [serEntries, serEntries]
    refine ((blockSignal_sim current).out o s1 s2 hs).elim (fun c _ t1 t2 hc ht => ?_) (.err' _ _)
    subst hc
    dsimp only
    refine ((hkey .string fun _ => nofun).out o t1 t2 ht).elim (fun _ _ u1 u2 _ hu => ?_) (.err' _ _)
    dsimp only
    exact ((hser values hok).out o u1 u2 hu).elim
      (fun _ _ w1 w2 _ hw => (hrest (.map values c) (.map values c) ⟨rfl, rfl⟩ hok).out o w1 w2 hw)
      (.err' _ _)
  · rw [serEntries, serEntries]
    repeat' split
    all_goals first
      | exact OutsT.err _ _ _ (fun _ => nofun) hs
      | exact (hrest (.duration _) (.duration _) rfl fun _ => trivial).out o s1 s2 hs

end steps

section main
variable {P : Prop} {S : Schema} (ext : Ext) (allowSlow : Bool)

mutual

theorem ser_sim (hk : P → S.keysInBounds) : ∀ (sv : SV) (node : Node), (P → NodeIn S node) →
    Par U P (ser ext allowSlow S node sv)
  | .bool b, _, hn => serBool_sim hk hn b
  | .int t v, _, hn => serInteger_sim hk hn t v
  | .f32 bits, _, hn => serF32_sim hk hn bits
  | .f64 bits, _, hn => serF64_sim hk hn ext bits
  | .char _, _, hn | .str _, _, hn => serStr_sim hk hn ext _
  | .bytes b, _, hn => serBytes_sim hk hn b
  | .none, _, _ | .unit, _, _ => serUnit_sim
  | .some v, node, hn => ser_sim hk v node hn
  | .unitStruct name, _, hn => serUnitStruct_sim hk hn ext name
  | .unitVariant _ _ variant, _, hn => serUnitVariant_sim hk hn ext variant
  | .newtypeStruct _ v, _, hn | .newtypeVariant _ _ _ v, _, hn =>
    viaName_sim hk hn fun n hn' => ser_sim hk v n hn'
  | .seq _ elems, _, hn | .tuple elems, _, hn | .tupleStruct _ elems, _, hn =>
    STr.bind (seqStart_sim hk allowSlow hn _) fun k1 k2 h =>
      seqFinish_sim (serElems_sim hk elems k1 k2 h.1 h.2)
  | .tupleVariant _ _ _ elems, _, hn =>
    viaName_sim hk hn fun _ hn' => STr.bind (seqStart_sim hk allowSlow hn' _) fun k1 k2 h =>
      seqFinish_sim (serElems_sim hk elems k1 k2 h.1 h.2)
  | .map _ entries, _, hn =>
    viaUnion_sim hk hn fun _ hn' => STr.bind (structStartAt_sim hk hn' _ _) fun k1 k2 h =>
      structBodyFinish_sim hk (serEntries_sim hk entries k1 k2 h.1 h.2)
  | .struct _ fields, _, hn | .structVariant _ _ _ fields, _, hn =>
    viaName_sim hk hn fun _ hn' => viaUnion_sim hk hn' fun _ hn'' =>
      STr.bind (structStartAt_sim hk hn'' _ _) fun k1 k2 h =>
        structBodyFinish_sim hk (serFields_sim hk fields k1 k2 h.1 h.2)

theorem serElems_sim (hk : P → S.keysInBounds) : ∀ (elems : List SV) (k1 k2 : SeqKind),
    SeqRel k1 k2 → (P → SeqIn S k1) →
    STrT U P (serElems ext allowSlow S k1 elems) (serElems ext allowSlow S k2 elems) SeqRel
  | [], _, _, h, _ => ⟨fun _ _ _ hs => OutsT.ok h hs⟩
  | e :: rest, k1, k2, h, hok =>
    serElems_cons_sim ext allowSlow e rest (fun node hn => ser_sim hk e node hn)
      (fun k1 k2 h hok => serElems_sim hk rest k1 k2 h hok) k1 k2 h hok

theorem serFields_sim (hk : P → S.keysInBounds) : ∀ (fs : List (String × SV))
    (k1 k2 : StructKind), StructRel k1 k2 → (P → StructIn S k1) →
    STrT U P (serFields ext allowSlow S k1 fs) (serFields ext allowSlow S k2 fs)
      fun k1 k2 => StructRel k1 k2 ∧ (P → StructIn S k1)
  | [], _, _, h, hok => ⟨fun _ _ _ hs => OutsT.ok ⟨h, hok⟩ hs⟩
  | (name, v) :: rest, k1, k2, h, hok =>
    serFields_cons_sim ext allowSlow hk name v rest (fun node hn => ser_sim hk v node hn)
      (fun k1 k2 h hok => serFields_sim hk rest k1 k2 h hok) k1 k2 h hok

theorem serEntries_sim (hk : P → S.keysInBounds) : ∀ (es : List (SV × SV))
    (k1 k2 : StructKind), StructRel k1 k2 → (P → StructIn S k1) →
    STrT U P (serEntries ext allowSlow S k1 es) (serEntries ext allowSlow S k2 es)
      fun k1 k2 => StructRel k1 k2 ∧ (P → StructIn S k1)
  | [], _, _, h, hok => ⟨fun _ _ _ hs => OutsT.ok ⟨h, hok⟩ hs⟩
  | (key, v) :: rest, k1, k2, h, hok =>
    serEntries_cons_sim ext allowSlow hk key v rest (fun node hn => ser_sim hk key node hn)
      (fun node hn => ser_sim hk v node hn)
      (fun k1 k2 h hok => serEntries_sim hk rest k1 k2 h hok) k1 k2 h hok

end

theorem ser_frame (node : Node) (sv : SV) (s : SerState) (hs : Good s) :
    ∃ s', ser ext allowSlow S node sv s = ((ser ext allowSlow S node sv {}).1, s') ∧
      s'.out = s.out ++ (ser ext allowSlow S node sv {}).2.out ∧ Good s' := by
  have hsim : StateSim True s.out s {} :=
    ⟨by simp, by rw [hs.1], fun _ => rfl, hs.2, PoolClean.empty⟩
  have hrun :=
    (ser_sim (U := True) (P := False) (S := S) ext allowSlow nofun sv node nofun).out _ _ _ hsim
  refine hrun.elim (fun a b t1 t2 hab ht => ?_) fun e t1 t2 _ ht => ?_ <;>
    exact ⟨t1, rfl, ht.1, by rw [ht.2.1]; exact ht.2.2.1 trivial, ht.2.2.2.1⟩

end main

end Avro.Theorems
