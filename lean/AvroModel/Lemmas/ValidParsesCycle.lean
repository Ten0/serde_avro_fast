import AvroModel.Lemmas.ValidParsesRaw
import AvroModel.Lemmas.RegisterRel
import AvroModel.Lemmas.CycleCheck
/-
C07 (valid documents parse), fourth part: a document whose named types can be ranked
(`Spec.ranked`) gives a node graph without record cycle.

`Reg.ranked`: induction on the relation `Reg`, about the FINAL registration state `stF`
(as `canonTree_of_reg` of `Lemmas/PcfSpecGraph.lean`): every record node written has its fields'
keys resolved (`.idx`) and pointing to nodes that, if records, rank strictly below it.
-/
namespace Avro.ValidParses
open Avro Avro.Impl Avro.Spec Avro.Spec.Pcf Avro.PcfSpec

/-- the fullname a `Name` was built from -/
def nameFn (nm : Name) : Fullname := (nm.ns, nm.short)

theorem nameFn_toName (k : NameKey) : nameFn k.toName = (k.ns, k.name) := by
  unfold NameKey.toName nameFn
  cases k.ns <;> rfl

theorem nameFn_defKey (nm : String) (nsA enc : Option String) :
    nameFn (defKey nm nsA enc).toName = fullnameOfDef nm nsA enc := by
  rw [nameFn_toName, defKey_eq_spec]

section
variable (rank : Fullname → Nat) (stF : PState)

/-- node `t` of the final state, if a record, ranks below `bound` -/
def RecBelow (t : Nat) (bound : Nat) : Prop :=
  ∀ nm fs lg, stF.nodes[t]? = some ⟨.record nm fs, lg⟩ → rank (nameFn nm) < bound

/-- a bound key points to a node that, if a record, carries the name of that key -/
def NamesInv (st : PState) : Prop :=
  ∀ key t, st.names.lookup key = some t →
    ∀ nm fs lg, stF.nodes[t]? = some ⟨.record nm fs, lg⟩ → nameFn nm = (key.ns, key.name)

/-- the field keys of a record node are resolved and point below it -/
def FieldsBelow (fs : List (String × PKey)) (bound : Nat) : Prop :=
  ∀ p ∈ fs, ∃ t, p.2 = .idx t ∧ RecBelow rank stF t bound

/-- every record node of the final state in slots `lo ≤ i < hi` has its field keys resolved and
    pointing to nodes ranked below it; `Reg.ranked` proves it for the slots a registration
    allocates -/
def GoodRange (lo hi : Nat) : Prop :=
  ∀ i, lo ≤ i → i < hi → ∀ nm fs lg, stF.nodes[i]? = some ⟨.record nm fs, lg⟩ →
    FieldsBelow rank stF fs (rank (nameFn nm))

end

variable {rank : Fullname → Nat} {stF : PState}

theorem GoodRange.append {lo mid hi : Nat} (h1 : GoodRange rank stF lo mid)
    (h2 : GoodRange rank stF mid hi) : GoodRange rank stF lo hi := by
  intro i hlo hhi
  by_cases h : i < mid
  · exact h1 i hlo h
  · exact h2 i (by omega) hhi

theorem GoodRange.empty (lo : Nat) : GoodRange rank stF lo lo := by
  intro i h1 h2; omega

theorem GoodRange.single {idx : Nat} {ty : PType} {lt : Option LogicalType}
    (hF : stF.nodes[idx]? = some ⟨ty, lt⟩)
    (h : ∀ nm fs, ty = .record nm fs → FieldsBelow rank stF fs (rank (nameFn nm))) :
    GoodRange rank stF idx (idx + 1) := by
  intro i h1 h2 nm fs lg hi
  have : i = idx := by omega
  subst this
  rw [hF] at hi
  simp only [Option.some.injEq, PNode.mk.injEq] at hi
  exact h nm fs hi.1

theorem RecBelow.of_node {idx : Nat} {ty : PType} {lt : Option LogicalType} {bound : Nat}
    (hF : stF.nodes[idx]? = some ⟨ty, lt⟩)
    (h : ∀ nm fs, ty = .record nm fs → rank (nameFn nm) < bound) :
    RecBelow rank stF idx bound := by
  intro nm fs lg hi
  rw [hF] at hi
  simp only [Option.some.injEq, PNode.mk.injEq] at hi
  exact h nm fs hi.1

theorem NamesInv.of_names {st st' : PState} (h : NamesInv stF st) (e : st'.names = st.names) :
    NamesInv stF st' := by
  intro key t hl
  rw [e] at hl
  exact h key t hl

theorem NamesInv.step {o : Option RawAttrs} {enc : Option String} {st st1 : PState}
    {nk : Option NameKey} {ty : PType} {lt : Option LogicalType}
    (h : NamesInv stF st) (hn : nameStep o enc st = .ok (nk, st1))
    (hF : stF.nodes[st.nodes.size]? = some ⟨ty, lt⟩)
    (hty : ∀ nm fs, ty = .record nm fs → ∀ key, nk = some key → nm = key.toName) :
    NamesInv stF st1 := by
  obtain ⟨-, -, hnames⟩ := nameStep_ok hn
  rcases hnames with ⟨-, e, -⟩ | ⟨a, name, -, -, hnk, -, e⟩
  · exact h.of_names e
  · intro key t hl nm fs lg hnode
    rw [e, List.lookup_cons] at hl
    by_cases hk : key = defKey name a.nsAttr enc
    · subst hk
      simp only [beq_self_eq_true, Option.some.injEq] at hl
      subst hl
      rw [hF] at hnode
      simp only [Option.some.injEq, PNode.mk.injEq] at hnode
      rw [hty nm fs hnode.1 _ hnk, nameFn_toName]
    · have : (key == defKey name a.nsAttr enc) = false := by simpa using hk
      rw [this] at hl
      exact h key t hl nm fs lg hnode

theorem unres_mid {a b c : PState} (h1 : ∃ l, b.unresolved = a.unresolved ++ l)
    (h2 : ∃ l, c.unresolved = b.unresolved ++ l) (h : c.unresolved = a.unresolved) :
    b.unresolved = a.unresolved ∧ c.unresolved = b.unresolved := by
  obtain ⟨l1, e1⟩ := h1
  obtain ⟨l2, e2⟩ := h2
  rw [e2, e1, List.append_assoc] at h
  have : l1 ++ l2 = [] := by simpa using h
  obtain ⟨rfl, rfl⟩ := List.append_eq_nil_iff.mp this
  exact ⟨by simpa using e1, by simpa using e2⟩

/-! ### the walk `rankedRaw` at a node, through the table `bodyOf` -/

theorem rankedRaw_node {rank : Fullname → Nat} {raw t o of oi ov enc b}
    (hraw : raw.asNode = some (t, o, of, oi, ov))
    (hb : bodyOf t o of oi ov enc
      ((o.bind (·.name)).map fun nm => defKey nm (o.bind (·.nsAttr)) enc) = .ok b)
    (hrk : rankedRaw rank enc raw = true) :
    rankedRawList rank b.ns b.kids = true ∧
    (t = .record → ∀ name, o.bind (·.name) = some name → ∀ r ∈ b.kids,
      directBelowRaw rank (fullnameOfDef name (o.bind (·.nsAttr)) enc) b.ns r = true) := by
  rcases bodyOf_ok hb with ⟨ty, rfl, hleaf, -⟩ | ⟨r, mk, rfl, h, -⟩ | ⟨k, fs, rfl, rfl, hk, rfl, -⟩
  · exact ⟨rfl, fun ht => by rw [ht] at hleaf; cases hleaf⟩
  · rcases RawSchema.asNode_some hraw with ⟨-, -, -, rfl, rfl⟩ | ⟨a, rfl, rfl, -⟩
    · rcases h with ⟨-, h, -⟩ | ⟨-, h, -⟩ <;> cases h
    · rw [rankedRaw] at hrk
      rcases h with ⟨ht, rfl, -⟩ | ⟨ht, rfl, -⟩ <;> rw [ht] at hrk <;>
        exact ⟨by simpa only [Body.one, rankedRawList, Bool.and_true, rankedParts, rankedRawO]
            using hrk,
          fun h => by rw [ht] at h; cases h⟩
  · rcases RawSchema.asNode_some hraw with ⟨-, rfl, -⟩ | ⟨a, rfl, ht, rfl⟩
    · cases hk
    · obtain ⟨nm, hnm, rfl⟩ := Option.map_eq_some_iff.mp hk
      have hnm : a.name = some nm := hnm
      rw [rankedRaw, ← ht] at hrk
      simp only [rankedParts, hnm, rankedRawOF, rankedRawFields_eq] at hrk
      simp only [Body.fields, defKey_eq_spec, Option.bind_some, hnm, Option.some.injEq]
      exact ⟨hrk.1, fun _ name hn => hn ▸ hrk.2⟩

theorem directBelowRaw_node {rank : Fullname → Nat} {owner : Fullname} {raw t o of oi ov enc}
    (hraw : raw.asNode = some (t, o, of, oi, ov)) (hd : directBelowRaw rank owner enc raw = true)
    (ht : t = .record) {name : String} (hn : o.bind (·.name) = some name) :
    rank (fullnameOfDef name (o.bind (·.nsAttr)) enc) < rank owner := by
  rcases RawSchema.asNode_some hraw with ⟨-, rfl, -⟩ | ⟨a, rfl, rfl, rfl⟩
  · cases hn
  · have hn : a.name = some name := hn
    simpa only [directBelowRaw, ht, hn, decide_eq_true_eq, Option.bind_some] using hd

/-! ### registration of ranked trees -/

inductive All₂ {α β : Type} (R : α → β → Prop) : List α → List β → Prop
  | nil : All₂ R [] []
  | cons {a b l1 l2} : R a b → All₂ R l1 l2 → All₂ R (a :: l1) (b :: l2)

/-- the key of a schema that sits directly below `owner` is resolved and points below it -/
def KeyBelow (rank : Fullname → Nat) (stF : PState) (owner : Fullname) (enc : Option String)
    (r : RawSchema) (k : PKey) : Prop :=
  directBelowRaw rank owner enc r = true → ∃ t, k = .idx t ∧ RecBelow rank stF t (rank owner)

theorem fieldsBelow_of {owner : Fullname} {enc} {l : List RawSchema} {ks : List PKey}
    (h : All₂ (KeyBelow rank stF owner enc) l ks)
    (hd : ∀ r ∈ l, directBelowRaw rank owner enc r = true) (names : List String) :
    FieldsBelow rank stF (names.zip ks) (rank owner) := by
  induction h generalizing names with
  | nil => intro p hp; simp at hp
  | cons hk _ ih =>
    cases names with
    | nil => intro p hp; simp at hp
    | cons n names =>
      intro p hp
      simp only [List.zip_cons_cons, List.mem_cons] at hp
      rcases hp with rfl | hp
      · exact hk (hd _ List.mem_cons_self)
      · exact ih (fun r hr => hd r (List.mem_cons_of_mem _ hr)) names p hp

theorem _root_.Avro.Impl.Reg.ranked {l : List RawSchema} {enc st ks st'}
    (h : Reg l enc st ks st') (hun : st'.unresolved = st.unresolved)
    (hag : Agree stF st' st.nodes.size) (hrk : rankedRawList rank enc l = true)
    (hinv : NamesInv stF st) :
    NamesInv stF st' ∧ GoodRange rank stF st.nodes.size st'.nodes.size ∧
    ∀ owner, All₂ (KeyBelow rank stF owner enc) l ks := by
  induction h with
  | nil => exact ⟨hinv, GoodRange.empty _, fun _ => .nil⟩
  | @found r _ enc _ _ _ _ hl _ ih =>
    simp only [rankedRawList, rankedRaw, Bool.true_and] at hrk
    obtain ⟨hi, hg, hk⟩ := ih hun hag hrk hinv
    refine ⟨hi, hg, fun owner => .cons (fun hd => ⟨_, rfl, ?_⟩) (hk owner)⟩
    intro nm fs lg hnode
    rw [hinv _ _ hl nm fs lg hnode]
    have e : ((refKey r enc).ns, (refKey r enc).name) = fullnameOfRef r enc := by
      rw [refKey_eq_spec]
    rw [e]
    simpa [directBelowRaw] using hd
  | pending _ hrest _ =>
    obtain ⟨l, e⟩ := hrest.le.unres
    rw [hun] at e
    simp at e
  | @union _ _ _ st keys st2 _ st' hkids hrest ihk ih =>
    simp only [rankedRawList, rankedRaw, Bool.and_eq_true] at hrk
    have hlek := hkids.le
    have hsz : st.nodes.size + 1 ≤ st2.nodes.size := by simpa using hlek.size
    obtain ⟨hu2, hu'⟩ := unres_mid (a := st.reserve) hlek.unres (c := st') hrest.le.unres hun
    obtain ⟨hF, hag2⟩ := hag.node hsz hrest.le
    obtain ⟨hinv2, hg2, -⟩ := ihk hu2 (by simpa using hag2) hrk.1 (hinv.of_names rfl)
    obtain ⟨hinv', hg', hk'⟩ := ih hu'
      (by simpa using hag.tail (by omega : st.nodes.size ≤ st2.nodes.size))
      hrk.2 (hinv2.of_names rfl)
    refine ⟨hinv', ?_, fun owner =>
      .cons (fun _ => ⟨_, rfl, RecBelow.of_node hF (by intro nm fs h; cases h)⟩) (hk' owner)⟩
    have hg2' : GoodRange rank stF (st.nodes.size + 1) st2.nodes.size := by simpa using hg2
    have hg'' : GoodRange rank stF st2.nodes.size st'.nodes.size := by simpa using hg'
    exact ((GoodRange.single hF (by intro nm fs h; cases h)).append hg2').append hg''
  | @node raw _ enc st t o of oi ov nk st1 b kks st2 lt _ st' hraw hn hb hkids hlog hrest ihk ih =>
    simp only [rankedRawList, Bool.and_eq_true] at hrk
    obtain ⟨hn1, hu1, -⟩ := nameStep_ok hn
    have hnk := nameStep_key hn
    have hlek := hkids.le
    have hsz1 : st1.nodes.size = st.nodes.size + 1 := by rw [hn1]; simp
    have hsz : st.nodes.size + 1 ≤ st2.nodes.size := hsz1 ▸ hlek.size
    obtain ⟨hu2, hu'⟩ := unres_mid (a := st1) hlek.unres (c := st') hrest.le.unres
      (by rw [hu1]; exact hun)
    obtain ⟨hF, hag2⟩ := hag.node hsz hrest.le
    obtain ⟨hrkids, hdirect⟩ := rankedRaw_node hraw (hnk ▸ hb) hrk.1
    -- the node, when it is a record
    have hrec : ∀ nm fs, b.build kks = .record nm fs → t = .record ∧ ∃ name,
        ∃ fields : List (String × RawSchema), o.bind (·.name) = some name ∧
        nk = some (defKey name (o.bind (·.nsAttr)) enc) ∧
        nm = (defKey name (o.bind (·.nsAttr)) enc).toName ∧
        fs = (fields.map (·.1)).zip kks := by
      intro nm fs hty
      obtain ⟨key, fields, -, ht, hkey, -, hnm, hfs⟩ := bodyOf_build_record hb hty
      obtain ⟨name, hname, rfl⟩ := Option.map_eq_some_iff.mp (hnk ▸ hkey)
      exact ⟨ht, name, fields, hname, hkey, hnm, hfs⟩
    have hinv1 : NamesInv stF st1 := by
      refine hinv.step hn hF fun nm fs hty key hkey => ?_
      obtain ⟨-, name, _, -, e, hnm, -⟩ := hrec nm fs hty
      rw [e] at hkey
      cases hkey; exact hnm
    obtain ⟨hinv2, hg2, hk2⟩ := ihk hu2 (hsz1 ▸ hag2) hrkids hinv1
    obtain ⟨hinv', hg', hk'⟩ := ih hu'
      (by simpa using hag.tail (by omega : st.nodes.size ≤ st2.nodes.size))
      hrk.2 (hinv2.of_names rfl)
    refine ⟨hinv', ?_, fun owner =>
      .cons (fun hd => ⟨_, rfl, RecBelow.of_node hF fun nm fs hty => ?_⟩) (hk' owner)⟩
    · have hg2' : GoodRange rank stF (st.nodes.size + 1) st2.nodes.size := hsz1 ▸ hg2
      have hg'' : GoodRange rank stF st2.nodes.size st'.nodes.size := by simpa using hg'
      refine ((GoodRange.single hF fun nm fs hty => ?_).append hg2').append hg''
      obtain ⟨ht, name, fields, hname, -, hnm, hfs⟩ := hrec nm fs hty
      rw [hnm, nameFn_defKey, hfs]
      exact fieldsBelow_of (hk2 _) (hdirect ht name hname) _
    · obtain ⟨ht, name, _, hname, -, hnm, -⟩ := hrec nm fs hty
      rw [hnm, nameFn_defKey]
      exact directBelowRaw_node hraw hd ht hname

/-! ### a ranked graph has no record cycle -/

theorem isRecord_inv {S : SchemaMut} {i : Nat} (h : isRecord S i = true) :
    ∃ nm fs lg, S[i]? = some ⟨.record nm fs, lg⟩ := by
  unfold isRecord at h
  split at h
  · rename_i nm fs lg hi; exact ⟨_, _, _, hi⟩
  · cases h

theorem graphOf_record {stF : PState} {i : Nat} {nm : Name} {fs' : List (String × Nat)}
    {lg : Option LogicalType} (h : (graphOf stF)[i]? = some ⟨.record nm fs', lg⟩) :
    ∃ fs, stF.nodes[i]? = some ⟨.record nm fs, lg⟩ ∧
      fs' = fs.map fun p => (p.1, resolveKey stF p.2) := by
  cases hn : stF.nodes[i]? with
  | none => simp [graphOf, hn] at h
  | some n =>
    rw [graphOf_get hn] at h
    obtain ⟨ty, lg'⟩ := n
    simp only [Option.some.injEq, RawNode.mk.injEq] at h
    obtain ⟨hty, rfl⟩ := h
    cases ty <;> simp only [resolveType, reduceCtorEq, RegularType.record.injEq] at hty
    obtain ⟨rfl, rfl⟩ := hty
    exact ⟨_, rfl, rfl⟩

/-- rank of a node of the graph: that of its name if it is a record -/
def rankAt (rank : Fullname → Nat) (S : SchemaMut) (i : Nat) : Nat :=
  match S[i]? with
  | some ⟨.record nm _, _⟩ => rank (nameFn nm)
  | _ => 0

theorem recEdge_rank {rank : Fullname → Nat} {stF : PState}
    (hg : GoodRange rank stF 0 stF.nodes.size) {i j : Nat}
    (e : recEdge (graphOf stF) i j) :
    rankAt rank (graphOf stF) j < rankAt rank (graphOf stF) i := by
  obtain ⟨hi, hj, hmem⟩ := e
  obtain ⟨nmi, fsi', lgi, hSi⟩ := isRecord_inv hi
  obtain ⟨nmj, fsj', lgj, hSj⟩ := isRecord_inv hj
  obtain ⟨fsi, hFi, rfl⟩ := graphOf_record hSi
  obtain ⟨fsj, hFj, rfl⟩ := graphOf_record hSj
  have hlt : i < stF.nodes.size := by
    cases Nat.lt_or_ge i stF.nodes.size with
    | inl h => exact h
    | inr h => rw [Array.getElem?_eq_none h] at hFi; cases hFi
  simp only [recordFieldKeys, hSi, List.map_map, List.mem_map, Function.comp] at hmem
  obtain ⟨p, hp, hpj⟩ := hmem
  obtain ⟨t, hpt, hbelow⟩ := hg i (Nat.zero_le _) hlt nmi fsi lgi hFi p hp
  rw [hpt] at hpj
  simp only [resolveKey] at hpj
  subst hpj
  simp only [rankAt, hSi, hSj]
  exact hbelow nmj fsj lgj hFj

theorem transGen_rank {rank : Fullname → Nat} {stF : PState}
    (hg : GoodRange rank stF 0 stF.nodes.size) {i j : Nat}
    (p : Relation.TransGen (recEdge (graphOf stF)) i j) :
    rankAt rank (graphOf stF) j < rankAt rank (graphOf stF) i := by
  induction p with
  | single e => exact recEdge_rank hg e
  | tail _ e ih => exact Nat.lt_trans (recEdge_rank hg e) ih

theorem ranked_acyclic {rank : Fullname → Nat} {f : Nat} {raw : RawSchema} {k : PKey}
    {st : PState} (hreg : registerNode f raw none {} = .ok (k, st))
    (hun : st.unresolved = []) (hrk : rankedRaw rank none raw = true) :
    ¬ ∃ i, Relation.TransGen (recEdge (graphOf st)) i i := by
  have hinv : NamesInv st ({} : PState) := by intro key t h; simp at h
  obtain ⟨-, hg, -⟩ := (registerNode_reg hreg).ranked (rank := rank) (stF := st)
    (by simpa using hun) (fun _ _ _ => rfl)
    (by simpa only [rankedRawList, Bool.and_true] using hrk) hinv
  rintro ⟨i, p⟩
  exact Nat.lt_irrefl _ (transGen_rank (by simpa using hg) p)

end Avro.ValidParses
