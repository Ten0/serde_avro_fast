import AvroModel.Lemmas.SerBase
import AvroModel.Lemmas.ExceptEq
import AvroModel.Lemmas.Varint
/-
What the serializer's primitives write on a writer that never fails (`budget = none`); two's
complement and `serIntegerAsDecimal`; `viaUnion`/`viaName` on a union node as a case distinction
(`viaUnion_union`, `viaName_union`).
-/
namespace Avro
open Avro.Spec Avro.Impl

theorem writeVarI64_none (i : Int) (s : SerState) (h : s.budget = none) :
    writeVarI64 i s = (.ok (), { s with out := s.out ++ encodeVarI64 i }) := by
  simp [writeVarI64, writeAll, h]

theorem writeVarI64_spec (i : Int) (hi : InI64 i) (s : SerState) (h : s.budget = none) :
    writeVarI64 i s = (.ok (), { s with out := s.out ++ encodeLong i }) := by
  rw [writeVarI64_none i s h, encodeVarI64_eq_spec i hi]

theorem writeLengthDelimited_none (bs : Bytes) (hl : bs.length < 2 ^ 63) (s : SerState)
    (h : s.budget = none) :
    writeLengthDelimited bs s = (.ok (), { s with out := s.out ++ lenPrefixed bs }) := by
  have hi : InI64 (bs.length : Int) := inI64_of_lt hl
  simp only [writeLengthDelimited, bind, writeVarI64_spec _ hi s h]
  rw [writeAll_none _ _ (by simpa using h)]
  simp [lenPrefixed]

theorem eq_ok_of_isOk {ε : Type} {r : Except ε Unit} (h : r.isOk = true) : r = .ok () :=
  let ⟨(), e⟩ := exists_ok_of_isOk h
  e

/-- A closed run is checked component by component: `Except` has no decidable equality. -/
theorem run_eq_of {r : Except SerErr Unit × SerState} {o : Bytes} {b : Option Nat} {p : Pool}
    (h : r.1.isOk = true ∧ r.2.out = o ∧ r.2.budget = b ∧ r.2.pool = p) :
    r = (.ok (), { out := o, budget := b, pool := p }) := by
  obtain ⟨r1, _, _, _⟩ := r
  obtain ⟨h1, rfl, rfl, rfl⟩ := h
  have h1 : r1 = .ok () := eq_ok_of_isOk h1
  rw [h1]

theorem strBytes_eq_utf8 (s : String) : strBytes s = utf8 s := rfl

theorem utf8_of_fromUTF8? {b : Bytes} {str : String}
    (h : String.fromUTF8? (ByteArray.mk b.toArray) = some str) : utf8 str = b := by
  unfold String.fromUTF8? at h
  split at h
  · simp at h; subst h; simp [utf8, String.fromUTF8, String.toUTF8]
  · simp at h

theorem validUtf8_iff (b : Bytes) : validUtf8 b = true ↔ ∃ str, utf8 str = b := by
  constructor
  · intro hv
    unfold validUtf8 at hv
    rw [Option.isSome_iff_exists] at hv
    obtain ⟨str, hstr⟩ := hv
    exact ⟨str, utf8_of_fromUTF8? hstr⟩
  · rintro ⟨str, rfl⟩
    simp [validUtf8, fromUTF8?_utf8]

theorem leToNat_append (xs ys : Bytes) : leToNat (xs ++ ys) = leToNat xs + 256 ^ xs.length * leToNat ys := by
  induction xs with
  | nil => simp [leToNat]
  | cons x xs ih =>
    simp only [List.cons_append, leToNat, ih, List.length_cons, Nat.pow_succ]
    rw [Nat.mul_add, Nat.add_assoc, ← Nat.mul_assoc, Nat.mul_comm 256 (256 ^ xs.length)]

theorem beToNat_cons (b : UInt8) (bs : Bytes) :
    beToNat (b :: bs) = b.toNat * 256 ^ bs.length + beToNat bs := by
  simp only [beToNat, List.reverse_cons, leToNat_append, leToNat, List.length_reverse]
  rw [Nat.mul_zero, Nat.add_zero, Nat.mul_comm]; omega

theorem beToNat_lt (bs : Bytes) : beToNat bs < 256 ^ bs.length := by
  have := leToNat_lt bs.reverse
  simpa [beToNat] using this

theorem pow2_8 (n : Nat) : (2 : Int) ^ (8 * n) = ((256 ^ n : Nat) : Int) := by
  have : (2 : Nat) ^ (8 * n) = 256 ^ n := by
    rw [Nat.pow_mul]
  rw [← this]; simp

theorem fromTwos_cons (b : UInt8) (bs : Bytes) :
    fromTwosComplementBE (b :: bs) =
      ((b.toNat * 256 ^ bs.length + beToNat bs : Nat) : Int) -
        (if b.toNat ≥ 128 then ((256 ^ (bs.length + 1) : Nat) : Int) else 0) := by
  simp only [fromTwosComplementBE, beToNat_cons, List.length_cons, pow2_8]
  split <;> simp

theorem fromTwos_signExt_one (fill h : UInt8) (tl : Bytes)
    (hs : (fill = 0 ∧ h.toNat < 128) ∨ (fill = 255 ∧ h.toNat ≥ 128)) :
    fromTwosComplementBE (fill :: h :: tl) = fromTwosComplementBE (h :: tl) := by
  rw [fromTwos_cons fill, fromTwos_cons h, beToNat_cons]
  have hlt := beToNat_lt tl
  simp only [List.length_cons, Nat.pow_succ]
  generalize 256 ^ tl.length = Q at *
  rcases hs with ⟨rfl, hh⟩ | ⟨rfl, hh⟩
  · have hn : ¬ h.toNat ≥ 128 := by omega
    have e : (0 : UInt8).toNat = 0 := rfl
    rw [e, if_neg hn, if_neg (by omega)]
    omega
  · have e : (255 : UInt8).toNat = 255 := rfl
    rw [e, if_pos hh, if_pos (by omega)]
    omega

theorem fromTwos_signExt (fill : UInt8) (pre : Bytes) (h : UInt8) (tl : Bytes)
    (hpre : ∀ x ∈ pre, x = fill)
    (hs : (fill = 0 ∧ h.toNat < 128) ∨ (fill = 255 ∧ h.toNat ≥ 128)) :
    fromTwosComplementBE (pre ++ h :: tl) = fromTwosComplementBE (h :: tl) := by
  induction pre with
  | nil => rfl
  | cons x pre ih =>
    have hx : x = fill := hpre x (by simp)
    have ih' := ih (fun y hy => hpre y (by simp [hy]))
    subst hx
    cases pre with
    | nil => exact fromTwos_signExt_one x h tl hs
    | cons y pre' =>
      have hy : y = x := hpre y (by simp)
      subst hy
      rw [← ih']
      simp only [List.cons_append]
      apply fromTwos_signExt_one
      rcases hs with ⟨rfl, _⟩ | ⟨rfl, _⟩
      · left; exact ⟨rfl, by decide⟩
      · right; exact ⟨rfl, by decide⟩

theorem i128be_length (n : Int) : (i128be n).length = 16 := by simp [i128be, beBytes_length]

theorem i128be_eq_twos {n : Int} (h : inI128 n = true) : twosComplementBE 16 n = some (i128be n) := by
  simp only [inI128, decide_eq_true_eq] at h
  have e : (2 : Int) ^ 127 = 170141183460469231731687303715884105728 := by decide
  rw [e] at h
  simp [twosComplementBE, i128be, h]

theorem i128be_roundtrip {n : Int} (h : inI128 n = true) : fromTwosComplementBE (i128be n) = n :=
  fromTwosComplementBE_of_twos (i128be_eq_twos h)

theorem stripZeros_le (bs : Bytes) : stripZeros bs ≤ bs.length - 1 := by
  fun_induction stripZeros bs <;> simp_all <;> omega

theorem stripZeros_sound (bs : Bytes) :
    fromTwosComplementBE (bs.drop (stripZeros bs)) = fromTwosComplementBE bs := by
  fun_induction stripZeros bs with
  | case1 b0 b1 rest hc ih =>
    have h1 : b1.toNat < 128 := (and_128_eq_zero_iff _ b1.toNat_lt).1 hc.2
    rw [Nat.add_comm, List.drop_succ_cons, ih, hc.1]
    exact (fromTwos_signExt_one 0 b1 rest (Or.inl ⟨rfl, h1⟩)).symm
  | case2 => simp
  | case3 => simp

theorem ite_fail_ok {c : Prop} [Decidable c] {α : Type} {m : SerM α} {e : SerErr} {s : SerState}
    {a : α} (h : ((if c then m else SerM.fail e) s).1 = .ok a) : c := by
  by_cases hc : c
  · exact hc
  · simp [hc, SerM.fail] at h

/-- What `serialize_integer` writes on a `decimal`/`bytes` node for the unscaled value `n`. -/
def stripped (n : Int) : Bytes := (i128be n).drop (stripZeros (i128be n))

theorem stripped_length_le (n : Int) : (stripped n).length ≤ 16 := by
  simp [stripped, i128be_length]

theorem stripped_sound {n : Int} (h : inI128 n = true) : fromTwosComplementBE (stripped n) = n := by
  rw [stripped, stripZeros_sound, i128be_roundtrip h]

/-- `serialize_integer` on `decimal`/`bytes`: success means that `v * 10 ^ scale` fits `i128`, and
    the bytes are the length-prefixed `stripped` mantissa (D5: zero bytes were stripped without
    keeping the sign bit). -/
theorem serIntegerAsDecimal_bytes (scale : Nat) (v : Int) (s : SerState) (h : s.budget = none)
    (hok : (serIntegerAsDecimal scale .bytes v s).1 = .ok ()) :
    inI128 (v * (10 : Int) ^ scale) = true ∧
      serIntegerAsDecimal scale .bytes v s =
        (.ok (), { s with out := s.out ++ lenPrefixed (stripped (v * (10 : Int) ^ scale)) }) := by
  unfold serIntegerAsDecimal at hok ⊢
  by_cases h1 : inI128 v = true
  case neg => simp [h1, SerM.fail] at hok
  by_cases h2 : inI128 ((10 : Int) ^ scale) = true
  case neg => simp [h1, h2] at hok
  by_cases h3 : inI128 (v * (10 : Int) ^ scale) = true
  case neg => simp [h1, h2, h3] at hok
  simp only [h1, h2, h3, Bool.not_true, Bool.false_eq_true, if_false]
  exact ⟨trivial, writeLengthDelimited_none _
    (Nat.lt_of_le_of_lt (stripped_length_le _) (by decide)) s h⟩

/-- `serialize_integer` on `decimal`/`fixed`: success means `size ≤ 16`, and only sign extension
    is dropped (D6). -/
theorem serIntegerAsDecimal_fixed (scale : Nat) (nm : Name) (size : Nat) (v : Int) (s : SerState)
    (h : s.budget = none) :
    (serIntegerAsDecimal scale (.fixed nm size) v s).1 = .ok () →
    size ≤ 16 ∧ ∃ m : Bytes, m.length = size ∧
      serIntegerAsDecimal scale (.fixed nm size) v s = (.ok (), { s with out := s.out ++ m }) ∧
      fromTwosComplementBE m = v * (10 : Int) ^ scale := by
  intro hok
  unfold serIntegerAsDecimal at hok ⊢
  by_cases h1 : inI128 v = true
  case neg => simp [h1, SerM.fail] at hok
  by_cases h2 : inI128 ((10 : Int) ^ scale) = true
  case neg => simp [h1, h2] at hok
  by_cases h3 : inI128 (v * (10 : Int) ^ scale) = true
  case neg => simp [h1, h2, h3] at hok
  simp only [h1, h2, h3, Bool.not_true, Bool.false_eq_true, if_false] at hok ⊢
  by_cases h4 : size ≤ 16
  case neg => simp [h4, SerM.fail] at hok
  simp only [h4, if_true] at hok ⊢
  generalize hn : v * (10 : Int) ^ scale = n at *
  have hlen := i128be_length n
  have hrt := i128be_roundtrip h3
  generalize i128be n = bytes at *
  have hfits := ite_fail_ok hok
  rw [if_pos hfits]
  refine ⟨trivial, bytes.drop (16 - size), by simp [hlen]; omega, writeAll_none _ s h, ?_⟩
  rw [Bool.and_eq_true, List.all_eq_true] at hfits
  obtain ⟨hpre, hrest⟩ := hfits
  have hsplit : bytes = bytes.take (16 - size) ++ bytes.drop (16 - size) := (List.take_append_drop _ _).symm
  cases hd : bytes.drop (16 - size) with
  | nil =>
    have : bytes[16 - size]? = none := by
      have : bytes.length ≤ 16 - size := by simpa using hd
      simp [this]
    rw [this] at hrest
    simp at hrest
    simp [fromTwosComplementBE, hrest]
  | cons b tl =>
    have hb : bytes[16 - size]? = some b := by
      have := List.getElem?_drop (xs := bytes) (i := 16 - size) (j := 0)
      rw [hd] at this; simpa using this.symm
    rw [hb] at hrest
    simp only [decide_eq_true_eq] at hrest
    rw [← hrt]
    conv => rhs; rw [hsplit, hd]
    symm
    apply fromTwos_signExt (if n < 0 then 0xFF else 0x00)
    · intro x hx; simpa using hpre x hx
    · have hbb : (b.toNat &&& 0x80 = 0) ↔ b.toNat < 128 := and_128_eq_zero_iff _ b.toNat_lt
      by_cases hneg : n < 0
      · right; simp only [hneg, if_true]; refine ⟨trivial, ?_⟩
        have : b.toNat &&& 0x80 ≠ 0 := by rw [hrest]; exact hneg
        omega
      · left; simp only [hneg, if_false]; refine ⟨trivial, ?_⟩
        have : ¬ (b.toNat &&& 0x80 ≠ 0) := by rw [hrest]; exact hneg
        omega

/-- A union branch registers nothing, so the unnamed lookup never selects a union. -/
theorem unnamed_never_union {key : LookupKey} {bs : List Node} {d : Nat}
    (h : unnamedLookup key bs = some d) : ∀ vs', bs[d]? ≠ some (.union vs') := by
  intro vs' hc
  obtain ⟨n, p, hn, hp⟩ := unnamedLookup_some h
  rw [hc] at hn
  simp only [Option.some.injEq] at hn; subst hn
  cases hp

theorem branchNodes_getElem? (S : Schema) (vs : List Nat) (d : Nat) :
    (branchNodes S vs)[d]? = (vs[d]?).map fun k => S[k]?.getD .null := by
  simp [branchNodes]

theorem viaBranch_bind {α β : Type} (S : Schema) (vs : List Nat) (d : Nat) (f : Node → SerM α)
    (g : α → SerM β) : (viaBranch S vs d f >>= g) = viaBranch S vs d (fun n => f n >>= g) := by
  funext s
  simp only [viaBranch, bind]
  cases writeVarI64 (d : Int) s with
  | mk r s1 =>
    cases r with
    | error e => rfl
    | ok u =>
      simp only []
      cases vs[d]? with
      | none => rfl
      | some k => simp only []; cases S[k]? <;> rfl

theorem viaBranch_run {α : Type} (S : Schema) (vs : List Nat) {d : Nat} (hd : d < vs.length)
    (f : Node → SerM α) (s : SerState) (h : s.budget = none) :
    ∃ k, vs[d]? = some k ∧
      ((S[k]? = none ∧ viaBranch S vs d f s =
          (.error .panic, { s with out := s.out ++ encodeVarI64 d })) ∨
       (∃ n, S[k]? = some n ∧ viaBranch S vs d f s =
          f n { s with out := s.out ++ encodeVarI64 d })) := by
  have hk : vs[d]? = some vs[d] := List.getElem?_eq_getElem hd
  refine ⟨vs[d], hk, ?_⟩
  cases hn : S[vs[d]]? with
  | none => left; simp [viaBranch, bind, writeVarI64_none _ s h, hk, hn, SerM.fail]
  | some n => right; exact ⟨n, rfl, by simp [viaBranch, bind, writeVarI64_none _ s h, hk, hn]⟩

theorem viaUnion_union {α : Type} (S : Schema) (vs : List Nat) (key : LookupKey) (f : Node → SerM α)
    (s : SerState) (h : s.budget = none) :
    (unnamedLookup key (branchNodes S vs) = none ∧
      viaUnion S (.union vs) key f s = (.error .custom, s)) ∨
    (∃ d k, unnamedLookup key (branchNodes S vs) = some d ∧ d < vs.length ∧ vs[d]? = some k ∧
      ((S[k]? = none ∧ viaUnion S (.union vs) key f s =
          (.error .panic, { s with out := s.out ++ encodeVarI64 d })) ∨
       (∃ n, S[k]? = some n ∧ viaUnion S (.union vs) key f s =
          f n { s with out := s.out ++ encodeVarI64 d }))) := by
  rw [viaUnion_union_eq]
  cases hl : unnamedLookup key (branchNodes S vs) with
  | none => exact Or.inl ⟨rfl, rfl⟩
  | some d =>
    have hd : d < vs.length := by have := unnamedLookup_lt hl; rwa [branchNodes_length] at this
    obtain ⟨k, hk, hrun⟩ := viaBranch_run S vs hd f s h
    exact Or.inr ⟨d, k, rfl, hd, hk, hrun⟩

theorem viaName_union {α : Type} (S : Schema) (vs : List Nat) (name : String) (f : Node → SerM α)
    (s : SerState) (h : s.budget = none) :
    (namedLookup name (branchNodes S vs) = none ∧
      viaName S (.union vs) name f s = f (.union vs) s) ∨
    (∃ d k, namedLookup name (branchNodes S vs) = some d ∧ d < vs.length ∧ vs[d]? = some k ∧
      ((S[k]? = none ∧ viaName S (.union vs) name f s =
          (.error .panic, { s with out := s.out ++ encodeVarI64 d })) ∨
       (∃ n, S[k]? = some n ∧ viaName S (.union vs) name f s =
          f n { s with out := s.out ++ encodeVarI64 d }))) := by
  rw [viaName_union_eq]
  cases hl : namedLookup name (branchNodes S vs) with
  | none => exact Or.inl ⟨rfl, rfl⟩
  | some d =>
    have hd : d < vs.length := by have := namedLookup_lt hl; rwa [branchNodes_length] at this
    obtain ⟨k, hk, hrun⟩ := viaBranch_run S vs hd f s h
    exact Or.inr ⟨d, k, rfl, hd, hk, hrun⟩

end Avro
