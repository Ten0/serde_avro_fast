import AvroModel.Lemmas.CutClassDe
import AvroModel.Lemmas.SliceReader
/-
The truncation simulation of `Lemmas/CutClassDe.lean` under an `io::Take` (`TSimL`, `TRelL`), i.e.
inside a `big-decimal`: when `VarIntReader::read_varint` (`varintProcessor`) reaches the end of the
cut input its buffer holds continuation bytes only, so `decode` answers `None` and the error is
`UnexpectedEof` (class `io`).  With that, `TRel` is a logic for the walk of `Lemmas/DeWalk.lean` on
any set of hints without `.ignored` (`trel_logic`).
-/
namespace Avro.Theorems.Cut
open Avro Avro.Impl Avro.Theorems

/-- `OutT` with `TSimL` for the final states. -/
def OutL (z : Bytes) {α β : Type} (R : α → β → Prop)
    (x : Except DeErr α × RState) (y : Except DeErr β × RState) : Prop :=
  match y with
  | (.error _, _) => True
  | (.ok b, sl') =>
    match x with
    | (.ok a, r') => R a b ∧ TSimL z r' sl'
    | (.error e, _) => e = .io

def TRelL (z : Bytes) {α β : Type} (R : α → β → Prop) (m : DeM α) (m' : DeM β) : Prop :=
  ∀ r sl, TSimL z r sl → OutL z R (m r) (m' sl)

variable {z : Bytes}

theorem OutL.inv {α β : Type} {R : α → β → Prop}
    {x : Except DeErr α × RState} {y : Except DeErr β × RState} (h : OutL z R x y) :
    (∃ e sl', y = (.error e, sl')) ∨
    (∃ b sl', y = (.ok b, sl') ∧
      ((∃ a r', x = (.ok a, r') ∧ R a b ∧ TSimL z r' sl') ∨ ∃ r', x = (.error .io, r'))) := by
  obtain ⟨(e | a), r'⟩ := x <;> obtain ⟨(e' | b), sl'⟩ := y
  · exact .inl ⟨_, _, rfl⟩
  · have : e = .io := h
    subst this
    exact .inr ⟨b, sl', rfl, .inr ⟨r', rfl⟩⟩
  · exact .inl ⟨_, _, rfl⟩
  · exact .inr ⟨b, sl', rfl, .inl ⟨a, r', rfl, h.1, h.2⟩⟩

theorem OutL.of_io {α β : Type} {R : α → β → Prop} {r' : RState}
    (y : Except DeErr β × RState) : OutL z R ((.error .io : Except DeErr α), r') y := by
  obtain ⟨(e | b), sl'⟩ := y
  · trivial
  · rfl

theorem TRelL.pure {α β : Type} {R : α → β → Prop} {a : α} {b : β} (h : R a b) :
    TRelL z R (pure a) (pure b) := fun _ _ hs => ⟨h, hs⟩

theorem TRelL.fail {α β : Type} {R : α → β → Prop} {m : DeM α} {e' : DeErr} :
    TRelL z R m (DeM.fail e' : DeM β) := fun _ _ _ => trivial

theorem TRelL.bind {α β γ δ : Type} {R : α → β → Prop} {R' : γ → δ → Prop}
    {m : DeM α} {m' : DeM β} {f : α → DeM γ} {f' : β → DeM δ}
    (h1 : TRelL z R m m') (h2 : ∀ a b, R a b → TRelL z R' (f a) (f' b)) :
    TRelL z R' (m >>= f) (m' >>= f') := by
  intro r sl hs
  rw [DeM.bind_apply, DeM.bind_apply]
  rcases (h1 r sl hs).inv with ⟨e, sl', e2⟩ | ⟨b, sl', e2, ⟨a, r', e1, hab, h3⟩ | ⟨r', e1⟩⟩
  · rw [e2]; trivial
  · rw [e1, e2]; exact h2 a b hab r' sl' h3
  · rw [e1, e2]; exact OutL.of_io _

theorem TSimL.eff_le {r sl : RState} (hs : TSimL z r sl) : r.eff ≤ sl.eff := by
  have hlen : sl.rest.length = r.rest.length + z.length := by rw [hs.rest, List.length_append]
  unfold RState.eff
  rw [hs.lim]
  cases sl.limit <;> simp only <;> omega

theorem readExact_trelL (k : Nat) : TRelL z (· = ·) (readExact k) (readExact k) := by
  intro r sl hs
  have hr := readExact_spec k r hs.wf_reader
  have hsl := readExact_spec k sl hs.wf_slice
  by_cases hk : k ≤ sl.eff
  · obtain ⟨sl', e2, a2⟩ := hsl.1 hk
    rw [e2]
    by_cases hk' : k ≤ r.eff
    · obtain ⟨r', e1, a1⟩ := hr.1 hk'
      have hkr : k ≤ r.rest.length := Nat.le_trans hk' r.eff_le_rest
      rw [e1]
      refine ⟨?_, hs.adv hkr a1 a2⟩
      rw [hs.rest, List.take_append_of_le_length hkr]
    · obtain ⟨r', e1⟩ := hr.2 (by omega)
      rw [e1]
      rfl
  · obtain ⟨sl', e2⟩ := hsl.2 (by omega)
    rw [e2]; trivial

theorem getLimit_trelL : TRelL z (· = ·) getLimit getLimit :=
  fun _ _ hs => ⟨hs.lim, hs⟩

theorem decode_trelL (t : VarTy) (buf : Bytes) :
    TRelL z (· = ·)
      (match decodeVar t buf with
       | some (v, _) => (pure v : DeM Int)
       | none => DeM.fail .io)
      (match decodeVar t buf with
       | some (v, _) => (pure v : DeM Int)
       | none => DeM.fail .io) := by
  split
  · exact TRelL.pure rfl
  · exact TRelL.fail

/-- One `read` of one byte: in lockstep (nothing on both sides when the limit is exhausted), or the
    reader is at the end of the cut input. -/
theorem readSome_one_L {r sl : RState} (hs : TSimL z r sl) :
    ∃ g r', readSome 1 r = (.ok g, r') ∧
      ((∃ sl', readSome 1 sl = (.ok g, sl') ∧ TSimL z r' sl') ∨ g = []) := by
  obtain ⟨m, r', hrs, hm1, hm2, hmpos, hadv⟩ := readSome_spec 1 r hs.wf_reader
  obtain ⟨m', sl', hrs', hm1', hm2', hmpos', hadv'⟩ := readSome_spec 1 sl hs.wf_slice
  have hlim : sl.lim 1 = r.lim 1 := by unfold RState.lim; rw [hs.lim]
  have hle : r.lim 1 ≤ 1 := by unfold RState.lim; cases r.limit <;> simp only <;> omega
  refine ⟨_, r', hrs, ?_⟩
  by_cases hl0 : r.lim 1 = 0
  · left
    have e1 : m = 0 := by omega
    have e2 : m' = 0 := by omega
    subst e1; subst e2
    exact ⟨sl', by rw [hrs']; simp, hs.adv (Nat.zero_le _) hadv hadv'⟩
  · cases hr : r.rest with
    | nil =>
      right
      simp
    | cons b tl =>
      left
      have e1 : m = 1 := by
        have := hmpos hl0 (by simp [hr]); omega
      have hslr : sl.rest = b :: (tl ++ z) := by rw [hs.rest, hr]; rfl
      have e2 : m' = 1 := by
        have := hmpos' (by omega) (by simp [hslr]); omega
      subst e1; subst e2
      refine ⟨sl', ?_, hs.adv (by simp [hr]) hadv hadv'⟩
      rw [hrs', hslr]; rfl

/-- `VarIntReader::read_varint` under the `Take` of a big-decimal.  The buffer holds continuation
    bytes only, as it does whenever the loop is entered unfinished in a run started on an empty one. -/
theorem varintProcessor_trelL (t : VarTy) (fuel : Nat) : ∀ buf : Bytes,
    (∀ x ∈ buf, x.toNat &&& 0x80 ≠ 0) →
    TRelL z (· = ·) (varintProcessor t fuel buf) (varintProcessor t fuel buf) := by
  induction fuel with
  | zero =>
    intro buf _
    unfold varintProcessor
    exact decode_trelL t buf
  | succ fuel ih =>
    intro buf hc
    unfold varintProcessor
    split
    · exact decode_trelL t buf
    · intro r sl hs
      obtain ⟨g, r', hrs, hcase⟩ := readSome_one_L hs
      have hnone : decodeVar t buf = none := decodeVar_allcont_none t buf hc
      rcases hcase with ⟨sl', hrs', hs'⟩ | hg
      · rw [DeM.bind_apply, DeM.bind_apply, hrs, hrs']
        dsimp only
        cases g with
        | nil =>
          dsimp only
          split
          · exact TRelL.fail r' sl' hs'
          · exact decode_trelL t buf r' sl' hs'
        | cons b tl =>
          dsimp only
          split
          · exact TRelL.fail r' sl' hs'
          · by_cases hb : b.toNat &&& 0x80 = 0
            · have hf : buf ++ [b] ≠ [] ∧ ((buf ++ [b]).getLast?.getD 0).toNat &&& 0x80 = 0 := by
                refine ⟨by simp, ?_⟩
                simp [hb]
              rw [varintProcessor_finished t fuel _ hf]
              exact decode_trelL t _ r' sl' hs'
            · refine ih (buf ++ [b]) ?_ r' sl' hs'
              intro x hx
              rcases List.mem_append.1 hx with hx | hx
              · exact hc x hx
              · have : x = b := by simpa using hx
                rw [this]; exact hb
      · -- the reader is at the end of the cut input
        subst hg
        rw [DeM.bind_apply, hrs]
        dsimp only
        split
        · exact OutL.of_io _
        · rw [hnone]
          exact OutL.of_io _

/-- The condition on the buffer is needed: with `00 80` in the buffer (never the case in a run
    started on an empty buffer) the reader at the end of its input would `decode` the value `0`
    out of the buffer while the slice goes on reading. -/
theorem varintProcessor_trelL_needs_cont :
    ¬ TRelL [1] (· = ·) (varintProcessor .i64 12 [0x00, 0x80])
      (varintProcessor .i64 12 [0x00, 0x80]) := by
  intro h
  have h := h { isSlice := false, rest := [], limit := some 1 }
    { isSlice := true, rest := [1], limit := some 1 } ⟨rfl, rfl, rfl, by decide, rfl, by decide⟩
  have hx : varintProcessor .i64 12 [0x00, 0x80] { isSlice := false, rest := [], limit := some 1 }
      = (.ok 0, { isSlice := false, rest := [], limit := some 1 }) := by rfl
  have hy : varintProcessor .i64 12 [0x00, 0x80] { isSlice := true, rest := [1], limit := some 1 }
      = (.ok 0, { isSlice := true, rest := [], limit := some 0 }) := by rfl
  rw [hx, hy] at h
  have := h.2.rest
  cases this

theorem take_trel {α β : Type} {R : α → β → Prop} {m : DeM α} {m' : DeM β} (l : Nat)
    (h : TRelL z R m m') :
    TRel z R (setLimit (some l) >>= fun _ => withLimitCleared m)
      (setLimit (some l) >>= fun _ => withLimitCleared m') := by
  intro r sl hs
  rw [DeM.bind_apply, DeM.bind_apply]
  simp only [setLimit, withLimitCleared]
  have hL : TSimL z { r with limit := some l } { sl with limit := some l } :=
    ⟨hs.reader, hs.slice, hs.rest, hs.avail, rfl, hs.alloc⟩
  rcases (h _ _ hL).inv with ⟨e, sl', e2⟩ | ⟨b, sl', e2, ⟨a, r', e1, hab, h2⟩ | ⟨r', e1⟩⟩
  · rw [e2]; trivial
  · rw [e1, e2]
    exact ⟨hab, h2.reader, h2.slice, h2.rest, h2.avail, rfl, rfl, h2.alloc⟩
  · rw [e1, e2]; rfl

theorem readBig_trel : TRel z (· = ·) readBigRaw readBigRaw := by
  unfold readBigRaw bigDecimalBody
  apply TRel.bind readLen_trel
  intro a b hab; subst hab
  refine take_trel _ ?_
  apply TRelL.bind (varintProcessor_trelL _ _ _ (by simp))
  intro a b hab; subst hab
  split
  · exact TRelL.fail
  · dsimp only
    split
    · exact TRelL.fail
    · apply TRelL.bind (readExact_trelL _)
      intro a b hab; subst hab
      apply TRelL.bind (varintProcessor_trelL _ _ _ (by simp))
      intro a b hab; subst hab
      split
      · exact TRelL.fail
      · apply TRelL.bind getLimit_trelL
        intro a b hab; subst hab
        split
        · exact TRelL.fail
        · exact TRelL.pure rfl

/-! ### The datum deserializer, every node kind -/

/-- The cut-input simulation is a logic for the walk of `Lemmas/DeWalk.lean` on any set of hints
    that never ignores: `skipBytes` on a reader that runs out of input answers `custom`, so the
    ignoring block reader is not in `TRel`. -/
theorem trel_logic {H : Hint → Prop} (hH : ¬ H .ignored) :
    DeLogic (@TRel z) (fun _ => Ro) (fun _ _ => True) H where
  toOutRel := ro_outRel
  pure := TRel.pure
  fail := TRel.fail
  bind := TRel.bind'
  varint := readVarint_trel
  exact := readExact_trel
  slice n := (readSlice_trel n).mono fun _ _ h => ⟨h, trivial⟩
  blockLen ign hi := by
    cases ign
    · exact fun r sl hs => readBlockLen_trel (r.rest.length + 1) (sl.rest.length + 1) r sl hs
    · exact absurd (hi rfl) hH
  big := readBig_trel

theorem readDecimal_trel (ext : DeExt) (mode : DecMode) (hint : DecHint) :
    TRel z Ro (readDecimal ext mode hint) (readDecimal ext mode hint) :=
  (trel_logic (H := fun _ => False) id).decimal 0 ext mode hint

theorem deTRel_all (z : Bytes) (ext : DeExt) (cfg : DeConfig) (S : Schema) (fuel : Nat) :
    DeLogic.Block (@TRel z) (fun _ => Ro) (· = .any) ext cfg S fuel fuel :=
  (trel_logic fun h => nomatch h).block .any TRel.fail S fuel

/-- `deTRel_all` at `de`, with `TRel` and `OutT` unfolded. -/
theorem de_trunc (z : Bytes) (ext : DeExt) (cfg : DeConfig) (S : Schema) (fuel : Nat)
    (node : Node) (depth : Nat) (favor : Bool) (r sl : RState) (hs : TSim z r sl)
    (o : Out) (sl' : RState) (hok : de ext cfg S fuel node depth favor .any sl = (.ok o, sl')) :
    (∃ a r', de ext cfg S fuel node depth favor .any r = (.ok a, r') ∧ TSim z r' sl') ∨
    (∃ r', de ext cfg S fuel node depth favor .any r = (.error .io, r')) := by
  rcases ((deTRel_all z ext cfg S fuel).de node depth favor .any rfl r sl hs).inv with
    ⟨e, s2, e2⟩ | ⟨b, s2, e2, ⟨a, r', e1, -, h2⟩ | h⟩
  · rw [hok] at e2; cases e2
  · rw [hok] at e2; cases e2; exact .inl ⟨a, r', e1, h2⟩
  · exact .inr h

end Avro.Theorems.Cut
