import AvroModel.Lemmas.DeriveRel
import AvroModel.Lemmas.DeriveWiderUFrag
/-
C20, wider, with enums that map to unions: the invariant `InvU` along every call of the builder
(`SpecU`, `Builds.specU`: one induction on the transition relation `Builds`), for programs whose
declarations pass `declOkWU` (`Lemmas/DeriveWiderUFrag.lean`).
-/
namespace Avro.Theorems.DeriveWU
open Avro Avro.Impl Avro.Impl.Derive Avro.Theorems.DeriveG Avro.Theorems.DeriveW
open Avro.Theorems.DeriveFits

/-! ### What a call of the builder establishes -/

/-- The node a field instantiation returns: the node registered for the field's type, a `fixed`
    named after the owner (`[u8; N]` in a newtype struct or variant), or the renamed duplicate of
    a leaf node (logical-type attribute). -/
def FieldNode (P : Prog) (reg : Key → Nat → Prop) (nodes : Array RawNode) (d : Decl) (args : List Ty)
    (fd : Field) (kind : FieldKind) (tn : String) (c : Nat) : Prop :=
  if fd.attr.logical.isNone = true then
    if isDirect fd kind = true then ∃ k, KeyOf P (subst args fd.ty) k ∧ reg k c
    else ∃ n, Derive.peel fd.ty = .byteArray n ∧
      nodes[c]? = some (plain (.fixed (Name.ofFq (ownedName d kind tn)) n))
  else ∃ x, leafNode (chosenTy fd) = some x ∧
    nodes[c]? = some { type := renameNode x.type (Name.ofFq (ownedName d kind tn)), logical := logicalOf fd }

theorem FieldNode.struct {P : Prog} {reg : Key → Nat → Prop} {nodes : Array RawNode} {d : Decl}
    {args : List Ty} {fd : Field} {name tn : String} {c : Nat}
    (h : FieldNode P reg nodes d args fd (.structField name) tn c) :
    (fd.attr.logical.isNone = true ∧ ∃ k, KeyOf P (subst args fd.ty) k ∧ reg k c) ∨
    (fd.attr.logical.isNone = false ∧ ∃ raw, logicalRawAt d fd name tn = some raw ∧ nodes[c]? = some raw) := by
  unfold FieldNode at h
  split at h
  · rename_i hl
    rw [if_pos (by simp [isDirect, hl, FieldKind.overridesFixedName])] at h
    exact .inl ⟨hl, h⟩
  · rename_i hl
    obtain ⟨x, hx, hn⟩ := h
    exact .inr ⟨(Bool.not_eq_true _).mp hl, _, by rw [logicalRawAt, hx]; rfl, hn⟩

theorem FieldNode.variant {P : Prog} {reg : Key → Nat → Prop} {nodes : Array RawNode} {d : Decl}
    {args : List Ty} {v : Variant} {fd : Field} {c : Nat} (hv : v.field = some fd)
    (hl : fd.attr.logical.isNone = true)
    (h : FieldNode P reg nodes d args fd (.newtypeVariant v.ident) "" c) : VarNode P reg nodes d args v c := by
  unfold FieldNode at h
  rw [if_pos hl] at h
  unfold VarNode
  rw [hv]
  exact h

section specs
variable (P : Prog) (M : Marks)

/-- What a successful call establishes for the invariant `InvU`, for arguments of the fragment.
    The `.append` arm is about a call whose type has just been registered at the next node: its
    start state is `{ s with built := (key, s.nodes.size) :: s.built }` for a key new to `s`.  Every
    `append` is of that kind (`Builds.built`) except the duplicate built for a field with a logical
    type (`Builds.logical`); in the fragment that duplicate is a leaf, and the `logical` case of
    `Builds.specU` computes it instead of using this arm. -/
def SpecU : BState → Step → BState → Prop
  | s, .find t c, s' => ∀ pend, OkT P M t → InvU P pend s →
      InvU P pend s' ∧ ∃ key, KeyOf P t key ∧ Reg s' key c
  | s1, .append t, s' => ∀ s key pend, s1 = { nodes := s.nodes, built := (key, s.nodes.size) :: s.built } →
      OkT P M t → InvU P pend s → KeyOf P t key → s.built.lookup key = none →
      InvU P pend s' ∧ s.nodes.size < s'.nodes.size ∧ Reg s' key s.nodes.size
  | s, .field d args fd kind tn c, s' => ∀ K ctx pend, buildFieldOkW P M K args.length ctx fd = true →
      ArgsOk P M ctx args → (∀ i, ctx i = true → i < args.length) → InvU P pend s →
      InvU P pend s' ∧ c < s'.nodes.size ∧ FieldNode P (Reg s') s'.nodes d args fd kind tn c
  | s, .fields d args tn fields fs, s' => ∀ K ctx pend,
      (∀ fd ∈ fields, buildFieldOkW P M K args.length ctx fd = true) →
      ArgsOk P M ctx args → (∀ i, ctx i = true → i < args.length) → InvU P pend s →
      InvU P pend s' ∧ fs.length = fields.length ∧
        ∀ (j : Nat) (fd : Field) (p : String × Nat), fields[j]? = some fd → fs[j]? = some p →
          p.1 = fd.name ∧
            ((fd.attr.logical.isNone = true ∧ ∃ k, KeyOf P (subst args fd.ty) k ∧ Reg s' k p.2) ∨
             (fd.attr.logical.isNone = false ∧
                ∃ raw, logicalRawAt d fd fd.name tn = some raw ∧ s'.nodes[p.2]? = some raw))
  | s, .variants d args vs ks, s' => ∀ K ctx pend,
      (∀ v ∈ vs, variantOkWU P M K args.length ctx v = true) →
      ArgsOk P M ctx args → (∀ i, ctx i = true → i < args.length) → InvU P pend s →
      InvU P pend s' ∧ ks.length = vs.length ∧
        ∀ (j : Nat) (v : Variant) (c : Nat), vs[j]? = some v → ks[j]? = some c →
          c < s'.nodes.size ∧ VarNode P (Reg s') s'.nodes d args v c

variable {P M} {hash : Key → String}

theorem leaf_keyNodeU {t : Ty} {tok : KTok} {x : RawNode} (h : leafTok t = some tok)
    (hx : leafNode t = some x) (reg : Key → Nat → Prop) (nodes : Array RawNode) (i : Nat)
    (hn : nodes[i]? = some x) : KeyNodeU P reg nodes [tok] i := by
  cases t <;> simp only [leafTok, Option.some.injEq, reduceCtorEq] at h <;>
    simp only [leafNode, Option.some.injEq] at hx <;> subst h <;> subst hx <;> exact hn

/-- `Vec<T>` and the two maps: reserve, register the element type, fill. -/
theorem app_containerU {t t0 : Ty} {tok : KTok} {mk : Nat → RegularType} {c : Nat} {s s3 s' : BState}
    {key : Key} {pend : List Key}
    (hkinv : ∀ key, KeyOf P t0 key → ∃ k', key = tok :: k' ∧ KeyOf P t k')
    (hnode : ∀ (reg : Key → Nat → Prop) (nodes : Array RawNode) (i c : Nat) (rest : Key),
      nodes[i]? = some (plain (mk c)) → reg rest c → KeyNodeU P reg nodes (tok :: rest) i)
    (hkey : KeyOf P t0 key)
    (hext3 : Derive.Ext { nodes := s.nodes.push (plain .null), built := (key, s.nodes.size) :: s.built } s3)
    (hfob : InvU P (key :: pend) s3 ∧ ∃ key', KeyOf P t key' ∧ Reg s3 key' c)
    (hset : setNode s.nodes.size (plain (mk c)) s3 = some ((), s')) :
    InvU P pend s' ∧ s.nodes.size < s'.nodes.size ∧ Reg s' key s.nodes.size := by
  obtain ⟨hinv3, key', hk', hreg'⟩ := hfob
  obtain ⟨k', rfl, hk''⟩ := hkinv key hkey
  have := hk''.unique hk'
  subst this
  exact app_fillU hinv3 hext3 hset ⟨_, rfl⟩ (fun _ nodes hn _ => hnode _ nodes _ c _ hn hreg')

theorem variants_consU {d : Decl} {args : List Ty} {v : Variant} {rest : List Variant} {c : Nat}
    {ks : List Nat} {s1 s2 : BState} {pend : List Key} (e2 : Derive.Ext s1 s2)
    (h2 : InvU P pend s2 ∧ ks.length = rest.length ∧
      ∀ (j : Nat) (v : Variant) (c : Nat), rest[j]? = some v → ks[j]? = some c →
        c < s2.nodes.size ∧ VarNode P (Reg s2) s2.nodes d args v c)
    (hlt : c < s1.nodes.size) (hc : VarNode P (Reg s1) s1.nodes d args v c) :
    InvU P pend s2 ∧ (c :: ks).length = (v :: rest).length ∧
      ∀ (j : Nat) (v' : Variant) (c' : Nat), (v :: rest)[j]? = some v' → (c :: ks)[j]? = some c' →
        c' < s2.nodes.size ∧ VarNode P (Reg s2) s2.nodes d args v' c' := by
  obtain ⟨i2, hlen, hall⟩ := h2
  refine ⟨i2, by simp [hlen], fun j v' c' hj hp => ?_⟩
  cases j with
  | zero =>
    simp only [List.getElem?_cons_zero, Option.some.injEq] at hj hp
    subst hj hp
    exact ⟨Nat.lt_of_lt_of_le hlt e2.size_le, hc.mono e2.built (fun j x hj _ => e2.keep hj)⟩
  | succ j =>
    simp only [List.getElem?_cons_succ] at hj hp
    exact hall j v' c' hj hp

theorem _root_.Avro.Impl.Derive.Builds.specU {K0 : Nat}
    (hP : ∀ (id : Nat) (d : Decl), P[id]? = some d → declOkWU P M K0 id d = true)
    {n : Nat} {s : BState} {c : Step} {s' : BState} (h : Builds P hash n s c s') : SpecU P M s c s' := by
  induction h with
  | @leaf _ t x _ hl =>
    intro s key pend hs ht hinv hkey hnew
    subst hs
    obtain ⟨tok, htok⟩ : ∃ tok, leafTok t = some tok := by cases t <;> cases hl <;> exact ⟨_, rfl⟩
    have hx : leafNode t = some (plain x) := by rw [leafNode_eq, hl]; rfl
    have hk : key = [tok] := hkey.leaf (lookupKey_leaf htok)
    subst hk
    exact app_leafU hinv hnew _ ⟨_, rfl⟩ (fun reg nodes hn => leaf_keyNodeU htok hx reg nodes _ hn)
  | ptr _ ih =>
    intro s key pend hs ht hinv hkey hnew
    exact ih s key pend hs ht.ptr hinv hkey.ptr hnew
  | @wrap _ t0 t mk c _ s3 _ hw b hset ih =>
    intro s key pend hs ht hinv hkey hnew
    subst hs
    have hinv2 := hinv.register_push hnew (plain .null) ⟨_, rfl⟩
    cases t0 <;> cases hw
    case vec.refl =>
      exact app_containerU (tok := .vec) (fun _ h => h.vec) (fun reg nodes i c rest h1 h2 => ⟨c, h1, h2⟩)
        hkey b.post.ext (ih _ ht.vec hinv2) hset
    case hashMap.refl =>
      exact app_containerU (tok := .map) (fun _ h => h.hashMap) (fun reg nodes i c rest h1 h2 => ⟨c, h1, h2⟩)
        hkey b.post.ext (ih _ ht.hashMap hinv2) hset
    case btreeMap.refl =>
      exact app_containerU (tok := .map) (fun _ h => h.btreeMap) (fun reg nodes i c rest h1 h2 => ⟨c, h1, h2⟩)
        hkey b.post.ext (ih _ ht.btreeMap hinv2) hset
  | @option _ t a b _ s3 s4 _ b1 b2 hset ih1 ih2 =>
    intro s key pend hs ht hinv hkey hnew
    subst hs
    have hext4 := b2.post.ext
    obtain ⟨hinv3, keyu, hku, hrega⟩ := ih1 (key :: pend) (OkT.unit P M)
      (hinv.register_push hnew (plain .null) ⟨_, rfl⟩)
    have : keyu = [.unit] := hku.leaf (lookupKey_leaf (t := .unit) rfl)
    subst this
    obtain ⟨hinv4, key', hk', hregb⟩ := ih2 (key :: pend) ht.option hinv3
    obtain ⟨k', rfl, hk''⟩ := hkey.option
    have := hk''.unique hk'
    subst this
    exact app_fillU hinv4 (b1.post.ext.trans hext4) hset ⟨_, rfl⟩
      (fun _ nodes hn _ => ⟨a, b, hn, hext4.built _ _ hrega, hregb⟩)
  | @enum _ id args d vs _ hd hb =>
    intro s key pend hs ht hinv hkey hnew
    subst hs
    have hk := hkey.named_enum hd hb
    subst hk
    refine app_leafU hinv hnew _ ⟨_, rfl⟩ (fun reg nodes hn => ?_)
    simp only [KeyNodeU, hd, hb]
    exact hn
  | @forward _ id args d fd _ _ hd hb hdir _ ih =>
    intro s key pend hs ht hinv hkey hnew
    obtain ⟨hlen, hargs⟩ := ht.named hd
    have hdok := hP id d hd
    simp only [declOkWU, declOkWithU, hb, declOkWith, Bool.and_eq_true, decide_eq_true_eq, plainFieldOkW] at hdok
    obtain ⟨⟨_, hl, hty⟩, _⟩ := hdok
    have hk := hkey.named_newtype hd hb hdir
    rw [chosenTy_plain hl] at hk ih
    exact ih s key pend hs (OkT.subst hargs hlen ctxOf_lt (tyOkW_peel P M K0 _ _ hty)) hinv hk hnew
  | @newtype _ id args d fd _ _ hd hb hdir b _ =>
    intro s key pend hs ht hinv hkey hnew
    subst hs
    have hdok := hP id d hd
    simp only [declOkWU, declOkWithU, hb, declOkWith, Bool.and_eq_true, decide_eq_true_eq, plainFieldOkW] at hdok
    obtain ⟨⟨_, hl, _⟩, hrest⟩ := hdok
    simp only [hdir, Bool.false_eq_true, if_false, decide_eq_true_eq] at hrest
    have hk := hkey.named_newtype_nd hd hb hdir hrest
    subst hk
    -- the field of a newtype that does not forward and has no logical type is an owned `fixed`
    cases b with
    | direct _ ho => rw [isDirect_eq, hl, ho] at hdir; cases hdir
    | logical hl' => rw [logicalOf_plain hl] at hl'; cases hl'
    | fixed _ ho =>
      refine app_leafU hinv hnew _ ⟨_, rfl⟩ (fun reg nodes hn => ?_)
      simp only [KeyNodeU, hd, hb]
      exact ⟨hdir, _, hn, by rw [← chosenTy_plain hl]; exact (ownedFixed_some ho).2⟩
  | @record _ id args d fields tn fs _ s3 _ hd hb htn b hset ih =>
    intro s key pend hs ht hinv hkey hnew
    subst hs
    have hinv2 := hinv.register_push hnew (plain .null) ⟨_, rfl⟩
    obtain ⟨hlen, hargs⟩ := ht.named hd
    have hctx : ∀ i, ctxOf M id (scopeW d) i = true → i < args.length := by rw [hlen]; exact ctxOf_lt
    have hdok := hP id d hd
    simp only [declOkWU, declOkWithU, hb, declOkWith, Bool.and_eq_true, decide_eq_true_eq, List.all_eq_true] at hdok
    obtain ⟨_, hfields⟩ := hdok
    have hfok : ∀ fd ∈ fields, buildFieldOkW P M K0 args.length (ctxOf M id (scopeW d)) fd = true := by
      intro fd hfd
      rw [hlen]
      exact fieldOkW_build (hfields fd hfd)
    obtain ⟨hinv3, hlen3, hall⟩ := ih K0 _ (key :: pend) hfok hargs hctx hinv2
    by_cases hn : d.nparams = 0
    · have hng : scopeW d = 0 := by simp [scopeW, isGenW, hn]
      have : args = [] := List.eq_nil_of_length_eq_zero (by rw [hlen, hng])
      subst this
      simp only [recTn, hn, if_true, Option.some.injEq] at htn
      subst htn
      have hk := hkey.named_record hd hb hn
      subst hk
      refine app_fillU hinv3 b.post.ext hset ⟨_, rfl⟩ (fun hnull nodes hnd hother => ?_)
      simp only [KeyNodeU, hd, hb]
      refine ⟨fs, hnd, hlen3, fun j fd p hj hp => ?_⟩
      obtain ⟨h1, h2⟩ := hall j fd p hj hp
      refine ⟨h1, ?_⟩
      rw [subst_nil] at h2
      rcases h2 with h2 | ⟨hl, raw, hraw, hnode⟩
      · exact .inl h2
      · exact .inr ⟨hl, raw, hraw, kept_of_ne_null hnull hother hnode (raw_ne_null hraw hl)⟩
    · -- generic: the key lists the keys of the fields' types, and field `j` was registered under the
      -- `j`-th of them (`listed_key`)
      obtain ⟨F', rest, rfl, hrest⟩ := hkey.named_record_gen hd hb hn
      obtain ⟨cks, rfl, hclen, hcall, hcoded⟩ := lookupKeys_split P _ F' rest hrest
      refine app_fillU hinv3 b.post.ext hset ⟨_, rfl⟩ (fun hnull nodes hnd hother => ?_)
      simp only [KeyNodeU, hd, hb]
      refine ⟨_, fs, cks, hnd, hlen3, by simpa using hclen, rfl, hcoded, fun j fd p ck hj hp hc => ?_⟩
      obtain ⟨h1, h2⟩ := hall j fd p hj hp
      refine ⟨h1, ?_⟩
      rcases h2 with ⟨hl, k, hk, hr⟩ | ⟨hl, raw, hraw, hnode⟩
      · exact .inl ⟨hl, (listed_key hcall hj hc hl).unique hk ▸ hr⟩
      · exact .inr ⟨hl, _, raw, hraw, kept_of_ne_null hnull hother hnode (raw_ne_null hraw hl)⟩
  | @union _ id args d vs ks _ s3 _ hd hb b hset ih =>
    intro s key pend hs ht hinv hkey hnew
    subst hs
    have hinv2 := hinv.register_push hnew (plain .null) ⟨_, rfl⟩
    obtain ⟨hlen, hargs⟩ := ht.named hd
    have hvs := declOkWU_union hb (hP id d hd)
    rw [scopeW_union hb] at hlen hargs
    have hctx : ∀ i, ctxOf M id d.nparams i = true → i < args.length := by rw [hlen]; exact ctxOf_lt
    have hvok : ∀ v ∈ vs, variantOkWU P M K0 args.length (ctxOf M id d.nparams) v = true := by
      intro v hv; rw [hlen]; exact (hvs v hv).1
    obtain ⟨hinv3, hlen3, hall⟩ := ih K0 _ (key :: pend) hvok hargs hctx hinv2
    by_cases hn : d.nparams = 0
    · have : args = [] := List.eq_nil_of_length_eq_zero (by rw [hlen, hn])
      subst this
      have hk := hkey.named_union hd hb hn
      subst hk
      refine app_fillU hinv3 b.post.ext hset ⟨_, rfl⟩ (fun hnull nodes hnd hother => ?_)
      simp only [KeyNodeU, hd, hb]
      exact ⟨ks, hnd, hlen3, fun j v c hj hc =>
        (hall j v c hj hc).2.mono (fun _ _ h => h) (fun _ _ => kept_of_ne_null hnull hother)⟩
    · -- generic: the key lists the keys of the payload types (`varNode_iff_listed`)
      obtain ⟨F', rest, rfl, hrest⟩ := hkey.named_union_gen hd hb hn
      obtain ⟨cks, rfl, hclen, hcall, hcoded⟩ := lookupKeys_split P _ F' rest hrest
      refine app_fillU hinv3 b.post.ext hset ⟨_, rfl⟩ (fun hnull nodes hnd hother => ?_)
      simp only [KeyNodeU, hd, hb]
      refine ⟨ks, cks, hnd, hlen3, by simpa using hclen, rfl, hcoded, fun j v c hj hc => ?_⟩
      have hv := hvs v (List.mem_of_getElem? hj)
      exact (varNode_iff_listed hclen hcall hj (hv.2.resolve_left hn) hv.1).mpr
        (hall j v c hj hc).2
  | found hk hb =>
    intro pend ht hinv
    exact ⟨hinv, _, ⟨_, hk⟩, hb⟩
  | built hk hb _ _ ih =>
    intro pend ht hinv
    obtain ⟨h1, _, h4⟩ := ih _ _ pend rfl ht hinv ⟨_, hk⟩ hb
    exact ⟨h1, _, ⟨_, hk⟩, h4⟩
  | @fixed _ d args fd kind tn m s hl ho =>
    intro K ctx pend hfd hargs hctx hinv
    have hlog := logicalOf_eq_none.mp hl
    have hln : fd.attr.logical.isNone = true := by rw [hlog]; rfl
    refine ⟨hinv.push_owned rfl (by simp) (fun j hj => by simp [Array.getElem?_push, Nat.ne_of_lt hj]),
      by simp, ?_⟩
    rw [FieldNode, if_pos hln, if_neg (by simp [isDirect_eq, ho])]
    exact ⟨m, by rw [← chosenTy_plain hln]; exact (ownedFixed_some ho).2, by simp⟩
  | @direct _ d args fd kind tn c s s' hl ho _ ih =>
    intro K ctx pend hfd hargs hctx hinv
    have hlog := logicalOf_eq_none.mp hl
    have hln : fd.attr.logical.isNone = true := by rw [hlog]; rfl
    simp only [buildFieldOkW, plainFieldOkW, hln, Bool.true_and, Bool.not_true, Bool.false_and,
      Bool.or_false] at hfd
    rw [chosenTy_plain hln] at ih
    obtain ⟨h1, key, h3, h4⟩ := ih pend (OkT.subst hargs rfl hctx (tyOkW_peel P M K _ ctx hfd)) hinv
    refine ⟨h1, h1.bnd _ _ h4, ?_⟩
    rw [FieldNode, if_pos hln, if_pos (by simp [isDirect_eq, hln, ho])]
    exact ⟨key, KeyOf.subst_peel args h3, h4⟩
  | @logical F0 d args fd kind tn lt node s s1 hl b hsz hnode _ =>
    intro K ctx pend hfd hargs hctx hinv
    have hln : fd.attr.logical.isNone = false := by
      cases h : fd.attr.logical.isNone
      · rfl
      · rw [logicalOf_plain h] at hl; cases hl
    simp only [buildFieldOkW, plainFieldOkW, hln, Bool.false_and, Bool.not_false, Bool.true_and,
      Bool.false_or, Option.isSome_iff_exists] at hfd
    obtain ⟨x, hx⟩ := hfd
    -- the duplicate of a leaf type is one pushed node
    have hs1 : s1 = { s with nodes := s.nodes.push x } := by
      have := b.ran
      rw [Step.Ran, subst_leaf hx] at this
      cases F0 with
      | zero => rw [as_zero] at this; cases this
      | succ F =>
        rw [appendSchema_leaf P hash F hx] at this
        exact (Prod.mk.inj (Option.some.inj this)).2.symm
    subst hs1
    have hnx : node = x := by simpa using hnode.symm
    subst hnx
    refine ⟨hinv.push_owned rfl (by simp [Array.set!_eq_setIfInBounds]) (fun j hj => ?_),
      by simp [Array.set!_eq_setIfInBounds], ?_⟩
    · simp only [Array.set!_eq_setIfInBounds]
      rw [Array.getElem?_setIfInBounds_ne (by omega), Array.getElem?_push_lt hj]
      exact (Array.getElem?_eq_getElem hj).symm
    · rw [FieldNode, if_neg (by simp [hln])]
      exact ⟨node, hx, by simp [Array.set!_eq_setIfInBounds, hl]⟩
  | fnil =>
    intro K ctx pend _ _ _ hinv
    exact ⟨hinv, rfl, fun j fd p hj => by simp at hj⟩
  | @fcons _ d args tn fd rest c fs' s s1 s2 _ b2 ih1 ih2 =>
    intro K ctx pend hok hargs hctx hinv
    obtain ⟨i1, hc, hfield⟩ := ih1 K ctx pend (hok fd (by simp)) hargs hctx hinv
    have e2 := b2.post.ext
    obtain ⟨i2, hlen, hall⟩ := ih2 K ctx pend (fun fd' h' => hok fd' (by simp [h'])) hargs hctx i1
    refine ⟨i2, by simp [hlen], fun j fd' p hj hp => ?_⟩
    cases j with
    | zero =>
      simp only [List.getElem?_cons_zero, Option.some.injEq] at hj hp
      subst hj hp
      refine ⟨rfl, ?_⟩
      rcases hfield.struct with ⟨hl, k, hk, hreg⟩ | ⟨hl, raw, hraw, hnode⟩
      · exact .inl ⟨hl, k, hk, e2.built _ _ hreg⟩
      · exact .inr ⟨hl, raw, hraw, by rw [e2.old c hc]; exact hnode⟩
    | succ j =>
      simp only [List.getElem?_cons_succ] at hj hp
      exact hall j fd' p hj hp
  | vnil =>
    intro K ctx pend _ _ _ hinv
    exact ⟨hinv, rfl, fun j v c hj => by simp at hj⟩
  | @vunit _ d args v rest c ks' s s1 s2 hv _ b2 ih1 ih2 =>
    intro K ctx pend hok hargs hctx hinv
    obtain ⟨i1, key, h3, h4⟩ := ih1 pend (OkT.unit P M) hinv
    have : key = [.unit] := h3.leaf (fun F => rfl)
    subst this
    exact variants_consU b2.post.ext (ih2 K ctx pend (fun v' h' => hok v' (by simp [h'])) hargs hctx i1)
      (i1.bnd _ _ h4) (by unfold VarNode; rw [hv]; exact h4)
  | @vfield _ d args v fd rest c ks' s s1 s2 hv _ b2 ih1 ih2 =>
    intro K ctx pend hok hargs hctx hinv
    have hvok := hok v (by simp)
    rw [variantOkWU, hv] at hvok
    have hl : fd.attr.logical.isNone = true := by
      simp only [plainFieldOkW, Bool.and_eq_true] at hvok; exact hvok.1
    obtain ⟨i1, hc, hnode⟩ := ih1 K ctx pend (by simp [buildFieldOkW, hvok]) hargs hctx hinv
    exact variants_consU b2.post.ext (ih2 K ctx pend (fun v' h' => hok v' (by simp [h'])) hargs hctx i1)
      hc (hnode.variant hv hl)

end specs

end Avro.Theorems.DeriveWU
