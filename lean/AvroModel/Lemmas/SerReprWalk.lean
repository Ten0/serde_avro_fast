import AvroModel.Lemmas.SerReprLeaf
import AvroModel.Lemmas.SerReprStruct
/-
`ser_repr`: the induction over presentations that assembles the arms (Lemmas/SerReprLeaf.lean,
SerReprSeq.lean, SerReprStruct.lean) into `Sound D OK ext a S sv`, for any representation relation.

Before it: `Dispatches` (how `Spec.seqDispatch`, `Spec.structDispatch` follow `viaUnion`/`viaName`)
and `denotes_*`, one unfolding of `Spec.denotes` per constructor of `SV`, in the form in which the
lemma of that arm concludes.
-/
namespace Avro
open Avro.Spec Avro.Impl

/-! ### `Spec.seqDispatch`, `Spec.structDispatch` after `viaUnion`/`viaName` -/

theorem nameAgrees_none (S : Schema) (n : Node) (idx : Nat) : nameAgrees S n none idx = true := by
  cases n <;> rfl

theorem branchNodes'_eq (S : Schema) (vs : List Nat) : branchNodes' S vs = branchNodes S vs := rfl

/-- `disp` — `Spec.seqDispatch` or `Spec.structDispatch` with its other arguments — is `atNode`
    on a node that is not a union and looks through a union at the selected branch. -/
structure Dispatches (S : Schema) (disp : Node → Option String → Value → Bool)
    (atNode : Node → Value → Bool) : Prop where
  nonunion : ∀ {node name v}, node.isUnion = false → disp node name v = atNode node v
  union : ∀ {vs : List Nat} {name d k n y}, vs[d]? = some k → S[k]? = some n →
    n.isUnion = false → nameAgrees S (.union vs) name d = true → atNode n y = true →
    disp (.union vs) name (.union d y) = true

theorem seqDispatches {S : Schema} {arr : Node → List Value → Bool} {ab : Option Bytes}
    {au : List (Option Nat)} :
    Dispatches S (fun node name v => seqDispatch S node name v arr ab au) (seqAtNode S arr ab au) :=
  ⟨seqDispatch_nonunion, seqDispatch_union⟩

theorem structDispatches {S : Schema} {presented : List String}
    {recF : List (String × Nat) → List Value → Bool}
    {mapF : Node → List (String × Value) → Bool} {durF : Nat → Nat → Nat → Bool} :
    Dispatches S (fun node name v => structDispatch S node name v presented recF mapF durF)
      (structAtNode S presented recF mapF durF) :=
  ⟨structDispatch_nonunion, structDispatch_union⟩

section
variable {S : Schema} {disp : Node → Option String → Value → Bool} {atNode : Node → Value → Bool}
  (h : Dispatches S disp atNode) {node : Node} {v : Value}
include h

theorem Dispatches.of_viaUnion {name : Option String}
    (hname : ∀ vs d, node = .union vs → nameAgrees S (.union vs) name d = true)
    (hb : AtBranch S (fun n y => atNode n y = true) node v) : disp node name v = true := by
  rcases hb with ⟨hu, hb⟩ | ⟨vs, d, k, n, y, rfl, rfl, hk, hn, hu, hb⟩
  · rw [h.nonunion hu]; exact hb
  · exact h.union hk hn hu (hname vs d rfl) hb

theorem Dispatches.of_viaName {name : String}
    (hb : AtNamed S name (AtBranch S (fun n y => atNode n y = true)) node v) :
    disp node (some name) v = true := by
  rcases hb with ⟨hcase, hb⟩ | ⟨vs, d, k, n, y, rfl, hl, rfl, hk, hn, hu, hb⟩
  · refine h.of_viaUnion ?_ hb
    intro vs d hnode
    rcases hcase with hu | ⟨vs', hnode', hl⟩
    · subst hnode; simp [Node.isUnion] at hu
    · subst hnode; simp only [Node.union.injEq] at hnode'; subst hnode'
      simp [nameAgrees, branchNodes'_eq, hl]
  · rcases hb with ⟨_, hb⟩ | ⟨vs', _, _, _, _, hn', _⟩
    · exact h.union hk hn hu (by simp [nameAgrees, branchNodes'_eq, hl]) hb
    · subst hn'; simp [Node.isUnion] at hu

end

/-! ### `Spec.denotes`, constructor by constructor -/

section
variable {ext : DenExt} {S : Schema} {n : Node} {v : Value}

theorem denotes_bool (b : Bool) :
    denotes ext S n (.bool b) v = denotesAtLeaf ext S n (.bool b) v := by
  rw [denotes.eq_def]; rfl
theorem denotes_unitVariant (a : String) (i : Nat) (b : String) :
    denotes ext S n (.unitVariant a i b) v = denotesAtLeaf ext S n (.unitVariant a i b) v := by
  rw [denotes.eq_def]; rfl
theorem denotes_int (t : IntTy) (x : Int) :
    denotes ext S n (.int t x) v = denotesAtLeaf ext S n (.int t x) v := by
  rw [denotes.eq_def]; rfl
theorem denotes_f32 (b : BitVec 32) :
    denotes ext S n (.f32 b) v = denotesAtLeaf ext S n (.f32 b) v := by
  rw [denotes.eq_def]; rfl
theorem denotes_f64 (b : BitVec 64) :
    denotes ext S n (.f64 b) v = denotesAtLeaf ext S n (.f64 b) v := by
  rw [denotes.eq_def]; rfl
theorem denotes_char (c : Char) :
    denotes ext S n (.char c) v = denotesAtLeaf ext S n (.char c) v := by
  rw [denotes.eq_def]; rfl
theorem denotes_str (s : String) :
    denotes ext S n (.str s) v = denotesAtLeaf ext S n (.str s) v := by
  rw [denotes.eq_def]; rfl
theorem denotes_bytes (b : Bytes) :
    denotes ext S n (.bytes b) v = denotesAtLeaf ext S n (.bytes b) v := by
  rw [denotes.eq_def]; rfl
theorem denotes_none : denotes ext S n .none v = denotesAtLeaf ext S n .none v := by
  rw [denotes.eq_def]; rfl
theorem denotes_unit : denotes ext S n .unit v = denotesAtLeaf ext S n .unit v := by
  rw [denotes.eq_def]; rfl
theorem denotes_unitStruct (name : String) :
    denotes ext S n (.unitStruct name) v = denotesAtLeaf ext S n (.unitStruct name) v := by
  rw [denotes.eq_def]; rfl

end

section
variable {ext : DenExt} {S : Schema}

/-- `Spec.denotes` on `newtype_struct` and `newtype_variant`, as one function of the name looked up. -/
def newtypeDen (ext : DenExt) (S : Schema) (node : Node) (name : String) (x : SV) (v : Value) : Bool :=
  match node with
  | .union vs =>
    (match namedLookup name (branchNodes' S vs) with
      | some d =>
        (match unionBranch S node v with
          | some (idx, branch, y) => decide (d = idx) && denotes ext S branch x y
          | none => false)
      | none => denotes ext S node x v)
  | _ => denotes ext S node x v

theorem denotes_newtypeStruct (node : Node) (name : String) (x : SV) (v : Value) :
    denotes ext S node (.newtypeStruct name x) v = newtypeDen ext S node name x v := by
  rw [denotes.eq_def]; rfl

theorem denotes_newtypeVariant (node : Node) (nm : String) (idx : Nat) (name : String) (x : SV)
    (v : Value) :
    denotes ext S node (.newtypeVariant nm idx name x) v = newtypeDen ext S node name x v := by
  rw [denotes.eq_def]; rfl

theorem newtypeDen_of {node : Node} {name : String} {x : SV} {v : Value}
    (h : AtNamed S name (fun n y => denotes ext S n x y = true) node v) :
    newtypeDen ext S node name x v = true := by
  rcases h with ⟨hcase, h⟩ | ⟨vs, d, k, n, y, rfl, hl, rfl, hk, hn, hu, h⟩
  · rcases hcase with hu | ⟨vs, rfl, hl⟩
    · cases node <;> first | exact h | simp [Node.isUnion] at hu
    · simp only [newtypeDen, branchNodes'_eq, hl]; exact h
  · simp [newtypeDen, branchNodes'_eq, hl, unionBranch, hk, hn, h]

end


section
variable {ext : DenExt} {S : Schema} {n : Node} {v : Value}

theorem denotes_some (x : SV) : denotes ext S n (.some x) v = denotes ext S n x v := by
  rw [denotes.eq_def]

theorem denotes_seq (len : Option Nat) (elems : List SV) :
    denotes ext S n (.seq len elems) v =
      seqDispatch S n none v (fun item items => denotesList ext S item elems items)
        (u8List elems) (elems.map u32Of) := by
  rw [denotes.eq_def]
theorem denotes_tuple (elems : List SV) :
    denotes ext S n (.tuple elems) v =
      seqDispatch S n none v (fun item items => denotesList ext S item elems items)
        (u8List elems) (elems.map u32Of) := by
  rw [denotes.eq_def]
theorem denotes_tupleStruct (nm : String) (elems : List SV) :
    denotes ext S n (.tupleStruct nm elems) v =
      seqDispatch S n none v (fun item items => denotesList ext S item elems items)
        (u8List elems) (elems.map u32Of) := by
  rw [denotes.eq_def]
theorem denotes_tupleVariant (nm : String) (idx : Nat) (variant : String) (elems : List SV) :
    denotes ext S n (.tupleVariant nm idx variant elems) v =
      seqDispatch S n (some variant) v (fun item items => denotesList ext S item elems items)
        (u8List elems) (elems.map u32Of) := by
  rw [denotes.eq_def]
theorem denotes_map (len : Option Nat) (entries : List (SV × SV)) :
    denotes ext S n (.map len entries) v =
      (match strKeys entries with
      | some fields =>
        structDispatch S n none v (fields.map (·.1))
          (fun schemaFields vals => denotesPresentedE ext S schemaFields vals entries)
          (fun item ents => denotesMapEntries ext S item entries ents)
          (fun mo d ms => denotesDurFields mo d ms fields)
      | none =>
        structDispatch S n none v []
          (fun _ _ => false)
          (fun item ents => denotesMapEntries ext S item entries ents)
          (fun _ _ _ => false)) := by
  rw [denotes.eq_def]; rfl
theorem denotes_struct (name : String) (fields : List (String × SV)) :
    denotes ext S n (.struct name fields) v =
      structDispatch S n (some name) v (fields.map (·.1))
        (fun schemaFields vals => denotesPresented ext S schemaFields vals fields)
        (fun item ents => denotesMapFields ext S item fields ents)
        (fun mo d ms => denotesDurFields mo d ms fields) := by
  rw [denotes.eq_def]
theorem denotes_structVariant (nm : String) (idx : Nat) (variant : String)
    (fields : List (String × SV)) :
    denotes ext S n (.structVariant nm idx variant fields) v =
      structDispatch S n (some variant) v (fields.map (·.1))
        (fun schemaFields vals => denotesPresented ext S schemaFields vals fields)
        (fun item ents => denotesMapFields ext S item fields ents)
        (fun mo d ms => denotesDurFields mo d ms fields) := by
  rw [denotes.eq_def]

end

section
variable {nb : Canon.Allow} {ext : Ext} {a : Bool} {S : Schema} {OK : Node → Prop}
  {D : Node → Bytes → Value → Prop}

theorem seqLike_sound (F : Representation nb S OK D) (len : Option Nat) (elems : List SV)
    (hlen : elems.length < 2 ^ 63)
    (hle : nb.openSeq = true ∨ Canon.lenCovers (len.getD 0) elems.length = true)
    (hIH : ∀ e ∈ elems, Sound D OK ext a S e)
    (node : Node) (s : SerState) (hn : OK node) (hs : Good s)
    (hok : (seqBody ext a S node len elems s).1 = .ok ()) :
    Res D node (seqBody ext a S node len elems) s (fun v =>
      seqDispatch S node none v (fun item items => denotesList (denExtOf ext) S item elems items)
        (u8List elems) (elems.map u32Of) = true) :=
  (seqBody_sound F node hn len elems hlen hle hIH s hs hok).mono fun _ h =>
    seqDispatches.of_viaUnion (fun _ _ _ => nameAgrees_none _ _ _) h

theorem Sound.of_eq {sv : SV} {m : Node → SerM Unit} {den : Node → Value → Bool}
    (hser : ∀ node, ser ext a S node sv = m node)
    (hden : ∀ {node v}, denotes (denExtOf ext) S node sv v = den node v)
    (h : ∀ node s, OK node → Good s → (m node s).1 = .ok () →
      Res D node (m node) s (fun v => den node v = true)) :
    Sound D OK ext a S sv := by
  intro node s hn hs hok
  simp only [hser, hden] at hok ⊢
  exact h node s hn hs hok

mutual

/-- **The serializer, arm by arm.**  For a presentation a Rust program can produce (`svOK`) that
    keeps to the layouts `nb` permits (`svCanon nb`), a successful `ser` appends a representation
    (in the sense of `D`) of a value the presentation denotes.  At `Dec.representation` (everything
    permitted, `D` decodability) this is `ser_sound_aux`, whence `C02_sound_strong`; at
    `Canon.representation` (`D` "is `Spec.encode` of", a schema without a node on which a permitted
    layout shows) it is `Canon.ser_canon_aux`, whence `C01_ser_canonical`. -/
theorem ser_repr (F : Representation nb S OK D) (hext : ExtOK ext) :
    ∀ sv, svOK sv = true → Canon.svCanon nb sv = true → Sound D OK ext a S sv
  | .bool b, hsv, hcn => by
    exact Sound.of_eq (fun _ => by rw [ser]) (denotes_bool _)
      fun node s hn hs hok => serBool_sound F hn s hs b hok
  | .int t x, hsv, hcn => by
    simp only [svOK] at hsv
    simp only [Canon.svCanon, Bool.or_eq_true, decide_eq_true_eq] at hcn
    exact Sound.of_eq (fun _ => by rw [ser]) (denotes_int _ _)
      fun node s hn hs hok => serInteger_sound F hn s hs t x hsv hcn hok
  | .f32 b, hsv, hcn => by
    exact Sound.of_eq (fun _ => by rw [ser]) (denotes_f32 _)
      fun node s hn hs hok => serF32_sound F hn s hs b hok
  | .f64 b, hsv, hcn => by
    exact Sound.of_eq (fun _ => by rw [ser]) (denotes_f64 _)
      fun node s hn hs hok => serF64_sound F hn s hs hext b hok
  | .char c, hsv, hcn => by
    exact Sound.of_eq (fun _ => by rw [ser]) (denotes_char _)
      fun node s hn hs hok => serStr_sound F hn s hs hext (.char c) (String.singleton c)
        (Or.inr ⟨c, rfl, rfl⟩) (utf8_singleton_length c) hok
  | .str str, hsv, hcn => by
    exact Sound.of_eq (fun _ => by rw [ser]) (denotes_str _)
      fun node s hn hs hok => serStr_sound F hn s hs hext (.str str) str (Or.inl rfl)
        (by simpa [svOK] using hsv) hok
  | .bytes b, hsv, hcn => by
    exact Sound.of_eq (fun _ => by rw [ser]) (denotes_bytes _)
      fun node s hn hs hok => serBytes_sound F hn s hs b (by simpa [svOK] using hsv) hok
  | .none, hsv, hcn => by
    exact Sound.of_eq (fun _ => by rw [ser]) denotes_none
      fun node s hn hs hok => serUnit_sound F hn s hs .none (Or.inl rfl) hok
  | .unit, hsv, hcn => by
    exact Sound.of_eq (fun _ => by rw [ser]) denotes_unit
      fun node s hn hs hok => serUnit_sound F hn s hs .unit (Or.inr rfl) hok
  | .unitStruct name, hsv, hcn => by
    exact Sound.of_eq (fun _ => by rw [ser]) (denotes_unitStruct _)
      fun node s hn hs hok => serUnitStruct_sound F hn s hs name (by simpa [svOK] using hsv) hok
  | .unitVariant nm idx variant, hsv, hcn => by
    exact Sound.of_eq (fun _ => by rw [ser]) (denotes_unitVariant _ _ _)
      fun node s hn hs hok =>
        serUnitVariant_sound F hn s hs nm idx variant (by simpa [svOK] using hsv) hok
  | .some x, hsv, hcn => by
    have hxs := ser_repr F hext x (by simpa [svOK] using hsv) (by simpa [Canon.svCanon] using hcn)
    exact Sound.of_eq (fun _ => by rw [ser]) (denotes_some _) hxs
  | .newtypeStruct name x, hsv, hcn => by
    have hxs := ser_repr F hext x (by simpa [svOK] using hsv) (by simpa [Canon.svCanon] using hcn)
    exact Sound.of_eq (fun _ => by rw [ser]) (denotes_newtypeStruct ..) fun node s hn hs hok =>
      (viaName_sound F hn name _ (fun n v => denotes (denExtOf ext) S n x v = true) s hs
        (fun n s hs hn hok => hxs n s hn hs hok) hok).mono fun v hv => newtypeDen_of hv
  | .newtypeVariant nm idx variant x, hsv, hcn => by
    have hxs := ser_repr F hext x (by simpa [svOK] using hsv) (by simpa [Canon.svCanon] using hcn)
    exact Sound.of_eq (fun _ => by rw [ser]) (denotes_newtypeVariant ..) fun node s hn hs hok =>
      (viaName_sound F hn variant _ (fun n v => denotes (denExtOf ext) S n x v = true) s hs
        (fun n s hs hn hok => hxs n s hn hs hok) hok).mono fun v hv => newtypeDen_of hv
  | .seq len elems, hsv, hcn => by
    simp only [svOK, Bool.and_eq_true, decide_eq_true_eq] at hsv
    simp only [Canon.svCanon, Bool.and_eq_true, Bool.or_eq_true] at hcn
    have hIH := ser_repr_list F hext elems hsv.2 hcn.2
    exact Sound.of_eq (m := fun node => seqBody ext a S node len elems)
      (fun _ => by rw [ser]; rfl) (denotes_seq ..)
      fun node s hn hs hok => seqLike_sound F len elems hsv.1 hcn.1 hIH node s hn hs hok
  | .tuple elems, hsv, hcn => by
    simp only [svOK, Bool.and_eq_true, decide_eq_true_eq] at hsv
    simp only [Canon.svCanon] at hcn
    have hIH := ser_repr_list F hext elems hsv.2 hcn
    exact Sound.of_eq (m := fun node => seqBody ext a S node (some elems.length) elems)
      (fun _ => by rw [ser]; rfl) (denotes_tuple ..)
      fun node s hn hs hok => seqLike_sound F _ elems hsv.1 (.inr (Canon.lenCovers_iff.2 (.inl (Nat.le_refl _)))) hIH node s hn hs hok
  | .tupleStruct nm elems, hsv, hcn => by
    simp only [svOK, Bool.and_eq_true, decide_eq_true_eq] at hsv
    simp only [Canon.svCanon] at hcn
    have hIH := ser_repr_list F hext elems hsv.2 hcn
    exact Sound.of_eq (m := fun node => seqBody ext a S node (some elems.length) elems)
      (fun _ => by rw [ser]; rfl) (denotes_tupleStruct ..)
      fun node s hn hs hok => seqLike_sound F _ elems hsv.1 (.inr (Canon.lenCovers_iff.2 (.inl (Nat.le_refl _)))) hIH node s hn hs hok
  | .tupleVariant nm idx variant elems, hsv, hcn => by
    simp only [svOK, Bool.and_eq_true, decide_eq_true_eq] at hsv
    simp only [Canon.svCanon] at hcn
    have hIH := ser_repr_list F hext elems hsv.2 hcn
    exact Sound.of_eq
      (m := fun node => viaName S node variant fun n => seqBody ext a S n (some elems.length) elems)
      (fun _ => by rw [ser]; rfl) (denotes_tupleVariant ..) fun node s hn hs hok =>
      (viaName_sound F hn variant _ _ s hs
        (fun n s hs hn hok => seqBody_sound F n hn _ elems hsv.1 (.inr (Canon.lenCovers_iff.2 (.inl (Nat.le_refl _)))) hIH s hs hok) hok).mono
        fun v hv => seqDispatches.of_viaName hv
  | .map len entries, hsv, hcn => by
    simp only [svOK, Bool.and_eq_true, decide_eq_true_eq] at hsv
    simp only [Canon.svCanon, Bool.and_eq_true, Bool.or_eq_true] at hcn
    have hIH := ser_repr_entries F hext entries hsv.2 hcn.2
    refine Sound.of_eq
      (m := fun node => viaUnion S node .structOrMap fun n => structCore S n (len.getD 0) len
        fun k s => serEntries ext a S k entries s)
      (fun _ => by rw [ser]; rfl) (denotes_map ..) fun node s hn hs hok =>
      (viaUnion_sound F hn _ _ _ s hs
        (fun n s hs _ hn hok => structCoreE_sound F n hn _ _ entries hsv.1 hcn.1 hIH s hs hok)
        hok).mono ?_
    intro v hv
    cases hk : strKeys entries <;> simp only [hk] at hv ⊢ <;>
      exact structDispatches.of_viaUnion (fun _ _ _ => nameAgrees_none _ _ _) hv
  | .struct name fields, hsv, hcn => by
    simp only [svOK, Bool.and_eq_true, decide_eq_true_eq] at hsv
    simp only [Canon.svCanon] at hcn
    have hIH := ser_repr_fields F hext fields hsv.2 hcn
    exact Sound.of_eq
      (m := fun node => viaName S node name fun n => viaUnion S n .structOrMap fun n =>
        structCore S n fields.length (some fields.length) fun k s => serFields ext a S k fields s)
      (fun _ => by rw [ser]; rfl) (denotes_struct ..) fun node s hn hs hok =>
      (viaName_sound F hn name _ _ s hs
        (fun n s hs hn hok => viaUnion_sound F hn _ _ _ s hs
          (fun n s hs _ hn hok => structCoreF_sound F n hn _ fields hsv.1 hIH s hs hok) hok) hok).mono
        fun v hv => structDispatches.of_viaName hv
  | .structVariant nm idx variant fields, hsv, hcn => by
    simp only [svOK, Bool.and_eq_true, decide_eq_true_eq] at hsv
    simp only [Canon.svCanon] at hcn
    have hIH := ser_repr_fields F hext fields hsv.2 hcn
    exact Sound.of_eq
      (m := fun node => viaName S node variant fun n => viaUnion S n .structOrMap fun n =>
        structCore S n fields.length (some fields.length) fun k s => serFields ext a S k fields s)
      (fun _ => by rw [ser]; rfl) (denotes_structVariant ..) fun node s hn hs hok =>
      (viaName_sound F hn variant _ _ s hs
        (fun n s hs hn hok => viaUnion_sound F hn _ _ _ s hs
          (fun n s hs _ hn hok => structCoreF_sound F n hn _ fields hsv.1 hIH s hs hok) hok) hok).mono
        fun v hv => structDispatches.of_viaName hv

theorem ser_repr_list (F : Representation nb S OK D) (hext : ExtOK ext) : ∀ elems : List SV, svOKList elems = true →
    Canon.svCanonList nb elems = true → ∀ e ∈ elems, Sound D OK ext a S e
  | [], _, _ => nofun
  | e :: es, hsv, hcn => by
    simp only [svOKList, Bool.and_eq_true] at hsv
    simp only [Canon.svCanonList, Bool.and_eq_true] at hcn
    intro x hx
    rcases List.mem_cons.1 hx with h | hx
    · exact h ▸ ser_repr F hext e hsv.1 hcn.1
    · exact ser_repr_list F hext es hsv.2 hcn.2 x hx

theorem ser_repr_fields (F : Representation nb S OK D) (hext : ExtOK ext) : ∀ fields : List (String × SV),
    svOKFields fields = true → Canon.svCanonFields nb fields = true →
    ∀ p ∈ fields, (utf8 p.1).length < 2 ^ 63 ∧ Sound D OK ext a S p.2
  | [], _, _ => nofun
  | (name, v) :: rest, hsv, hcn => by
    simp only [svOKFields, Bool.and_eq_true, decide_eq_true_eq] at hsv
    simp only [Canon.svCanonFields, Bool.and_eq_true] at hcn
    intro p hp
    rcases List.mem_cons.1 hp with h | hp
    · exact h ▸ ⟨hsv.1.1, ser_repr F hext v hsv.1.2 hcn.1⟩
    · exact ser_repr_fields F hext rest hsv.2 hcn.2 p hp

theorem ser_repr_entries (F : Representation nb S OK D) (hext : ExtOK ext) : ∀ entries : List (SV × SV),
    svOKEntries entries = true → Canon.svCanonEntries nb entries = true →
    ∀ p ∈ entries, Sound D OK ext a S p.1 ∧ Sound D OK ext a S p.2
  | [], _, _ => nofun
  | (k, v) :: rest, hsv, hcn => by
    simp only [svOKEntries, Bool.and_eq_true] at hsv
    simp only [Canon.svCanonEntries, Bool.and_eq_true] at hcn
    intro p hp
    rcases List.mem_cons.1 hp with h | hp
    · exact h ▸ ⟨ser_repr F hext k hsv.1.1 hcn.1.1, ser_repr F hext v hsv.1.2 hcn.1.2⟩
    · exact ser_repr_entries F hext rest hsv.2 hcn.2 p hp

end

end

end Avro
