import AvroModel.Lemmas.SerRepr
import AvroModel.Lemmas.SerCanonicalDecimal
/-
The leaf arms of the walk (`ser_repr`, Lemmas/SerReprWalk.lean).  Every arm ends in
`Representation.of_encode`: the bytes written ARE `Spec.encode` of the value, so a leaf is
represented whatever the instance.  For decimals this needs that the two's complement written is
the minimal one, which is why Lemmas/SerCanonicalDecimal.lean is imported here.  The one exception
is a negative integer on a `decimal`/`bytes` node (`serInteger_sound`), which goes through
`Representation.decimalNeg`.
-/
namespace Avro
open Avro.Spec Avro.Impl

section
variable {nb : Canon.Allow} {S : Schema} {OK : Node → Prop} {D : Node → Bytes → Value → Prop}

theorem serDecimal_regular_sound (F : Representation nb S OK D) {ext : Ext} (hext : ExtOK ext)
    (scale prec : Nat) (repr : DecimalRepr) (d : Int × Nat) (s : SerState) (h : s.budget = none)
    (hd128 : inI128 d.1 = true)
    (hok : (serDecimal ext (.regular scale repr) d s).1 = .ok ()) :
    ∃ u bytes, serDecimal ext (.regular scale repr) d s = (.ok (), { s with out := s.out ++ bytes }) ∧
      D (.decimal scale prec repr) bytes (.decimal u) ∧
      decimalOf (denExtOf ext) scale d = some u := by
  have hr := hext.rescale d scale hd128
  cases repr with
  | bytes =>
    obtain ⟨hsc, he⟩ := serDecimal_regular_bytes ext scale d s h hok
    exact ⟨_, _, he, F.of_encode (Canon.encode_decimal_bytes (Canon.truncated_minimal _)
      (by rw [truncated_length]; omega) (truncated_sound hr)), by simp [decimalOf, denExtOf, hsc]⟩
  | fixed nm size =>
    obtain ⟨hsc, m, hl, he, hv⟩ := serDecimal_regular_fixed ext scale nm size d s h hr hok
    exact ⟨_, _, he, F.of_encode (Canon.encode_decimal_fixed hl hv), by simp [decimalOf, denExtOf, hsc]⟩

theorem serDecimal_big_sound (F : Representation nb S OK D) {ext : Ext} (d : Int × Nat) (s : SerState)
    (h : s.budget = none) (hr : inI128 d.1 = true) (hsc : d.2 < 2 ^ 63) :
    ∃ bytes, serDecimal ext .big d s = (.ok (), { s with out := s.out ++ bytes }) ∧
      D .bigDecimal bytes (.bigDecimal d.1 d.2) :=
  ⟨_, serDecimal_big ext d s h hsc, F.of_encode (Canon.encode_bigDecimal (Canon.truncated_minimal _)
    (by rw [truncated_length]; omega) (truncated_sound hr) hsc)⟩

theorem utf8_singleton_length (c : Char) : (utf8 (String.singleton c)).length < 2 ^ 63 := by
  have h0 : ∀ s : String, (utf8 s).length = s.utf8ByteSize := fun s => by simp [utf8]
  have h1 := h0 (String.singleton c)
  have h2 : (String.singleton c).utf8ByteSize ≤ 4 := by
    have := Char.utf8Size_le_four c
    simp
    omega
  omega

theorem leBytes_take_drop12 (b : Bytes) (hl : b.length = 12) :
    b = leBytes 4 (leToNat (b.take 4)) ++ leBytes 4 (leToNat ((b.drop 4).take 4)) ++
      leBytes 4 (leToNat (b.drop 8)) := by
  have e1 := leBytes_leToNat (b.take 4)
  have e2 := leBytes_leToNat ((b.drop 4).take 4)
  have e3 := leBytes_leToNat (b.drop 8)
  have l1 : (b.take 4).length = 4 := by simp; omega
  have l2 : ((b.drop 4).take 4).length = 4 := by simp; omega
  have l3 : (b.drop 8).length = 4 := by simp; omega
  rw [l1] at e1; rw [l2] at e2; rw [l3] at e3
  rw [e1, e2, e3]
  have : b.drop 8 = (b.drop 4).drop 4 := by simp
  rw [this, List.append_assoc, List.take_append_drop, List.take_append_drop]

theorem encode_duration_of_length (b : Bytes) (hl : b.length = 12) :
    encode S .duration (.duration (leToNat (b.take 4)) (leToNat ((b.drop 4).take 4))
      (leToNat (b.drop 8))) = some b := by
  have h1 := leToNat_lt (b.take 4)
  have h2 := leToNat_lt ((b.drop 4).take 4)
  have h3 := leToNat_lt (b.drop 8)
  rw [show (b.take 4).length = 4 by simp; omega] at h1
  rw [show ((b.drop 4).take 4).length = 4 by simp; omega] at h2
  rw [show (b.drop 8).length = 4 by simp; omega] at h3
  simp only [encode]
  rw [if_pos ⟨by omega, by omega, by omega⟩, ← leBytes_take_drop12 b hl]

theorem denotesLeaf_string_text {ext : DenExt} {sv : SV} {str : String} (ht : textOf sv = some str) :
    denotesLeaf ext .string sv (.string str) = true := by
  simp only [denotesLeaf]
  split
  · simp [textOf] at ht
  · simpa using ht

theorem denotesLeaf_bytes_text {ext : DenExt} {sv : SV} {str : String} (ht : textOf sv = some str) :
    denotesLeaf ext .bytes sv (.bytes (utf8 str)) = true := by
  simp only [denotesLeaf]
  split
  · simp [textOf] at ht
  · simp [ht]

theorem denotesLeaf_enum_text {ext : DenExt} {sv : SV} {str : String} {nm : Name}
    {syms : List String} {idx : Nat} (ht : textOf sv = some str)
    (hs : syms[idx]? = some str) :
    denotesLeaf ext (.enum nm syms) sv (.enum idx) = true := by
  simp only [denotesLeaf]
  split
  · simp [textOf] at ht
  · simp [ht, hs]

theorem nullVariantBranch_some {vs : List Nat} {variant : String} {d : Nat}
    (h : nullVariantBranch S vs variant = some d) :
    variant = "Null" ∧ ∃ k, vs[d]? = some k ∧ S[k]? = some .null := by
  unfold nullVariantBranch at h
  split at h
  · rename_i hv
    refine ⟨hv, ?_⟩
    split at h
    · rename_i d' _
      split at h
      · rename_i hb
        have key : ∀ c : Bool, (if c = true then none else some d') = some d → d' = d := by
          intro c; cases c <;> simp
        have hdd := key _ h
        subst hdd
        cases hk : vs[d']? with
        | none => simp [hk] at hb
        | some k => exact ⟨k, rfl, by simpa [hk] using hb⟩
      · cases h
    · cases h
  · cases h

/-- the bytes are left in the shape `Representation.union` gives them: index `++` the empty
    encoding of `null` -/
theorem Representation.null_branch (F : Representation nb S OK D) {vs : List Nat}
    (hn : OK (.union vs)) {d k : Nat}
    (hk : vs[d]? = some k) (hSk : S[k]? = some .null) (s : SerState) (h : s.budget = none) :
    writeVarI64 (d : Int) s = (.ok (), { s with out := s.out ++ (encodeLong d ++ []) }) ∧
      D (.union vs) (encodeLong d ++ []) (.union d .null) := by
  have hd : d < 2 ^ 63 :=
    Nat.lt_trans (List.getElem?_eq_some_iff.1 hk).1 (F.union_small hn)
  exact ⟨by rw [writeVarI64_spec _ (inI64_of_lt hd) s h]; simp,
    F.union hk hSk hd (F.of_encode (by simp [encode]))⟩

section
variable (F : Representation nb S OK D) {ext : Ext} (s : SerState) (h : s.budget = none)
include F h

theorem serStrAt_text {n : Node} (hnok : OK n) (sv : SV) (str : String)
    (ht : textOf sv = some str) (hlen : (utf8 str).length < 2 ^ 63)
    (h3 : n = .string ∨ n = .bytes ∨ ∃ nm syms, n = .enum nm syms) :
    LeafRes D (denExtOf ext) n sv (serStrAt ext n str) s := by
  intro hok
  rcases h3 with rfl | rfl | ⟨nm, syms, rfl⟩
  · exact ⟨.string str, _, writeLengthDelimited_none _ hlen s h,
      F.of_encode (by simp [encode, hlen]), denotesLeaf_string_text ht⟩
  · exact ⟨.bytes (utf8 str), _, writeLengthDelimited_none _ hlen s h,
      F.of_encode (by simp [encode, hlen]), denotesLeaf_bytes_text ht⟩
  · simp only [serStrAt] at hok ⊢
    cases hl : lookupLast syms str with
    | none => simp [hl, SerM.fail] at hok
    | some d =>
      have hd := lookupLast_lt hl
      have hsmall : syms.length < 2 ^ 63 := by simpa [nodeSmall] using (F.ok hnok).small
      have hi : InI64 (d : Int) := inI64_of_lt (by omega)
      have h1 : d < syms.length ∧ d < 2 ^ 63 := by omega
      exact ⟨.enum d, _, writeVarI64_spec _ hi s h, F.of_encode (by simp [encode, h1]),
        denotesLeaf_enum_text ht (lookupLast_some hl)⟩

theorem serStrAt_leaf (hext : ExtOK ext) {n : Node} (hnok : OK n)
    (sv : SV) (str : String)
    (hsv : sv = .str str ∨ ∃ c, sv = .char c ∧ str = String.singleton c)
    (hlen : (utf8 str).length < 2 ^ 63) :
    LeafRes D (denExtOf ext) n sv (serStrAt ext n str) s := by
  have ht : textOf sv = some str := by
    rcases hsv with rfl | ⟨c, rfl, rfl⟩ <;> rfl
  intro hok
  unfold serStrAt at hok ⊢
  split at hok
  · exact serStrAt_text F s h hnok sv str ht hlen (Or.inl rfl) hok
  · exact serStrAt_text F s h hnok sv str ht hlen (Or.inr (Or.inl rfl)) hok
  · -- `uuid`
    refine ⟨.string str, _, writeLengthDelimited_none _ hlen s h,
      F.of_encode (by simp [encode, hlen]), ?_⟩
    rcases hsv with rfl | ⟨c, rfl, rfl⟩ <;> simp [denotesLeaf]
  · exact serStrAt_text F s h hnok sv str ht hlen (Or.inr (Or.inr ⟨_, _, rfl⟩)) hok
  · -- `fixed`
    rename_i nm size
    by_cases hsz : size ≠ (strBytes str).length
    · simp [hsz, SerM.fail] at hok
    · simp only [if_neg hsz]
      have hl : (utf8 str).length = size := by
        have : (strBytes str).length = size := by omega
        exact this
      refine ⟨.fixed (utf8 str), _, writeAll_none _ s h,
        F.of_encode (by simp [encode, hl, strBytes_eq_utf8]), ?_⟩
      rcases hsv with rfl | ⟨c, rfl, rfl⟩ <;> simp [denotesLeaf, hl]
  · -- `decimal`
    rename_i scale prec repr
    cases hp : ext.decParse str with
    | none => simp [hp, SerM.fail] at hok
    | some d =>
      simp only [hp] at hok ⊢
      obtain ⟨u, bytes, he, hd, hu⟩ :=
        serDecimal_regular_sound F hext scale prec repr d s h (hext.parse str d hp).1 hok
      refine ⟨.decimal u, bytes, he, hd, ?_⟩
      have hp' : (denExtOf ext).decParse str = some d := hp
      rcases hsv with rfl | ⟨c, rfl, rfl⟩ <;>
        (simp only [denotesLeaf, hp']; exact decide_eq_true hu)
  · -- `big-decimal`
    cases hp : ext.decParse str with
    | none => simp [hp, SerM.fail] at hok
    | some d =>
      simp only [hp] at hok ⊢
      obtain ⟨hr, hsc⟩ := hext.parse str d hp
      obtain ⟨bytes, he, hd⟩ := serDecimal_big_sound F (ext := ext) d s h hr hsc
      refine ⟨.bigDecimal d.1 d.2, bytes, he, hd, ?_⟩
      rcases hsv with rfl | ⟨c, rfl, rfl⟩ <;> simp [denotesLeaf, denExtOf, hp]
  · simp [SerM.fail] at hok

end

section
variable (F : Representation nb S OK D) {ext : Ext} {node : Node} (hn : OK node) (s : SerState)
  (hs : Good s)
include F hn hs

theorem serUnit_sound (sv : SV) (hsv : sv = .none ∨ sv = .unit)
    (hok : (serUnit S node s).1 = .ok ()) :
    Res D node (serUnit S node) s
      (fun v => denotesAtLeaf (denExtOf ext) S node sv v = true) := by
  refine Res.of_leaf hs ?_
  unfold serUnit at *
  split at hok
  · refine ⟨.null, [], by simp [pure], F.of_encode (by simp [encode]), ?_⟩
    rcases hsv with rfl | rfl <;> simp [denotesAtLeaf, denotesLeaf]
  · rename_i vs
    cases hl : unnamedLookup .null (branchNodes S vs) with
    | none => simp [hl, SerM.fail] at hok
    | some d =>
      obtain ⟨k, hk, hSk⟩ := F.null_lookup hn hl
      obtain ⟨hrun, hdec⟩ := F.null_branch hn hk hSk s hs.1
      refine ⟨.union d .null, _, hrun, hdec, ?_⟩
      rcases hsv with rfl | rfl <;> simp [denotesAtLeaf, unionBranch, hk, hSk, denotesLeaf]
  · simp [SerM.fail] at hok

theorem serBytes_sound (b : Bytes) (hb : b.length < 2 ^ 63)
    (hok : (serBytes S node b s).1 = .ok ()) :
    Res D node (serBytes S node b) s
      (fun v => denotesAtLeaf (denExtOf ext) S node (.bytes b) v = true) := by
  unfold serBytes at hok ⊢
  refine viaUnion_leaf F hn _ _ _ s hs ?_ hok
  intro n s h hu hnok hok
  split at hok
  · -- `bytes`
    exact ⟨.bytes b, _, writeLengthDelimited_none b hb s h, F.of_encode (by simp [encode, hb]),
      by simp [denotesLeaf]⟩
  · -- `string`
    have hv := ite_fail_ok hok
    simp only [if_pos hv]
    obtain ⟨str, rfl⟩ := (validUtf8_iff b).1 hv
    exact ⟨.string str, _, writeLengthDelimited_none _ hb s h, F.of_encode (by simp [encode, hb]),
      by simp [denotesLeaf]⟩
  · -- `fixed`
    rename_i nm size
    by_cases hsz : size ≠ b.length
    · simp [hsz, SerM.fail] at hok
    · simp only [if_neg hsz]
      have hl : b.length = size := by omega
      exact ⟨.fixed b, _, writeAll_none b s h, F.of_encode (by simp [encode, hl]),
        by simp [denotesLeaf, hl]⟩
  · -- `duration`
    by_cases hsz : b.length ≠ 12
    · simp [hsz, SerM.fail] at hok
    · simp only [if_neg hsz]
      have hl : b.length = 12 := by omega
      refine ⟨_, _, writeAll_none b s h, F.of_encode (encode_duration_of_length b hl), ?_⟩
      simp only [denotesLeaf, decide_eq_true_eq]
      exact leBytes_take_drop12 b hl
  · simp [SerM.fail] at hok

theorem serBool_sound (b : Bool) (hok : (serBool S node b s).1 = .ok ()) :
    Res D node (serBool S node b) s
      (fun v => denotesAtLeaf (denExtOf ext) S node (.bool b) v = true) := by
  unfold serBool at hok ⊢
  refine viaUnion_leaf F hn _ _ _ s hs ?_ hok
  intro n s h hu hnok hok
  split at hok
  · exact ⟨.bool b, [if b then 1 else 0], writeAll_none _ s h, F.of_encode (by simp [encode]),
      by simp [denotesLeaf]⟩
  · simp [SerM.fail] at hok

theorem serF32_sound (bits : BitVec 32) (hok : (serF32 S node bits s).1 = .ok ()) :
    Res D node (serF32 S node bits) s
      (fun v => denotesAtLeaf (denExtOf ext) S node (.f32 bits) v = true) := by
  unfold serF32 at hok ⊢
  refine viaUnion_leaf F hn _ _ _ s hs ?_ hok
  intro n s h hu hnok hok
  split at hok
  · exact ⟨.float bits, _, writeAll_none _ s h, F.of_encode (by simp [encode]),
      by simp [denotesLeaf]⟩
  · simp [SerM.fail] at hok

/-- The one leaf arm whose bytes need not be canonical: a negative integer on
    a `decimal`/`bytes` node keeps all sixteen bytes of the `i128` (`stripZeros` drops zero bytes
    only); `hneg` says that `nb` permits it, and `Representation.decimalNeg` accepts the bytes. -/
theorem serInteger_sound (t : IntTy) (x : Int) (ht : t.inRange x = true)
    (hneg : nb.negInt = true ∨ 0 ≤ x)
    (hok : (serInteger S node t x s).1 = .ok ()) :
    Res D node (serInteger S node t x) s
      (fun v => denotesAtLeaf (denExtOf ext) S node (.int t x) v = true) := by
  unfold serInteger at hok ⊢
  refine viaUnion_leaf F hn _ _ _ s hs ?_ hok
  intro n s h hu hnok hok
  split at hok
  -- `int`, `date`, `time-millis`
  iterate 3
    have hr := ite_fail_ok hok
    have hi : InI64 x := by unfold InI64; omega
    have h32 : InI32 x := hr
    simp only [if_pos hr]
    exact ⟨.int x, _, writeVarI64_spec x hi s h, F.of_encode (by simp [encode, h32]),
      by simp [denotesLeaf, ht]⟩
  -- `long`, `timestamp-millis`, `timestamp-micros`, `time-micros`
  iterate 4
    have hr := ite_fail_ok hok
    have hi : InI64 x := hr
    simp only [if_pos hr]
    exact ⟨.long x, _, writeVarI64_spec x hi s h, F.of_encode (by simp [encode, hi]),
      by simp [denotesLeaf, ht]⟩
  · -- `decimal`
    rename_i scale prec repr
    cases repr with
    | bytes =>
      obtain ⟨h128, he⟩ := serIntegerAsDecimal_bytes scale x s h hok
      refine ⟨.decimal (x * 10 ^ scale), _, he, ?_, by simp [denotesLeaf, ht]⟩
      rcases Int.lt_or_le x 0 with hx | hx
      · have := F.decimalNeg (hneg.resolve_right (by omega)) hnok
          (stripped_length_le (x * 10 ^ scale))
        rwa [stripped_sound h128] at this
      · exact F.of_encode (Canon.encode_decimal_bytes
          (Canon.stripped_minimal h128 (Int.mul_nonneg hx (Int.pow_nonneg (by omega))))
          (Nat.le_trans (stripped_length_le _) (by decide)) (stripped_sound h128))
    | fixed nm size =>
      obtain ⟨h16, m, hl, he, hv⟩ := serIntegerAsDecimal_fixed scale nm size x s h hok
      exact ⟨.decimal (x * 10 ^ scale), _, he, F.of_encode (Canon.encode_decimal_fixed hl hv),
        by simp [denotesLeaf, ht]⟩
  · -- `enum`
    rename_i nm syms
    have hr := ite_fail_ok hok
    have hsmall : syms.length < 2 ^ 63 := by simpa [nodeSmall] using (F.ok hnok).small
    have hi : InI64 x := by unfold InI64; omega
    have h1 : x.toNat < syms.length ∧ x.toNat < 2 ^ 63 := by omega
    have h2 : ((x.toNat : Nat) : Int) = x := by omega
    simp only [if_pos hr]
    refine ⟨.enum x.toNat, _, writeVarI64_spec x hi s h, F.of_encode (by simp [encode, h1, h2]), ?_⟩
    simp [denotesLeaf, ht, h2, h1]
  · simp [SerM.fail] at hok

theorem serStr_sound (hext : ExtOK ext) (sv : SV) (str : String)
    (hsv : sv = .str str ∨ ∃ c, sv = .char c ∧ str = String.singleton c)
    (hlen : (utf8 str).length < 2 ^ 63)
    (hok : (serStr ext S node str s).1 = .ok ()) :
    Res D node (serStr ext S node str) s
      (fun v => denotesAtLeaf (denExtOf ext) S node sv v = true) := by
  unfold serStr at hok ⊢
  refine viaUnion_leaf F hn _ _ _ s hs ?_ hok
  intro n s h hu hnok
  exact serStrAt_leaf F s h hext hnok sv str hsv hlen

theorem serUnitStruct_sound (name : String) (hlen : (utf8 name).length < 2 ^ 63)
    (hok : (serUnitStruct ext S node name s).1 = .ok ()) :
    Res D node (serUnitStruct ext S node name) s
      (fun v => denotesAtLeaf (denExtOf ext) S node (.unitStruct name) v = true) := by
  unfold serUnitStruct at hok ⊢
  refine viaUnion_leaf F hn _ _ _ s hs ?_ hok
  intro n s h hu hnok hok
  split at hok
  · exact ⟨.null, [], by simp [pure], F.of_encode (by simp [encode]), by simp [denotesLeaf]⟩
  · exact serStrAt_text F s h hnok _ name rfl hlen (Or.inl rfl) hok
  · exact serStrAt_text F s h hnok _ name rfl hlen (Or.inr (Or.inl rfl)) hok
  · exact serStrAt_text F s h hnok _ name rfl hlen (Or.inr (Or.inr ⟨_, _, rfl⟩)) hok
  · simp [SerM.fail] at hok

theorem serUnitVariant_sound (name : String) (idx : Nat) (variant : String)
    (hlen : (utf8 variant).length < 2 ^ 63)
    (hok : (serUnitVariant ext S node variant s).1 = .ok ()) :
    Res D node (serUnitVariant ext S node variant) s
      (fun v => denotesAtLeaf (denExtOf ext) S node (.unitVariant name idx variant) v = true) := by
  have hAt : (viaUnion S node .unitVariant (serUnitVariantAt ext variant) s).1 = .ok () →
      Res D node (viaUnion S node .unitVariant (serUnitVariantAt ext variant)) s
        (fun v => denotesAtLeaf (denExtOf ext) S node (.unitVariant name idx variant) v = true) := by
    intro hok
    refine viaUnion_leaf F hn _ _ _ s hs ?_ hok
    intro n s h hu hnok hok
    unfold serUnitVariantAt at hok ⊢
    split at hok
    · have hv := ite_fail_ok hok
      simp only [if_pos hv]
      exact ⟨.null, [], by simp [pure], F.of_encode (by simp [encode]), by simp [denotesLeaf, hv]⟩
    · exact serStrAt_text F s h hnok _ variant rfl hlen (Or.inl rfl) hok
    · exact serStrAt_text F s h hnok _ variant rfl hlen (Or.inr (Or.inl rfl)) hok
    · exact serStrAt_text F s h hnok _ variant rfl hlen (Or.inr (Or.inr ⟨_, _, rfl⟩)) hok
    · simp [SerM.fail] at hok
  by_cases hu : node.isUnion = false
  · have e : serUnitVariant ext S node variant =
        viaUnion S node .unitVariant (serUnitVariantAt ext variant) := by
      cases node <;> first | rfl | simp [Node.isUnion] at hu
    rw [e] at hok ⊢
    exact hAt hok
  · obtain ⟨vs, rfl⟩ := Node.eq_union_of_isUnion hu
    cases hd : nullVariantBranch S vs variant with
    | none =>
      have e : serUnitVariant ext S (.union vs) variant =
          viaUnion S (.union vs) .unitVariant (serUnitVariantAt ext variant) := by
        simp only [serUnitVariant, hd]
      rw [e] at hok ⊢
      exact hAt hok
    | some d =>
      have e : serUnitVariant ext S (.union vs) variant = writeVarI64 (d : Int) := by
        simp only [serUnitVariant, hd]
      rw [e]
      obtain ⟨hv, k, hk, hSk⟩ := nullVariantBranch_some hd
      obtain ⟨hrun, hdec⟩ := F.null_branch hn hk hSk s hs.1
      exact Res.of_leaf hs ⟨.union d .null, _, hrun, hdec,
        by simp [denotesAtLeaf, unionBranch, hk, hSk, denotesLeaf, hv]⟩

theorem serF64_sound (hext : ExtOK ext) (bits : BitVec 64) (hok : (serF64 ext S node bits s).1 = .ok ()) :
    Res D node (serF64 ext S node bits) s
      (fun v => denotesAtLeaf (denExtOf ext) S node (.f64 bits) v = true) := by
  unfold serF64 at hok ⊢
  refine viaUnion_leaf F hn _ _ _ s hs ?_ hok
  intro n s h hu hnok hok
  split at hok
  · -- `double`
    exact ⟨.double bits, _, writeAll_none _ s h, F.of_encode (by simp [encode]),
      by simp [denotesLeaf]⟩
  · -- `float`
    exact ⟨.float (ext.asF32 bits), _, writeAll_none _ s h, F.of_encode (by simp [encode]),
      by simp [denotesLeaf, denExtOf]⟩
  · -- `decimal`
    rename_i scale prec repr
    cases hp : ext.decFromF64 bits with
    | none => simp [hp, SerM.fail] at hok
    | some d =>
      simp only [hp] at hok ⊢
      obtain ⟨u, bytes, he, hd, hu⟩ :=
        serDecimal_regular_sound F hext scale prec repr d s h (hext.fromF64 bits d hp).1 hok
      have hp' : (denExtOf ext).decFromF64 bits = some d := hp
      refine ⟨.decimal u, bytes, he, hd, ?_⟩
      simp only [denotesLeaf, hp']; exact decide_eq_true hu
  · -- `big-decimal`
    cases hp : ext.decFromF64 bits with
    | none => simp [hp, SerM.fail] at hok
    | some d =>
      simp only [hp] at hok ⊢
      obtain ⟨hr, hsc⟩ := hext.fromF64 bits d hp
      obtain ⟨bytes, he, hd⟩ := serDecimal_big_sound F (ext := ext) d s h hr hsc
      exact ⟨.bigDecimal d.1 d.2, bytes, he, hd, by simp [denotesLeaf, denExtOf, hp]⟩
  · simp [SerM.fail] at hok

end
end

end Avro
