import AvroModel.Lemmas.SpecRoundTrip
import AvroModel.Lemmas.SerReprWalk
/-
Decodability as a representation relation (C02): `Dec S n bytes v`, "the specification decoder
reads `bytes`, followed by anything, back as `v`, with any sufficiently large fuel".
`Dec.representation`: it is a `Representation` (Lemmas/SerRepr.lean) and accepts every layout;
`ser_sound_aux` is `ser_repr` at this instance.  The map half (`DecMapItems`, `DecMapBlocks`,
`DecMapTail`, `Dec.map_blocks`) is the array half with an entry, key then value (`EntryRep`), for an
item.
-/
namespace Avro
open Avro.Spec Avro.Impl

/-! ### `Dec`, and its closure under union, items and blocks -/

/-- `p`, given enough fuel, reads `bytes` back as `a` and leaves what follows. -/
def DecP {α : Type} (p : Nat → Bytes → Option (α × Bytes)) (bytes : Bytes) (a : α) : Prop :=
  ∃ N, ∀ fuel, N ≤ fuel → ∀ rest, p fuel (bytes ++ rest) = some (a, rest)

abbrev Dec (S : Schema) (n : Node) : Bytes → Value → Prop := DecP (fun f => decode S f n)
abbrev DecBlocks (S : Schema) (item : Node) : Bytes → List Value → Prop :=
  DecP (fun f => decodeBlocks S f item)
abbrev DecItems (S : Schema) (item : Node) (c : Nat) : Bytes → List Value → Prop :=
  DecP (fun f => decodeItems S f item c)
abbrev DecMapBlocks (S : Schema) (item : Node) : Bytes → List (String × Value) → Prop :=
  DecP (fun f => decodeMapBlocks S f item)
abbrev DecMapItems (S : Schema) (item : Node) (c : Nat) : Bytes → List (String × Value) → Prop :=
  DecP (fun f => decodeMapItems S f item c)
abbrev DecFields (S : Schema) (ks : List Nat) : Bytes → List Value → Prop :=
  DecP (fun f => decodeFields S f ks)

theorem DecP.of_const {α : Type} {p : Bytes → Option (α × Bytes)} {bytes : Bytes} {a : α}
    (h : ∀ rest, p (bytes ++ rest) = some (a, rest)) : DecP (fun _ => p) bytes a :=
  ⟨0, fun _ _ rest => h rest⟩

theorem DecP.of_succ {α : Type} {p : Nat → Bytes → Option (α × Bytes)} {bytes : Bytes} {a : α}
    (N : Nat)
    (h : ∀ g, N ≤ g → ∀ rest, p (g + 1) (bytes ++ rest) = some (a, rest)) : DecP p bytes a :=
  ⟨N + 1, fun fuel hf rest => by
    obtain ⟨g, rfl⟩ : ∃ g, fuel = g + 1 := ⟨fuel - 1, by omega⟩
    exact h g (by omega) rest⟩

theorem Dec.of_encode {S : Schema} {n : Node} {v : Value} {bytes : Bytes}
    (h : encode S n v = some bytes) : Dec S n bytes v :=
  ⟨size v, fun fuel hf rest => decode_encode S n v bytes rest h fuel hf⟩

theorem Dec.of_step {S : Schema} {n : Node} {v : Value} {bytes : Bytes}
    (h : ∀ fuel rest, decode S (fuel + 1) n (bytes ++ rest) = some (v, rest)) : Dec S n bytes v :=
  .of_succ 0 fun g _ rest => h g rest

theorem Dec.union {S : Schema} {vs : List Nat} {d k : Nat} {n : Node} {bytes : Bytes} {y : Value}
    (hk : vs[d]? = some k) (hn : S[k]? = some n) (hd : d < 2 ^ 63) (h : Dec S n bytes y) :
    Dec S (.union vs) (encodeLong d ++ bytes) (.union d y) := by
  obtain ⟨N, hN⟩ := h
  refine .of_succ N fun g hg rest => ?_
  simp only [decode, List.append_assoc, decodeLen_encodeLong d hd, hk, nodeOf, hn,
    hN g (by omega) rest, Option.map_some]

theorem DecItems.nil {S : Schema} {item : Node} : DecItems S item 0 [] [] :=
  ⟨0, fun fuel _ rest => by simp [decodeItems]⟩

theorem DecItems.nil_inv {S : Schema} {item : Node} {b : Bytes} {vs : List Value}
    (h : DecItems S item 0 b vs) : b = [] ∧ vs = [] := by
  obtain ⟨N, hN⟩ := h
  have := hN N (Nat.le_refl _) []
  simp only [decodeItems, List.append_nil, Option.some.injEq, Prod.mk.injEq] at this
  exact ⟨this.2, this.1.symm⟩

theorem DecItems.cons {S : Schema} {item : Node} {c : Nat} {b bs : Bytes} {v : Value}
    {vs : List Value} (h1 : Dec S item b v) (h2 : DecItems S item c bs vs) :
    DecItems S item (c + 1) (b ++ bs) (v :: vs) := by
  obtain ⟨N1, hN1⟩ := h1
  obtain ⟨N2, hN2⟩ := h2
  refine .of_succ (max N1 N2) fun g hg rest => ?_
  simp only [decodeItems, List.append_assoc, hN1 g (by omega) (bs ++ rest), hN2 g (by omega) rest]

theorem DecBlocks.end_ {S : Schema} {item : Node} : DecBlocks S item [0] [] :=
  .of_succ 0 fun g _ rest => by simp [decodeBlocks, decodeBlockHeader_zero]

theorem DecBlocks.block {S : Schema} {item : Node} {c : Nat} {b1 b2 : Bytes} {vs1 vs2 : List Value}
    (hc : 0 < c) (hc' : c < 2 ^ 63) (h1 : DecItems S item c b1 vs1) (h2 : DecBlocks S item b2 vs2) :
    DecBlocks S item (encodeLong c ++ b1 ++ b2) (vs1 ++ vs2) := by
  obtain ⟨N1, hN1⟩ := h1
  obtain ⟨N2, hN2⟩ := h2
  refine .of_succ (max N1 N2) fun g hg rest => ?_
  obtain ⟨c', rfl⟩ : ∃ c', c = c' + 1 := ⟨c - 1, by omega⟩
  show decodeBlocks S (g + 1) item _ = _
  rw [decodeBlocks, List.append_assoc, List.append_assoc, decodeBlockHeader_encodeLong _ hc']
  simp only [hN1 g (by omega) (b2 ++ rest), hN2 g (by omega) rest]

theorem Dec.array {S : Schema} {k : Nat} {item : Node} {b : Bytes} {vs : List Value}
    (hk : S[k]? = some item) (h : DecBlocks S item b vs) : Dec S (.array k) b (.array vs) := by
  obtain ⟨N, hN⟩ := h
  refine .of_succ N fun g hg rest => ?_
  simp only [decode, nodeOf, hk, hN g (by omega) rest, Option.map_some]

/-! ### `Dec` is closed under what the block writer emits (`blocksOf`, any number of blocks) -/

/-- `c` more items of the current block, then further blocks up to the end marker -/
def DecTail (S : Schema) (item : Node) (c : Nat) (B : Bytes) (V : List Value) : Prop :=
  ∃ b1 b2 v1 v2, B = b1 ++ b2 ∧ V = v1 ++ v2 ∧ DecItems S item c b1 v1 ∧ DecBlocks S item b2 v2

theorem DecTail.cons {S : Schema} {item : Node} {c c1 : Nat} {hdr b B : Bytes} {v : Value}
    {V : List Value} (hc : Signalled c c1 hdr) (h1 : Dec S item b v) (h2 : DecTail S item c1 B V) :
    DecTail S item c (hdr ++ (b ++ B)) (v :: V) := by
  obtain ⟨b1, b2, v1, v2, rfl, rfl, hi, hb⟩ := h2
  rcases hc with ⟨rfl, rfl, rfl⟩ | ⟨rfl, rfl⟩
  · obtain ⟨rfl, rfl⟩ := hi.nil_inv
    refine ⟨[], encodeLong 1 ++ (b ++ b2), [], v :: v2, by simp, by simp, DecItems.nil, ?_⟩
    have := DecBlocks.block (c := 1) (by omega) (by omega) (DecItems.cons h1 DecItems.nil) hb
    simpa using this
  · exact ⟨b ++ b1, b2, v :: v1, v2, by simp, by simp, DecItems.cons h1 hi, hb⟩

theorem DecTail.blockBytes {S : Schema} {item : Node} :
    ∀ (ves : List (Value × Bytes)) (c : Nat), (∀ ve ∈ ves, Dec S item ve.2 ve.1) →
    ∀ tB tV, DecTail S item (c - ves.length) tB tV →
      DecTail S item c (blockBytes c (ves.map (·.2)) ++ tB) (ves.map (·.1) ++ tV)
  | [], c, _, tB, tV, h => by simpa [Avro.blockBytes] using h
  | ve :: ves, c, hall, tB, tV, h => by
    obtain ⟨c1, hdr, hc⟩ : ∃ c1 hdr, Signalled c c1 hdr := by
      cases c with
      | zero => exact ⟨0, _, Or.inl ⟨rfl, rfl, rfl⟩⟩
      | succ n => exact ⟨n, _, Or.inr ⟨rfl, rfl⟩⟩
    rw [List.length_cons, hc.sub] at h
    have := DecTail.cons hc (hall ve (by simp))
      (DecTail.blockBytes ves c1 (fun x hx => hall x (by simp [hx])) tB tV h)
    simpa [hc.blockBytes] using this

theorem Dec.array_blocks {S : Schema} {k : Nat} {item : Node} {L : Nat} {ves : List (Value × Bytes)}
    (hk : S[k]? = some item) (hL : L ≤ ves.length) (hn : ves.length < 2 ^ 63)
    (hall : ∀ ve ∈ ves, Dec S item ve.2 ve.1) :
    Dec S (.array k) (blocksOf L (ves.map (·.2))) (.array (ves.map (·.1))) := by
  obtain ⟨b1, b2, v1, v2, hb, hv, hi, hbl⟩ := DecTail.blockBytes ves L hall [0] []
    (by rw [Nat.sub_eq_zero_of_le hL]; exact ⟨[], [0], [], [], rfl, rfl, DecItems.nil, DecBlocks.end_⟩)
  rw [List.append_nil] at hv
  apply Dec.array hk
  unfold blocksOf
  by_cases h0 : L > 0
  · simp only [h0, if_true]
    rw [hb, hv, ← List.append_assoc]
    exact DecBlocks.block h0 (by omega) hi hbl
  · have : L = 0 := by omega
    subst this
    obtain ⟨rfl, rfl⟩ := hi.nil_inv
    simp only [h0, if_false, List.nil_append]
    rw [hb, hv]; simpa using hbl

/-- `DecP` for `decodeString`, which takes no fuel. -/
def DecStr (b : Bytes) (k : String) : Prop := ∀ rest, decodeString (b ++ rest) = some (k, rest)

theorem Dec.string_inv {S : Schema} {b : Bytes} {v : Value} (h : Dec S .string b v) :
    ∃ k, v = .string k ∧ DecStr b k := by
  obtain ⟨N, hN⟩ := h
  have h0 := hN (N + 1) (by omega) []
  simp only [decode, List.append_nil] at h0
  cases hd : decodeString b with
  | none => simp [hd] at h0
  | some p =>
    obtain ⟨k, r⟩ := p
    simp only [hd, Option.map_some, Option.some.injEq, Prod.mk.injEq] at h0
    obtain ⟨rfl, rfl⟩ := h0
    refine ⟨k, rfl, fun rest => ?_⟩
    have h1 := hN (N + 1) (by omega) rest
    simp only [decode] at h1
    cases hd' : decodeString (b ++ rest) with
    | none => simp [hd'] at h1
    | some p' =>
      obtain ⟨k', r'⟩ := p'
      simp only [hd', Option.map_some, Option.some.injEq, Prod.mk.injEq, Value.string.injEq] at h1
      obtain ⟨rfl, rfl⟩ := h1
      rfl

theorem DecMapItems.nil {S : Schema} {item : Node} : DecMapItems S item 0 [] [] :=
  ⟨0, fun fuel _ rest => by simp [decodeMapItems]⟩

theorem DecMapItems.nil_inv {S : Schema} {item : Node} {b : Bytes} {vs : List (String × Value)}
    (h : DecMapItems S item 0 b vs) : b = [] ∧ vs = [] := by
  obtain ⟨N, hN⟩ := h
  have := hN N (Nat.le_refl _) []
  simp only [decodeMapItems, List.append_nil, Option.some.injEq, Prod.mk.injEq] at this
  exact ⟨this.2, this.1.symm⟩

theorem DecMapItems.cons {S : Schema} {item : Node} {c : Nat} {bk b bs : Bytes} {k : String}
    {v : Value} {vs : List (String × Value)} (h0 : DecStr bk k) (h1 : Dec S item b v)
    (h2 : DecMapItems S item c bs vs) :
    DecMapItems S item (c + 1) (bk ++ (b ++ bs)) ((k, v) :: vs) := by
  obtain ⟨N1, hN1⟩ := h1
  obtain ⟨N2, hN2⟩ := h2
  refine .of_succ (max N1 N2) fun g hg rest => ?_
  simp only [decodeMapItems, List.append_assoc, h0 (b ++ (bs ++ rest)),
    hN1 g (by omega) (bs ++ rest), hN2 g (by omega) rest]

theorem DecMapBlocks.end_ {S : Schema} {item : Node} : DecMapBlocks S item [0] [] :=
  .of_succ 0 fun g _ rest => by simp [decodeMapBlocks, decodeBlockHeader_zero]

theorem DecMapBlocks.block {S : Schema} {item : Node} {c : Nat} {b1 b2 : Bytes}
    {vs1 vs2 : List (String × Value)}
    (hc : 0 < c) (hc' : c < 2 ^ 63) (h1 : DecMapItems S item c b1 vs1)
    (h2 : DecMapBlocks S item b2 vs2) :
    DecMapBlocks S item (encodeLong c ++ b1 ++ b2) (vs1 ++ vs2) := by
  obtain ⟨N1, hN1⟩ := h1
  obtain ⟨N2, hN2⟩ := h2
  refine .of_succ (max N1 N2) fun g hg rest => ?_
  obtain ⟨c', rfl⟩ : ∃ c', c = c' + 1 := ⟨c - 1, by omega⟩
  show decodeMapBlocks S (g + 1) item _ = _
  rw [decodeMapBlocks, List.append_assoc, List.append_assoc, decodeBlockHeader_encodeLong _ hc']
  simp only [hN1 g (by omega) (b2 ++ rest), hN2 g (by omega) rest]

theorem Dec.map {S : Schema} {k : Nat} {item : Node} {b : Bytes} {vs : List (String × Value)}
    (hk : S[k]? = some item) (h : DecMapBlocks S item b vs) : Dec S (.map k) b (.map vs) := by
  obtain ⟨N, hN⟩ := h
  refine .of_succ N fun g hg rest => ?_
  simp only [decode, nodeOf, hk, hN g (by omega) rest, Option.map_some]

def DecMapTail (S : Schema) (item : Node) (c : Nat) (B : Bytes) (V : List (String × Value)) : Prop :=
  ∃ b1 b2 v1 v2, B = b1 ++ b2 ∧ V = v1 ++ v2 ∧ DecMapItems S item c b1 v1 ∧ DecMapBlocks S item b2 v2

theorem DecMapTail.cons {S : Schema} {item : Node} {c c1 : Nat} {hdr bk b B : Bytes} {k : String}
    {v : Value} {V : List (String × Value)} (hc : Signalled c c1 hdr) (h0 : DecStr bk k)
    (h1 : Dec S item b v) (h2 : DecMapTail S item c1 B V) :
    DecMapTail S item c (hdr ++ (bk ++ (b ++ B))) ((k, v) :: V) := by
  obtain ⟨b1, b2, v1, v2, rfl, rfl, hi, hb⟩ := h2
  rcases hc with ⟨rfl, rfl, rfl⟩ | ⟨rfl, rfl⟩
  · obtain ⟨rfl, rfl⟩ := hi.nil_inv
    refine ⟨[], encodeLong 1 ++ (bk ++ (b ++ b2)), [], (k, v) :: v2, by simp, by simp,
      DecMapItems.nil, ?_⟩
    have := DecMapBlocks.block (c := 1) (by omega) (by omega)
      (DecMapItems.cons h0 h1 DecMapItems.nil) hb
    simpa using this
  · exact ⟨bk ++ (b ++ b1), b2, (k, v) :: v1, v2, by simp, by simp, DecMapItems.cons h0 h1 hi, hb⟩

theorem DecMapTail.blockBytes {S : Schema} {item : Node} :
    ∀ (ves : List ((String × Value) × Bytes)) (c : Nat), (∀ ve ∈ ves, EntryRep (Dec S) item ve) →
    ∀ tB tV, DecMapTail S item (c - ves.length) tB tV →
      DecMapTail S item c (blockBytes c (ves.map (·.2)) ++ tB) (ves.map (·.1) ++ tV)
  | [], c, _, tB, tV, h => by simpa [Avro.blockBytes] using h
  | ve :: ves, c, hall, tB, tV, h => by
    obtain ⟨c1, hdr, hc⟩ : ∃ c1 hdr, Signalled c c1 hdr := by
      cases c with
      | zero => exact ⟨0, _, Or.inl ⟨rfl, rfl, rfl⟩⟩
      | succ n => exact ⟨n, _, Or.inr ⟨rfl, rfl⟩⟩
    rw [List.length_cons, hc.sub] at h
    obtain ⟨bk, be, hve, hkd, hvd⟩ := hall ve (by simp)
    obtain ⟨k', hkk, hds⟩ := hkd.string_inv
    cases hkk
    have := DecMapTail.cons hc hds hvd
      (DecMapTail.blockBytes ves c1 (fun x hx => hall x (by simp [hx])) tB tV h)
    simpa [hc.blockBytes, hve] using this

theorem Dec.map_blocks {S : Schema} {k : Nat} {item : Node} {L : Nat}
    {ves : List ((String × Value) × Bytes)}
    (hk : S[k]? = some item) (hL : L ≤ ves.length) (hn : ves.length < 2 ^ 63)
    (hall : ∀ ve ∈ ves, EntryRep (Dec S) item ve) :
    Dec S (.map k) (blocksOf L (ves.map (·.2))) (.map (ves.map (·.1))) := by
  obtain ⟨b1, b2, v1, v2, hb, hv, hi, hbl⟩ := DecMapTail.blockBytes ves L hall [0] []
    (by rw [Nat.sub_eq_zero_of_le hL]
        exact ⟨[], [0], [], [], rfl, rfl, DecMapItems.nil, DecMapBlocks.end_⟩)
  rw [List.append_nil] at hv
  apply Dec.map hk
  unfold blocksOf
  by_cases h0 : L > 0
  · simp only [h0, if_true]
    rw [hb, hv, ← List.append_assoc]
    exact DecMapBlocks.block h0 (by omega) hi hbl
  · have : L = 0 := by omega
    subst this
    obtain ⟨rfl, rfl⟩ := hi.nil_inv
    simp only [h0, if_false, List.nil_append]
    rw [hb, hv]; simpa using hbl

theorem DecFields.nil {S : Schema} : DecFields S [] [] [] :=
  ⟨0, fun fuel _ rest => by simp [decodeFields]⟩

theorem DecFields.cons {S : Schema} {k : Nat} {n : Node} {ks : List Nat} {b bs : Bytes} {v : Value}
    {vs : List Value} (hk : S[k]? = some n) (h1 : Dec S n b v) (h2 : DecFields S ks bs vs) :
    DecFields S (k :: ks) (b ++ bs) (v :: vs) := by
  obtain ⟨N1, hN1⟩ := h1
  obtain ⟨N2, hN2⟩ := h2
  refine .of_succ (max N1 N2) fun g hg rest => ?_
  simp only [decodeFields, nodeOf, hk, List.append_assoc, hN1 g (by omega) (bs ++ rest),
    hN2 g (by omega) rest]

theorem Dec.record {S : Schema} {nm : Name} {fields : List (String × Nat)} {b : Bytes}
    {vs : List Value} (h : DecFields S (fields.map (·.2)) b vs) :
    Dec S (.record nm fields) b (.record vs) := by
  obtain ⟨N, hN⟩ := h
  refine .of_succ N fun g hg rest => ?_
  simp only [decode, hN g (by omega) rest, Option.map_some]

theorem DecFields.of_fields {S : Schema} : ∀ (fields : List (String × Nat)) (ves : List (Value × Bytes)),
    ves.length = fields.length →
    (∀ (i : Nat) (f : String × Nat) (ve : Value × Bytes), fields[i]? = some f → ves[i]? = some ve →
      ∃ fnode, S[f.2]? = some fnode ∧ Dec S fnode ve.2 ve.1) →
    DecFields S (fields.map (·.2)) (ves.flatMap (·.2)) (ves.map (·.1))
  | [], [], _, _ => DecFields.nil
  | f :: fs, ve :: ves, hl, h => by
    obtain ⟨fnode, hfn, hd⟩ := h 0 f ve rfl rfl
    exact DecFields.cons hfn hd (DecFields.of_fields fs ves (by simpa using hl)
      fun i f' ve' h1 h2 => h (i + 1) f' ve' (by simpa using h1) (by simpa using h2))
  | [], _ :: _, hl, _ => by simp at hl
  | _ :: _, [], hl, _ => by simp at hl

theorem Dec.decimal_bytes {S : Schema} {scale prec : Nat} {m : Bytes} (hl : m.length ≤ 16) :
    Dec S (.decimal scale prec .bytes) (lenPrefixed m) (.decimal (fromTwosComplementBE m)) :=
  Dec.of_step fun fuel rest => by
    simp [decode, decodeBytes_lenPrefixed m (by omega) rest]

theorem Dec.representation (nb : Canon.Allow) {S : Schema} (hS : SchemaOK S) :
    Representation nb S (NodeOK S) (Dec S) where
  ok := id
  schema := hS
  str := NodeOK.string
  of_encode := Dec.of_encode
  string_inv := fun h => by obtain ⟨k, hk, _⟩ := h.string_inv; exact ⟨k, hk⟩
  union := Dec.union
  decimalNeg := fun _ _ _ _ _ hl => Dec.decimal_bytes hl
  record := fun hl h => Dec.record (DecFields.of_fields _ _ hl h)
  array := fun _ hk hL hn _ hall => Dec.array_blocks hk hL hn hall
  map := fun _ hk hL hn _ hall => Dec.map_blocks hk hL hn hall

namespace Canon

def Allow.all : Allow := { negInt := true, openSeq := true, openMap := true }

mutual
theorem svCanon_all : ∀ sv : SV, svCanon Allow.all sv = true
  | .bool _ | .f32 _ | .f64 _ | .none | .unit | .char _ | .str _ | .bytes _ | .unitStruct _
  | .unitVariant _ _ _ | .int _ _ => rfl
  | .some v | .newtypeStruct _ v | .newtypeVariant _ _ _ v => by rw [svCanon]; exact svCanon_all v
  | .seq _ es => by rw [svCanon, svCanonList_all es]; rfl
  | .tuple es | .tupleStruct _ es | .tupleVariant _ _ _ es => by rw [svCanon, svCanonList_all es]
  | .map _ es => by rw [svCanon, svCanonEntries_all es]; rfl
  | .struct _ fs | .structVariant _ _ _ fs => by rw [svCanon]; exact svCanonFields_all fs
theorem svCanonList_all : ∀ es : List SV, svCanonList Allow.all es = true
  | [] => rfl
  | e :: es => by rw [svCanonList, svCanon_all e, svCanonList_all es]; rfl
theorem svCanonFields_all : ∀ fs : List (String × SV), svCanonFields Allow.all fs = true
  | [] => rfl
  | (_, v) :: fs => by rw [svCanonFields, svCanon_all v, svCanonFields_all fs]; rfl
theorem svCanonEntries_all : ∀ es : List (SV × SV), svCanonEntries Allow.all es = true
  | [] => rfl
  | (k, v) :: es => by
    rw [svCanonEntries, svCanon_all k, svCanon_all v, svCanonEntries_all es]; rfl
end

end Canon

theorem ser_sound_aux {ext : Ext} {a : Bool} {S : Schema} (hS : SchemaOK S) (hext : ExtOK ext)
    (sv : SV) (hsv : svOK sv = true) : Sound (Dec S) (NodeOK S) ext a S sv :=
  ser_repr (Dec.representation .all hS) hext sv hsv (Canon.svCanon_all sv)


end Avro
