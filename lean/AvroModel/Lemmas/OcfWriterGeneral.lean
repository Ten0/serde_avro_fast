import AvroModel.Lemmas.OcfParse
/-
The abstract container writer (`astep` / `AState` of `Lemmas/OcfWriter.lean`) on arbitrary counts (a
`push_serialized` may carry 0); `C15_run_finished` (counts ≥ 1) and `Theorems/C15general.lean` both
rest on `arun_finished`.  `Quiet`: between
two calls a buffer that has reached the block size counts no value (otherwise the call that filled it
would have closed the block); it holds after every call whatever the state before (`astep_quiet`).
A count of 2^63 is written as a negative `long` (`encodeVarI64_two_pow_63`), at which the parser stops
(`parseBlocks_negative_count`): what `C15_general_count_bound_necessary` evaluates.
-/
namespace Avro.Impl.Ocf

open Avro Avro.Impl

/-! ### Counts and bytes of lists of entries -/

/-- every entry counts for no value (a `push_serialized(bytes, 0)`) -/
def AllZero (es : List Entry) : Prop := ∀ e ∈ es, e.2 = 0

theorem cntOf_cons (e : Entry) (es : List Entry) : cntOf (e :: es) = e.2 + cntOf es := by
  simp [cntOf]

theorem bufOf_cons (e : Entry) (es : List Entry) : bufOf (e :: es) = e.1 ++ bufOf es := by
  simp [bufOf]

theorem cntOf_append (xs ys : List Entry) : cntOf (xs ++ ys) = cntOf xs + cntOf ys := by
  simp [cntOf]

theorem bufOf_append (xs ys : List Entry) : bufOf (xs ++ ys) = bufOf xs ++ bufOf ys := by
  simp [bufOf]

theorem cntOf_flatten (L : List (List Entry)) : cntOf L.flatten = (L.map cntOf).sum := by
  induction L with
  | nil => rfl
  | cons l L ih => simp [cntOf_append, ih]

theorem bufOf_flatten (L : List (List Entry)) : bufOf L.flatten = (L.map bufOf).flatten := by
  induction L with
  | nil => rfl
  | cons l L ih => simp [bufOf_append, ih]

theorem cntOf_eq_zero_iff (es : List Entry) : cntOf es = 0 ↔ AllZero es := by
  induction es with
  | nil => simp [AllZero]
  | cons e es ih =>
    rw [cntOf_cons]
    constructor
    · intro h x hx
      rcases List.mem_cons.1 hx with rfl | hx
      · omega
      · exact ih.1 (by omega) x hx
    · intro h
      have h1 := h e (by simp)
      have h2 := ih.2 (fun x hx => h x (List.mem_cons_of_mem _ hx))
      omega

theorem cntOf_le_of_mem_flatten (L : List (List Entry)) (b : List Entry) (hb : b ∈ L) :
    cntOf b ≤ cntOf L.flatten := by
  induction L with
  | nil => cases hb
  | cons l L ih =>
    rw [List.flatten_cons, cntOf_append]
    rcases List.mem_cons.1 hb with rfl | hb
    · omega
    · have := ih hb; omega

theorem bufOf_length_le_of_mem_flatten (L : List (List Entry)) (b : List Entry) (hb : b ∈ L) :
    (bufOf b).length ≤ (bufOf L.flatten).length := by
  induction L with
  | nil => cases hb
  | cons l L ih =>
    rw [List.flatten_cons, bufOf_append, List.length_append]
    rcases List.mem_cons.1 hb with rfl | hb
    · omega
    · have := ih hb; omega

/-! ### The state between two calls -/

/-- Between two calls: a buffer that has reached the block size counts no value. -/
def Quiet (approx : Nat) (a : AState) : Prop :=
  (bufOf a.buffered).length ≥ approx → cntOf a.buffered = 0

theorem quiet_init (approx : Nat) : Quiet approx {} := fun _ => rfl

theorem aseal_quiet (approx : Nat) (a : AState) : Quiet approx (aseal a) := fun _ => aseal_cnt a

theorem asealIf_quiet (approx : Nat) (a : AState) : Quiet approx (asealIf approx a) := by
  unfold asealIf
  split
  · exact aseal_quiet approx a
  · rename_i h; intro h'; exact absurd h' h

theorem astep_quiet (approx : Nat) (a : AState) (op : WOp) : Quiet approx (astep approx a op) := by
  cases op with
  | value d =>
    cases d with
    | none => exact asealIf_quiet approx a
    | some d => exact asealIf_quiet approx _
  | push b k => exact asealIf_quiet approx _
  | finishBlock => exact aseal_quiet approx a
  | intoInner => exact aseal_quiet approx a
  | drop => exact aseal_quiet approx a

theorem arun_quiet (approx : Nat) (a : AState) (ops : List WOp) (h : Quiet approx a) :
    Quiet approx (arun approx a ops) := by
  unfold arun
  induction ops generalizing a with
  | nil => exact h
  | cons op ops ih => exact ih _ (astep_quiet approx a op)

theorem asealIf_of_quiet (approx : Nat) (a : AState) (h : Quiet approx a) : asealIf approx a = a := by
  unfold asealIf aseal
  split
  · rename_i hge
    have := h hge
    have : ¬ (cntOf a.buffered > 0) := by omega
    simp only [this, if_false]
  · rfl

theorem arun_snoc (approx : Nat) (a : AState) (ops : List WOp) (op : WOp) :
    arun approx a (ops ++ [op]) = astep approx (arun approx a ops) op := by
  simp only [arun, List.foldl_append, List.foldl_cons, List.foldl_nil]

/-- The abstract writer after a history closed by `finish_block` / `into_inner` / `Drop`, counts of
    any size: what is still buffered counts for nothing (count-0 pushes only). -/
theorem arun_finished (approx : Nat) (ops : List WOp) (fin : WOp)
    (hfin : fin = .finishBlock ∨ fin = .intoInner ∨ fin = .drop) :
    let a := arun approx {} (ops ++ [fin])
    a = aseal (arun approx {} ops) ∧
      a.sealed.flatten ++ a.buffered = ops.flatMap entryOf ∧
      SealedPos a ∧ AllZero a.buffered := by
  intro a
  have ha : a = aseal (arun approx {} ops) := by
    show arun approx {} (ops ++ [fin]) = _
    rw [arun_snoc]
    rcases hfin with h | h | h <;> subst h <;> rfl
  have hlog : a.log = ops.flatMap entryOf := by
    rw [ha, aseal_log, arun_log]; simp [AState.log]
  refine ⟨ha, hlog, ?_, ?_⟩
  · exact arun_sealedPos approx {} _ (by intro b hb; simp at hb)
  · exact (cntOf_eq_zero_iff _).1 (by rw [ha]; exact aseal_cnt _)

theorem wrun_append_singleton (c : Codec) (dbg : Bool) (w : WState) (ops : List WOp) (op : WOp) :
    wrun c dbg w (ops ++ [op]) =
      ((wrun c dbg w ops).1 ++ [(wstep c dbg (wrun c dbg w ops).2 op).1],
        (wstep c dbg (wrun c dbg w ops).2 op).2) := by
  simp only [wrun, List.foldl_append, List.foldl_cons, List.foldl_nil]

theorem mem_log_of_mem_sealed (a : AState) (b : List Entry) (hb : b ∈ a.sealed) :
    ∀ e ∈ b, e ∈ a.log := by
  intro e he
  unfold AState.log
  exact List.mem_append_left _ (List.mem_flatten.2 ⟨b, hb, he⟩)

/-! ### Successful flushes -/

theorem flushFinishedBlock_ok (c : Codec) (x y : WState)
    (hx : flushFinishedBlock c x = (.ok (), y)) :
    y.pending = none ∧ ((y.buf = [] ∧ y.n = x.n) ∨ y = x) := by
  unfold flushFinishedBlock at hx
  cases hp : x.pending with
  | none =>
    simp only [hp, Prod.mk.injEq, true_and] at hx
    subst hx
    exact ⟨hp, .inr rfl⟩
  | some header =>
    simp only [hp] at hx
    by_cases ht : x.taken = true
    · simp [ht] at hx
    · simp only [ht, Bool.false_eq_true, if_false] at hx
      cases hwr : writeAllVectored (sinkFuel x.sink [header, blockData c x, x.sync])
          [header, blockData c x, x.sync] x.sink with
      | mk r s =>
        simp only [hwr] at hx
        cases r with
        | error e => simp at hx
        | ok u =>
          simp only [Prod.mk.injEq, true_and] at hx
          subst hx
          exact ⟨rfl, .inl ⟨rfl, rfl⟩⟩

/-! ### The header followed by anything -/

open Avro.Spec Avro.Spec.Ocf in
theorem parseBlocks_negative_count (sync : Bytes) (i : Int) (hi : InI64 i) (hneg : i < 0)
    (rest : Bytes) (fuel : Nat) :
    parseBlocks sync (fuel + 1) (encodeLong i ++ rest) =
      ([], (encodeLong i ++ rest).length, false) := by
  conv => lhs; unfold parseBlocks
  have hne : (encodeLong i ++ rest).isEmpty = false := by
    have := encodeLong_ne_nil i
    cases h : encodeLong i with
    | nil => exact absurd h this
    | cons x xs => rfl
  simp only [hne, Bool.false_eq_true, if_false, decodeLong_encodeLong i hi, hneg, if_true]

/-- `2^63 as i64` is `i64::MIN`: the varint written for a count of `2^63` is the encoding of the
    `long` `-2^63`. -/
theorem encodeVarI64_two_pow_63 :
    encodeVarI64 ((2 ^ 63 : Nat) : Int) = Spec.encodeLong (-9223372036854775808) := by
  rw [← encodeVarI64_eq_spec _ (by unfold Spec.InI64; omega)]
  unfold encodeVarI64
  congr 3

/-! ### Concatenations of datum encodings -/

/-- `bytes` is the concatenation of the encodings of exactly `k` values. -/
def IsConcat {V : Type} (enc : V → Bytes) (bytes : Bytes) (k : Nat) : Prop :=
  ∃ vs : List V, vs.length = k ∧ bytes = (vs.map enc).flatten

theorem isConcat_entries {V : Type} (enc : V → Bytes) (es : List Entry)
    (h : ∀ e ∈ es, IsConcat enc e.1 e.2) : IsConcat enc (bufOf es) (cntOf es) := by
  induction es with
  | nil => exact ⟨[], rfl, rfl⟩
  | cons e es ih =>
    obtain ⟨vs, h1, h2⟩ := h e (by simp)
    obtain ⟨ws, h3, h4⟩ := ih (fun x hx => h x (List.mem_cons_of_mem _ hx))
    refine ⟨vs ++ ws, ?_, ?_⟩
    · rw [List.length_append, cntOf_cons, h1, h3]
    · rw [bufOf_cons, h2, h4]; simp

theorem isConcat_zero_iff {V : Type} (enc : V → Bytes) (bytes : Bytes) :
    IsConcat enc bytes 0 ↔ bytes = [] := by
  constructor
  · rintro ⟨vs, h1, h2⟩
    have : vs = [] := List.length_eq_zero_iff.1 h1
    subst this
    exact h2
  · rintro rfl; exact ⟨[], rfl, rfl⟩

end Avro.Impl.Ocf
