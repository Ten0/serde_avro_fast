import AvroModel.Lemmas.CanonTree
import AvroModel.Lemmas.SchemaKeys
/-
C19: the fuel of the canonical-form writer `pcf` and of the renderer `render` — monotonicity, the
potentials `pcfMeasure` / `renderPot` of the two generation guards and totality above `pcfBound` /
`renderBound` (why the potentials fall: the head of `Theorems/C19.lean`), in the form "ok or a
`custom` error" (`OkOrCustom`) —, and `freeze`.  That a successful sub-call does not raise the
potential is read off its derivation for `pcf` (`pcfMeasure_le`, from `canonTree_of_pcf`) and
proved by fuel for `render` (`RLe`, which speaks of every cell).  That a graph with a cycle of
unnamed nodes is never written is `canonicalForm_unnamed_cycle_never_ok` (`Lemmas/CanonTree.lean`)
and `renderJson_unnamed_cycle_never_ok` (`Lemmas/Renders.lean`).
-/
namespace Avro.Impl
open Avro

private theorem nonEmpty_empty : nonEmpty "" = none := rfl

/-- `ok`, or the error every refusal of the two writers is reported as.  Totality is proved in
    this form: `NP` (not out of fuel) and the kind of the error are both read off it. -/
def OkOrCustom {α : Type} (r : Except SchemaErr α) : Prop := ∀ e, r = .error e → e = .custom

theorem OkOrCustom.np {α : Type} {r : Except SchemaErr α} (h : OkOrCustom r) : NP r :=
  fun e => by cases h _ e

theorem OkOrCustom.ok {α : Type} (a : α) : OkOrCustom (Except.ok a : Except SchemaErr α) := by
  intro e h; cases h

theorem OkOrCustom.custom {α : Type} : OkOrCustom (Except.error .custom : Except SchemaErr α) := by
  intro e h; cases h; rfl

theorem mapOk_okOrCustom {α β : Type} {r : Except SchemaErr α} {f : α → β} (h : OkOrCustom r) :
    OkOrCustom (mapOk r f) := by
  cases r with
  | error e => intro e' h'; cases h'; exact h _ rfl
  | ok a => exact .ok _

theorem andThen_okOrCustom {α β : Type} {r : Except SchemaErr α} {f : α → Except SchemaErr β}
    (h : OkOrCustom r) (hf : ∀ a, r = .ok a → OkOrCustom (f a)) : OkOrCustom (andThen r f) := by
  cases r with
  | error e => intro e' h'; cases h'; exact h _ rfl
  | ok a => exact hf a rfl

/-! ### `pcf` -/

/-! #### fuel monotonicity -/

theorem pcfUnnamed_mono (st : PcfState) (key : Nat) {body body' : PcfState → Except SchemaErr PcfState}
    (h : ∀ s, NP (body s) → body' s = body s) :
    NP (pcfUnnamed st key body) → pcfUnnamed st key body' = pcfUnnamed st key body := by
  unfold pcfUnnamed
  split
  · intro _; rfl
  · exact mapOk_mono _ (h _)

theorem pcfNamed_mono (st : PcfState) (key : Nat) (name : Name)
    {full full' : PcfState → Except SchemaErr PcfState}
    (h : ∀ s, NP (full s) → full' s = full s) :
    NP (pcfNamed st key name full) → pcfNamed st key name full' = pcfNamed st key name full := by
  unfold pcfNamed
  split
  · intro _; rfl
  · exact h _

theorem pcfStep_mono (S : SchemaMut) {rp rp' : Nat → PcfState → Except SchemaErr PcfState}
    {rl rl' : List Nat → Bool → PcfState → Except SchemaErr PcfState}
    {rf rf' : List (String × Nat) → Bool → PcfState → Except SchemaErr PcfState}
    (hp : ∀ k s, NP (rp k s) → rp' k s = rp k s)
    (hl : ∀ k f s, NP (rl k f s) → rl' k f s = rl k f s)
    (hf : ∀ k f s, NP (rf k f s) → rf' k f s = rf k f s) (key : Nat) (st : PcfState) :
    NP (pcfStep S rp rl rf key st) → pcfStep S rp' rl' rf' key st = pcfStep S rp rl rf key st := by
  unfold pcfStep
  split
  · intro _; rfl
  · split
    any_goals (intro _; rfl)
    · exact pcfUnnamed_mono _ _ fun s => mapOk_mono _ (hl _ _ _)
    · exact pcfUnnamed_mono _ _ fun s => mapOk_mono _ (hp _ _)
    · exact pcfUnnamed_mono _ _ fun s => mapOk_mono _ (hp _ _)
    · exact pcfNamed_mono _ _ _ fun s => mapOk_mono _ (hf _ _ _)

theorem pcf_fuel_mono_aux (S : SchemaMut) : ∀ fuel,
    (∀ key st, NP (pcf S fuel key st) → pcf S (fuel+1) key st = pcf S fuel key st) ∧
    (∀ ks first st, NP (pcfList S fuel ks first st) →
      pcfList S (fuel+1) ks first st = pcfList S fuel ks first st) ∧
    (∀ fs first st, NP (pcfFields S fuel fs first st) →
      pcfFields S (fuel+1) fs first st = pcfFields S fuel fs first st) := by
  intro fuel
  induction fuel with
  | zero =>
    refine ⟨fun key st h => absurd rfl h, ?_, ?_⟩
    · intro ks first st h
      cases ks with
      | nil => rfl
      | cons k rest => exact absurd rfl h
    · intro ks first st h
      cases ks with
      | nil => rfl
      | cons k rest => exact absurd rfl h
  | succ fuel ih =>
    obtain ⟨ih1, ih2, ih3⟩ := ih
    refine ⟨?_, ?_, ?_⟩
    · intro key st
      rw [pcf_succ, pcf_succ]
      exact pcfStep_mono S ih1 ih2 ih3 key st
    · intro ks first st
      cases ks with
      | nil => intro _; rw [pcfList_nil, pcfList_nil]
      | cons k rest =>
        rw [pcfList_cons, pcfList_cons]
        exact andThen_mono (ih1 _ _) fun a => ih2 _ _ _
    · intro fs first st
      cases fs with
      | nil => intro _; rw [pcfFields_nil, pcfFields_nil]
      | cons f rest =>
        obtain ⟨name, k⟩ := f
        rw [pcfFields_cons, pcfFields_cons]
        exact andThen_mono (ih1 _ _) fun a => ih3 _ _ _


theorem pcf_fuel_mono_le (S : SchemaMut) {fuel fuel' : Nat} (key : Nat) (st : PcfState)
    (h : NP (pcf S fuel key st)) (hle : fuel ≤ fuel') : pcf S fuel' key st = pcf S fuel key st := by
  induction hle with
  | refl => rfl
  | step _ ih => rw [(pcf_fuel_mono_aux S _).1 key st (by rw [ih]; exact h), ih]

theorem canonicalForm_of_le {S : SchemaMut} {fuel fuel' : Nat} {r : Except SchemaErr String}
    (h : canonicalForm S fuel = r) (hr : NP r) (hle : fuel ≤ fuel') : canonicalForm S fuel' = r := by
  unfold canonicalForm at h ⊢
  rw [pcf_fuel_mono_le S 0 {} (fun e => hr (by rw [← h, e])) hle, h]

/-! #### counting free indices; widths, sums, named keys -/

def free (n : Nat) (l : List Nat) : Nat := (List.range n).countP fun i => !l.contains i

theorem free_nil (n : Nat) : free n [] = n := by
  simp [free]

theorem free_mono (n : Nat) (l l' : List Nat) (h : ∀ i, i ∈ l → i ∈ l') : free n l' ≤ free n l := by
  apply List.countP_mono_left
  intro x _ hx
  simp only [Bool.not_eq_true', List.contains_eq_mem, decide_eq_false_iff_not] at hx ⊢
  exact fun hm => hx (h x hm)

theorem free_cons_lt (n : Nat) (l : List Nat) (k : Nat) (hk : k < n) (hkl : k ∉ l) :
    free n (k :: l) + 1 ≤ free n l := by
  apply countP_lt_of _ _ _ _ k (List.mem_range.mpr hk)
  · simp [hkl]
  · simp
  · intro x _ hx
    simp only [Bool.not_eq_true', List.contains_eq_mem, decide_eq_false_iff_not, List.mem_cons,
      not_or] at hx ⊢
    exact hx.2

theorem width_le_maxWidth (S : SchemaMut) (key : Nat) (node : RawNode) (h : S[key]? = some node) :
    (match node.type with | .record _ fs => fs.length | .union vs => vs.length | _ => 0) ≤ maxWidth S := by
  unfold maxWidth
  apply (le_foldl_max _ _).2
  apply List.mem_map.mpr
  exact ⟨node, Array.mem_toList_iff.mpr (Array.mem_of_getElem? h), rfl⟩

theorem sum_map_le {α : Type} (l : List α) (f g : α → Nat) (h : ∀ x ∈ l, f x ≤ g x) :
    (l.map f).sum ≤ (l.map g).sum := by
  induction l with
  | nil => exact Nat.le_refl _
  | cons x xs ih =>
    simp only [List.map_cons, List.sum_cons]
    have := h x List.mem_cons_self
    have := ih fun y hy => h y (List.mem_cons_of_mem _ hy)
    omega

theorem sum_map_lt {α : Type} (l : List α) (f g : α → Nat) (h : ∀ x ∈ l, f x ≤ g x)
    (a : α) (ha : a ∈ l) (hlt : f a + 1 ≤ g a) : (l.map f).sum + 1 ≤ (l.map g).sum := by
  induction l with
  | nil => cases ha
  | cons x xs ih =>
    simp only [List.map_cons, List.sum_cons]
    have hx := h x List.mem_cons_self
    have hle := sum_map_le xs f g fun y hy => h y (List.mem_cons_of_mem _ hy)
    rcases List.mem_cons.mp ha with rfl | hm
    · omega
    · have := ih (fun y hy => h y (List.mem_cons_of_mem _ hy)) hm
      omega

theorem sum_map_le_const {α : Type} (l : List α) (f : α → Nat) (c : Nat) (h : ∀ x ∈ l, f x ≤ c) :
    (l.map f).sum ≤ l.length * c := by
  induction l with
  | nil => simp
  | cons x xs ih =>
    simp only [List.map_cons, List.sum_cons, List.length_cons, Nat.succ_mul]
    have := h x List.mem_cons_self
    have := ih fun y hy => h y (List.mem_cons_of_mem _ hy)
    omega

def isNamedKey (S : SchemaMut) (j : Nat) : Bool :=
  match S[j]? with
  | some node =>
    (match node.type with
      | .record _ _ => true | .enum _ _ => true | .fixed _ _ => true | _ => false)
  | none => false

theorem free_le (n : Nat) (l : List Nat) : free n l ≤ n := by
  have := List.countP_le_length (p := fun i => !l.contains i) (l := List.range n)
  simpa [free] using this

/-! #### totality of `pcf` -/

/-- What node `j` can still contribute to the depth of the recursion: a named node is written in
    full at most once; an unnamed node can be entered once per generation, and there are at most
    `free S.size written + 1` generations to come (the current one included), the current one
    being used up when the cell holds it. -/
def pcfCellPot (S : SchemaMut) (st : PcfState) (j : Nat) : Nat :=
  if isNamedKey S j then (if j ∈ st.written then 0 else 1)
  else free S.size st.written + 1 - (if st.cell j = st.gen then 1 else 0)

/-- potential of the generation guard of `pcf`: how many more "pushes" (a named node to write,
    an unnamed node to enter) are possible along a chain of nested calls -/
def pcfMeasure (S : SchemaMut) (st : PcfState) : Nat :=
  ((List.range S.size).map (pcfCellPot S st)).sum

/-- each named node written in full (not yet in `W`, in bounds) lowers
    `#(indices not in written)` by one -/
theorem free_of_canonTree {S : SchemaMut} {n : Nat} {W W' : List Nat} {job : RenderPcf.WalkJob}
    {doc : RenderPcf.WalkDoc} (h : RenderPcf.CanonTree S n W job doc W') :
    W'.length + free S.size W' ≤ W.length + free S.size W := by
  induction h with
  | prim | again | lnil | fnil => exact Nat.le_refl _
  | array _ _ ih | map _ _ ih | union _ _ ih => exact ih
  | enum hk hm | fixed hk hm =>
    have := free_cons_lt S.size _ _ (lt_size_of_getElem? hk) hm
    simp only [List.length_cons]; omega
  | record hk hm _ ih =>
    have := free_cons_lt S.size _ _ (lt_size_of_getElem? hk) hm
    simp only [List.length_cons] at ih; omega
  | lcons _ _ ih1 ih2 | fcons _ _ ih1 ih2 => exact Nat.le_trans ih2 ih1

/-- A successful call does not raise the potential: what it did to the state is read off its
    derivation (`canonTree_of_pcf`: `written` grew by the named nodes written in full, the cells
    are restored). -/
theorem pcfMeasure_le (S : SchemaMut) {fuel key : Nat} {st st' : PcfState}
    (h : pcf S fuel key st = .ok st') : pcfMeasure S st' ≤ pcfMeasure S st := by
  obtain ⟨n, c, -, hd, hcell⟩ := (RenderPcf.canonTree_of_pcf S fuel).1 _ _ _ h
  have hcell : ∀ j, st'.cell j = st.cell j := hcell
  obtain ⟨X, hX⟩ := hd.extends
  have hsub : ∀ i, i ∈ st.written → i ∈ st'.written := by
    rw [hX]; exact fun i hi => List.mem_append_right _ hi
  have hlen : st.written.length ≤ st'.written.length := by rw [hX]; simp
  have hbal := free_of_canonTree hd
  apply sum_map_le
  intro j _
  unfold pcfCellPot
  have hF := free_mono S.size _ _ hsub
  split
  · by_cases hc : j ∈ st.written
    · rw [if_pos hc, if_pos (hsub j hc)]; exact Nat.le_refl _
    · rw [if_neg hc]
      split <;> omega
  · rw [hcell j]
    unfold PcfState.gen
    by_cases hlt : free S.size st'.written = free S.size st.written
    · have : st'.written.length = st.written.length := by omega
      rw [this, hlt]
      exact Nat.le_refl _
    · split <;> split <;> omega

theorem pcfMeasure_le_bound (S : SchemaMut) (st : PcfState) :
    pcfMeasure S st ≤ S.size * (S.size + 1) := by
  have := sum_map_le_const (List.range S.size) (pcfCellPot S st) (S.size + 1) (by
    intro j _
    unfold pcfCellPot
    have := free_le S.size st.written
    split
    · split <;> omega
    · omega)
  simpa [pcfMeasure] using this

theorem pcf_unnamed_enter (S : SchemaMut) (st : PcfState) (key : Nat) (hk : key < S.size)
    (hun : isNamedKey S key = false) (hne : st.cell key ≠ st.gen) :
    pcfMeasure S { st with onPath := (key, st.written.length + 1) :: st.onPath.filter (·.1 ≠ key) } + 1
      ≤ pcfMeasure S st := by
  have hcell : ∀ j, ({ st with onPath := (key, st.written.length + 1) :: st.onPath.filter (·.1 ≠ key) } :
      PcfState).cell j = if j = key then st.written.length + 1 else st.cell j :=
    fun j => lookup_set _ _ _ _
  apply sum_map_lt _ _ _ _ key (List.mem_range.mpr hk)
  · unfold pcfCellPot
    rw [hcell]
    have hne' : ¬ st.cell key = st.written.length + 1 := hne
    simp only [hun, Bool.false_eq_true, if_false, if_true, PcfState.gen, hne']
    omega
  · intro j _
    unfold pcfCellPot
    rw [hcell]
    by_cases e : j = key
    · subst e
      have hne' : ¬ st.cell j = st.written.length + 1 := hne
      simp only [hun, Bool.false_eq_true, if_false, if_true, PcfState.gen, hne']
      omega
    · simp only [e, if_false]
      exact Nat.le_refl _

theorem pcf_named_enter (S : SchemaMut) (st : PcfState) (key : Nat) (hk : key < S.size)
    (hnm : isNamedKey S key = true) (hc : key ∉ st.written) :
    pcfMeasure S { st with written := key :: st.written } + 1 ≤ pcfMeasure S st := by
  have hfree := free_cons_lt S.size st.written key hk hc
  apply sum_map_lt _ _ _ _ key (List.mem_range.mpr hk)
  · unfold pcfCellPot
    rw [if_pos hnm, if_pos hnm, if_pos List.mem_cons_self, if_neg hc]
    exact Nat.le_refl _
  · intro j _
    unfold pcfCellPot
    split
    · by_cases hj : j ∈ st.written
      · rw [if_pos hj, if_pos (List.mem_cons_of_mem _ hj)]; exact Nat.le_refl _
      · rw [if_neg hj]
        split <;> omega
    · show free S.size (key :: st.written) + 1 - _ ≤ _
      split <;> split <;> omega

theorem pcfStep_total (S : SchemaMut) {rp : Nat → PcfState → Except SchemaErr PcfState}
    {rl : List Nat → Bool → PcfState → Except SchemaErr PcfState}
    {rf : List (String × Nat) → Bool → PcfState → Except SchemaErr PcfState} (d : Nat)
    (hp : ∀ k s, pcfMeasure S s + 1 ≤ d → OkOrCustom (rp k s))
    (hl : ∀ vs f s, vs.length ≤ maxWidth S → pcfMeasure S s + 1 ≤ d → OkOrCustom (rl vs f s))
    (hf : ∀ fs f s, fs.length ≤ maxWidth S → pcfMeasure S s + 1 ≤ d → OkOrCustom (rf fs f s))
    (key : Nat) (st : PcfState) (hd : pcfMeasure S st ≤ d) : OkOrCustom (pcfStep S rp rl rf key st) := by
  unfold pcfStep
  split
  · exact .custom
  next node hS =>
    have hk := lt_size_of_getElem? hS
    have hw := width_le_maxWidth S key node hS
    have out_eq : ∀ (s : PcfState) (o : String), pcfMeasure S { s with out := o } = pcfMeasure S s :=
      fun _ _ => rfl
    have unn : isNamedKey S key = false → ∀ (body : PcfState → Except SchemaErr PcfState),
        (∀ s, pcfMeasure S s + 1 ≤ d → OkOrCustom (body s)) → OkOrCustom (pcfUnnamed st key body) := by
      intro hun body hb
      unfold pcfUnnamed
      split
      · exact .custom
      next hc =>
        apply mapOk_okOrCustom
        apply hb
        have := pcf_unnamed_enter S st key hk hun hc
        omega
    have nam : isNamedKey S key = true → ∀ (name : Name) (full : PcfState → Except SchemaErr PcfState),
        (∀ s, pcfMeasure S s + 1 ≤ d → OkOrCustom (full s)) → OkOrCustom (pcfNamed st key name full) := by
      intro hnm name full hb
      unfold pcfNamed
      split
      · exact .ok _
      next hc =>
        apply hb
        have hc' : key ∉ st.written := by simpa using hc
        have := pcf_named_enter S st key hk hnm hc'
        omega
    split
    any_goals exact .ok _
    next vs hT =>
      rw [hT] at hw
      exact unn (by simp [isNamedKey, hS, hT]) _ fun s hs => mapOk_okOrCustom (hl _ _ _ hw (by rw [out_eq]; exact hs))
    next hT => exact unn (by simp [isNamedKey, hS, hT]) _ fun s hs => mapOk_okOrCustom (hp _ _ (by rw [out_eq]; exact hs))
    next hT => exact unn (by simp [isNamedKey, hS, hT]) _ fun s hs => mapOk_okOrCustom (hp _ _ (by rw [out_eq]; exact hs))
    next hT => exact nam (by simp [isNamedKey, hS, hT]) _ _ fun s hs => .ok _
    next hT => exact nam (by simp [isNamedKey, hS, hT]) _ _ fun s hs => .ok _
    next name fields hT =>
      rw [hT] at hw
      exact nam (by simp [isNamedKey, hS, hT]) _ _ fun s hs => mapOk_okOrCustom (hf _ _ _ hw (by rw [out_eq]; exact hs))

theorem pcf_total_aux (S : SchemaMut) : ∀ fuel,
    (∀ key st d, pcfMeasure S st ≤ d → d * (maxWidth S + 1) + 1 ≤ fuel → OkOrCustom (pcf S fuel key st)) ∧
    (∀ ks first st d, pcfMeasure S st ≤ d → ks.length + d * (maxWidth S + 1) + 1 ≤ fuel →
      OkOrCustom (pcfList S fuel ks first st)) ∧
    (∀ fs first st d, pcfMeasure S st ≤ d → fs.length + d * (maxWidth S + 1) + 1 ≤ fuel →
      OkOrCustom (pcfFields S fuel fs first st)) := by
  intro fuel
  induction fuel with
  | zero =>
    refine ⟨fun key st d _ h => (by omega), fun ks first st d _ h => (by omega),
      fun ks first st d _ h => (by omega)⟩
  | succ fuel ih =>
    obtain ⟨ih1, ih2, ih3⟩ := ih
    refine ⟨?_, ?_, ?_⟩
    · intro key st d hd hfuel
      rw [pcf_succ]
      apply pcfStep_total S d _ _ _ key st hd
      · intro k s hs
        obtain ⟨d', rfl⟩ : ∃ d', d = d' + 1 := ⟨d - 1, by omega⟩
        rw [Nat.succ_mul] at hfuel
        exact ih1 k s d' (by omega) (by omega)
      · intro vs f s hw hs
        obtain ⟨d', rfl⟩ : ∃ d', d = d' + 1 := ⟨d - 1, by omega⟩
        rw [Nat.succ_mul] at hfuel
        exact ih2 vs f s d' (by omega) (by omega)
      · intro vs f s hw hs
        obtain ⟨d', rfl⟩ : ∃ d', d = d' + 1 := ⟨d - 1, by omega⟩
        rw [Nat.succ_mul] at hfuel
        exact ih3 vs f s d' (by omega) (by omega)
    · intro ks first st d hd hfuel
      cases ks with
      | nil => rw [pcfList_nil]; exact .ok _
      | cons k rest =>
        rw [pcfList_cons]
        simp only [List.length_cons] at hfuel
        have hm : pcfMeasure S (if first then st else { st with out := st.out ++ "," }) ≤ d := by
          cases first <;> exact hd
        refine andThen_okOrCustom (ih1 _ _ d hm (by omega)) fun a ha => ?_
        have := pcfMeasure_le S ha
        exact ih2 _ _ _ d (by omega) (by omega)
    · intro fs first st d hd hfuel
      cases fs with
      | nil => rw [pcfFields_nil]; exact .ok _
      | cons f rest =>
        obtain ⟨name, k⟩ := f
        rw [pcfFields_cons]
        simp only [List.length_cons] at hfuel
        have hm : pcfMeasure S (if first then st else { st with out := st.out ++ "," }) ≤ d := by
          cases first <;> exact hd
        refine andThen_okOrCustom (ih1 _ _ d hm (by omega)) fun a ha => ?_
        have := pcfMeasure_le S ha
        exact ih3 _ _ _ d (Nat.le_trans this hm) (by omega)

/-- Fuel that always suffices for the canonical form of `S` (the same shape as `renderBound`:
    at most `S.size + 1` generations, each unnamed node entered at most once per generation). -/
def pcfBound (S : SchemaMut) : Nat := S.size * (S.size + 1) * (maxWidth S + 1) + 1

theorem pcf_total_st (S : SchemaMut) (fuel : Nat) (h : pcfBound S ≤ fuel) (key : Nat) (st : PcfState) :
    OkOrCustom (pcf S fuel key st) :=
  (pcf_total_aux S fuel).1 key st (S.size * (S.size + 1)) (pcfMeasure_le_bound S st) h

theorem pcf_total (S : SchemaMut) (fuel : Nat) (h : pcfBound S ≤ fuel) (key : Nat) :
    OkOrCustom (pcf S fuel key {}) := pcf_total_st S fuel h key {}


/-! ### `render` -/

/-! #### fuel monotonicity -/

theorem renderGuarded_mono (st : RenderState) (key : Nat) {body body' : RenderState → RenderRes}
    (h : ∀ s, NP (body s) → body' s = body s) :
    NP (renderGuarded st key body) → renderGuarded st key body' = renderGuarded st key body := by
  unfold renderGuarded
  split
  · intro _; rfl
  · exact mapOk_mono _ (h _)

theorem renderNamed_mono (st : RenderState) (key : Nat) (ns : Option String) (name : Name)
    {full full' : RenderState → RenderRes} (h : ∀ s, NP (full s) → full' s = full s) :
    NP (renderNamed st key ns name full) →
      renderNamed st key ns name full' = renderNamed st key ns name full := by
  unfold renderNamed
  split
  · intro _; rfl
  · exact h _

theorem renderStep_mono (S : SchemaMut) {rr rr' : Nat → Option String → RenderState → RenderRes}
    {rl rl' : List Nat → Option String → RenderState → RenderListRes}
    {rf rf' : List (String × Nat) → Option String → RenderState → RenderListRes}
    (hr : ∀ k n s, NP (rr k n s) → rr' k n s = rr k n s)
    (hl : ∀ k n s, NP (rl k n s) → rl' k n s = rl k n s)
    (hf : ∀ k n s, NP (rf k n s) → rf' k n s = rf k n s)
    (key : Nat) (ns : Option String) (st : RenderState) :
    NP (renderStep S rr rl rf key ns st) →
      renderStep S rr' rl' rf' key ns st = renderStep S rr rl rf key ns st := by
  unfold renderStep
  split
  · intro _; rfl
  next node hS =>
    obtain ⟨ty, lg⟩ := node
    cases ty <;> simp only
    any_goals (intro _; trivial)
    · exact renderGuarded_mono _ _ fun s => mapOk_mono _ (hr _ _ _)
    · exact renderGuarded_mono _ _ fun s => mapOk_mono _ (hr _ _ _)
    · split
      · intro _; rfl
      · exact renderGuarded_mono _ _ fun s => mapOk_mono _ (hl _ _ _)
    · exact renderNamed_mono _ _ _ _ fun s => mapOk_mono _ (hf _ _ _)

theorem render_fuel_mono_aux (S : SchemaMut) : ∀ fuel,
    (∀ key ns st, NP (render S fuel key ns st) → render S (fuel+1) key ns st = render S fuel key ns st) ∧
    (∀ ks ns st, NP (renderList S fuel ks ns st) →
      renderList S (fuel+1) ks ns st = renderList S fuel ks ns st) ∧
    (∀ fs ns st, NP (renderFields S fuel fs ns st) →
      renderFields S (fuel+1) fs ns st = renderFields S fuel fs ns st) := by
  intro fuel
  induction fuel with
  | zero =>
    refine ⟨fun key ns st h => absurd rfl h, ?_, ?_⟩
    · intro ks ns st h
      cases ks with
      | nil => rfl
      | cons k rest => exact absurd rfl h
    · intro ks ns st h
      cases ks with
      | nil => rfl
      | cons k rest => exact absurd rfl h
  | succ fuel ih =>
    obtain ⟨ih1, ih2, ih3⟩ := ih
    refine ⟨?_, ?_, ?_⟩
    · intro key ns st
      rw [render_succ, render_succ]
      exact renderStep_mono S ih1 ih2 ih3 key ns st
    · intro ks ns st
      cases ks with
      | nil => intro _; rw [renderList_nil, renderList_nil]
      | cons k rest =>
        rw [renderList_cons, renderList_cons]
        exact andThen_mono (ih1 _ _ _) fun a => mapOk_mono _ (ih2 _ _ _)
    · intro fs ns st
      cases fs with
      | nil => intro _; rw [renderFields_nil, renderFields_nil]
      | cons f rest =>
        obtain ⟨name, k⟩ := f
        rw [renderFields_cons, renderFields_cons]
        exact andThen_mono (ih1 _ _ _) fun a => mapOk_mono _ (ih3 _ _ _)


theorem render_fuel_mono_le (S : SchemaMut) {fuel fuel' : Nat} (key : Nat) (ns : Option String)
    (st : RenderState) (h : NP (render S fuel key ns st)) (hle : fuel ≤ fuel') :
    render S fuel' key ns st = render S fuel key ns st := by
  induction hle with
  | refl => rfl
  | step _ ih => rw [(render_fuel_mono_aux S _).1 key ns st (by rw [ih]; exact h), ih]

theorem renderJson_of_le {S : SchemaMut} {fuel fuel' : Nat} {r : Except SchemaErr Json}
    (h : renderJson S fuel = r) (hr : NP r) (hle : fuel ≤ fuel') : renderJson S fuel' = r := by
  unfold renderJson at h ⊢
  rw [render_fuel_mono_le S 0 none {} (fun e => hr (by rw [← h, e])) hle, h]

/-! #### the potential of the generation cells -/

def unwritten (S : SchemaMut) (st : RenderState) : Nat :=
  (List.range S.size).countP fun j => isNamedKey S j && st.get j == 0

/-- how many more times cell `j` can be (re-)entered: generations left above
    `max (cell + 1) nWritten`, the cap being `S.size + 1`. -/
def cellPot (n : Nat) (st : RenderState) (j : Nat) : Nat :=
  n + 2 - max (st.get j + 1) st.nWritten

/-- falls by one at each entry of an unnamed node (`guarded_enter`) and each first visit of a named
    node (`named_enter_pot`) -/
def renderPot (S : SchemaMut) (st : RenderState) : Nat :=
  ((List.range S.size).map (cellPot S.size st)).sum

/-- What a successful call does to the state: the counter grows, the counter plus the named nodes
    still to write does not, and no cell's `max (cell + 1) nWritten` falls. -/
structure RLe (S : SchemaMut) (st st' : RenderState) : Prop where
  nw : st.nWritten ≤ st'.nWritten
  cap : st'.nWritten + unwritten S st' ≤ st.nWritten + unwritten S st
  cell : ∀ j, max (st.get j + 1) st.nWritten ≤ max (st'.get j + 1) st'.nWritten

/-- the counter stays within `1 … S.size + 1`: it counts the named nodes written, from `1` -/
structure RInv (S : SchemaMut) (st : RenderState) : Prop where
  pos : 1 ≤ st.nWritten
  cap : st.nWritten + unwritten S st ≤ S.size + 1

theorem RLe.refl (S : SchemaMut) (st : RenderState) : RLe S st st :=
  ⟨Nat.le_refl _, Nat.le_refl _, fun _ => Nat.le_refl _⟩

theorem RLe.trans {S : SchemaMut} {a b c : RenderState} (h1 : RLe S a b) (h2 : RLe S b c) :
    RLe S a c :=
  ⟨Nat.le_trans h1.nw h2.nw, Nat.le_trans h2.cap h1.cap, fun j => Nat.le_trans (h1.cell j) (h2.cell j)⟩

theorem RInv.of_le {S : SchemaMut} {st st' : RenderState} (h : RInv S st) (hle : RLe S st st') :
    RInv S st' :=
  ⟨Nat.le_trans h.pos hle.nw, Nat.le_trans hle.cap h.cap⟩

theorem renderPot_le {S : SchemaMut} {st st' : RenderState} (hle : RLe S st st') :
    renderPot S st' ≤ renderPot S st := by
  apply sum_map_le
  intro j _
  have := hle.cell j
  unfold cellPot
  omega

theorem unwritten_congr (S : SchemaMut) (st st1 : RenderState) (key : Nat)
    (hget : ∀ j, j ≠ key → st1.get j = st.get j) (hun : isNamedKey S key = false) :
    unwritten S st1 = unwritten S st := by
  unfold unwritten
  apply List.countP_congr
  intro j _
  by_cases e : j = key
  · subst e; simp [hun]
  · rw [hget j e]

theorem unwritten_push (S : SchemaMut) (st st1 : RenderState) (key : Nat)
    (hget : ∀ j, j ≠ key → st1.get j = st.get j) (hk : key < S.size)
    (hnamed : isNamedKey S key = true) (h0 : st.get key = 0) (h1 : st1.get key ≠ 0) :
    unwritten S st1 + 1 ≤ unwritten S st := by
  apply countP_lt_of _ _ _ _ key (List.mem_range.mpr hk)
  · simp [hnamed, h0]
  · simp [h1]
  · intro j _ hj
    by_cases e : j = key
    · subst e; simp [h1] at hj
    · rw [hget j e] at hj; exact hj


theorem guarded_enter (S : SchemaMut) (st : RenderState) (key : Nat) (hk : key < S.size)
    (hun : isNamedKey S key = false) (hlt : st.get key < st.nWritten) (hI : RInv S st) :
    RInv S (st.set key st.nWritten) ∧
      renderPot S (st.set key st.nWritten) + 1 ≤ renderPot S st := by
  have hget : ∀ j, j ≠ key → (st.set key st.nWritten).get j = st.get j := by
    intro j hj; rw [RenderState.get_set]; simp [hj]
  refine ⟨⟨hI.pos, ?_⟩, ?_⟩
  · rw [unwritten_congr S st _ key hget hun]; exact hI.cap
  · have hcap := hI.cap
    apply sum_map_lt _ _ _ _ key (List.mem_range.mpr hk)
    · unfold cellPot
      rw [RenderState.get_set]
      simp only [if_true]
      show S.size + 2 - max (st.nWritten + 1) st.nWritten + 1 ≤ _
      omega
    · intro j _
      by_cases e : j = key
      · subst e
        unfold cellPot
        rw [RenderState.get_set]
        simp only [if_true]
        show S.size + 2 - max (st.nWritten + 1) st.nWritten ≤ _
        omega
      · unfold cellPot
        rw [hget j e]
        exact Nat.le_refl _

theorem guarded_exit (S : SchemaMut) (st st2 : RenderState) (key : Nat)
    (hun : isNamedKey S key = false) (hlt : st.get key < st.nWritten)
    (h : RLe S (st.set key st.nWritten) st2) : RLe S st (st2.set key 0) := by
  have hget : ∀ j, j ≠ key → (st.set key st.nWritten).get j = st.get j := by
    intro j hj; rw [RenderState.get_set]; simp [hj]
  have hget2 : ∀ j, j ≠ key → (st2.set key 0).get j = st2.get j := by
    intro j hj; rw [RenderState.get_set]; simp [hj]
  refine ⟨h.nw, ?_, ?_⟩
  · rw [unwritten_congr S st2 _ key hget2 hun]
    have := h.cap
    rw [unwritten_congr S st _ key hget hun] at this
    exact this
  · intro j
    by_cases e : j = key
    · subst e
      rw [RenderState.get_set]
      simp only [if_true]
      have := h.nw
      show max (st.get j + 1) st.nWritten ≤ max (0 + 1) st2.nWritten
      have : st.nWritten ≤ st2.nWritten := this
      omega
    · have := h.cell j
      rw [hget j e] at this
      rw [hget2 j e]
      exact this

theorem named_enter (S : SchemaMut) (st : RenderState) (key : Nat) (hk : key < S.size)
    (hnamed : isNamedKey S key = true) (h0 : st.get key = 0) (hpos : 1 ≤ st.nWritten) :
    RLe S st { (st.set key st.nWritten) with nWritten := st.nWritten + 1 } := by
  have hgetk : ∀ j, ({ (st.set key st.nWritten) with nWritten := st.nWritten + 1 } : RenderState).get j
      = if j = key then st.nWritten else st.get j := fun j => RenderState.get_set st key _ j
  refine ⟨Nat.le_succ _, ?_, ?_⟩
  · have := unwritten_push S st { (st.set key st.nWritten) with nWritten := st.nWritten + 1 } key
      (fun j hj => by rw [hgetk]; simp [hj]) hk hnamed h0 (by rw [hgetk]; simp; omega)
    show st.nWritten + 1 + _ ≤ _
    omega
  · intro j
    rw [hgetk]
    show _ ≤ max _ (st.nWritten + 1)
    by_cases e : j = key
    · subst e; simp only [if_true, h0]; omega
    · simp only [e, if_false]; omega

theorem named_enter_pot (S : SchemaMut) (st : RenderState) (key : Nat) (hk : key < S.size)
    (h0 : st.get key = 0) (hI : RInv S st) :
    renderPot S { (st.set key st.nWritten) with nWritten := st.nWritten + 1 } + 1 ≤ renderPot S st := by
  have hgetk : ∀ j, ({ (st.set key st.nWritten) with nWritten := st.nWritten + 1 } : RenderState).get j
      = if j = key then st.nWritten else st.get j := fun j => RenderState.get_set st key _ j
  have hcap := hI.cap
  have hpos := hI.pos
  apply sum_map_lt _ _ _ _ key (List.mem_range.mpr hk)
  · unfold cellPot
    rw [hgetk]
    simp only [if_true, h0]
    show S.size + 2 - max (st.nWritten + 1) (st.nWritten + 1) + 1 ≤ _
    omega
  · intro j _
    unfold cellPot
    rw [hgetk]
    show S.size + 2 - max _ (st.nWritten + 1) ≤ _
    by_cases e : j = key
    · subst e; simp only [if_true, h0]; omega
    · simp only [e, if_false]; omega


theorem renderStep_le (S : SchemaMut) {rr : Nat → Option String → RenderState → RenderRes}
    {rl : List Nat → Option String → RenderState → RenderListRes}
    {rf : List (String × Nat) → Option String → RenderState → RenderListRes}
    (hr : ∀ k n s p, 1 ≤ s.nWritten → rr k n s = .ok p → RLe S s p.2)
    (hl : ∀ k n s p, 1 ≤ s.nWritten → rl k n s = .ok p → RLe S s p.2)
    (hf : ∀ k n s p, 1 ≤ s.nWritten → rf k n s = .ok p → RLe S s p.2)
    (key : Nat) (ns : Option String) (st : RenderState) (p : Json × RenderState)
    (hpos : 1 ≤ st.nWritten) :
    renderStep S rr rl rf key ns st = .ok p → RLe S st p.2 := by
  unfold renderStep
  split
  · intro h; cases h
  next node hS =>
    have hk := lt_size_of_getElem? hS
    have grd : isNamedKey S key = false → ∀ (body : RenderState → RenderRes),
        (∀ s q, 1 ≤ s.nWritten → body s = .ok q → RLe S s q.2) →
        renderGuarded st key body = .ok p → RLe S st p.2 := by
      intro hun body hb h
      unfold renderGuarded at h
      split at h
      · cases h
      next hlt =>
        obtain ⟨a, ha, rfl⟩ := mapOk_ok h
        exact guarded_exit S st a.2 key hun (by omega) (hb _ _ hpos ha)
    have nam : isNamedKey S key = true → ∀ (name : Name) (full : RenderState → RenderRes),
        (∀ s q, 1 ≤ s.nWritten → full s = .ok q → RLe S s q.2) →
        renderNamed st key ns name full = .ok p → RLe S st p.2 := by
      intro hnm name full hb h
      unfold renderNamed at h
      split at h
      · cases h; exact RLe.refl _ _
      next h0 =>
        have h1 := named_enter S st key hk hnm (by omega) hpos
        exact RLe.trans h1 (hb _ _ (Nat.le_succ_of_le hpos) h)
    obtain ⟨ty, lg⟩ := node
    cases ty <;> simp only
    any_goals (intro h; split at h <;> (cases h; exact RLe.refl _ _))
    · refine grd (by simp [isNamedKey, hS]) _ fun s q hs h => ?_
      obtain ⟨a, ha, rfl⟩ := mapOk_ok h
      exact hr _ _ _ a hs ha
    · refine grd (by simp [isNamedKey, hS]) _ fun s q hs h => ?_
      obtain ⟨a, ha, rfl⟩ := mapOk_ok h
      exact hr _ _ _ a hs ha
    · split
      · intro h; cases h
      · refine grd (by simp [isNamedKey, hS]) _ fun s q hs h => ?_
        obtain ⟨a, ha, rfl⟩ := mapOk_ok h
        exact hl _ _ _ a hs ha
    · refine nam (by simp [isNamedKey, hS]) _ _ fun s q hs h => ?_
      obtain ⟨a, ha, rfl⟩ := mapOk_ok h
      exact hf _ _ _ a hs ha
    · refine nam (by simp [isNamedKey, hS]) _ _ fun s q hs h => ?_
      cases h; exact RLe.refl _ _
    · refine nam (by simp [isNamedKey, hS]) _ _ fun s q hs h => ?_
      cases h; exact RLe.refl _ _

theorem render_le_aux (S : SchemaMut) : ∀ fuel,
    (∀ key ns st p, 1 ≤ st.nWritten → render S fuel key ns st = .ok p → RLe S st p.2) ∧
    (∀ ks ns st p, 1 ≤ st.nWritten → renderList S fuel ks ns st = .ok p → RLe S st p.2) ∧
    (∀ fs ns st p, 1 ≤ st.nWritten → renderFields S fuel fs ns st = .ok p → RLe S st p.2) := by
  intro fuel
  induction fuel with
  | zero =>
    refine ⟨fun key ns st p _ h => (by cases h), ?_, ?_⟩
    · intro ks ns st p _ h
      cases ks with
      | nil => cases h; exact RLe.refl _ _
      | cons k rest => cases h
    · intro ks ns st p _ h
      cases ks with
      | nil => cases h; exact RLe.refl _ _
      | cons k rest => cases h
  | succ fuel ih =>
    obtain ⟨ih1, ih2, ih3⟩ := ih
    refine ⟨?_, ?_, ?_⟩
    · intro key ns st p hpos
      rw [render_succ]
      exact renderStep_le S ih1 ih2 ih3 key ns st p hpos
    · intro ks ns st p hpos h
      cases ks with
      | nil => rw [renderList_nil] at h; cases h; exact RLe.refl _ _
      | cons k rest =>
        rw [renderList_cons] at h
        obtain ⟨a, ha, hb⟩ := andThen_ok h
        obtain ⟨b, hb', rfl⟩ := mapOk_ok hb
        have h1 := ih1 _ _ _ _ hpos ha
        exact RLe.trans h1 (ih2 _ _ _ b (Nat.le_trans hpos h1.nw) hb')
    · intro fs ns st p hpos h
      cases fs with
      | nil => rw [renderFields_nil] at h; cases h; exact RLe.refl _ _
      | cons f rest =>
        obtain ⟨name, k⟩ := f
        rw [renderFields_cons] at h
        obtain ⟨a, ha, hb⟩ := andThen_ok h
        obtain ⟨b, hb', rfl⟩ := mapOk_ok hb
        have h1 := ih1 _ _ _ _ hpos ha
        exact RLe.trans h1 (ih3 _ _ _ b (Nat.le_trans hpos h1.nw) hb')


/-! #### totality of `render` -/

theorem renderStep_total (S : SchemaMut) {rr : Nat → Option String → RenderState → RenderRes}
    {rl : List Nat → Option String → RenderState → RenderListRes}
    {rf : List (String × Nat) → Option String → RenderState → RenderListRes} (d : Nat)
    (hr : ∀ k n s, RInv S s → renderPot S s + 1 ≤ d → OkOrCustom (rr k n s))
    (hl : ∀ vs n s, vs.length ≤ maxWidth S → RInv S s → renderPot S s + 1 ≤ d → OkOrCustom (rl vs n s))
    (hf : ∀ fs n s, fs.length ≤ maxWidth S → RInv S s → renderPot S s + 1 ≤ d → OkOrCustom (rf fs n s))
    (key : Nat) (ns : Option String) (st : RenderState) (hI : RInv S st)
    (hd : renderPot S st ≤ d) : OkOrCustom (renderStep S rr rl rf key ns st) := by
  unfold renderStep
  split
  · exact .custom
  next node hS =>
    have hk := lt_size_of_getElem? hS
    have hw := width_le_maxWidth S key node hS
    have grd : isNamedKey S key = false → ∀ (body : RenderState → RenderRes),
        (∀ s, RInv S s → renderPot S s + 1 ≤ d → OkOrCustom (body s)) → OkOrCustom (renderGuarded st key body) := by
      intro hun body hb
      unfold renderGuarded
      split
      · exact .custom
      next hlt =>
        have := guarded_enter S st key hk hun (by omega) hI
        exact mapOk_okOrCustom (hb _ this.1 (by omega))
    have nam : isNamedKey S key = true → ∀ (name : Name) (full : RenderState → RenderRes),
        (∀ s, RInv S s → renderPot S s + 1 ≤ d → OkOrCustom (full s)) →
        OkOrCustom (renderNamed st key ns name full) := by
      intro hnm name full hb
      unfold renderNamed
      split
      · exact .ok _
      next h0 =>
        have h1 := named_enter S st key hk hnm (by omega) hI.pos
        have h2 := named_enter_pot S st key hk (by omega) hI
        exact hb _ (hI.of_le h1) (by omega)
    obtain ⟨ty, lg⟩ := node
    cases ty <;> simp only
    any_goals (split <;> exact .ok _)
    · exact grd (by simp [isNamedKey, hS]) _ fun s hs hp => mapOk_okOrCustom (hr _ _ _ hs hp)
    · exact grd (by simp [isNamedKey, hS]) _ fun s hs hp => mapOk_okOrCustom (hr _ _ _ hs hp)
    · split
      · exact .custom
      · exact grd (by simp [isNamedKey, hS]) _ fun s hs hp => mapOk_okOrCustom (hl _ _ _ hw hs hp)
    · exact nam (by simp [isNamedKey, hS]) _ _ fun s hs hp => mapOk_okOrCustom (hf _ _ _ hw hs hp)
    · exact nam (by simp [isNamedKey, hS]) _ _ fun s hs hp => .ok _
    · exact nam (by simp [isNamedKey, hS]) _ _ fun s hs hp => .ok _

theorem render_total_aux (S : SchemaMut) : ∀ fuel,
    (∀ key ns st d, RInv S st → renderPot S st ≤ d → d * (maxWidth S + 1) + 1 ≤ fuel →
      OkOrCustom (render S fuel key ns st)) ∧
    (∀ ks ns st d, RInv S st → renderPot S st ≤ d → ks.length + d * (maxWidth S + 1) + 1 ≤ fuel →
      OkOrCustom (renderList S fuel ks ns st)) ∧
    (∀ fs ns st d, RInv S st → renderPot S st ≤ d → fs.length + d * (maxWidth S + 1) + 1 ≤ fuel →
      OkOrCustom (renderFields S fuel fs ns st)) := by
  intro fuel
  induction fuel with
  | zero =>
    refine ⟨fun key ns st d _ _ h => (by omega), fun ks ns st d _ _ h => (by omega),
      fun ks ns st d _ _ h => (by omega)⟩
  | succ fuel ih =>
    obtain ⟨ih1, ih2, ih3⟩ := ih
    refine ⟨?_, ?_, ?_⟩
    · intro key ns st d hI hd hfuel
      rw [render_succ]
      apply renderStep_total S d _ _ _ key ns st hI hd
      · intro k n s hs hp
        obtain ⟨d', rfl⟩ : ∃ d', d = d' + 1 := ⟨d - 1, by omega⟩
        rw [Nat.succ_mul] at hfuel
        exact ih1 k n s d' hs (by omega) (by omega)
      · intro vs n s hw hs hp
        obtain ⟨d', rfl⟩ : ∃ d', d = d' + 1 := ⟨d - 1, by omega⟩
        rw [Nat.succ_mul] at hfuel
        exact ih2 vs n s d' hs (by omega) (by omega)
      · intro vs n s hw hs hp
        obtain ⟨d', rfl⟩ : ∃ d', d = d' + 1 := ⟨d - 1, by omega⟩
        rw [Nat.succ_mul] at hfuel
        exact ih3 vs n s d' hs (by omega) (by omega)
    · intro ks ns st d hI hd hfuel
      cases ks with
      | nil => rw [renderList_nil]; exact .ok _
      | cons k rest =>
        rw [renderList_cons]
        simp only [List.length_cons] at hfuel
        refine andThen_okOrCustom (ih1 _ _ _ d hI hd (by omega)) fun a ha => ?_
        have hle := (render_le_aux S fuel).1 _ _ _ _ hI.pos ha
        have := renderPot_le hle
        exact mapOk_okOrCustom (ih2 _ _ _ d (hI.of_le hle) (by omega) (by omega))
    · intro fs ns st d hI hd hfuel
      cases fs with
      | nil => rw [renderFields_nil]; exact .ok _
      | cons f rest =>
        obtain ⟨name, k⟩ := f
        rw [renderFields_cons]
        simp only [List.length_cons] at hfuel
        refine andThen_okOrCustom (ih1 _ _ _ d hI hd (by omega)) fun a ha => ?_
        have hle := (render_le_aux S fuel).1 _ _ _ _ hI.pos ha
        have := renderPot_le hle
        exact mapOk_okOrCustom (ih3 _ _ _ d (hI.of_le hle) (by omega) (by omega))

/-- Fuel that always suffices to regenerate the JSON of `S`. -/
def renderBound (S : SchemaMut) : Nat := S.size * (S.size + 1) * (maxWidth S + 1) + 1

theorem RInv_init (S : SchemaMut) : RInv S {} := by
  refine ⟨Nat.le_refl _, ?_⟩
  have : unwritten S {} ≤ S.size := by
    unfold unwritten
    have := List.countP_le_length (p := fun j => isNamedKey S j && ({} : RenderState).get j == 0)
      (l := List.range S.size)
    simpa using this
  show 1 + _ ≤ _
  omega

theorem renderPot_init (S : SchemaMut) : renderPot S {} ≤ S.size * (S.size + 1) := by
  have := sum_map_le_const (List.range S.size) (cellPot S.size {}) (S.size + 1) (by
    intro j _
    unfold cellPot
    omega)
  simpa [renderPot] using this

theorem render_total (S : SchemaMut) (fuel : Nat) (h : renderBound S ≤ fuel) (key : Nat)
    (ns : Option String) : OkOrCustom (render S fuel key ns {}) :=
  (render_total_aux S fuel).1 key ns {} (S.size * (S.size + 1)) (RInv_init S) (renderPot_init S) h


/-! ### freeze -/

theorem freezeNode_children (n : RawNode) : (freezeNode n).children = n.type.children := by
  obtain ⟨ty, lg⟩ := n
  rcases lg with _ | l
  · cases ty <;> rfl
  · cases l <;> cases ty <;> first | rfl | (simp only [freezeNode]; split <;> rfl)

theorem freezeNodes_keysInBounds (S : SchemaMut) (h : S.keysInBounds = true) :
    (freezeNodes S).keysInBounds = true := by
  unfold Schema.keysInBounds freezeNodes
  unfold SchemaMut.keysInBounds at h
  simp only [Array.size_map]
  simpa [Function.comp_def, freezeNode_children] using h

theorem freeze_ok (S : SchemaMut) (kept : Bool) (fuel : Nat) (F : Schema)
    (h : freeze S kept fuel = .ok F) :
    F = freezeNodes S ∧ S.size ≠ 0 ∧ S.keysInBounds = true := by
  unfold freeze at h
  split at h
  · cases h
  next hne =>
    split at h
    · cases h
    · split at h
      · cases h
      · split at h
        next hk => cases h; exact ⟨rfl, hne, hk⟩
        · cases h

theorem canonicalForm_total (S : SchemaMut) (fuel : Nat) (h : pcfBound S ≤ fuel) :
    OkOrCustom (canonicalForm S fuel) := by
  have e : canonicalForm S fuel = mapOk (pcf S fuel 0 {}) (·.out) := by
    unfold canonicalForm mapOk; cases pcf S fuel 0 {} <;> rfl
  rw [e]
  exact mapOk_okOrCustom (pcf_total S fuel h 0)

theorem renderJson_total (S : SchemaMut) (fuel : Nat) (h : renderBound S ≤ fuel) :
    OkOrCustom (renderJson S fuel) := by
  have e : renderJson S fuel = mapOk (render S fuel 0 none {}) (·.1) := by
    unfold renderJson mapOk; cases render S fuel 0 none {} <;> rfl
  rw [e]
  exact mapOk_okOrCustom (render_total S fuel h 0 none)

theorem freeze_NP (S : SchemaMut) (kept : Bool) (fuel : Nat) (h1 : pcfBound S ≤ fuel)
    (h2 : renderBound S ≤ fuel) : NP (freeze S kept fuel) := by
  -- an error passed on is an error of the stage it came from
  have pass : ∀ {α : Type} {r : Except SchemaErr α} {e : SchemaErr}, NP r → r = .error e →
      NP (Except.error e : Except SchemaErr Schema) := by
    intro α r e h he h'; cases h'; exact h he
  unfold freeze
  split
  · exact NP_custom
  · split
    next e he => exact pass (canonicalForm_total S fuel h1).np he
    · split
      next e he =>
        refine pass ?_ he
        cases kept
        · exact (renderJson_total S fuel h2).np
        · exact NP_ok _
      · split
        · exact NP_ok _
        · exact NP_custom

/-! ### graphs that cannot be expressed -/

/-- `no_cycle_guard`: re-entering an unnamed node whose cell holds the current generation (or
    more) is an error. -/
theorem render_reenter (S : SchemaMut) (fuel k : Nat) (ns : Option String) (st : RenderState)
    (hu : isUnnamedKey S k = true) (hg : st.nWritten ≤ st.get k) :
    render S (fuel + 1) k ns st = .error .custom := by
  rw [render_succ]
  unfold renderStep
  unfold isUnnamedKey at hu
  split
  next heq => simp [heq] at hu
  next node hS =>
    simp only [hS] at hu
    obtain ⟨ty, lg⟩ := node
    cases ty <;> simp only at hu ⊢
    all_goals try (cases hu)
    · simp [renderGuarded, hg]
    · simp [renderGuarded, hg]
    · split
      · rfl
      · simp [renderGuarded, hg]

theorem render_union_logical (S : SchemaMut) (fuel k : Nat) (ns : Option String) (st : RenderState)
    (vs : List Nat) (l : LogicalType) (h : S[k]? = some ⟨.union vs, some l⟩) :
    render S (fuel + 1) k ns st = .error .custom := by
  rw [render_succ]
  unfold renderStep
  simp [h]

/-- `enter_unnamed`: re-entering an unnamed node whose cell holds the current generation (no named
    type was written since it was entered) is an error. -/
theorem pcf_reenter (S : SchemaMut) (fuel k : Nat) (st : PcfState)
    (hu : isUnnamedKey S k = true) (hg : st.cell k = st.gen) :
    pcf S (fuel + 1) k st = .error .custom := by
  have hg' : (st.onPath.lookup k).getD 0 = st.written.length + 1 := hg
  rw [pcf_succ]
  unfold pcfStep
  unfold isUnnamedKey at hu
  split
  next heq => simp [heq] at hu
  next node hS =>
    simp only [hS] at hu
    obtain ⟨ty, lg⟩ := node
    cases ty <;> simp only at hu ⊢
    all_goals try (cases hu)
    all_goals simp [pcfUnnamed, hg']

end Avro.Impl
