import AvroModel.Lemmas.DeriveWiderURealizes
import AvroModel.Lemmas.DeriveWiderUBuild
/-
C20: the narrower fragments in the widest, and the two halves put together.
* `FitWf ⊆ FitWfG ⊆ FitWfW ⊆ FitWfWU` (`FitWf_toG`, `FitWfG_toW`, `FitWfW_toWU`), each by a translation of
  the check on types and on declarations; `FitWfU` is in `FitWfWU` with the naming condition only:
  `FitWfU_toWithU` gives the marks, `UnionNamesText` is a further hypothesis (`FitWfU_toWU`,
  `Theorems/C20more.lean`); for a `FitWfU` program `UnionNamesU` also follows from `UnionNames`
  (`UnionNamesU.of_unionNames`).
* For a program that passes the check `FitWfWithU` the builder establishes `InvU` (`Builds.specU`,
  `invU_of_build`), under which the built schema realizes the root type (`realizes_of_invU`,
  `realizes_of_build`).
-/
namespace Avro.Theorems.DeriveG
open Avro Avro.Impl Avro.Impl.Derive Avro.Theorems.DeriveFits

/-! ### `FitWfG` extends `FitWf`

Stated for `declOk u`, so that the type part also serves programs with enums that map to unions. -/

theorem nonOpt_toG {P : Prog} : ∀ (n : Nat) (t : Ty), nonOpt P n t = true → nonOptG P n t = true := by
  intro n
  induction n with
  | zero => intro t h; simp [nonOpt] at h
  | succ n ih =>
    intro t h
    unfold nonOpt at h
    unfold nonOptG
    generalize Derive.peel t = u at h
    cases u with
    | named id args =>
      simp only [Bool.and_eq_true, List.isEmpty_iff] at h
      obtain ⟨rfl, h⟩ := h
      cases hd : P[id]? with
      | none => simp [hd] at h
      | some d =>
        simp only [hd] at h ⊢
        cases hb : d.body with
        | newtype fd =>
          simp only [hb, Bool.and_eq_true] at h ⊢
          refine ⟨⟨rfl, h.1⟩, ?_⟩
          split
          · rename_i hdir; simp only [hdir, if_true] at h; exact ih _ h.2
          · rename_i hdir; simpa [hdir] using h.2
        | record fs => rfl
        | unitEnum vs => rfl
        | union vs => simp [hb] at h
    | _ => first | exact h | rfl

section toG
variable {P : Prog} {u : Bool}
variable (hP : ∀ (id : Nat) (d : Decl), P[id]? = some d → declOk u P d = true)
include hP

theorem tyOk_toG : ∀ t : Ty, tyOk P t = true → tyOkG P 0 t = true
  | .vec t, h => by simp only [tyOkG]; exact tyOk_toG t (by simpa [tyOk] using h)
  | .hashMap t, h => by simp only [tyOkG]; exact tyOk_toG t (by simpa [tyOk] using h)
  | .btreeMap t, h => by simp only [tyOkG]; exact tyOk_toG t (by simpa [tyOk] using h)
  | .ptr t, h => by simp only [tyOkG]; exact tyOk_toG t (by simpa [tyOk] using h)
  | .option t, h => by
    simp only [tyOkG]
    simp only [tyOk, Bool.and_eq_true] at h ⊢
    exact ⟨tyOk_toG t h.1, nonOpt_toG _ t h.2⟩
  | .named id args, h => by
    simp only [tyOk, Bool.and_eq_true, List.isEmpty_iff, decide_eq_true_eq] at h
    obtain ⟨rfl, hid⟩ := h
    have hd : P[id]? = some P[id] := Array.getElem?_eq_getElem hid
    have hdok := hP id _ hd
    simp only [tyOkG]
    simp only [hd, tysOkG, Bool.and_true]
    have : isGenRec P[id] = false := by
      unfold isGenRec
      cases hb : P[id].body <;> simp only [Bool.and_false]
      simp only [declOk, hb, Bool.and_eq_true, decide_eq_true_eq] at hdok
      simp [hdok.1.1]
    simp [this]
  | .param i, h => by simp [tyOk] at h
  | .unit, _ | .bool, _ | .i8, _ | .i16, _ | .i32, _ | .i64, _ | .u16, _ | .u32, _ | .u64, _ | .usize, _
  | .f32, _ | .f64, _ | .string, _ | .str, _ | .byteVec, _ | .byteSlice, _ | .byteArray _, _ => rfl

theorem declOk_toG (d : Decl) (h : declOk u P d = true) (hnu : ∀ vs, d.body ≠ .union vs) :
    declOkG P d = true := by
  unfold declOk at h
  unfold declOkG
  cases hb : d.body with
  | record fs =>
    simp only [hb, Bool.and_eq_true, decide_eq_true_eq, List.all_eq_true] at h ⊢
    obtain ⟨⟨hn, hname⟩, hfs⟩ := h
    refine ⟨hname, ?_⟩
    rw [hn]
    intro fd hfd
    have := hfs fd hfd
    simp only [fieldOk, fieldOkG, plainFieldOk, plainFieldOkG, Bool.or_eq_true, Bool.and_eq_true] at this ⊢
    rcases this with ⟨h1, h2⟩ | h'
    · exact .inl ⟨h1, tyOk_toG hP fd.ty h2⟩
    · exact .inr h'
  | newtype fd =>
    simp only [hb, Bool.and_eq_true, decide_eq_true_eq, plainFieldOk, plainFieldOkG] at h ⊢
    obtain ⟨⟨hname, hl, hty⟩, hrest⟩ := h
    refine ⟨⟨hname, hl, tyOk_toG hP fd.ty hty⟩, ?_⟩
    split
    · rename_i hdir; simp only [hdir, if_true] at hrest; exact nonOpt_toG _ _ hrest
    · rename_i hdir; simpa [hdir] using hrest
  | unitEnum vs => rfl
  | union vs => exact absurd hb (hnu vs)

end toG

/-- The fragment of `C20_fits` is part of the fragment with generic records. -/
theorem _root_.Avro.Theorems.FitWf_toG {P : Prog} {root : Ty} (h : FitWf P root = true) : FitWfG P root = true := by
  have hd := FitWf_decls h
  simp only [FitWf, Bool.and_eq_true] at h
  simp only [FitWfG, Bool.and_eq_true, Array.all_eq_true]
  refine ⟨fun i hi => ?_, tyOk_toG hd root h.2⟩
  have hdi := hd i _ (Array.getElem?_eq_getElem hi)
  exact declOk_toG hd _ hdi (fun vs hb => by simp [declOk, hb] at hdi)

end Avro.Theorems.DeriveG

namespace Avro.Theorems.DeriveW
open Avro Avro.Impl Avro.Impl.Derive Avro.Theorems.DeriveG
open Avro.Theorems.DeriveFits

/-! ### `FitWfW` extends `FitWfG` -/

section toW
variable {P : Prog}

mutual
theorem hasParam_of_tyOkG : ∀ t : Ty, tyOkG P 0 t = true → hasParam t = false
  | .vec t, h => by simp only [tyOkG] at h; simp only [hasParam]; exact hasParam_of_tyOkG t h
  | .hashMap t, h => by simp only [tyOkG] at h; simp only [hasParam]; exact hasParam_of_tyOkG t h
  | .btreeMap t, h => by simp only [tyOkG] at h; simp only [hasParam]; exact hasParam_of_tyOkG t h
  | .ptr t, h => by simp only [tyOkG] at h; simp only [hasParam]; exact hasParam_of_tyOkG t h
  | .option t, h => by
    simp only [tyOkG] at h
    simp only [Bool.and_eq_true] at h
    simp only [hasParam]; exact hasParam_of_tyOkG t h.1
  | .named id as, h => by
    simp only [tyOkG] at h
    simp only [Bool.and_eq_true] at h
    simp only [hasParam]; exact hasParams_of_tysOkG as h.2
  | .param i, h => by simp [tyOkG] at h
  | .unit, _ | .bool, _ | .i8, _ | .i16, _ | .i32, _ | .i64, _ | .u16, _ | .u32, _ | .u64, _ | .usize, _
  | .f32, _ | .f64, _ | .string, _ | .str, _ | .byteVec, _ | .byteSlice, _ | .byteArray _, _ => rfl
theorem hasParams_of_tysOkG : ∀ ts : List Ty, tysOkG P 0 ts = true → hasParams ts = false
  | [], _ => by simp only [hasParams]
  | t :: ts, h => by
    simp only [tysOkG] at h
    simp only [Bool.and_eq_true] at h
    rw [hasParams, hasParam_of_tyOkG t h.1, hasParams_of_tysOkG ts h.2]; rfl
end

theorem plainW_of_nonOptG : ∀ (n : Nat) (ctx : Nat → Bool) (t : Ty), nonOptG P n t = true →
    plainW P ctx n t = true := by
  intro n
  induction n with
  | zero => intro ctx t h; simp [nonOptG] at h
  | succ n ih =>
    intro ctx t h
    unfold nonOptG at h
    unfold plainW
    generalize Derive.peel t = u at h
    cases u with
    | param i => simp at h
    | named id args =>
      dsimp only at h ⊢
      cases hd : P[id]? with
      | none => simp [hd] at h
      | some d =>
        simp only [hd] at h ⊢
        cases hb : d.body with
        | newtype fd =>
          simp only [hb, Bool.and_eq_true] at h ⊢
          refine ⟨h.1.2, ?_⟩
          have h2 := h.2
          split
          · rename_i hdir; simp only [hdir, if_true] at h2; exact ih _ _ h2
          · rename_i hdir; simpa [hdir] using h2
        | record fs => rfl
        | unitEnum vs => rfl
        | union vs => simp [hb] at h
    | _ => first | exact h | rfl

/-! The inclusion proper needs only that the two fragments agree on which declarations take type
arguments; so it also serves programs with enums that map to unions (`DeriveWU.FitWfU_toWithU`). -/

mutual
theorem tyOkW_of_tyOkG (hgen : ∀ (id : Nat) (d : Decl), P[id]? = some d → isGenW d = isGenRec d)
    {K n : Nat} (hK : P.size + 1 ≤ K) (ctx : Nat → Bool) :
    ∀ t : Ty, tyOkG P n t = true → tyOkW P noMarks K n ctx t = true
  | .vec t, h => by simp only [tyOkG] at h; simp only [tyOkW]; exact tyOkW_of_tyOkG hgen hK ctx t h
  | .hashMap t, h => by simp only [tyOkG] at h; simp only [tyOkW]; exact tyOkW_of_tyOkG hgen hK ctx t h
  | .btreeMap t, h => by simp only [tyOkG] at h; simp only [tyOkW]; exact tyOkW_of_tyOkG hgen hK ctx t h
  | .ptr t, h => by simp only [tyOkG] at h; simp only [tyOkW]; exact tyOkW_of_tyOkG hgen hK ctx t h
  | .option t, h => by
    simp only [tyOkG] at h
    simp only [tyOkW]
    simp only [Bool.and_eq_true] at h ⊢
    exact ⟨tyOkW_of_tyOkG hgen hK ctx t h.1,
      plainW_mono _ _ ctx ctx t hK (fun _ h => h) (plainW_of_nonOptG _ ctx t h.2)⟩
  | .named id as, h => by
    simp only [tyOkG] at h
    simp only [tyOkW]
    simp only [Bool.and_eq_true] at h ⊢
    refine ⟨?_, tysOkW_of_tysOkG hgen hK ctx id 0 as h.2⟩
    have h1 := h.1
    cases hd : P[id]? with
    | none => simp [hd] at h1
    | some d =>
      simp only [hd] at h1 ⊢
      rw [hgen id d hd]
      exact h1
  | .param i, h => by simp only [tyOkG] at h; simp only [tyOkW]; exact h
  | .unit, _ | .bool, _ | .i8, _ | .i16, _ | .i32, _ | .i64, _ | .u16, _ | .u32, _ | .u64, _ | .usize, _
  | .f32, _ | .f64, _ | .string, _ | .str, _ | .byteVec, _ | .byteSlice, _ | .byteArray _, _ => rfl
theorem tysOkW_of_tysOkG (hgen : ∀ (id : Nat) (d : Decl), P[id]? = some d → isGenW d = isGenRec d)
    {K n : Nat} (hK : P.size + 1 ≤ K) (ctx : Nat → Bool) (id : Nat) :
    ∀ (j : Nat) (ts : List Ty), tysOkG P n ts = true → tysOkW P noMarks K n ctx id j ts = true
  | _, [], _ => by simp only [tysOkW]
  | j, t :: ts, h => by
    simp only [tysOkG] at h
    simp only [tysOkW]
    simp only [Bool.and_eq_true] at h ⊢
    exact ⟨⟨tyOkW_of_tyOkG hgen hK ctx t h.1, by simp [noMarks]⟩, tysOkW_of_tysOkG hgen hK ctx id (j + 1) ts h.2⟩
end

theorem declOkW_of_declOkG (hgen : ∀ (id : Nat) (d : Decl), P[id]? = some d → isGenW d = isGenRec d)
    {K : Nat} (hK : P.size + 1 ≤ K) {id : Nat} {d : Decl} (hd : P[id]? = some d)
    (hdok : declOkG P d = true) : declOkW P noMarks K id d = true := by
  have hg := hgen id d hd
  unfold declOkW declOkWith
  unfold declOkG at hdok
  cases hb : d.body with
  | record fs =>
    have hsc : scopeW d = d.nparams := by
      unfold scopeW
      rw [hg]
      simp only [isGenRec, hb, Bool.and_true, decide_eq_true_eq]
      split
      · rfl
      · rename_i h; exact (Decidable.not_not.mp h).symm
    simp only [hb, Bool.and_eq_true, decide_eq_true_eq, List.all_eq_true] at hdok ⊢
    refine ⟨hdok.1, fun fd hfd => ?_⟩
    have := hdok.2 fd hfd
    rw [hsc]
    simp only [fieldOkG, fieldOkW, plainFieldOkG, plainFieldOkW, Bool.or_eq_true, Bool.and_eq_true] at this ⊢
    rcases this with ⟨h1, h2⟩ | h'
    · exact .inl ⟨h1, tyOkW_of_tyOkG hgen hK _ fd.ty h2⟩
    · exact .inr h'
  | newtype fd =>
    have hsc : scopeW d = 0 := by
      unfold scopeW
      rw [hg]
      simp [isGenRec, hb]
    simp only [hb, Bool.and_eq_true, decide_eq_true_eq, plainFieldOkG, plainFieldOkW] at hdok ⊢
    obtain ⟨⟨hname, hl, hty⟩, hrest⟩ := hdok
    rw [hsc]
    refine ⟨⟨hname, hl, tyOkW_of_tyOkG hgen hK _ fd.ty hty⟩, ?_⟩
    split
    · rename_i hdir
      simp only [hdir, if_true] at hrest
      exact plainW_mono _ _ _ _ fd.ty hK (fun _ h => h) (plainW_of_nonOptG _ _ fd.ty hrest)
    · rename_i hdir; simpa [hdir] using hrest
  | unitEnum vs => rfl
  | union vs => simp [hb] at hdok

variable (hP : ∀ (id : Nat) (d : Decl), P[id]? = some d → declOkG P d = true)
include hP

theorem isGenW_of_G {id : Nat} {d : Decl} (hd : P[id]? = some d) : isGenW d = isGenRec d := by
  have hdok := hP id d hd
  unfold isGenW isGenRec
  cases hb : d.body with
  | newtype fd =>
    simp only [declOkG, hb, Bool.and_eq_true, plainFieldOkG] at hdok
    simp [hasParam_of_tyOkG _ hdok.1.2.2]
  | union vs => simp [declOkG, hb] at hdok
  | _ => rfl

theorem tyOkW_of_G {K n : Nat} (hK : P.size + 1 ≤ K) (ctx : Nat → Bool) :
    ∀ t : Ty, tyOkG P n t = true → tyOkW P noMarks K n ctx t = true :=
  tyOkW_of_tyOkG (fun _ _ hd => isGenW_of_G hP hd) hK ctx

theorem tysOkW_of_G {K n : Nat} (hK : P.size + 1 ≤ K) (ctx : Nat → Bool) (id : Nat) :
    ∀ (j : Nat) (ts : List Ty), tysOkG P n ts = true → tysOkW P noMarks K n ctx id j ts = true :=
  tysOkW_of_tysOkG (fun _ _ hd => isGenW_of_G hP hd) hK ctx id

theorem declOkW_of_G {K : Nat} (hK : P.size + 1 ≤ K) {id : Nat} {d : Decl} (hd : P[id]? = some d) :
    declOkW P noMarks K id d = true :=
  declOkW_of_declOkG (fun _ _ hd => isGenW_of_G hP hd) hK hd (hP id d hd)

end toW

theorem FitWfG_toWith {P : Prog} {root : Ty} {K : Nat} (hK : P.size + 1 ≤ K) (h : FitWfG P root = true) :
    FitWfWith P noMarks K root = true := by
  have hP : ∀ (id : Nat) (d : Decl), P[id]? = some d → declOkG P d = true :=
    fun _ _ hd => all_of_getElem? (Bool.and_eq_true_iff.mp h).1 hd
  simp only [FitWfG, Bool.and_eq_true] at h
  simp only [FitWfWith, Bool.and_eq_true, List.all_eq_true, List.mem_range]
  refine ⟨fun id hid => ?_, tyOkW_of_G hP hK noCtx root h.2⟩
  have hd : P[id]? = some P[id] := Array.getElem?_eq_getElem hid
  simp only [hd]
  exact declOkW_of_G hP hK hd

theorem FitWfG_toW {P : Prog} {root : Ty} (h : FitWfG P root = true) : FitWfW P root = true := by
  simp only [FitWfW, Bool.or_eq_true]
  exact .inl (.inl (FitWfG_toWith (wideFuel_ge P root) h))

end Avro.Theorems.DeriveW

namespace Avro.Theorems.DeriveWU
open Avro Avro.Impl Avro.Impl.Derive Avro.Theorems.DeriveG Avro.Theorems.DeriveW
open Avro.Theorems.DeriveFits

theorem FitWfWith_toWithU {P : Prog} {M : Marks} {K : Nat} {root : Ty} (h : FitWfWith P M K root = true) :
    FitWfWithU P M K root = true := by
  have hd := FitWfWith_decls h
  simp only [FitWfWith, Bool.and_eq_true] at h
  simp only [FitWfWithU, Bool.and_eq_true, List.all_eq_true, List.mem_range]
  refine ⟨fun id hid => ?_, h.2⟩
  have hd' : P[id]? = some P[id] := Array.getElem?_eq_getElem hid
  simp only [hd']
  exact declOkWU_of_W (hd id _ hd')

theorem unionNamesTextW_of_no_union {P : Prog} (h : ∀ (id : Nat) (d : Decl), P[id]? = some d → ∀ vs, d.body ≠ .union vs) :
    UnionNamesTextW P = true := by
  simp only [UnionNamesTextW, Array.all_eq_true]
  intro i hi
  have := h i P[i] (Array.getElem?_eq_getElem hi)
  cases hb : P[i].body with
  | union vs => exact absurd hb (this vs)
  | _ => rfl

theorem FitWfW_toWU {P : Prog} {root : Ty} (h : FitWfW P root = true) : FitWfWU P root = true := by
  have hnu : UnionNamesTextW P = true := by
    obtain ⟨M, K, hw⟩ := FitWfW_with h
    exact unionNamesTextW_of_no_union (FitWfWith_no_union hw)
  simp only [FitWfW, Bool.or_eq_true] at h
  simp only [FitWfWU, Bool.and_eq_true, Bool.or_eq_true]
  refine ⟨?_, hnu⟩
  rcases h with (h | h) | h
  · exact .inl (.inl (.inl (FitWfWith_toWithU h)))
  · exact .inl (.inl (.inr (FitWfWith_toWithU h)))
  · exact .inr (FitWfWith_toWithU h)

/-! ### The fragment `FitWfU` is included

`FitWfU` (non-generic programs with union enums) checks against the empty table of marks. -/

section fromU
variable {P : Prog} (hP : ∀ (id : Nat) (d : Decl), P[id]? = some d → declOk true P d = true)
include hP

theorem isGenW_of_U {id : Nat} {d : Decl} (hd : P[id]? = some d) : isGenW d = false := by
  have hdok := hP id d hd
  unfold isGenW
  unfold declOk at hdok
  cases hb : d.body with
  | record fs =>
    simp only [hb, Bool.and_eq_true, decide_eq_true_eq] at hdok
    simp [hdok.1.1]
  | newtype fd =>
    simp only [hb, Bool.and_eq_true, plainFieldOk] at hdok
    simp [hasParam_of_tyOkG _ (tyOk_toG hP _ hdok.1.2.2)]
  | unitEnum vs => simp
  | union vs =>
    simp only [hb, Bool.true_and, Bool.and_eq_true, decide_eq_true_eq] at hdok
    simp [hdok.1]

theorem scopeW_of_U {id : Nat} {d : Decl} (hd : P[id]? = some d) : scopeW d = 0 := by
  simp [scopeW, isGenW_of_U hP hd]

theorem isGenW_eq_of_U (id : Nat) (d : Decl) (hd : P[id]? = some d) : isGenW d = isGenRec d := by
  rw [isGenW_of_U hP hd]
  have hdok := hP id d hd
  unfold isGenRec
  cases hb : d.body <;> simp only [Bool.and_false]
  simp only [declOk, hb, Bool.and_eq_true, decide_eq_true_eq] at hdok
  simp [hdok.1.1]

theorem tyOk_toW_of_U {K : Nat} (hK : P.size + 1 ≤ K) (ctx : Nat → Bool) (t : Ty) (h : tyOk P t = true) :
    tyOkW P noMarks K 0 ctx t = true :=
  tyOkW_of_tyOkG (isGenW_eq_of_U hP) hK ctx t (tyOk_toG hP t h)

theorem declOk_toWU_of_U {K : Nat} (hK : P.size + 1 ≤ K) {id : Nat} {d : Decl} (hd : P[id]? = some d) :
    declOkWU P noMarks K id d = true := by
  have hdok := hP id d hd
  cases hb : d.body with
  | union vs =>
    have hsc := scopeW_of_U hP hd
    unfold declOkWU declOkWithU
    unfold declOk at hdok
    simp only [hb, Bool.true_and, Bool.and_eq_true, decide_eq_true_eq, List.all_eq_true, Bool.or_eq_true] at hdok ⊢
    obtain ⟨hn, hvs⟩ := hdok
    intro v hv
    have := hvs v hv
    unfold variantOk at this
    unfold variantOkWU
    refine ⟨?_, .inl hn⟩
    cases hf : v.field with
    | none => rfl
    | some fd =>
      rw [hf] at this
      simp only [plainFieldOk, Bool.and_eq_true, plainFieldOkW] at this ⊢
      rw [hsc]
      exact ⟨this.1.1, tyOk_toW_of_U hP hK _ fd.ty this.1.2⟩
  | _ =>
    exact declOkWU_of_W (declOkW_of_declOkG (isGenW_eq_of_U hP) hK hd
      (declOk_toG hP d hdok (fun vs h => by rw [hb] at h; cases h)))

end fromU

theorem FitWfU_toWithU {P : Prog} {root : Ty} (h : FitWfU P root = true) :
    FitWfWithU P noMarks (wideFuel P root) root = true := by
  have hP := FitWfU_decls h
  have hK := wideFuel_ge P root
  simp only [FitWfWithU, Bool.and_eq_true, List.all_eq_true, List.mem_range]
  refine ⟨fun id hid => ?_, tyOk_toW_of_U hP hK noCtx root (FitWfU_root h)⟩
  have hd : P[id]? = some P[id] := Array.getElem?_eq_getElem hid
  simp only [hd]
  exact declOk_toWU_of_U hP hK hd

theorem UnionNamesU.of_unionNames {P : Prog} {M : Marks} {s : BState}
    (hP : ∀ (id : Nat) (d : Decl), P[id]? = some d → declOk true P d = true) (h : UnionNames P s) :
    UnionNamesU P M s := by
  intro id d vs args key i ks hd hb hargs0 hkey hreg hnode _ _ _
  have hn : d.nparams = 0 := by
    have := hP id d hd
    simp only [declOk, hb, Bool.true_and, Bool.and_eq_true, decide_eq_true_eq] at this
    exact this.1
  obtain rfl := hargs0 hn
  obtain rfl := hkey.named_union hd hb hn
  exact h id d vs i ks hd hb hreg hnode

theorem invU_of_build {P : Prog} {M : Marks} {K : Nat} {hash : Key → String} {fuel : Nat} {root : Ty}
    {c : Nat} {s : BState} (hwf : FitWfWithU P M K root = true)
    (hf : findOrBuild P hash fuel root {} = some (c, s)) :
    InvU P [] s ∧ ∃ key, KeyOf P root key ∧ Reg s key c := by
  exact (Builds.of_ran fuel (.find root c) {} s hf).specU (FitWfWithU_decls hwf) []
    ⟨K, FitWfWithU_root hwf⟩ (InvU.empty P)

theorem realizes_of_build {P : Prog} {M : Marks} {K : Nat} {hash : Key → String} {fuel : Nat} {root : Ty}
    {c : Nat} {s : BState} (hwf : FitWfWithU P M K root = true)
    (hf : findOrBuild P hash fuel root {} = some (c, s))
    (hnames : InvU P [] s → UnionNamesU P M s) (f : Nat) : Realizes P (freezeNodes s.nodes) f root c := by
  obtain ⟨hinv, key, hkey, hreg⟩ := invU_of_build hwf hf
  exact realizes_of_invU (FitWfWithU_decls hwf) hinv (hnames hinv) f root key c ⟨K, FitWfWithU_root hwf⟩
    hkey hreg

end Avro.Theorems.DeriveWU
