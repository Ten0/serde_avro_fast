import AvroModel.Impl.Ocf
/-
The container-file writer model (`Impl/Ocf.lean`).
The sink: the vectored-write loop depends on the concatenation of its buffers only
(`writeAllVectored_eq_flat`), so C16 is the flat loop (`writeFlat_*`) and `Sim`: two writer states that
differ only by the benign schedules of their sinks, which every call respects (`wstep_sim`).
The writer on the all-accepting sink refines the abstract writer `AState` (the entries of every block
written and of the buffer): every call keeps `Rep` and returns `expected op` (`wstep_rep`).
`into_inner` sets `taken`, which `Inv` forbids: histories are closed by it (`wstep_intoInner_rep`), not
continued after it.  C15 is `wrun_rep` with facts on `arun`; C05 / C06 add that the sink parses
(`Lemmas/OcfParse.lean`).
-/
namespace Avro.Impl.Ocf

open Avro Avro.Impl

/-! ### `advanceSlices` -/

theorem advanceSlices_flatten (bufs : List Bytes) (n : Nat) :
    (advanceSlices bufs n).flatten = bufs.flatten.drop n := by
  induction bufs generalizing n with
  | nil => simp [advanceSlices]
  | cons b rest ih =>
    simp only [advanceSlices]
    split
    · rename_i h
      rw [ih, List.flatten_cons, List.drop_append]
      simp [List.drop_eq_nil_of_le h]
    · rename_i h
      rw [List.flatten_cons, List.flatten_cons, List.drop_append]
      have : n - b.length = 0 := by omega
      simp [this]

theorem advanceSlices_zero_flatten (bufs : List Bytes) :
    (advanceSlices bufs 0).flatten = bufs.flatten := by
  simp [advanceSlices_flatten]

theorem advanceSlices_zero_isEmpty (bufs : List Bytes) :
    (advanceSlices bufs 0).isEmpty = true ↔ bufs.flatten = [] := by
  induction bufs with
  | nil => simp [advanceSlices]
  | cons b rest ih =>
    simp only [advanceSlices, Nat.le_zero_eq, List.length_eq_zero_iff]
    split
    · rename_i h; subst h; simpa using ih
    · rename_i h; simp [h]

theorem advanceSlices_zero_head_ne_nil (bufs : List Bytes) :
    ∀ b ∈ (advanceSlices bufs 0).head?, b ≠ [] := by
  induction bufs with
  | nil => simp [advanceSlices]
  | cons b rest ih =>
    simp only [advanceSlices, Nat.le_zero_eq, List.length_eq_zero_iff]
    split
    · simpa using ih
    · rename_i h; simpa using h

theorem advanceSlices_zero_suffix (bufs : List Bytes) : advanceSlices bufs 0 <:+ bufs := by
  induction bufs with
  | nil => simp [advanceSlices]
  | cons b rest ih =>
    simp only [advanceSlices, Nat.le_zero_eq, List.length_eq_zero_iff]
    split
    · exact List.IsSuffix.trans (by simpa using ih) (List.suffix_cons b rest)
    · simp

/-! ### The flat loop -/

/-- The write loop on the concatenation of the buffers. -/
def writeFlat : Nat → Bytes → Sink → Except WErr Unit × Sink
  | 0, _, s => (.error .panic, s)
  | fuel + 1, bs, s =>
    if bs = [] then (.ok (), s)
    else
      match s.sched with
      | [] => writeFlat fuel [] { data := s.data ++ bs, sched := [], calls := s.calls + 1 }
      | .interrupted :: rest => writeFlat fuel bs { s with sched := rest, calls := s.calls + 1 }
      | .hardError :: rest => (.error .io, { s with sched := rest, calls := s.calls + 1 })
      | .accept k :: rest =>
        let s' : Sink := { data := s.data ++ bs.take (min k bs.length), sched := rest, calls := s.calls + 1 }
        if min k bs.length = 0 then (.error .io, s')
        else writeFlat fuel (bs.drop (min k bs.length)) s'

theorem writeAllVectored_eq_flat (fuel : Nat) (bufs : List Bytes) (s : Sink) :
    writeAllVectored fuel bufs s = writeFlat fuel bufs.flatten s := by
  induction fuel generalizing bufs s with
  | zero => simp [writeAllVectored, writeFlat]
  | succ fuel ih =>
    unfold writeAllVectored writeFlat
    simp only
    by_cases hnil : bufs.flatten = []
    · simp [hnil, (advanceSlices_zero_isEmpty bufs).2 hnil]
    · have hne : ¬ ((advanceSlices bufs 0).isEmpty = true) := fun h =>
        hnil ((advanceSlices_zero_isEmpty bufs).1 h)
      have hlen : bufs.flatten.length ≠ 0 := fun h => hnil (List.length_eq_zero_iff.1 h)
      simp only [hne, hnil, if_false, Bool.false_eq_true]
      cases hs : s.sched with
      | nil =>
        simp only [Sink.writeCall, hs, advanceSlices_zero_flatten]
        rw [ih, advanceSlices_flatten, advanceSlices_zero_flatten, List.drop_length]
      | cons r rest =>
        cases r with
        | interrupted => simp only [ih, advanceSlices_zero_flatten]
        | hardError => simp [Sink.writeCall, hs]
        | accept k =>
          simp only [Sink.writeCall, hs, advanceSlices_zero_flatten]
          generalize min k bufs.flatten.length = m
          cases m with
          | zero => simp
          | succ m => simp [ih, advanceSlices_flatten]

/-- A schedule with no hard error and no zero-length acceptance: only partial (non-empty) writes
    and interruptions. -/
def Benign (sched : List SinkResp) : Prop :=
  ∀ r ∈ sched, r = .interrupted ∨ ∃ k, r = .accept k ∧ 1 ≤ k

theorem Benign.nil : Benign [] := by intro r h; simp at h

theorem Benign.tail {r : SinkResp} {rest : List SinkResp} (h : Benign (r :: rest)) : Benign rest :=
  fun x hx => h x (List.mem_cons_of_mem _ hx)

theorem writeFlat_prefix (fuel : Nat) (bs : Bytes) (s : Sink) (r : Except WErr Unit) (s' : Sink)
    (h : writeFlat fuel bs s = (r, s')) :
    ∃ m, m ≤ bs.length ∧ s'.data = s.data ++ bs.take m ∧ (r = .ok () → m = bs.length) ∧
      s'.sched <:+ s.sched ∧ s.calls ≤ s'.calls := by
  induction fuel generalizing bs s with
  | zero =>
    simp only [writeFlat, Prod.mk.injEq] at h
    obtain ⟨h1, h2⟩ := h
    subst h1 h2
    exact ⟨0, by simp⟩
  | succ fuel ih =>
    unfold writeFlat at h
    split at h
    · rename_i hnil
      simp only [Prod.mk.injEq] at h
      obtain ⟨h1, h2⟩ := h
      subst h1 h2 hnil
      exact ⟨0, by simp⟩
    · split at h
      · rename_i hs
        obtain ⟨m, _, h2, _, h4, h5⟩ := ih _ _ h
        refine ⟨bs.length, Nat.le_refl _, ?_, fun _ => rfl, ?_, ?_⟩
        · simpa using h2
        · simp only at h4; rw [hs]; exact h4
        · simp only at h5; omega
      · rename_i rest hs
        obtain ⟨m, h1, h2, h3, h4, h5⟩ := ih _ _ h
        refine ⟨m, h1, h2, h3, ?_, ?_⟩
        · rw [hs]; exact List.IsSuffix.trans h4 (List.suffix_cons _ _)
        · simp only at h5; omega
      · rename_i rest hs
        simp only [Prod.mk.injEq] at h
        obtain ⟨h1, h2⟩ := h
        subst h1 h2
        refine ⟨0, by simp, by simp, by simp, ?_, by simp⟩
        simp only; rw [hs]; exact List.suffix_cons _ _
      · rename_i k rest hs
        simp only at h
        split at h
        · rename_i hz
          simp only [Prod.mk.injEq] at h
          obtain ⟨h1, h2⟩ := h
          subst h1 h2
          refine ⟨0, by simp, by simp [hz], by simp, ?_, by simp⟩
          simp only; rw [hs]; exact List.suffix_cons _ _
        · obtain ⟨m, h1, h2, h3, h4, h5⟩ := ih _ _ h
          simp only [List.length_drop] at h1 h3
          refine ⟨min k bs.length + m, by omega, ?_, ?_, ?_, ?_⟩
          · rw [h2]; simp only [List.append_assoc, List.append_cancel_left_eq]
            rw [List.take_add]
          · intro hr; have := h3 hr; omega
          · rw [hs]; exact List.IsSuffix.trans h4 (List.suffix_cons _ _)
          · simp only at h5; omega

theorem writeFlat_benign (fuel : Nat) (bs : Bytes) (s : Sink) (hb : Benign s.sched)
    (hf : fuel ≥ s.sched.length + bs.length + 2) :
    ∃ s', writeFlat fuel bs s = (.ok (), s') ∧ s'.data = s.data ++ bs ∧ Benign s'.sched := by
  induction fuel generalizing bs s with
  | zero => omega
  | succ fuel ih =>
    unfold writeFlat
    split
    · rename_i hnil; subst hnil; exact ⟨s, rfl, by simp, hb⟩
    · rename_i hnil
      have hlen : 1 ≤ bs.length := List.length_pos_iff.2 hnil
      split
      · rename_i hs
        obtain ⟨s', h1, h2, h3⟩ := ih [] { data := s.data ++ bs, sched := [], calls := s.calls + 1 }
          Benign.nil (by simp only [List.length_nil]; omega)
        exact ⟨s', h1, by simpa using h2, h3⟩
      · rename_i rest hs
        rw [hs] at hb hf
        obtain ⟨s', h1, h2, h3⟩ := ih bs { s with sched := rest, calls := s.calls + 1 }
          hb.tail (by simp only [List.length_cons] at hf ⊢; omega)
        exact ⟨s', h1, h2, h3⟩
      · rename_i rest hs
        rw [hs] at hb
        have := hb .hardError (by simp)
        simp at this
      · rename_i k rest hs
        rw [hs] at hb hf
        have hk : 1 ≤ k := by
          have := hb (.accept k) (by simp)
          simpa using this
        simp only
        have hm : ¬ (min k bs.length = 0) := by omega
        simp only [hm, if_false]
        obtain ⟨s', h1, h2, h3⟩ := ih (bs.drop (min k bs.length))
          { data := s.data ++ bs.take (min k bs.length), sched := rest, calls := s.calls + 1 }
          hb.tail (by simp only [List.length_cons, List.length_drop] at hf ⊢; omega)
        refine ⟨s', h1, ?_, h3⟩
        rw [h2]; simp

theorem writeFlat_fails (fuel : Nat) (bs : Bytes) (s : Sink) (pre rest : List SinkResp)
    (resp : SinkResp) (hresp : resp = .hardError ∨ resp = .accept 0)
    (hs : s.sched = pre ++ resp :: rest) (hpre : ∀ r ∈ pre, r = .interrupted)
    (hbs : bs ≠ []) (hf : pre.length < fuel) :
    writeFlat fuel bs s =
      (.error .io, { s with sched := rest, calls := s.calls + pre.length + 1 }) := by
  induction pre generalizing fuel s with
  | nil =>
    cases fuel with
    | zero => simp at hf
    | succ fuel =>
      unfold writeFlat
      simp only [hbs, if_false]
      simp only [List.nil_append] at hs
      rcases hresp with rfl | rfl <;> simp [hs]
  | cons p pre ih =>
    cases fuel with
    | zero => simp at hf
    | succ fuel =>
      have hp : p = .interrupted := hpre p (by simp)
      subst hp
      unfold writeFlat
      simp only [hbs, if_false]
      simp only [List.cons_append] at hs
      simp only [hs]
      rw [ih fuel { s with sched := pre ++ resp :: rest, calls := s.calls + 1 } rfl
        (fun r hr => hpre r (List.mem_cons_of_mem _ hr)) (by simpa using hf)]
      simp only [List.length_cons, Prod.mk.injEq, true_and]
      congr 1
      omega

theorem writeAllVectored_benign (fuel : Nat) (bufs : List Bytes) (s : Sink) (hb : Benign s.sched)
    (hf : fuel ≥ sinkFuel s bufs) :
    ∃ s', writeAllVectored fuel bufs s = (.ok (), s') ∧ s'.data = s.data ++ bufs.flatten ∧
      Benign s'.sched := by
  rw [writeAllVectored_eq_flat]
  exact writeFlat_benign fuel bufs.flatten s hb hf

/-! ### Writer states up to the sink's schedule -/

/-- Forget the sink's schedule and call counter. -/
def core (w : WState) : WState :=
  { w with sink := { data := w.sink.data, sched := [], calls := 0 } }

theorem core_eq_iff (w w' : WState) :
    core w = core w' ↔
      w.buf = w'.buf ∧ w.n = w'.n ∧ w.pending = w'.pending ∧ w.compressed = w'.compressed ∧
      w.approx = w'.approx ∧ w.sync = w'.sync ∧ w.sink.data = w'.sink.data ∧ w.taken = w'.taken := by
  obtain ⟨b, n, p, co, a, sy, ⟨d, sc, ca⟩, t⟩ := w
  obtain ⟨b', n', p', co', a', sy', ⟨d', sc', ca'⟩, t'⟩ := w'
  simp only [core, WState.mk.injEq, Sink.mk.injEq, and_true]

@[simp] theorem core_core (w : WState) : core (core w) = core w := rfl

/-- Two writer states that differ only by the (benign) schedules of their sinks. -/
structure Sim (w w' : WState) : Prop where
  benign : Benign w.sink.sched
  benign' : Benign w'.sink.sched
  core_eq : core w = core w'

theorem Sim.of_core (w : WState) (h : Benign w.sink.sched) : Sim w (core w) :=
  ⟨h, Benign.nil, rfl⟩

theorem flushFinishedBlock_of_write {c : Codec} {w : WState} {header : Bytes} {s1 : Sink}
    (hp : w.pending = some header) (ht : w.taken = false)
    (hw : writeAllVectored (sinkFuel w.sink [header, blockData c w, w.sync])
      [header, blockData c w, w.sync] w.sink = (.ok (), s1)) :
    flushFinishedBlock c w = (.ok (), { w with sink := s1, pending := none, buf := [] }) := by
  unfold flushFinishedBlock
  simp only [hp, ht, Bool.false_eq_true, if_false, hw]

theorem flushFinishedBlock_benign (c : Codec) (w : WState) (header : Bytes)
    (hp : w.pending = some header) (ht : w.taken = false) (hb : Benign w.sink.sched) :
    ∃ s1, flushFinishedBlock c w = (.ok (), { w with sink := s1, pending := none, buf := [] }) ∧
      s1.data = w.sink.data ++ (header ++ blockData c w ++ w.sync) ∧ Benign s1.sched := by
  obtain ⟨s1, h1, h2, h3⟩ := writeAllVectored_benign
    (sinkFuel w.sink [header, blockData c w, w.sync]) [header, blockData c w, w.sync] w.sink hb
    (Nat.le_refl _)
  exact ⟨s1, flushFinishedBlock_of_write hp ht h1, by rw [h2]; simp, h3⟩

theorem flushFinishedBlock_sim (c : Codec) (w w' : WState) (h : Sim w w') :
    (flushFinishedBlock c w).1 = (flushFinishedBlock c w').1 ∧
      Sim (flushFinishedBlock c w).2 (flushFinishedBlock c w').2 := by
  obtain ⟨hb, hb', hc⟩ := h
  have hc' := (core_eq_iff w w').1 hc
  obtain ⟨e1, e2, e3, e4, e5, e6, e7, e8⟩ := hc'
  cases hp : w.pending with
  | none =>
    have hp' : w'.pending = none := by rw [← e3, hp]
    simp only [flushFinishedBlock, hp, hp']
    exact ⟨trivial, hb, hb', hc⟩
  | some header =>
    have hp' : w'.pending = some header := by rw [← e3, hp]
    cases ht : w.taken with
    | true =>
      have ht' : w'.taken = true := by rw [← e8, ht]
      simp only [flushFinishedBlock, hp, hp', ht, ht', if_true]
      exact ⟨trivial, hb, hb', hc⟩
    | false =>
      have ht' : w'.taken = false := by rw [← e8, ht]
      obtain ⟨s1, h1, h2, h3⟩ := flushFinishedBlock_benign c w header hp ht hb
      obtain ⟨s1', h1', h2', h3'⟩ := flushFinishedBlock_benign c w' header hp' ht' hb'
      rw [h1, h1']
      refine ⟨rfl, h3, h3', ?_⟩
      rw [core_eq_iff]
      simp only [h2, h2', blockData, e1, e2, e4, e5, e6, e7, e8, and_self]

theorem innerFinishBlock_sim (c : Codec) (w w' : WState) (h : Sim w w') :
    (innerFinishBlock c w).1 = (innerFinishBlock c w').1 ∧
      Sim (innerFinishBlock c w).2 (innerFinishBlock c w').2 := by
  obtain ⟨hb, hb', hc⟩ := h
  have hc' := (core_eq_iff w w').1 hc
  obtain ⟨e1, e2, e3, e4, e5, e6, e7, e8⟩ := hc'
  unfold innerFinishBlock
  rw [e2, e3]
  by_cases hn : w'.n > 0
  · rw [if_pos hn, if_pos hn]
    by_cases hp : w'.pending.isSome = true
    · rw [if_pos hp, if_pos hp]
      exact ⟨rfl, hb, hb', hc⟩
    · rw [if_neg hp, if_neg hp]
      refine ⟨rfl, hb, hb', ?_⟩
      rw [core_eq_iff]
      simp only [blockData, e1, e5, e6, e7, e8, and_self]
  · rw [if_neg hn, if_neg hn]
    exact ⟨rfl, hb, hb', hc⟩

/-- The prefix of `serialize` / `push_serialized` that runs before the value is looked at:
    flush a pending block, and close the current one if it is already large enough. -/
def preFlush (c : Codec) (w : WState) : Except WErr Unit × WState :=
  match flushFinishedBlock c w with
  | (.error e, w) => (.error e, w)
  | (.ok _, w) => if w.buf.length ≥ w.approx then finishBlock c w else (.ok (), w)

/-- The suffix of `serialize` / `push_serialized` that runs after the value was appended. -/
def postAdd (c : Codec) (w : WState) : Except WErr Unit × WState :=
  match (if w.buf.length ≥ w.approx then innerFinishBlock c w else (.ok (), w)) with
  | (.error e, w) => (.error e, w)
  | (.ok _, w) => flushFinishedBlock c w

/-- what the simulation lemmas say of a step `f` -/
def RespectsSim (f : WState → Except WErr Unit × WState) : Prop :=
  ∀ w w', Sim w w' → (f w).1 = (f w').1 ∧ Sim (f w).2 (f w').2

theorem RespectsSim.seq {f g : WState → Except WErr Unit × WState} (hf : RespectsSim f)
    (hg : RespectsSim g) :
    RespectsSim fun w => match f w with
      | (.error e, w) => (.error e, w)
      | (.ok _, w) => g w := by
  intro w w' h
  obtain ⟨h1, h2⟩ := hf w w' h
  dsimp only
  generalize f w = x at h1 h2 ⊢
  generalize f w' = x' at h1 h2 ⊢
  obtain ⟨r, w1⟩ := x
  obtain ⟨r', w1'⟩ := x'
  simp only at h1 h2
  subst h1
  cases r with
  | error e => exact ⟨rfl, h2⟩
  | ok u => exact hg w1 w1' h2

theorem RespectsSim.ifFull {f : WState → Except WErr Unit × WState} (hf : RespectsSim f) :
    RespectsSim fun w => if w.buf.length ≥ w.approx then f w else (.ok (), w) := by
  intro w w' h
  have hc := (core_eq_iff w w').1 h.core_eq
  dsimp only
  rw [← hc.1, ← hc.2.2.2.2.1]
  split
  · exact hf w w' h
  · exact ⟨rfl, h⟩

theorem finishBlock_sim (c : Codec) : RespectsSim (finishBlock c) :=
  RespectsSim.seq (innerFinishBlock_sim c) (flushFinishedBlock_sim c)

theorem withValue_eq (c : Codec) (w : WState) (add : Option (Bytes × Nat)) :
    withValue c w add =
      match preFlush c w with
      | (.error e, w) => (.error e, w)
      | (.ok _, w) =>
        match add with
        | none => (.error .custom, w)
        | some (bytes, k) => postAdd c { w with buf := w.buf ++ bytes, n := w.n + k } := by
  unfold withValue preFlush postAdd
  cases flushFinishedBlock c w with
  | mk r w1 =>
    cases r with
    | error e => rfl
    | ok u => rfl

theorem preFlush_sim (c : Codec) : RespectsSim (preFlush c) :=
  RespectsSim.seq (flushFinishedBlock_sim c) (finishBlock_sim c).ifFull

theorem postAdd_sim (c : Codec) : RespectsSim (postAdd c) :=
  RespectsSim.seq (RespectsSim.ifFull (innerFinishBlock_sim c)) (flushFinishedBlock_sim c)

theorem withValue_sim (c : Codec) (add : Option (Bytes × Nat)) :
    RespectsSim fun w => withValue c w add := by
  simp only [withValue_eq]
  refine RespectsSim.seq (preFlush_sim c) fun w w' h => ?_
  cases add with
  | none => exact ⟨rfl, h⟩
  | some bk =>
    apply postAdd_sim
    refine ⟨h.benign, h.benign', ?_⟩
    have := (core_eq_iff _ _).1 h.core_eq
    rw [core_eq_iff]
    simp only [this, and_self]

theorem wstep_sim (c : Codec) (dbg : Bool) (w w' : WState) (op : WOp) (h : Sim w w') :
    (wstep c dbg w op).1 = (wstep c dbg w' op).1 ∧
      Sim (wstep c dbg w op).2 (wstep c dbg w' op).2 := by
  have ht : w.taken = w'.taken := ((core_eq_iff w w').1 h.core_eq).2.2.2.2.2.2.2
  cases op with
  | value d => exact withValue_sim c _ w w' h
  | push b n => exact withValue_sim c _ w w' h
  | finishBlock => exact finishBlock_sim c w w' h
  | intoInner =>
    obtain ⟨h1, h2⟩ := finishBlock_sim c w w' h
    simp only [wstep]
    refine ⟨h1, h2.benign, h2.benign', ?_⟩
    have := (core_eq_iff _ _).1 h2.core_eq
    rw [core_eq_iff]
    simp only [this, and_self]
  | drop =>
    obtain ⟨h1, h2⟩ := finishBlock_sim c w w' h
    simp only [wstep]
    rw [← ht]
    split
    · exact ⟨rfl, h⟩
    · cases hi : finishBlock c w with
      | mk r w1 =>
      cases hi' : finishBlock c w' with
      | mk r' w1' =>
      rw [hi, hi'] at h1 h2
      simp only at h1 h2
      subst h1
      cases r with
      | ok u => exact ⟨rfl, h2⟩
      | error e =>
        cases e with
        | panic => exact ⟨rfl, h2⟩
        | io => simp only; split <;> exact ⟨rfl, h2⟩
        | custom => simp only; split <;> exact ⟨rfl, h2⟩

/-- A whole history of writer calls: the results of the calls, and the final state. -/
def wrun (c : Codec) (dbg : Bool) (w : WState) (ops : List WOp) : List (Except WErr Unit) × WState :=
  ops.foldl (fun acc op => (acc.1 ++ [(wstep c dbg acc.2 op).1], (wstep c dbg acc.2 op).2)) ([], w)

theorem wrun_acc (c : Codec) (dbg : Bool) : ∀ (ops : List WOp) (acc : List (Except WErr Unit))
    (w : WState),
    ops.foldl (fun acc op => (acc.1 ++ [(wstep c dbg acc.2 op).1], (wstep c dbg acc.2 op).2)) (acc, w)
      = (acc ++ (wrun c dbg w ops).1, (wrun c dbg w ops).2)
  | [], acc, w => by simp [wrun]
  | op :: ops, acc, w => by
    rw [wrun, List.foldl_cons, List.foldl_cons, wrun_acc c dbg ops, wrun_acc c dbg ops ([] ++ _)]
    simp

/-- a history by its first call -/
theorem wrun_cons (c : Codec) (dbg : Bool) (w : WState) (op : WOp) (ops : List WOp) :
    wrun c dbg w (op :: ops) =
      ((wstep c dbg w op).1 :: (wrun c dbg (wstep c dbg w op).2 ops).1,
        (wrun c dbg (wstep c dbg w op).2 ops).2) := by
  rw [wrun, List.foldl_cons, wrun_acc]; rfl

theorem wrun_sim (c : Codec) (dbg : Bool) (ops : List WOp) (w w' : WState) (h : Sim w w') :
    (wrun c dbg w ops).1 = (wrun c dbg w' ops).1 ∧ Sim (wrun c dbg w ops).2 (wrun c dbg w' ops).2 := by
  induction ops generalizing w w' with
  | nil => exact ⟨rfl, h⟩
  | cons op ops ih =>
    obtain ⟨h1, h2⟩ := wstep_sim c dbg w w' op h
    rw [wrun_cons, wrun_cons, h1]
    exact ⟨congrArg (List.cons _) (ih _ _ h2).1, (ih _ _ h2).2⟩

/-! ### The all-accepting sink and the abstract writer -/

theorem writeAllVectored_accepting (fuel : Nat) (bufs : List Bytes) (s : Sink) (hs : s.sched = [])
    (hf : fuel ≥ sinkFuel s bufs) :
    ∃ s', writeAllVectored fuel bufs s = (.ok (), s') ∧ s'.data = s.data ++ bufs.flatten ∧
      s'.sched = [] := by
  obtain ⟨s', h1, h2, _⟩ := writeAllVectored_benign fuel bufs s (by rw [hs]; exact Benign.nil) hf
  refine ⟨s', h1, h2, ?_⟩
  rw [writeAllVectored_eq_flat] at h1
  obtain ⟨_, _, _, _, h5, _⟩ := writeFlat_prefix _ _ _ _ _ h1
  rw [hs] at h5
  exact List.suffix_nil.1 h5

/-- What the codec stores for a block whose serialized values are `d`. -/
def codecData (c : Codec) (d : Bytes) : Bytes := if c.isNull then d else c.compress d

/-- One block of the file: count, size, (compressed) data, sync marker. -/
def blockBytes (c : Codec) (sync : Bytes) (b : Nat × Bytes) : Bytes :=
  encodeVarI64 b.1 ++ encodeVarI64 (codecData c b.2).length ++ codecData c b.2 ++ sync

def blocksBytes (c : Codec) (sync : Bytes) (blocks : List (Nat × Bytes)) : Bytes :=
  (blocks.map (blockBytes c sync)).flatten

theorem blocksBytes_snoc (c : Codec) (sync : Bytes) (blocks : List (Nat × Bytes)) (b : Nat × Bytes) :
    blocksBytes c sync (blocks ++ [b]) = blocksBytes c sync blocks ++ blockBytes c sync b := by
  simp [blocksBytes]

/-- The state of the writer between two calls: nothing pending, the sink holds the header and
    the blocks `(count, uncompressed data)` flushed so far. -/
structure Inv (c : Codec) (hdr : Bytes) (blocks : List (Nat × Bytes)) (w : WState) : Prop where
  pending_none : w.pending = none
  not_taken : ¬ w.taken
  sink_eq : w.sink.data = hdr ++ blocksBytes c w.sync blocks

/-- An entry of the log: the bytes appended to the buffer and the number of values they count
    for (`serialize`: one value; `push_serialized bytes n`: `n` values). -/
abbrev Entry := Bytes × Nat

def bufOf (es : List Entry) : Bytes := (es.map (·.1)).flatten
def cntOf (es : List Entry) : Nat := (es.map (·.2)).sum
def blockOf (es : List Entry) : Nat × Bytes := (cntOf es, bufOf es)

@[simp] theorem bufOf_nil : bufOf [] = [] := rfl
@[simp] theorem cntOf_nil : cntOf [] = 0 := rfl
theorem bufOf_snoc (es : List Entry) (e : Entry) : bufOf (es ++ [e]) = bufOf es ++ e.1 := by
  simp [bufOf]
theorem cntOf_snoc (es : List Entry) (e : Entry) : cntOf (es ++ [e]) = cntOf es + e.2 := by
  simp [cntOf]

/-- The abstract writer: the entries of each block written, and the entries still buffered. -/
structure AState where
  sealed : List (List Entry) := []
  buffered : List Entry := []

/-- all entries accepted so far, in order -/
def AState.log (a : AState) : List Entry := a.sealed.flatten ++ a.buffered

/-- close the current block if it counts at least one value -/
def aseal (a : AState) : AState :=
  if cntOf a.buffered > 0 then { sealed := a.sealed ++ [a.buffered], buffered := [] } else a

/-- close the current block if it has reached the approximate block size -/
def asealIf (approx : Nat) (a : AState) : AState :=
  if (bufOf a.buffered).length ≥ approx then aseal a else a

def aadd (a : AState) (e : Entry) : AState := { a with buffered := a.buffered ++ [e] }

def entryOf : WOp → List Entry
  | .value (some d) => [(d, 1)]
  | .push b k => [(b, k)]
  | _ => []

def astep (approx : Nat) (a : AState) : WOp → AState
  | .value none => asealIf approx a
  | .value (some d) => asealIf approx (aadd (asealIf approx a) (d, 1))
  | .push b k => asealIf approx (aadd (asealIf approx a) (b, k))
  | .finishBlock => aseal a
  | .intoInner => aseal a
  | .drop => aseal a

/-- the result each call is expected to return (on a sink without errors) -/
def expected : WOp → Except WErr Unit
  | .value none => .error .custom
  | _ => .ok ()

/-- The writer state `w` (all-accepting sink) is represented by the abstract state `a`. -/
structure Rep (c : Codec) (hdr sync : Bytes) (approx : Nat) (a : AState) (w : WState) : Prop where
  inv : Inv c hdr (a.sealed.map blockOf) w
  buf_eq : w.buf = bufOf a.buffered
  n_eq : w.n = cntOf a.buffered
  sched_nil : w.sink.sched = []
  sync_eq : w.sync = sync
  approx_eq : w.approx = approx

theorem flushFinishedBlock_accepting (c : Codec) (w : WState) (header : Bytes)
    (hp : w.pending = some header) (ht : w.taken = false) (hs : w.sink.sched = []) :
    ∃ s1, flushFinishedBlock c w = (.ok (), { w with sink := s1, pending := none, buf := [] }) ∧
      s1.data = w.sink.data ++ (header ++ blockData c w ++ w.sync) ∧ s1.sched = [] := by
  obtain ⟨s1, h1, h2, h3⟩ := writeAllVectored_accepting
    (sinkFuel w.sink [header, blockData c w, w.sync]) [header, blockData c w, w.sync] w.sink hs
    (Nat.le_refl _)
  exact ⟨s1, flushFinishedBlock_of_write hp ht h1, by rw [h2]; simp, h3⟩

theorem innerFinishBlock_pos (c : Codec) (w : WState) (hpos : w.n > 0) (hp : w.pending = none) :
    innerFinishBlock c w =
      (.ok (), { w with compressed := (if c.isNull then [] else c.compress w.buf),
                        pending := some (encodeVarI64 w.n ++ encodeVarI64 (codecData c w.buf).length),
                        n := 0 }) := by
  unfold innerFinishBlock
  simp only [hpos, hp, if_true, Option.isSome_none, Bool.false_eq_true, if_false, blockData, codecData]
  cases c.isNull <;> simp

theorem finishBlock_rep (c : Codec) (hdr sync : Bytes) (approx : Nat) (a : AState) (w : WState)
    (h : Rep c hdr sync approx a w) :
    ∃ w', finishBlock c w = (.ok (), w') ∧ Rep c hdr sync approx (aseal a) w' := by
  obtain ⟨⟨hp, ht, hd⟩, hb, hn, hs, hsy, hap⟩ := h
  have ht' : w.taken = false := by simpa using ht
  unfold finishBlock aseal
  by_cases hpos : w.n > 0
  · have hpos' : cntOf a.buffered > 0 := by rw [← hn]; exact hpos
    rw [innerFinishBlock_pos c w hpos hp]
    simp only [hpos', if_true]
    obtain ⟨s1, h1, h2, h3⟩ := flushFinishedBlock_accepting c
      { w with compressed := (if c.isNull then [] else c.compress w.buf),
               pending := some (encodeVarI64 w.n ++ encodeVarI64 (codecData c w.buf).length),
               n := 0 } _ rfl ht' hs
    rw [h1]
    refine ⟨_, rfl, ⟨rfl, ht, ?_⟩, hb ▸ rfl, rfl, h3, hsy, hap⟩
    simp only [h2, hd, List.map_append, List.map_cons, List.map_nil, blocksBytes_snoc, blockBytes,
      blockOf, ← hn, ← hb, List.append_assoc, List.append_cancel_left_eq]
    simp only [blockData, codecData]
    cases c.isNull <;> simp
  · have hpos' : ¬ (cntOf a.buffered > 0) := by rw [← hn]; exact hpos
    simp only [innerFinishBlock, hpos, hpos', if_false, flushFinishedBlock, hp]
    exact ⟨w, rfl, ⟨hp, ht, hd⟩, hb, hn, hs, hsy, hap⟩

theorem preFlush_rep (c : Codec) (hdr sync : Bytes) (approx : Nat) (a : AState) (w : WState)
    (h : Rep c hdr sync approx a w) :
    ∃ w', preFlush c w = (.ok (), w') ∧ Rep c hdr sync approx (asealIf approx a) w' := by
  unfold preFlush asealIf
  simp only [flushFinishedBlock, h.inv.pending_none, h.buf_eq, h.approx_eq]
  split
  · exact finishBlock_rep c hdr sync approx a w h
  · exact ⟨w, rfl, h⟩

theorem postAdd_rep (c : Codec) (hdr sync : Bytes) (approx : Nat) (a : AState) (w : WState)
    (h : Rep c hdr sync approx a w) :
    ∃ w', postAdd c w = (.ok (), w') ∧ Rep c hdr sync approx (asealIf approx a) w' := by
  have hfin : ∀ w, finishBlock c w =
      (match innerFinishBlock c w with
        | (.error e, w) => (.error e, w)
        | (.ok _, w) => flushFinishedBlock c w) := fun _ => rfl
  unfold postAdd asealIf
  simp only [h.buf_eq, h.approx_eq]
  by_cases hge : (bufOf a.buffered).length ≥ approx
  · simp only [hge, if_true]
    rw [← hfin]; exact finishBlock_rep c hdr sync approx a w h
  · simp only [hge, if_false, flushFinishedBlock, h.inv.pending_none]
    exact ⟨w, rfl, h⟩

theorem add_rep (c : Codec) (hdr sync : Bytes) (approx : Nat) (a : AState) (w : WState)
    (bytes : Bytes) (k : Nat) (h : Rep c hdr sync approx a w) :
    Rep c hdr sync approx (aadd a (bytes, k)) { w with buf := w.buf ++ bytes, n := w.n + k } := by
  obtain ⟨⟨hp, ht, hd⟩, hb, hn, hs, hsy, hap⟩ := h
  exact ⟨⟨hp, ht, hd⟩, by simp [aadd, bufOf_snoc, hb], by simp [aadd, cntOf_snoc, hn], hs, hsy, hap⟩

theorem withValue_rep (c : Codec) (hdr sync : Bytes) (approx : Nat) (a : AState) (w : WState)
    (bytes : Bytes) (k : Nat) (h : Rep c hdr sync approx a w) :
    ∃ w', withValue c w (some (bytes, k)) = (.ok (), w') ∧
      Rep c hdr sync approx (asealIf approx (aadd (asealIf approx a) (bytes, k))) w' := by
  obtain ⟨w1, h1, r1⟩ := preFlush_rep c hdr sync approx a w h
  rw [withValue_eq, h1]
  exact postAdd_rep c hdr sync approx _ _ (add_rep c hdr sync approx _ w1 bytes k r1)

theorem withValue_none_rep (c : Codec) (hdr sync : Bytes) (approx : Nat) (a : AState) (w : WState)
    (h : Rep c hdr sync approx a w) :
    ∃ w', withValue c w none = (.error .custom, w') ∧
      Rep c hdr sync approx (asealIf approx a) w' := by
  obtain ⟨w1, h1, r1⟩ := preFlush_rep c hdr sync approx a w h
  rw [withValue_eq, h1]
  exact ⟨w1, rfl, r1⟩

theorem wstep_rep (c : Codec) (dbg : Bool) (hdr sync : Bytes) (approx : Nat) (a : AState)
    (w : WState) (op : WOp) (hop : op ≠ .intoInner) (h : Rep c hdr sync approx a w) :
    ∃ w', wstep c dbg w op = (expected op, w') ∧ Rep c hdr sync approx (astep approx a op) w' := by
  cases op with
  | value d =>
    cases d with
    | none => exact withValue_none_rep c hdr sync approx a w h
    | some d => exact withValue_rep c hdr sync approx a w d 1 h
  | push b k => exact withValue_rep c hdr sync approx a w b k h
  | finishBlock => exact finishBlock_rep c hdr sync approx a w h
  | intoInner => exact absurd rfl hop
  | drop =>
    obtain ⟨w', h1, h2⟩ := finishBlock_rep c hdr sync approx a w h
    have ht : w.taken = false := by simpa using h.inv.not_taken
    simp only [wstep, ht, Bool.false_eq_true, if_false, h1]
    exact ⟨w', rfl, h2⟩

theorem wstep_intoInner_rep (c : Codec) (dbg : Bool) (hdr sync : Bytes) (approx : Nat) (a : AState)
    (w : WState) (h : Rep c hdr sync approx a w) :
    ∃ w', wstep c dbg w .intoInner = (.ok (), { w' with taken := true }) ∧
      Rep c hdr sync approx (aseal a) w' := by
  obtain ⟨w', h1, h2⟩ := finishBlock_rep c hdr sync approx a w h
  simp only [wstep, h1]
  exact ⟨w', rfl, h2⟩

/-! ### Facts on the abstract writer -/

theorem aseal_log (a : AState) : (aseal a).log = a.log := by
  unfold aseal AState.log
  split <;> simp

theorem asealIf_log (approx : Nat) (a : AState) : (asealIf approx a).log = a.log := by
  unfold asealIf
  split
  · exact aseal_log a
  · rfl

theorem aadd_log (a : AState) (e : Entry) : (aadd a e).log = a.log ++ [e] := by
  simp [aadd, AState.log]

theorem astep_log (approx : Nat) (a : AState) (op : WOp) :
    (astep approx a op).log = a.log ++ entryOf op := by
  cases op with
  | value d =>
    cases d with
    | none => simp [astep, entryOf, asealIf_log]
    | some d => simp [astep, entryOf, asealIf_log, aadd_log]
  | push b k => simp [astep, entryOf, asealIf_log, aadd_log]
  | finishBlock => simp [astep, entryOf, aseal_log]
  | intoInner => simp [astep, entryOf, aseal_log]
  | drop => simp [astep, entryOf, aseal_log]

theorem aseal_cnt (a : AState) : cntOf (aseal a).buffered = 0 := by
  unfold aseal
  split
  · rfl
  · omega

def AllPos (es : List Entry) : Prop := ∀ e ∈ es, 1 ≤ e.2

theorem eq_nil_of_cntOf_eq_zero (es : List Entry) (hp : AllPos es) (h : cntOf es = 0) : es = [] := by
  cases es with
  | nil => rfl
  | cons e es =>
    have := hp e (by simp)
    simp only [cntOf, List.map_cons, List.sum_cons] at h
    omega

/-- Blocks written hold at least one value (no empty block is ever written). -/
def SealedPos (a : AState) : Prop := ∀ b ∈ a.sealed, 0 < cntOf b

theorem aseal_sealedPos (a : AState) (h : SealedPos a) : SealedPos (aseal a) := by
  unfold aseal
  split
  · intro b hb
    simp only [List.mem_append, List.mem_singleton] at hb
    rcases hb with hb | hb
    · exact h b hb
    · subst hb; assumption
  · exact h

theorem asealIf_sealedPos (approx : Nat) (a : AState) (h : SealedPos a) :
    SealedPos (asealIf approx a) := by
  unfold asealIf
  split
  · exact aseal_sealedPos a h
  · exact h

theorem astep_sealedPos (approx : Nat) (a : AState) (op : WOp) (h : SealedPos a) :
    SealedPos (astep approx a op) := by
  cases op with
  | value d =>
    cases d with
    | none => exact asealIf_sealedPos approx a h
    | some d => exact asealIf_sealedPos approx _ (asealIf_sealedPos approx a h)
  | push b k => exact asealIf_sealedPos approx _ (asealIf_sealedPos approx a h)
  | finishBlock => exact aseal_sealedPos a h
  | intoInner => exact aseal_sealedPos a h
  | drop => exact aseal_sealedPos a h

def arun (approx : Nat) (a : AState) (ops : List WOp) : AState := ops.foldl (astep approx) a

theorem arun_log (approx : Nat) (a : AState) (ops : List WOp) :
    (arun approx a ops).log = a.log ++ ops.flatMap entryOf := by
  unfold arun
  induction ops generalizing a with
  | nil => simp
  | cons op ops ih => simp [List.foldl_cons, ih, astep_log, List.flatMap_cons]

theorem arun_sealedPos (approx : Nat) (a : AState) (ops : List WOp) (h : SealedPos a) :
    SealedPos (arun approx a ops) := by
  unfold arun
  induction ops generalizing a with
  | nil => exact h
  | cons op ops ih => exact ih _ (astep_sealedPos approx a op h)

theorem wrun_rep (c : Codec) (dbg : Bool) (hdr sync : Bytes) (approx : Nat) (ops : List WOp)
    (hops : ∀ op ∈ ops, op ≠ .intoInner) (a : AState) (w : WState)
    (h : Rep c hdr sync approx a w) :
    (wrun c dbg w ops).1 = ops.map expected ∧
      Rep c hdr sync approx (arun approx a ops) (wrun c dbg w ops).2 := by
  induction ops generalizing a w with
  | nil => exact ⟨rfl, h⟩
  | cons op ops ih =>
    obtain ⟨w', h1, h2⟩ := wstep_rep c dbg hdr sync approx a w op (hops op (by simp)) h
    have := ih (fun o ho => hops o (List.mem_cons_of_mem _ ho)) _ w' h2
    rw [wrun_cons, h1]
    exact ⟨congrArg (List.cons _) this.1, this.2⟩

end Avro.Impl.Ocf
