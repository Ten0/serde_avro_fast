import AvroModel.Lemmas.SchemaParse
/-
Registration without fuel: the table `bodyOf` of the thirteen type names and the relation `Reg` on
lists of raw schemas.  `reg_sound`: whatever the four fuelled functions return is in the relation
(the converse, above `rawBound`, is `Reg.runs` of `Lemmas/RegisterFuel.lean`).
-/
namespace Avro.Impl

/-- `register_node` treats a bare type name as an object without attributes -/
def RawSchema.asNode : RawSchema → Option (RawType × Option RawAttrs ×
    Option (List (String × RawSchema)) × Option RawSchema × Option RawSchema)
  | .type t => some (t, none, none, none, none)
  | .object a fields items values => some (a.type, some a, fields, items, values)
  | _ => none

theorem RawSchema.asNode_some {raw : RawSchema} {t o of oi ov}
    (h : raw.asNode = some (t, o, of, oi, ov)) :
    (raw = .type t ∧ o = none ∧ of = none ∧ oi = none ∧ ov = none) ∨
    ∃ a, raw = .object a of oi ov ∧ t = a.type ∧ o = some a := by
  cases raw <;> simp only [asNode, Option.some.injEq, Prod.mk.injEq, reduceCtorEq] at h
  · obtain ⟨rfl, rfl, rfl, rfl, rfl⟩ := h; exact .inl ⟨rfl, rfl, rfl, rfl, rfl⟩
  · obtain ⟨rfl, rfl, rfl, rfl, rfl⟩ := h; exact .inr ⟨_, rfl, rfl, rfl⟩

/-- the children of a node, the namespace they are registered in, the node built from their keys -/
structure Body where
  kids : List RawSchema
  ns : Option String
  build : List PKey → PType

/-- no child: the primitive types, `enum`, `fixed` -/
def Body.leaf (enc : Option String) (ty : PType) : Body := ⟨[], enc, fun _ => ty⟩

/-- one child in the enclosing namespace: `array`, `map` (the keys of one child are one key,
    `Reg.singleton`) -/
def Body.one (enc : Option String) (r : RawSchema) (mk : PKey → PType) : Body :=
  ⟨[r], enc, fun ks => mk (ks.headD (.idx 0))⟩

/-- the field types, in the namespace of the record -/
def Body.fields (k : NameKey) (fs : List (String × RawSchema)) : Body :=
  ⟨fs.map (·.2), k.ns, fun ks => .record k.toName ((fs.map (·.1)).zip ks)⟩

/-- The body of `register_node` as a table: an entry for a type name whose attribute (and, for a
    named type, whose name) is present. -/
def bodyOf (t : RawType) (o : Option RawAttrs) (ofields : Option (List (String × RawSchema)))
    (oitems ovalues : Option RawSchema) (enc : Option String) (nk : Option NameKey) :
    Except SchemaErr Body :=
  match t with
  | .null => .ok (.leaf enc .null) | .boolean => .ok (.leaf enc .boolean)
  | .int => .ok (.leaf enc .int) | .long => .ok (.leaf enc .long)
  | .float => .ok (.leaf enc .float) | .double => .ok (.leaf enc .double)
  | .bytes => .ok (.leaf enc .bytes) | .string => .ok (.leaf enc .string)
  | .array => match oitems with
    | some items => .ok (.one enc items .array)
    | none => .error .custom
  | .map => match ovalues with
    | some values => .ok (.one enc values .map)
    | none => .error .custom
  | .enum => match nk, o.bind (·.symbols) with
    | some k, some syms => .ok (.leaf enc (.enum k.toName syms))
    | _, _ => .error .custom
  | .fixed => match nk, o.bind (·.size) with
    | some k, some size => .ok (.leaf enc (.fixed k.toName size))
    | _, _ => .error .custom
  | .record => match nk, ofields with
    | some k, some fields => .ok (.fields k fields)
    | _, _ => .error .custom

def RawType.isLeaf : RawType → Bool
  | .array | .map | .record => false
  | _ => true

section
variable {t : RawType} {o : Option RawAttrs} {of : Option (List (String × RawSchema))}
  {oi ov : Option RawSchema} {enc : Option String} {nk : Option NameKey}

/-- An entry of the table has one of three shapes, and `bodyStep` does on it what the shape says:
    nothing, `registerNode` on the child, `registerFields` on the fields.  The shapes are what an
    induction on `Reg` needs at `Reg.node`; the last conjunct of each case links the entry to the
    fuelled `bodyStep` and is used by `bodyStep_reg` and `Lemmas/RegisterFuel.lean` only. -/
theorem bodyOf_ok {b : Body} (h : bodyOf t o of oi ov enc nk = .ok b) :
    (∃ ty, b = .leaf enc ty ∧ t.isLeaf = true ∧ (∀ nm fs, ty ≠ .record nm fs) ∧
      ∀ f st, bodyStep f t o of oi ov enc nk st = .ok (ty, st)) ∨
    (∃ r mk, b = .one enc r mk ∧
      (t = .array ∧ oi = some r ∧ mk = .array ∨ t = .map ∧ ov = some r ∧ mk = .map) ∧
      ∀ f st, bodyStep f t o of oi ov enc nk st =
        mapOk (registerNode f r enc st) fun p => (mk p.1, p.2)) ∨
    (∃ k fs, b = .fields k fs ∧ t = .record ∧ nk = some k ∧ of = some fs ∧
      ∀ f st, bodyStep f t o of oi ov enc nk st =
        mapOk (registerFields f fs k.ns st) fun p => (.record k.toName p.1, p.2)) := by
  cases t
  case array =>
    cases oi <;> simp only [bodyOf, Except.ok.injEq, reduceCtorEq] at h
    subst h
    refine .inr (.inl ⟨_, _, rfl, .inl ⟨rfl, rfl, rfl⟩, fun f st => ?_⟩)
    simp only [bodyStep, mapOk]; split <;> simp [*]
  case map =>
    cases ov <;> simp only [bodyOf, Except.ok.injEq, reduceCtorEq] at h
    subst h
    refine .inr (.inl ⟨_, _, rfl, .inr ⟨rfl, rfl, rfl⟩, fun f st => ?_⟩)
    simp only [bodyStep, mapOk]; split <;> simp [*]
  case record =>
    cases nk <;> cases of <;> simp only [bodyOf, Except.ok.injEq, reduceCtorEq] at h
    subst h
    refine .inr (.inr ⟨_, _, rfl, rfl, rfl, rfl, fun f st => ?_⟩)
    simp only [bodyStep, mapOk]; split <;> simp [*]
  case enum =>
    cases nk <;> cases hs : o.bind (·.symbols) <;>
      simp only [bodyOf, hs, Except.ok.injEq, reduceCtorEq] at h
    subst h
    exact .inl ⟨_, rfl, rfl, fun _ _ => nofun, fun f st => by simp only [bodyStep, hs]⟩
  case fixed =>
    cases nk <;> cases hs : o.bind (·.size) <;>
      simp only [bodyOf, hs, Except.ok.injEq, reduceCtorEq] at h
    subst h
    exact .inl ⟨_, rfl, rfl, fun _ _ => nofun, fun f st => by simp only [bodyStep, hs]⟩
  all_goals
    simp only [bodyOf, Except.ok.injEq] at h
    subst h
    exact .inl ⟨_, rfl, rfl, fun _ _ => nofun, fun _ _ => rfl⟩

theorem bodyOf_build_record {b : Body} {kks : List PKey} {nm : Name} {fs : List (String × PKey)}
    (hb : bodyOf t o of oi ov enc nk = .ok b) (h : b.build kks = .record nm fs) :
    ∃ k fl, b = .fields k fl ∧ t = .record ∧ nk = some k ∧ of = some fl ∧ nm = k.toName ∧
      fs = (fl.map (·.1)).zip kks := by
  rcases bodyOf_ok hb with ⟨ty, rfl, -, hne, -⟩ | ⟨r, mk, rfl, hmk, -⟩ | ⟨k, fl, rfl, ht, hk, hf, -⟩
  · exact absurd h (hne _ _)
  · rcases hmk with ⟨-, -, rfl⟩ | ⟨-, -, rfl⟩ <;> cases h
  · cases h; exact ⟨k, fl, rfl, ht, hk, hf, rfl, rfl⟩

theorem bodyOf_error {e : SchemaErr} (h : bodyOf t o of oi ov enc nk = .error e) (f : Nat)
    (st : PState) : bodyStep f t o of oi ov enc nk st = .error .custom := by
  cases t <;> simp only [bodyOf, reduceCtorEq] at h
  case array => cases oi <;> simp only [reduceCtorEq] at h; rfl
  case map => cases ov <;> simp only [reduceCtorEq] at h; rfl
  case enum =>
    cases nk <;> cases hs : o.bind (·.symbols) <;> simp only [hs, reduceCtorEq] at h <;>
      simp only [bodyStep, hs]
  case fixed =>
    cases nk <;> cases hs : o.bind (·.size) <;> simp only [hs, reduceCtorEq] at h <;>
      simp only [bodyStep, hs]
  case record => cases nk <;> cases of <;> simp only [reduceCtorEq] at h <;> rfl

theorem bodyOf_error_iff :
    (∃ e, bodyOf t o of oi ov enc nk = .error e) ↔
      (t = .array ∧ oi = none) ∨ (t = .map ∧ ov = none) ∨ (t = .record ∧ of = none) ∨
      (t = .enum ∧ o.bind (·.symbols) = none) ∨ (t = .fixed ∧ o.bind (·.size) = none) ∨
      ((t = .record ∨ t = .enum ∨ t = .fixed) ∧ nk = none) := by
  cases t <;> simp only [bodyOf, reduceCtorEq, false_and, false_or, or_false, true_and,
    exists_false]
  case array => cases oi <;> simp
  case map => cases ov <;> simp
  case enum => cases nk <;> cases o.bind (·.symbols) <;> simp
  case fixed => cases nk <;> cases o.bind (·.size) <;> simp
  case record => cases nk <;> cases of <;> simp

end

/-- Successful registration of a list of raw schemas, without fuel.  A single schema is the
    singleton list, the fields of a record are the list of their types (`Body.fields`), so the
    relation is not mutual and a property of successful registrations is one induction with five
    cases.  `node` covers `.type t` and `.object …` of all thirteen type names through `bodyOf`:
    `st1` is the state after the name step — the slot `st.nodes.size` reserved (`nameStep_ok`) and,
    for an object with a `name`, the key bound to it —, `st2` the state after the children `b.kids`
    (registered in the namespace `b.ns`), and the slot is filled with `b.build kks` last; `lt` is
    the logical type read from the same object.  In `union` the slot is reserved by `st.reserve`. -/
inductive Reg : List RawSchema → Option String → PState → List PKey → PState → Prop
  | nil {enc st} : Reg [] enc st [] st
  | found {r rest enc st i ks st'} (hl : st.names.lookup (refKey r enc) = some i)
      (hrest : Reg rest enc st ks st') : Reg (.ref r :: rest) enc st (.idx i :: ks) st'
  | pending {r rest enc st ks st'} (hl : st.names.lookup (refKey r enc) = none)
      (hrest : Reg rest enc { st with unresolved := st.unresolved ++ [refKey r enc] } ks st') :
      Reg (.ref r :: rest) enc st (.pending st.unresolved.length :: ks) st'
  | union {bs rest enc st keys st2 ks st'} (hkids : Reg bs enc st.reserve keys st2)
      (hrest : Reg rest enc (st2.fill st.nodes.size (.union keys) none) ks st') :
      Reg (.union bs :: rest) enc st (.idx st.nodes.size :: ks) st'
  | node {raw rest enc st t o of oi ov nk st1 b kks st2 lt ks st'}
      (hraw : raw.asNode = some (t, o, of, oi, ov))
      (hname : nameStep o enc st = .ok (nk, st1))
      (hbody : bodyOf t o of oi ov enc nk = .ok b)
      (hkids : Reg b.kids b.ns st1 kks st2)
      (hlog : logicalStep o = .ok lt)
      (hrest : Reg rest enc (st2.fill st.nodes.size (b.build kks) lt) ks st') :
      Reg (raw :: rest) enc st (.idx st.nodes.size :: ks) st'

theorem Reg.append {l1 l2 enc st k1 s1 k2 s2} (h1 : Reg l1 enc st k1 s1)
    (h2 : Reg l2 enc s1 k2 s2) : Reg (l1 ++ l2) enc st (k1 ++ k2) s2 := by
  induction h1 with
  | nil => exact h2
  | found hl _ ih => exact .found hl (ih h2)
  | pending hl _ ih => exact .pending hl (ih h2)
  | union hk _ _ ih => exact .union hk (ih h2)
  | node hraw hn hb hk hlog _ _ ih => exact .node hraw hn hb hk hlog (ih h2)

theorem Reg.cons {r rest enc st k s1 ks s2} (h1 : Reg [r] enc st [k] s1)
    (h2 : Reg rest enc s1 ks s2) : Reg (r :: rest) enc st (k :: ks) s2 :=
  h1.append h2

theorem bodyStep_reg {f t o of oi ov enc nk st1 ty st2}
    (ihN : ∀ raw enc st k st', registerNode f raw enc st = .ok (k, st') → Reg [raw] enc st [k] st')
    (ihF : ∀ l ns st fs st', registerFields f l ns st = .ok (fs, st') →
      ∃ ks, Reg (l.map (·.2)) ns st ks st' ∧ fs = (l.map (·.1)).zip ks)
    (h : bodyStep f t o of oi ov enc nk st1 = .ok (ty, st2)) :
    ∃ b kks, bodyOf t o of oi ov enc nk = .ok b ∧ Reg b.kids b.ns st1 kks st2 ∧
      ty = b.build kks := by
  cases hb : bodyOf t o of oi ov enc nk with
  | error e => rw [bodyOf_error hb] at h; cases h
  | ok b =>
    refine ⟨b, ?_⟩
    rcases bodyOf_ok hb with ⟨ty', rfl, -, -, hs⟩ | ⟨r, mk, rfl, -, hs⟩ | ⟨k, fs, rfl, -, -, -, hs⟩ <;>
      rw [hs] at h
    · cases h; exact ⟨[], rfl, .nil, rfl⟩
    · obtain ⟨⟨k, s⟩, hr, he⟩ := mapOk_ok h
      cases he; exact ⟨[k], rfl, ihN _ _ _ _ _ hr, rfl⟩
    · obtain ⟨⟨fs', s⟩, hr, he⟩ := mapOk_ok h
      cases he
      obtain ⟨ks, hreg, rfl⟩ := ihF _ _ _ _ _ hr
      exact ⟨ks, rfl, hreg, rfl⟩

theorem reg_sound (f : Nat) :
    (∀ raw enc st k st', registerNode f raw enc st = .ok (k, st') → Reg [raw] enc st [k] st') ∧
    (∀ t o of oi ov enc st k st', registerObject f t o of oi ov enc st = .ok (k, st') →
      ∃ nk st1 b kks st2 lt, nameStep o enc st = .ok (nk, st1) ∧
        bodyOf t o of oi ov enc nk = .ok b ∧ Reg b.kids b.ns st1 kks st2 ∧
        logicalStep o = .ok lt ∧ k = .idx st.nodes.size ∧
        st' = st2.fill st.nodes.size (b.build kks) lt) ∧
    (∀ l enc st ks st', registerList f l enc st = .ok (ks, st') → Reg l enc st ks st') ∧
    (∀ l ns st fs st', registerFields f l ns st = .ok (fs, st') →
      ∃ ks, Reg (l.map (·.2)) ns st ks st' ∧ fs = (l.map (·.1)).zip ks) := by
  have node : ∀ {raw t o of oi ov enc st k st'}, raw.asNode = some (t, o, of, oi, ov) →
      (∃ nk st1 b kks st2 lt, nameStep o enc st = .ok (nk, st1) ∧
        bodyOf t o of oi ov enc nk = .ok b ∧ Reg b.kids b.ns st1 kks st2 ∧
        logicalStep o = .ok lt ∧ k = .idx st.nodes.size ∧
        st' = st2.fill st.nodes.size (b.build kks) lt) → Reg [raw] enc st [k] st' := by
    rintro _ _ _ _ _ _ _ _ _ _ hraw ⟨nk, st1, b, kks, st2, lt, hn, hb, hk, hl, rfl, rfl⟩
    exact .node hraw hn hb hk hl .nil
  induction f with
  | zero =>
    refine ⟨?_, ?_, ?_, ?_⟩
    · intro raw enc st k st' h; simp [registerNode] at h
    · intro t o of oi ov enc st k st' h; simp [registerObject] at h
    · intro l enc st ks st' h
      cases l with
      | nil => simp [registerList] at h; obtain ⟨rfl, rfl⟩ := h; exact .nil
      | cons a l => simp [registerList] at h
    · intro l ns st fs st' h
      cases l with
      | nil => simp [registerFields] at h; obtain ⟨rfl, rfl⟩ := h; exact ⟨[], .nil, rfl⟩
      | cons a l => simp [registerFields] at h
  | succ f ih =>
    obtain ⟨ihN, ihO, ihL, ihF⟩ := ih
    refine ⟨?_, ?_, ?_, ?_⟩
    · intro raw enc st k st' h
      cases raw with
      | ref r =>
        rcases registerNode_ref_ok h with ⟨i, hl, rfl, rfl⟩ | ⟨hl, rfl, rfl⟩
        · exact .found hl .nil
        · exact .pending hl .nil
      | type t => simp only [registerNode] at h; exact node rfl (ihO _ _ _ _ _ _ _ _ _ h)
      | object a fs i v => simp only [registerNode] at h; exact node rfl (ihO _ _ _ _ _ _ _ _ _ h)
      | union bs =>
        obtain ⟨keys, st2, hl, rfl, rfl⟩ := registerNode_union_ok h
        exact .union (ihL _ _ _ _ _ hl) .nil
    · intro t o of oi ov enc st k st' h
      obtain ⟨nk, st1, ty, st2, lt, hn, hb, hl, rfl, rfl⟩ := registerObject_steps h
      obtain ⟨b, kks, hbo, hk, rfl⟩ := bodyStep_reg ihN ihF hb
      exact ⟨nk, st1, b, kks, st2, lt, hn, hbo, hk, hl, rfl, rfl⟩
    · intro l enc st ks st' h
      cases l with
      | nil => simp [registerList] at h; obtain ⟨rfl, rfl⟩ := h; exact .nil
      | cons a l =>
        obtain ⟨_, _, _, h1, h2, rfl⟩ := registerList_cons_ok h
        exact (ihN _ _ _ _ _ h1).cons (ihL _ _ _ _ _ h2)
    · intro l ns st fs st' h
      cases l with
      | nil => simp [registerFields] at h; obtain ⟨rfl, rfl⟩ := h; exact ⟨[], .nil, rfl⟩
      | cons a l =>
        obtain ⟨name, r⟩ := a
        obtain ⟨_, _, _, h1, h2, rfl⟩ := registerFields_cons_ok h
        obtain ⟨ks, hk, rfl⟩ := ihF _ _ _ _ _ h2
        exact ⟨_, (ihN _ _ _ _ _ h1).cons hk, rfl⟩

theorem registerNode_reg {f raw enc st k st'} (h : registerNode f raw enc st = .ok (k, st')) :
    Reg [raw] enc st [k] st' := (reg_sound f).1 _ _ _ _ _ h

/-! ### registration only extends the state -/

theorem Reg.le {l enc st ks st'} (h : Reg l enc st ks st') : st.Le st' := by
  induction h with
  | nil => exact .refl _
  | found _ _ ih => exact ih
  | pending _ _ ih =>
    refine .trans ?_ ih
    exact ⟨Nat.le_refl _, fun _ _ => rfl, ⟨_, rfl⟩, fun _ _ h => h⟩
  | union _ _ ihk ih =>
    exact (((PState.Le.push _ _).trans ihk).set _ (Nat.le_refl _) _).trans ih
  | node _ hn _ _ _ _ ihk ih =>
    exact (((nameStep_le hn).trans ihk).set _ (Nat.le_refl _) _).trans ih

theorem Reg.length {l enc st ks st'} (h : Reg l enc st ks st') : ks.length = l.length := by
  induction h <;> simp [*]

/-- one schema, one key: the default of `Body.one` is never used -/
theorem Reg.singleton {r enc st ks st'} (h : Reg [r] enc st ks st') : ∃ k, ks = [k] := by
  have := h.length
  match ks, this with
  | [k], _ => exact ⟨k, rfl⟩

theorem registerObject_reg {f t o of oi ov enc} {st : PState} {k st'}
    (h : registerObject f t o of oi ov enc st = .ok (k, st')) :
    ∃ nk st1 b kks st2 lt, nameStep o enc st = .ok (nk, st1) ∧
      bodyOf t o of oi ov enc nk = .ok b ∧ Reg b.kids b.ns st1 kks st2 ∧
      logicalStep o = .ok lt ∧ k = .idx st.nodes.size ∧
      st' = st2.fill st.nodes.size (b.build kks) lt := (reg_sound f).2.1 _ _ _ _ _ _ _ _ _ h

theorem registerList_reg {f l enc st ks st'} (h : registerList f l enc st = .ok (ks, st')) :
    Reg l enc st ks st' := (reg_sound f).2.2.1 _ _ _ _ _ h

theorem registerFields_reg {f l ns st fs st'} (h : registerFields f l ns st = .ok (fs, st')) :
    ∃ ks, Reg (l.map (·.2)) ns st ks st' ∧ fs = (l.map (·.1)).zip ks :=
  (reg_sound f).2.2.2 _ _ _ _ _ h

theorem registerFields_names {f l ns st fs st'} (h : registerFields f l ns st = .ok (fs, st')) :
    fs.map (·.1) = l.map (·.1) := by
  obtain ⟨ks, hr, rfl⟩ := registerFields_reg h
  exact List.map_fst_zip (by simp [hr.length])

/-- `registerObject_steps` with, instead of the final state, what it holds at the new node's slot -/
theorem registerObject_node {fuel t object ofields oitems ovalues enc} {st : PState} {k st'}
    (h : registerObject (fuel + 1) t object ofields oitems ovalues enc st = .ok (k, st')) :
    ∃ nk st1 ty st2 lt,
      nameStep object enc st = .ok (nk, st1) ∧
      bodyStep fuel t object ofields oitems ovalues enc nk st1 = .ok (ty, st2) ∧
      logicalStep object = .ok lt ∧
      k = .idx st.nodes.size ∧
      st'.nodes[st.nodes.size]? = some { type := ty, logical := lt } := by
  obtain ⟨nk, st1, ty, st2, lt, hn, hb, hl, rfl, rfl⟩ := registerObject_steps h
  refine ⟨nk, st1, ty, st2, lt, hn, hb, hl, rfl, ?_⟩
  have h1 : st1.nodes.size = st.nodes.size + 1 := by rw [(nameStep_ok hn).1]; simp
  obtain ⟨b, kks, -, hk, -⟩ := bodyStep_reg (fun _ _ _ _ _ => registerNode_reg)
    (fun _ _ _ _ _ => registerFields_reg) hb
  have h2 := hk.le.size
  have : st.nodes.size < st2.nodes.size := by omega
  simp [this]

end Avro.Impl

/-! ### the graph of the final state, and what links a registration to it

For the inductions on `Reg` that speak of the FINAL state `stF` of the document. -/

namespace Avro.PcfSpec
open Avro Avro.Impl

/-- the node graph `resolveKeys` makes of a final registration state (`resolveKeys_ok`) -/
def graphOf (stF : PState) : SchemaMut :=
  stF.nodes.map fun n => { logical := n.logical, type := resolveType (resolveKey stF) n.type }

theorem graphOf_get {stF : PState} {i : Nat} {n : PNode} (h : stF.nodes[i]? = some n) :
    (graphOf stF)[i]? =
      some { logical := n.logical, type := resolveType (resolveKey stF) n.type } := by
  simp [graphOf, h]

/-- the final state agrees with `st'` on the nodes allocated from `lo` on -/
def Agree (stF st' : PState) (lo : Nat) : Prop :=
  ∀ i, lo ≤ i → i < st'.nodes.size → stF.nodes[i]? = st'.nodes[i]?

theorem Agree.head {stF sa st' : PState} {lo : Nat} (hag : Agree stF st' lo) (hle : sa.Le st') :
    Agree stF sa lo := by
  intro i h1 h2
  rw [hag i h1 (Nat.lt_of_lt_of_le h2 hle.size), hle.nodes i h2]

theorem Agree.tail {stF st' : PState} {lo lo' : Nat} (hag : Agree stF st' lo) (hle : lo ≤ lo') :
    Agree stF st' lo' :=
  fun i h1 h2 => hag i (Nat.le_trans hle h1) h2

/-- the frame of a node: the final state holds the completed node at its slot and agrees with the
    state after the children above it -/
theorem Agree.node {stF st st2 st' : PState} {ty : PType}
    {lt : Option LogicalType} (hag : Agree stF st' st.nodes.size)
    (hsz : st.nodes.size + 1 ≤ st2.nodes.size) (hrest : (st2.fill st.nodes.size ty lt).Le st') :
    stF.nodes[st.nodes.size]? = some ⟨ty, lt⟩ ∧ Agree stF st2 (st.nodes.size + 1) := by
  have hag1 := hag.head hrest
  have hlt : st.nodes.size < st2.nodes.size := by omega
  refine ⟨?_, fun i h1 h2 => ?_⟩
  · have := hag1 _ (Nat.le_refl _) (by simpa using hlt)
    simpa only [PState.fill, Array.set!_eq_setIfInBounds,
      Array.getElem?_setIfInBounds_self_of_lt hlt] using this
  · rw [hag1 i (by omega) (by simpa using h2)]
    simp only [PState.fill, Array.set!_eq_setIfInBounds]
    exact Array.getElem?_setIfInBounds_ne (by omega)

end Avro.PcfSpec
