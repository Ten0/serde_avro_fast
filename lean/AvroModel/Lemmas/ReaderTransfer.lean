import AvroModel.Lemmas.SliceReader
/-
Transfer of slice-back-end theorems to the streaming-reader back-end, through C11 (`deRel_all`).
A reader state `r` (any refill schedule, buffer position, scratch size) is related by `Sim` to the
slice state `sliceOf r` over the same remaining bytes, so the two runs both fail, or both succeed
with values equal up to the `borrowed` flags, the same remaining bytes, and a final reader state
that is again `ReaderOK` (the next datum can be read under the same hypotheses).  The error class
is NOT transferred: C11 lets `custom` / `io` differ.
-/
namespace Avro.Theorems
open Avro Avro.Impl

/-- What is asked of a streaming-reader state between two datums: no `Take` in place, the buffer
    within what is left, and what is left within the allocation cap; nothing on `sched`,
    `lastChunk`, `scratch`.  `BOk M r` of Lemmas/OcfStream.lean is `ReaderOK r` with the cap named
    `M` (`BOk.readerOK`, `ReaderOK.bOk`). -/
structure ReaderOK (r : RState) : Prop where
  reader : r.isSlice = false
  nolimit : r.limit = none
  avail : r.avail ≤ r.rest.length
  alloc : r.rest.length ≤ r.maxAlloc

/-- The slice state over the same remaining bytes: the state the slice theorems speak about. -/
def sliceOf (r : RState) : RState := { r with isSlice := true, avail := 0 }

@[simp] theorem sliceOf_isSlice (r : RState) : (sliceOf r).isSlice = true := rfl
@[simp] theorem sliceOf_avail (r : RState) : (sliceOf r).avail = 0 := rfl
@[simp] theorem sliceOf_rest (r : RState) : (sliceOf r).rest = r.rest := rfl
@[simp] theorem sliceOf_limit (r : RState) : (sliceOf r).limit = r.limit := rfl

theorem ReaderOK.sim {r : RState} (h : ReaderOK r) : Sim r (sliceOf r) :=
  ⟨h.reader, rfl, rfl, h.avail, rfl⟩

theorem ReaderOK.simD {r : RState} (h : ReaderOK r) : SimD true r (sliceOf r) :=
  ⟨h.sim, h.alloc, fun _ => h.nolimit⟩

theorem SimD.readerOK {r sl : RState} (h : SimD true r sl) : ReaderOK r :=
  ⟨h.sim.reader, h.nolimit rfl, h.sim.avail, h.alloc⟩

theorem ReaderOK.init (bs : Bytes) (sched : List Nat) (lastChunk maxAlloc scratch : Nat)
    (h : bs.length ≤ maxAlloc) :
    ReaderOK { isSlice := false, rest := bs, avail := 0, sched := sched, lastChunk := lastChunk,
               maxAlloc := maxAlloc, scratch := scratch, limit := none } :=
  ⟨rfl, rfl, Nat.zero_le _, h⟩

theorem unborrow_eq_unit {o : Out} (h : unborrow o = .unit) : o = .unit := by
  cases o <;> simp [unborrow] at h ⊢

theorem unborrow_unit : unborrow .unit = .unit := rfl

section
variable {m m' : DeM Out} (h : RelD true true Ro m m')
include h

theorem RelD.reader_of_slice {r : RState} (hr : ReaderOK r) {o : Out} {sl' : RState}
    (hsl : m' (sliceOf r) = (.ok o, sl')) :
    ∃ o' r', m r = (.ok o', r') ∧ unborrow o' = unborrow o ∧ r'.rest = sl'.rest ∧
      ReaderOK r' := by
  rcases (h r (sliceOf r) hr.simD).inv with ⟨a, _, r', _, e1, e2, hab, h2⟩ | ⟨_, _, _, _, _, e2⟩ <;>
    rw [hsl] at e2 <;> cases e2
  exact ⟨a, r', e1, hab, h2.sim.rest, h2.readerOK⟩

theorem RelD.slice_of_reader {r : RState} (hr : ReaderOK r) {o : Out} {r' : RState}
    (hrd : m r = (.ok o, r')) :
    ∃ o' sl', m' (sliceOf r) = (.ok o', sl') ∧ unborrow o = unborrow o' ∧ r'.rest = sl'.rest ∧
      ReaderOK r' := by
  rcases (h r (sliceOf r) hr.simD).inv with ⟨_, b, _, sl', e1, e2, hab, h2⟩ | ⟨_, _, _, _, e1, _⟩ <;>
    rw [hrd] at e1 <;> cases e1
  exact ⟨b, sl', e2, hab, h2.sim.rest, h2.readerOK⟩

theorem RelD.reader_not_ok {r : RState} (hr : ReaderOK r)
    (hsl : ∀ o, (m' (sliceOf r)).1 ≠ .ok o) (o : Out) : (m r).1 ≠ .ok o := by
  intro hok
  obtain ⟨o', sl', e, _⟩ := h.slice_of_reader hr (o := o) (r' := (m r).2) (Prod.ext hok rfl)
  exact hsl o' (by rw [e])

end

variable (ext : DeExt) (cfg : DeConfig) (S : Schema)

theorem de_reader_of_slice (fuel : Nat) (node : Node) (depth : Nat) (favor : Bool) (h : Hint)
    {r : RState} (hr : ReaderOK r) {o : Out} {sl' : RState}
    (hsl : de ext cfg S fuel node depth favor h (sliceOf r) = (.ok o, sl')) :
    ∃ o' r', de ext cfg S fuel node depth favor h r = (.ok o', r') ∧ unborrow o' = unborrow o ∧
      r'.rest = sl'.rest ∧ ReaderOK r' :=
  ((deRel_all ext cfg S fuel).de node depth favor h trivial).reader_of_slice hr hsl

theorem de_slice_of_reader (fuel : Nat) (node : Node) (depth : Nat) (favor : Bool) (h : Hint)
    {r : RState} (hr : ReaderOK r) {o : Out} {r' : RState}
    (hrd : de ext cfg S fuel node depth favor h r = (.ok o, r')) :
    ∃ o' sl', de ext cfg S fuel node depth favor h (sliceOf r) = (.ok o', sl') ∧
      unborrow o = unborrow o' ∧ r'.rest = sl'.rest ∧ ReaderOK r' :=
  ((deRel_all ext cfg S fuel).de node depth favor h trivial).slice_of_reader hr hrd

theorem de_reader_not_ok (fuel : Nat) (node : Node) (depth : Nat) (favor : Bool) (h : Hint)
    {r : RState} (hr : ReaderOK r)
    (hsl : ∀ o, (de ext cfg S fuel node depth favor h (sliceOf r)).1 ≠ .ok o) (o : Out) :
    (de ext cfg S fuel node depth favor h r).1 ≠ .ok o :=
  ((deRel_all ext cfg S fuel).de node depth favor h trivial).reader_not_ok hr hsl o

end Avro.Theorems
