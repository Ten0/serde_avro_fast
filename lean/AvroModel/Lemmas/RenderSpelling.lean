import AvroModel.Impl.SchemaRender
import AvroModel.Lemmas.SchemaParse
/-
C09: what the renderer spells — names and the members of a schema object — and that the parser
reads it back.
-/
namespace Avro.Impl
open Avro

/-! ### names -/

theorem lastDot_cases (cs : List Char) :
    '.' ∉ cs ∨ ∃ xs ys, cs = xs ++ '.' :: ys ∧ '.' ∉ ys := by
  induction cs with
  | nil => left; simp
  | cons c rest ih =>
    rcases ih with h | ⟨xs, ys, rfl, hy⟩
    · by_cases hc : c = '.'
      · right; exact ⟨[], rest, by simp [hc], h⟩
      · left; simp only [List.mem_cons, not_or]; exact ⟨fun e => hc e.symm, h⟩
    · right; exact ⟨c :: xs, ys, by simp, hy⟩

theorem drop_split {α} (xs ys : List α) (a : α) :
    List.drop (xs.length + 1) (xs ++ a :: ys) = ys := by simp

def NoDot (s : String) : Prop := '.' ∉ s.toList

theorem toList_dot : (".":String).toList = ['.'] := rfl

/-- What the crate's `Name` can hold (the image of `Name::from_fully_qualified_name`). -/
structure Name.WF (n : Name) : Prop where
  short_nodot : NoDot n.short
  ns_none : n.ns = none → n.fq = n.short
  ns_some : ∀ x, n.ns = some x → x ≠ "" ∧ n.fq = x ++ "." ++ n.short

theorem ofString_some_nodot (s : String) (t : RawType) (h : RawType.ofString s = some t) :
    NoDot s := by
  unfold RawType.ofString at h
  split at h <;> first | (unfold NoDot; simp) | cases h

/-- The string `str_for_ref` writes is never one of the thirteen type names: either it is a short
    name that is none of them, or it contains a dot. -/
theorem refString_not_typeName (name : Name) (h : name.WF) (parentNs : Option String) :
    RawType.ofString (refString parentNs name) = none := by
  unfold refString
  split
  next hc => exact Option.isNone_iff_eq_none.mp hc.2
  · cases hr : RawType.ofString (if name.ns.isNone = true then "." ++ name.fq else name.fq) with
    | none => rfl
    | some t =>
      exfalso
      apply ofString_some_nodot _ t hr
      cases hn : name.ns with
      | none => simp [String.toList_append, toList_dot]
      | some x => simp [(h.ns_some x hn).2, String.toList_append, toList_dot]

theorem Name.ofFq_wf (s : String) : (Name.ofFq s).WF := by
  unfold Name.ofFq
  rcases lastDot_cases s.toList with h | ⟨xs, ys, e, hy⟩
  · simp only [rfindDot_none_iff.mpr h]
    exact ⟨h, fun _ => rfl, fun x hx => by simp at hx⟩
  · simp only [e, rfindDot_append hy]
    cases xs with
    | nil =>
      simp only [List.length_nil, List.nil_append, List.drop_one, List.tail_cons]
      exact ⟨by simpa [NoDot] using hy, fun _ => rfl, fun x hx => by simp at hx⟩
    | cons c xs =>
      have hd := drop_split (c :: xs) ys '.'
      have ht := List.take_left (l₁ := c :: xs) (l₂ := '.' :: ys)
      simp only [List.length_cons] at hd ht ⊢
      simp only [hd, ht]
      refine ⟨?_, fun h => by simp at h, ?_⟩
      · simpa [NoDot] using hy
      · intro x hx
        simp only [Option.some.injEq] at hx
        subst hx
        refine ⟨?_, ?_⟩
        · intro h0
          have := congrArg String.toList h0
          simp at this
        · apply String.ext
          simp [String.toList_append, toList_dot, e]

theorem Name.wf_iff (n : Name) : n.WF ↔ ∃ s, n = Name.ofFq s := by
  constructor
  · intro h
    refine ⟨n.fq, ?_⟩
    obtain ⟨fq, short, ns⟩ := n
    cases ns with
    | none =>
      have := h.ns_none rfl
      simp only at this; subst this
      simp [Name.ofFq, rfindDot_none_iff.mpr h.short_nodot]
    | some x =>
      obtain ⟨hx, hfq⟩ := h.ns_some x rfl
      simp only at hfq; subst hfq
      have e : (x ++ "." ++ short).toList = x.toList ++ '.' :: short.toList := by
        simp [String.toList_append, toList_dot]
      have hlen : x.toList.length ≠ 0 := by
        intro h0
        exact hx (String.toList_eq_nil_iff.mp (List.length_eq_zero_iff.mp h0))
      obtain ⟨k, hk⟩ := Nat.exists_eq_succ_of_ne_zero hlen
      have hd := drop_split x.toList short.toList '.'
      have ht := List.take_left (l₁ := x.toList) (l₂ := '.' :: short.toList)
      simp only [Name.ofFq, e, rfindDot_append h.short_nodot]
      rw [hk] at hd ht ⊢
      simp only [hd, ht, String.ofList_toList]
  · rintro ⟨s, rfl⟩; exact Name.ofFq_wf s

theorem NameKey.toName_ns (k : NameKey) : k.toName.ns = k.ns := by
  unfold NameKey.toName; cases k.ns <;> rfl

theorem NameKey.toName_short (k : NameKey) : k.toName.short = k.name := by
  unfold NameKey.toName; cases k.ns <;> rfl

/-- Reading one optional string member the way the derived `Deserialize` of the parser does
    (`rawObjectOfJson`: `optString (← member members key)`). -/
def readStr (ms : List (String × Json)) (key : String) : Except SchemaErr (Option String) := do
  optString (← member ms key)

/-- the same for an optional number member, at most `max` -/
def readNat (ms : List (String × Json)) (key : String) (max : Nat) : Except SchemaErr (Option Nat) := do
  optNat (← member ms key) max

theorem NameKey.toName_wf (ns : Option String) (s : String) (hs : NoDot s) (hns : ns ≠ some "") :
    (NameKey.toName ⟨ns, s⟩).WF := by
  cases ns with
  | none => exact ⟨hs, fun _ => rfl, fun x hx => by simp [NameKey.toName] at hx⟩
  | some x =>
    refine ⟨hs, fun hx => by simp [NameKey.toName] at hx, ?_⟩
    intro y hy
    simp only [NameKey.toName, Option.some.injEq] at hy
    subst hy
    exact ⟨fun e => hns (by rw [e]), rfl⟩

theorem defKey_toName_wf (nm : String) (nsAttr enclosing : Option String)
    (henc : enclosing ≠ some "") : (defKey nm nsAttr enclosing).toName.WF :=
  have ⟨h1, h2⟩ := defKey_wf nm nsAttr enclosing henc
  NameKey.toName_wf _ _ h1 h2

/-- **Definition spelling**: the `"name"` / `"namespace"` members written by `serialize_name`
    for a well-formed name, read back by the parser's rule in the same enclosing namespace, give
    the same name — for every (parent namespace, name) arrangement. -/
theorem def_spelling_roundtrip (name : Name) (h : name.WF) (parentNs : Option String) :
    ∃ nm nsAttr, readStr (nameMembers parentNs name) "name" = .ok (some nm) ∧
      readStr (nameMembers parentNs name) "namespace" = .ok nsAttr ∧
      (defKey nm nsAttr parentNs).toName = name := by
  obtain ⟨fq, short, ns⟩ := name
  have hsd : NoDot short := h.short_nodot
  unfold nameMembers
  by_cases h1 : parentNs = ns
  · -- same namespace: the short name inherits the enclosing namespace
    subst h1
    refine ⟨short, none, by simp [readStr, member, optString]; rfl, by simp [readStr, member, optString]; rfl, ?_⟩
    simp only [defKey, rsplitDot_nodot _ hsd]
    cases parentNs with
    | none => have := h.ns_none rfl; simp only at this; subst this; rfl
    | some x => have := (h.ns_some x rfl).2; simp only at this; subst this; rfl
  · simp only [h1, if_false]
    cases ns with
    | none =>
      -- no namespace under a namespaced parent: `"namespace": ""`
      have := h.ns_none rfl; simp only at this; subst this
      refine ⟨fq, some "", by simp [readStr, member, optString]; rfl, by simp [readStr, member, optString]; rfl, ?_⟩
      simp only [defKey, rsplitDot_nodot _ hsd, nonEmpty_eq_none_iff.mpr rfl]
      rfl
    | some x =>
      -- different namespace: the dotted fullname
      obtain ⟨hx, hfq⟩ := h.ns_some x rfl
      simp only at hfq; subst hfq
      refine ⟨x ++ "." ++ short, none, by simp [readStr, member, optString]; rfl,
        by simp [readStr, member, optString]; rfl, ?_⟩
      simp only [defKey, rsplitDot_dotted _ _ hsd, nonEmpty_of_ne hx]
      rfl

/-- **Reference spelling**: `str_for_ref` read back by the parser's reference rule. -/
theorem ref_spelling_roundtrip (name : Name) (h : name.WF) (parentNs : Option String) :
    (refKey (refString parentNs name) parentNs).toName = name := by
  obtain ⟨fq, short, ns⟩ := name
  have hsd : NoDot short := h.short_nodot
  unfold refString
  by_cases h1 : parentNs = ns ∧ (RawType.ofString short).isNone = true
  · obtain ⟨h1, _⟩ := h1
    subst h1
    simp only [true_and, *, if_true, refKey, rsplitDot_nodot _ hsd]
    cases parentNs with
    | none => have := h.ns_none rfl; simp only at this; subst this; rfl
    | some x => have := (h.ns_some x rfl).2; simp only at this; subst this; rfl
  · simp only [h1, if_false]
    cases ns with
    | none =>
      have := h.ns_none rfl; simp only at this; subst this
      have e : "." ++ fq = "" ++ "." ++ fq := by simp
      simp only [Option.isNone_none, if_true, refKey, e, rsplitDot_dotted _ _ hsd, nonEmpty_eq_none_iff.mpr rfl]
      rfl
    | some x =>
      obtain ⟨hx, hfq⟩ := h.ns_some x rfl
      simp only at hfq; subst hfq
      simp only [Option.isNone_some, Bool.false_eq_true, if_false, refKey, rsplitDot_dotted _ _ hsd, nonEmpty_of_ne hx]
      rfl

/-! ### logical-type members -/

def knownLogicalNames : List String :=
  ["decimal", "uuid", "date", "time-millis", "time-micros", "timestamp-millis",
   "timestamp-micros", "duration", "big-decimal"]

/-- The attributes `logicalOf` looks at. -/
def logicalAttrs (lt : Option String) (precision scale : Option Nat) : RawAttrs :=
  { type := RawType.null, logicalType := lt, name := none, nsAttr := none, symbols := none, size := none, precision := precision, scale := scale }

/-- What the parser computes from the `"logicalType"`, `"precision"` and `"scale"` members of a
    schema object (`rawObjectOfJson` then `logicalOf`). -/
def logicalOfMembers (ms : List (String × Json)) : Except SchemaErr (Option LogicalType) := do
  let lt ← readStr ms "logicalType"
  let precision ← (do optNat (← member ms "precision") (2 ^ 64 - 1))
  let scale ← (do optNat (← member ms "scale") (2 ^ 32 - 1))
  logicalOf (logicalAttrs lt precision scale)

/-- Logical types the crate can hold and spell unambiguously: `unknown n` with `n` not one of the
    nine known names; decimal parameters within `usize` / `u32`. -/
def LogicalType.Expressible : LogicalType → Prop
  | .unknown n => n ∉ knownLogicalNames
  | .decimal scale precision => scale ≤ 2 ^ 32 - 1 ∧ precision ≤ 2 ^ 64 - 1
  | _ => True

theorem logicalOfMembers_eq (ms : List (String × Json)) (a : Option String) (p s : Option Nat)
    (h1 : readStr ms "logicalType" = .ok a) (h2 : readNat ms "precision" (2 ^ 64 - 1) = .ok p)
    (h3 : readNat ms "scale" (2 ^ 32 - 1) = .ok s) :
    logicalOfMembers ms = logicalOf (logicalAttrs a p s) := by
  unfold logicalOfMembers
  unfold readNat at h2 h3
  rw [h1, h2, h3]; rfl

theorem logicalOf_unknown (n : String) (h : n ∉ knownLogicalNames) (p s : Option Nat) :
    logicalOf (logicalAttrs (some n) p s) = .ok (some (.unknown n)) := by
  simp [knownLogicalNames] at h
  unfold logicalOf logicalAttrs
  split <;> simp_all

theorem logicalOfMembers_plain (name t : String) :
    logicalOfMembers [("logicalType", .str name), ("type", .str t)] =
      logicalOf (logicalAttrs (some name) none none) := by
  apply logicalOfMembers_eq
  all_goals (simp [readStr, readNat, member]; rfl)

theorem logical_members_roundtrip (t : String) (l : Option LogicalType)
    (h : ∀ lt, l = some lt → lt.Expressible) :
    logicalOfMembers (typeMembers t l) = .ok l := by
  cases l with
  | none =>
    rw [logicalOfMembers_eq _ none none none] <;> rfl
  | some lt =>
    have h := h lt rfl
    cases lt with
    | unknown n => exact (logicalOfMembers_plain n t).trans (logicalOf_unknown n h none none)
    | decimal s p =>
      simp only [LogicalType.Expressible] at h
      rw [logicalOfMembers_eq _ (some "decimal") (some p) (some s)]
      · rfl
      · simp [typeMembers, readStr, member]; rfl
      · simp only [typeMembers, readNat, member]
        simp only [List.filter, List.cons_append, List.nil_append, decide_true, decide_false, String.reduceEq]
        show optNat (some (Json.nat p)) (2 ^ 64 - 1) = _
        simp [optNat, h.2]
      · simp only [typeMembers, readNat, member]
        simp only [List.filter, List.cons_append, List.nil_append, decide_true, decide_false, String.reduceEq]
        show optNat (some (Json.nat s)) (2 ^ 32 - 1) = _
        simp [optNat, h.1]
    | _ => exact (logicalOfMembers_plain _ t).trans (by simp [logicalOf, logicalAttrs])

/-! ### members of a whole schema object -/

theorem member_append_right_irrelevant (a b : List (String × Json)) (key : String)
    (h : ∀ p ∈ b, p.1 ≠ key) : member (a ++ b) key = member a key := by
  unfold member
  have : b.filter (·.1 = key) = [] := by
    apply List.filter_eq_nil_iff.mpr
    intro p hp; simpa using h p hp
  rw [List.filter_append, this, List.append_nil]

theorem member_append_left_irrelevant (a b : List (String × Json)) (key : String)
    (h : ∀ p ∈ a, p.1 ≠ key) : member (a ++ b) key = member b key := by
  unfold member
  have : a.filter (·.1 = key) = [] := by
    apply List.filter_eq_nil_iff.mpr
    intro p hp; simpa using h p hp
  rw [List.filter_append, this, List.nil_append]

def typeKeys : List String := ["logicalType", "type", "scale", "precision"]
def nameKeys : List String := ["namespace", "name"]

theorem typeMembers_keys (t : String) (l : Option LogicalType) :
    ∀ p ∈ typeMembers t l, p.1 ∈ typeKeys := by
  intro p hp
  cases l with
  | none => simp [typeMembers] at hp; subst hp; simp [typeKeys]
  | some lt =>
    cases lt <;> simp [typeMembers] at hp <;> (rcases hp with rfl | rfl | rfl | rfl) <;> simp [typeKeys]


theorem nameMembers_keys (parentNs : Option String) (name : Name) :
    ∀ p ∈ nameMembers parentNs name, p.1 ∈ nameKeys := by
  intro p hp
  unfold nameMembers at hp
  split at hp
  · simp at hp; subst hp; simp [nameKeys]
  · split at hp
    · simp at hp; rcases hp with rfl | rfl <;> simp [nameKeys]
    · simp at hp; subst hp; simp [nameKeys]

theorem member_object (t : String) (l : Option LogicalType) (parentNs : Option String)
    (name : Name) (rest : List (String × Json))
    (hrest : ∀ p ∈ rest, p.1 ∉ typeKeys ++ nameKeys) (key : String) :
    (key ∈ typeKeys → member (typeMembers t l ++ nameMembers parentNs name ++ rest) key
        = member (typeMembers t l) key) ∧
    (key ∈ nameKeys → member (typeMembers t l ++ nameMembers parentNs name ++ rest) key
        = member (nameMembers parentNs name) key) := by
  constructor
  · intro hk
    rw [List.append_assoc, member_append_right_irrelevant]
    intro p hp heq
    rcases List.mem_append.mp hp with hp | hp
    · have := nameMembers_keys _ _ p hp
      rw [heq] at this
      revert hk this
      simp only [typeKeys, nameKeys, List.mem_cons, List.not_mem_nil, or_false]
      rintro (rfl | rfl | rfl | rfl) <;> decide
    · apply hrest p hp
      rw [heq]; exact List.mem_append_left _ hk
  · intro hk
    rw [member_append_right_irrelevant, member_append_left_irrelevant]
    · intro p hp heq
      have := typeMembers_keys _ _ p hp
      rw [heq] at this
      revert hk this
      simp only [typeKeys, nameKeys, List.mem_cons, List.not_mem_nil, or_false]
      rintro (rfl | rfl) <;> decide
    · intro p hp heq
      apply hrest p hp
      rw [heq]; exact List.mem_append_right _ hk

end Avro.Impl
