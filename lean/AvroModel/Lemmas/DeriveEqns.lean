import AvroModel.Impl.Derive
/-
Unfolding lemmas for `Impl/Derive.lean`: what `lookupKey` and the five builder functions compute at
fuel `n + 1`, one small equation per form of the argument; what `logicalOf`, `chosenTy`, `isDirect`
are for a field with / without a logical-type attribute; of `hasShape` only the fuel-0 equation (by
form of the type: `hasShape_inv`, `Lemmas/DeriveFits.lean`).  Prefixes: `lk` `lookupKey`,
`lks` `lookupKeys`, `as` `appendSchema`, `fob` `findOrBuild`, `fi` `fieldInst`, `rf` `recordFields`,
`uv` `unionVariants`.
-/
namespace Avro.Theorems.DeriveNames
open Avro Avro.Impl Avro.Impl.Derive

/-- The placeholder `reserve` pushes, and the state after it (`Lemmas/DeriveNames.lean` states its
    invariants over `resv s`, hence the namespace). -/
def nullNode : RawNode := { type := .null, logical := none }
def resv (s : BState) : BState := { s with nodes := s.nodes.push nullNode }

theorem reserve_eq (s : BState) : reserve s = some (s.nodes.size, resv s) := rfl

end Avro.Theorems.DeriveNames

namespace Avro.Impl.Derive
open Avro Avro.Impl
open Avro.Theorems.DeriveNames (nullNode resv)

theorem lk_zero (P : Prog) (t : Ty) : lookupKey P 0 t = none := rfl
theorem lk_vec (P : Prog) (n : Nat) (t : Ty) :
    lookupKey P (n+1) (.vec t) = (lookupKey P n t).map (.vec :: ·) := rfl
theorem lk_option (P : Prog) (n : Nat) (t : Ty) :
    lookupKey P (n+1) (.option t) = (lookupKey P n t).map (.option :: ·) := rfl
theorem lk_hashMap (P : Prog) (n : Nat) (t : Ty) :
    lookupKey P (n+1) (.hashMap t) = (lookupKey P n t).map (.map :: ·) := rfl
theorem lk_btreeMap (P : Prog) (n : Nat) (t : Ty) :
    lookupKey P (n+1) (.btreeMap t) = (lookupKey P n t).map (.map :: ·) := rfl
theorem lk_ptr (P : Prog) (n : Nat) (t : Ty) : lookupKey P (n+1) (.ptr t) = lookupKey P n t := rfl

/-- How the lookup key of a declared type is formed: the key of the field of a forwarding newtype
    struct, the type's own index, or (generic types) the index followed by the keys of the fields. -/
inductive KeyKind
  | fwd (f : Field)
  | self
  | generic (fs : List Field)

def keyKind (d : Decl) : KeyKind :=
  match d.body with
  | .unitEnum _ => .self
  | .newtype f =>
    if isDirect f .newtypeStruct then .fwd f else if d.nparams = 0 then .self else .generic [f]
  | body => if d.nparams = 0 then .self else .generic body.lookupFields

theorem keyKind_spec (d : Decl) :
    match keyKind d with
    | .fwd f => d.body = .newtype f ∧ isDirect f .newtypeStruct = true
    | .self => d.nparams = 0 ∨ ∃ vs, d.body = .unitEnum vs
    | .generic _ => d.nparams ≠ 0 := by
  unfold keyKind
  cases d.body with
  | unitEnum vs => simp
  | newtype f =>
    by_cases hd : isDirect f .newtypeStruct = true <;> by_cases hn : d.nparams = 0 <;> simp [hd, hn]
  | record fs | union vs => by_cases hn : d.nparams = 0 <;> simp [hn]

theorem lk_named (P : Prog) (n : Nat) (id : Nat) (args : List Ty) :
    lookupKey P (n+1) (.named id args) =
      match P[id]? with
      | none => none
      | some d =>
        match keyKind d with
        | .fwd f => lookupKey P n (subst args (chosenTy f))
        | .self => some [.self id]
        | .generic fs =>
          (lookupKeys P n (fs.map fun f => subst args (chosenTy f))).map (.generic id fs.length :: ·) := by
  simp only [lookupKey, keyKind]
  cases P[id]? with
  | none => rfl
  | some d =>
    by_cases hn : d.nparams = 0 <;> cases hb : d.body <;> simp only [hb, hn, if_true, if_false]
    all_goals split <;> rfl

theorem lks_nil (P : Prog) (n : Nat) : lookupKeys P n [] = some [] := by
  cases n <;> rfl
theorem lks_cons (P : Prog) (n : Nat) (t : Ty) (ts : List Ty) :
    lookupKeys P (n+1) (t :: ts) =
      match lookupKey P n t, lookupKeys P n ts with
      | some a, some b => some (a ++ b)
      | _, _ => none := rfl

theorem lks_cons_some {P : Prog} {n : Nat} {t : Ty} {ts : List Ty} {k : Key}
    (h : lookupKeys P n (t :: ts) = some k) :
    ∃ m a b, n = m + 1 ∧ lookupKey P m t = some a ∧ lookupKeys P m ts = some b ∧ k = a ++ b := by
  cases n with
  | zero => cases h
  | succ m =>
    rw [lks_cons] at h
    split at h
    · rename_i a b ha hb
      exact ⟨m, a, b, rfl, ha, hb, (Option.some.inj h).symm⟩
    · cases h

theorem logicalOf_eq_none {f : Field} : logicalOf f = none ↔ f.attr.logical = none := by
  unfold logicalOf
  cases f.attr.logical with
  | none => simp
  | some l =>
    dsimp only
    cases known (pascal l) with
    | none => simp
    | some k => cases k <;> simp

theorem logicalOf_plain {f : Field} (h : f.attr.logical.isNone = true) : logicalOf f = none :=
  logicalOf_eq_none.mpr (Option.isNone_iff_eq_none.mp h)

theorem logicalOf_ne_none {f : Field} (h : f.attr.logical.isNone = false) : logicalOf f ≠ none := by
  intro h'
  rw [logicalOf_eq_none.mp h'] at h
  cases h

theorem logicalOf_some {f : Field} {lt : LogicalType} (h : logicalOf f = some lt) :
    f.attr.logical.isSome = true := by
  cases hl : f.attr.logical with
  | none => rw [logicalOf_eq_none.mpr hl] at h; cases h
  | some l => rfl

theorem chosenTy_plain {f : Field} (h : f.attr.logical.isNone = true) : chosenTy f = peel f.ty := by
  have : f.attr.logical = none := Option.isNone_iff_eq_none.mp h
  simp [chosenTy, this]

theorem not_direct_of_logical {f : Field} {kind : FieldKind} (h : f.attr.logical.isSome = true) :
    isDirect f kind = false := by
  cases hx : f.attr.logical with
  | none => simp [hx] at h
  | some l => simp [isDirect, hx]

theorem setNode_some {r : Nat} {x : RawNode} {s s' : BState} {u : Unit}
    (h : setNode r x s = some (u, s')) : r < s.nodes.size ∧ s' = { s with nodes := s.nodes.set! r x } := by
  simp only [setNode] at h
  split at h
  · cases h; exact ⟨by assumption, rfl⟩
  · cases h

/-- Head token of the key of a leaf type (`lookupKey_leaf`); the leaf arms of `KeyNodeU` pair it with
    `leafNode` (`leaf_keyNodeU`). -/
def leafTok : Ty → Option KTok
  | .unit => some .unit
  | .bool => some .bool
  | .i8 | .i16 | .i32 | .u16 => some .int
  | .i64 | .u32 | .u64 | .usize => some .long
  | .f32 => some .float
  | .f64 => some .double
  | .string | .str => some .string
  | .byteVec | .byteSlice => some .bytes
  | .byteArray n => some (.byteArray n)
  | _ => none

theorem lookupKey_leaf {P : Prog} {t : Ty} {tok : KTok} (h : leafTok t = some tok) (F : Nat) :
    lookupKey P (F + 1) t = some [tok] := by
  cases t <;> simp only [leafTok, Option.some.injEq, reduceCtorEq] at h <;>
    (subst h; unfold lookupKey; rfl)

variable (P : Prog) (hash : Key → String)

theorem as_zero (t : Ty) : appendSchema P hash 0 t = fun _ => none := rfl
/-- The node of a type whose `append_schema` pushes one node without calling the builder again. -/
def leafType : Ty → Option RegularType
  | .unit => some .null
  | .bool => some .boolean
  | .i8 | .i16 | .i32 | .u16 => some .int
  | .i64 | .u32 | .u64 | .usize => some .long
  | .f32 => some .float
  | .f64 => some .double
  | .string | .str => some .string
  | .byteVec | .byteSlice => some .bytes
  | .byteArray n => some (.fixed (Name.ofFq ("u8_array_" ++ toString n)) n)
  | _ => none

theorem as_leaf (n : Nat) {t : Ty} {x : RegularType} (h : leafType t = some x) :
    appendSchema P hash (n+1) t = fun s => (push (plain x) s).map fun (_, s) => ((), s) := by
  cases t <;> cases h <;> rfl
theorem as_param (n : Nat) (i : Nat) : appendSchema P hash n (.param i) = fun _ => none := by
  cases n <;> rfl
theorem as_ptr (n : Nat) (t : Ty) : appendSchema P hash (n+1) (.ptr t) = appendSchema P hash n t := rfl
/-- `Vec<T>` and the maps: reserve a slot, `find_or_build` the element type, fill the slot. -/
def wrapNode (n : Nat) (t : Ty) (mk : Nat → RegularType) : B Unit := fun s =>
  match findOrBuild P hash n t (resv s) with
  | none => none
  | some (k, s2) => setNode s.nodes.size (plain (mk k)) s2

theorem as_vec (n : Nat) (t : Ty) :
    appendSchema P hash (n+1) (.vec t) = wrapNode P hash n t .array := rfl
theorem as_hashMap (n : Nat) (t : Ty) :
    appendSchema P hash (n+1) (.hashMap t) = wrapNode P hash n t .map := rfl
theorem as_btreeMap (n : Nat) (t : Ty) :
    appendSchema P hash (n+1) (.btreeMap t) = wrapNode P hash n t .map := rfl
theorem as_option (n : Nat) (t : Ty) : appendSchema P hash (n+1) (.option t) = fun s =>
    match findOrBuild P hash n .unit (resv s) with
    | none => none
    | some (a, s1) =>
      match findOrBuild P hash n t s1 with
      | none => none
      | some (b, s2) => setNode s.nodes.size (plain (.union [a, b])) s2 := rfl
theorem as_named (n : Nat) (id : Nat) (args : List Ty) :
    appendSchema P hash (n+1) (.named id args) =
      match P[id]? with
      | none => fun _ => none
      | some d =>
        match d.body with
        | .unitEnum variants => fun s =>
          (push (plain (.enum (Name.ofFq (typeName d)) variants)) s).map fun (_, s) => ((), s)
        | .newtype f =>
          if isDirect f .newtypeStruct then appendSchema P hash n (subst args (chosenTy f))
          else fun s =>
            match fieldInst P hash n d args f .newtypeStruct "" s with
            | none => none
            | some (k, s') => if k = s.nodes.size then some ((), s') else none
        | .record fields => fun s =>
          match (if d.nparams = 0 then some (typeName d)
              else (lookupKey P n (.named id args)).map fun k => typeName d ++ "_" ++ hash k) with
          | none => none
          | some tn =>
            match recordFields P hash n d args tn fields (resv s) with
            | none => none
            | some (fs, s2) => setNode s.nodes.size (plain (.record (Name.ofFq tn) fs)) s2
        | .union variants => fun s =>
          match unionVariants P hash n d args variants (resv s) with
          | none => none
          | some (ks, s2) => setNode s.nodes.size (plain (.union ks)) s2 := rfl

theorem fob_zero (t : Ty) : findOrBuild P hash 0 t = fun _ => none := rfl
theorem fob_succ (n : Nat) (t : Ty) : findOrBuild P hash (n+1) t = fun s =>
    match lookupKey P (n + 1) t with
    | none => none
    | some key =>
      match s.built.lookup key with
      | some idx => some (idx, s)
      | none =>
        match appendSchema P hash n t { s with built := (key, s.nodes.size) :: s.built } with
        | none => none
        | some (_, s') => if s'.nodes.size > s.nodes.size then some (s.nodes.size, s') else none := rfl

theorem fi_zero (d args f kind rtn) : fieldInst P hash 0 d args f kind rtn = fun _ => none := rfl
/-- The size of the `fixed` that a field without logical type creates under its owner's name
    (instead of going through `find_or_build`): the field of a newtype struct or of a variant whose
    type is written `[u8; N]`. -/
def ownedFixed (f : Field) (kind : FieldKind) : Option Nat :=
  match kind.overridesFixedName, chosenTy f with
  | true, .byteArray m => some m
  | _, _ => none

theorem ownedFixed_some {f : Field} {kind : FieldKind} {m : Nat} (h : ownedFixed f kind = some m) :
    kind.overridesFixedName = true ∧ chosenTy f = .byteArray m := by
  unfold ownedFixed at h
  split at h
  · cases h; exact ⟨by assumption, by assumption⟩
  · cases h

/-- `has_direct_lookup` -/
theorem isDirect_eq (f : Field) (kind : FieldKind) :
    isDirect f kind = (f.attr.logical.isNone && (ownedFixed f kind).isNone) := by
  unfold isDirect ownedFixed chosenTy
  cases f.attr.logical with
  | some l => rfl
  | none => cases kind.overridesFixedName <;> cases peel f.ty <;> rfl

theorem fi_succ (n : Nat) (d : Decl) (args : List Ty) (f : Field) (kind : FieldKind) (rtn : String) :
    fieldInst P hash (n+1) d args f kind rtn =
      match logicalOf f with
      | none =>
        match ownedFixed f kind with
        | some m => push (plain (.fixed (Name.ofFq (ownedName d kind rtn)) m))
        | none => findOrBuild P hash n (subst args (chosenTy f))
      | some lt => fun s =>
        match appendSchema P hash n (subst args (chosenTy f)) s with
        | none => none
        | some (_, s1) =>
          if s1.nodes.size > s.nodes.size then
            match s1.nodes[s.nodes.size]? with
            | none => none
            | some node =>
              let node' : RawNode :=
                { type := renameNode node.type (Name.ofFq (ownedName d kind rtn)), logical := some lt }
              some (s.nodes.size, { s1 with nodes := s1.nodes.set! s.nodes.size node' })
          else none := by
  simp only [fieldInst, ownedFixed]
  cases logicalOf f with
  | some lt => rfl
  | none => cases kind.overridesFixedName <;> cases chosenTy f <;> rfl

theorem rf_nil (n : Nat) (d args tn) : recordFields P hash n d args tn [] = fun s => some ([], s) := by
  cases n <;> rfl
theorem rf_zero (d args tn f rest) : recordFields P hash 0 d args tn (f :: rest) = fun _ => none := rfl
theorem rf_cons (n : Nat) (d args tn) (f : Field) (rest : List Field) :
    recordFields P hash (n+1) d args tn (f :: rest) = fun s =>
      match fieldInst P hash n d args f (.structField f.name) tn s with
      | none => none
      | some (k, s1) =>
        match recordFields P hash n d args tn rest s1 with
        | none => none
        | some (fs, s2) => some ((f.name, k) :: fs, s2) := rfl

theorem uv_nil (n : Nat) (d args) : unionVariants P hash n d args [] = fun s => some ([], s) := by
  cases n <;> rfl
theorem uv_zero (d args v rest) : unionVariants P hash 0 d args (v :: rest) = fun _ => none := rfl
theorem uv_cons (n : Nat) (d args) (v : Variant) (rest : List Variant) :
    unionVariants P hash (n+1) d args (v :: rest) = fun s =>
      match (match v.field with
        | none => findOrBuild P hash n .unit s
        | some f => fieldInst P hash n d args f (.newtypeVariant v.ident) "" s) with
      | none => none
      | some (k, s1) =>
        match unionVariants P hash n d args rest s1 with
        | none => none
        | some (ks, s2) => some (k :: ks, s2) := rfl

/-- Out of fuel no value has the shape of a type.  Proved by `rw [hasShape]` on purpose: that makes
    Lean derive the equation lemmas of `hasShape` here, once, for every module above; a proof that
    rewrites with `hasShape` where no imported module has asked for them derives them again. -/
theorem hasShape_zero (P : Prog) (t : Ty) (sv : SV) : hasShape P 0 t sv = false := by rw [hasShape]

end Avro.Impl.Derive
