import AvroModel.Lemmas.SerDecodable
/-
Canonicity as a representation relation (C01), the ingredients: the relation "`bytes` IS
`Spec.encode v`" (`Canon.Dec`) and what makes it a `Representation` — what the block writer emits
(`blocksOf`) is the single block `Spec.encode` writes.  The two layouts that are not canonical
(several blocks; a negative integer on a `decimal`/`bytes` node, written on 16 bytes) are excluded
by hypotheses of the form "the presentation does not do X, or the schema has no node on which X
matters": `svCanon nb sv` with the permissions `nb : Allow`, and `NodeOK nb`, which extends the C02
`NodeOK` with `nodeAllows nb`.

Inside `namespace Avro.Canon` the names `Dec`, `NodeOK`, `SchemaOK` and the lemmas `Dec.union`,
`Dec.array`, `Dec.array_blocks`, … are the `Canon.` ones, not those of decodability
(`Avro.Dec`, `Avro.NodeOK`, `Avro.SchemaOK`; Lemmas/SerDecodable.lean, Lemmas/SerRepr.lean).
-/
namespace Avro.Canon
open Avro Avro.Spec Avro.Impl

/-! ### Canonical encodings -/

/-- `bytes` is the canonical encoding of `v` at node `n`.  Not `Avro.Dec` (decodability). -/
abbrev Dec (S : Schema) (n : Node) (bytes : Bytes) (v : Value) : Prop := encode S n v = some bytes

theorem Dec.to_dec {S : Schema} {n : Node} {v : Value} {bytes : Bytes} (h : Dec S n bytes v) :
    Avro.Dec S n bytes v := Avro.Dec.of_encode h

theorem Dec.union {S : Schema} {vs : List Nat} {d k : Nat} {n : Node} {bytes : Bytes} {y : Value}
    (hk : vs[d]? = some k) (hn : S[k]? = some n) (hd : d < 2 ^ 63) (h : Dec S n bytes y) :
    Dec S (.union vs) (encodeLong d ++ bytes) (.union d y) := by
  show encode S (.union vs) (.union d y) = _
  have h' : encode S n y = some bytes := h
  simp only [encode, hk, nodeOf, hn, h', hd, if_true]

theorem Dec.array {S : Schema} {k : Nat} {item : Node} {body : Bytes} {vs : List Value}
    (hk : S[k]? = some item) (h : encodeItems S item vs = some body) (hl : vs.length < 2 ^ 63) :
    Dec S (.array k) ((if vs.isEmpty then [] else encodeLong vs.length ++ body) ++ [0]) (.array vs) := by
  show encode S (.array k) (.array vs) = _
  simp only [encode, nodeOf, hk, h, hl, if_true]

theorem Dec.map {S : Schema} {k : Nat} {item : Node} {body : Bytes} {vs : List (String × Value)}
    (hk : S[k]? = some item) (h : encodeEntries S item vs = some body) (hl : vs.length < 2 ^ 63) :
    Dec S (.map k) ((if vs.isEmpty then [] else encodeLong vs.length ++ body) ++ [0]) (.map vs) := by
  show encode S (.map k) (.map vs) = _
  simp only [encode, nodeOf, hk, h, hl, if_true]

theorem Dec.record {S : Schema} {nm : Name} {fields : List (String × Nat)} {b : Bytes}
    {vs : List Value} (h : encodeFields S (fields.map (·.2)) vs = some b) :
    Dec S (.record nm fields) b (.record vs) := by
  show encode S (.record nm fields) (.record vs) = _
  simp only [encode, h]

theorem Dec.string_inv {S : Schema} {b : Bytes} {v : Value} (h : Dec S .string b v) :
    ∃ k, v = .string k ∧ b = lenPrefixed (utf8 k) ∧ (utf8 k).length < 2 ^ 63 := by
  have h' : encode S .string v = some b := h
  cases v <;> simp only [encode, reduceCtorEq] at h'
  rename_i k
  by_cases hl : (utf8 k).length < 2 ^ 63
  · rw [if_pos hl] at h'
    simp only [Option.some.injEq] at h'
    exact ⟨k, rfl, h'.symm, hl⟩
  · rw [if_neg hl] at h'; cases h'

/-! ### Hypotheses -/

/-- `n` is not a node on which a layout that `f` permits shows (sign-padded mantissa on
    `decimal`/`bytes`, several blocks on `array`, `map`): a permission can be used only on a schema
    without such a node. -/
def nodeAllows (f : Allow) : Node → Bool
  | .decimal _ _ .bytes => !f.negInt
  | .array _ => !f.openSeq
  | .map _ => !f.openMap
  | _ => true

def schemaAllows (f : Allow) (S : Schema) : Bool := S.all (nodeAllows f)

theorem nodeAllows_strict (n : Node) : nodeAllows {} n = true := by
  cases n <;> try rfl
  rename_i sc pr repr
  cases repr <;> rfl

structure NodeOK (nb : Allow) (S : Schema) (n : Node) : Prop extends Avro.NodeOK S n where
  allows : nodeAllows nb n = true

def SchemaOK (nb : Allow) (S : Schema) : Prop :=
  ∀ (k : Nat) (n : Node), S[k]? = some n → NodeOK nb S n

theorem SchemaOK.of_checks {nb : Allow} {S : Schema} (h1 : S.keysInBounds = true)
    (h2 : schemaNamesDistinct S = true) (h3 : schemaSmall S = true)
    (h4 : schemaNoNestedUnion S = true)
    (h6 : schemaAllows nb S = true) : SchemaOK nb S := by
  intro k n hk
  exact ⟨Avro.SchemaOK.of_checks h1 h2 h3 h4 k n hk, all_of_getElem? h6 hk⟩

theorem NodeOK.of_check {nb : Allow} {S : Schema} {n : Node} (h : nodeOKb S n = true)
    (h' : nodeAllows nb n = true) : NodeOK nb S n :=
  ⟨Avro.NodeOK.of_check h, h'⟩

theorem NodeOK.string {nb : Allow} {S : Schema} : NodeOK nb S .string :=
  ⟨Avro.NodeOK.string, rfl⟩

theorem SchemaOK.child {nb : Allow} {S : Schema} {n : Node} (hn : NodeOK nb S n) {k : Nat}
    (hk : k ∈ n.children) : ∃ c, S[k]? = some c := by
  have := hn.children k hk
  exact ⟨S[k], by simp [this]⟩


/-! ### Arrays and maps: one block -/

theorem blockBytes_of_le : ∀ (es : List Bytes) (c : Nat), es.length ≤ c → blockBytes c es = es.flatten
  | [], _, _ => by simp [blockBytes]
  | e :: es, 0, h => by simp at h
  | e :: es, c + 1, h => by
    simp [blockBytes, blockBytes_of_le es c (by simpa using h)]

theorem encodeItems_of {S : Schema} {item : Node} : ∀ (ves : List (Value × Bytes)),
    (∀ ve ∈ ves, Dec S item ve.2 ve.1) →
    encodeItems S item (ves.map (·.1)) = some (ves.map (·.2)).flatten
  | [], _ => by simp [encodeItems]
  | ve :: ves, h => by
    have h1 : encode S item ve.1 = some ve.2 := h ve (by simp)
    simp [encodeItems, h1, encodeItems_of ves (fun x hx => h x (by simp [hx]))]

theorem encodeEntries_of {S : Schema} {item : Node} : ∀ (ves : List ((String × Value) × Bytes)),
    (∀ ve ∈ ves, EntryRep (Dec S) item ve) →
    encodeEntries S item (ves.map (·.1)) = some (ves.map (·.2)).flatten
  | [], _ => by simp [encodeEntries]
  | ve :: ves, h => by
    obtain ⟨bk, be, hve, hk, hv⟩ := h ve (by simp)
    obtain ⟨k', hkk, rfl, hlen⟩ := hk.string_inv
    cases hkk
    have hv' : encode S item ve.1.2 = some be := hv
    simp [encodeEntries, hlen, hv', hve, encodeEntries_of ves (fun x hx => h x (by simp [hx]))]

theorem blocksOf_canonical {L : Nat} {es : List Bytes} (hL : L ≤ es.length)
    (hcov : lenCovers L es.length = true) :
    blocksOf L es = (if es.isEmpty then [] else encodeLong es.length ++ es.flatten) ++ [0] := by
  rcases lenCovers_iff.1 hcov with hle | ⟨rfl, hn1⟩
  · have hLn : L = es.length := by omega
    subst hLn
    cases es with
    | nil => simp [blocksOf, blockBytes]
    | cons e es => simp [blocksOf, blockBytes, blockBytes_of_le es _ (Nat.le_refl _)]
  · match es, hn1 with
    | [e], _ => simp [blocksOf, blockBytes]

theorem Dec.array_blocks {S : Schema} {k : Nat} {item : Node} {L : Nat} {ves : List (Value × Bytes)}
    (hk : S[k]? = some item) (hL : L ≤ ves.length) (hn : ves.length < 2 ^ 63)
    (hcov : lenCovers L ves.length = true) (hall : ∀ ve ∈ ves, Dec S item ve.2 ve.1) :
    Dec S (.array k) (blocksOf L (ves.map (·.2))) (.array (ves.map (·.1))) := by
  have := Dec.array hk (encodeItems_of ves hall) (by simpa using hn)
  rw [blocksOf_canonical (by simpa using hL) (by simpa using hcov)]
  simpa using this

theorem Dec.map_blocks {S : Schema} {k : Nat} {item : Node} {L : Nat}
    {ves : List ((String × Value) × Bytes)}
    (hk : S[k]? = some item) (hL : L ≤ ves.length) (hn : ves.length < 2 ^ 63)
    (hcov : lenCovers L ves.length = true) (hall : ∀ ve ∈ ves, EntryRep (Dec S) item ve) :
    Dec S (.map k) (blocksOf L (ves.map (·.2))) (.map (ves.map (·.1))) := by
  have := Dec.map hk (encodeEntries_of ves hall) (by simpa using hn)
  rw [blocksOf_canonical (by simpa using hL) (by simpa using hcov)]
  simpa using this

end Avro.Canon
