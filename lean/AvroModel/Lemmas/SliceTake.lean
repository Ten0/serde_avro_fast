import AvroModel.Lemmas.SliceExact
import AvroModel.Lemmas.DeWalk
/-
The reads of `read_decimal` on the slice back-end. A big-decimal is read under an `io::Take`: the
actions inside see the window `bs.take L` of the unread bytes, and `ExactW` is the exact semantics of
an action as a function of that window. `VarIntProcessor` and `read_exact` are analysed once in that
form; the body of the big-decimal reader is then computed by the calculus.
-/

namespace Avro.Impl
open Avro Avro.Spec

/-! ### `decode_var` and continuation bytes -/

theorem getLast_cont {buf : Bytes} (hc : ∀ x ∈ buf, x.toNat &&& 0x80 ≠ 0) :
    ¬ (buf ≠ [] ∧ (buf.getLast?.getD 0).toNat &&& 0x80 = 0) := by
  rintro ⟨hne, hz⟩
  cases h : buf.getLast? with
  | none => exact absurd (List.getLast?_eq_none_iff.1 h) hne
  | some x =>
    rw [h] at hz
    simp only [Option.getD_some] at hz
    exact hc x (List.mem_of_getLast? h) hz

theorem decodeVarU64Aux_pos : ∀ (tl : Bytes) (r sh v k : Nat), decodeVarU64Aux tl r sh = some (v, k) → sh / 7 < k := by
  intro tl
  induction tl with
  | nil => intro r sh v k h; simp [decodeVarU64Aux] at h
  | cons b tl ih =>
    intro r sh v k h
    rw [decodeVarU64Aux_cons] at h
    split at h
    · split at h
      · cases h; omega
      · cases h
    · split at h
      · cases h; omega
      · have := ih _ _ _ _ h; omega

theorem decodeVarU64Aux_allcont_lt (tl : Bytes) : ∀ (buf : Bytes) (r sh v k : Nat), (∀ x ∈ buf, x.toNat &&& 0x80 ≠ 0) →
    decodeVarU64Aux (buf ++ tl) r sh = some (v, k) → sh / 7 + buf.length < k := by
  intro buf
  induction buf with
  | nil => intro r sh v k _ h; have := decodeVarU64Aux_pos _ _ _ _ _ h; simpa using this
  | cons c buf ih =>
    intro r sh v k hc h
    have hb : c.toNat &&& 0x80 ≠ 0 := hc c (by simp)
    have hb2 : ¬ (c.toNat < 2) := fun h2 =>
      hb ((and_128_eq_zero_iff c.toNat c.toNat_lt).2 (by omega))
    rw [List.cons_append, decodeVarU64Aux_cons] at h
    split at h
    · cases h
    · have := ih _ _ _ _ (fun x hx => hc x (by simp [hx])) h
      simp only [List.length_cons]; omega

theorem decodeVar_allcont_lt {t : VarTy} {buf tl : Bytes} {v : Int} {k : Nat}
    (hc : ∀ x ∈ buf, x.toNat &&& 0x80 ≠ 0) (h : decodeVar t (buf ++ tl) = some (v, k)) :
    buf.length < k := by
  obtain ⟨n, hn⟩ := decodeVar_some h
  have := decodeVarU64Aux_allcont_lt tl buf 0 0 n k hc hn
  omega

/-! ### `VarIntProcessor` under a `Take` -/

theorem readSome_one_slice (s : RState) (hs : SlBase s) (bs : Bytes) (l : Nat) :
    (∃ s1, readSome 1 (s.mk' bs (some l)) = (.ok [], s1) ∧ (l = 0 ∨ bs = [])) ∨
    (∃ b tl, bs = b :: tl ∧ 1 ≤ l ∧
      readSome 1 (s.mk' bs (some l)) = (.ok [b], s.mk' tl (some (l - 1)))) := by
  cases bs with
  | nil =>
    left
    by_cases hl : l = 0
    · subst hl
      exact ⟨_, Prod.ext (by simp [readSome, RState.mk']) rfl, Or.inl rfl⟩
    · obtain ⟨isS, rest, av, sched, lc, ma, scr, lim⟩ := s
      obtain ⟨h1, h2⟩ := hs
      simp only at h1 h2
      subst h1 h2
      have : ¬ (min 1 l = 0) := by omega
      exact ⟨_, Prod.ext (by simp [readSome, RState.mk', fillBuf, consume, this]) rfl, Or.inr rfl⟩
  | cons b tl =>
    by_cases hl : l = 0
    · subst hl
      left
      exact ⟨_, Prod.ext (by simp [readSome, RState.mk']) rfl, Or.inl rfl⟩
    · right
      refine ⟨b, tl, rfl, by omega, ?_⟩
      have := readSome_slice s hs [b] tl (some l) 0 rfl (by intro x hx; cases hx; omega)
      simpa using this

/-- `VarIntProcessor` under a `Take` of `L` bytes decodes what `decode_var` sees in the window -/
theorem okOf_varintProcessor (t : VarTy) (ht : t.maxSize ≤ 10) (s : RState) (hs : SlBase s) :
    ∀ (fuel : Nat) (buf bs : Bytes) (L : Nat), (∀ x ∈ buf, x.toNat &&& 0x80 ≠ 0) →
    buf.length ≤ t.maxSize → t.maxSize + 2 ≤ buf.length + fuel →
    okOf (varintProcessor t fuel buf (s.mk' bs (some L))) =
      (decodeVar t (buf ++ bs.take L)).bind fun p =>
        if p.2 ≤ t.maxSize then
          some (p.1, s.mk' (bs.drop (p.2 - buf.length)) (some (L - (p.2 - buf.length))))
        else none := by
  intro fuel
  induction fuel with
  | zero => intro buf bs L _ h1 h2; omega
  | succ f ih =>
    intro buf bs L hc hlen hfuel
    rw [varintProcessor, if_neg (getLast_cont hc), okOf_bind]
    rcases readSome_one_slice s hs bs L with ⟨s1, h1, h0⟩ | ⟨b, tl, rfl, hl, h1⟩
    · have : bs.take L = [] := by rcases h0 with rfl | rfl <;> simp
      rw [h1, this, List.append_nil, decodeVar_allcont_none t buf hc]
      simp only [okOf_ok, Option.bind_some, Option.bind_none]
      by_cases hb : buf = [] <;> simp only [hb, if_true, if_false, okOf_fail]
    · obtain ⟨L', rfl⟩ : ∃ L', L = L' + 1 := ⟨L - 1, by omega⟩
      rw [h1]
      simp only [okOf_ok, Option.bind_some, List.take_succ_cons, Nat.add_sub_cancel]
      by_cases hsz : buf.length ≥ t.maxSize
      · rw [if_pos hsz]
        cases hd : decodeVar t (buf ++ b :: tl.take L') with
        | none => rfl
        | some p =>
          have := decodeVar_allcont_lt hc hd
          simp only [okOf_fail, Option.bind_some, show ¬ (p.2 ≤ t.maxSize) by omega, if_false]
      · rw [if_neg hsz]
        by_cases hb : b.toNat &&& 0x80 = 0
        · obtain ⟨e1, e2⟩ := decodeVar_cont_term t buf b (tl.take L') hc (by omega) (Or.inl hb)
          rw [varintProcessor_finished t f _ ⟨by simp, by simp [hb]⟩, e1]
          cases hd : decodeVar t (buf ++ [b]) with
          | none => rfl
          | some p =>
            have := e2 p.1 p.2 hd
            simp only [Option.bind_some, this, show buf.length + 1 ≤ t.maxSize by omega, if_true,
              Nat.add_sub_cancel_left, List.drop_succ_cons, List.drop_zero]
            rfl
        · have hc' : ∀ x ∈ buf ++ [b], x.toNat &&& 0x80 ≠ 0 := by
            intro x hx
            rcases List.mem_append.1 hx with hx | hx
            · exact hc x hx
            · simp only [List.mem_singleton] at hx; subst hx; exact hb
          rw [ih (buf ++ [b]) tl L' hc' (by simp; omega) (by simp; omega), List.append_assoc,
            List.singleton_append]
          cases hd : decodeVar t (buf ++ b :: tl.take L') with
          | none => rfl
          | some p =>
            have := decodeVar_allcont_lt (tl := tl.take L') hc' (by simpa using hd)
            simp only [List.length_append, List.length_singleton] at this
            obtain ⟨j, hj⟩ : ∃ j, p.2 - buf.length = j + 1 := ⟨p.2 - buf.length - 1, by omega⟩
            have hj' : p.2 - (buf.length + 1) = j := by omega
            simp only [Option.bind_some, List.length_append, List.length_singleton, hj, hj',
              List.drop_succ_cons, Nat.add_sub_add_right]


/-! ### The window calculus -/

/-- Under a `Take` of `L` bytes an action on the slice sees the window `w = bs.take L`; `g w L` is
    its result and the number of bytes it consumes. Closed under `pure`, `fail`, `>>=` and
    `if … then … else`, so that the function of a `do` block is found by unification
    (`apply ExactW.congr`, then one `apply` per line of the block) and only then compared with the
    specification. -/
def ExactW {α : Type} (m : DeM α) (g : Bytes → Nat → Option (α × Nat)) : Prop :=
  ∀ s, SlBase s → ∀ bs L, okOf (m (s.mk' bs (some L))) =
    (g (bs.take L) L).map fun p => (p.1, s.mk' (bs.drop p.2) (some (L - p.2)))

theorem ExactW.pure {α : Type} (a : α) : ExactW (pure a : DeM α) (fun _ _ => some (a, 0)) :=
  fun _ _ _ _ => rfl

theorem ExactW.fail {α : Type} (e : DeErr) : ExactW (DeM.fail e : DeM α) (fun _ _ => none) :=
  fun _ _ _ _ => rfl

theorem ExactW.ite {α : Type} {c : Prop} [Decidable c] {m1 m2 : DeM α}
    {g1 g2 : Bytes → Nat → Option (α × Nat)} (h1 : ExactW m1 g1) (h2 : ExactW m2 g2) :
    ExactW (if c then m1 else m2) (fun w L => if c then g1 w L else g2 w L) := by
  split
  · exact h1
  · exact h2

/-- `g` need only be known on windows, which are never longer than the limit -/
theorem ExactW.congr {α : Type} {m : DeM α} {g g' : Bytes → Nat → Option (α × Nat)}
    (h : ExactW m g) (hg : ∀ w L, w.length ≤ L → g w L = g' w L) : ExactW m g' := by
  intro s hs bs L
  rw [← hg _ _ (by rw [List.length_take]; exact Nat.min_le_left _ _)]
  exact h s hs bs L

theorem ExactW.bind {α β : Type} {m : DeM α} {k : α → DeM β} {g : Bytes → Nat → Option (α × Nat)}
    {g' : α → Bytes → Nat → Option (β × Nat)} (h1 : ExactW m g) (h2 : ∀ a, ExactW (k a) (g' a)) :
    ExactW (m >>= k) (fun w L => (g w L).bind fun p =>
      (g' p.1 (w.drop p.2) (L - p.2)).map fun q => (q.1, p.2 + q.2)) := by
  intro s hs bs L
  rw [okOf_bind, h1 s hs]
  show _ = Option.map _ ((g (bs.take L) L).bind _)
  rcases g (bs.take L) L with _ | ⟨a, j⟩
  · rfl
  · simp only [Option.map_some, Option.bind_some, h2 a s hs, List.drop_take, Option.map_map]
    rcases g' a (List.take (L - j) (List.drop j bs)) (L - j) with _ | ⟨b, j'⟩
    · rfl
    · simp only [Option.map_some, Function.comp_apply, List.drop_drop, Nat.sub_sub]

/-- an action that runs under a fresh `Take` of `n` bytes, dropped afterwards -/
theorem ExactW.take {α : Type} {m : DeM α} {g : Bytes → Nat → Option (α × Nat)} (h : ExactW m g)
    (n : Nat) : Exact (setLimit (some n) >>= fun _ => withLimitCleared m)
      (fun bs => (g (bs.take n) n).map fun p => (p.1, bs.drop p.2)) := by
  intro s hs bs
  have := h s hs bs n
  show okOf (withLimitCleared m (s.mk' bs (some n))) = Option.map _ (Option.map _ (g (bs.take n) n))
  unfold withLimitCleared
  rcases hm : m (s.mk' bs (some n)) with ⟨_ | a, s'⟩ <;> rw [hm] at this <;>
    rcases hg : g (bs.take n) n with _ | p <;> rw [hg] at this <;> cases this <;> rfl

theorem exactW_getLimit : ExactW getLimit (fun _ L => some (some L, 0)) := fun _ _ _ _ => rfl

/-- the fuel `12` of the model is `VarTy.maxSize .i64 + 2`: ten pushes, one more round to see the
    terminator or to refuse an eleventh byte, and the round that decodes -/
theorem exactW_varint : ExactW (varintProcessor .i64 12 []) (fun w _ => decodeVar .i64 w) := by
  intro s hs bs L
  rw [okOf_varintProcessor .i64 (Nat.le_refl _) s hs 12 [] bs L (by simp) (by simp)
    (by simp [VarTy.maxSize])]
  simp only [List.nil_append, List.length_nil, Nat.sub_zero]
  rcases hd : decodeVar .i64 (bs.take L) with _ | p
  · rfl
  · obtain ⟨n, hn⟩ := decodeVar_some hd
    have := (decodeVarU64_to_spec _ n p.2 hn).2.2.2.1
    simp only [Option.bind_some, VarTy.maxSize, this, if_true, Option.map_some]

theorem exactW_readExact (n : Nat) :
    ExactW (readExact n) (fun w _ => if n ≤ w.length then some (w.take n, n) else none) := by
  intro s hs bs L
  rw [okOf_readExact s hs]
  simp only [RState.eff, RState.mk'_limit, RState.mk'_rest, List.length_take, Option.map_some]
  by_cases h : n ≤ min L bs.length
  · simp only [h, if_true, Option.map_some, List.take_take, Nat.min_eq_left (Nat.le_trans h (Nat.min_le_left _ _))]
  · simp only [h, if_false, Option.map_none]

/-! ### The big-decimal -/

/-- what the crate reads inside the bytes of a big-decimal: what the specification reads there with
    the implementation's limits (`Spec.bigRaw`), the scale below `2 ^ 32` -/
def bigInner (w : Bytes) : Option (Int × Nat) :=
  (bigRaw Limits.impl w).bind fun p => if p.2 < 4294967296 then some p else none

/-- `bigInner` spelt out, in the form the reads of the body are compared with -/
theorem bigInner_unfold (w : Bytes) : bigInner w =
    (decodeBytesL Limits.impl w).bind fun p =>
      if p.1.length ≤ 16 then
        match decodeLenL Limits.impl p.2 with
        | some (scale, []) => if scale < 4294967296 then some (i128OfBE p.1, scale) else none
        | _ => none
      else none := by
  unfold bigInner bigRaw
  rcases decodeBytesL Limits.impl w with _ | ⟨m, inner'⟩
  · rfl
  · by_cases hm : m.length ≤ 16
    · simp only [fits16.2 hm, if_true, Option.bind_some, hm, i128OfBE_eq]
      rcases decodeLenL Limits.impl inner' with _ | ⟨scale, _ | ⟨x, xs⟩⟩ <;> rfl
    · simp only [mt fits16.1 hm, Bool.false_eq_true, if_false, Option.bind_none, Option.bind_some, hm]

/-- The body reads what `bigInner` reads, and succeeds when that is the whole window and the whole
    limit. The function is first computed by the calculus, then compared with `bigInner` along one
    walk: "the limit is used up" on one side is "nothing is left over" on the other. -/
theorem exactW_bigDecimalBody : ExactW bigDecimalBody (fun w L =>
    (bigInner w).bind fun x => if w.length = L then some (x, L) else none) := by
  apply ExactW.congr
  · unfold bigDecimalBody
    apply ExactW.bind exactW_varint; intro l
    apply ExactW.ite (ExactW.fail _)
    apply ExactW.ite (ExactW.fail _)
    apply ExactW.bind (exactW_readExact _); intro b
    apply ExactW.bind exactW_varint; intro sc
    apply ExactW.ite (ExactW.fail _)
    apply ExactW.bind exactW_getLimit; intro left
    exact ExactW.ite (ExactW.fail _) (ExactW.pure _)
  intro w L hw
  rw [bigInner_unfold]
  unfold decodeBytesL takeN
  simp only [decodeLenL_impl_eq]
  rcases hd : decodeVar .i64 w with _ | ⟨i0, k0⟩
  · rfl
  · have hk0 := decodeVar_le hd
    simp only [Option.bind_some]
    by_cases h1 : i0 < 0
    · simp only [h1, if_true, Option.map_none, Option.bind_none]
    by_cases h3 : i0.toNat ≤ (w.drop k0).length
    · simp only [h1, h3, if_true, if_false, Option.bind_some, List.length_take, Nat.min_eq_left h3]
      by_cases h2 : i0.toNat > 16
      · simp only [h2, if_true, Option.map_none, show ¬ (i0.toNat ≤ 16) by omega, if_false,
          Option.bind_none]
      simp only [h2, if_false, show i0.toNat ≤ 16 by omega, if_true]
      rcases hd2 : decodeVar .i64 ((w.drop k0).drop i0.toNat) with _ | ⟨sc, k2⟩
      · rfl
      · have hk2 := decodeVar_le hd2
        simp only [List.length_drop] at hk2 h3
        simp only [Option.bind_some]
        by_cases h4 : sc < 0
        · simp only [h4, true_or, if_true, Option.map_none, Option.bind_none]
        simp only [h4, false_or, if_false]
        by_cases h5 : w.length - k0 - i0.toNat ≤ k2
        · have e : List.drop k2 (List.drop i0.toNat (List.drop k0 w)) = [] :=
            List.drop_eq_nil_iff.2 (by simp only [List.length_drop]; exact h5)
          rw [e]
          by_cases h6 : sc ≥ 4294967296
          · simp only [h6, if_true, Option.map_none, show ¬ (sc.toNat < 4294967296) by omega,
              if_false, Option.bind_none]
          by_cases hL : w.length = L
          · have e2 : k0 + (i0.toNat + (k2 + 0)) = L := by omega
            have e3 : L - k0 - i0.toNat - k2 = 0 := by omega
            simp only [h6, e3, if_false, ne_eq, not_true_eq_false, Option.map_some, e2,
              show sc.toNat < 4294967296 by omega, if_true, Option.bind_some, hL]
          · have e3 : ¬ (L - k0 - i0.toNat - k2 = 0) := by omega
            simp only [h6, e3, if_false, if_true, ne_eq, Option.some.injEq, not_false_eq_true,
              Option.map_none, show sc.toNat < 4294967296 by omega, Option.bind_some, hL]
        · obtain ⟨x, xs, e⟩ := List.exists_cons_of_ne_nil (l :=
              List.drop k2 (List.drop i0.toNat (List.drop k0 w)))
            (fun e => h5 (by
              have := List.drop_eq_nil_iff.1 e
              simpa only [List.length_drop] using this))
          have e3 : ¬ (L - k0 - i0.toNat - k2 = 0) := by omega
          rw [e]
          simp only [e3, ne_eq, Option.some.injEq, not_false_eq_true, if_true, Option.map_none,
            Option.bind_none]
          split <;> rfl
    · simp only [h1, h3, if_false, Option.bind_none]
      split <;> rfl

/-- the specification's reading of a big-decimal, with the implementation's limits -/
def bigSpec (bs : Bytes) : Option ((Int × Nat) × Bytes) :=
  (decodeBytesL Limits.impl bs).bind fun q => (bigInner q.1).map fun x => (x, q.2)

theorem exact_readBigRaw : Exact readBigRaw bigSpec := by
  intro s hs bs
  show okOf ((readLen >>= fun n => setLimit (some n) >>= fun _ => withLimitCleared bigDecimalBody)
    (s.mk' bs none)) = _
  rw [okOf_bind]
  simp only [exact_readLen s hs]
  unfold bigSpec decodeBytesL takeN
  rcases decodeLenL Limits.impl bs with _ | ⟨n, r⟩
  · rfl
  · simp only [Option.map_some, Option.bind_some]
    rw [(exactW_bigDecimalBody.take n) s hs r]
    by_cases hn : n ≤ r.length
    · have hl : (r.take n).length = n := by rw [List.length_take]; omega
      simp only [hn, if_true, Option.bind_some, hl]
      rcases bigInner (r.take n) with _ | x <;> rfl
    · have hl : ¬ ((r.take n).length = n) := by rw [List.length_take]; omega
      simp only [hn, if_false, Option.bind_none, hl]
      rcases bigInner (r.take n) with _ | x <;> rfl

/-! ### `read_decimal`: the reads, then the visitor call -/

theorem exact_readDecimalRaw_bytes (scale : Nat) : Exact (readDecimalRaw (.regular scale .bytes))
    (fun bs => (decodeBytesL Limits.impl bs).bind fun p =>
      if p.1.length ≤ 16 then some ((i128OfBE p.1, scale), p.2) else none) := by
  intro s hs bs
  simp only [readDecimalRaw]
  rw [okOf_bind, exact_readLen s hs]
  show _ = Option.map _ ((decodeBytesL Limits.impl bs).bind _)
  unfold decodeBytesL
  rcases decodeLenL Limits.impl bs with _ | ⟨n, r⟩
  · rfl
  · simp only [Option.map_some, Option.bind_some]
    by_cases h16 : n > 16
    · simp only [h16, if_true, okOf_fail]
      rcases ht : takeN n r with _ | ⟨b, r'⟩
      · rfl
      · simp only [Option.bind_some, (takeN_eq ht).2, show ¬ (n ≤ 16) by omega, if_false, Option.map_none]
    · simp only [h16, if_false, okOf_bind, exact_readExact n s hs]
      rcases ht : takeN n r with _ | ⟨b, r'⟩
      · rfl
      · simp only [Option.map_some, Option.bind_some, (takeN_eq ht).2, show n ≤ 16 by omega, if_true]
        rfl

theorem exact_readDecimalRaw_fixed (scale : Nat) (nm : Name) (size : Nat) :
    Exact (readDecimalRaw (.regular scale (.fixed nm size)))
      (fun bs => if size ≤ 16 then (takeN size bs).map fun p => ((i128OfBE p.1, scale), p.2) else none) := by
  intro s hs bs
  simp only [readDecimalRaw]
  by_cases h16 : size > 16
  · simp only [h16, if_true, okOf_fail, show ¬ (size ≤ 16) by omega, if_false, Option.map_none]
  · simp only [h16, if_false, okOf_bind, exact_readExact size s hs, show size ≤ 16 by omega, if_true]
    rcases takeN size bs with _ | ⟨b, r'⟩ <;> rfl

/-- for a `deserialize_any` or string target the visitor gets the decimal's string -/
theorem exact_decimalTail_str (ext : DeExt) (p : Int × Nat) : Exact (decimalTail ext .str p)
    (fun bs => (ext.decToString p.1 p.2).map fun str => (.str str false, bs)) := by
  intro s hs bs
  obtain ⟨u, sc⟩ := p
  have tail : ∀ st : RState, okOf ((match ext.decToString u sc with
      | none => DeM.fail DeErr.custom
      | some s =>
        if DecHint.str = DecHint.f64 then
          match ext.decToF64 u sc with
          | some bits => pure (Out.f64 bits)
          | none => pure (Out.str s false)
        else pure (Out.str s false) : DeM Out) st) =
      (ext.decToString u sc).map fun str => (.str str false, st) := by
    intro st; cases ext.decToString u sc <;> rfl
  unfold decimalTail
  simp only []
  split <;> exact (tail _).trans (by cases ext.decToString u sc <;> rfl)

theorem exact_readDecimal_str {ext : DeExt} {mode : DecMode} {f : Bytes → Option ((Int × Nat) × Bytes)}
    (h : Exact (readDecimalRaw mode) f) : Exact (readDecimal ext mode .str) (fun bs =>
      (f bs).bind fun p => (ext.decToString p.1.1 p.1.2).map fun str => (.str str false, p.2)) := by
  rw [readDecimal_raw_tail]
  exact h.bind fun p => exact_decimalTail_str ext p

end Avro.Impl
