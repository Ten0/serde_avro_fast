import AvroModel.Spec.Observe
/-
Measures of a value next to its observation (`depthOf`, `maxLen`, `fixedDecOk`), and observations
and measures of concatenated lists, used where the deserializer's loops append block after block.
Last, in `namespace Avro.Impl`: what `observe` needs of `rust_decimal`'s range (`decToStringModel_some`).
-/
namespace Avro.Spec
open Avro Avro.Impl

mutual
/-- number of nested array / map / union / record levels (each costs one unit of the
    deserializer's depth budget) -/
def depthOf : Value → Nat
  | .array items => 1 + depthItems items
  | .map entries => 1 + depthEntries entries
  | .union _ v => 1 + depthOf v
  | .record fields => 1 + depthItems fields
  | _ => 0
def depthItems : List Value → Nat
  | [] => 0
  | v :: vs => max (depthOf v) (depthItems vs)
def depthEntries : List (String × Value) → Nat
  | [] => 0
  | (_, v) :: es => max (depthOf v) (depthEntries es)
end

mutual
/-- the number of items of the longest array or map anywhere in the value (compared with
    `cfg.maxSeqSize`, the deserializer's `max_seq_size`) -/
def maxLen : Value → Nat
  | .array items => max items.length (maxLenItems items)
  | .map entries => max entries.length (maxLenEntries entries)
  | .union _ v => maxLen v
  | .record fields => maxLenItems fields
  | _ => 0
def maxLenItems : List Value → Nat
  | [] => 0
  | v :: vs => max (maxLen v) (maxLenItems vs)
def maxLenEntries : List (String × Value) → Nat
  | [] => 0
  | (_, v) :: es => max (maxLen v) (maxLenEntries es)
end

mutual
/-- every decimal of the value that sits on a `fixed` has at most 16 bytes (an `i128`): the
    deserializer refuses larger ones whatever their content -/
def fixedDecOk (S : Schema) (n : Node) : Value → Bool
  | .decimal _ =>
    match n with
    | .decimal _ _ (.fixed _ size) => decide (size ≤ 16)
    | _ => true
  | .union idx v =>
    match n with
    | .union vs =>
      match vs[idx]? with
      | none => true
      | some k => match S[k]? with
        | none => true
        | some branch => fixedDecOk S branch v
    | _ => true
  | .array items =>
    match n with
    | .array k => match S[k]? with
      | none => true
      | some item => fixedDecOkItems S item items
    | _ => true
  | .map entries =>
    match n with
    | .map k => match S[k]? with
      | none => true
      | some item => fixedDecOkEntries S item entries
    | _ => true
  | .record vals =>
    match n with
    | .record _ fields => fixedDecOkFields S fields vals
    | _ => true
  | _ => true
def fixedDecOkItems (S : Schema) (item : Node) : List Value → Bool
  | [] => true
  | v :: vs => fixedDecOk S item v && fixedDecOkItems S item vs
def fixedDecOkEntries (S : Schema) (item : Node) : List (String × Value) → Bool
  | [] => true
  | (_, v) :: es => fixedDecOk S item v && fixedDecOkEntries S item es
def fixedDecOkFields (S : Schema) : List (String × Nat) → List Value → Bool
  | (_, k) :: fs, v :: vs =>
    (match S[k]? with
      | none => true
      | some fnode => fixedDecOk S fnode v) && fixedDecOkFields S fs vs
  | _, _ => true
end

theorem observeList_cons_eq_some {S : Schema} {item : Node} {v : Value} {vs : List Value}
    {os : List Out} :
    observeList S item (v :: vs) = some os ↔
      ∃ o os0, observe S item v = some o ∧ observeList S item vs = some os0 ∧ os = o :: os0 := by
  rw [observeList]
  constructor
  · intro h
    split at h
    · rename_i o os0 ho hos
      cases h
      exact ⟨o, os0, ho, hos, rfl⟩
    · cases h
  · rintro ⟨o, os0, ho, hos, rfl⟩
    simp only [ho, hos]

theorem observeEntries_cons_eq_some {S : Schema} {item : Node} {k : String} {v : Value}
    {es : List (String × Value)} {os : List (Out × Out)} :
    observeEntries S item ((k, v) :: es) = some os ↔
      ∃ o os0, observe S item v = some o ∧ observeEntries S item es = some os0 ∧
        os = (.str k true, o) :: os0 := by
  rw [observeEntries]
  constructor
  · intro h
    split at h
    · rename_i o os0 ho hos
      cases h
      exact ⟨o, os0, ho, hos, rfl⟩
    · cases h
  · rintro ⟨o, os0, ho, hos, rfl⟩
    simp only [ho, hos]

theorem observeFields_cons_eq_some {S : Schema} {name : String} {k : Nat} {fs : List (String × Nat)}
    {v : Value} {vs : List Value} {fnode : Node} (hk : S[k]? = some fnode) {os : List (Out × Out)} :
    observeFields S ((name, k) :: fs) (v :: vs) = some os ↔
      ∃ o os0, observe S fnode v = some o ∧ observeFields S fs vs = some os0 ∧
        os = (.str name false, o) :: os0 := by
  simp only [observeFields, hk]
  constructor
  · intro h
    split at h
    · rename_i o os0 ho hos
      cases h
      exact ⟨o, os0, ho, hos, rfl⟩
    · cases h
  · rintro ⟨o, os0, ho, hos, rfl⟩
    simp only [ho, hos]

theorem observeList_append (S : Schema) (item : Node) : ∀ (a b : List Value) (os : List Out),
    observeList S item (a ++ b) = some os →
    ∃ o1 o2, observeList S item a = some o1 ∧ observeList S item b = some o2 ∧ os = o1 ++ o2 := by
  intro a
  induction a with
  | nil => intro b os h; exact ⟨[], os, rfl, h, rfl⟩
  | cons v a ih =>
    intro b os h
    obtain ⟨o, os0, ho, hos, rfl⟩ := observeList_cons_eq_some.1 h
    obtain ⟨o1, o2, h1, h2, rfl⟩ := ih b os0 hos
    exact ⟨o :: o1, o2, observeList_cons_eq_some.2 ⟨o, o1, ho, h1, rfl⟩, h2, rfl⟩

theorem observeList_append_some (S : Schema) (item : Node) : ∀ (a b : List Value) (o1 o2 : List Out),
    observeList S item a = some o1 → observeList S item b = some o2 →
    observeList S item (a ++ b) = some (o1 ++ o2) := by
  intro a
  induction a with
  | nil =>
    intro b o1 o2 h1 h2
    cases h1
    exact h2
  | cons v a ih =>
    intro b o1 o2 h1 h2
    obtain ⟨o, os0, ho, hos, rfl⟩ := observeList_cons_eq_some.1 h1
    exact observeList_cons_eq_some.2 ⟨o, os0 ++ o2, ho, ih b os0 o2 hos h2, rfl⟩

theorem observeEntries_append (S : Schema) (item : Node) :
    ∀ (a b : List (String × Value)) (os : List (Out × Out)),
    observeEntries S item (a ++ b) = some os →
    ∃ o1 o2, observeEntries S item a = some o1 ∧ observeEntries S item b = some o2 ∧
      os = o1 ++ o2 := by
  intro a
  induction a with
  | nil => intro b os h; exact ⟨[], os, rfl, h, rfl⟩
  | cons kv a ih =>
    obtain ⟨k, v⟩ := kv
    intro b os h
    obtain ⟨o, os0, ho, hos, rfl⟩ := observeEntries_cons_eq_some.1 h
    obtain ⟨o1, o2, h1, h2, rfl⟩ := ih b os0 hos
    exact ⟨(.str k true, o) :: o1, o2, observeEntries_cons_eq_some.2 ⟨o, o1, ho, h1, rfl⟩, h2, rfl⟩

theorem observeEntries_append_some (S : Schema) (item : Node) :
    ∀ (a b : List (String × Value)) (o1 o2 : List (Out × Out)),
    observeEntries S item a = some o1 → observeEntries S item b = some o2 →
    observeEntries S item (a ++ b) = some (o1 ++ o2) := by
  intro a
  induction a with
  | nil =>
    intro b o1 o2 h1 h2
    cases h1
    exact h2
  | cons kv a ih =>
    obtain ⟨k, v⟩ := kv
    intro b o1 o2 h1 h2
    obtain ⟨o, os0, ho, hos, rfl⟩ := observeEntries_cons_eq_some.1 h1
    exact observeEntries_cons_eq_some.2 ⟨o, os0 ++ o2, ho, ih b os0 o2 hos h2, rfl⟩

theorem depthItems_append (a b : List Value) :
    depthItems (a ++ b) = max (depthItems a) (depthItems b) := by
  induction a with
  | nil => rw [List.nil_append, depthItems, Nat.zero_max]
  | cons v a ih => rw [List.cons_append, depthItems, depthItems, ih, Nat.max_assoc]

theorem maxLenItems_append (a b : List Value) :
    maxLenItems (a ++ b) = max (maxLenItems a) (maxLenItems b) := by
  induction a with
  | nil => rw [List.nil_append, maxLenItems, Nat.zero_max]
  | cons v a ih => rw [List.cons_append, maxLenItems, maxLenItems, ih, Nat.max_assoc]

theorem depthEntries_append (a b : List (String × Value)) :
    depthEntries (a ++ b) = max (depthEntries a) (depthEntries b) := by
  induction a with
  | nil => rw [List.nil_append, depthEntries, Nat.zero_max]
  | cons v a ih => rw [List.cons_append, depthEntries, depthEntries, ih, Nat.max_assoc]

theorem maxLenEntries_append (a b : List (String × Value)) :
    maxLenEntries (a ++ b) = max (maxLenEntries a) (maxLenEntries b) := by
  induction a with
  | nil => rw [List.nil_append, maxLenEntries, Nat.zero_max]
  | cons v a ih => rw [List.cons_append, maxLenEntries, maxLenEntries, ih, Nat.max_assoc]

end Avro.Spec

namespace Avro.Impl
open Avro Avro.Spec

theorem decToStringModel_some {u : Int} {sc : Nat} {str : String}
    (h : decToStringModel u sc = some str) : u.natAbs < 2 ^ 96 ∧ sc ≤ 28 := by
  unfold decToStringModel at h
  split at h
  · cases h
  · omega

end Avro.Impl
