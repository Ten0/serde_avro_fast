import AvroModel.Lemmas.SchemaParse
/-
The cycle check (`check_for_cycles`): a depth-first walk over the record → record edges.

The walk is two relations without fuel, on LISTS of keys (a node is explored through its field
list) so that `induction` applies: `Dfs` (it explores) and `Hits` (it runs into the current path);
whatever the fuelled functions return is in them (`cycle_ran`, `go_ran`).  By induction on them the
explored list is a reverse post-order (`Dfs.topo`) and a hit is a cycle (`Hits.cycle`); with the
fuel `checkForCycles` hands out sufficing, the check decides record-cyclicity
(`checkForCycles_eq_cycle_iff`).
-/
namespace Avro.Impl

/-- record → record edge through a field -/
def recEdge (S : SchemaMut) (i j : Nat) : Prop :=
  isRecord S i = true ∧ isRecord S j = true ∧ j ∈ recordFieldKeys S i

/-- `l` lists records in an order where every record-successor of an element comes later in the
    list (a reverse post-order): the invariant of the `checked` list. -/
def TopoSorted (S : SchemaMut) : List Nat → Prop
  | [] => True
  | c :: l => (∀ j, recEdge S c j → j ∈ l) ∧ TopoSorted S l

theorem TopoSorted.closed {S : SchemaMut} {l : List Nat} (h : TopoSorted S l) {i j : Nat}
    (hi : i ∈ l) (e : recEdge S i j) : j ∈ l := by
  induction l with
  | nil => cases hi
  | cons c l ih =>
    obtain ⟨h1, h2⟩ := h
    rcases List.mem_cons.mp hi with rfl | hi
    · exact List.mem_cons_of_mem _ (h1 j e)
    · exact List.mem_cons_of_mem _ (ih h2 hi)

theorem TopoSorted.closed_trans {S : SchemaMut} {l : List Nat} (h : TopoSorted S l) {i j : Nat}
    (hi : i ∈ l) (p : Relation.TransGen (recEdge S) i j) : j ∈ l := by
  induction p with
  | single e => exact h.closed hi e
  | tail _ e ih => exact h.closed ih e

theorem transGen_head {α} {r : α → α → Prop} {a c : α} (p : Relation.TransGen r a c) :
    ∃ b, r a b ∧ (b = c ∨ Relation.TransGen r b c) := by
  induction p with
  | single e => exact ⟨_, e, Or.inl rfl⟩
  | tail _ e ih =>
    obtain ⟨b, hab, hb⟩ := ih
    refine ⟨b, hab, Or.inr ?_⟩
    rcases hb with rfl | hb
    · exact .single e
    · exact .tail hb e

theorem TopoSorted.acyclic {S : SchemaMut} {l : List Nat} (h : TopoSorted S l) {i : Nat}
    (hi : i ∈ l) : ¬ Relation.TransGen (recEdge S) i i := by
  induction l with
  | nil => cases hi
  | cons c l ih =>
    intro p
    obtain ⟨h1, h2⟩ := h
    by_cases hil : i ∈ l
    · exact ih h2 hil p
    · rcases List.mem_cons.mp hi with rfl | hi'
      · obtain ⟨b, hab, hb⟩ := transGen_head p
        have hbl := h1 b hab
        rcases hb with rfl | hb
        · exact hil hbl
        · exact hil (h2.closed_trans hbl hb)
      · exact hil hi'


theorem isRecord_lt {S : SchemaMut} {i : Nat} (h : isRecord S i = true) : i < S.size := by
  unfold isRecord at h
  cases Nat.lt_or_ge i S.size with
  | inl h' => exact h'
  | inr h' => rw [Array.getElem?_eq_none h'] at h; simp at h


theorem recordFieldKeys_length_le (S : SchemaMut) (idx : Nat) :
    (recordFieldKeys S idx).length ≤ maxWidth S := by
  unfold recordFieldKeys
  cases h : S[idx]? with
  | none => simp
  | some n =>
    obtain ⟨ty, lg⟩ := n
    cases ty <;> simp only [List.length_nil, Nat.zero_le]
    rename_i nm fs
    simp only [List.length_map]
    unfold maxWidth
    apply (le_foldl_max _ 0).2
    simp only [List.mem_map]
    refine ⟨⟨.record nm fs, lg⟩, ?_, rfl⟩
    have : idx < S.size := by
      cases Nat.lt_or_ge idx S.size with
      | inl h' => exact h'
      | inr h' => rw [Array.getElem?_eq_none h'] at h; cases h
    rw [Array.getElem?_eq_getElem this] at h
    simp only [Option.some.injEq] at h
    rw [← h]
    simp

def CycleState.enter (cs : CycleState) (k : Nat) : CycleState :=
  { cs with visited := k :: cs.visited }

def CycleState.leave (cs : CycleState) (k : Nat) : CycleState :=
  { visited := cs.visited.erase k, checked := k :: cs.checked }

theorem cycleInner_succ (S : SchemaMut) (fuel idx : Nat) (cs : CycleState) :
    cycleInner S (fuel + 1) idx cs =
      mapOk (cycleFields S fuel (recordFieldKeys S idx) (cs.enter idx)) (·.leave idx) := by
  rw [cycleInner]; unfold mapOk CycleState.enter
  generalize cycleFields S fuel _ _ = r; cases r <;> rfl

theorem cycleFields_nil (S : SchemaMut) (fuel : Nat) (cs : CycleState) :
    cycleFields S fuel [] cs = .ok cs := by
  cases fuel <;> rfl

theorem cycleFields_cons (S : SchemaMut) (fuel k : Nat) (rest : List Nat) (cs : CycleState) :
    cycleFields S (fuel + 1) (k :: rest) cs =
      if isRecord S k then
        if cs.visited.contains k then .error .cycle
        else if cs.checked.contains k then cycleFields S fuel rest cs
        else andThen (cycleInner S fuel k cs) (fun cs => cycleFields S fuel rest cs)
      else cycleFields S fuel rest cs := by
  rw [cycleFields]; unfold andThen
  split
  · split
    · rfl
    · split
      · rfl
      · generalize cycleInner S fuel _ _ = r; cases r <;> rfl
  · rfl


/-! ### the walk as two relations -/

/-- `k` is not explored from `cs`: it is no record, or it is entirely explored -/
def Skips (S : SchemaMut) (cs : CycleState) (k : Nat) : Prop :=
  isRecord S k = false ∨ (cs.visited.contains k = false ∧ cs.checked.contains k = true)

/-- `k` is explored from `cs`: a record neither on the path nor explored -/
def Opens (S : SchemaMut) (cs : CycleState) (k : Nat) : Prop :=
  isRecord S k = true ∧ cs.visited.contains k = false ∧ cs.checked.contains k = false

/-- The walk explores the keys `ks` from `cs` without meeting the current path, and ends in `cs'`. -/
inductive Dfs (S : SchemaMut) : List Nat → CycleState → CycleState → Prop
  | nil {cs} : Dfs S [] cs cs
  | skip {k rest cs cs'} (hk : Skips S cs k) (hrest : Dfs S rest cs cs') : Dfs S (k :: rest) cs cs'
  | visit {k rest cs cs1 cs'} (hk : Opens S cs k)
      (hkids : Dfs S (recordFieldKeys S k) (cs.enter k) cs1) (hrest : Dfs S rest (cs1.leave k) cs') :
      Dfs S (k :: rest) cs cs'

/-- The walk over `ks` from `cs` meets a node of the current path. -/
inductive Hits (S : SchemaMut) : List Nat → CycleState → Prop
  | here {k rest cs} (hr : isRecord S k = true) (hv : cs.visited.contains k = true) :
      Hits S (k :: rest) cs
  | skip {k rest cs} (hk : Skips S cs k) (hrest : Hits S rest cs) : Hits S (k :: rest) cs
  | inner {k rest cs} (hk : Opens S cs k) (hkids : Hits S (recordFieldKeys S k) (cs.enter k)) :
      Hits S (k :: rest) cs
  | later {k rest cs cs1} (hk : Opens S cs k)
      (hkids : Dfs S (recordFieldKeys S k) (cs.enter k) cs1) (hrest : Hits S rest (cs1.leave k)) :
      Hits S (k :: rest) cs

/-- what a result of the fuelled walk over `ks` from `cs` means -/
def Ran (S : SchemaMut) (ks : List Nat) (cs : CycleState) : Except SchemaErr CycleState → Prop
  | .ok cs' => Dfs S ks cs cs'
  | .error .cycle => Hits S ks cs
  | .error .panic => True
  | .error _ => False

/-- … and of the walk of one node: that of its field list, the node then leaving the path -/
def RanNode (S : SchemaMut) (k : Nat) (cs : CycleState) : Except SchemaErr CycleState → Prop
  | .ok cs' => ∃ cs1, Dfs S (recordFieldKeys S k) (cs.enter k) cs1 ∧ cs' = cs1.leave k
  | .error .cycle => Hits S (recordFieldKeys S k) (cs.enter k)
  | .error .panic => True
  | .error _ => False

theorem Ran.skip {S : SchemaMut} {k rest cs r} (hk : Skips S cs k) (h : Ran S rest cs r) :
    Ran S (k :: rest) cs r := by
  cases r with
  | ok cs' => exact Dfs.skip hk h
  | error e => cases e <;> first | exact Hits.skip hk h | exact h

theorem Ran.visit {S : SchemaMut} {k rest cs cs1 r} (hk : Opens S cs k)
    (hkids : Dfs S (recordFieldKeys S k) (cs.enter k) cs1) (h : Ran S rest (cs1.leave k) r) :
    Ran S (k :: rest) cs r := by
  cases r with
  | ok cs' => exact Dfs.visit hk hkids h
  | error e => cases e <;> first | exact Hits.later hk hkids h | exact h

theorem Ran.error {S : SchemaMut} {ks cs e} (h : Ran S ks cs (.error e)) :
    e = .cycle ∨ e = .panic := by
  cases e <;> first | exact .inl rfl | exact .inr rfl | cases h

theorem cycle_ran (S : SchemaMut) (fuel : Nat) :
    (∀ k cs, RanNode S k cs (cycleInner S fuel k cs)) ∧
    (∀ ks cs, Ran S ks cs (cycleFields S fuel ks cs)) := by
  induction fuel with
  | zero =>
    refine ⟨fun k cs => trivial, fun ks cs => ?_⟩
    cases ks with
    | nil => exact Dfs.nil
    | cons k ks => trivial
  | succ fuel ih =>
    obtain ⟨ihI, ihF⟩ := ih
    refine ⟨fun k cs => ?_, fun ks cs => ?_⟩
    · rw [cycleInner_succ]
      have := ihF (recordFieldKeys S k) (cs.enter k)
      revert this
      generalize cycleFields S fuel _ _ = r
      cases r with
      | ok cs1 => exact fun h => ⟨cs1, h, rfl⟩
      | error e => cases e <;> exact id
    · cases ks with
      | nil => rw [cycleFields_nil]; exact Dfs.nil
      | cons k rest =>
        rw [cycleFields_cons]
        cases hr : isRecord S k with
        | false => exact (ihF rest cs).skip (.inl hr)
        | true =>
          cases hv : cs.visited.contains k with
          | true => exact Hits.here hr hv
          | false =>
            cases hc : cs.checked.contains k with
            | true => exact (ihF rest cs).skip (.inr ⟨hv, hc⟩)
            | false =>
              simp only [if_true, Bool.false_eq_true, if_false]
              have := ihI k cs
              revert this
              generalize cycleInner S fuel k cs = r
              cases r with
              | ok a => rintro ⟨cs1, hkids, rfl⟩; exact (ihF rest _).visit ⟨hr, hv, hc⟩ hkids
              | error e => cases e <;> first | exact Hits.inner ⟨hr, hv, hc⟩ | exact id

theorem cycleInner_ran {S : SchemaMut} {fuel k : Nat} {cs cs' : CycleState}
    (h : cycleInner S fuel k cs = .ok cs') :
    ∃ cs1, Dfs S (recordFieldKeys S k) (cs.enter k) cs1 ∧ cs' = cs1.leave k := by
  have := (cycle_ran S fuel).1 k cs
  rwa [h] at this

/-! ### what an exploration does -/

theorem Dfs.visited {S : SchemaMut} {ks cs cs'} (h : Dfs S ks cs cs') :
    cs'.visited = cs.visited := by
  induction h with
  | nil => rfl
  | skip _ _ ih => exact ih
  | visit _ _ _ ih1 ih2 =>
    rw [ih2, CycleState.leave, ih1]
    exact List.erase_cons_head ..

theorem Dfs.checked_sub {S : SchemaMut} {ks cs cs'} (h : Dfs S ks cs cs') :
    ∀ x ∈ cs.checked, x ∈ cs'.checked := by
  induction h with
  | nil => exact fun _ h => h
  | skip _ _ ih => exact ih
  | visit _ _ _ ih1 ih2 => exact fun x hx => ih2 x (List.mem_cons_of_mem _ (ih1 x hx))

theorem Dfs.topo {S : SchemaMut} {ks cs cs'} (h : Dfs S ks cs cs')
    (hs : TopoSorted S cs.checked) :
    TopoSorted S cs'.checked ∧ ∀ k ∈ ks, isRecord S k = true → k ∈ cs'.checked := by
  induction h with
  | nil => exact ⟨hs, fun _ h => nomatch h⟩
  | @skip k _ cs _ hk hrest ih =>
    obtain ⟨s1, all1⟩ := ih hs
    refine ⟨s1, fun x hx hr => ?_⟩
    rcases List.mem_cons.mp hx with rfl | hx
    · rcases hk with hk | ⟨-, hk⟩
      · rw [hk] at hr; cases hr
      · exact hrest.checked_sub _ (by simpa using hk)
    · exact all1 x hx hr
  | @visit k _ cs cs1 _ hk hkids hrest ih1 ih2 =>
    obtain ⟨s1, all1⟩ := ih1 hs
    obtain ⟨s2, all2⟩ := ih2 ⟨fun j e => all1 j e.2.2 e.2.1, s1⟩
    refine ⟨s2, fun x hx hr => ?_⟩
    rcases List.mem_cons.mp hx with rfl | hx
    · exact hrest.checked_sub _ List.mem_cons_self
    · exact all2 x hx hr

/-- The `visited` list is a path: each element is a field type of the next one (the list is in
    reverse visiting order). -/
def VisChain (S : SchemaMut) : List Nat → Prop
  | [] => True
  | [_] => True
  | a :: b :: l => recEdge S b a ∧ VisChain S (b :: l)

theorem VisChain.reach {S : SchemaMut} {idx : Nat} {vs : List Nat} (h : VisChain S (idx :: vs))
    {k : Nat} (hk : k ∈ idx :: vs) : k = idx ∨ Relation.TransGen (recEdge S) k idx := by
  induction vs generalizing idx with
  | nil => simp at hk; exact Or.inl hk
  | cons b l ih =>
    rcases List.mem_cons.mp hk with rfl | hk
    · exact Or.inl rfl
    · obtain ⟨e, hc⟩ := h
      rcases ih hc hk with rfl | p
      · exact Or.inr (.single e)
      · exact Or.inr (.tail p e)


theorem Hits.cycle {S : SchemaMut} {ks cs} (h : Hits S ks cs) (hch : VisChain S cs.visited)
    (hks : ∀ idx tl, cs.visited = idx :: tl →
      isRecord S idx = true ∧ ∀ k ∈ ks, k ∈ recordFieldKeys S idx) :
    ∃ i, Relation.TransGen (recEdge S) i i := by
  have enter : ∀ {k rest cs}, Opens S cs k → VisChain S cs.visited →
      (∀ idx tl, cs.visited = idx :: tl →
        isRecord S idx = true ∧ ∀ x ∈ k :: rest, x ∈ recordFieldKeys S idx) →
      VisChain S (cs.enter k).visited ∧ ∀ idx tl, (cs.enter k).visited = idx :: tl →
        isRecord S idx = true ∧ ∀ x ∈ recordFieldKeys S k, x ∈ recordFieldKeys S idx := by
    intro k rest cs hk hch hks
    refine ⟨?_, fun idx tl e => by cases e; exact ⟨hk.1, fun _ h => h⟩⟩
    show VisChain S (k :: cs.visited)
    cases hv : cs.visited with
    | nil => trivial
    | cons idx tl =>
      obtain ⟨hrec, hmem⟩ := hks idx tl hv
      exact ⟨⟨hrec, hk.1, hmem k List.mem_cons_self⟩, hv ▸ hch⟩
  have tail : ∀ {k rest} {cs : CycleState}, (∀ idx tl, cs.visited = idx :: tl →
        isRecord S idx = true ∧ ∀ x ∈ k :: rest, x ∈ recordFieldKeys S idx) →
      ∀ idx tl, cs.visited = idx :: tl →
        isRecord S idx = true ∧ ∀ x ∈ rest, x ∈ recordFieldKeys S idx :=
    fun h idx tl e => ⟨(h idx tl e).1, fun x hx => (h idx tl e).2 x (List.mem_cons_of_mem _ hx)⟩
  induction h with
  | @here k _ cs hr hv =>
    have hmem : k ∈ cs.visited := by simpa using hv
    cases hvis : cs.visited with
    | nil => rw [hvis] at hmem; cases hmem
    | cons idx tl =>
      obtain ⟨hrec, hin⟩ := hks idx tl hvis
      have hedge : recEdge S idx k := ⟨hrec, hr, hin k List.mem_cons_self⟩
      rcases (hvis ▸ hch).reach (hvis ▸ hmem) with rfl | p
      · exact ⟨k, .single hedge⟩
      · exact ⟨idx, .trans (.single hedge) p⟩
  | skip _ _ ih => exact ih hch (tail hks)
  | inner hk _ ih =>
    obtain ⟨h1, h2⟩ := enter hk hch hks
    exact ih h1 h2
  | later hk hkids _ ih =>
    have hv : (_ : CycleState).visited = _ := (Dfs.visited (Dfs.visit hk hkids .nil))
    exact ih (hv ▸ hch) (hv ▸ tail hks)

/-! ### the fuel of the cycle check suffices -/

/-- indices on the path or entirely explored only accumulate -/
def CycLe (cs cs' : CycleState) : Prop :=
  ∀ i, (i ∈ cs.visited ∨ i ∈ cs.checked) → (i ∈ cs'.visited ∨ i ∈ cs'.checked)


theorem cycleInner_le {S : SchemaMut} {fuel k : Nat} {cs cs' : CycleState}
    (h : cycleInner S fuel k cs = .ok cs') : CycLe cs cs' := by
  obtain ⟨cs1, hkids, rfl⟩ := cycleInner_ran h
  have hv : cs1.visited = k :: cs.visited := hkids.visited
  intro i hi
  by_cases e : i = k
  · exact .inr (e ▸ List.mem_cons_self)
  · rcases hi with hi | hi
    · exact .inl (by
        show i ∈ cs1.visited.erase k
        rw [hv, List.erase_cons_head]; exact hi)
    · exact .inr (List.mem_cons_of_mem _ (hkids.checked_sub i hi))

/-- records that are neither on the path nor explored -/
def cycMeasure (S : SchemaMut) (cs : CycleState) : Nat :=
  (List.range S.size).countP fun i => isRecord S i && !cs.visited.contains i && !cs.checked.contains i

theorem cycMeasure_le_size (S : SchemaMut) (cs : CycleState) : cycMeasure S cs ≤ S.size := by
  unfold cycMeasure
  have := List.countP_le_length (p := fun i => isRecord S i && !cs.visited.contains i && !cs.checked.contains i)
    (l := List.range S.size)
  simpa using this

theorem cycMeasure_mono (S : SchemaMut) {cs cs' : CycleState} (h : CycLe cs cs') :
    cycMeasure S cs' ≤ cycMeasure S cs := by
  apply List.countP_mono_left
  intro x _ hx
  simp only [Bool.and_eq_true, Bool.not_eq_true', List.contains_eq_mem, decide_eq_false_iff_not] at hx ⊢
  refine ⟨⟨hx.1.1, fun hm => ?_⟩, fun hm => ?_⟩
  · rcases h x (Or.inl hm) with h' | h'
    · exact hx.1.2 h'
    · exact hx.2 h'
  · rcases h x (Or.inr hm) with h' | h'
    · exact hx.1.2 h'
    · exact hx.2 h'

theorem cycMeasure_push (S : SchemaMut) (cs : CycleState) (k : Nat) (hr : isRecord S k = true)
    (hv : k ∉ cs.visited) (hc : k ∉ cs.checked) :
    cycMeasure S { cs with visited := k :: cs.visited } + 1 ≤ cycMeasure S cs := by
  apply countP_lt_of _ _ _ _ k (List.mem_range.mpr (isRecord_lt hr))
  · simp [hr, hv, hc]
  · simp
  · intro x _ hx
    simp only [Bool.and_eq_true, Bool.not_eq_true', List.contains_eq_mem, decide_eq_false_iff_not,
      List.mem_cons, not_or] at hx ⊢
    exact ⟨⟨hx.1.1, hx.1.2.2⟩, hx.2⟩


/-- `d` bounds the records that can still be opened (`cycMeasure`); opening one costs 1
    (`cycleInner`) plus at most `maxWidth S` (its field list) -/
theorem cyc_total_aux (S : SchemaMut) : ∀ fuel,
    (∀ idx cs d, cycMeasure S { cs with visited := idx :: cs.visited } ≤ d →
      (d + 1) * (maxWidth S + 1) ≤ fuel → NP (cycleInner S fuel idx cs)) ∧
    (∀ ks cs d, cycMeasure S cs ≤ d → ks.length + d * (maxWidth S + 1) ≤ fuel →
      NP (cycleFields S fuel ks cs)) := by
  intro fuel
  induction fuel with
  | zero =>
    refine ⟨fun idx cs d _ h => ?_, fun ks cs d _ h => ?_⟩
    · rw [Nat.succ_mul] at h; omega
    · cases ks with
      | nil => exact NP_ok _
      | cons k rest => simp at h
  | succ fuel ih =>
    obtain ⟨ih1, ih2⟩ := ih
    refine ⟨?_, ?_⟩
    · intro idx cs d hd hfuel
      rw [cycleInner_succ]
      apply mapOk_NP
      have := recordFieldKeys_length_le S idx
      rw [Nat.succ_mul] at hfuel
      exact ih2 _ _ d hd (by omega)
    · intro ks cs d hd hfuel
      cases ks with
      | nil => rw [cycleFields_nil]; exact NP_ok _
      | cons k rest =>
        rw [cycleFields_cons]
        simp only [List.length_cons] at hfuel
        split
        next hr =>
          split
          · intro h; cases h
          next hv =>
            split
            · exact ih2 _ _ d hd (by omega)
            next hc =>
              have hv' : k ∉ cs.visited := by simpa using hv
              have hc' : k ∉ cs.checked := by simpa using hc
              have hpush := cycMeasure_push S cs k hr hv' hc'
              obtain ⟨d', rfl⟩ : ∃ d', d = d' + 1 := ⟨d - 1, by omega⟩
              refine andThen_NP (ih1 _ _ d' (by omega) (by omega)) fun a ha => ?_
              have := cycMeasure_mono S (cycleInner_le ha)
              exact ih2 _ _ (d' + 1) (by omega) (by omega)
        · exact ih2 _ _ d hd (by omega)


/-- `checkForCycles` with the fuel of the inner calls as a parameter. -/
def checkForCyclesF (S : SchemaMut) (F : Nat) : Except SchemaErr Unit :=
  let rec go : Nat → Nat → CycleState → Except SchemaErr Unit
    | 0, _, _ => .ok ()
    | n + 1, i, cs =>
      if isRecord S i ∧ ¬ cs.checked.contains i then
        match cycleInner S F i cs with
        | .error e => .error e
        | .ok cs => go n (i + 1) cs
      else go n (i + 1) cs
  go S.size 0 {}

theorem checkForCycles_go_eq (S : SchemaMut) (n i : Nat) (cs : CycleState) :
    checkForCycles.go S n i cs =
      checkForCyclesF.go S ((S.size + 2) * (maxWidth S + 2)) n i cs := by
  induction n generalizing i cs with
  | zero => rfl
  | succ n ih =>
    rw [checkForCycles.go, checkForCyclesF.go]
    split
    · generalize cycleInner S _ i cs = r
      cases r with
      | error e => rfl
      | ok cs' => exact ih _ _
    · exact ih _ _

theorem checkForCycles_eq (S : SchemaMut) :
    checkForCycles S = checkForCyclesF S ((S.size + 2) * (maxWidth S + 2)) :=
  checkForCycles_go_eq S _ _ _

theorem checkForCyclesF_total (S : SchemaMut) (F : Nat)
    (hF : (S.size + 1) * (maxWidth S + 1) ≤ F) : NP (checkForCyclesF S F) := by
  unfold checkForCyclesF
  generalize hn : S.size = n
  generalize (0 : Nat) = i
  generalize ({} : CycleState) = cs
  clear hn
  induction n generalizing i cs with
  | zero => exact NP_ok _
  | succ n ih =>
    rw [checkForCyclesF.go]
    split
    · have h1 : NP (cycleInner S F i cs) :=
        (cyc_total_aux S F).1 i cs S.size (cycMeasure_le_size S _) hF
      cases hr : cycleInner S F i cs with
      | error e =>
        intro h'
        apply h1
        rw [hr]
        simpa using h'
      | ok cs' => exact ih _ _
    · exact ih _ _


/-! ### the outer loop is the walk over all keys -/

theorem go_ran (S : SchemaMut) (F n i : Nat) (cs : CycleState) (hv : cs.visited = []) :
    ∃ r, Ran S (List.range' i n) cs r ∧ checkForCyclesF.go S F n i cs = mapOk r fun _ => () := by
  induction n generalizing i cs with
  | zero => exact ⟨.ok cs, Dfs.nil, rfl⟩
  | succ n ih =>
    rw [checkForCyclesF.go, List.range'_succ]
    have hvc : cs.visited.contains i = false := by rw [hv]; rfl
    split
    · rename_i hc
      have hk : Opens S cs i := ⟨hc.1, hvc, by simpa using hc.2⟩
      have := (cycle_ran S F).1 i cs
      revert this
      generalize cycleInner S F i cs = r
      cases r with
      | ok a =>
        rintro ⟨cs1, hkids, rfl⟩
        have hv1 : (cs1.leave i).visited = [] := by
          rw [(Dfs.visit hk hkids .nil).visited, hv]
        obtain ⟨r, hr, e⟩ := ih (i + 1) _ hv1
        exact ⟨r, hr.visit hk hkids, e⟩
      | error e =>
        intro h
        refine ⟨.error e, ?_, rfl⟩
        cases e <;> first | exact Hits.inner hk h | exact h
    · rename_i hc
      have hk : Skips S cs i := by
        cases hr : isRecord S i with
        | false => exact .inl hr
        | true =>
          cases hcc : cs.checked.contains i with
          | true => exact .inr ⟨hvc, hcc⟩
          | false => exact absurd ⟨hr, by rw [hcc]; decide⟩ hc
      obtain ⟨r, hr, e⟩ := ih (i + 1) cs hv
      exact ⟨r, hr.skip hk, e⟩

theorem checkForCycles_ran (S : SchemaMut) :
    ∃ r, Ran S (List.range' 0 S.size) {} r ∧ checkForCycles S = mapOk r fun _ => () :=
  checkForCycles_eq S ▸ go_ran S _ S.size 0 {} rfl

theorem checkForCycles_ok_topo (S : SchemaMut) (h : checkForCycles S = .ok ()) :
    ∃ L, TopoSorted S L ∧ ∀ x, isRecord S x = true → x ∈ L := by
  obtain ⟨r, hr, e⟩ := checkForCycles_ran S
  rw [h] at e
  cases r with
  | error _ => cases e
  | ok cs' =>
    obtain ⟨s, all⟩ := Dfs.topo hr trivial
    exact ⟨_, s, fun x hx => all x (List.mem_range'_1.mpr ⟨Nat.zero_le _, by
      simpa using isRecord_lt hx⟩) hx⟩

theorem checkForCycles_error (S : SchemaMut) {e : SchemaErr} (h : checkForCycles S = .error e) :
    e = .cycle ∨ e = .panic := by
  obtain ⟨r, hr, e'⟩ := checkForCycles_ran S
  rw [h] at e'
  cases r with
  | ok _ => cases e'
  | error e2 => cases e'; exact hr.error

theorem checkForCycles_cycle_real (S : SchemaMut) (h : checkForCycles S = .error .cycle) :
    ∃ i, Relation.TransGen (recEdge S) i i := by
  obtain ⟨r, hr, e⟩ := checkForCycles_ran S
  rw [h] at e
  cases r with
  | ok _ => cases e
  | error e2 => cases e; exact Hits.cycle hr trivial (fun _ _ h => nomatch h)

theorem checkForCycles_no_panic (S : SchemaMut) : checkForCycles S ≠ .error .panic := by
  rw [checkForCycles_eq]
  exact checkForCyclesF_total S _ (Nat.mul_le_mul (by omega) (by omega))

theorem checkForCycles_eq_cycle_iff (S : SchemaMut) :
    checkForCycles S = .error .cycle ↔ ∃ i, Relation.TransGen (recEdge S) i i := by
  constructor
  · exact checkForCycles_cycle_real S
  · rintro ⟨i, p⟩
    cases h : checkForCycles S with
    | ok u =>
      obtain ⟨L, sL, allL⟩ := checkForCycles_ok_topo S h
      obtain ⟨b, e, -⟩ := transGen_head p
      exact absurd p (sL.acyclic (allL i e.1))
    | error e =>
      rcases checkForCycles_error S h with rfl | rfl
      · rfl
      · exact absurd h (checkForCycles_no_panic S)

end Avro.Impl
