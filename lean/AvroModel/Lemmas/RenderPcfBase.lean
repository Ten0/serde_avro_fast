import AvroModel.Lemmas.RenderSpelling
import AvroModel.Spec.Pcf
/-
What the specification's walks read in a member list, and the text of the canonical objects;
nothing here mentions `render` or `pcf`.  Names: the specification's rules on what
`serialize_name` / `str_for_ref` write (`ref_fullname`, `def_fullname`).  Attributes: `attr` of the
lists the renderer writes, of what the parser's `member` / `readStr` found (`attr_of_member`,
`strAttr_of_readStr`), and the attribute-directed recursions of `Spec/Pcf.lean` through `attr`
(`canonAttr_eq` … `scanFieldsAttr_eq`): what `PcfSpecRaw` and `ValidParses*` import this file for.
`print_*`: the text of each canonical object, for `pcf_of_canonTree`.
-/
namespace Avro.RenderPcf
open Avro Avro.Impl Avro.Spec Avro.Spec.Pcf

/-! ### names -/

/-- What the crate's `Name` can hold (the image of `Name::from_fully_qualified_name`); same
    clauses as `Avro.Impl.Name.WF`. -/
structure NameWF (n : Name) : Prop where
  short_nodot : '.' ∉ n.short.toList
  ns_none : n.ns = none → n.fq = n.short
  ns_some : ∀ x, n.ns = some x → x ≠ "" ∧ n.fq = x ++ "." ++ n.short

def nameWFb (n : Name) : Bool :=
  !n.short.toList.contains '.' &&
    match n.ns with
    | none => n.fq == n.short
    | some x => x != "" && n.fq == x ++ "." ++ n.short

theorem nameWFb_iff (n : Name) : nameWFb n = true ↔ NameWF n := by
  obtain ⟨fq, short, ns⟩ := n
  cases ns with
  | none =>
    simp only [nameWFb, Bool.and_eq_true, Bool.not_eq_true', beq_iff_eq]
    constructor
    · rintro ⟨h1, h2⟩
      exact ⟨by simpa using h1, fun _ => h2, fun x hx => by cases hx⟩
    · intro h
      exact ⟨by simpa using h.short_nodot, h.ns_none rfl⟩
  | some x =>
    simp only [nameWFb, Bool.and_eq_true, Bool.not_eq_true', beq_iff_eq, bne_iff_ne]
    constructor
    · rintro ⟨h1, h2, h3⟩
      refine ⟨by simpa using h1, fun h => (by cases h), ?_⟩
      intro y hy
      cases hy
      exact ⟨h2, h3⟩
    · intro h
      exact ⟨by simpa using h.short_nodot, h.ns_some x rfl⟩

theorem nameWF_iff (n : Name) : NameWF n ↔ n.WF :=
  ⟨fun h => ⟨h.short_nodot, h.ns_none, h.ns_some⟩, fun h => ⟨h.short_nodot, h.ns_none, h.ns_some⟩⟩

theorem fq_text (name : Name) (h : NameWF name) : fullnameText (name.ns, name.short) = name.fq := by
  cases hn : name.ns with
  | none => simp only [fullnameText, h.ns_none hn]
  | some x => simp only [fullnameText, (h.ns_some x hn).2]

/-- **Reference spelling, by the specification's rule**: the string written by `str_for_ref`
    denotes, in the same enclosing namespace, the fullname of the name.  (The parser's key is the
    specification's fullname, `refKey_is_spec`, and the parser reads the reference back as
    the name, `ref_spelling_roundtrip`: not by the case lemmas `fullnameOfRef_nodot` / `_join` of
    `Lemmas/SchemaParse.lean`.) -/
theorem ref_fullname (name : Name) (h : NameWF name) (parentNs : Option String) :
    fullnameOfRef (refString parentNs name) parentNs = (name.ns, name.short) := by
  obtain ⟨h1, h2⟩ := refKey_is_spec (refString parentNs name) parentNs
  have hk := ref_spelling_roundtrip name ((nameWF_iff name).mp h) parentNs
  rw [Prod.ext_iff, ← h1, ← h2, ← NameKey.toName_ns, ← NameKey.toName_short, hk]
  exact ⟨rfl, rfl⟩

theorem isPrimitive_ofString (s : String) (h : isPrimitive s = true) :
    (RawType.ofString s).isSome = true := by
  simp only [isPrimitive, primitiveNames, List.contains_eq_mem, List.mem_cons, List.not_mem_nil,
    or_false, decide_eq_true_eq] at h
  rcases h with rfl | rfl | rfl | rfl | rfl | rfl | rfl | rfl <;> decide

theorem ref_not_primitive (name : Name) (h : NameWF name) (parentNs : Option String) :
    isPrimitive (refString parentNs name) = false := by
  cases hp : isPrimitive (refString parentNs name) with
  | false => rfl
  | true =>
    have := isPrimitive_ofString _ hp
    rw [refString_not_typeName name ((nameWF_iff name).mp h) parentNs] at this
    cases this

/-! ### attributes of the written member lists -/

theorem attr_append (key : String) (a b : List (String × Json)) :
    attr key (a ++ b) = match attr key a with
      | some v => some v
      | none => attr key b := by
  induction a with
  | nil => simp only [List.nil_append, attr]
  | cons p rest ih =>
    obtain ⟨k, v⟩ := p
    by_cases hk : k = key <;> simp only [List.cons_append, attr, hk, if_true, if_false, ih]

theorem attr_type_typeMembers (t : String) (l : Option LogicalType) :
    attr "type" (typeMembers t l) = some (.str t) := by
  cases l with
  | none => simp [typeMembers, attr]
  | some lt => cases lt <;> simp [typeMembers, attr]

theorem attr_eq_none {key : String} {ms : List (String × Json)} (h : ∀ p ∈ ms, p.1 ≠ key) :
    attr key ms = none := by
  induction ms with
  | nil => rfl
  | cons p rest ih =>
    simp only [attr, h p List.mem_cons_self, if_false]
    exact ih fun q hq => h q (List.mem_cons_of_mem _ hq)

theorem attr_typeMembers_other (t : String) (l : Option LogicalType) (key : String)
    (h : key ∉ typeKeys) : attr key (typeMembers t l) = none :=
  attr_eq_none fun p hp e => h (e ▸ typeMembers_keys t l p hp)

theorem attr_nameMembers_other (parentNs : Option String) (name : Name) (key : String)
    (h : key ∉ nameKeys) : attr key (nameMembers parentNs name) = none :=
  attr_eq_none fun p hp e => h (e ▸ nameMembers_keys parentNs name p hp)

theorem strAttr_type_typeMembers (t : String) (l : Option LogicalType)
    (rest : List (String × Json)) : strAttr "type" (typeMembers t l ++ rest) = some t := by
  simp only [strAttr, attr_append, attr_type_typeMembers]

theorem strAttr_type_named (t : String) (l : Option LogicalType) (parentNs : Option String)
    (name : Name) (rest : List (String × Json)) :
    strAttr "type" (typeMembers t l ++ nameMembers parentNs name ++ rest) = some t := by
  rw [List.append_assoc]; exact strAttr_type_typeMembers _ _ _

theorem attr_object_rest (t : String) (l : Option LogicalType) (parentNs : Option String)
    (name : Name) (rest : List (String × Json)) (key : String)
    (h : key ∉ typeKeys ++ nameKeys) :
    attr key (typeMembers t l ++ nameMembers parentNs name ++ rest) = attr key rest := by
  rw [List.mem_append, not_or] at h
  simp only [attr_append, attr_typeMembers_other t l key h.1,
    attr_nameMembers_other parentNs name key h.2]

theorem attr_unnamed_rest (t : String) (l : Option LogicalType)
    (rest : List (String × Json)) (key : String) (h : key ∉ typeKeys) :
    attr key (typeMembers t l ++ rest) = attr key rest := by
  simp only [attr_append, attr_typeMembers_other t l key h]

theorem attr_last_unnamed (t : String) (l : Option LogicalType) (k : String) (v : Json)
    (h : k ∉ typeKeys) : attr k (typeMembers t l ++ [(k, v)]) = some v := by
  rw [attr_unnamed_rest t l _ k h]
  simp only [attr, if_true]

theorem attr_last_named (t : String) (l : Option LogicalType) (parentNs : Option String)
    (name : Name) (k : String) (v : Json) (h : k ∉ typeKeys ++ nameKeys) :
    attr k (typeMembers t l ++ nameMembers parentNs name ++ [(k, v)]) = some v := by
  rw [attr_object_rest t l parentNs name _ k h]
  simp only [attr, if_true]

theorem attr_eq_filter (key : String) (ms : List (String × Json)) :
    attr key ms = ((ms.filter fun p => p.1 = key).head?).map (·.2) := by
  induction ms with
  | nil => rfl
  | cons p rest ih =>
    obtain ⟨k, v⟩ := p
    by_cases hk : k = key <;> simp [attr, hk, ih]

/-- `member` (the parser's lookup, which refuses a repeated key) finds what `attr` finds -/
theorem attr_of_member {ms : List (String × Json)} {key : String} {o : Option Json}
    (h : member ms key = .ok o) : attr key ms = o := by
  rw [attr_eq_filter]
  unfold member at h
  split at h
  next heq => rw [heq]; cases h; rfl
  next heq => rw [heq]; cases h; rfl
  · cases h

theorem strAttr_of_readStr {ms : List (String × Json)} {key : String} {r : Option String}
    (h : readStr ms key = .ok r) : strAttr key ms = r := by
  unfold readStr at h
  cases hm : member ms key with
  | error e => rw [hm] at h; cases h
  | ok o =>
    rw [hm] at h
    rw [strAttr, attr_of_member hm]
    change optString o = .ok r at h
    unfold optString at h
    split at h <;> simp_all

/-- **Definition spelling, by the specification's rule**: in the object written for a named type
    (type members, name members, then `rest` without `namespace`), the `name` and
    `namespace` attributes denote, in the same enclosing namespace, the fullname of the name.
    (The parser reads them back as the name, `def_spelling_roundtrip`, and its key is the
    specification's fullname, `defKey_is_spec`.) -/
theorem def_fullname (t : String) (l : Option LogicalType) (name : Name) (h : NameWF name)
    (parentNs : Option String) (rest : List (String × Json))
    (hr2 : attr "namespace" rest = none) :
    ∃ nm, strAttr "name" (typeMembers t l ++ nameMembers parentNs name ++ rest) = some nm ∧
      fullnameOfDef nm
        (strAttr "namespace" (typeMembers t l ++ nameMembers parentNs name ++ rest)) parentNs =
        (name.ns, name.short) := by
  obtain ⟨nm, nsAttr, h1, h2, h3⟩ := def_spelling_roundtrip name ((nameWF_iff name).mp h) parentNs
  have a1 := strAttr_of_readStr h1
  have a2 := strAttr_of_readStr h2
  have e1 := attr_typeMembers_other t l "name" (by simp [typeKeys])
  have e2 := attr_typeMembers_other t l "namespace" (by simp [typeKeys])
  have k1 : strAttr "name" (typeMembers t l ++ nameMembers parentNs name ++ rest) = some nm := by
    have : attr "name" (nameMembers parentNs name) = some (.str nm) := by
      unfold strAttr at a1; split at a1 <;> simp_all
    simp only [strAttr, List.append_assoc, attr_append, e1, this]
  have k2 : strAttr "namespace" (typeMembers t l ++ nameMembers parentNs name ++ rest) = nsAttr := by
    rw [← a2]
    simp only [strAttr, List.append_assoc, attr_append, e2, hr2]
    cases attr "namespace" (nameMembers parentNs name) <;> rfl
  obtain ⟨d1, d2⟩ := defKey_is_spec nm nsAttr parentNs
  refine ⟨nm, k1, ?_⟩
  rw [k2, Prod.ext_iff, ← d1, ← d2, ← NameKey.toName_ns, ← NameKey.toName_short, h3]
  exact ⟨rfl, rfl⟩

/-! ### attribute-directed recursions of the specification, through `attr` -/

theorem canonAttr_eq (enc : Option String) (key : String) (ms : List (String × Json)) :
    canonAttr enc key ms = (attr key ms).bind (canon enc) := by
  induction ms with
  | nil => simp [canonAttr, attr]
  | cons p rest ih =>
    obtain ⟨k, v⟩ := p
    by_cases hk : k = key <;> simp [canonAttr, attr, hk, ih]

theorem fieldsAttr_eq (enc : Option String) (ms : List (String × Json)) :
    fieldsAttr enc ms =
      match attr "fields" ms with
      | some (.arr fs) => canonFields enc fs
      | _ => none := by
  induction ms with
  | nil => simp [fieldsAttr, attr]
  | cons p rest ih =>
    obtain ⟨k, v⟩ := p
    by_cases hk : k = "fields"
    · cases v <;> simp only [fieldsAttr, attr, hk, if_true]
    · cases v <;> simp only [fieldsAttr, attr, hk, if_false, ih]

theorem scanAttr_eq (enc : Option String) (key : String) (ms : List (String × Json))
    (D : List Fullname) :
    scanAttr enc key ms D =
      match attr key ms with
      | some v => scan enc v D
      | none => some D := by
  induction ms with
  | nil => simp [scanAttr, attr]
  | cons p rest ih =>
    obtain ⟨k, v⟩ := p
    by_cases hk : k = key <;> simp [scanAttr, attr, hk, ih]

theorem scanFieldsAttr_eq (enc : Option String) (ms : List (String × Json)) (D : List Fullname) :
    scanFieldsAttr enc ms D =
      match attr "fields" ms with
      | some (.arr fs) => scanFields enc fs D
      | _ => some D := by
  induction ms with
  | nil => simp [scanFieldsAttr, attr]
  | cons p rest ih =>
    obtain ⟨k, v⟩ := p
    by_cases hk : k = "fields"
    · cases v <;> simp only [scanFieldsAttr, attr, hk, if_true]
    · cases v <;> simp only [scanFieldsAttr, attr, hk, if_false, ih]

theorem strings_map_str (l : List String) : strings (l.map Json.str) = some l := by
  induction l with
  | nil => rfl
  | cons a l ih => simp only [List.map_cons, strings, ih, Option.map_some]

/-! ### text of the canonical objects -/

theorem print_str (s : String) : print (.str s) = "\"" ++ s ++ "\"" := by simp only [print]

theorem print_array (c : Json) :
    print (.obj [("type", .str "array"), ("items", c)]) =
      "{\"type\":\"array\",\"items\":" ++ print c ++ "}" := by
  have e : ("{\"type\":\"array\",\"items\":" : String) =
      "{" ++ "\"" ++ "type" ++ "\":" ++ "\"" ++ "array" ++ "\"" ++ ",\"" ++ "items" ++ "\":" := by simp
  rw [e]
  simp only [print, printMembers, printMembersTail, String.append_assoc, String.append_empty]

theorem print_map (c : Json) :
    print (.obj [("type", .str "map"), ("values", c)]) =
      "{\"type\":\"map\",\"values\":" ++ print c ++ "}" := by
  have e : ("{\"type\":\"map\",\"values\":" : String) =
      "{" ++ "\"" ++ "type" ++ "\":" ++ "\"" ++ "map" ++ "\"" ++ ",\"" ++ "values" ++ "\":" := by simp
  rw [e]
  simp only [print, printMembers, printMembersTail, String.append_assoc, String.append_empty]

theorem print_field (n : String) (c : Json) :
    print (.obj [("name", .str n), ("type", c)]) =
      "{\"name\":\"" ++ n ++ "\",\"type\":" ++ print c ++ "}" := by
  have e1 : ("{\"name\":\"" : String) = "{" ++ "\"" ++ "name" ++ "\":" ++ "\"" := by simp
  have e2 : ("\",\"type\":" : String) = "\"" ++ ",\"" ++ "type" ++ "\":" := by simp
  rw [e1, e2]
  simp only [print, printMembers, printMembersTail, String.append_assoc, String.append_empty]

theorem print_record (fq : String) (fs : List Json) :
    print (.obj [("name", .str fq), ("type", .str "record"), ("fields", .arr fs)]) =
      "{\"name\":\"" ++ fq ++ "\",\"type\":\"record\",\"fields\":[" ++ printList fs ++ "]}" := by
  have e1 : ("{\"name\":\"" : String) = "{" ++ "\"" ++ "name" ++ "\":" ++ "\"" := by simp
  have e2 : ("\",\"type\":\"record\",\"fields\":[" : String) =
      "\"" ++ ",\"" ++ "type" ++ "\":" ++ "\"" ++ "record" ++ "\"" ++ ",\"" ++ "fields" ++ "\":" ++ "[" := by simp
  have e3 : ("]}" : String) = "]" ++ "}" := by simp
  rw [e1, e2, e3]
  simp only [print, printMembers, printMembersTail, String.append_assoc, String.append_empty]

theorem printTail_strs_joinWith (l : List String) :
    printTail (l.map Json.str) =
      match l with
      | [] => ""
      | _ :: _ => "," ++ joinWith "," (l.map fun s => "\"" ++ s ++ "\"") := by
  induction l with
  | nil => simp only [List.map_nil, printTail]
  | cons a l ih =>
    simp only [List.map_cons, printTail, print, ih]
    cases l with
    | nil => simp only [List.map_nil, joinWith, String.append_empty]
    | cons b l => simp only [List.map_cons, joinWith, String.append_assoc]

theorem printList_strs_joinWith (l : List String) :
    printList (l.map Json.str) = joinWith "," (l.map fun s => "\"" ++ s ++ "\"") := by
  cases l with
  | nil => simp only [List.map_nil, printList, joinWith]
  | cons a l =>
    simp only [List.map_cons, printList, print, printTail_strs_joinWith]
    cases l with
    | nil => simp only [List.map_nil, joinWith, String.append_empty]
    | cons b l => simp only [List.map_cons, joinWith, String.append_assoc]

theorem print_enum (fq : String) (syms : List String) :
    print (.obj [("name", .str fq), ("type", .str "enum"), ("symbols", .arr (syms.map Json.str))]) =
      "{\"name\":\"" ++ fq ++ "\",\"type\":\"enum\",\"symbols\":[" ++
        joinWith "," (syms.map fun s => "\"" ++ s ++ "\"") ++ "]}" := by
  have e1 : ("{\"name\":\"" : String) = "{" ++ "\"" ++ "name" ++ "\":" ++ "\"" := by simp
  have e2 : ("\",\"type\":\"enum\",\"symbols\":[" : String) =
      "\"" ++ ",\"" ++ "type" ++ "\":" ++ "\"" ++ "enum" ++ "\"" ++ ",\"" ++ "symbols" ++ "\":" ++ "[" := by simp
  have e3 : ("]}" : String) = "]" ++ "}" := by simp
  rw [e1, e2, e3, ← printList_strs_joinWith]
  simp only [print, printMembers, printMembersTail, String.append_assoc, String.append_empty]

theorem print_fixed (fq : String) (size : Nat) :
    print (.obj [("name", .str fq), ("type", .str "fixed"), ("size", .nat size)]) =
      "{\"name\":\"" ++ fq ++ "\",\"type\":\"fixed\",\"size\":" ++ toString size ++ "}" := by
  have e1 : ("{\"name\":\"" : String) = "{" ++ "\"" ++ "name" ++ "\":" ++ "\"" := by simp
  have e2 : ("\",\"type\":\"fixed\",\"size\":" : String) =
      "\"" ++ ",\"" ++ "type" ++ "\":" ++ "\"" ++ "fixed" ++ "\"" ++ ",\"" ++ "size" ++ "\":" := by simp
  rw [e1, e2]
  simp only [print, printMembers, printMembersTail, String.append_assoc, String.append_empty]

theorem print_union (cs : List Json) : print (.arr cs) = "[" ++ printList cs ++ "]" := by
  simp only [print]

def fieldDocs (names : List String) (cs : List Json) : List Json :=
  List.zipWith (fun name c => .obj [("name", .str name), ("type", c)]) names cs

end Avro.RenderPcf
