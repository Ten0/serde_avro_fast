import AvroModel.Lemmas.DeriveEqns
import AvroModel.Lemmas.SchemaKeys
import AvroModel.Impl.Ser
/-
C20: `Realizes`, the relation between a type of a derive program and a node of a frozen schema, with
what its two sides share.  The serializer side (`Lemmas/DeriveFits.lean`): a value of the type
serializes at a node that realizes it.  The builder side (`realizes_of_invU`,
`Lemmas/DeriveWiderURealizes.lean`): the schema built for a type realizes it; what that needs and does not
depend on the fragment is here: freezing, head tokens whose node is neither `null` nor a union
(`PlainTok`), `[u8; N]` behind pointers.
-/
namespace Avro.Theorems.DeriveFits
open Avro Avro.Impl Avro.Impl.Derive

/-! ### List and array access

Stated with `xs[j]?` throughout: a term `xs[j]` makes the elaborator look for its bound in the whole
context. -/

theorem lt_of_getElem? {α} {l : List α} {j : Nat} {a : α} (h : l[j]? = some a) : j < l.length :=
  let ⟨hlt, _⟩ := List.getElem_of_getElem? h
  hlt

/-! ### Pointers

`Derive.peel` strips the pointers at the head of a type; facts that pass through it go by this
induction (`Derive.peel t = t` for every `t` that is not a pointer). -/

@[elab_as_elim]
theorem peel_induction {motive : Ty → Prop} (ptr : ∀ t, motive t → motive (.ptr t))
    (other : ∀ t, Derive.peel t = t → motive t) : ∀ t, motive t
  | .ptr t => ptr t (peel_induction ptr other t)
  | .unit | .bool | .i8 | .i16 | .i32 | .i64 | .u16 | .u32 | .u64 | .usize | .f32 | .f64 | .string | .str
  | .byteVec | .byteSlice | .byteArray _ | .vec _ | .option _ | .hashMap _ | .btreeMap _ | .named _ _
  | .param _ => other _ rfl

def PlainAt (S : Schema) (i : Nat) : Prop :=
  ∃ n, S[i]? = some n ∧ n ≠ .null ∧ ∀ vs, n ≠ .union vs


/-- The nodes that accept the values of a leaf type (more liberal than `Realizes`: a logical-type
    attribute may replace the Avro type of a field). -/
def nodeAccepts (n : Node) : Ty → Bool
  | .unit => n == .null
  | .bool => n == .boolean
  | .i8 | .i16 | .i32 | .u16 =>
    n == .int || n == .date || n == .timeMillis || n == .long || n == .timestampMillis ||
      n == .timestampMicros || n == .timeMicros
  | .i64 | .u32 | .u64 | .usize =>
    n == .long || n == .timestampMillis || n == .timestampMicros || n == .timeMicros
  | .f32 => n == .float
  | .f64 => n == .double
  | .string | .str => n == .string || n == .uuid
  | .byteVec | .byteSlice => n == .bytes
  | .byteArray m =>
    (match n with
      | .fixed _ k => k == m
      | .duration => m == 12
      | _ => false)
  | _ => false

/-- Node `i` of the frozen schema `S` is the Avro type of `t` (to depth `fuel`, the fuel of
    `hasShape`; at depth 0 there is no value to serialize and nothing is required).  `d.ident ≠ "Null"`:
    struct and newtype values dispatch by name, and under `[null, T]` the name `Null` would select the
    null branch (`viaName_mode`).  `PlainAt` in the `option` / `newtype` arms: the node is neither null
    nor a union, as `Mode.under` and `viaName_mode` require.  The bounds `k < S.size` matter at depth 0,
    where `Realizes … 0 … k` says nothing but `ser` still reads node `k`. -/
def Realizes (P : Prog) (S : Schema) : Nat → Ty → Nat → Prop
  | 0, _, _ => True
  | fuel + 1, t, i =>
    match t with
    | .unit => S[i]? = some .null
    | .bool => S[i]? = some .boolean
    | .i8 | .i16 | .i32 | .u16 => S[i]? = some .int
    | .i64 | .u32 | .u64 | .usize => S[i]? = some .long
    | .f32 => S[i]? = some .float
    | .f64 => S[i]? = some .double
    | .string | .str => S[i]? = some .string
    | .byteVec | .byteSlice => S[i]? = some .bytes
    | .byteArray n => ∃ nm, S[i]? = some (.fixed nm n)
    | .vec t => ∃ k, S[i]? = some (.array k) ∧ k < S.size ∧ Realizes P S fuel t k
    | .hashMap t | .btreeMap t => ∃ k, S[i]? = some (.map k) ∧ k < S.size ∧ Realizes P S fuel t k
    | .option t =>
      ∃ a b, S[i]? = some (.union [a, b]) ∧ S[a]? = some .null ∧ PlainAt S b ∧ Realizes P S fuel t b
    | .ptr t => Realizes P S fuel t i
    | .param _ => False
    | .named id args =>
      match P[id]? with
      | none => False
      | some d =>
        match d.body with
        | .record fields =>
          d.ident ≠ "Null" ∧ ∃ nm fs, S[i]? = some (.record nm fs) ∧
            fs.length = fields.length ∧
            ∀ (j : Nat) (fd : Field) (p : String × Nat), fields[j]? = some fd → fs[j]? = some p →
              p.1 = fd.name ∧ p.2 < S.size ∧
                -- a field with a logical-type attribute owns a node that accepts its leaf type
                (if fd.attr.logical.isNone = true then Realizes P S fuel (subst args fd.ty) p.2
                 else ∃ n, S[p.2]? = some n ∧ nodeAccepts n (Derive.peel (subst args fd.ty)) = true)
        | .newtype fd => d.ident ≠ "Null" ∧ PlainAt S i ∧ Realizes P S fuel (subst args fd.ty) i
        | .unitEnum vs => ∃ nm, S[i]? = some (.enum nm vs)
        | .union vs =>
          -- each variant's serde name selects its own branch by name; a unit variant is `Null`
          ∃ ks, S[i]? = some (.union ks) ∧ ks.length = vs.length ∧
            ∀ (j : Nat) (v : Variant) (k : Nat), vs[j]? = some v → ks[j]? = some k →
              k < S.size ∧ namedLookup v.serdeName (branchNodes S ks) = some j ∧
                match v.field with
                | none => v.serdeName = "Null" ∧ S[k]? = some .null
                | some fd => Realizes P S fuel (subst args fd.ty) k

theorem freeze_get {nodes : Array RawNode} {i : Nat} {x : RawNode} (h : nodes[i]? = some x) :
    (freezeNodes nodes)[i]? = some (freezeNode x) := by
  simp [freezeNodes, Array.getElem?_map, h]

theorem freezeNodes_size (nodes : Array RawNode) : (freezeNodes nodes).size = nodes.size := by
  simp [freezeNodes]

theorem freeze_lt {nodes : Array RawNode} {i : Nat} {x : RawNode} (h : nodes[i]? = some x) :
    i < (freezeNodes nodes).size := by
  rw [freezeNodes_size]; exact lt_size_of_getElem? h

section heads
variable {P : Prog}

def PlainTok (P : Prog) (tok : KTok) : Prop :=
  tok ≠ .unit ∧ tok ≠ .option ∧
    ∀ (id : Nat) (d : Decl) (vs : List Variant), tok = .self id → P[id]? = some d → d.body ≠ .union vs

theorem PlainTok.of_ne {tok : KTok} (h1 : tok ≠ .unit) (h2 : tok ≠ .option) (h3 : ∀ id, tok ≠ .self id) :
    PlainTok P tok :=
  ⟨h1, h2, fun id _ _ h => absurd h (h3 id)⟩

theorem PlainTok.self {id : Nat} {d : Decl} (hd : P[id]? = some d) (hnu : ∀ vs, d.body ≠ .union vs) :
    PlainTok P (.self id) := by
  refine ⟨by simp, by simp, fun id' d' vs h hd' => ?_⟩
  cases h
  rw [hd] at hd'
  cases hd'
  exact hnu vs

theorem realizes_of_peel_fixed {S : Schema} {i n : Nat} {nm : Name}
    (hS : S[i]? = some (.fixed nm n)) (t : Ty) (hp : Derive.peel t = .byteArray n) (f : Nat) :
    Realizes P S f t i := by
  induction t using peel_induction generalizing f with
  | ptr t ih =>
    cases f with
    | zero => trivial
    | succ f => exact ih hp f
  | other t ht =>
    rw [ht] at hp
    subst hp
    cases f with
    | zero => trivial
    | succ f => exact ⟨nm, hS⟩

end heads

end Avro.Theorems.DeriveFits
