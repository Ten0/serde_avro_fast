import AvroModel.Spec.ValidDoc
import AvroModel.Impl.SchemaParse
import AvroModel.Lemmas.ExceptEq
/-
The fuel the driver hands the schema parser (`Driver/Main.lean`: `parseJson j (4 * jsonSize j + 8)`)
covers the registration bound `schemaSize j` of `C07_valid_parses*`, whatever the document
(`schemaSize_le_driver_fuel`, by `json_ind`); `jsonSizeT` transcribes the driver's `jsonSize`
structurally.  Also decidable equality of parser states (the `deriving instance` line; with
`Lemmas/ExceptEq.lean`, which `Theorems/NonVacuityD.lean` gets through this file, an equation
`parseJson j n = .ok S` on a closed document is settled by evaluation).
The declarations carry the namespace of the audit `Theorems/NonVacuityD.lean`.
-/
namespace Avro.ValidParses
open Avro Avro.Impl

theorem json_ind (P : Json → Prop) (PL : List Json → Prop) (PM : List (String × Json) → Prop)
    (hnull : P .null) (hbool : ∀ b, P (.bool b)) (hnat : ∀ n, P (.nat n)) (hnum : P .numOther)
    (hstr : ∀ s, P (.str s))
    (harr : ∀ l, PL l → P (.arr l)) (hobj : ∀ m, PM m → P (.obj m))
    (hnilL : PL []) (hconsL : ∀ j l, P j → PL l → PL (j :: l))
    (hnilM : PM []) (hconsM : ∀ k v m, P v → PM m → PM ((k, v) :: m)) :
    (∀ j, P j) ∧ (∀ l, PL l) ∧ (∀ m, PM m) := by
  -- the recursor of the nested inductive type, its fourth motive (members) read off the third
  refine ⟨fun j => ?_, fun l => ?_, fun m => ?_⟩
  · exact @Json.rec P PL PM (fun p => P p.2) hnull hbool hnat hnum hstr harr hobj hnilL hconsL
      hnilM (fun p m => hconsM p.1 p.2 m) (fun _ _ h => h) j
  · exact @Json.rec_1 P PL PM (fun p => P p.2) hnull hbool hnat hnum hstr harr hobj hnilL hconsL
      hnilM (fun p m => hconsM p.1 p.2 m) (fun _ _ h => h) l
  · exact @Json.rec_2 P PL PM (fun p => P p.2) hnull hbool hnat hnum hstr harr hobj hnilL hconsL
      hnilM (fun p m => hconsM p.1 p.2 m) (fun _ _ h => h) m

end Avro.ValidParses

namespace Avro.Theorems.NonVacuityD
open Avro Avro.Impl Avro.Spec Avro.Spec.Pcf Avro.ValidParses Avro.Theorems

deriving instance DecidableEq for PKey, PType, PNode, PState

mutual
/-- `Driver/Parse.lean`, `jsonSize` (a `partial def` there, hence opaque to proofs): one per JSON
    value; transcribed structurally. -/
def jsonSizeT : Json → Nat
  | .arr items => 1 + jsonSizeTList items
  | .obj ms => 1 + jsonSizeTMembers ms
  | _ => 1
def jsonSizeTList : List Json → Nat
  | [] => 0
  | j :: rest => jsonSizeT j + jsonSizeTList rest
def jsonSizeTMembers : List (String × Json) → Nat
  | [] => 0
  | (_, v) :: rest => jsonSizeT v + jsonSizeTMembers rest
end

/-- `Driver/Main.lean`: `parseJson j (4 * jsonSize j + 8)` -/
def driverFuel (j : Json) : Nat := 4 * jsonSizeT j + 8

/-- what a field `j` of a record adds to `sizeFields` beyond its own unit, and what a `fields`
    attribute with value `j` adds to `schemaSize` -/
def typeAttr : Json → Nat
  | .obj fm => sizeAttr "type" fm
  | _ => 0
def fieldsAttr : Json → Nat
  | .arr fields => sizeFields fields
  | _ => 0

theorem sizeFields_cons (j : Json) (l : List Json) :
    sizeFields (j :: l) = 1 + typeAttr j + sizeFields l := by
  cases j <;> simp [sizeFields, typeAttr]

theorem sizeFieldsAttr_cons (k : String) (v : Json) (m : List (String × Json)) :
    sizeFieldsAttr ((k, v) :: m) = if k = "fields" then fieldsAttr v else sizeFieldsAttr m := by
  cases v <;> simp [sizeFieldsAttr, fieldsAttr]

theorem schemaSize_le_jsonSizeT_aux :
    (∀ j, schemaSize j + 1 ≤ 4 * jsonSizeT j ∧ typeAttr j + 1 ≤ 4 * jsonSizeT j ∧
      fieldsAttr j ≤ 4 * jsonSizeT j) ∧
    (∀ l, sizeList l ≤ 4 * jsonSizeTList l ∧ sizeFields l ≤ 4 * jsonSizeTList l) ∧
    (∀ m, (∀ key, sizeAttr key m ≤ 4 * jsonSizeTMembers m) ∧
      sizeAttr "items" m + sizeAttr "values" m + sizeFieldsAttr m ≤ 4 * jsonSizeTMembers m) := by
  have leaf : ∀ j, schemaSize j = 2 → jsonSizeT j = 1 → typeAttr j = 0 → fieldsAttr j = 0 →
      schemaSize j + 1 ≤ 4 * jsonSizeT j ∧ typeAttr j + 1 ≤ 4 * jsonSizeT j ∧
        fieldsAttr j ≤ 4 * jsonSizeT j := by
    intro j h1 h2 h3 h4; omega
  apply json_ind
  · exact leaf _ rfl rfl rfl rfl
  · exact fun _ => leaf _ rfl rfl rfl rfl
  · exact fun _ => leaf _ rfl rfl rfl rfl
  · exact leaf _ rfl rfl rfl rfl
  · exact fun _ => leaf _ rfl rfl rfl rfl
  · intro l ⟨h1, h2⟩
    simp only [schemaSize, jsonSizeT, typeAttr, fieldsAttr]; omega
  · intro m ⟨h1, h2⟩
    have := h1 "type"
    simp only [schemaSize, jsonSizeT, typeAttr, fieldsAttr]; omega
  · exact ⟨Nat.le_refl _, Nat.le_refl _⟩
  · intro j l ⟨hj, hjt, _⟩ ⟨h1, h2⟩
    simp only [sizeList, sizeFields_cons, jsonSizeTList]; omega
  · exact ⟨fun _ => Nat.le_refl _, Nat.le_refl _⟩
  · intro k v m ⟨hv, _, hvf⟩ ⟨h1, h2⟩
    have hi := h1 "items"
    have hva := h1 "values"
    refine ⟨fun key => ?_, ?_⟩
    · have := h1 key
      simp only [sizeAttr, jsonSizeTMembers]; split <;> omega
    -- the three attributes have different names: at most one of them is this member
    · simp only [sizeAttr, sizeFieldsAttr_cons, jsonSizeTMembers]
      by_cases hf : k = "fields"
      · subst hf; simp only [if_true, String.reduceEq, if_false]; omega
      · by_cases hki : k = "items"
        · subst hki; simp only [if_true, String.reduceEq, if_false]; omega
        · simp only [hf, hki, if_false]; split <;> omega

theorem schemaSize_le_driver_fuel (j : Json) : schemaSize j ≤ driverFuel j := by
  have := (schemaSize_le_jsonSizeT_aux.1 j).1
  unfold driverFuel; omega

end Avro.Theorems.NonVacuityD
