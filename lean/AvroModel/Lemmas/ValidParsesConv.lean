import AvroModel.Lemmas.ValidParsesReg
/-
C07 (valid documents parse), a converse: whenever the registration succeeds, the name table
received exactly the defined names of the raw trees, and they are pairwise distinct (`Reg.got`,
by induction on the relation `Reg`).
-/
namespace Avro.ValidParses
open Avro Avro.Impl Avro.Spec Avro.Spec.Pcf Avro.PcfSpec

/-- the table received `defs`, and stays without repetition -/
structure Got (st st' : PState) (defs : List Fullname) : Prop where
  keys : tkeys st' = (defs.map keyOf).reverse ++ tkeys st
  nodup : (tkeys st).Nodup → (tkeys st').Nodup

theorem Got.refl (st : PState) : Got st st [] := ⟨by simp, fun h => h⟩

theorem Got.trans {st st1 st2 : PState} {d1 d2 : List Fullname} (h1 : Got st st1 d1)
    (h2 : Got st1 st2 d2) : Got st st2 (d1 ++ d2) :=
  ⟨by rw [h2.keys, h1.keys]; simp, fun h => h2.nodup (h1.nodup h)⟩

theorem Got.of_names {st st1 st2 st3 : PState} {d : List Fullname} (h : Got st1 st2 d)
    (e1 : st1.names = st.names) (e2 : st3.names = st2.names) : Got st st3 d := by
  have k1 : tkeys st1 = tkeys st := by simp [tkeys, e1]
  have k3 : tkeys st3 = tkeys st2 := by simp [tkeys, e2]
  exact ⟨by rw [k3, h.keys, k1], fun hn => by rw [k3]; exact h.nodup (by rw [k1]; exact hn)⟩

theorem nameStep_got {o enc} {st : PState} {nk st1} (hn : nameStep o enc st = .ok (nk, st1)) :
    Got st st1 (ownDefs enc (o.bind (·.name)) (o.bind (·.nsAttr))) := by
  obtain ⟨-, -, hnames⟩ := nameStep_ok hn
  rcases hnames with ⟨rfl, e, rfl | ⟨a, rfl, hnone⟩⟩ | ⟨a, name, rfl, hname, rfl, hfresh, e⟩
  · exact (Got.refl st).of_names rfl e
  · simp only [Option.bind_some, hnone, ownDefs]; exact (Got.refl st).of_names rfl e
  · simp only [Option.bind_some, hname, ownDefs]
    have hk : tkeys st1 = defKey name a.nsAttr enc :: tkeys st := by simp [tkeys, e]
    refine ⟨by simp [hk, keyOf_def], fun hnd => ?_⟩
    rw [hk]
    refine List.nodup_cons.mpr ⟨fun hm => ?_, hnd⟩
    obtain ⟨i, hi⟩ := lookup_some_of_mem hm
    rw [hfresh] at hi; cases hi

theorem _root_.Avro.Impl.Reg.got {l enc st ks st'} (h : Reg l enc st ks st') :
    Got st st' (defsRawList enc l) := by
  induction h with
  | nil => exact Got.refl _
  | found _ _ ih => exact ih
  | pending _ _ ih => exact ih.of_names rfl rfl
  | @union _ _ _ st _ st2 _ _ _ _ ihk ih =>
    exact (ihk.of_names (st := st) (st3 := st2) rfl rfl).trans (ih.of_names rfl rfl)
  | node hraw hn hb _ _ _ ihk ih =>
    rw [defsRawList, defsRaw_node hraw (nameStep_key hn ▸ hb)]
    exact ((nameStep_got hn).trans ihk).trans (ih.of_names rfl rfl)

theorem registered_defs_nodup {f : Nat} {raw : RawSchema} {k : PKey} {st : PState}
    (h : registerNode f raw none {} = .ok (k, st)) :
    (defsRaw none raw).Nodup ∧ tkeys st = ((defsRaw none raw).map keyOf).reverse := by
  have hg : Got {} st (defsRaw none raw) := by
    simpa only [defsRawList, List.append_nil] using (registerNode_reg h).got
  have hk : tkeys st = ((defsRaw none raw).map keyOf).reverse := by
    simpa [tkeys] using hg.keys
  refine ⟨?_, hk⟩
  have hn := hg.nodup (by simp [tkeys])
  rw [hk] at hn
  unfold List.Nodup at hn ⊢
  rw [List.pairwise_reverse, List.pairwise_map] at hn
  exact hn.imp fun h e => h (by rw [e])

end Avro.ValidParses
