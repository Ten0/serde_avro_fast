import AvroModel.Lemmas.WriterSteps
import AvroModel.Lemmas.RenderPcfBase
/-
Per kind of node, two one-level facts, each consumed by one induction: what a successful call of
the renderer did (`render_*_inv`, for `render_sound`); `canon` / `scan` of the written object from
those of its parts (`spec_written_*`, for `canon_of_renders`).
-/
namespace Avro.RenderPcf
open Avro Avro.Impl Avro.Spec Avro.Spec.Pcf

theorem primText_isPrimitive {ty : RegularType} {t : String} (h : primText ty = some t) :
    isPrimitive t = true := by
  cases ty <;> simp only [primText, Option.some.injEq, reduceCtorEq] at h <;> subst h <;> decide

/-! ### the renderer, inverted -/

/-- the state in which the body of a named type is written -/
def namedEnter (st : RenderState) (key : Nat) : RenderState :=
  { (st.set key st.nWritten) with nWritten := st.nWritten + 1 }

theorem render_prim_inv {S : SchemaMut} {f key : Nat} {ns : Option String} {st st' : RenderState}
    {j : Json} {node : RawNode} {t : String}
    (hk : S[key]? = some node) (hp : primText node.type = some t)
    (h : render S (f + 1) key ns st = .ok (j, st')) :
    st' = st ∧ j = (match node.logical with
      | none => .str t
      | some _ => .obj (typeMembers t node.logical)) := by
  simp only [render_succ, renderStep, hk] at h
  cases ht : node.type <;> rw [ht] at hp <;>
    simp only [primText, Option.some.injEq, reduceCtorEq] at hp
  all_goals
    subst hp
    simp only [ht] at h
    cases hl : node.logical <;> simp only [hl, Except.ok.injEq, Prod.mk.injEq] at h <;>
      exact ⟨h.2.symm, h.1.symm⟩

theorem render_array_inv {S : SchemaMut} {f key : Nat} {ns : Option String} {st st' : RenderState}
    {j : Json} {lg : Option LogicalType} {items : Nat}
    (hk : S[key]? = some ⟨.array items, lg⟩)
    (h : render S (f + 1) key ns st = .ok (j, st')) :
    st.get key < st.nWritten ∧ ∃ j1 st1,
      render S f items ns (st.set key st.nWritten) = .ok (j1, st1) ∧
      j = .obj (typeMembers "array" lg ++ [("items", j1)]) ∧ st' = st1.set key 0 := by
  simp only [render_succ, renderStep, hk] at h
  obtain ⟨hg, st1, hb, rfl⟩ := renderGuarded_ok h
  obtain ⟨⟨j1, _⟩, hr, e⟩ := mapOk_ok hb
  cases e
  exact ⟨hg, j1, _, hr, rfl, rfl⟩

theorem render_map_inv {S : SchemaMut} {f key : Nat} {ns : Option String} {st st' : RenderState}
    {j : Json} {lg : Option LogicalType} {values : Nat}
    (hk : S[key]? = some ⟨.map values, lg⟩)
    (h : render S (f + 1) key ns st = .ok (j, st')) :
    st.get key < st.nWritten ∧ ∃ j1 st1,
      render S f values ns (st.set key st.nWritten) = .ok (j1, st1) ∧
      j = .obj (typeMembers "map" lg ++ [("values", j1)]) ∧ st' = st1.set key 0 := by
  simp only [render_succ, renderStep, hk] at h
  obtain ⟨hg, st1, hb, rfl⟩ := renderGuarded_ok h
  obtain ⟨⟨j1, _⟩, hr, e⟩ := mapOk_ok hb
  cases e
  exact ⟨hg, j1, _, hr, rfl, rfl⟩

/-- `lg = none`: the renderer refuses a union that carries a logical type
(`Impl.render_union_logical`) -/
theorem render_union_inv {S : SchemaMut} {f key : Nat} {ns : Option String} {st st' : RenderState}
    {j : Json} {lg : Option LogicalType} {vs : List Nat}
    (hk : S[key]? = some ⟨.union vs, lg⟩)
    (h : render S (f + 1) key ns st = .ok (j, st')) :
    lg = none ∧ st.get key < st.nWritten ∧ ∃ js st1,
      renderList S f vs ns (st.set key st.nWritten) = .ok (js, st1) ∧
      j = .arr js ∧ st' = st1.set key 0 := by
  simp only [render_succ, renderStep, hk] at h
  cases lg with
  | some l => cases h
  | none =>
    simp only [Option.isSome_none, Bool.false_eq_true, ↓reduceIte] at h
    obtain ⟨hg, st1, hb, rfl⟩ := renderGuarded_ok h
    obtain ⟨⟨js, _⟩, hr, e⟩ := mapOk_ok hb
    cases e
    exact ⟨rfl, hg, js, _, hr, rfl, rfl⟩

theorem render_named_again_inv {S : SchemaMut} {f key : Nat} {ns : Option String}
    {st st' : RenderState} {j : Json} {node : RawNode} {nm : Name}
    (hk : S[key]? = some node) (hn : nameOf node.type = some nm) (hw : 0 < st.get key)
    (h : render S (f + 1) key ns st = .ok (j, st')) :
    j = .str (refString ns nm) ∧ st' = st := by
  simp only [render_succ, renderStep, hk] at h
  cases ht : node.type <;> rw [ht] at hn <;>
    simp only [nameOf, Option.some.injEq, reduceCtorEq] at hn
  all_goals
    subst hn
    simp only [ht, renderNamed, gt_iff_lt, hw, if_true, Except.ok.injEq, Prod.mk.injEq] at h
    exact ⟨h.1.symm, h.2.symm⟩

theorem render_enum_inv {S : SchemaMut} {f key : Nat} {ns : Option String} {st st' : RenderState}
    {j : Json} {lg : Option LogicalType} {nm : Name} {syms : List String}
    (hk : S[key]? = some ⟨.enum nm syms, lg⟩) (hw : ¬ 0 < st.get key)
    (h : render S (f + 1) key ns st = .ok (j, st')) :
    j = .obj (typeMembers "enum" lg ++ nameMembers ns nm ++ [("symbols", .arr (syms.map .str))]) ∧
      st' = namedEnter st key := by
  simp only [render_succ, renderStep, hk, renderNamed, gt_iff_lt, hw, if_false, Except.ok.injEq,
    Prod.mk.injEq] at h
  exact ⟨h.1.symm, h.2.symm⟩

theorem render_fixed_inv {S : SchemaMut} {f key : Nat} {ns : Option String} {st st' : RenderState}
    {j : Json} {lg : Option LogicalType} {nm : Name} {size : Nat}
    (hk : S[key]? = some ⟨.fixed nm size, lg⟩) (hw : ¬ 0 < st.get key)
    (h : render S (f + 1) key ns st = .ok (j, st')) :
    j = .obj (typeMembers "fixed" lg ++ nameMembers ns nm ++ [("size", .nat size)]) ∧
      st' = namedEnter st key := by
  simp only [render_succ, renderStep, hk, renderNamed, gt_iff_lt, hw, if_false, Except.ok.injEq,
    Prod.mk.injEq] at h
  exact ⟨h.1.symm, h.2.symm⟩

theorem render_record_inv {S : SchemaMut} {f key : Nat} {ns : Option String} {st st' : RenderState}
    {j : Json} {lg : Option LogicalType} {nm : Name} {fields : List (String × Nat)}
    (hk : S[key]? = some ⟨.record nm fields, lg⟩) (hw : ¬ 0 < st.get key)
    (h : render S (f + 1) key ns st = .ok (j, st')) :
    ∃ js, renderFields S f fields nm.ns (namedEnter st key) = .ok (js, st') ∧
      j = .obj (typeMembers "record" lg ++ nameMembers ns nm ++ [("fields", .arr js)]) := by
  simp only [render_succ, renderStep, hk, renderNamed, gt_iff_lt, hw, if_false] at h
  obtain ⟨⟨js, _⟩, hr, e⟩ := mapOk_ok h
  cases e
  exact ⟨js, hr, rfl⟩

theorem renderList_nil_inv {S : SchemaMut} {f : Nat} {ns : Option String} {st st' : RenderState}
    {js : List Json} (h : renderList S f [] ns st = .ok (js, st')) : js = [] ∧ st' = st := by
  rw [renderList_nil] at h
  cases h
  exact ⟨rfl, rfl⟩

theorem renderList_cons_inv {S : SchemaMut} {f k : Nat} {rest : List Nat} {ns : Option String}
    {st st' : RenderState} {js : List Json}
    (h : renderList S (f + 1) (k :: rest) ns st = .ok (js, st')) :
    ∃ j1 st1 js2, render S f k ns st = .ok (j1, st1) ∧
      renderList S f rest ns st1 = .ok (js2, st') ∧ js = j1 :: js2 := by
  rw [renderList_cons] at h
  obtain ⟨⟨j1, st1⟩, h1, h2⟩ := andThen_ok h
  obtain ⟨⟨js2, _⟩, h3, e⟩ := mapOk_ok h2
  cases e
  exact ⟨j1, st1, js2, h1, h3, rfl⟩

theorem renderFields_nil_inv {S : SchemaMut} {f : Nat} {ns : Option String} {st st' : RenderState}
    {js : List Json} (h : renderFields S f [] ns st = .ok (js, st')) : js = [] ∧ st' = st := by
  rw [renderFields_nil] at h
  cases h
  exact ⟨rfl, rfl⟩

theorem renderFields_cons_inv {S : SchemaMut} {f k : Nat} {name : String}
    {rest : List (String × Nat)} {ns : Option String} {st st' : RenderState} {js : List Json}
    (h : renderFields S (f + 1) ((name, k) :: rest) ns st = .ok (js, st')) :
    ∃ j1 st1 js2, render S f k ns st = .ok (j1, st1) ∧
      renderFields S f rest ns st1 = .ok (js2, st') ∧
      js = .obj [("name", .str name), ("type", j1)] :: js2 := by
  rw [renderFields_cons] at h
  obtain ⟨⟨j1, st1⟩, h1, h2⟩ := andThen_ok h
  obtain ⟨⟨js2, _⟩, h3, e⟩ := mapOk_ok h2
  cases e
  exact ⟨j1, st1, js2, h1, h3, rfl⟩

/-- **The kinds of successful call of the renderer**: on a primitive; an array, map or union
    (guard passed); a named type met again; a record, enum or fixed met for the first time. -/
theorem render_ok_cases {S : SchemaMut} {f k : Nat} {ns : Option String} {st st' : RenderState}
    {j : Json} {motive : Prop} (h : render S (f + 1) k ns st = .ok (j, st'))
    (prim : ∀ node t, S[k]? = some node → primText node.type = some t → motive)
    (array : ∀ lg items, S[k]? = some ⟨.array items, lg⟩ → motive)
    (map : ∀ lg values, S[k]? = some ⟨.map values, lg⟩ → motive)
    (union : ∀ lg vs, S[k]? = some ⟨.union vs, lg⟩ → motive)
    (again : ∀ node nm, S[k]? = some node → nameOf node.type = some nm → 0 < st.get k → motive)
    (record : ∀ lg nm fields, S[k]? = some ⟨.record nm fields, lg⟩ → ¬ 0 < st.get k → motive)
    (enum : ∀ lg nm syms, S[k]? = some ⟨.enum nm syms, lg⟩ → ¬ 0 < st.get k → motive)
    (fixed : ∀ lg nm size, S[k]? = some ⟨.fixed nm size, lg⟩ → ¬ 0 < st.get k → motive) :
    motive := by
  cases hk : S[k]? with
  | none => simp [render, hk] at h
  | some node =>
    obtain ⟨ty, lg⟩ := node
    cases ty with
    | null => exact prim _ "null" hk rfl
    | boolean => exact prim _ "boolean" hk rfl
    | int => exact prim _ "int" hk rfl
    | long => exact prim _ "long" hk rfl
    | float => exact prim _ "float" hk rfl
    | double => exact prim _ "double" hk rfl
    | bytes => exact prim _ "bytes" hk rfl
    | string => exact prim _ "string" hk rfl
    | array items => exact array lg items hk
    | map values => exact map lg values hk
    | union vs => exact union lg vs hk
    | record nm fields =>
      exact (Nat.decLt 0 (st.get k)).byCases (again _ nm hk rfl) (record lg nm fields hk)
    | enum nm syms =>
      exact (Nat.decLt 0 (st.get k)).byCases (again _ nm hk rfl) (enum lg nm syms hk)
    | fixed nm size =>
      exact (Nat.decLt 0 (st.get k)).byCases (again _ nm hk rfl) (fixed lg nm size hk)

/-! ### the specification's transformation: strings, lists -/

theorem canon_str_prim (enc : Option String) (t : String) (h : isPrimitive t = true) :
    canon enc (.str t) = some (.str t) := by
  simp only [canon, h, if_true]

theorem canon_str_ref (enc : Option String) (s : String) (h : isPrimitive s = false) :
    canon enc (.str s) = some (.str (fullnameText (fullnameOfRef s enc))) := by
  simp only [canon, h, Bool.false_eq_true, if_false]

theorem canonList_cons (enc : Option String) (j : Json) (rest : List Json) (c : Json)
    (cs : List Json) (h1 : canon enc j = some c) (h2 : canonList enc rest = some cs) :
    canonList enc (j :: rest) = some (c :: cs) := by
  simp only [canonList, h1, h2]

theorem canonFields_cons (enc : Option String) (n : String) (j : Json) (rest : List Json)
    (c : Json) (cs : List Json) (h1 : canon enc j = some c) (h2 : canonFields enc rest = some cs) :
    canonFields enc (.obj [("name", .str n), ("type", j)] :: rest) =
      some (.obj [("name", .str n), ("type", c)] :: cs) := by
  simp only [String.reduceEq, canonFields, strAttr, attr, canonAttr, if_true, if_false, h1, h2]

theorem scan_str_prim (enc : Option String) (t : String) (D : List Fullname)
    (h : isPrimitive t = true) : scan enc (.str t) D = some D := by
  simp only [scan, h, if_true]

theorem scan_str_ref (enc : Option String) (s : String) (D : List Fullname)
    (h : isPrimitive s = false) (hd : fullnameOfRef s enc ∈ D) : scan enc (.str s) D = some D := by
  have : D.contains (fullnameOfRef s enc) = true := by simpa using hd
  simp only [scan, h, Bool.false_eq_true, if_false, this, if_true]

theorem isPrimitive_not_complex (t : String) (h : isPrimitive t = true) :
    t ≠ "array" ∧ t ≠ "map" ∧ t ≠ "enum" ∧ t ≠ "fixed" ∧ t ≠ "record" := by
  simp only [isPrimitive, primitiveNames, List.contains_eq_mem, List.mem_cons, List.not_mem_nil,
    or_false, decide_eq_true_eq] at h
  rcases h with rfl | rfl | rfl | rfl | rfl | rfl | rfl | rfl <;> simp

theorem scanFields_cons (enc : Option String) (n : String) (j : Json) (rest : List Json)
    (D : List Fullname) :
    scanFields enc (.obj [("name", .str n), ("type", j)] :: rest) D =
      match scan enc j D with
      | some D' => scanFields enc rest D'
      | none => none := by
  simp only [String.reduceEq, scanFields, scanAttr, if_true, if_false]
  cases scan enc j D <;> rfl

/-! ### the specification's transformation on what the renderer writes, kind by kind

`canon` and `scan` of the object written for a node, from those of its parts; for a named type
the `name` / `namespace` members denote its fullname (`def_fullname`). -/

theorem spec_written_prim (ns : Option String) (t : String) (lt : LogicalType)
    (hp : isPrimitive t = true) (D : List Fullname) :
    canon ns (.obj (typeMembers t (some lt))) = some (.str t) ∧
    scan ns (.obj (typeMembers t (some lt))) D = some D := by
  have hty := strAttr_type_typeMembers t (some lt) []
  rw [List.append_nil] at hty
  obtain ⟨h1, h2, h3, h4, h5⟩ := isPrimitive_not_complex t hp
  exact ⟨by simp only [canon, hty, hp, if_true],
    by simp only [scan, hty, h1, h2, h3, h4, h5, if_false, or_self]⟩

theorem spec_written_array (ns : Option String) (lg : Option LogicalType) (j : Json)
    (D : List Fullname) :
    canon ns (.obj (typeMembers "array" lg ++ [("items", j)])) =
      (canon ns j).map (fun c => .obj [("type", .str "array"), ("items", c)]) ∧
    scan ns (.obj (typeMembers "array" lg ++ [("items", j)])) D = scan ns j D := by
  have hty := strAttr_type_typeMembers "array" lg [("items", j)]
  have hat : attr "items" (typeMembers "array" lg ++ [("items", j)]) = some j :=
    attr_last_unnamed _ _ _ _ (by simp [typeKeys])
  have h1 : isPrimitive "array" = false := by decide
  exact ⟨by simp only [canon, hty, h1, Bool.false_eq_true, if_false, if_true, canonAttr_eq, hat,
      Option.bind_some],
    by simp only [scan, hty, if_true, scanAttr_eq, hat]⟩

theorem spec_written_map (ns : Option String) (lg : Option LogicalType) (j : Json)
    (D : List Fullname) :
    canon ns (.obj (typeMembers "map" lg ++ [("values", j)])) =
      (canon ns j).map (fun c => .obj [("type", .str "map"), ("values", c)]) ∧
    scan ns (.obj (typeMembers "map" lg ++ [("values", j)])) D = scan ns j D := by
  have hty := strAttr_type_typeMembers "map" lg [("values", j)]
  have hat : attr "values" (typeMembers "map" lg ++ [("values", j)]) = some j :=
    attr_last_unnamed _ _ _ _ (by simp [typeKeys])
  have h1 : isPrimitive "map" = false := by decide
  exact ⟨by simp only [String.reduceEq, canon, hty, h1, Bool.false_eq_true, if_false, if_true,
      canonAttr_eq, hat, Option.bind_some],
    by simp only [String.reduceEq, scan, hty, if_false, if_true, scanAttr_eq, hat]⟩

theorem spec_written_enum (ns : Option String) (lg : Option LogicalType) (nm : Name)
    (hnm : NameWF nm) (syms : List String) (D : List Fullname) :
    canon ns (.obj (typeMembers "enum" lg ++ nameMembers ns nm ++
        [("symbols", .arr (syms.map .str))])) =
      some (.obj [("name", .str nm.fq), ("type", .str "enum"),
        ("symbols", .arr (syms.map .str))]) ∧
    scan ns (.obj (typeMembers "enum" lg ++ nameMembers ns nm ++
        [("symbols", .arr (syms.map .str))])) D = some ((nm.ns, nm.short) :: D) := by
  have hty := strAttr_type_named "enum" lg ns nm [("symbols", .arr (syms.map .str))]
  obtain ⟨nmstr, hname, hfull⟩ := def_fullname "enum" lg nm hnm ns
    [("symbols", .arr (syms.map .str))] (by simp [attr])
  have hsy : symbolsAttr (typeMembers "enum" lg ++ nameMembers ns nm ++
      [("symbols", .arr (syms.map .str))]) = some syms := by
    simp only [symbolsAttr, attr_last_named _ _ _ _ "symbols" _ (by simp [typeKeys, nameKeys]),
      strings_map_str]
  have h1 : isPrimitive "enum" = false := by decide
  exact ⟨by simp only [String.reduceEq, canon, hty, h1, hname, hsy, Bool.false_eq_true,
      if_false, if_true, hfull, fq_text nm hnm],
    by simp only [String.reduceEq, scan, hty, hname, if_false, true_or, if_true, hfull]⟩

theorem spec_written_fixed (ns : Option String) (lg : Option LogicalType) (nm : Name)
    (hnm : NameWF nm) (size : Nat) (D : List Fullname) :
    canon ns (.obj (typeMembers "fixed" lg ++ nameMembers ns nm ++ [("size", .nat size)])) =
      some (.obj [("name", .str nm.fq), ("type", .str "fixed"), ("size", .nat size)]) ∧
    scan ns (.obj (typeMembers "fixed" lg ++ nameMembers ns nm ++ [("size", .nat size)])) D =
      some ((nm.ns, nm.short) :: D) := by
  have hty := strAttr_type_named "fixed" lg ns nm [("size", .nat size)]
  obtain ⟨nmstr, hname, hfull⟩ := def_fullname "fixed" lg nm hnm ns
    [("size", .nat size)] (by simp [attr])
  have hsz : natAttr "size" (typeMembers "fixed" lg ++ nameMembers ns nm ++
      [("size", .nat size)]) = some size := by
    simp only [natAttr, attr_last_named _ _ _ _ "size" _ (by simp [typeKeys, nameKeys])]
  have h1 : isPrimitive "fixed" = false := by decide
  exact ⟨by simp only [String.reduceEq, canon, hty, h1, hname, hsz, Bool.false_eq_true,
      if_false, if_true, hfull, fq_text nm hnm],
    by simp only [String.reduceEq, scan, hty, hname, if_false, or_true, if_true, hfull]⟩

theorem spec_written_record (ns : Option String) (lg : Option LogicalType) (nm : Name)
    (hnm : NameWF nm) (js : List Json) (D : List Fullname) :
    canon ns (.obj (typeMembers "record" lg ++ nameMembers ns nm ++ [("fields", .arr js)])) =
      (canonFields nm.ns js).map (fun fs =>
        .obj [("name", .str nm.fq), ("type", .str "record"), ("fields", .arr fs)]) ∧
    scan ns (.obj (typeMembers "record" lg ++ nameMembers ns nm ++ [("fields", .arr js)])) D =
      scanFields nm.ns js ((nm.ns, nm.short) :: D) := by
  have hty := strAttr_type_named "record" lg ns nm [("fields", .arr js)]
  obtain ⟨nmstr, hname, hfull⟩ := def_fullname "record" lg nm hnm ns
    [("fields", .arr js)] (by simp [attr])
  have hfa : attr "fields" (typeMembers "record" lg ++ nameMembers ns nm ++
      [("fields", .arr js)]) = some (.arr js) :=
    attr_last_named _ _ _ _ _ _ (by simp [typeKeys, nameKeys])
  have h1 : isPrimitive "record" = false := by decide
  exact ⟨by simp only [String.reduceEq, canon, hty, h1, hname, Bool.false_eq_true, if_false,
      if_true, hfull, fieldsAttr_eq, hfa, fq_text nm hnm],
    by simp only [String.reduceEq, scan, hty, hname, if_false, or_self, if_true, hfull,
      scanFieldsAttr_eq, hfa]⟩

end Avro.RenderPcf
