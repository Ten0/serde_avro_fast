import AvroModel.Lemmas.OcfHeaderClassify
import AvroModel.Lemmas.DeBounds
import AvroModel.Lemmas.DeSoundBounds
/-
C06 — the metadata map of a container-file header, from the BYTES.  `readHeader` decodes it with
`metaDe` = `deAny` on the schema `map<bytes>` with the request `map any bytes` (keys as strings,
values as bytes), while the conformance theorems of C03 are about the self-describing request
`any`.  On `map<bytes>` the two requests read alike (`Refines` both ways, up to one unit of fuel),
and every entry takes at least two bytes, so the fuel `4 * len + 4096` that `readHeader` passes is
enough for every layout: `metaDe_accepts`, `metaDe_sound`.
-/
namespace Avro.C06
open Avro Avro.Impl Avro.Impl.Ocf Avro.Spec

/-- the configuration `readHeader` uses (`max_seq_size = 1_000` in the crate's container reader; the
    literal of `metaDe`, Lemmas/OcfHeaderClassify) -/
abbrev metaCfg : DeConfig := { maxSeqSize := 1000, allowedDepth := 64 }
/-- the request of `Metadata`'s `Deserialize` impl on the map -/
abbrev metaHint : Hint := .map .any .bytes

section
variable (cfg : DeConfig) (S : Schema)

theorem refines_val_any_meta (g d : Nat) :
    Refines (de deExtModel cfg S g .bytes d false .any) (de deExtModel cfg S g .bytes d false .bytes) := by
  match g with
  | 0 => rw [de_zero]; exact Refines.of_panic _
  | 1 => rw [de_any, deAny_zero]; exact Refines.of_panic _
  | g + 2 => simp only [de, deAny]; exact Refines.refl _

theorem refines_val_meta_any (g d : Nat) :
    Refines (de deExtModel cfg S g .bytes d false .bytes)
      (de deExtModel cfg S (g + 1) .bytes d false .any) := by
  match g with
  | 0 => rw [de_zero]; exact Refines.of_panic _
  | g + 1 => simp only [de, deAny]; exact Refines.refl _

theorem refines_mapLoop (item : Node) {h h' : Hint} (k : Nat) (hkey : h.key = h'.key)
    (hval : ∀ g d name, Refines (de deExtModel cfg S g item d false (h.valFor name))
      (de deExtModel cfg S (g + k) item d false (h'.valFor name))) :
    ∀ (f d : Nat) (ign : Bool) (bst : BlockState) (acc : List (Out × Out)),
    Refines (deMapLoop deExtModel cfg S f item d ign h bst acc)
      (deMapLoop deExtModel cfg S (f + k) item d ign h' bst acc)
  | 0, _, _, _, _ => by rw [deMapLoop_zero]; exact Refines.of_panic _
  | f + 1, d, ign, bst, acc => by
    rw [show f + 1 + k = (f + k) + 1 by omega, deMapLoop.eq_2, deMapLoop.eq_2, hkey]
    refine Refines.bind (Refines.refl _) fun (more, bs') => ?_
    dsimp only
    split
    · exact Refines.refl _
    · refine Refines.bind (Refines.refl _) fun n =>
        Refines.bind (Refines.refl _) fun (kb, borrowed) =>
        Refines.bind (Refines.refl _) fun (kOut, kName) =>
        Refines.bind (hval f d kName) fun v =>
          refines_mapLoop item k hkey hval f d ign bs' _

theorem metaSchema_item : (metaSchema)[1]? = some Node.bytes := rfl

theorem refines_metaAny {h h' : Hint} (k : Nat)
    (hloop : ∀ f d, Refines (deMapLoop deExtModel cfg metaSchema f .bytes d false h {} [])
      (deMapLoop deExtModel cfg metaSchema (f + k) .bytes d false h' {} [])) :
    ∀ f d, Refines (deAny deExtModel cfg metaSchema f (.map 1) d h)
      (deAny deExtModel cfg metaSchema (f + k) (.map 1) d h')
  | 0, _ => by rw [deAny_zero]; exact Refines.of_panic _
  | f + 1, d => by
    rw [show f + 1 + k = (f + k) + 1 by omega]
    rw [deAny_map metaSchema_item, deAny_map metaSchema_item]
    exact Refines.bind (Refines.refl _) fun d' =>
      Refines.bind (hloop f d') fun _ => Refines.refl _

theorem refines_metaAny_any_meta (f d : Nat) :
    Refines (deAny deExtModel cfg metaSchema f (.map 1) d .any)
      (deAny deExtModel cfg metaSchema f (.map 1) d metaHint) :=
  refines_metaAny cfg 0 (fun f d => refines_mapLoop cfg metaSchema .bytes (h := .any) (h' := metaHint) 0 rfl
    (fun g d _ => refines_val_any_meta cfg metaSchema g d) f d false {} []) f d

theorem refines_metaAny_meta_any (f d : Nat) :
    Refines (deAny deExtModel cfg metaSchema f (.map 1) d metaHint)
      (deAny deExtModel cfg metaSchema (f + 1) (.map 1) d .any) :=
  refines_metaAny cfg 1 (fun f d => refines_mapLoop cfg metaSchema .bytes (h := metaHint) (h' := .any) 1 rfl
    (fun g d _ => refines_val_meta_any cfg metaSchema g d) f d false {} []) f d

end

def AllBytes (es : List (String × Value)) : Prop := ∀ e ∈ es, ∃ b, e.2 = Value.bytes b

theorem mapItems_bytes_length (L : Limits) (S : Schema) : ∀ (c f : Nat) (bs : Bytes)
    (es : List (String × Value)) (r : Bytes),
    decodeMapItemsL L S f .bytes c bs = some (es, r) →
    AllBytes es ∧ es.length = c ∧ 2 * c + r.length ≤ bs.length
  | 0, f, bs, es, r, h => by
    rw [decodeMapItemsL_zero] at h
    cases h
    exact ⟨fun e he => (by cases he), rfl, by omega⟩
  | c + 1, 0, bs, es, r, h => by
    rw [decodeMapItemsL] at h
    cases h
  | c + 1, f + 1, bs, es, r, h => by
    obtain ⟨k, r1, v, r2, vs, hk, hv, hvs, rfl⟩ := decodeMapItemsL_succ_eq_some.1 h
    have lk := decodeStringL_length_lt hk
    obtain ⟨ha, hl, hlen⟩ := mapItems_bytes_length L S c f r2 vs r hvs
    obtain ⟨g, rfl⟩ : ∃ g, f = g + 1 := by
      cases f with
      | zero => rw [decodeL] at hv; cases hv
      | succ g => exact ⟨g, rfl⟩
    rw [decodeL] at hv
    obtain ⟨⟨b, r'⟩, hb, he⟩ := Option.map_eq_some_iff.1 hv
    cases he
    have lv := decodeBytesL_length_lt hb
    refine ⟨?_, by rw [List.length_cons, hl], by omega⟩
    intro e he
    rcases List.mem_cons.1 he with rfl | he
    · exact ⟨b, rfl⟩
    · exact ha e he

theorem mapBlocks_bytes_length (L : Limits) (S : Schema) : ∀ (f : Nat) (bs : Bytes)
    (es : List (String × Value)) (r : Bytes),
    decodeMapBlocksL L S f .bytes bs = some (es, r) →
    AllBytes es ∧ 2 * es.length + r.length + 1 ≤ bs.length
  | 0, bs, es, r, h => by
    rw [decodeMapBlocksL] at h
    cases h
  | f + 1, bs, es, r, h => by
    obtain ⟨c, r0, hh, ⟨rfl, rfl, rfl⟩ | ⟨hc, vs, r1, more, hvs, hmore, rfl⟩⟩ :=
      decodeMapBlocksL_succ_eq_some.1 h
    · have := decodeBlockHeaderL_length_lt hh
      exact ⟨fun e he => (by cases he), by simp only [List.length_nil]; omega⟩
    · have l0 := decodeBlockHeaderL_length_lt hh
      obtain ⟨ha1, hl1, hlen1⟩ := mapItems_bytes_length L S c f r0 vs r1 hvs
      obtain ⟨ha2, hlen2⟩ := mapBlocks_bytes_length L S f r1 more r hmore
      refine ⟨?_, by simp only [List.length_append]; omega⟩
      intro e he
      rcases List.mem_append.1 he with he | he
      · exact ha1 e he
      · exact ha2 e he

def metaEntry (e : String × Bytes) : String × Value := (e.1, Value.bytes e.2)
def metaValue (kvs : List (String × Bytes)) : Value := Value.map (kvs.map metaEntry)
/-- what the visitor receives on slice input -/
def metaOut (kvs : List (String × Bytes)) : List (Out × Out) :=
  kvs.map fun e => (Out.str e.1 true, Out.bytes e.2 true)
/-- what `readHeader` classifies -/
def metaKV (kvs : List (String × Bytes)) : List (Bytes × Bytes) :=
  kvs.map fun e => (e.1.toUTF8.data.toList, e.2)

theorem kvOf_metaOut (kvs : List (String × Bytes)) : kvOf (metaOut kvs) = metaKV kvs := by
  induction kvs with
  | nil => rfl
  | cons e es ih =>
    simp only [metaOut, metaKV, List.map_cons] at ih ⊢
    simp only [kvOf, List.filterMap_cons, outBytes] at ih ⊢
    rw [ih]

theorem observeEntries_meta (kvs : List (String × Bytes)) :
    observeEntries metaSchema .bytes (kvs.map metaEntry) = some (metaOut kvs) := by
  induction kvs with
  | nil => simp [observeEntries, metaOut]
  | cons e es ih =>
    obtain ⟨k, b⟩ := e
    simp only [List.map_cons, metaEntry, observeEntries, observe] at ih ⊢
    rw [ih]
    rfl

theorem observe_meta (kvs : List (String × Bytes)) :
    observe metaSchema (.map 1) (metaValue kvs) = some (Out.map (metaOut kvs)) := by
  simp only [metaValue, observe, metaSchema_item, observeEntries_meta, Option.map_some]

theorem depthEntries_meta (kvs : List (String × Bytes)) : depthEntries (kvs.map metaEntry) = 0 := by
  induction kvs with
  | nil => simp [depthEntries]
  | cons e es ih => simp only [List.map_cons, metaEntry, depthEntries, depthOf] at ih ⊢; omega

theorem maxLenEntries_meta (kvs : List (String × Bytes)) : maxLenEntries (kvs.map metaEntry) = 0 := by
  induction kvs with
  | nil => simp [maxLenEntries]
  | cons e es ih => simp only [List.map_cons, metaEntry, maxLenEntries, maxLen] at ih ⊢; omega

theorem sizeEntries_meta (kvs : List (String × Bytes)) :
    sizeEntries (kvs.map metaEntry) = 2 * kvs.length := by
  induction kvs with
  | nil => simp [sizeEntries]
  | cons e es ih =>
    simp only [List.map_cons, metaEntry, sizeEntries, Spec.size, List.length_cons] at ih ⊢; omega

theorem allBytes_eq {es : List (String × Value)} (h : AllBytes es) :
    ∃ kvs : List (String × Bytes), es = kvs.map metaEntry := by
  induction es with
  | nil => exact ⟨[], rfl⟩
  | cons e es ih =>
    obtain ⟨kvs, rfl⟩ := ih (fun x hx => h x (List.mem_cons_of_mem _ hx))
    obtain ⟨k, v⟩ := e
    obtain ⟨b, hb⟩ := h (k, v) (List.mem_cons_self)
    simp only at hb
    subst hb
    exact ⟨(k, b) :: kvs, rfl⟩

/-- each entry took at least two bytes, and the end marker one -/
theorem decodeL_meta_inv {L : Limits} {fuelS : Nat} {bs rest : Bytes} {v : Value}
    (h : decodeL L metaSchema fuelS (.map 1) bs = some (v, rest)) :
    ∃ kvs, v = metaValue kvs ∧ 2 * kvs.length + rest.length + 1 ≤ bs.length := by
  cases fuelS with
  | zero => rw [decodeL] at h; cases h
  | succ f =>
    rw [decodeL] at h
    have e : nodeOf metaSchema 1 = some Node.bytes := rfl
    simp only [e, Option.map_eq_some_iff] at h
    obtain ⟨⟨es, r⟩, hes, he⟩ := h
    simp only [Prod.mk.injEq] at he
    obtain ⟨rfl, rfl⟩ := he
    obtain ⟨ha, hlen⟩ := mapBlocks_bytes_length L metaSchema f bs es r hes
    obtain ⟨kvs, rfl⟩ := allBytes_eq ha
    refine ⟨kvs, rfl, ?_⟩
    simpa using hlen

/-- **`metaDe` accepts every layout of a `map<bytes>`** that the limited specification decoder
    accepts (any partition into blocks, negative counts with byte sizes, varints of at most ten
    bytes), provided it has at most 1000 entries (`max_seq_size` of `readHeader`): the visitor
    receives the entries in file order and exactly the map is consumed.  The fuel that
    `readHeader` passes (`4 * len + 4096`) is always enough. -/
theorem metaDe_accepts (kvs : List (String × Bytes)) (bytes rest : Bytes) (fuelS : Nat)
    (hdec : decodeL Limits.impl metaSchema fuelS (.map 1) bytes = some (metaValue kvs, rest))
    (hn : kvs.length ≤ 1000)
    (s : RState) (hs : s.isSlice = true) (hl : s.limit = none) (ha : s.avail = 0)
    (hr : s.rest = bytes) :
    metaDe s = (.ok (.map (metaOut kvs)), { s with rest := rest }) := by
  obtain ⟨kvs', hk, hlen⟩ := decodeL_meta_inv hdec
  -- used by `omega` below
  have hkk : kvs'.length = kvs.length := by
    have : (kvs'.map metaEntry).length = (kvs.map metaEntry).length := by
      simp only [metaValue, Value.map.injEq] at hk
      rw [hk]
    simpa using this
  have hrun := (de_accepts_layouts metaCfg metaSchema (metaValue kvs) (.map 1) bytes rest
    (.map (metaOut kvs)) 64 fuelS (s.rest.length * 4 + 4096 + 1) hdec (observe_meta kvs)
    (by simp only [metaValue, depthOf, depthEntries_meta]; omega)
    (by simp only [metaValue, maxLen, maxLenEntries_meta, List.length_map]; omega)
    (by
      simp only [metaValue, Spec.size, sizeEntries_meta]
      rw [hr]; omega)).run s hs hl ha hr
  rw [de_any] at hrun
  have := refines_metaAny_any_meta metaCfg (s.rest.length * 4 + 4096) 64 s (by rw [hrun]; simp)
  unfold metaDe
  rw [this, hrun]

/-- **`metaDe` accepts only layouts**: whatever it accepts on a slice is a run of the limited
    specification decoder on `map<bytes>`, with at most 1000 entries; the visitor received those
    entries in file order, and only the map was consumed. -/
theorem metaDe_sound (s s' : RState) (o : Out)
    (hs : s.isSlice = true) (hl : s.limit = none) (ha : s.avail = 0)
    (h : metaDe s = (.ok o, s')) :
    ∃ kvs fuelS, decodeL Limits.impl metaSchema fuelS (.map 1) s.rest = some (metaValue kvs, s'.rest) ∧
      o = .map (metaOut kvs) ∧ kvs.length ≤ 1000 ∧
      2 * kvs.length + s'.rest.length + 1 ≤ s.rest.length ∧ s' = { s with rest := s'.rest } := by
  unfold metaDe at h
  have h1 := refines_metaAny_meta_any metaCfg (s.rest.length * 4 + 4096) 64 s (by rw [h]; simp)
  rw [h, ← de_any (favor := false)] at h1
  obtain ⟨v, fuelS, hv, ho, _, hm, hs'⟩ :=
    de_sound_bounds metaCfg metaSchema (.map 1) 64 _ s s' o hs hl ha h1
  obtain ⟨kvs, rfl, hlen⟩ := decodeL_meta_inv hv
  rw [observe_meta] at ho
  simp only [Option.some.injEq] at ho
  refine ⟨kvs, fuelS, hv, ho.symm, ?_, hlen, hs'⟩
  simp only [metaValue, maxLen, List.length_map] at hm
  exact Nat.le_trans (Nat.le_max_left _ _) hm

end Avro.C06
