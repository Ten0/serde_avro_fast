import AvroModel.Impl.De
import AvroModel.Lemmas.ExceptEq
/-
Decidable comparison of deserializer outcomes: Boolean equalities on `Out` (and on lists / pairs of
them) with their soundness, so that an equation between two runs of a `DeM` computation on closed
inputs can be established by one kernel evaluation of a Boolean (`resEq_of (by decide +kernel)`).
`Out` is a nested inductive type (lists of `Out`, of pairs of `Out`), for which `deriving
DecidableEq` is not available; hence `oeq` by hand.  The namespace is that of the audit
`Theorems/NonVacuityB.lean`.
-/
namespace Avro.Theorems.NVB
open Avro Avro.Impl

-- needed by `resEqbG` below (`decide (x.2 = y.2)`)
deriving instance DecidableEq for RState

/-- Where the value of a run has no decidable equality at all, the kernel evaluates a Boolean test
    of the outcome's shape only (here: "it is `.ok`"), and the equation that follows names the
    value by the run itself; what that value is can then be shown by a separate evaluation.
    `NonVacuityC.eq_of_isMapOk`, `eq_of_isErr`, `NVF.exists_of_okT` are the same device for other
    shapes. -/
theorem exists_ok_of_toBool {ε α σ : Type} {x : Except ε α × σ} (h : x.1.toBool = true) :
    ∃ a s, x = (.ok a, s) :=
  let ⟨a, ha⟩ := exists_ok_of_isOk (x := x.1) h
  ⟨a, x.2, Prod.ext ha rfl⟩

mutual
def oeq : Out → Out → Bool
  | .unit, .unit => true
  | .bool a, .bool b => a == b
  | .i32 a, .i32 b => a == b
  | .i64 a, .i64 b => a == b
  | .i128 a, .i128 b => a == b
  | .u32 a, .u32 b => a == b
  | .u64 a, .u64 b => a == b
  | .u128 a, .u128 b => a == b
  | .f32 a, .f32 b => a == b
  | .f64 a, .f64 b => a == b
  | .str a p, .str b q => a == b && p == q
  | .bytes a p, .bytes b q => a == b && p == q
  | .none, .none => true
  | .some a, .some b => oeq a b
  | .seq a, .seq b => oeqL a b
  | .map a, .map b => oeqP a b
  | .variant a c, .variant b d => oeq a b && oeq c d
  | _, _ => false
def oeqL : List Out → List Out → Bool
  | [], [] => true
  | a :: l, b :: m => oeq a b && oeqL l m
  | _, _ => false
def oeqP : List (Out × Out) → List (Out × Out) → Bool
  | [], [] => true
  | (a, c) :: l, (b, d) :: m => oeq a b && oeq c d && oeqP l m
  | _, _ => false
end

mutual
theorem oeq_sound : ∀ (a b : Out), oeq a b = true → a = b
  | .unit, b, h => by cases b <;> simp_all [oeq]
  | .bool _, b, h => by cases b <;> simp_all [oeq]
  | .i32 _, b, h => by cases b <;> simp_all [oeq]
  | .i64 _, b, h => by cases b <;> simp_all [oeq]
  | .i128 _, b, h => by cases b <;> simp_all [oeq]
  | .u32 _, b, h => by cases b <;> simp_all [oeq]
  | .u64 _, b, h => by cases b <;> simp_all [oeq]
  | .u128 _, b, h => by cases b <;> simp_all [oeq]
  | .f32 _, b, h => by cases b <;> simp_all [oeq]
  | .f64 _, b, h => by cases b <;> simp_all [oeq]
  | .str _ _, b, h => by cases b <;> simp_all [oeq]
  | .bytes _ _, b, h => by cases b <;> simp_all [oeq]
  | .none, b, h => by cases b <;> simp_all [oeq]
  | .some a, b, h => by
    cases b <;> simp only [oeq, Bool.false_eq_true] at h
    rw [oeq_sound a _ h]
  | .seq a, b, h => by
    cases b <;> simp only [oeq, Bool.false_eq_true] at h
    rw [oeqL_sound a _ h]
  | .map a, b, h => by
    cases b <;> simp only [oeq, Bool.false_eq_true] at h
    rw [oeqP_sound a _ h]
  | .variant a c, b, h => by
    cases b <;> simp only [oeq, Bool.false_eq_true, Bool.and_eq_true] at h
    rw [oeq_sound a _ h.1, oeq_sound c _ h.2]
theorem oeqL_sound : ∀ (a b : List Out), oeqL a b = true → a = b
  | [], b, h => by cases b <;> simp_all [oeqL]
  | a :: l, b, h => by
    cases b <;> simp only [oeqL, Bool.false_eq_true, Bool.and_eq_true] at h
    rw [oeq_sound a _ h.1, oeqL_sound l _ h.2]
theorem oeqP_sound : ∀ (a b : List (Out × Out)), oeqP a b = true → a = b
  | [], b, h => by cases b <;> simp_all [oeqP]
  | (a, c) :: l, b, h => by
    match b, h with
    | (b, d) :: m, h =>
      simp only [oeqP, Bool.and_eq_true] at h
      rw [oeq_sound a _ h.1.1, oeq_sound c _ h.1.2, oeqP_sound l _ h.2]
end

/-- Boolean comparison of results, given a sound Boolean equality on `α`. -/
def exEqbG {α} (eqb : α → α → Bool) : Except DeErr α → Except DeErr α → Bool
  | .ok a, .ok b => eqb a b
  | .error e, .error e' => e == e'
  | _, _ => false

theorem exEqG_of {α} {eqb : α → α → Bool} (hs : ∀ a b, eqb a b = true → a = b)
    {x y : Except DeErr α} (h : exEqbG eqb x y = true) : x = y := by
  cases x <;> cases y <;> simp_all [exEqbG]
  exact hs _ _ h

def resEqbG {α} (eqb : α → α → Bool) (x y : Except DeErr α × RState) : Bool :=
  exEqbG eqb x.1 y.1 && decide (x.2 = y.2)

theorem resEqG_of {α} {eqb : α → α → Bool} (hs : ∀ a b, eqb a b = true → a = b)
    {x y : Except DeErr α × RState} (h : resEqbG eqb x y = true) : x = y := by
  obtain ⟨x1, x2⟩ := x
  obtain ⟨y1, y2⟩ := y
  simp only [resEqbG, Bool.and_eq_true, decide_eq_true_eq] at h
  obtain ⟨h1, rfl⟩ := h
  rw [exEqG_of hs h1]

theorem fstEq_of {x y : Except DeErr Out} (h : exEqbG oeq x y = true) : x = y := exEqG_of oeq_sound h
theorem fstEqL_of {x y : Except DeErr (List Out)} (h : exEqbG oeqL x y = true) : x = y :=
  exEqG_of oeqL_sound h
theorem fstEqP_of {x y : Except DeErr (List (Out × Out))} (h : exEqbG oeqP x y = true) : x = y :=
  exEqG_of oeqP_sound h

theorem resEq_of {x y : Except DeErr Out × RState} (h : resEqbG oeq x y = true) : x = y :=
  resEqG_of oeq_sound h
theorem resEqL_of {x y : Except DeErr (List Out) × RState} (h : resEqbG oeqL x y = true) : x = y :=
  resEqG_of oeqL_sound h
theorem resEqP_of {x y : Except DeErr (List (Out × Out)) × RState}
    (h : resEqbG oeqP x y = true) : x = y :=
  resEqG_of oeqP_sound h

end Avro.Theorems.NVB
