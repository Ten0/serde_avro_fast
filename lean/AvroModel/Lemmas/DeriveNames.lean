import AvroModel.Lemmas.DeriveRel
/-
Names of the named Avro types a derived schema defines (`Impl/Derive.lean`), for `Theorems/C20names.lean`.

Every record / enum / fixed node the builder creates has an *origin* (the lookup key it is registered
under and its role: the type itself, an owned sub-node, …); the name is a function of the origin.  The
builder creates each origin at most once, whatever `hash` is (`origins_of_build`, from `Builds.names`:
the invariant `Inv` speaks of origins only), because an origin is created only while its owner key is
being built, a key is registered before it is built and built once, and every origin already present is
owned by a key registered earlier (`Inv.reg`, `NewOrigins.src`).  Names are compared once, in the final state
(`Tagged.nodup`): injectivity of the name assignment is assumed (`NameInjOn`) only for origins owned by
registered keys.  `hash` enters a name only for keys of generic records (`genericRecordKeys`), so the
conditions on it (`TextWfOn`) are about those finitely many keys; `hashDemo` meets them.

Last: for a program without generic records the builder does not look at `hash`
(`Builds.hash_irrelevant`, so the witnesses of C20names hold for every hash); built-in types up to the
crate's forwarding (`canon`, `ckey`: `C20_lookupKey_builtin_inj`).
-/
namespace Avro.Theorems
open Avro Avro.Impl Avro.Impl.Derive

def tyName : RegularType → Option String
  | .record nm _ => some nm.fq
  | .enum nm _ => some nm.fq
  | .fixed nm _ => some nm.fq
  | _ => none

def nodeName (n : RawNode) : Option String := tyName n.type

def definedNames (S : SchemaMut) : List String := S.toList.filterMap nodeName

namespace DeriveNames

/-- Where a named node of a derived schema comes from. -/
inductive Origin
  | arr (n : Nat)                  -- `[u8; n]` on its own: `u8_array_n`
  | top (k : Key)                  -- the record / enum registered under lookup key `k`
  | newty (id : Nat)               -- the node of a newtype struct that does not forward
  | sub (k : Key) (f : String)     -- node owned by field `f` of the record registered under `k`
  | var (id : Nat) (v : String)    -- node owned by variant `v` of union enum `id`
  deriving DecidableEq

/-- The lookup key whose construction creates the origin. -/
def Origin.owner : Origin → Key
  | .arr n => [.byteArray n]
  | .top k => k
  | .newty id => [.self id]
  | .sub k _ => k
  | .var id _ => [.self id]

/-- The origin of a node owned by a field or a variant, not by the type itself. -/
def Origin.isSub : Origin → Bool
  | .sub _ _ => true
  | .var _ _ => true
  | _ => false

/-- `Name::from_fully_qualified_name(s).fully_qualified_name()`. -/
def fqOf (s : String) : String := (Name.ofFq s).fq

/-- `k` has the form of a key of an instantiation of declaration `id` (not `DeriveFits.KeyOf P t k`,
    "type `t` has key `k`"). -/
def KeyOf (d : Decl) (id : Nat) (k : Key) : Prop :=
  (d.nparams = 0 ∧ k = [.self id]) ∨ (d.nparams ≠ 0 ∧ ∃ n r, k = .generic id n :: r)

/-- The runtime `type_name` of a record registered under `k`. -/
def recName (d : Decl) (hash : Key → String) (k : Key) : String :=
  if d.nparams = 0 then typeName d else typeName d ++ "_" ++ hash k

/-- A variant field that never gets an owned node: no logical type, and its type as written
    (pointers stripped) is not a byte array. -/
def safeField (f : Field) : Bool :=
  f.attr.logical.isNone &&
    (match peel f.ty with | .byteArray _ => false | _ => true)

/-- `Named P hash o nm`: origin `o` exists in program `P` and is given the fullname `nm`. -/
inductive Named (P : Prog) (hash : Key → String) : Origin → String → Prop
  | arr (n : Nat) : Named P hash (.arr n) (fqOf ("u8_array_" ++ toString n))
  | enum {id d vs} : P[id]? = some d → d.body = .unitEnum vs →
      Named P hash (.top [.self id]) (fqOf (typeName d))
  | record {id d fs k} : P[id]? = some d → d.body = .record fs → KeyOf d id k →
      Named P hash (.top k) (fqOf (recName d hash k))
  | newty {id d f} : P[id]? = some d → d.body = .newtype f → isDirect f .newtypeStruct = false →
      Named P hash (.newty id) (fqOf (ownedName d .newtypeStruct ""))
  | sub {id d fs k f} : P[id]? = some d → d.body = .record fs → KeyOf d id k → f ∈ fs →
      f.attr.logical.isSome = true →
      Named P hash (.sub k f.name) (fqOf (recName d hash k ++ "." ++ f.name))
  | var {id d vs v f} : P[id]? = some d → d.body = .union vs → d.nparams = 0 → v ∈ vs →
      v.field = some f → safeField f = false →
      Named P hash (.var id v.ident) (fqOf (ownedName d (.newtypeVariant v.ident) ""))

/-- The name assignment is injective (on ALL conceivable origins: for a program with a generic
    record this needs `hash` injective on all keys — see `NameInjOn`). -/
def NameInj (P : Prog) (hash : Key → String) : Prop :=
  ∀ o o' nm, Named P hash o nm → Named P hash o' nm → o = o'

/-- `NameInj` restricted to origins whose owner satisfies `K` (in use: the keys the build registers). -/
def NameInjOn (P : Prog) (hash : Key → String) (K : Key → Prop) : Prop :=
  ∀ o o' nm, Named P hash o nm → Named P hash o' nm → K o.owner → K o'.owner → o = o'

theorem NameInj.on {P : Prog} {hash : Key → String} (h : NameInj P hash) (K : Key → Prop) :
    NameInjOn P hash K :=
  fun o o' nm a b _ _ => h o o' nm a b

/-- A type on which a logical-type attribute may sit: the duplicate built for it has no owned
    sub-nodes (its own top node is the one that gets renamed). -/
def dupSafe (P : Prog) : Ty → Bool
  | .named id _ =>
    match P[id]? with
    | none => true
    | some d =>
      match d.body with
      | .newtype f => !isDirect f .newtypeStruct
      | .record fs => fs.all (·.attr.logical.isNone)
      | .union vs => vs.all fun v => match v.field with | none => true | some f => safeField f
      | .unitEnum _ => true
  | .param _ => false
  | .ptr _ => false
  | _ => true

def newtypeFields : Body → List Field
  | .newtype f => [f]
  | _ => []
def recFields : Body → List Field
  | .record fs => fs
  | _ => []
def unionVars : Body → List Variant
  | .union vs => vs
  | _ => []

/-- The structural part of `NamesWf` (`Theorems/C20names.lean`); every field is a decidable statement
    about the program. -/
structure StructWf (P : Prog) : Prop where
  /-- a newtype struct that does not forward (logical type or `[u8; N]` field) is not generic -/
  newtype_nongeneric : ∀ (id : Nat) (d : Decl), P[id]? = some d → ∀ f ∈ newtypeFields d.body,
    isDirect f .newtypeStruct = false → d.nparams = 0
  /-- a generic union enum has no variant that can own a node -/
  generic_union_safe : ∀ (id : Nat) (d : Decl), P[id]? = some d → d.nparams ≠ 0 →
    ∀ v ∈ unionVars d.body, ∀ f ∈ v.field, safeField f = true
  /-- a logical-type attribute sits on a field whose type can be duplicated without duplicating
      owned sub-nodes -/
  logical_dupSafe : ∀ (id : Nat) (d : Decl), P[id]? = some d → ∀ f ∈ d.body.lookupFields,
    f.attr.logical.isSome = true → dupSafe P (chosenTy f) = true
  field_names_nodup : ∀ (id : Nat) (d : Decl), P[id]? = some d →
    ((recFields d.body).map (·.name)).Nodup
  variant_idents_nodup : ∀ (id : Nat) (d : Decl), P[id]? = some d →
    ((unionVars d.body).map (·.ident)).Nodup

theorem StructWf.nparams_of_newtype {P : Prog} (h : StructWf P) (id : Nat) (d : Decl) (f : Field)
    (hP : P[id]? = some d) (hb : d.body = .newtype f) (hd : isDirect f .newtypeStruct = false) :
    d.nparams = 0 :=
  h.newtype_nongeneric id d hP f (by rw [hb]; exact List.mem_singleton.2 rfl) hd

theorem StructWf.union_generic_safe {P : Prog} (h : StructWf P) (id : Nat) (d : Decl)
    (vs : List Variant) (hP : P[id]? = some d) (hb : d.body = .union vs) (hn : d.nparams ≠ 0)
    (v : Variant) (hv : v ∈ vs) (f : Field) (hf : v.field = some f) : safeField f = true :=
  h.generic_union_safe id d hP hn v (by rw [hb]; exact hv) f (by rw [hf]; rfl)

theorem StructWf.fields_nodup {P : Prog} (h : StructWf P) (id : Nat) (d : Decl) (fs : List Field)
    (hP : P[id]? = some d) (hb : d.body = .record fs) : (fs.map (·.name)).Nodup := by
  have := h.field_names_nodup id d hP
  rwa [hb] at this

theorem StructWf.variants_nodup {P : Prog} (h : StructWf P) (id : Nat) (d : Decl)
    (vs : List Variant) (hP : P[id]? = some d) (hb : d.body = .union vs) : (vs.map (·.ident)).Nodup := by
  have := h.variant_idents_nodup id d hP
  rwa [hb] at this

/-- `definedNames` on a list of nodes (`definedNames S` unfolds to `dn S.toList`). -/
def dn (l : List RawNode) : List String := l.filterMap nodeName

theorem dn_cons (x : RawNode) (b : List RawNode) :
    dn (x :: b) = (match nodeName x with | some nm => [nm] | none => []) ++ dn b := by
  simp only [dn, List.filterMap_cons]
  cases nodeName x <;> simp

/-- `k` is in `already_built_types`. -/
def IsReg (s : BState) (k : Key) : Prop := (s.built.lookup k).isSome = true

theorem reg_cons (s : BState) (key : Key) (idx : Nat) (k : Key) :
    IsReg { s with built := (key, idx) :: s.built } k ↔ k = key ∨ IsReg s k := by
  simp only [IsReg, List.lookup_cons]
  by_cases h : k = key
  · simp [h]
  · have : (k == key) = false := by simpa using h
    simp [this, h]

/-- The nodes `l` with an origin for each one that defines a name, in order. -/
inductive Tagged (P : Prog) (hash : Key → String) : List RawNode → List Origin → Prop
  | nil : Tagged P hash [] []
  | skip {x l os} : nodeName x = none → Tagged P hash l os → Tagged P hash (x :: l) os
  | cons {x l os o nm} : nodeName x = some nm → Named P hash o nm → Tagged P hash l os →
      Tagged P hash (x :: l) (o :: os)

/-- The named nodes of `s` come from the pairwise distinct origins `os`, each owned by a registered
    lookup key.  (No name is compared with another: that origins are distinct is decided on the
    origins, whatever `hash` is.) -/
structure Inv (P : Prog) (hash : Key → String) (s : BState) (os : List Origin) : Prop where
  tagged : Tagged P hash s.nodes.toList os
  nodup : os.Nodup
  reg : ∀ o ∈ os, IsReg s o.owner

/-- An origin the caller may hand to a callee: no node has it yet, and its owner is registered. -/
def Allowed (s : BState) (os : List Origin) (o : Origin) : Prop := o ∉ os ∧ IsReg s o.owner

/-- The caller allows no origin. -/
def NoA : Origin → Prop := fun _ => False

/-- The nodes `ext` appended between `s` and `s'` come from the origins `os'`, distinct from one
    another and from `os`; each is owned by a key registered in between, or is one of the origins
    `A` the caller allowed. -/
structure NewOrigins (P : Prog) (hash : Key → String) (A : Origin → Prop) (s s' : BState) (os : List Origin)
    (ext : List RawNode) (os' : List Origin) : Prop where
  mono : ∀ k, IsReg s k → IsReg s' k
  tagged : Tagged P hash ext os'
  nodup : (os ++ os').Nodup
  src : ∀ o ∈ os', (IsReg s' o.owner ∧ ¬ IsReg s o.owner) ∨ A o

/-- `s'` is `s` with nodes appended whose origins are new except for those in `A`. -/
abbrev Appended (P : Prog) (hash : Key → String) (A : Origin → Prop) (s s' : BState) (os : List Origin) :
    Prop :=
  ∃ ext os', s'.nodes.toList = s.nodes.toList ++ ext ∧ NewOrigins P hash A s s' os ext os'

/-- The same with a first node, satisfying `T`, in front of the appended nodes (its origin is for
    the caller to say). -/
abbrev AppendedTop (P : Prog) (hash : Key → String) (A : Origin → Prop) (T : RawNode → Prop)
    (s s' : BState) (os : List Origin) : Prop :=
  ∃ top rest os', s'.nodes.toList = s.nodes.toList ++ top :: rest ∧ NewOrigins P hash A s s' os rest os' ∧ T top

variable {P : Prog} {hash : Key → String}

theorem Tagged.append {a b : List RawNode} {os os' : List Origin} (h : Tagged P hash a os)
    (h' : Tagged P hash b os') : Tagged P hash (a ++ b) (os ++ os') := by
  induction h with
  | nil => exact h'
  | skip hx _ ih => exact .skip hx ih
  | cons hx ho _ ih => exact .cons hx ho ih

theorem Tagged.mem {l : List RawNode} {os : List Origin} {nm : String} (h : Tagged P hash l os)
    (hm : nm ∈ dn l) : ∃ o ∈ os, Named P hash o nm := by
  induction h with
  | nil => cases hm
  | skip hx _ ih => exact ih (by simpa [dn_cons, hx] using hm)
  | @cons x l os o nm' hx ho _ ih =>
    rw [dn_cons, hx, List.mem_append, List.mem_singleton] at hm
    rcases hm with rfl | hm
    · exact ⟨o, List.mem_cons_self, ho⟩
    · obtain ⟨o', h1, h2⟩ := ih hm
      exact ⟨o', List.mem_cons_of_mem _ h1, h2⟩

/-- Distinct origins define distinct names wherever the name assignment is injective: the one place
    where two names are compared. -/
theorem Tagged.nodup {K : Key → Prop} (hinj : NameInjOn P hash K)
    {l : List RawNode} {os : List Origin} (h : Tagged P hash l os) (hnd : os.Nodup)
    (hD : ∀ o ∈ os, K o.owner) : (dn l).Nodup := by
  induction h with
  | nil => exact .nil
  | skip hx _ ih => simpa [dn_cons, hx] using ih hnd hD
  | @cons x l os o nm hx ho ht ih =>
    obtain ⟨hno, hnd'⟩ := List.nodup_cons.1 hnd
    rw [dn_cons, hx]
    refine List.nodup_cons.2 ⟨fun hm => ?_, ih hnd' fun o' h' => hD o' (List.mem_cons_of_mem _ h')⟩
    obtain ⟨o', ho', hn'⟩ := ht.mem hm
    exact hno (hinj o o' nm ho hn' (hD o List.mem_cons_self) (hD o' (List.mem_cons_of_mem _ ho')) ▸ ho')

theorem NewOrigins.nil {A : Origin → Prop} {s s' : BState} {os : List Origin} (h : Inv P hash s os)
    (hb : s'.built = s.built) : NewOrigins P hash A s s' os [] [] :=
  ⟨fun k hk => by unfold IsReg at hk ⊢; rwa [hb], .nil, by simpa using h.nodup, nofun⟩

theorem Appended.refl {A : Origin → Prop} {s : BState} {os : List Origin} (h : Inv P hash s os) :
    Appended P hash A s s os :=
  ⟨[], [], by simp, .nil h rfl⟩

theorem NewOrigins.weaken {A B : Origin → Prop} {s s' : BState} {os os' : List Origin} {ext : List RawNode}
    (h : NewOrigins P hash A s s' os ext os') (hAB : ∀ o, A o → B o) : NewOrigins P hash B s s' os ext os' :=
  ⟨h.mono, h.tagged, h.nodup, fun o hm => (h.src o hm).imp id (hAB o)⟩

theorem NewOrigins.trans {A : Origin → Prop} {s s1 s2 : BState} {os os1 os2 : List Origin} {e1 e2 : List RawNode}
    (h1 : NewOrigins P hash A s s1 os e1 os1) (h2 : NewOrigins P hash A s1 s2 (os ++ os1) e2 os2) :
    NewOrigins P hash A s s2 os (e1 ++ e2) (os1 ++ os2) := by
  refine ⟨fun k hk => h2.mono k (h1.mono k hk), h1.tagged.append h2.tagged,
    by rw [← List.append_assoc]; exact h2.nodup, fun o hm => ?_⟩
  rcases List.mem_append.1 hm with hm | hm
  · exact (h1.src o hm).imp (fun ⟨h3, h4⟩ => ⟨h2.mono _ h3, h4⟩) id
  · exact (h2.src o hm).imp (fun ⟨h3, h4⟩ => ⟨h3, fun h => h4 (h1.mono _ h)⟩) id

theorem NewOrigins.inv {A : Origin → Prop} {s s' : BState} {os os' : List Origin} {ext : List RawNode}
    (hi : Inv P hash s os) (hn : s'.nodes.toList = s.nodes.toList ++ ext) (h : NewOrigins P hash A s s' os ext os')
    (hA : ∀ o, A o → IsReg s o.owner) : Inv P hash s' (os ++ os') := by
  refine ⟨hn ▸ hi.tagged.append h.tagged, h.nodup, fun o hm => ?_⟩
  rcases List.mem_append.1 hm with hm | hm
  · exact h.mono _ (hi.reg o hm)
  · exact (h.src o hm).elim (·.1) fun ha => h.mono _ (hA o ha)

/-- An allowed origin stays allowed along a call that was not allowed to use it: what the call
    appends is owned by keys registered later, or was allowed to it. -/
theorem Allowed.step {A : Origin → Prop} {s s' : BState} {os os' : List Origin} {ext : List RawNode}
    {o : Origin} (h : Allowed s os o) (he : NewOrigins P hash A s s' os ext os') (hA : ¬ A o) :
    Allowed s' (os ++ os') o := by
  refine ⟨fun hm => ?_, he.mono _ h.2⟩
  rcases List.mem_append.1 hm with hm | hm
  · exact h.1 hm
  · exact (he.src o hm).elim (fun hnew => hnew.2 h.2) hA

theorem nodup_insert_mid {α} {a b : List α} {x : α} (h : (a ++ b).Nodup) (ha : x ∉ a) (hb : x ∉ b) :
    (a ++ x :: b).Nodup := by
  simp only [List.nodup_append, List.nodup_cons, List.mem_cons] at h ⊢
  refine ⟨h.1, ⟨hb, h.2.1⟩, ?_⟩
  intro y hy z hz
  rcases hz with rfl | hz
  · intro hyz; subst hyz; exact ha hy
  · exact h.2.2 y hy z hz

theorem NewOrigins.cons_skip {A : Origin → Prop} {s s' : BState} {os os' : List Origin} {rest : List RawNode}
    {top : RawNode} (h : NewOrigins P hash A s s' os rest os') (hx : nodeName top = none) :
    NewOrigins P hash A s s' os (top :: rest) os' :=
  ⟨h.mono, .skip hx h.tagged, h.nodup, h.src⟩

theorem NewOrigins.cons_top {A : Origin → Prop} {s s' : BState} {os os' : List Origin} {rest : List RawNode}
    {top : RawNode} {nm : String} {o : Origin} (h : NewOrigins P hash A s s' os rest os')
    (hx : nodeName top = some nm) (ho : Named P hash o nm) (ha : Allowed s os o) (hA : ¬ A o) :
    NewOrigins P hash (fun o' => A o' ∨ o' = o) s s' os (top :: rest) (o :: os') := by
  have hnot : o ∉ os' := fun hm => (h.src o hm).elim (fun hnew => hnew.2 ha.2) hA
  refine ⟨h.mono, .cons hx ho h.tagged, nodup_insert_mid h.nodup ha.1 hnot, fun o' hm => ?_⟩
  rcases List.mem_cons.1 hm with rfl | hm
  · exact .inr (.inr rfl)
  · exact (h.src o' hm).imp id .inl

/-- What was appended while `key` was being built (registered at the start, not before), seen from
    the state before the registration: every origin the call was allowed to use is owned by `key`. -/
theorem NewOrigins.of_register {A : Origin → Prop} {s s1 : BState} {key : Key} {idx : Nat} {os os' : List Origin}
    {ext : List RawNode} (he : NewOrigins P hash A { s with built := (key, idx) :: s.built } s1 os ext os')
    (hnr : ¬ IsReg s key) (hA : ∀ o, A o → o.owner = key) : NewOrigins P hash NoA s s1 os ext os' := by
  have hreg0 : ∀ k, IsReg s k → IsReg { s with built := (key, idx) :: s.built } k :=
    fun k hk => (reg_cons s key _ k).2 (.inr hk)
  have hkey1 : IsReg s1 key := he.mono _ ((reg_cons s key _ _).2 (.inl rfl))
  refine ⟨fun k hk => he.mono _ (hreg0 _ hk), he.tagged, he.nodup, fun o hm => .inl ?_⟩
  rcases he.src o hm with ⟨h1, h2⟩ | hA'
  · exact ⟨h1, fun h => h2 (hreg0 _ h)⟩
  · exact ⟨hA o hA' ▸ hkey1, hA o hA' ▸ hnr⟩

theorem tyName_rename (t : RegularType) (nm : Name) :
    tyName (renameNode t nm) = (tyName t).map fun _ => nm.fq := by
  cases t <;> rfl

theorem nodeName_null : nodeName nullNode = none := rfl

theorem resv_toList (s : BState) : (resv s).nodes.toList = s.nodes.toList ++ [nullNode] := by
  simp [resv]

theorem ownedName_struct (d : Decl) (f : String) (tn : String) :
    ownedName d (.structField f) tn = tn ++ "." ++ f := by
  unfold ownedName
  cases d.ns <;> rfl

/-- A field that is not instantiated by `find_or_build` (it creates a node named after its owner)
    cannot sit in a variant of a generic union. -/
theorem unsafe_of_not_direct {f : Field} {kind : FieldKind} (h : isDirect f kind = false) :
    safeField f = false := by
  cases hl : f.attr.logical with
  | some l => simp [safeField, hl]
  | none =>
    cases ho : ownedFixed f kind with
    | none => simp [isDirect_eq, hl, ho] at h
    | some m =>
      have := (ownedFixed_some ho).2
      rw [chosenTy_plain (Option.isNone_iff_eq_none.mpr hl)] at this
      simp [safeField, this]

def keyId : Key → Option Nat
  | .self id :: _ => some id
  | .generic id _ :: _ => some id
  | _ => none

theorem keyId_of_KeyOf {d : Decl} {id : Nat} {k : Key} (h : KeyOf d id k) : keyId k = some id := by
  rcases h with ⟨_, rfl⟩ | ⟨_, n, r, rfl⟩ <;> rfl

theorem lk_named_shape (P : Prog) {n id : Nat} {args : List Ty} {k : Key} {d : Decl}
    (h : lookupKey P n (.named id args) = some k) (hP : P[id]? = some d)
    (hnd : ∀ f, d.body = .newtype f → isDirect f .newtypeStruct = false) :
    (d.nparams = 0 ∨ (∃ vs, d.body = .unitEnum vs)) ∧ k = [.self id] ∨
      (d.nparams ≠ 0 ∧ ∃ m r, k = .generic id m :: r) := by
  cases n with
  | zero => simp [lk_zero] at h
  | succ n =>
    rw [lk_named] at h
    have hs := keyKind_spec d
    cases hk : keyKind d <;> simp only [hP, hk] at h hs
    · rw [hnd _ hs.1] at hs; cases hs.2
    · exact .inl ⟨hs, (Option.some.inj h).symm⟩
    · rw [Option.map_eq_some_iff] at h
      obtain ⟨a, _, rfl⟩ := h
      exact .inr ⟨hs, _, _, rfl⟩

theorem keyId_dupSafe (P : Prog) {n : Nat} {args : List Ty} {c : Ty} {k : Key}
    (h : lookupKey P n (subst args c) = some k) (hs : dupSafe P c = true) :
    keyId k = (match c with | .named id _ => some id | _ => none) := by
  cases n with
  | zero => simp [lk_zero] at h
  | succ n =>
    cases c with
    | named id as =>
      simp only [subst] at h
      cases hP : P[id]? with
      | none => rw [lk_named] at h; simp [hP] at h
      | some d =>
        have hnd : ∀ f, d.body = .newtype f → isDirect f .newtypeStruct = false := by
          intro f hb
          simpa [dupSafe, hP, hb] using hs
        rcases lk_named_shape P h hP hnd with ⟨_, rfl⟩ | ⟨_, m, r, rfl⟩ <;> rfl
    | param i | ptr t => cases hs
    | vec t | option t | hashMap t | btreeMap t =>
      simp only [subst, lk_vec, lk_option, lk_hashMap, lk_btreeMap, Option.map_eq_some_iff] at h
      obtain ⟨a, _, rfl⟩ := h
      rfl
    | _ => cases h; rfl

/-- If the first node appended for `t` defines a name, it is the name of an origin owned by the
    lookup key of `t` that is not an owned sub-node. -/
def TopOK (P : Prog) (hash : Key → String) (t : Ty) (top : RawNode) : Prop :=
  ∀ nm, nodeName top = some nm → ∀ n k0, lookupKey P n t = some k0 →
    ∃ o, Named P hash o nm ∧ o.owner = k0 ∧ o.isSub = false

/-- Every origin `append_schema` of `t` may need besides its top node is in `A`.  With `A = NoA` (the
    unregistered duplicate of `build_duplicate`) `t` owns no sub-node, which is what `dupSafe` gives
    (`compat_of_dupSafe`). -/
def Compat (P : Prog) (hash : Key → String) (t : Ty) (A : Origin → Prop) : Prop :=
  ∀ n k0 o nm, lookupKey P n t = some k0 → Named P hash o nm → o.owner = k0 → o.isSub = true → A o

/-- The origin of the node that field `f` of the record registered under `k` owns, if it owns one. -/
def fieldOrg (k : Key) (f : Field) : Option Origin :=
  if f.attr.logical.isSome then some (.sub k f.name) else none

theorem fieldOrg_some {k : Key} {f : Field} {o : Origin} :
    fieldOrg k f = some o ↔ f.attr.logical.isSome = true ∧ o = .sub k f.name := by
  unfold fieldOrg
  split <;> simp [*, eq_comm]

/-- The origin of the node that variant `v` of enum `id` owns, if it owns one. -/
def varOrg (id : Nat) (v : Variant) : Option Origin :=
  match v.field with
  | some f => if safeField f then none else some (.var id v.ident)
  | none => none

theorem varOrg_some {id : Nat} {v : Variant} {o : Origin} :
    varOrg id v = some o ↔ ∃ f, v.field = some f ∧ safeField f = false ∧ o = .var id v.ident := by
  unfold varOrg
  cases v.field with
  | none => simp
  | some f => cases hs : safeField f <;> simp [hs, eq_comm (a := o)]

/-- What a successful call establishes for the origins `os` of the named nodes, per kind of call:
    `append_schema` puts the node of `t` in front of new nodes and may use the origins `A` its
    caller allows; `find_or_build` appends new nodes only; a field instantiation does the same or
    puts a node named after its owner in front; a run over fields / variants may use the origins
    they own. -/
def NameSpec (P : Prog) (hash : Key → String) : BState → Step → BState → Prop
  | s, .append t, s' => ∀ (A : Origin → Prop) (os : List Origin), Inv P hash s os →
      (∀ o, A o → Allowed s os o) → Compat P hash t A → AppendedTop P hash A (TopOK P hash t) s s' os
  | s, .find _ _, s' => ∀ os, Inv P hash s os → Appended P hash NoA s s' os
  | s, .field d _ f kind rtn k, s' => ∀ (id : Nat) (os : List Origin), Inv P hash s os →
      P[id]? = some d → f ∈ d.body.lookupFields →
      (isDirect f kind = true ∧ Appended P hash NoA s s' os) ∨
      (isDirect f kind = false ∧ k = s.nodes.size ∧ AppendedTop P hash NoA
        (fun top => ∀ nm, nodeName top = some nm → nm = fqOf (ownedName d kind rtn)) s s' os)
  | s, .fields d _ tn fs _, s' => ∀ (id : Nat) (fs0 : List Field) (k : Key) (os : List Origin),
      Inv P hash s os → P[id]? = some d → d.body = .record fs0 → (∀ f ∈ fs, f ∈ fs0) →
      (fs.map (·.name)).Nodup → KeyOf d id k → tn = recName d hash k →
      (∀ f ∈ fs, ∀ o, fieldOrg k f = some o → Allowed s os o) →
      Appended P hash (fun o => ∃ f ∈ fs, fieldOrg k f = some o) s s' os
  | s, .variants d _ vs _, s' => ∀ (id : Nat) (vs0 : List Variant) (os : List Origin),
      Inv P hash s os → P[id]? = some d → d.body = .union vs0 → (∀ v ∈ vs, v ∈ vs0) →
      (vs.map (·.ident)).Nodup → (∀ v ∈ vs, ∀ o, varOrg id v = some o → Allowed s os o) →
      Appended P hash (fun o => ∃ v ∈ vs, varOrg id v = some o) s s' os

theorem Inv.resv {s : BState} {os : List Origin} (h : Inv P hash s os) : Inv P hash (resv s) os := by
  refine ⟨?_, h.nodup, h.reg⟩
  have := h.tagged.append (.skip nodeName_null .nil)
  rwa [List.append_nil, ← resv_toList] at this

theorem push_post {A : Origin → Prop} {t : Ty} {s : BState} {os : List Origin} {node : RawNode}
    (hi : Inv P hash s os) (htop : TopOK P hash t node) :
    AppendedTop P hash A (TopOK P hash t) s { s with nodes := s.nodes.push node } os :=
  ⟨node, [], [], by simp, .nil hi rfl, htop⟩

/-- Reserve, build children, fill the reserved slot. -/
theorem fill_post {A : Origin → Prop} {t : Ty} {s s2 s' : BState} {os : List Origin} {node : RawNode}
    (ha : Appended P hash A (resv s) s2 os)
    (hset : setNode s.nodes.size node s2 = some ((), s')) (htop : TopOK P hash t node) :
    AppendedTop P hash A (TopOK P hash t) s s' os := by
  obtain ⟨rest, os', hn, he⟩ := ha
  obtain ⟨_, rfl⟩ := setNode_some hset
  rw [resv_toList, List.append_assoc] at hn
  exact ⟨node, rest, os', by simp [hn], ⟨he.mono, he.tagged, he.nodup, he.src⟩, htop⟩

theorem topOK_unnamed {t : Ty} {node : RawNode} (h : nodeName node = none) : TopOK P hash t node := by
  intro nm hnm; rw [h] at hnm; cases hnm

theorem compat_of_dupSafe {c : Ty} (hs : dupSafe P c = true) (args : List Ty) :
    Compat P hash (subst args c) NoA := by
  intro n k0 o nm hk hnamed hown hsub
  have hid := keyId_dupSafe P hk hs
  cases hnamed with
  | arr n => cases hsub
  | enum _ _ => cases hsub
  | record _ _ _ => cases hsub
  | newty _ _ _ => cases hsub
  | @sub id d fs k f hP hb hko hf hl =>
    simp only [Origin.owner] at hown
    subst hown
    rw [keyId_of_KeyOf hko] at hid
    cases c with
    | named id' as =>
      simp only [Option.some.injEq] at hid
      subst hid
      simp only [dupSafe, hP, hb, List.all_eq_true] at hs
      have := hs f hf
      cases hx : f.attr.logical <;> simp [hx] at this hl
    | _ => simp at hid
  | @var id d vs v f hP hb hn hv hf hu =>
    simp only [Origin.owner] at hown
    subst hown
    cases c with
    | named id' as =>
      simp only [keyId, Option.some.injEq] at hid
      subst hid
      simp only [dupSafe, hP, hb, List.all_eq_true] at hs
      have := hs v hv
      simp [hf, hu] at this
    | _ => simp [keyId] at hid

theorem named_fieldOrg {id : Nat} {d : Decl} {fs : List Field} {k : Key} {f : Field} {o : Origin}
    (hP : P[id]? = some d) (hb : d.body = .record fs) (hko : KeyOf d id k) (hf : f ∈ fs)
    (ho : fieldOrg k f = some o) : Named P hash o (fqOf (recName d hash k ++ "." ++ f.name)) := by
  obtain ⟨hlog, rfl⟩ := fieldOrg_some.1 ho
  exact Named.sub hP hb hko hf hlog

theorem named_varOrg (hW : StructWf P) {id : Nat} {d : Decl} {vs : List Variant} (hP : P[id]? = some d)
    (hb : d.body = .union vs) {w : Variant} (hw : w ∈ vs) {o : Origin} (ho : varOrg id w = some o) :
    d.nparams = 0 ∧ Named P hash o (fqOf (ownedName d (.newtypeVariant w.ident) "")) := by
  obtain ⟨g, hg, hu, rfl⟩ := varOrg_some.1 ho
  have hnp : d.nparams = 0 := Classical.byContradiction fun hn => by
    rw [hW.union_generic_safe id d vs hP hb hn w hw g hg] at hu
    cases hu
  exact ⟨hnp, Named.var hP hb hnp hw hg hu⟩

/-- What the call for one field / variant establishes: it appended new nodes only, or, if the item
    owns an origin, a node of that origin in front of new nodes. -/
def ItemPost (P : Prog) (hash : Key → String) (own : Option Origin) (s s1 : BState) (os : List Origin) :
    Prop :=
  Appended P hash NoA s s1 os ∨
  ∃ o0, own = some o0 ∧
    AppendedTop P hash NoA (fun top => ∀ nm, nodeName top = some nm → Named P hash o0 nm) s s1 os

/-- A run over a list of fields / variants, one step: the first item, then the rest from the state
    it leaves.  The origins the items own are allowed at the start and pairwise distinct, so those of
    the rest are still allowed after the first item. -/
theorem items_cons {ι : Type} {own : ι → Option Origin} {x : ι} {xs : List ι} {s s1 s2 : BState}
    {os : List Origin} (hi : Inv P hash s os) (h1 : ItemPost P hash (own x) s s1 os)
    (hal : ∀ y ∈ x :: xs, ∀ o, own y = some o → Allowed s os o)
    (hne : ∀ y ∈ xs, ∀ o, own y = some o → own x ≠ some o)
    (hrest : ∀ os1, Inv P hash s1 (os ++ os1) →
      (∀ y ∈ xs, ∀ o, own y = some o → Allowed s1 (os ++ os1) o) →
      Appended P hash (fun o => ∃ y ∈ xs, own y = some o) s1 s2 (os ++ os1)) :
    Appended P hash (fun o => ∃ y ∈ x :: xs, own y = some o) s s2 os := by
  have halx := hal x (List.mem_cons_self ..)
  obtain ⟨e1, os1, hn1, he1⟩ : Appended P hash (fun o => own x = some o) s s1 os := by
    rcases h1 with ⟨e, os', hn, he⟩ | ⟨o0, ho, top, rest, os', hn, he, ht⟩
    · exact ⟨e, os', hn, he.weaken fun _ h => h.elim⟩
    · cases hx : nodeName top with
      | none => exact ⟨top :: rest, os', hn, (he.cons_skip hx).weaken fun _ h => h.elim⟩
      | some nm =>
        refine ⟨top :: rest, o0 :: os', hn, (he.cons_top hx (ht nm hx) (halx o0 ho) id).weaken ?_⟩
        rintro o (h | rfl)
        · exact h.elim
        · exact ho
  obtain ⟨e2, os2, hn2, he2⟩ := hrest os1 (he1.inv hi hn1 fun o ho => (halx o ho).2) fun y hy o ho =>
    (hal y (List.mem_cons_of_mem _ hy) o ho).step he1 (hne y hy o ho)
  exact ⟨e1 ++ e2, os1 ++ os2, by rw [hn2, hn1, List.append_assoc],
    (he1.weaken fun o ho => ⟨x, List.mem_cons_self .., ho⟩).trans
      (he2.weaken fun o ⟨y, hy, ho⟩ => ⟨y, List.mem_cons_of_mem _ hy, ho⟩)⟩

/-- `t` forwards to `t'` (a pointer, a forwarding newtype struct): same lookup key, same nodes. -/
theorem forward_post {t t' : Ty} (hlk : ∀ n, lookupKey P (n + 1) t = lookupKey P n t')
    {A : Origin → Prop} {s s' : BState} {os : List Origin} (ih : NameSpec P hash s (.append t') s')
    (hi : Inv P hash s os) (hA : ∀ o, A o → Allowed s os o) (hC : Compat P hash t A) :
    AppendedTop P hash A (TopOK P hash t) s s' os := by
  obtain ⟨top, rest, os', hn, he, htop⟩ := ih A os hi hA
    (fun n k0 o nm hk => hC (n + 1) k0 o nm (by rw [hlk]; exact hk))
  refine ⟨top, rest, os', hn, he, fun nm hnm n k0 hk => ?_⟩
  cases n with
  | zero => simp [lk_zero] at hk
  | succ n => rw [hlk] at hk; exact htop nm hnm n k0 hk

theorem record_typeName {fuel id : Nat} {d : Decl} {fs : List Field} {args : List Ty} {tn : String}
    (hP : P[id]? = some d) (hb : d.body = .record fs)
    (h : recTn P hash fuel d id args = some tn) :
    ∃ k n, KeyOf d id k ∧ lookupKey P n (.named id args) = some k ∧ tn = recName d hash k := by
  unfold recTn at h
  by_cases hn : d.nparams = 0
  · rw [if_pos hn] at h
    cases h
    exact ⟨[.self id], 1, .inl ⟨hn, rfl⟩, by rw [lk_named]; simp [hP, keyKind, hb, hn], by simp [recName, hn]⟩
  · rw [if_neg hn, Option.map_eq_some_iff] at h
    obtain ⟨k, hlk, rfl⟩ := h
    refine ⟨k, fuel, ?_, hlk, by simp [recName, hn]⟩
    rcases lk_named_shape P hlk hP (fun f' hb' => by rw [hb] at hb'; cases hb') with ⟨h1 | ⟨vs, h1⟩, _⟩ | h2
    · exact absurd h1 hn
    · rw [hb] at h1; cases h1
    · exact .inr h2

theorem topOK_of {t : Ty} {x : RegularType} {o : Origin} {nm0 : String} {n0 : Nat}
    (hx : tyName x = some nm0) (ho : Named P hash o nm0) (hk0 : lookupKey P n0 t = some o.owner)
    (hs : o.isSub = false) : TopOK P hash t (plain x) := fun nm hnm n k0 hk => by
  cases lookupKey_det P hk hk0
  obtain rfl : nm0 = nm := Option.some.inj (hx.symm.trans hnm)
  exact ⟨o, ho, rfl, hs⟩

theorem topOK_leaf {t : Ty} {x : RegularType} (hl : leafType t = some x) : TopOK P hash t (plain x) := by
  cases t <;> cases hl
  case byteArray m => exact topOK_of (n0 := 1) rfl (Named.arr m) rfl rfl
  all_goals exact topOK_unnamed rfl

/-- One more variant in front of a run over variants: the idents are distinct, so are the origins
    the variants own. -/
theorem variants_cons_post {id : Nat} {v : Variant} {rest : List Variant} {s s1 s2 : BState}
    {os : List Origin} (hi : Inv P hash s os) (hnd : ((v :: rest).map (·.ident)).Nodup)
    (hal : ∀ w ∈ v :: rest, ∀ o, varOrg id w = some o → Allowed s os o)
    (h1 : ItemPost P hash (varOrg id v) s s1 os)
    (hrest : ∀ os1, Inv P hash s1 (os ++ os1) →
      (∀ w ∈ rest, ∀ o, varOrg id w = some o → Allowed s1 (os ++ os1) o) →
      Appended P hash (fun o => ∃ w ∈ rest, varOrg id w = some o) s1 s2 (os ++ os1)) :
    Appended P hash (fun o => ∃ w ∈ v :: rest, varOrg id w = some o) s s2 os := by
  refine items_cons hi h1 hal ?_ hrest
  intro w hw o how hov
  obtain ⟨_, _, _, rfl⟩ := varOrg_some.1 how
  obtain ⟨_, _, _, he⟩ := varOrg_some.1 hov
  simp only [Origin.var.injEq, true_and] at he
  exact (List.nodup_cons.1 hnd).1 (List.mem_map.2 ⟨w, hw, he⟩)

theorem _root_.Avro.Impl.Derive.Builds.names (hW : StructWf P) {n : Nat}
    {s : BState} {c : Step} {s' : BState} (h : Builds P hash n s c s') : NameSpec P hash s c s' := by
  induction h with
  | leaf hl =>
    intro A os hi hA hC
    exact push_post hi (topOK_leaf hl)
  | ptr _ ih =>
    intro A os hi hA hC
    exact forward_post (fun n => lk_ptr P n _) ih hi hA hC
  | wrap hw _ hset ih =>
    intro A os hi hA hC
    obtain ⟨e, os', hn, he⟩ := ih os hi.resv
    refine fill_post ⟨e, os', hn, he.weaken fun _ h => h.elim⟩ hset (topOK_unnamed ?_)
    rcases wrapOf_cases hw with rfl | rfl <;> rfl
  | option _ _ hset ih1 ih2 =>
    intro A os hi hA hC
    obtain ⟨e1, os1, hn1, he1⟩ := ih1 os hi.resv
    obtain ⟨e2, os2, hn2, he2⟩ := ih2 (os ++ os1) (he1.inv hi.resv hn1 fun _ h => h.elim)
    exact fill_post ⟨e1 ++ e2, os1 ++ os2, by rw [hn2, hn1, List.append_assoc],
      (he1.trans he2).weaken fun _ h => h.elim⟩ hset (topOK_unnamed rfl)
  | enum hP hb =>
    intro A os hi hA hC
    exact push_post hi (topOK_of (n0 := 1) rfl (Named.enum hP hb)
      (by rw [lk_named]; simp [hP, keyKind, hb, Origin.owner]) rfl)
  | forward hP hb hd _ ih =>
    intro A os hi hA hC
    exact forward_post (fun n => by rw [lk_named]; simp only [hP, keyKind, hb, if_pos hd]) ih hi hA hC
  | @newtype _ id _ d f _ _ hP hb hd' _ ih =>
    intro A os hi hA hC
    have hfl : f ∈ d.body.lookupFields := by rw [hb]; exact List.mem_singleton.2 rfl
    rcases ih id os hi hP hfl with ⟨hnc, _⟩ | ⟨_, _, top, rest, os', hn, he, ht⟩
    · rw [hd'] at hnc; cases hnc
    · refine ⟨top, rest, os', hn, he.weaken (fun _ h => h.elim), fun nm hnm n k0 hk => ?_⟩
      cases ht nm hnm
      rcases lk_named_shape P hk hP (fun f' hb' => by rw [hb] at hb'; cases hb'; exact hd')
        with ⟨_, rfl⟩ | ⟨hne, _⟩
      · exact ⟨_, Named.newty hP hb hd', rfl, rfl⟩
      · exact absurd (hW.nparams_of_newtype id d f hP hb hd') hne
  | @record _ id _ d fields _ _ s _ _ hP hb htn _ hset ih =>
    intro A os hi hA hC
    obtain ⟨k, nk, hko, hlk, rfl⟩ := record_typeName hP hb htn
    have hown : ∀ f ∈ fields, ∀ o, fieldOrg k f = some o → A o := fun f hf o ho => by
      have hnamed := named_fieldOrg (hash := hash) hP hb hko hf ho
      obtain ⟨_, rfl⟩ := fieldOrg_some.1 ho
      exact hC nk k _ _ hlk hnamed rfl rfl
    obtain ⟨e, os', hn, he⟩ := ih id fields k os hi.resv hP hb (fun _ h => h)
      (hW.fields_nodup id d fields hP hb) hko rfl (fun f hf o ho => hA _ (hown f hf o ho))
    exact fill_post ⟨e, os', hn, he.weaken fun o ⟨f, hf, ho⟩ => hown f hf o ho⟩ hset
      (topOK_of rfl (Named.record hP hb hko) hlk rfl)
  | @union _ id _ d variants _ s _ _ hP hb _ hset ih =>
    intro A os hi hA hC
    have hAv : ∀ v ∈ variants, ∀ o, varOrg id v = some o → A o := by
      intro v hv o ho
      obtain ⟨hnp, hnamed⟩ := named_varOrg (hash := hash) hW hP hb hv ho
      obtain ⟨_, _, _, rfl⟩ := varOrg_some.1 ho
      exact hC 1 _ _ _ (by rw [lk_named]; simp [hP, keyKind, hb, hnp, Origin.owner]) hnamed rfl rfl
    obtain ⟨e, os', hn, he⟩ := ih id variants os hi.resv hP hb (fun _ h => h)
      (hW.variants_nodup id d variants hP hb) (fun v hv o ho => hA _ (hAv v hv o ho))
    exact fill_post ⟨e, os', hn, he.weaken fun o ⟨v, hv, ho⟩ => hAv v hv o ho⟩ hset (topOK_unnamed rfl)
  | found =>
    intro os hi
    exact .refl hi
  | @built _ t key s s' hk hb _ _ ih =>
    intro os hi
    have hnr : ¬ IsReg s key := by simp [IsReg, hb]
    have hreg : ∀ k, k = key ∨ IsReg s k → IsReg { s with built := (key, s.nodes.size) :: s.built } k :=
      fun k => (reg_cons s key _ k).2
    -- an origin owned by `key` is new: the owners of `os` were registered before `key`
    have hnew : ∀ o : Origin, o.owner = key →
        Allowed { s with built := (key, s.nodes.size) :: s.built } os o := fun o hok =>
      ⟨fun hm => hnr (hok ▸ hi.reg o hm), hreg _ (.inl hok)⟩
    obtain ⟨top, rest, os', hn, he, htop⟩ := ih (fun o => o.owner = key ∧ o.isSub = true) os
      ⟨hi.tagged, hi.nodup, fun o ho => hreg _ (.inr (hi.reg o ho))⟩ (fun o ho => hnew o ho.1)
      (fun n k0 o nm hk0 _ hown hsub => ⟨hown.trans (lookupKey_det P hk0 hk), hsub⟩)
    cases hx : nodeName top with
    | none => exact ⟨top :: rest, os', hn, (he.cons_skip hx).of_register hnr fun o ho => ho.1⟩
    | some nm =>
      obtain ⟨o, ho, hok, hsub⟩ := htop nm hx _ _ hk
      refine ⟨top :: rest, o :: os', hn,
        (he.cons_top hx ho (hnew o hok) fun hA => ?_).of_register hnr ?_⟩
      · rw [hsub] at hA; cases hA.2
      · rintro o' (h | rfl)
        · exact h.1
        · exact hok
  | @fixed _ d _ f kind rtn m s hl ho =>
    intro id os hi hP hf
    refine .inr ⟨by simp [isDirect_eq, ho], rfl, plain (.fixed (Name.ofFq (ownedName d kind rtn)) m), [], [],
      by simp, .nil hi rfl, ?_⟩
    intro nm hnm
    simpa [nodeName, tyName, plain, fqOf] using hnm.symm
  | direct hl ho _ ih =>
    intro id os hi hP hf
    exact .inl ⟨by simp [isDirect_eq, logicalOf_eq_none.mp hl, ho], ih os hi⟩
  | @logical _ d args f kind rtn lt node s s1 hl _ _ hg ih =>
    intro id os hi hP hf
    have hlog := logicalOf_some hl
    obtain ⟨top, rest, os', hn, he, _⟩ := ih NoA os hi (fun _ h => h.elim)
      (compat_of_dupSafe (hW.logical_dupSafe id d hP f hf hlog) args)
    have hsz : s.nodes.size = s.nodes.toList.length := by simp
    have hget : s1.nodes[s.nodes.size]? = some top := by
      rw [← Array.getElem?_toList, hn, hsz, List.getElem?_append_right (Nat.le_refl _), Nat.sub_self]
      rfl
    obtain rfl : node = top := Option.some.inj (hg.symm.trans hget)
    refine .inr ⟨not_direct_of_logical hlog, rfl,
      ⟨renameNode node.type (Name.ofFq (ownedName d kind rtn)), some lt⟩, rest, os', ?_,
      ⟨he.mono, he.tagged, he.nodup, he.src⟩, fun nm hnm => ?_⟩
    · simp only [Array.set!_eq_setIfInBounds, Array.toList_setIfInBounds, hn]
      rw [hsz, List.set_append_right _ _ (Nat.le_refl _), Nat.sub_self]
      rfl
    · rw [nodeName, tyName_rename, Option.map_eq_some_iff] at hnm
      obtain ⟨_, _, rfl⟩ := hnm
      rfl
  | fnil =>
    intro id fs0 k os hi _ _ _ _ _ _ _
    exact .refl hi
  | @fcons _ d args tn f rest k1 _ s s1 s2 _ _ ih1 ih2 =>
    intro id fs0 k os hi hP hb hsub hnd hko htn hal
    subst htn
    have hf0 : f ∈ fs0 := hsub f (List.mem_cons_self ..)
    have hnd' : f.name ∉ rest.map (·.name) ∧ (rest.map (·.name)).Nodup := by simpa using hnd
    refine items_cons hi ?_ hal ?_ fun os1 hi1 hal' =>
      ih2 id fs0 k _ hi1 hP hb (fun g hg => hsub g (List.mem_cons_of_mem _ hg)) hnd'.2 hko rfl hal'
    · rcases ih1 id os hi hP (hb ▸ hf0) with ⟨_, hp⟩ | ⟨hc, _, top, rest', os', hn, he, ht⟩
      · exact .inl hp
      · have hlog : f.attr.logical.isSome = true := by
          cases hx : f.attr.logical with
          | some l => rfl
          | none => simp [isDirect, hx, FieldKind.overridesFixedName] at hc
        refine .inr ⟨_, fieldOrg_some.2 ⟨hlog, rfl⟩, top, rest', os', hn, he, fun nm hnm => ?_⟩
        rw [ht nm hnm, ownedName_struct]
        exact Named.sub hP hb hko hf0 hlog
    · intro g hg o hog hof
      obtain ⟨_, rfl⟩ := fieldOrg_some.1 hog
      obtain ⟨_, he⟩ := fieldOrg_some.1 hof
      simp only [Origin.sub.injEq, true_and] at he
      exact hnd'.1 (List.mem_map.2 ⟨g, hg, he⟩)
  | vnil =>
    intro id vs0 os hi _ _ _ _ _
    exact .refl hi
  | @vunit _ d args v rest _ _ s s1 s2 hv _ _ ih1 ih2 =>
    intro id vs0 os hi hP hb hsub hnd hal
    exact variants_cons_post hi hnd hal (.inl (ih1 os hi)) fun os1 hi1 hal' =>
      ih2 id vs0 _ hi1 hP hb (fun w hw => hsub w (List.mem_cons_of_mem _ hw)) (List.nodup_cons.1 hnd).2 hal'
  | @vfield _ d args v f rest _ _ s s1 s2 hv _ _ ih1 ih2 =>
    intro id vs0 os hi hP hb hsub hnd hal
    have hv0 : v ∈ vs0 := hsub v (List.mem_cons_self ..)
    have hfl : f ∈ d.body.lookupFields := by rw [hb]; exact List.mem_filterMap.2 ⟨v, hv0, hv⟩
    refine variants_cons_post hi hnd hal ?_ fun os1 hi1 hal' =>
      ih2 id vs0 _ hi1 hP hb (fun w hw => hsub w (List.mem_cons_of_mem _ hw)) (List.nodup_cons.1 hnd).2 hal'
    rcases ih1 id os hi hP hfl with ⟨_, hp⟩ | ⟨hc, _, top, rest', os', hn, he, ht⟩
    · exact .inl hp
    · have hown : varOrg id v = some (.var id v.ident) :=
        varOrg_some.2 ⟨f, hv, unsafe_of_not_direct hc, rfl⟩
      exact .inr ⟨_, hown, top, rest', os', hn, he, fun nm hnm =>
        ht nm hnm ▸ (named_varOrg hW hP hb hv0 hown).2⟩

theorem inv_empty : Inv P hash {} [] := ⟨by simpa using Tagged.nil, .nil, nofun⟩

/-- The lookup keys the build of `root` registers (`already_built_types` of the final builder
    state), a finite computable list; `[]` if the build fails. -/
def builtKeys (P : Prog) (hash : Key → String) (fuel : Nat) (root : Ty) : List Key :=
  match findOrBuild P hash fuel root {} with
  | some (_, s) => s.built.map (·.1)
  | none => []

theorem mem_keys_of_lookup {α β} [BEq α] [LawfulBEq α] {k : α} {l : List (α × β)}
    (h : (l.lookup k).isSome = true) : k ∈ l.map (·.1) := by
  obtain ⟨b, hb⟩ := Option.isSome_iff_exists.1 h
  obtain ⟨l₁, l₂, rfl, _⟩ := List.lookup_eq_some_iff.1 hb
  simp

/-- The named nodes of a derived schema come from pairwise distinct origins, each owned by a lookup
    key the build registers: every origin is created at most once, whatever `hash` is. -/
theorem origins_of_build (hW : StructWf P) {fuel : Nat} {root : Ty} {S : SchemaMut}
    (h : schemaMut P hash fuel root = some S) :
    ∃ os, Tagged P hash S.toList os ∧ os.Nodup ∧ ∀ o ∈ os, o.owner ∈ builtKeys P hash fuel root := by
  obtain ⟨⟨idx, s'⟩, h1, rfl⟩ := Option.map_eq_some_iff.1 h
  obtain ⟨ext, os, hn, he⟩ := (Builds.of_ran fuel (.find root idx) {} s' h1).names hW [] inv_empty
  have hi := he.inv inv_empty hn nofun
  refine ⟨_, hi.tagged, hi.nodup, fun o ho => ?_⟩
  simp only [builtKeys, h1]
  exact mem_keys_of_lookup (hi.reg o ho)

theorem definedNames_nodup_on (hW : StructWf P) {fuel : Nat} {root : Ty}
    (hI : NameInjOn P hash (fun k => k ∈ builtKeys P hash fuel root))
    {S : SchemaMut} (h : schemaMut P hash fuel root = some S) : (definedNames S).Nodup := by
  obtain ⟨os, ht, hnd, hK⟩ := origins_of_build hW h
  exact ht.nodup hI hnd hK

/-- From injectivity on ALL origins (unmeetable by a hash with finitely many values as soon as the
    program has a generic record). -/
theorem definedNames_nodup (hW : StructWf P) (hI : NameInj P hash) {fuel : Nat} {root : Ty}
    {S : SchemaMut} (h : schemaMut P hash fuel root = some S) : (definedNames S).Nodup :=
  definedNames_nodup_on hW (hI.on _) h

def okStart (s : String) : Bool :=
  match s.toList with
  | c :: _ => c != '.'
  | [] => false

theorem rfindDot_go_zero (cs : List Char) (i : Nat) (acc : Option Nat)
    (h : rfindDot.go cs i acc = some 0) : acc = some 0 ∨ (i = 0 ∧ cs.head? = some '.') := by
  induction cs generalizing i acc with
  | nil => exact .inl (by simpa [rfindDot.go] using h)
  | cons c rest ih =>
    simp only [rfindDot.go] at h
    rcases ih _ _ h with h1 | ⟨h1, _⟩
    · by_cases hc : c = '.'
      · simp only [hc, if_true, Option.some.injEq] at h1
        exact .inr ⟨h1, by simp [hc]⟩
      · simp only [hc, if_false] at h1
        exact .inl h1
    · omega

theorem fqOf_eq {s : String} (h : okStart s = true) : fqOf s = s := by
  have hne : rfindDot s.toList ≠ some 0 := by
    intro h0
    rcases rfindDot_go_zero _ _ _ h0 with h1 | ⟨_, h1⟩
    · cases h1
    · unfold okStart at h
      cases hs : s.toList with
      | nil => simp [hs] at h1
      | cons c r => simp [hs] at h h1; exact h h1
  unfold fqOf Name.ofFq
  simp only
  split
  · rfl
  · rename_i h0; exact absurd h0 hne
  · rfl

theorem okStart_append {a : String} (b : String) (h : okStart a = true) : okStart (a ++ b) = true := by
  unfold okStart at h ⊢
  rw [String.toList_append]
  cases ha : a.toList with
  | nil => simp [ha] at h
  | cons c r => simpa [ha] using h

theorem split_first {α} {c : α} : ∀ {a b x y : List α}, c ∉ a → c ∉ b → a ++ c :: x = b ++ c :: y →
    a = b ∧ x = y
  | [], [], _, _, _, _, h => ⟨rfl, by simpa using h⟩
  | [], d :: b, _, _, _, hb, h => by
    simp only [List.nil_append, List.cons_append, List.cons.injEq] at h
    exact absurd (h.1 ▸ List.mem_cons_self ..) hb
  | d :: a, [], _, _, ha, _, h => by
    simp only [List.nil_append, List.cons_append, List.cons.injEq] at h
    exact absurd (h.1 ▸ List.mem_cons_self ..) ha
  | d :: a, e :: b, _, _, ha, hb, h => by
    simp only [List.cons_append, List.cons.injEq] at h
    obtain ⟨rfl, h⟩ := h
    have := split_first (fun hm => ha (List.mem_cons_of_mem _ hm))
      (fun hm => hb (List.mem_cons_of_mem _ hm)) h
    exact ⟨by rw [this.1], this.2⟩

theorem repr_inj {n m : Nat} (h : Nat.toDigits 10 n = Nat.toDigits 10 m) : n = m := by
  have := congrArg (fun l => Nat.ofDigitChars 10 l 0) h
  simpa using this

/-- The names a declaration contributes that do not depend on a generic hash. -/
def staticNames (d : Decl) : List String :=
  match d.body with
  | .record fs =>
    typeName d ::
      (if d.nparams = 0 then
        (fs.filter (·.attr.logical.isSome)).map fun f => typeName d ++ "." ++ f.name
      else [])
  | .unitEnum _ => [typeName d]
  | .newtype f => if isDirect f .newtypeStruct then [] else [ownedName d .newtypeStruct ""]
  | .union vs =>
    (vs.filter fun v => match v.field with | some f => !safeField f | none => false).map fun v =>
      ownedName d (.newtypeVariant v.ident) ""

/-- A generic record declaration (the same predicate as `DeriveG.isGenRec`). -/
def isGenericRecord (d : Decl) : Bool :=
  (match d.body with | .record _ => true | _ => false) && d.nparams != 0

/-- Conditions on the declared names (all decidable, about the program text) and on `hash`. -/
structure TextWf (P : Prog) (hash : Key → String) : Prop where
  start_ok : ∀ (id : Nat) (d : Decl), P[id]? = some d → ∀ x ∈ staticNames d, okStart x = true
  distinct : ∀ (id : Nat) (d : Decl), P[id]? = some d → ∀ (id' : Nat) (d' : Decl), P[id']? = some d' →
    id ≠ id' → ∀ x ∈ staticNames d, x ∉ staticNames d'
  no_u8_array : ∀ (id : Nat) (d : Decl), P[id]? = some d → ∀ x ∈ staticNames d,
    ¬ "u8_array_".toList <+: x.toList
  generic_prefix_free : ∀ (id : Nat) (d : Decl), P[id]? = some d → isGenericRecord d = true →
    (∀ (id' : Nat) (d' : Decl), P[id']? = some d' → ∀ x ∈ staticNames d',
      ¬ (typeName d ++ "_").toList <+: x.toList) ∧
    ¬ (typeName d ++ "_").toList <+: "u8_array_".toList
  hash_inj : ∀ k k', hash k = hash k' → k = k'
  hash_nodot : ∀ k, '.' ∉ (hash k).toList

/-- `k` is the lookup key of (an instantiation of) a generic record of `P`: the keys whose hash
    enters a name (`recName`). -/
def isGenericKey (P : Prog) (k : Key) : Bool :=
  match keyId k with
  | some id =>
    match P[id]? with
    | some d => isGenericRecord d
    | none => false
  | none => false

def genericRecordKeys (P : Prog) (hash : Key → String) (fuel : Nat) (root : Ty) : List Key :=
  (builtKeys P hash fuel root).filter (isGenericKey P)

/-- `TextWf` with the two conditions on `hash` restricted to a list of keys: every field is a
    decidable statement for a concrete program, hash and list. -/
structure TextWfOn (P : Prog) (hash : Key → String) (Ks : List Key) : Prop where
  start_ok : ∀ (id : Nat) (d : Decl), P[id]? = some d → ∀ x ∈ staticNames d, okStart x = true
  distinct : ∀ (id : Nat) (d : Decl), P[id]? = some d → ∀ (id' : Nat) (d' : Decl), P[id']? = some d' →
    id ≠ id' → ∀ x ∈ staticNames d, x ∉ staticNames d'
  no_u8_array : ∀ (id : Nat) (d : Decl), P[id]? = some d → ∀ x ∈ staticNames d,
    ¬ "u8_array_".toList <+: x.toList
  generic_prefix_free : ∀ (id : Nat) (d : Decl), P[id]? = some d → isGenericRecord d = true →
    (∀ (id' : Nat) (d' : Decl), P[id']? = some d' → ∀ x ∈ staticNames d',
      ¬ (typeName d ++ "_").toList <+: x.toList) ∧
    ¬ (typeName d ++ "_").toList <+: "u8_array_".toList
  hash_inj : ∀ k ∈ Ks, ∀ k' ∈ Ks, hash k = hash k' → k = k'
  hash_nodot : ∀ k ∈ Ks, '.' ∉ (hash k).toList

/-- The conditions on the declared names do not mention `hash`: they carry over to any hash that
    is injective and dot-free on the new list. -/
theorem TextWfOn.of_hash {P : Prog} {hash hash' : Key → String} {Ks Ks' : List Key}
    (h : TextWfOn P hash Ks) (hinj : ∀ k ∈ Ks', ∀ k' ∈ Ks', hash' k = hash' k' → k = k')
    (hnd : ∀ k ∈ Ks', '.' ∉ (hash' k).toList) : TextWfOn P hash' Ks' :=
  ⟨h.start_ok, h.distinct, h.no_u8_array, h.generic_prefix_free, hinj, hnd⟩

theorem TextWf.on {P : Prog} {hash : Key → String} (h : TextWf P hash) (Ks : List Key) :
    TextWfOn P hash Ks :=
  ⟨h.start_ok, h.distinct, h.no_u8_array, h.generic_prefix_free,
    fun k _ k' _ => h.hash_inj k k', fun k _ => h.hash_nodot k⟩

theorem TextWfOn.mono {P : Prog} {hash : Key → String} {Ks Ks' : List Key} (h : TextWfOn P hash Ks)
    (hs : ∀ k ∈ Ks', k ∈ Ks) : TextWfOn P hash Ks' :=
  h.of_hash (fun k hk k' hk' => h.hash_inj k (hs k hk) k' (hs k' hk')) fun k hk => h.hash_nodot k (hs k hk)

variable {Ks : List Key}

theorem str_ne_append_dot {a f : String} : a ≠ a ++ "." ++ f := by
  intro h
  have := congrArg (fun s => s.toList.length) h
  simp at this

theorem ownedName_variant (d : Decl) : ∃ pre : String, ∀ v,
    ownedName d (.newtypeVariant v) "" = pre ++ v := by
  unfold ownedName
  cases d.ns with
  | none => exact ⟨d.modulePath ++ "." ++ d.ident ++ ".", fun v => by simp [String.append_assoc]⟩
  | some ns => exact ⟨(if ns = "" then "" else ns ++ ".") ++ d.ident ++ ".", fun v => by simp [String.append_assoc]⟩

/-- The origins that declaration `id` names without a hash, with their raw names. -/
def StatShape (id : Nat) (d : Decl) (o : Origin) (x : String) : Prop :=
  match d.body with
  | .unitEnum _ => o = .top [.self id] ∧ x = typeName d
  | .record _ =>
    (o = .top [.self id] ∧ x = typeName d) ∨ ∃ f, o = .sub [.self id] f ∧ x = typeName d ++ "." ++ f
  | .newtype _ => o = .newty id ∧ x = ownedName d .newtypeStruct ""
  | .union _ => ∃ v, o = .var id v ∧ x = ownedName d (.newtypeVariant v) ""

theorem statShape_inj {id : Nat} {d : Decl} {o o' : Origin} {x : String} (h : StatShape id d o x)
    (h' : StatShape id d o' x) : o = o' := by
  unfold StatShape at h h'
  cases hb : d.body <;> simp only [hb] at h h'
  case unitEnum => rw [h.1, h'.1]
  case newtype => rw [h.1, h'.1]
  case record =>
    rcases h with ⟨rfl, rfl⟩ | ⟨f, rfl, rfl⟩ <;> rcases h' with ⟨rfl, he⟩ | ⟨f', rfl, he⟩
    · rfl
    · exact absurd he str_ne_append_dot
    · exact absurd he.symm str_ne_append_dot
    · rw [(String.append_right_inj _).mp he]
  case union =>
    obtain ⟨pre, hpre⟩ := ownedName_variant d
    obtain ⟨v, rfl, rfl⟩ := h
    obtain ⟨v', rfl, he⟩ := h'
    rw [hpre, hpre] at he
    rw [(String.append_right_inj _).mp he]

/-- Classification of an origin's raw name: `u8_array_N`, a hash-free name of a declaration, or
    the name of a generic record (with `b` the hash, followed by `.field` for an owned node). -/
inductive Cls (P : Prog) (hash : Key → String) : Origin → String → Prop
  | arr (n : Nat) : Cls P hash (.arr n) ("u8_array_" ++ toString n)
  | stat {id d o x} : P[id]? = some d → x ∈ staticNames d → StatShape id d o x → Cls P hash o x
  | gen {id d o k b} : P[id]? = some d → isGenericRecord d = true → keyId k = some id →
      ((o = .top k ∧ b = hash k) ∨ ∃ f, o = .sub k f ∧ b = hash k ++ ("." ++ f)) →
      Cls P hash o (typeName d ++ ("_" ++ b))

theorem isGenericRecord_of {d : Decl} {fs : List Field} (hb : d.body = .record fs) (hn : d.nparams ≠ 0) :
    isGenericRecord d = true := by
  simp [isGenericRecord, hb, hn]

theorem typeName_static_of_generic {d : Decl} (h : isGenericRecord d = true) :
    typeName d ∈ staticNames d := by
  unfold isGenericRecord at h
  unfold staticNames
  cases hb : d.body <;> simp [hb] at h ⊢

theorem named_cls {o : Origin} {nm : String} (h : Named P hash o nm) :
    ∃ x, nm = fqOf x ∧ Cls P hash o x := by
  cases h with
  | arr n => exact ⟨_, rfl, .arr n⟩
  | @enum id d vs hP hb =>
    exact ⟨_, rfl, .stat hP (by simp [staticNames, hb]) (by simp [StatShape, hb])⟩
  | @record id d fs k hP hb hko =>
    rcases hko with ⟨hn, rfl⟩ | ⟨hn, m, r, rfl⟩
    · exact ⟨typeName d, by rw [recName, if_pos hn],
        .stat hP (by simp [staticNames, hb]) (by simp [StatShape, hb])⟩
    · exact ⟨_, by rw [recName, if_neg hn, String.append_assoc],
        .gen hP (isGenericRecord_of hb hn) rfl (.inl ⟨rfl, rfl⟩)⟩
  | @newty id d f hP hb hd =>
    exact ⟨_, rfl, .stat hP (by simp [staticNames, hb, hd]) (by simp [StatShape, hb])⟩
  | @sub id d fs k f hP hb hko hf hl =>
    rcases hko with ⟨hn, rfl⟩ | ⟨hn, m, r, rfl⟩
    · refine ⟨typeName d ++ "." ++ f.name, by rw [recName, if_pos hn], .stat hP ?_ (by simp [StatShape, hb])⟩
      simp only [staticNames, hb, hn, if_true, List.mem_cons, List.mem_map, List.mem_filter]
      exact .inr ⟨f, ⟨hf, hl⟩, rfl⟩
    · exact ⟨_, by simp only [recName, if_neg hn, String.append_assoc],
        .gen hP (isGenericRecord_of hb hn) rfl (.inr ⟨f.name, rfl, rfl⟩)⟩
  | @var id d vs v f hP hb hn hv hf hu =>
    refine ⟨_, rfl, .stat hP ?_ (by simp [StatShape, hb])⟩
    simp only [staticNames, hb, List.mem_map, List.mem_filter]
    exact ⟨v, ⟨hv, by simp [hf, hu]⟩, rfl⟩

theorem cls_okStart (hT : TextWfOn P hash Ks) {o : Origin} {x : String} (h : Cls P hash o x) :
    okStart x = true := by
  cases h with
  | arr n => exact okStart_append _ (by decide)
  | stat hP hx _ => exact hT.start_ok _ _ hP _ hx
  | gen hP hg _ _ => exact okStart_append _ (hT.start_ok _ _ hP _ (typeName_static_of_generic hg))

theorem gen_prefix (d : Decl) (b : String) :
    (typeName d ++ "_").toList <+: (typeName d ++ ("_" ++ b)).toList :=
  ⟨b.toList, by simp [String.toList_append]⟩

theorem gen_vs_stat (hT : TextWfOn P hash Ks) {id id' : Nat} {d d' : Decl} (hP : P[id]? = some d)
    (hg : isGenericRecord d = true) (hP' : P[id']? = some d') {x b : String} (hx : x ∈ staticNames d')
    (h : x = typeName d ++ ("_" ++ b)) : False :=
  (hT.generic_prefix_free id d hP hg).1 id' d' hP' x hx (h ▸ gen_prefix d b)

theorem gen_vs_arr (hT : TextWfOn P hash Ks) {id : Nat} {d : Decl} (hP : P[id]? = some d)
    (hg : isGenericRecord d = true) {a b : String} (h : "u8_array_" ++ a = typeName d ++ ("_" ++ b)) :
    False := by
  have h1 : "u8_array_".toList <+: (typeName d ++ ("_" ++ b)).toList :=
    ⟨a.toList, by rw [← h, String.toList_append]⟩
  have hf := (hT.generic_prefix_free id d hP hg).2
  rcases List.prefix_or_prefix_of_prefix h1 (gen_prefix d b) with hp | hp
  · have hp' : "u8_array_".toList <+: (typeName d).toList ++ ['_'] := by
      simpa [String.toList_append] using hp
    rcases List.prefix_concat_iff.1 hp' with he | hp'
    · exact hf ⟨[], by simpa [String.toList_append] using he.symm⟩
    · exact hT.no_u8_array id d hP _ (typeName_static_of_generic hg) hp'
  · exact hf hp

theorem gen_prefix_free (hT : TextWfOn P hash Ks) {id id' : Nat} {d d' : Decl} (hP : P[id]? = some d)
    (hg : isGenericRecord d = true) (hP' : P[id']? = some d') (hg' : isGenericRecord d' = true)
    (hne : id ≠ id') : ¬ (typeName d ++ "_").toList <+: (typeName d' ++ "_").toList := by
  intro hp
  have hp' : (typeName d ++ "_").toList <+: (typeName d').toList ++ ['_'] := by
    simpa [String.toList_append] using hp
  rcases List.prefix_concat_iff.1 hp' with he | hp'
  · have : typeName d = typeName d' := String.toList_inj.1 (by simpa [String.toList_append] using he)
    exact hT.distinct id d hP id' d' hP' hne _ (typeName_static_of_generic hg)
      (this ▸ typeName_static_of_generic hg')
  · exact (hT.generic_prefix_free id d hP hg).1 id' d' hP' _ (typeName_static_of_generic hg') hp'

theorem gen_vs_gen (hT : TextWfOn P hash Ks) {id id' : Nat} {d d' : Decl} (hP : P[id]? = some d)
    (hg : isGenericRecord d = true) (hP' : P[id']? = some d') (hg' : isGenericRecord d' = true)
    (hne : id ≠ id') {b b' : String} (h : typeName d ++ ("_" ++ b) = typeName d' ++ ("_" ++ b')) : False := by
  rcases List.prefix_or_prefix_of_prefix (gen_prefix d b) (h ▸ gen_prefix d' b') with hp | hp
  · exact gen_prefix_free hT hP hg hP' hg' hne hp
  · exact gen_prefix_free hT hP' hg' hP hg (Ne.symm hne) hp

theorem hash_field_inj {h h' : String} (hnd : '.' ∉ h.toList) (hnd' : '.' ∉ h'.toList) {f f' : String}
    (he : h ++ ("." ++ f) = h' ++ ("." ++ f')) : h = h' ∧ f = f' := by
  have := congrArg String.toList he
  simp only [String.toList_append] at this
  obtain ⟨h3, h4⟩ := split_first hnd hnd' (by simpa using this)
  exact ⟨String.toList_inj.1 h3, String.toList_inj.1 h4⟩

theorem cls_inj (hT : TextWfOn P hash Ks) {o o' : Origin} {x x' : String} (h : Cls P hash o x)
    (h' : Cls P hash o' x') (hx : x = x')
    (hKo : isGenericKey P o.owner = true → o.owner ∈ Ks)
    (hKo' : isGenericKey P o'.owner = true → o'.owner ∈ Ks) : o = o' := by
  cases h with
  | arr n =>
    cases h' with
    | arr m =>
      have hl := congrArg String.toList hx
      simp only [String.toList_append, Nat.toString_eq_repr, Nat.toList_repr] at hl
      rw [repr_inj (List.append_cancel_left hl)]
    | stat hP' hx' _ =>
      exact absurd ⟨_, by rw [← hx, String.toList_append]⟩ (hT.no_u8_array _ _ hP' _ hx')
    | gen hP' hg' _ _ => exact (gen_vs_arr hT hP' hg' hx).elim
  | @stat id d _ _ hP hxs hc =>
    cases h' with
    | arr m =>
      exact absurd ⟨_, by rw [hx, String.toList_append]⟩ (hT.no_u8_array _ _ hP _ hxs)
    | @stat id' d' _ _ hP' hxs' hc' =>
      subst hx
      by_cases hid : id = id'
      · subst hid
        rw [hP] at hP'
        cases hP'
        exact statShape_inj hc hc'
      · exact absurd hxs' (hT.distinct id d hP id' d' hP' hid _ hxs)
    | gen hP' hg' _ _ => exact (gen_vs_stat hT hP' hg' hP hxs hx).elim
  | @gen id d _ k b hP hg hk hc =>
    cases h' with
    | arr m => exact (gen_vs_arr hT hP hg hx.symm).elim
    | stat hP' hxs' _ => exact (gen_vs_stat hT hP hg hP' hxs' hx.symm).elim
    | @gen id' d' _ k' b' hP' hg' hk' hc' =>
      by_cases hid : id = id'
      · subst hid
        rw [hP] at hP'
        cases hP'
        have hb := (String.append_right_inj _).mp ((String.append_right_inj _).mp hx)
        have hgk : ∀ k, keyId k = some id → isGenericKey P k = true := fun k hk => by
          simp [isGenericKey, hk, hP, hg]
        have hmem : k ∈ Ks := by
          rcases hc with ⟨rfl, _⟩ | ⟨f, rfl, _⟩ <;> exact hKo (hgk k hk)
        have hmem' : k' ∈ Ks := by
          rcases hc' with ⟨rfl, _⟩ | ⟨f, rfl, _⟩ <;> exact hKo' (hgk k' hk')
        have hnd := hT.hash_nodot k hmem
        have hnd' := hT.hash_nodot k' hmem'
        rcases hc with ⟨rfl, rfl⟩ | ⟨f, rfl, rfl⟩ <;> rcases hc' with ⟨rfl, rfl⟩ | ⟨f', rfl, rfl⟩
        · rw [hT.hash_inj _ hmem _ hmem' hb]
        · rw [hb] at hnd
          simp [String.toList_append] at hnd
        · rw [← hb] at hnd'
          simp [String.toList_append] at hnd'
        · obtain ⟨h1, rfl⟩ := hash_field_inj hnd hnd' hb
          rw [hT.hash_inj _ hmem _ hmem' h1]
      · exact (gen_vs_gen hT hP hg hP' hg' hid hx).elim

/-- `Ks` need only contain the generic-record keys of `K`: the only keys whose hash enters a name. -/
theorem nameInjOn_of_textWfOn {K : Key → Prop} (hT : TextWfOn P hash Ks)
    (hKs : ∀ k, K k → isGenericKey P k = true → k ∈ Ks) : NameInjOn P hash K := by
  intro o o' nm h h' hk hk'
  obtain ⟨x, rfl, hc⟩ := named_cls h
  obtain ⟨x', hx', hc'⟩ := named_cls h'
  rw [fqOf_eq (cls_okStart hT hc), fqOf_eq (cls_okStart hT hc')] at hx'
  exact cls_inj hT hc hc' hx' (hKs _ hk) (hKs _ hk')

/-- Global form: `TextWf.hash_inj` is about all keys. -/
theorem nameInj_of_textWf (hT : TextWf P hash) : NameInj P hash := by
  intro o o' nm h h'
  exact nameInjOn_of_textWfOn (K := fun k => k ∈ [o.owner, o'.owner]) (hT.on [o.owner, o'.owner])
    (fun _ hk _ => hk) o o' nm h h' (by simp) (by simp)

theorem _root_.Avro.Impl.Derive.Builds.hash_irrelevant {P : Prog}
    (hP : ∀ (id : Nat) (d : Decl), P[id]? = some d → isGenericRecord d = false)
    {hash hash' : Key → String} {n : Nat} {c : Step} {s s' : BState} (h : Builds P hash n s c s') :
    Builds P hash' n s c s' := by
  induction h with
  | fnil => exact .fnil
  | vnil => exact .vnil
  | leaf hl => exact .leaf hl
  | ptr _ ih => exact .ptr ih
  | wrap hw _ hset ih => exact .wrap hw ih hset
  | option _ _ hset ih1 ih2 => exact .option ih1 ih2 hset
  | enum hd hb => exact .enum hd hb
  | forward hd hb hdir _ ih => exact .forward hd hb hdir ih
  | newtype hd hb hdir _ ih => exact .newtype hd hb hdir ih
  | record hd hb htn _ hset ih =>
    -- the only place where `hash` is looked at: the type name of a generic record
    refine .record hd hb ?_ ih hset
    have := hP _ _ hd
    simp only [isGenericRecord, hb, Bool.true_and, bne_eq_false_iff_eq] at this
    simpa only [recTn, this, if_true] using htn
  | union hd hb _ hset ih => exact .union hd hb ih hset
  | found hk hidx => exact .found hk hidx
  | built hk hnone _ hlt ih => exact .built hk hnone ih hlt
  | fixed hl ho => exact .fixed hl ho
  | direct hl ho _ ih => exact .direct hl ho ih
  | logical hl _ hsz hnode ih => exact .logical hl ih hsz hnode
  | fcons _ _ ih1 ih2 => exact .fcons ih1 ih2
  | vunit hv _ _ ih1 ih2 => exact .vunit hv ih1 ih2
  | vfield hv _ _ ih1 ih2 => exact .vfield hv ih1 ih2

theorem ran_hash_irrelevant {P : Prog}
    (hP : ∀ (id : Nat) (d : Decl), P[id]? = some d → isGenericRecord d = false)
    (hash hash' : Key → String) {n : Nat} {c : Step} {s s' : BState} :
    c.Ran P hash n s s' ↔ c.Ran P hash' n s s' :=
  ⟨fun h => (Builds.hash_irrelevant hP (Builds.of_ran n c s s' h)).ran,
   fun h => (Builds.hash_irrelevant hP (Builds.of_ran n c s s' h)).ran⟩

theorem schemaMut_hash_irrelevant {P : Prog}
    (hP : ∀ (id : Nat) (d : Decl), P[id]? = some d → isGenericRecord d = false)
    (hash hash' : Key → String) (fuel : Nat) (t : Ty) :
    schemaMut P hash fuel t = schemaMut P hash' fuel t :=
  congrArg (Option.map _) (Option.ext fun r => ran_hash_irrelevant hP hash hash' (c := .find t r.1))

theorem schemaMutOld_hash_irrelevant {P : Prog}
    (hP : ∀ (id : Nat) (d : Decl), P[id]? = some d → isGenericRecord d = false)
    (hash hash' : Key → String) (fuel : Nat) (t : Ty) :
    schemaMutOld P hash fuel t = schemaMutOld P hash' fuel t :=
  congrArg (Option.map _) (Option.ext fun _ => ran_hash_irrelevant hP hash hash' (c := .append t))

/-- Built-in types up to what the crate's `BuildSchema` implementations identify: pointers are
    transparent, `i8/i16/u16 → i32`, `u32/u64/usize → i64`, `&str → String`, `&[u8] → Vec<u8>`,
    `BTreeMap → HashMap`. -/
inductive CTy
  | unit | bool | int | long | float | double | string | bytes
  | byteArray (n : Nat)
  | vec (t : CTy) | option (t : CTy) | map (t : CTy)
  deriving DecidableEq, Repr

/-- Canonical form of a closed built-in type (`none` if it mentions a declared type or a parameter). -/
def canon : Ty → Option CTy
  | .unit => some .unit | .bool => some .bool
  | .i8 | .i16 | .i32 | .u16 => some .int
  | .i64 | .u32 | .u64 | .usize => some .long
  | .f32 => some .float | .f64 => some .double
  | .string | .str => some .string
  | .byteVec | .byteSlice => some .bytes
  | .byteArray n => some (.byteArray n)
  | .vec t => (canon t).map .vec
  | .option t => (canon t).map .option
  | .hashMap t | .btreeMap t => (canon t).map .map
  | .ptr t => canon t
  | .named _ _ => none
  | .param _ => none

def ckey : CTy → Key
  | .unit => [.unit] | .bool => [.bool] | .int => [.int] | .long => [.long]
  | .float => [.float] | .double => [.double] | .string => [.string] | .bytes => [.bytes]
  | .byteArray n => [.byteArray n]
  | .vec t => .vec :: ckey t
  | .option t => .option :: ckey t
  | .map t => .map :: ckey t

def unckey : Key → Option CTy
  | [.unit] => some .unit | [.bool] => some .bool | [.int] => some .int | [.long] => some .long
  | [.float] => some .float | [.double] => some .double | [.string] => some .string
  | [.bytes] => some .bytes | [.byteArray n] => some (.byteArray n)
  | .vec :: k => (unckey k).map .vec
  | .option :: k => (unckey k).map .option
  | .map :: k => (unckey k).map .map
  | _ => none

theorem unckey_ckey (c : CTy) : unckey (ckey c) = some c := by
  induction c <;> simp [ckey, unckey, *]

theorem ckey_inj {c c' : CTy} (h : ckey c = ckey c') : c = c' :=
  Option.some.inj (by rw [← unckey_ckey c, h, unckey_ckey])

theorem lookupKey_canon_some (P : Prog) : ∀ (t : Ty) (c : CTy), canon t = some c →
    ∃ n, lookupKey P n t = some (ckey c)
  | .vec t, c, hc | .option t, c, hc | .hashMap t, c, hc | .btreeMap t, c, hc => by
    simp only [canon, Option.map_eq_some_iff] at hc
    obtain ⟨b, hb, rfl⟩ := hc
    obtain ⟨n, hn⟩ := lookupKey_canon_some P t b hb
    exact ⟨n + 1, by simp only [lk_vec, lk_option, lk_hashMap, lk_btreeMap, hn]; rfl⟩
  | .ptr t, c, hc => by
    obtain ⟨n, hn⟩ := lookupKey_canon_some P t c hc
    exact ⟨n + 1, by rw [lk_ptr, hn]⟩
  | .named id args, c, hc | .param i, c, hc => by cases hc
  | .unit, c, hc | .bool, c, hc | .i8, c, hc | .i16, c, hc | .i32, c, hc | .i64, c, hc
  | .u16, c, hc | .u32, c, hc | .u64, c, hc | .usize, c, hc | .f32, c, hc | .f64, c, hc
  | .string, c, hc | .str, c, hc | .byteVec, c, hc | .byteSlice, c, hc | .byteArray _, c, hc => by
    cases hc
    exact ⟨1, rfl⟩

theorem lookupKey_canon (P : Prog) (n : Nat) (t : Ty) (k : Key) (c : CTy)
    (h : lookupKey P n t = some k) (hc : canon t = some c) : k = ckey c :=
  let ⟨_, hn⟩ := lookupKey_canon_some P t c hc
  lookupKey_det P h hn

/-! ### An injective, dot-free `hash` (for non-vacuity; the crate uses SipHash of the `TypeId`) -/

def encTok : KTok → List Char
  | .unit => ['a'] | .bool => ['b'] | .int => ['c'] | .long => ['d'] | .float => ['e']
  | .double => ['f'] | .string => ['g'] | .bytes => ['h'] | .vec => ['i'] | .option => ['j']
  | .map => ['k']
  | .byteArray n => 'l' :: (List.replicate n 'x' ++ ['y'])
  | .self id => 'm' :: (List.replicate id 'x' ++ ['y'])
  | .generic id nf => 'n' :: (List.replicate id 'x' ++ 'y' :: (List.replicate nf 'x' ++ ['y']))

def hashDemo (k : Key) : String := String.ofList (k.flatMap encTok)

/-- Reads `x…xy` (a number in unary): the number of `x` and what follows the `y`. -/
def unary : List Char → Option (Nat × List Char)
  | [] => none
  | c :: r =>
    if c = 'y' then some (0, r)
    else if c = 'x' then (unary r).map fun (n, r) => (n + 1, r)
    else none

theorem unary_replicate (n : Nat) (r : List Char) :
    unary (List.replicate n 'x' ++ 'y' :: r) = some (n, r) := by
  induction n with
  | zero => rfl
  | succ n ih => simp [List.replicate_succ, unary, ih]

def decTok : List Char → Option (KTok × List Char)
  | [] => none
  | c :: r =>
    if c = 'a' then some (.unit, r) else if c = 'b' then some (.bool, r)
    else if c = 'c' then some (.int, r) else if c = 'd' then some (.long, r)
    else if c = 'e' then some (.float, r) else if c = 'f' then some (.double, r)
    else if c = 'g' then some (.string, r) else if c = 'h' then some (.bytes, r)
    else if c = 'i' then some (.vec, r) else if c = 'j' then some (.option, r)
    else if c = 'k' then some (.map, r)
    else if c = 'l' then (unary r).map fun (n, r) => (.byteArray n, r)
    else if c = 'm' then (unary r).map fun (n, r) => (.self n, r)
    else if c = 'n' then (unary r).bind fun (i, r) => (unary r).map fun (nf, r) => (.generic i nf, r)
    else none

theorem decTok_encTok (t : KTok) (r : List Char) : decTok (encTok t ++ r) = some (t, r) := by
  cases t <;> simp [encTok, decTok, unary_replicate]

theorem flatMap_encTok_inj : ∀ {k k' : Key}, k.flatMap encTok = k'.flatMap encTok → k = k'
  | [], [], _ => rfl
  | [], t :: k', h => by
    have := decTok_encTok t (k'.flatMap encTok)
    rw [← List.flatMap_cons, ← h] at this
    cases this
  | t :: k, [], h => by
    have := decTok_encTok t (k.flatMap encTok)
    rw [← List.flatMap_cons, h] at this
    cases this
  | t :: k, t' :: k', h => by
    have := decTok_encTok t (k.flatMap encTok)
    rw [← List.flatMap_cons, h, List.flatMap_cons, decTok_encTok] at this
    obtain ⟨rfl, h2⟩ := Prod.mk.inj (Option.some.inj this)
    rw [flatMap_encTok_inj h2.symm]

theorem hashDemo_inj (k k' : Key) (h : hashDemo k = hashDemo k') : k = k' := by
  unfold hashDemo at h
  have := congrArg String.toList h
  simp only [String.toList_ofList] at this
  exact flatMap_encTok_inj this

theorem hashDemo_nodot (k : Key) : '.' ∉ (hashDemo k).toList := by
  unfold hashDemo
  simp only [String.toList_ofList, List.mem_flatMap, not_exists, not_and]
  intro t _ hm
  cases t <;> simp [encTok] at hm
  all_goals
    rcases hm with hm | hm
    · have := List.eq_of_mem_replicate hm.2; cases this
    · try (rcases hm with hm | hm; · have := List.eq_of_mem_replicate hm.2; cases this)
      try cases hm

end DeriveNames
end Avro.Theorems
