import AvroModel.Impl.Varint
import AvroModel.Lemmas.SpecPrimitives
/-
The `integer-encoding` varint routines (Impl) agree with the Avro specification (Spec).
-/
namespace Avro
open Avro.Spec Avro.Impl

theorem or_128_of_lt (r : Nat) (hr : r < 2 ^ 7) : 0x80 ||| r = 128 + r := by
  have := Nat.two_pow_add_eq_or_of_lt hr 1
  simp only [Nat.mul_one, Nat.reducePow] at this
  exact this.symm

theorem or_128_mod (m : Nat) (h : m < 256) : (0x80 ||| m) % 256 = (m % 128 + 128) % 256 := by
  by_cases h' : m < 128
  · rw [or_128_of_lt m h']; omega
  · obtain ⟨r, rfl, hr⟩ : ∃ r, m = 128 + r ∧ r < 2 ^ 7 := ⟨m - 128, by omega, by omega⟩
    rw [← or_128_of_lt r hr, ← Nat.or_assoc, Nat.or_self, or_128_of_lt r hr]
    omega

theorem and_128_eq_zero_iff (m : Nat) (h : m < 256) : (m &&& 0x80 = 0) ↔ m < 128 := by
  have h1 : (m &&& 0x80) / 2 ^ 7 = m / 2 ^ 7 % 2 := by
    rw [Nat.and_div_two_pow, ← Nat.and_one_is_mod]
  have h2 : (m &&& 0x80) % 2 ^ 7 = 0 := by
    rw [Nat.and_mod_two_pow]; exact Nat.and_zero _
  omega

theorem ofNat_or_128 (n : Nat) :
    UInt8.ofNat (0x80 ||| (n % 256)) = UInt8.ofNat (n % 128 + 128) := by
  rw [← UInt8.ofNat_mod_size' (x := 0x80 ||| (n % 256)), or_128_mod _ (by omega),
    UInt8.ofNat_mod_size']
  congr 1; omega

theorem encodeVarU64_eq_spec (n : Nat) : Impl.encodeVarU64 n = Spec.encodeNat n := by
  induction n using Nat.strongRecOn with
  | _ n ih =>
    unfold Impl.encodeVarU64 Spec.encodeNat
    by_cases h : n < 128
    · simp [h]
    · simp only [h, ↓reduceDIte]
      rw [ofNat_or_128, Nat.shiftRight_eq_div_pow, ih (n / 2 ^ 7) (by omega)]

theorem zigzagBV_toNat (i : Int) (h : Spec.InI64 i) :
    (Impl.zigzagBV (BitVec.ofInt 64 i)).toNat = Spec.zigzag i := by
  unfold Spec.InI64 at h
  unfold Impl.zigzagBV Spec.zigzag
  -- `x.sshiftRight 63` is `0` or all ones by the sign; xor with all ones is the complement
  by_cases hi : 0 ≤ i
  · have hx : (BitVec.ofInt 64 i).toNat = i.toNat := by
      rw [BitVec.toNat_ofInt]; omega
    have hmsb : (BitVec.ofInt 64 i).msb = false := by
      rw [BitVec.msb_eq_decide]; simp only [decide_eq_false_iff_not]; omega
    rw [BitVec.sshiftRight_eq_of_msb_false hmsb]
    have hz : BitVec.ofInt 64 i >>> 63 = 0#64 := by
      apply BitVec.eq_of_toNat_eq
      rw [BitVec.toNat_ushiftRight, Nat.shiftRight_eq_div_pow, hx]
      simp only [BitVec.toNat_ofNat]; omega
    rw [hz, BitVec.xor_zero, BitVec.toNat_shiftLeft, hx, Nat.shiftLeft_eq]
    simp only [hi, if_true]; omega
  · have hx : (BitVec.ofInt 64 i).toNat = (i + 2 ^ 64).toNat := by
      rw [BitVec.toNat_ofInt]; omega
    have hmsb : (BitVec.ofInt 64 i).msb = true := by
      rw [BitVec.msb_eq_decide]; simp only [decide_eq_true_eq]; omega
    rw [BitVec.sshiftRight_eq_of_msb_true hmsb]
    have hz : ~~~(BitVec.ofInt 64 i) >>> 63 = 0#64 := by
      apply BitVec.eq_of_toNat_eq
      rw [BitVec.toNat_ushiftRight, Nat.shiftRight_eq_div_pow, BitVec.toNat_not, hx]
      simp only [BitVec.toNat_ofNat]; omega
    have hones : ~~~(0#64) = BitVec.allOnes 64 := by decide
    rw [hz, hones, BitVec.xor_allOnes, BitVec.toNat_not, BitVec.toNat_shiftLeft, hx,
      Nat.shiftLeft_eq]
    simp only [hi, if_false]; omega

theorem encodeVarI64_eq_spec (i : Int) (h : Spec.InI64 i) :
    Impl.encodeVarI64 i = Spec.encodeLong i := by
  unfold Impl.encodeVarI64 Spec.encodeLong
  rw [zigzagBV_toNat i h, encodeVarU64_eq_spec]

theorem encodeVarI64_nat (n : Nat) (h : n < 2 ^ 63) :
    Impl.encodeVarI64 (n : Int) = Spec.encodeLong (n : Int) :=
  encodeVarI64_eq_spec _ (Spec.inI64_of_lt h)

theorem encodeVarI64_ne_nil (i : Int) : Impl.encodeVarI64 i ≠ [] := by
  unfold Impl.encodeVarI64
  rw [Impl.encodeVarU64]
  split <;> simp

theorem encodeLong_ne_nil (i : Int) : Spec.encodeLong i ≠ [] := Spec.encodeNat_ne_nil _

theorem encodeVarI64_zero : Impl.encodeVarI64 0 = [0] := by
  have := encodeVarI64_nat 0 (by omega)
  rw [show ((0 : Nat) : Int) = 0 from rfl] at this
  rw [this]
  unfold Spec.encodeLong Spec.zigzag; simp; unfold Spec.encodeNat; simp

theorem unzigzagBV_toInt (n : Nat) (h : n < 2 ^ 64) :
    (Impl.unzigzagBV (BitVec.ofNat 64 n)).toInt = Spec.unzigzag n := by
  unfold Impl.unzigzagBV Spec.unzigzag
  have hx : (BitVec.ofNat 64 n).toNat = n := by
    rw [BitVec.toNat_ofNat]; omega
  have hs : (BitVec.ofNat 64 n >>> 1).toNat = n / 2 := by
    rw [BitVec.toNat_ushiftRight, hx, Nat.shiftRight_eq_div_pow]
  by_cases hn : n % 2 = 0
  · have h1 : BitVec.ofNat 64 n &&& 1 = 0#64 := by
      apply BitVec.eq_of_toNat_eq
      rw [BitVec.toNat_and, hx]
      simp only [BitVec.toNat_ofNat]
      show n &&& 1 = 0
      rw [Nat.and_one_is_mod]; exact hn
    rw [h1, BitVec.neg_zero, BitVec.xor_zero, BitVec.toInt_eq_toNat_cond, hs]
    simp only [hn, if_true]
    split <;> omega
  · have h1 : BitVec.ofNat 64 n &&& 1 = 1#64 := by
      apply BitVec.eq_of_toNat_eq
      rw [BitVec.toNat_and, hx]
      simp only [BitVec.toNat_ofNat]
      show n &&& 1 = 1
      rw [Nat.and_one_is_mod]; omega
    rw [h1, BitVec.neg_one_eq_allOnes, BitVec.xor_allOnes, BitVec.toInt_eq_toNat_cond,
      BitVec.toNat_not, hs]
    simp only [hn, if_false]
    split <;> omega

theorem varint_pow7_succ (j : Nat) : 2 ^ (7 * (j + 1)) = 128 * 2 ^ (7 * j) := by
  rw [Nat.mul_add, Nat.pow_add]; omega

theorem varint_pow7_le (j : Nat) (hj : j ≤ 8) : 128 * 2 ^ (7 * j) ≤ 2 ^ 63 := by
  rw [← varint_pow7_succ]
  exact Nat.pow_le_pow_right (by omega) (by omega)

theorem varint_step_or (j b result : Nat) (hr : result < 2 ^ (7 * j)) (hb : b * 2 ^ (7 * j) < 2 ^ 64) :
    result ||| ((b <<< (7 * j)) % 2 ^ 64) = result + 2 ^ (7 * j) * b := by
  rw [Nat.shiftLeft_eq, Nat.mod_eq_of_lt hb, Nat.or_comm, ← Nat.shiftLeft_eq,
    ← Nat.shiftLeft_add_eq_or_of_lt hr, Nat.shiftLeft_eq, Nat.mul_comm]
  omega

/-- One loop iteration on bytes 1–9. -/
theorem decodeVarU64Aux_cons_lt (b : UInt8) (tl : Bytes) (result j : Nat) (hj : j ≤ 8)
    (hr : result < 2 ^ (7 * j)) :
    decodeVarU64Aux (b :: tl) result (7 * j) =
      if b.toNat < 128 then some (result + 2 ^ (7 * j) * b.toNat, j + 1)
      else decodeVarU64Aux tl (result + 2 ^ (7 * j) * (b.toNat - 128)) (7 * (j + 1)) := by
  have hb : b.toNat < 256 := b.toNat_lt
  rw [decodeVarU64Aux]
  have hm : b.toNat &&& 0x7F = b.toNat % 128 := Nat.and_two_pow_sub_one_eq_mod _ 7
  have hP := varint_pow7_le j hj
  have hstep := varint_step_or j (b.toNat % 128) result hr (by
    have := Nat.mul_le_mul_right (2 ^ (7 * j)) (show b.toNat % 128 ≤ 127 by omega)
    omega)
  simp only [hm, hstep]
  have h63 : ¬ (7 * j + 7 > 63) := by omega
  simp only [h63, if_false]
  by_cases hlt : b.toNat < 128
  · have h80 := (and_128_eq_zero_iff _ hb).2 hlt
    simp only [h80, hlt, if_true]
    rw [Nat.mod_eq_of_lt hlt]
    congr; omega
  · have h80 : ¬ (b.toNat &&& 0x80 = 0) := fun h => hlt ((and_128_eq_zero_iff _ hb).1 h)
    simp only [h80, hlt, if_false]
    have e1 : b.toNat % 128 = b.toNat - 128 := by omega
    have e2 : 7 * j + 7 = 7 * (j + 1) := by omega
    rw [e1, e2]

/-- The tenth byte. -/
theorem decodeVarU64Aux_cons_last (b : UInt8) (tl : Bytes) (result : Nat) (hr : result < 2 ^ 63) :
    decodeVarU64Aux (b :: tl) result 63 =
      if b.toNat < 2 then some (result + 2 ^ 63 * b.toNat, 10) else none := by
  rw [decodeVarU64Aux]
  simp only [show 63 + 7 > 63 from by omega, if_true]
  by_cases hlt : b.toNat < 2
  · have hm : b.toNat &&& 0x7F = b.toNat := by
      rw [Nat.and_two_pow_sub_one_eq_mod _ 7]; omega
    have hstep := varint_step_or 9 b.toNat result hr (by omega)
    simp only [hlt, if_true, hm]
    rw [show (63 : Nat) = 7 * 9 from rfl, hstep]
  · simp only [hlt, if_false]

/-- `u64::decode_var` from loop state `(result, 7 * j)` against the specification, success and
    failure at once: it returns what `decodeNat` returns, shifted into place, unless the varint is
    longer than ten bytes in all or the value does not fit 64 bits (the tenth byte is `≥ 2`). -/
theorem decodeVarU64Aux_eq (bs : Bytes) : ∀ (j result : Nat), j ≤ 9 → result < 2 ^ (7 * j) →
    decodeVarU64Aux bs result (7 * j) =
      match Spec.decodeNat bs with
      | none => none
      | some (v, rest) =>
        if result + 2 ^ (7 * j) * v < 2 ^ 64 ∧ j + (bs.length - rest.length) ≤ 10 then
          some (result + 2 ^ (7 * j) * v, j + (bs.length - rest.length))
        else none := by
  induction bs with
  | nil => intro j result _ _; rfl
  | cons b tl ih =>
    intro j result hj9 hr
    have hb : b.toNat < 256 := b.toNat_lt
    rw [Spec.decodeNat]
    by_cases hj : j ≤ 8
    · rw [decodeVarU64Aux_cons_lt b tl result j hj hr]
      have hP := varint_pow7_le j hj
      by_cases hlt : b.toNat < 128
      · have e3 := Nat.mul_le_mul_left (2 ^ (7 * j)) (show b.toNat ≤ 127 by omega)
        simp only [hlt, if_true, List.length_cons, Nat.add_sub_cancel_left]
        rw [if_pos ⟨by omega, by omega⟩]
      · simp only [hlt, if_false]
        have e3 := Nat.mul_le_mul_left (2 ^ (7 * j)) (show b.toNat - 128 ≤ 127 by omega)
        rw [ih (j + 1) _ (by omega) (by rw [varint_pow7_succ]; omega)]
        rcases hd : Spec.decodeNat tl with _ | ⟨v', rest'⟩
        · rfl
        · have hlen := decodeNat_length _ _ _ hd
          have e1 : 2 ^ (7 * (j + 1)) * v' = 128 * (2 ^ (7 * j) * v') := by
            rw [varint_pow7_succ, Nat.mul_assoc]
          have e2 : 2 ^ (7 * j) * (b.toNat - 128 + 128 * v')
              = 2 ^ (7 * j) * (b.toNat - 128) + 128 * (2 ^ (7 * j) * v') := by
            rw [Nat.mul_add, Nat.mul_left_comm]
          have e4 : j + 1 + (tl.length - rest'.length) = j + (tl.length + 1 - rest'.length) := by
            omega
          simp only [List.length_cons, e1, e2, e4, Nat.add_assoc]
    · have hj9' : j = 9 := by omega
      subst hj9'
      rw [show 7 * 9 = 63 from rfl] at hr ⊢
      rw [decodeVarU64Aux_cons_last b tl result hr]
      by_cases hlt : b.toNat < 128
      · simp only [hlt, if_true, List.length_cons, Nat.add_sub_cancel_left]
        by_cases h2 : b.toNat < 2
        · rw [if_pos h2, if_pos ⟨by omega, by omega⟩]
        · rw [if_neg h2, if_neg (by omega)]
      · simp only [hlt, if_false, show ¬ b.toNat < 2 by omega]
        rcases hd : Spec.decodeNat tl with _ | ⟨v', rest'⟩
        · rfl
        · have hlen := decodeNat_length _ _ _ hd
          simp only [List.length_cons]
          rw [if_neg (by omega)]

theorem decodeVarU64_of_spec (bs : Bytes) (v : Nat) (rest : Bytes)
    (h : Spec.decodeNat bs = some (v, rest)) (hv : v < 2 ^ 64)
    (hk : bs.length - rest.length ≤ 10) :
    Impl.decodeVarU64 bs = some (v, bs.length - rest.length) := by
  have := decodeVarU64Aux_eq bs 0 0 (by omega) (by omega)
  simp only [h, Nat.mul_zero, Nat.pow_zero, Nat.one_mul, Nat.zero_add] at this
  rw [Impl.decodeVarU64, this, if_pos ⟨hv, hk⟩]

theorem decodeNat_drop (bs : Bytes) (v : Nat) (rest : Bytes)
    (h : Spec.decodeNat bs = some (v, rest)) : rest = bs.drop (bs.length - rest.length) := by
  obtain ⟨c, rfl, _⟩ := decodeNat_local _ _ _ h
  simp

theorem decodeVarU64_to_spec (bs : Bytes) (v k : Nat) (h : Impl.decodeVarU64 bs = some (v, k)) :
    Spec.decodeNat bs = some (v, bs.drop k) ∧ v < 2 ^ 64 ∧ 1 ≤ k ∧ k ≤ 10 ∧ k ≤ bs.length := by
  rw [Impl.decodeVarU64, decodeVarU64Aux_eq bs 0 0 (by omega) (by omega)] at h
  simp only [Nat.mul_zero, Nat.pow_zero, Nat.one_mul, Nat.zero_add] at h
  split at h
  · cases h
  · rename_i v' rest hd
    have hlen := decodeNat_length _ _ _ hd
    split at h
    · rename_i hc
      cases h
      rw [← decodeNat_drop bs v rest hd]
      exact ⟨hd, hc.1, by omega, hc.2, by omega⟩
    · cases h

theorem encodeVarI64_length_le (i : Int) (h : Spec.InI64 i) :
    (Impl.encodeVarI64 i).length ≤ 10 := by
  rw [encodeVarI64_eq_spec i h]
  exact encodeLong_length_le i h

theorem decodeVarI64_encode (i : Int) (h : Spec.InI64 i) (rest : Bytes) :
    Impl.decodeVarI64 (Impl.encodeVarI64 i ++ rest)
      = some (i, (Impl.encodeVarI64 i).length) := by
  have hlen := encodeVarI64_length_le i h
  have hz := Spec.zigzag_lt_of_inI64 h
  have hspec : Spec.decodeNat (Impl.encodeVarI64 i ++ rest) = some (Spec.zigzag i, rest) := by
    rw [encodeVarI64_eq_spec i h, Spec.encodeLong, Spec.decodeNat_encodeNat]
  have hl : (Impl.encodeVarI64 i ++ rest).length - rest.length = (Impl.encodeVarI64 i).length := by
    simp
  have := decodeVarU64_of_spec _ _ _ hspec hz (by omega)
  rw [Impl.decodeVarI64, this, hl]
  simp only [unzigzagBV_toInt _ hz, Spec.unzigzag_zigzag]

theorem decodeVarI64_eq_spec (bs : Bytes) (i : Int) (k : Nat)
    (h : Impl.decodeVarI64 bs = some (i, k)) : Spec.decodeLong bs = some (i, bs.drop k) := by
  rw [Impl.decodeVarI64] at h
  split at h
  · simp at h
  · rename_i n s heq
    simp only [Option.some.injEq, Prod.mk.injEq] at h
    obtain ⟨rfl, rfl⟩ := h
    obtain ⟨hdec, hlt, _⟩ := decodeVarU64_to_spec bs n s heq
    rw [Spec.decodeLong, hdec]
    simp only [hlt, if_true, unzigzagBV_toInt n hlt]

namespace Impl
open Avro.Spec

theorem decodeVar_i64_encodeLong (i : Int) (h : InI64 i) (r : Bytes) :
    decodeVar .i64 (encodeLong i ++ r) = some (i, (encodeLong i).length) := by
  have := decodeVarI64_encode i h r
  rw [encodeVarI64_eq_spec i h] at this
  exact this

theorem decodeVar_i32_encodeLong (i : Int) (h : InI32 i) (r : Bytes) :
    decodeVar .i32 (encodeLong i ++ r) = some (i, (encodeLong i).length) := by
  have h64 : InI64 i := by unfold InI32 at h; unfold InI64; omega
  have := decodeVar_i64_encodeLong i h64 r
  simp only [decodeVar] at this
  simp only [decodeVar, decodeVarI32, this]
  unfold InI32 at h
  simp [h.1, h.2]

theorem decodeVarU64_encodeNat (n : Nat) (h : n < 2 ^ 64) (r : Bytes) :
    decodeVarU64 (encodeNat n ++ r) = some (n, (encodeNat n).length) := by
  have hlen : (encodeNat n).length ≤ 10 := encodeNat_length_le n 10 (by omega) (by omega)
  have := decodeVarU64_of_spec (encodeNat n ++ r) n r (decodeNat_encodeNat n r) h (by simp; omega)
  simpa using this

theorem decodeVar_u64_encodeLong (i : Int) (h : InI64 i) (r : Bytes) :
    decodeVar .u64 (encodeLong i ++ r) = some ((zigzag i : Int), (encodeLong i).length) := by
  simp only [decodeVar, encodeLong, decodeVarU64_encodeNat _ (zigzag_lt_of_inI64 h), Option.map]

theorem decodeVar_u32_encodeLong (i : Int) (h : InI32 i) (r : Bytes) :
    decodeVar .u32 (encodeLong i ++ r) = some ((zigzag i : Int), (encodeLong i).length) := by
  have h64 : InI64 i := by unfold InI32 at h; unfold InI64; omega
  have hz : zigzag i < 2 ^ 32 := by unfold InI32 at h; unfold zigzag; split <;> omega
  simp only [decodeVar, decodeVarU32, encodeLong, decodeVarU64_encodeNat _ (zigzag_lt_of_inI64 h64),
    hz, if_true, Option.map]

end Impl

end Avro
