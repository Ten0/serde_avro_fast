import AvroModel.Lemmas.CanonTree
import AvroModel.Lemmas.RenderPcfSteps
/-
What the renderer writes, without fuel and without its generation cells: the relation `Renders`.
`render_sound`: every successful call of `render` / `renderList` / `renderFields` on nodes
reachable from the root is a derivation.  What is proved of the written document
(`Lemmas/RenderPcf.lean`, `Lemmas/RenderValid.lean`) is proved by induction on the derivation.
-/
namespace Avro.RenderValid
open Avro Avro.Impl

/-- the nodes reachable from the root (node 0) through `RegularType.children` -/
inductive Reach (S : SchemaMut) : Nat → Prop
  | root : Reach S 0
  | step {i j : Nat} {node : RawNode} :
      Reach S i → S[i]? = some node → j ∈ node.type.children → Reach S j

end Avro.RenderValid

namespace Avro.RenderPcf
open Avro Avro.Impl Avro.Spec Avro.Spec.Pcf Avro.RenderValid

/-- `Renders S n W ns job doc W'`: with the named nodes `W` already written in full and `ns` the
    enclosing namespace, the job is written as the JSON `doc` (a named type in full at its first
    occurrence, by `refString` afterwards), after which the named nodes `W'` are written.  The
    rules are those of `CanonTree`, rule by rule (`Renders.canonTree`), and `n` is the same height:
    it bounds the fuel the canonical-form writer needs by the fuel the renderer had.  Each node
    rule also records that its node is reachable from the root: what is proved by induction on a
    derivation needs its hypotheses on the graph (`ReachNamesWF`, `RenderValid.NodesOk`) of
    reachable nodes only. -/
inductive Renders (S : SchemaMut) : Nat → List Nat → Option String → WalkJob → WalkDoc → List Nat → Prop
  | prim {W ns k node t} : Reach S k → S[k]? = some node → primText node.type = some t →
      Renders S 1 W ns (.node k) (.one (match node.logical with
        | none => .str t
        | some _ => .obj (typeMembers t node.logical))) W
  | array {n W W' ns k lg items j} : Reach S k → S[k]? = some ⟨.array items, lg⟩ →
      Renders S n W ns (.node items) (.one j) W' →
      Renders S (n + 1) W ns (.node k) (.one (.obj (typeMembers "array" lg ++ [("items", j)]))) W'
  | map {n W W' ns k lg values j} : Reach S k → S[k]? = some ⟨.map values, lg⟩ →
      Renders S n W ns (.node values) (.one j) W' →
      Renders S (n + 1) W ns (.node k) (.one (.obj (typeMembers "map" lg ++ [("values", j)]))) W'
  | union {n W W' ns k vs js} : Reach S k → S[k]? = some ⟨.union vs, none⟩ →
      Renders S n W ns (.list vs) (.many js) W' →
      Renders S (n + 1) W ns (.node k) (.one (.arr js)) W'
  | again {W ns k node nm} : Reach S k → S[k]? = some node → nameOf node.type = some nm → k ∈ W →
      Renders S 1 W ns (.node k) (.one (.str (refString ns nm))) W
  | enum {W ns k lg nm syms} : Reach S k → S[k]? = some ⟨.enum nm syms, lg⟩ → k ∉ W →
      Renders S 1 W ns (.node k) (.one (.obj (typeMembers "enum" lg ++ nameMembers ns nm ++
        [("symbols", .arr (syms.map .str))]))) (k :: W)
  | fixed {W ns k lg nm size} : Reach S k → S[k]? = some ⟨.fixed nm size, lg⟩ → k ∉ W →
      Renders S 1 W ns (.node k) (.one (.obj (typeMembers "fixed" lg ++ nameMembers ns nm ++
        [("size", .nat size)]))) (k :: W)
  | record {n W W' ns k lg nm fields js} : Reach S k → S[k]? = some ⟨.record nm fields, lg⟩ → k ∉ W →
      Renders S n (k :: W) nm.ns (.fields fields) (.many js) W' →
      Renders S (n + 1) W ns (.node k) (.one (.obj (typeMembers "record" lg ++ nameMembers ns nm ++
        [("fields", .arr js)]))) W'
  | lnil {W ns} : Renders S 0 W ns (.list []) (.many []) W
  | lcons {n1 n2 W W1 W' ns k rest j js} : Renders S n1 W ns (.node k) (.one j) W1 →
      Renders S n2 W1 ns (.list rest) (.many js) W' →
      Renders S (max n1 n2 + 1) W ns (.list (k :: rest)) (.many (j :: js)) W'
  | fnil {W ns} : Renders S 0 W ns (.fields []) (.many []) W
  | fcons {n1 n2 W W1 W' ns name k rest j js} : Renders S n1 W ns (.node k) (.one j) W1 →
      Renders S n2 W1 ns (.fields rest) (.many js) W' →
      Renders S (max n1 n2 + 1) W ns (.fields ((name, k) :: rest))
        (.many (.obj [("name", .str name), ("type", j)] :: js)) W'

/-- `L` lists the named nodes written in full so far: exactly those whose generation cell is
    set -/
def Written (S : SchemaMut) (st : RenderState) (L : List Nat) : Prop :=
  ∀ (i : Nat) (node : RawNode) (nm : Name),
    S[i]? = some node → nameOf node.type = some nm → (0 < st.get i ↔ i ∈ L)

theorem Written.set_unnamed {S : SchemaMut} {st : RenderState} {L : List Nat} (h : Written S st L)
    {key : Nat} {node : RawNode} (hk : S[key]? = some node) (hu : nameOf node.type = none)
    (v : Nat) : Written S (st.set key v) L := by
  intro i n nm hi hn
  have hne : i ≠ key := by
    intro e; subst e; rw [hk] at hi; cases hi; rw [hu] at hn; cases hn
  rw [RenderState.get_set, if_neg hne]
  exact h i n nm hi hn

/-- The first visit of a named node adds it.  `L'` is any list with the members of `key :: L`:
    `Stands` puts `key` in front, `RenderValid.InvW` at the end. -/
theorem Written.define {S : SchemaMut} {st : RenderState} {L L' : List Nat} (h : Written S st L)
    (hpos : 0 < st.nWritten) (key : Nat) (hL : ∀ i, i ∈ L' ↔ i = key ∨ i ∈ L) :
    Written S (namedEnter st key) L' := by
  intro i n nm hi hn
  have e : (namedEnter st key).get i = (st.set key st.nWritten).get i := rfl
  rw [e, RenderState.get_set, hL]
  by_cases hik : i = key
  · simp only [hik, if_true, true_or, iff_true]; exact hpos
  · simp only [hik, if_false, false_or]; exact h i n nm hi hn

/-- the state of the renderer stands for the set `W` of written named nodes -/
structure Stands (S : SchemaMut) (st : RenderState) (W : List Nat) : Prop where
  written : Written S st W
  pos : 0 < st.nWritten

theorem Stands.init (S : SchemaMut) : Stands S {} [] :=
  ⟨fun i _ _ _ _ => by simp [RenderState.get_init], Nat.one_pos⟩

theorem Stands.set_unnamed {S : SchemaMut} {st : RenderState} {W : List Nat} (h : Stands S st W)
    {key : Nat} {node : RawNode} (hk : S[key]? = some node) (hu : nameOf node.type = none)
    (v : Nat) : Stands S (st.set key v) W :=
  ⟨h.written.set_unnamed hk hu v, h.pos⟩

theorem Stands.define {S : SchemaMut} {st : RenderState} {W : List Nat} (h : Stands S st W)
    (key : Nat) : Stands S (namedEnter st key) (key :: W) :=
  ⟨h.written.define h.pos key fun _ => List.mem_cons, Nat.succ_pos _⟩

theorem Stands.mem_iff {S : SchemaMut} {st : RenderState} {W : List Nat} (h : Stands S st W)
    {k : Nat} {node : RawNode} {nm : Name} (hk : S[k]? = some node)
    (hn : nameOf node.type = some nm) : 0 < st.get k ↔ k ∈ W :=
  h.written k node nm hk hn

def SoundN (S : SchemaMut) (f : Nat) : Prop :=
  ∀ k ns st j st' W, render S f k ns st = .ok (j, st') → Reach S k → Stands S st W →
    ∃ n W', n ≤ f ∧ Renders S n W ns (.node k) (.one j) W' ∧ Stands S st' W'

def SoundL (S : SchemaMut) (f : Nat) : Prop :=
  ∀ ks ns st js st' W, renderList S f ks ns st = .ok (js, st') → (∀ k ∈ ks, Reach S k) →
    Stands S st W →
    ∃ n W', n ≤ f ∧ Renders S n W ns (.list ks) (.many js) W' ∧ Stands S st' W'

def SoundF (S : SchemaMut) (f : Nat) : Prop :=
  ∀ fs ns st js st' W, renderFields S f fs ns st = .ok (js, st') → (∀ p ∈ fs, Reach S p.2) →
    Stands S st W →
    ∃ n W', n ≤ f ∧ Renders S n W ns (.fields fs) (.many js) W' ∧ Stands S st' W'

theorem soundN_succ {S : SchemaMut} {f : Nat} (ihN : SoundN S f) (ihL : SoundL S f)
    (ihF : SoundF S f) : SoundN S (f + 1) := by
  intro k ns st j st' W h hr hst
  -- the children of a reachable node are reachable
  have below {node : RawNode} (hk : S[k]? = some node) : ∀ c ∈ node.type.children, Reach S c :=
    fun _ => .step hr hk
  refine render_ok_cases h ?_ ?_ ?_ ?_ ?_ ?_ ?_ ?_
  · intro node t hk hp
    obtain ⟨rfl, rfl⟩ := render_prim_inv hk hp h
    exact ⟨1, W, by omega, .prim hr hk hp, hst⟩
  · intro lg items hk
    obtain ⟨-, j1, st1, h1, rfl, rfl⟩ := render_array_inv hk h
    obtain ⟨n, W', hn, hd, hs⟩ :=
      ihN _ _ _ _ _ W h1 (below hk _ List.mem_cons_self) (hst.set_unnamed hk rfl _)
    exact ⟨n + 1, W', by omega, .array hr hk hd, hs.set_unnamed hk rfl _⟩
  · intro lg values hk
    obtain ⟨-, j1, st1, h1, rfl, rfl⟩ := render_map_inv hk h
    obtain ⟨n, W', hn, hd, hs⟩ :=
      ihN _ _ _ _ _ W h1 (below hk _ List.mem_cons_self) (hst.set_unnamed hk rfl _)
    exact ⟨n + 1, W', by omega, .map hr hk hd, hs.set_unnamed hk rfl _⟩
  · intro lg vs hk
    obtain ⟨rfl, -, js, st1, h1, rfl, rfl⟩ := render_union_inv hk h
    obtain ⟨n, W', hn, hd, hs⟩ := ihL _ _ _ _ _ W h1 (below hk) (hst.set_unnamed hk rfl _)
    exact ⟨n + 1, W', by omega, .union hr hk hd, hs.set_unnamed hk rfl _⟩
  · intro node nm hk hn hw
    obtain ⟨rfl, rfl⟩ := render_named_again_inv hk hn hw h
    exact ⟨1, W, by omega, .again hr hk hn ((hst.mem_iff hk hn).mp hw), hst⟩
  · intro lg nm fields hk hw
    obtain ⟨js, h1, rfl⟩ := render_record_inv hk hw h
    obtain ⟨n, W', hn, hd, hs⟩ := ihF _ _ _ _ _ _ h1
      (fun p hp => below hk _ (List.mem_map.mpr ⟨p, hp, rfl⟩)) (hst.define k)
    exact ⟨n + 1, W', by omega,
      .record hr hk (fun hm => hw ((hst.mem_iff hk rfl).mpr hm)) hd, hs⟩
  · intro lg nm syms hk hw
    obtain ⟨rfl, rfl⟩ := render_enum_inv hk hw h
    exact ⟨1, _, by omega, .enum hr hk (fun hm => hw ((hst.mem_iff hk rfl).mpr hm)), hst.define k⟩
  · intro lg nm size hk hw
    obtain ⟨rfl, rfl⟩ := render_fixed_inv hk hw h
    exact ⟨1, _, by omega, .fixed hr hk (fun hm => hw ((hst.mem_iff hk rfl).mpr hm)), hst.define k⟩

/-- **Every successful call of the renderer is a derivation.** -/
theorem render_sound (S : SchemaMut) : ∀ f, SoundN S f ∧ SoundL S f ∧ SoundF S f := by
  intro f
  induction f with
  | zero =>
    refine ⟨fun k ns st j st' W h => by simp [render] at h, ?_, ?_⟩
    · intro ks ns st js st' W h _ hst
      cases ks with
      | nil => obtain ⟨rfl, rfl⟩ := renderList_nil_inv h; exact ⟨0, W, Nat.zero_le _, .lnil, hst⟩
      | cons k rest => simp [renderList] at h
    · intro fs ns st js st' W h _ hst
      cases fs with
      | nil => obtain ⟨rfl, rfl⟩ := renderFields_nil_inv h; exact ⟨0, W, Nat.zero_le _, .fnil, hst⟩
      | cons x rest => simp [renderFields] at h
  | succ f ih =>
    obtain ⟨ihN, ihL, ihF⟩ := ih
    refine ⟨soundN_succ ihN ihL ihF, ?_, ?_⟩
    · intro ks ns st js st' W h hr hst
      cases ks with
      | nil => obtain ⟨rfl, rfl⟩ := renderList_nil_inv h; exact ⟨0, W, Nat.zero_le _, .lnil, hst⟩
      | cons k rest =>
        obtain ⟨j1, st1, js2, h1, h2, rfl⟩ := renderList_cons_inv h
        obtain ⟨hrk, hrr⟩ := List.forall_mem_cons.mp hr
        obtain ⟨n1, W1, hn1, hr1, hs1⟩ := ihN _ _ _ _ _ W h1 hrk hst
        obtain ⟨n2, W', hn2, hr2, hs2⟩ := ihL _ _ _ _ _ W1 h2 hrr hs1
        exact ⟨_, W', by omega, .lcons hr1 hr2, hs2⟩
    · intro fs ns st js st' W h hr hst
      cases fs with
      | nil => obtain ⟨rfl, rfl⟩ := renderFields_nil_inv h; exact ⟨0, W, Nat.zero_le _, .fnil, hst⟩
      | cons x rest =>
        obtain ⟨name, k⟩ := x
        obtain ⟨j1, st1, js2, h1, h2, rfl⟩ := renderFields_cons_inv h
        obtain ⟨hrk, hrr⟩ := List.forall_mem_cons.mp hr
        obtain ⟨n1, W1, hn1, hr1, hs1⟩ := ihN _ _ _ _ _ W h1 hrk hst
        obtain ⟨n2, W', hn2, hr2, hs2⟩ := ihF _ _ _ _ _ W1 h2 hrr hs1
        exact ⟨_, W', by omega, .fcons hr1 hr2, hs2⟩

theorem renderJson_sound {S : SchemaMut} {fuel : Nat} {j : Json} (h : renderJson S fuel = .ok j) :
    ∃ n W', n ≤ fuel ∧ Renders S n [] none (.node 0) (.one j) W' := by
  unfold renderJson at h
  cases hr : render S fuel 0 none {} with
  | error e => rw [hr] at h; cases h
  | ok p =>
    obtain ⟨j', st'⟩ := p
    rw [hr] at h
    cases h
    obtain ⟨n, W', hn, hd, -⟩ := (render_sound S fuel).1 _ _ _ _ _ [] hr .root (Stands.init S)
    exact ⟨n, W', hn, hd⟩

theorem Renders.nodup {S : SchemaMut} {n : Nat} {W W' : List Nat} {ns : Option String}
    {job : WalkJob} {doc : WalkDoc} (h : Renders S n W ns job doc W') : W.Nodup → W'.Nodup := by
  induction h with
  | prim | again | lnil | fnil => exact id
  | array _ _ _ ih | map _ _ _ ih | union _ _ _ ih => exact ih
  | enum _ _ hm | fixed _ _ hm => exact fun hW => List.nodup_cons.mpr ⟨hm, hW⟩
  | record _ _ hm _ ih => exact fun hW => ih (List.nodup_cons.mpr ⟨hm, hW⟩)
  | lcons _ _ ih1 ih2 | fcons _ _ ih1 ih2 => exact fun hW => ih2 (ih1 hW)

/-- Whatever is rendered has a canonical tree, of the same height. -/
theorem Renders.canonTree {S : SchemaMut} {n : Nat} {W W' : List Nat} {ns : Option String}
    {job : WalkJob} {doc : WalkDoc} (h : Renders S n W ns job doc W') :
    match job with
    | .node k => ∃ c, CanonTree S n W (.node k) (.one c) W'
    | .list ks => ∃ cs, CanonTree S n W (.list ks) (.many cs) W'
    | .fields fs => ∃ cs, CanonTree S n W (.fields fs) (.many cs) W' := by
  induction h with
  | prim _ hk hp => exact ⟨_, .prim hk hp⟩
  | array _ hk _ ih => obtain ⟨c, hc⟩ := ih; exact ⟨_, .array hk hc⟩
  | map _ hk _ ih => obtain ⟨c, hc⟩ := ih; exact ⟨_, .map hk hc⟩
  | union _ hk _ ih => obtain ⟨cs, hc⟩ := ih; exact ⟨_, .union hk hc⟩
  | again _ hk hn hm => exact ⟨_, .again hk hn hm⟩
  | enum _ hk hm => exact ⟨_, .enum hk hm⟩
  | fixed _ hk hm => exact ⟨_, .fixed hk hm⟩
  | record _ hk hm _ ih => obtain ⟨cs, hc⟩ := ih; exact ⟨_, .record hk hm hc⟩
  | lnil => exact ⟨_, .lnil⟩
  | fnil => exact ⟨_, .fnil⟩
  | lcons _ _ ih1 ih2 => obtain ⟨c, hc⟩ := ih1; obtain ⟨cs, hcs⟩ := ih2; exact ⟨_, .lcons hc hcs⟩
  | @fcons _ _ _ _ _ _ name _ _ _ _ _ _ ih1 ih2 =>
    obtain ⟨c, hc⟩ := ih1; obtain ⟨cs, hcs⟩ := ih2; exact ⟨_, .fcons (name := name) hc hcs⟩

theorem renderJson_unnamed_cycle_never_ok (S : SchemaMut) (C : Nat → Prop)
    (hC : UnnamedClosed S C) (h0 : C 0) (fuel : Nat) (j : Json) : renderJson S fuel ≠ .ok j := by
  intro h
  obtain ⟨n, W', -, hr⟩ := renderJson_sound h
  obtain ⟨c, hc⟩ := hr.canonTree
  exact hc.not_unnamedClosed hC h0

end Avro.RenderPcf
