import AvroModel.Lemmas.SerWrites
/-
`decimal::serialize` (`Impl.serDecimal`): `can_truncate_without_altering_number`
(`Impl.canTruncate`) finds a sign-extension prefix, and what the three modes (bytes / fixed /
big-decimal) write on a writer that never fails.
-/
namespace Avro
open Avro.Spec Avro.Impl

/-! ### `List.takeWhile` facts -/

theorem takeWhile_eq_take_length {α} (p : α → Bool) (l : List α) :
    l.takeWhile p = l.take (l.takeWhile p).length := by
  induction l with
  | nil => simp
  | cons a l ih =>
    by_cases ha : p a = true
    · simp only [List.takeWhile_cons, ha, if_true, List.length_cons, List.take_succ_cons]
      rw [← ih]
    · simp [ha]

theorem getElem?_takeWhile_length {α} (p : α → Bool) (l : List α) (v : α)
    (h : l[(l.takeWhile p).length]? = some v) : p v = false := by
  induction l with
  | nil => simp at h
  | cons a l ih =>
    by_cases ha : p a = true
    · simp only [List.takeWhile_cons, ha, if_true, List.length_cons, List.getElem?_cons_succ] at h
      exact ih h
    · simp only [List.takeWhile_cons, ha] at h
      simp at h; subst h; simpa using ha

/-! ### Sign prefixes -/

/-- the first `r` bytes of `buf` are sign-extension of the rest, which is non-empty -/
def SignPrefix (buf : Bytes) (r : Nat) : Prop :=
  ∃ fill h tl, (∀ x ∈ buf.take r, x = fill) ∧ buf.drop r = h :: tl ∧
    ((fill = 0 ∧ h.toNat < 128) ∨ (fill = 255 ∧ h.toNat ≥ 128))

theorem SignPrefix.sound {buf r} :
    SignPrefix buf r → fromTwosComplementBE (buf.drop r) = fromTwosComplementBE buf := by
  rintro ⟨fill, h, tl, hall, hd, hs⟩
  have := fromTwos_signExt fill (buf.take r) h tl hall hs
  rw [← hd, List.take_append_drop] at this
  exact this.symm

theorem SignPrefix.lt_length {buf r} : SignPrefix buf r → r < buf.length := by
  rintro ⟨fill, h, tl, _, hd, _⟩
  have : (buf.drop r).length = tl.length + 1 := by rw [hd]; rfl
  rw [List.length_drop] at this
  omega

theorem SignPrefix.of_all {buf : Bytes} {r : Nat} {fill : UInt8} (hr : r < buf.length)
    (hall : ∀ x ∈ buf.take (r + 1), x = fill) (hf : fill = 0 ∨ fill = 255) : SignPrefix buf r := by
  have hmem : buf[r] ∈ buf.take (r + 1) := by
    rw [List.mem_take_iff_getElem]
    exact ⟨r, by omega, rfl⟩
  refine ⟨fill, buf[r], buf.drop (r + 1), fun x hx => hall x ?_, List.drop_eq_getElem_cons hr, ?_⟩
  · rw [show buf.take r = (buf.take (r + 1)).take r by
      rw [List.take_take, Nat.min_eq_left (Nat.le_succ r)]] at hx
    exact List.mem_of_mem_take hx
  · rw [hall _ hmem]
    rcases hf with rfl | rfl
    · left; exact ⟨rfl, by decide⟩
    · right; exact ⟨rfl, by decide⟩

theorem SignPrefix.mono {buf r r'} (hsp : SignPrefix buf r) (hle : r' ≤ r) : SignPrefix buf r' := by
  by_cases heq : r' = r
  · exact heq ▸ hsp
  have hlt := hsp.lt_length
  obtain ⟨fill, h, tl, hall, hd, hs⟩ := hsp
  refine .of_all (by omega) (fun x hx => hall x ?_) (hs.imp And.left And.left)
  rw [show buf.take (r' + 1) = (buf.take r).take (r' + 1) by
    rw [List.take_take, Nat.min_eq_left (by omega)]] at hx
  exact List.mem_of_mem_take hx

theorem SignPrefix.of_take {buf s} : SignPrefix (buf.take (s + 1)) s → SignPrefix buf s := by
  intro hsp
  have hlt := hsp.lt_length
  obtain ⟨fill, h, tl, hall, hd, hs⟩ := hsp
  rw [List.length_take] at hlt
  have hs' : s < buf.length := by omega
  rw [List.take_take, Nat.min_eq_left (Nat.le_succ s)] at hall
  refine ⟨fill, buf[s], buf.drop (s + 1), hall, List.drop_eq_getElem_cons hs', ?_⟩
  have : (buf.take (s + 1))[s]? = some h := by
    have := List.getElem?_drop (xs := buf.take (s + 1)) (i := s) (j := 0)
    rw [hd] at this; simpa using this.symm
  rw [List.getElem?_take] at this
  simp at this
  rw [List.getElem?_eq_getElem hs'] at this
  simp at this
  rw [this]; exact hs

theorem canTruncate_signPrefix (buf : Bytes) (hne : buf ≠ []) : SignPrefix buf (canTruncate buf) := by
  cases buf with
  | nil => exact absurd rfl hne
  | cons b0 rest =>
    unfold canTruncate
    simp only []
    generalize hbuf : b0 :: rest = buf
    generalize hfill : (if b0.toNat &&& 0x80 = 0 then (0x00 : UInt8) else 0xFF) = fill
    have hb0 : (b0.toNat &&& 0x80 = 0) ↔ b0.toNat < 128 := and_128_eq_zero_iff _ b0.toNat_lt
    -- `fill` is sign-compatible with `b0`
    have hc0 : (fill = 0 ∧ b0.toNat < 128) ∨ (fill = 255 ∧ b0.toNat ≥ 128) := by
      by_cases hb : b0.toNat &&& 0x80 = 0
      · left; rw [if_pos hb] at hfill; exact ⟨hfill.symm, hb0.1 hb⟩
      · right; rw [if_neg hb] at hfill; refine ⟨hfill.symm, ?_⟩
        have := mt hb0.2 hb; omega
    generalize ht : (buf.takeWhile (fun x => decide (x = fill))).length = t
    have hall : ∀ x ∈ buf.take t, x = fill := by
      intro x hx
      rw [← ht, ← takeWhile_eq_take_length] at hx
      simpa using List.all_eq_true.1 List.all_takeWhile x hx
    have htl : t ≤ buf.length := by
      rw [← ht]; exact (List.takeWhile_prefix _).length_le
    -- dropping `t - 1` bytes when `t ≠ 0`
    have hprev : t ≠ 0 → SignPrefix buf (t - 1) := fun h0 =>
      .of_all (by omega) (by rwa [show t - 1 + 1 = t by omega]) (hc0.imp And.left And.left)
    by_cases h0 : t ≠ 0
    · rw [if_pos h0]
      cases hv : buf[t]? with
      | none => exact hprev h0
      | some v =>
        simp only []
        have hvl : t < buf.length := (List.getElem?_eq_some_iff.1 hv).1
        have hvb : (v.toNat &&& 0x80 = 0) ↔ v.toNat < 128 := and_128_eq_zero_iff _ v.toNat_lt
        split
        · rename_i heq
          have hiff : (v.toNat &&& 0x80 = 0) ↔ (b0.toNat &&& 0x80 = 0) := Eq.to_iff heq
          refine ⟨fill, v, buf.drop (t + 1), hall, ?_, ?_⟩
          · rw [List.drop_eq_getElem_cons hvl]
            have := (List.getElem?_eq_some_iff.1 hv).2
            rw [this]
          · rcases hc0 with ⟨hf, hb⟩ | ⟨hf, hb⟩
            · left; exact ⟨hf, hvb.1 (hiff.2 (hb0.2 hb))⟩
            · right; refine ⟨hf, ?_⟩
              have : ¬ v.toNat < 128 := fun hh => by
                have := hb0.1 (hiff.1 (hvb.2 hh)); omega
              omega
        · exact hprev h0
    · rw [if_neg h0]
      have h0' : t = 0 := by omega
      subst h0'
      refine ⟨fill, b0, rest, by simp, by simp [← hbuf], hc0⟩

/-! ### `serDecimal` -/

theorem forM_writeAll_replicate (k : Nat) (b : UInt8) (s : SerState) (h : s.budget = none) :
    (List.replicate k b).forM (fun b => writeAll [b]) s =
      (.ok (), { s with out := s.out ++ List.replicate k b }) := by
  induction k generalizing s with
  | zero => simp [pure]
  | succ k ih =>
    simp only [List.replicate_succ, List.forM, bind]
    rw [writeAll_none _ _ h]
    simp only []
    rw [ih _ (by simpa using h)]
    simp

theorem i128be_ne_nil (n : Int) : i128be n ≠ [] := by
  intro h; have := i128be_length n; rw [h] at this; cases this

theorem canTruncate_i128be_lt (n : Int) : canTruncate (i128be n) < 16 := by
  have := (canTruncate_signPrefix _ (i128be_ne_nil n)).lt_length
  rwa [i128be_length] at this

/-- The mantissa `decimal::serialize` writes on `bytes` and for `BigDecimal`: the `i128` without
    the sign bytes `can_truncate_without_altering_number` finds redundant. -/
def truncated (n : Int) : Bytes := (i128be n).drop (canTruncate (i128be n))

theorem truncated_length (n : Int) : (truncated n).length = 16 - canTruncate (i128be n) := by
  rw [truncated, List.length_drop, i128be_length]

theorem truncated_sound {n : Int} (h : inI128 n = true) : fromTwosComplementBE (truncated n) = n := by
  rw [truncated, (canTruncate_signPrefix _ (i128be_ne_nil n)).sound, i128be_roundtrip h]

theorem serDecimal_regular_bytes (ext : Ext) (scale : Nat) (d : Int × Nat) (s : SerState) (h : s.budget = none)
    (hok : (serDecimal ext (.regular scale .bytes) d s).1 = .ok ()) :
    (ext.decRescale d scale).2 = scale ∧
      serDecimal ext (.regular scale .bytes) d s =
        (.ok (), { s with out := s.out ++ lenPrefixed (truncated (ext.decRescale d scale).1) }) := by
  unfold serDecimal at hok ⊢
  simp only [bind, pure] at hok ⊢
  by_cases hsc : (ext.decRescale d scale).2 = scale
  case neg => simp [hsc, SerM.fail] at hok
  refine ⟨hsc, ?_⟩
  generalize ext.decRescale d scale = d' at *
  simp only [hsc, ne_eq, not_true_eq_false, if_false]
  have hlt := canTruncate_i128be_lt d'.1
  have hm : ((truncated d'.1).length : Int) = 16 - (canTruncate (i128be d'.1) : Int) := by
    rw [truncated_length]; omega
  rw [← hm, writeVarI64_spec _ (inI64_of_lt (by rw [truncated_length]; omega)) s h]
  simp only []
  rw [writeAll_none _ _ (by simpa using h)]
  simp [lenPrefixed, truncated]

theorem serDecimal_regular_fixed (ext : Ext) (scale : Nat) (nm : Name) (size : Nat) (d : Int × Nat) (s : SerState)
    (h : s.budget = none)
    (hr : inI128 (ext.decRescale d scale).1 = true)
    (hok : (serDecimal ext (.regular scale (.fixed nm size)) d s).1 = .ok ()) :
    (ext.decRescale d scale).2 = scale ∧
    ∃ m : Bytes, m.length = size ∧
      serDecimal ext (.regular scale (.fixed nm size)) d s = (.ok (), { s with out := s.out ++ m }) ∧
      fromTwosComplementBE m = (ext.decRescale d scale).1 := by
  unfold serDecimal at hok ⊢
  simp only [bind, pure] at hok ⊢
  by_cases hsc : (ext.decRescale d scale).2 = scale
  case neg => simp [hsc, SerM.fail] at hok
  refine ⟨hsc, ?_⟩
  generalize ext.decRescale d scale = d' at *
  simp only [hsc, ne_eq, not_true_eq_false, if_false] at hok ⊢
  have hlen := i128be_length d'.1
  have hrt := i128be_roundtrip hr
  generalize i128be d'.1 = buf at *
  by_cases h16 : size ≤ 16
  · simp only [h16, if_true] at hok ⊢
    by_cases h1 : size ≥ 1
    · simp only [h1, if_true] at hok ⊢
      by_cases hct : canTruncate (buf.take (16 - size + 1)) < 16 - size
      case pos => simp [hct, SerM.fail] at hok
      simp only [hct, if_false]
      rw [writeAll_none _ _ h]
      refine ⟨buf.drop (16 - size), by rw [List.length_drop, hlen]; omega, rfl, ?_⟩
      have hne : buf.take (16 - size + 1) ≠ [] := by
        intro h0
        have := congrArg List.length h0
        rw [List.length_take, hlen] at this
        simp at this
      have hsp := ((canTruncate_signPrefix _ hne).mono (Nat.le_of_not_lt hct)).of_take
      rw [hsp.sound, hrt]
    · simp only [h1, if_false] at hok ⊢
      by_cases hz : d'.1 = 0
      case neg => simp [hz, SerM.fail] at hok
      simp only [hz, not_true_eq_false, if_false]
      rw [writeAll_none _ _ h]
      have hs0 : size = 0 := by omega
      refine ⟨buf.drop (16 - size), by rw [List.length_drop, hlen]; omega, rfl, ?_⟩
      have : buf.drop (16 - size) = [] := by
        apply List.drop_of_length_le; omega
      rw [this]; rfl
  · simp only [h16, if_false] at hok ⊢
    rw [forM_writeAll_replicate _ _ _ h]
    simp only []
    rw [writeAll_none _ _ (by simpa using h)]
    generalize hfill : (if (buf.headD 0).toNat &&& 128 = 0 then (0 : UInt8) else 255) = fill
    refine ⟨List.replicate (size - 16) fill ++ buf, ?_, ?_, ?_⟩
    · rw [List.length_append, List.length_replicate, hlen]; omega
    · simp
    · cases hb : buf with
      | nil => rw [hb] at hlen; simp at hlen
      | cons b tl =>
        rw [← hrt, hb]
        apply fromTwos_signExt fill
        · intro x hx; exact (List.mem_replicate.1 hx).2
        · have hbb : (b.toNat &&& 0x80 = 0) ↔ b.toNat < 128 := and_128_eq_zero_iff _ b.toNat_lt
          rw [hb] at hfill
          have hh : (b :: tl).headD 0 = b := rfl
          rw [hh] at hfill
          by_cases hbz : b.toNat &&& 128 = 0
          · left; rw [if_pos hbz] at hfill; exact ⟨hfill.symm, hbb.1 hbz⟩
          · right; rw [if_neg hbz] at hfill; refine ⟨hfill.symm, ?_⟩
            have := mt hbb.2 hbz; omega

theorem serDecimal_big (ext : Ext) (d : Int × Nat) (s : SerState) (h : s.budget = none)
    (hsc : d.2 < 2 ^ 63) :
    serDecimal ext .big d s =
      (.ok (), { s with out := s.out ++ lenPrefixed (lenPrefixed (truncated d.1) ++ encodeLong d.2) }) := by
  unfold serDecimal truncated
  simp only [bind, pure]
  have hlt := canTruncate_i128be_lt d.1
  have hml := truncated_length d.1
  rw [truncated] at hml
  generalize canTruncate (i128be d.1) = start at *
  have hi1 : InI64 ((16 - start : Nat) : Int) := inI64_of_lt (by omega)
  have hi2 : InI64 (d.2 : Int) := inI64_of_lt hsc
  have hl1 := encodeVarI64_length_le _ hi1
  have hl2 := encodeVarI64_length_le _ hi2
  rw [encodeVarI64_eq_spec _ hi1] at hl1 ⊢
  rw [encodeVarI64_eq_spec _ hi2] at hl2 ⊢
  have hL : ((lenPrefixed ((i128be d.1).drop start) ++ encodeLong d.2).length : Int) =
      ((encodeLong ((16 - start : Nat) : Int)).length : Int) + ((16 - start : Nat) : Int) +
        ((encodeLong (d.2 : Int)).length : Int) := by
    simp only [lenPrefixed, List.length_append, hml]
    omega
  have hLlt : (lenPrefixed ((i128be d.1).drop start) ++ encodeLong d.2).length < 2 ^ 63 := by
    simp only [lenPrefixed, List.length_append, hml]
    omega
  rw [← hL, writeVarI64_spec _ (inI64_of_lt hLlt) s h]
  simp only []
  rw [writeAll_none _ _ (by simpa using h)]
  simp only []
  rw [writeAll_none _ _ (by simpa using h)]
  simp only []
  rw [if_pos (show encodeLong (d.2 : Int) ≠ [] from encodeNat_ne_nil _),
    writeAll_none _ _ (by simpa using h)]
  simp [lenPrefixed, hml]

end Avro
