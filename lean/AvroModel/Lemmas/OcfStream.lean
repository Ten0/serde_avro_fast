import AvroModel.Lemmas.OcfReaderS
import AvroModel.Lemmas.OcfRun
/-
The container reader on a source laid out as a file, either back-end, for `Theorems/C17stream.lean`,
`C17class.lean` and `Lemmas/CutClassOcf.lean`: the state of a back-end between two datums (`KOk`), a
datum deserializer that is safe on cut input (`DatumCutOk`, `readMany_cut`), the vocabulary of runs in
the namespace `Avro.Theorems.Stream`.  `CutStart` / `CutPos` / `CutInv` are the ∃-`j` forms of the
reader's position in a cut file, stated of one concrete reader in NonVacuityC; theorems use
`Cut.XStart` / `Cut.XPos` (Lemmas/CutClassOcf.lean).  That the real `de … .any` satisfies `DatumCutOk` is in `Lemmas/OcfStreamDe.lean`.
-/
namespace Avro.Theorems
open Avro Avro.Impl

/-- the state invariant of a reader back-end between two datums: no `Take` in place, the buffer
    within what is left, what is left within the allocation cap `M` (`ReaderOK s` of
    Lemmas/ReaderTransfer.lean with `s.maxAlloc = M`: `BOk.readerOK`, `ReaderOK.bOk`) -/
structure BOk (M : Nat) (s : RState) : Prop where
  reader : s.isSlice = false
  limit : s.limit = none
  avail : s.avail ≤ s.rest.length
  alloc : s.maxAlloc = M
  len : s.rest.length ≤ M

end Avro.Theorems

namespace Avro.Theorems.Stream
open Avro Avro.Impl Avro.Theorems
open Avro.Impl.Ocf hiding RdInv
open Avro.Impl.OcfS (RdInv)

section Many
variable {V α β : Type} (enc : V → Bytes)

def blockData (vals : List V) : Bytes := (vals.map enc).flatten

theorem blockData_cons (v : V) (vs : List V) : blockData enc (v :: vs) = enc v ++ blockData enc vs := by
  simp [blockData]

/-- the leading values whose encodings lie entirely within the first `j` bytes -/
def fitting : List V → Nat → List V
  | [], _ => []
  | v :: vs, j => if (enc v).length ≤ j then v :: fitting vs (j - (enc v).length) else []

theorem fitting_prefix : ∀ (vals : List V) (j : Nat), fitting enc vals j <+: vals
  | [], _ => List.prefix_refl _
  | v :: vs, j => by
    unfold fitting
    split
    · exact (List.prefix_cons_inj v).2 (fitting_prefix vs _)
    · exact List.nil_prefix

theorem fitting_all : ∀ (vals : List V) (j : Nat), (blockData enc vals).length ≤ j →
    fitting enc vals j = vals
  | [], _, _ => rfl
  | v :: vs, j, h => by
    rw [blockData_cons, List.length_append] at h
    unfold fitting
    rw [if_pos (by omega), fitting_all vs _ (by omega)]

theorem fitting_lt : ∀ (vals : List V) (j : Nat), j < (blockData enc vals).length →
    (fitting enc vals j).length < vals.length
  | [], _, h => by simp [blockData] at h
  | v :: vs, j, h => by
    rw [blockData_cons, List.length_append] at h
    unfold fitting
    split
    · have := fitting_lt vs (j - (enc v).length) (by omega)
      simp only [List.length_cons]; omega
    · simp

/-- **Prefix-safety of a datum deserializer** w.r.t. the encoding `enc`, for the values satisfying
    `Q`, on the states satisfying `P`, results compared through `proj`/`tgt`: on `enc v ++ y` cut
    after `j` bytes it returns `v` and leaves exactly the cut rest when the cut falls after `enc v`,
    and returns an error when it falls inside `enc v`. -/
def DatumCutOk (Q : V → Prop) (P : RState → Prop) (proj : α → β) (tgt : V → β)
    (datum : RState → Except DeErr α × RState) : Prop :=
  ∀ (s : RState) (v : V) (y : Bytes) (j : Nat), Q v → P s → s.rest = (enc v ++ y).take j →
    ((enc v).length ≤ j → ∃ a s', datum s = (.ok a, s') ∧ proj a = tgt v ∧
        s'.rest = y.take (j - (enc v).length) ∧ P s') ∧
    (j < (enc v).length → ∃ e s', datum s = (.error e, s'))

def readMany (datum : RState → Except DeErr α × RState) : Nat → RState → List α × Option DeErr
  | 0, _ => ([], none)
  | n + 1, s =>
    match datum s with
    | (.ok a, s') => (a :: (readMany datum n s').1, (readMany datum n s').2)
    | (.error e, _) => ([], some e)

/-- On a run of encodings cut after `j` bytes, the deserializer yields exactly the values that fit
    entirely, then — if a value is missing or cut — an error; never anything else. -/
theorem readMany_cut {Q : V → Prop} {P : RState → Prop} {proj : α → β} {tgt : V → β}
    {datum : RState → Except DeErr α × RState} (hd : DatumCutOk enc Q P proj tgt datum) :
    ∀ (vals : List V) (s : RState) (j : Nat), (∀ v ∈ vals, Q v) → P s →
      s.rest = (blockData enc vals).take j →
      (readMany datum vals.length s).1.map proj = (fitting enc vals j).map tgt ∧
      ((fitting enc vals j).length < vals.length →
        ∃ e, (readMany datum vals.length s).2 = some e) ∧
      ((fitting enc vals j).length = vals.length → (readMany datum vals.length s).2 = none) := by
  intro vals
  induction vals with
  | nil => intro s j _ _ _; simp [readMany, fitting]
  | cons v vs ih =>
    intro s j hq hp hr
    rw [blockData_cons] at hr
    obtain ⟨h1, h2⟩ := hd s v _ j (hq v (by simp)) hp hr
    by_cases hj : (enc v).length ≤ j
    · obtain ⟨a, s', hs', hav, hr', hp'⟩ := h1 hj
      obtain ⟨i1, i2, i3⟩ := ih s' _ (fun w hw => hq w (by simp [hw])) hp' hr'
      simp only [List.length_cons, readMany, hs', fitting, if_pos hj, List.map_cons, hav, i1,
        Nat.add_lt_add_iff_right, Nat.add_right_cancel_iff]
      exact ⟨trivial, i2, i3⟩
    · obtain ⟨e, s', hs'⟩ := h2 (by omega)
      simp [readMany, hs', fitting, hj]

end Many

/-! ### The vocabulary of runs (`End`, `readAll`, `blockData`, `fileBody`, …) in the namespace
`Avro.Theorems.Stream`

`Theorems/C17.lean` has the same vocabulary under `Avro.Theorems`, for the slice back-end, and
identifies the two (its namespace `Real`). -/

section Generic
variable {α : Type}

/-- = `Ocf.next_no_panic`, as is `Theorems.C17_total` (Theorems/C17.lean) -/
theorem C17_total (d : Decomp) (datum : RState → Except DeErr α × RState)
    (hd : ∀ s, (datum s).1 ≠ .error .panic) (r : Reader) (hi : RdInv r) :
    (next d datum r).1 ≠ .error .panic := next_no_panic d datum hd r hi

inductive End
  | eos                 -- `Ok(None)`
  | err (e : RdErr)
  | more                -- the budget of calls is exhausted, the reader could go on
  deriving DecidableEq, Repr

def readAll (d : Decomp) (datum : RState → Except DeErr α × RState) : Nat → Reader → List α × End
  | 0, _ => ([], .more)
  | k + 1, r =>
    match next d datum r with
    | (.ok (some a), r') => (a :: (readAll d datum k r').1, (readAll d datum k r').2)
    | (.ok none, _) => ([], .eos)
    | (.error e, _) => ([], .err e)

theorem readAll_no_panic (d : Decomp) (datum : RState → Except DeErr α × RState)
    (hd : ∀ s, (datum s).1 ≠ .error .panic) (k : Nat) :
    ∀ (r : Reader), RdInv r → (readAll d datum k r).2 ≠ .err .panic := by
  induction k with
  | zero => intro r _; simp [readAll]
  | succ k ih =>
    intro r hi
    have htot := C17_total d datum hd r hi
    have hinv := rdInv_next d datum r hi
    simp only [readAll]
    generalize next d datum r = x at htot hinv
    obtain ⟨res, r'⟩ := x
    cases res with
    | error e =>
      simp only [ne_eq, End.err.injEq]
      intro he; subst he; exact htot rfl
    | ok oa =>
      cases oa with
      | none => simp
      | some a => exact ih r' hinv

end Generic

section Valid
variable {V : Type} (enc : V → Bytes)

/-- a block as the writer lays it out (null codec): count, size, objects, sync marker -/
def blockBytes (sync : Bytes) (vals : List V) : Bytes :=
  encodeVarI64 vals.length ++ encodeVarI64 (blockData enc vals).length ++ blockData enc vals ++ sync

def fileBody (sync : Bytes) (blocks : List (List V)) : Bytes :=
  (blocks.map (blockBytes enc sync)).flatten

def BlockOk (vals : List V) : Prop :=
  Spec.InI64 (vals.length : Int) ∧ Spec.InI64 ((blockData enc vals).length : Int)

end Valid

end Avro.Theorems.Stream

/-! ### The container reader over a cut source, either back-end

Reader back-end (`io::Take` around a `BufRead`): the block is entered whatever is left, the view
`blk` holds the bytes of the block that are present (`o.rest.take size` is shorter than `size` when
the source ends inside the block), so the datum deserializer runs on a cut block.  Slice back-end:
`SliceRead::take` refuses a block that is not entirely present.  Both are handled by the same
development, parametrised by `sl : Bool`. -/

namespace Avro.Theorems.Stream
open Avro Avro.Impl Avro.Theorems
open Avro.Impl.Ocf hiding RdInv
open Avro.Impl.OcfS (RdInv)

/-- The state invariant of a back-end between two datums. `sl`: slice (`true`) or reader
    (`false`). No `Take` in place; reader: the buffer within what is left, what is left within the
    allocation cap `M` (`max_alloc` is only consulted by the reader: `KOk false M` is `BOk M`, which
    the statements about `de` use); slice: `avail` unused, and `M` not looked at (any value). -/
structure KOk (sl : Bool) (M : Nat) (s : RState) : Prop where
  back : s.isSlice = sl
  limit : s.limit = none
  avail : s.avail ≤ s.rest.length
  avail0 : sl = true → s.avail = 0
  alloc : sl = false → s.maxAlloc = M
  len : sl = false → s.rest.length ≤ M

theorem KOk.wf {sl : Bool} {M : Nat} {s : RState} (h : KOk sl M s) : s.WF := fun _ => h.avail

theorem KOk.toBOk {M : Nat} {s : RState} (h : KOk false M s) : BOk M s :=
  ⟨h.back, h.limit, h.avail, h.alloc rfl, h.len rfl⟩

theorem KOk.ofBOk {M : Nat} {s : RState} (h : BOk M s) : KOk false M s :=
  ⟨h.reader, h.limit, h.avail, nofun, fun _ => h.alloc, fun _ => h.len⟩

theorem KOk.ofSlice {M : Nat} {s : RState} (hs : s.isSlice = true) (hl : s.limit = none)
    (ha : s.avail = 0) : KOk true M s :=
  ⟨hs, hl, by omega, fun _ => ha, nofun, nofun⟩

theorem KOk.adv {sl : Bool} {M k : Nat} {s s' : RState} (h : KOk sl M s) (ha : Adv k s s')
    (h0 : sl = true → s'.avail = 0) : KOk sl M s' where
  back := ha.isSlice.trans h.back
  limit := by rw [ha.limit, h.limit]; rfl
  avail := by
    cases sl with
    | true => rw [h0 rfl]; exact Nat.zero_le _
    | false => exact ha.wf (ha.isSlice.trans h.back)
  avail0 := h0
  alloc := fun hs => ha.maxAlloc.trans (h.alloc hs)
  len := fun hs => by rw [ha.length]; have := h.len hs; omega

theorem KOk.fill {sl : Bool} {M : Nat} {s : RState} (h : KOk sl M s) :
    ∃ buf s', fillBuf s = (.ok buf, s') ∧ KOk sl M s' ∧ s'.rest = s.rest ∧
      (s.rest = [] → buf = []) ∧ (s.rest ≠ [] → buf ≠ []) := by
  cases sl with
  | true => exact ⟨s.rest, s, by simp [fillBuf, h.back], h, rfl, id, id⟩
  | false =>
    obtain ⟨a, s1, hf1, hal, hpos, h1, h2, h3, h4, h5⟩ := fillBuf_spec s h.wf
    refine ⟨_, s1, hf1, ⟨h1.trans h.back, h3.trans h.limit, ?_, nofun,
      fun hs => h4.trans (h.alloc hs), fun hs => (by rw [h2]; exact h.len hs)⟩, h2, ?_, ?_⟩
    · rw [h5 h.back, h2]; exact hal
    · intro hn; rw [hn]; simp
    · intro hne hb
      have h0 := hpos hne
      have := congrArg List.length hb
      simp only [List.length_take, List.length_nil] at this
      omega

theorem KOk.varint {sl : Bool} {M : Nat} {s : RState} (h : KOk sl M s) :
    (∀ v k, decodeVar .i64 s.rest = some (v, k) →
      ∃ s', readVarint .i64 s = (.ok v, s') ∧ KOk sl M s' ∧ s'.rest = s.rest.drop k) ∧
    (decodeVar .i64 s.rest = none → ∃ e s', readVarint .i64 s = (.error e, s')) := by
  obtain ⟨h1, h2⟩ := readVarint_spec .i64 s h.wf h.limit
  refine ⟨fun v k hd => ?_, fun hd => by obtain ⟨e, s', he, -⟩ := h2 hd; exact ⟨e, s', he⟩⟩
  obtain ⟨s', hs', hadv⟩ := h1 v k hd
  refine ⟨s', hs', h.adv hadv ?_, hadv.rest⟩
  intro hsl
  subst hsl
  rw [Impl.readVarint_slice h.back, hd] at hs'
  simp only [Prod.mk.injEq, true_and] at hs'
  rw [← hs']
  exact h.avail0 rfl

theorem KOk.exact {sl : Bool} {M : Nat} {s : RState} (h : KOk sl M s) (k : Nat) :
    (k ≤ s.rest.length →
      ∃ s', readExact k s = (.ok (s.rest.take k), s') ∧ KOk sl M s' ∧ s'.rest = s.rest.drop k) ∧
    (s.rest.length < k → ∃ s', readExact k s = (.error .io, s')) := by
  obtain ⟨h1, h2⟩ := readExact_spec k s h.wf
  rw [eff_of_limit_none h.limit] at h1 h2
  refine ⟨fun hk => ?_, h2⟩
  obtain ⟨s', hs', hadv⟩ := h1 hk
  refine ⟨s', hs', h.adv hadv ?_, hadv.rest⟩
  intro hsl
  subst hsl
  rw [Ocf.readExact_slice h.back h.limit hk] at hs'
  simp only [Prod.mk.injEq, true_and] at hs'
  rw [← hs']
  simp [h.avail0 rfl]

theorem readVarint_encode_k {sl : Bool} {M : Nat} {s : RState} {i : Int} {y : Bytes}
    (hb : KOk sl M s) (hi : Spec.InI64 i) (hr : s.rest = encodeVarI64 i ++ y) :
    ∃ s', readVarint .i64 s = (.ok i, s') ∧ KOk sl M s' ∧ s'.rest = y := by
  have hd : decodeVar .i64 s.rest = some (i, (encodeVarI64 i).length) := by
    rw [hr]; exact decodeVarI64_encode i hi y
  obtain ⟨s', hs', hk', hrest⟩ := hb.varint.1 _ _ hd
  refine ⟨s', hs', hk', ?_⟩
  rw [hrest, hr, List.drop_left']
  rfl

section Cut
variable {V α β : Type} (enc : V → Bytes) (sl : Bool)

/-- Between blocks; the source holds the blocks `bs`, cut somewhere (`∃ j`).  `Cut.XStart` / `Cut.XPos`
    (Lemmas/CutClassOcf.lean) carry the `j` and are what the run theorem `Cut.run_start` uses. -/
structure CutStart (M : Nat) (sync : Bytes) (r : Reader) (bs : List (List V)) : Prop where
  st : r.st = .notInBlock
  peof : r.pretendEof = false
  outer : KOk sl M r.outer
  orest : ∃ j, r.outer.rest = (fileBody enc sync bs).take j

/-- in a block, `vals` still to be read from the (cut) view `blk`, then the (cut) rest of the file -/
structure CutPos (M : Nat) (sync : Bytes) (r : Reader) (vals : List V) (bs : List (List V)) : Prop where
  st : r.st = .inBlock vals.length
  peof : r.pretendEof = false
  oback : r.outer.isSlice = sl
  olimit : r.outer.limit = none
  oalloc : sl = false → r.outer.maxAlloc = M
  blk : KOk sl M r.blk
  brest : ∃ j, r.blk.rest = (blockData enc vals).take j
  after : ∃ j, r.after = (sync ++ fileBody enc sync bs).take j
  alen : sl = false → r.after.length ≤ M

theorem leaveOuter_ok {d : Decomp} {M : Nat} {r : Reader}
    (hob : r.outer.isSlice = sl) (hol : r.outer.limit = none)
    (hoa : sl = false → r.outer.maxAlloc = M)
    (hbk : d.isNull = true → sl = false → KOk false M r.blk)
    (hal : sl = false → r.after.length ≤ M) : KOk sl M (leaveOuter d r) := by
  unfold leaveOuter
  by_cases hc : d.isNull = true ∧ ¬ r.outer.isSlice = true
  · have hs : sl = false := by rw [← hob]; exact Bool.eq_false_iff.2 hc.2
    subst hs
    rw [if_pos hc]
    exact ⟨(hbk hc.1 rfl).back, rfl, srcAfterBlock_fst_le _ _ _, nofun, (hbk hc.1 rfl).alloc, hal⟩
  · rw [if_neg hc]
    exact ⟨hob, hol, Nat.zero_le _, fun _ => rfl, hoa, hal⟩

/-- the reader is somewhere in a (cut) valid file, the values `rem` still to come (no theorem has it
    as hypothesis or conclusion: `NonVacuityC.rdStream_cutInv` states it of one reader; the runs are
    analysed through `Cut.XStart` / `Cut.XPos`) -/
def CutInv (Q : V → Prop) (M : Nat) (sync : Bytes) (r : Reader) (rem : List V) : Prop :=
  ∃ (vals : List V) (bs : List (List V)), rem = vals ++ bs.flatten ∧ (∀ b ∈ bs, BlockOk enc b) ∧
    (∀ v ∈ rem, Q v) ∧
    (CutPos enc sl M sync r vals bs ∨ (vals = [] ∧ CutStart enc sl M sync r bs))

/-- a reader over the file after its header, on the slice back-end (`sl = true`) or on a `BufRead`
    (`sl = false`: refills follow `sched`, then `lastChunk` for ever; `maxAlloc` is the allocation
    cap) -/
def openSrc (sl : Bool) (sync bytes : Bytes) (sched : List Nat) (lastChunk maxAlloc : Nat) : Reader :=
  { sync := sync,
    outer := { isSlice := sl, rest := bytes, sched := sched, lastChunk := lastChunk,
               maxAlloc := maxAlloc } }

abbrev openReader (sync bytes : Bytes) (sched : List Nat) (lastChunk maxAlloc : Nat) : Reader :=
  openSrc false sync bytes sched lastChunk maxAlloc

/-- the slice back-end (as `openSlice` of `Theorems/C17.lean`) -/
def openSlice (sync bytes : Bytes) : Reader := { sync := sync, outer := { rest := bytes } }

/-- `1` and `536870912` (512 MiB) are the defaults of `RState.lastChunk` and `RState.maxAlloc`
    (`max_alloc` of the deserializer's configuration); a slice looks at neither. -/
theorem openSlice_eq (sync bytes : Bytes) :
    openSlice sync bytes = openSrc true sync bytes [] 1 536870912 := rfl

theorem kOk_open (sync bytes : Bytes) (sched : List Nat) (lastChunk M : Nat)
    (hM : sl = false → bytes.length ≤ M) :
    KOk sl M (openSrc sl sync bytes sched lastChunk M).outer :=
  ⟨rfl, rfl, Nat.zero_le _, fun _ => rfl, fun _ => rfl, hM⟩

theorem leaveBlock_ok {d : Decomp} {M : Nat} {sync Y : Bytes} {r : Reader}
    (hsy : sync.length = 16) (hsync : r.sync = sync) (hob : r.outer.isSlice = sl)
    (hol : r.outer.limit = none) (hoa : sl = false → r.outer.maxAlloc = M)
    (hbk : d.isNull = true → sl = false → KOk false M r.blk) (hbr : r.blk.rest = [])
    (hlim : d.isNull = true → r.blkLimit = 0) (haf : r.after = sync ++ Y)
    (hal : sl = false → r.after.length ≤ M) :
    ∃ o', leaveBlock d r = (.ok (), { r with st := .notInBlock, outer := o' }) ∧ KOk sl M o' ∧
      o'.rest = Y := by
  have hlo : leftover d r = false := by
    cases hn : d.isNull with
    | false => simp [leftover, hn, hbr]
    | true => cases sl <;> simp [leftover, hn, hob, hlim hn, hbr]
  have hbo := leaveOuter_ok sl hob hol hoa hbk hal
  have h16 : 16 ≤ (leaveOuter d r).rest.length := by
    rw [leaveOuter_rest, haf]; simp; omega
  obtain ⟨s', hs', hk', hrest⟩ := (hbo.exact 16).1 h16
  have ht : (leaveOuter d r).rest.take 16 = r.sync := by
    rw [leaveOuter_rest, haf, hsync, ← hsy, List.take_left' rfl]
  refine ⟨s', ?_, hk', by rw [hrest, leaveOuter_rest, haf, ← hsy, List.drop_left' rfl]⟩
  rw [leaveBlock_eq, hlo, hs']
  simp only [ht, ne_eq, not_true_eq_false, if_false, Bool.false_eq_true]

theorem enterBlock_hdr {d : Decomp} {M : Nat} {Y : Bytes} {r : Reader} {cnt size : Nat}
    (hc : Spec.InI64 (cnt : Int)) (hs : Spec.InI64 (size : Int)) (hbo : KOk sl M r.outer)
    (hor : r.outer.rest = encodeVarI64 cnt ++ (encodeVarI64 size ++ Y)) :
    ∃ o2, KOk sl M o2 ∧ o2.rest = Y ∧
      enterBlock d r = enterTail d
        { r with st := .broken, outer := o2, after := o2.rest.drop size, blkLimit := size }
        cnt size o2 := by
  obtain ⟨o1, e1, hb1, hr1⟩ := readVarint_encode_k hbo hc hor
  obtain ⟨o2, e2, hb2, hr2⟩ := readVarint_encode_k hb1 hs hr1
  refine ⟨o2, hb2, hr2, ?_⟩
  rw [enterBlock_eq, e1]
  simp only [show ¬ ((cnt : Int) < 0) by omega, if_false]
  rw [e2]
  simp only [show ¬ ((size : Int) < 0) by omega, if_false, Int.toNat_natCast]

theorem enterBlock_ok {d : Decomp} {M : Nat} {Y : Bytes} {r : Reader} {cnt size : Nat}
    (hn : d.isNull = true) (hc : Spec.InI64 (cnt : Int)) (hs : Spec.InI64 (size : Int))
    (hbo : KOk sl M r.outer) (hor : r.outer.rest = encodeVarI64 cnt ++ (encodeVarI64 size ++ Y))
    (hfull : sl = true → size ≤ Y.length) :
    ∃ o2, KOk sl M o2 ∧ o2.rest = Y ∧
      KOk sl M { o2 with rest := o2.rest.take size, avail := min o2.avail size } ∧
      enterBlock d r = (.ok (),
        { r with st := .inBlock cnt, outer := o2, after := o2.rest.drop size, blkLimit := size,
                 blk := { o2 with rest := o2.rest.take size, avail := min o2.avail size } }) := by
  obtain ⟨o2, hb2, hr2, he⟩ := enterBlock_hdr sl (d := d) hc hs hbo hor
  have hav := hb2.avail
  refine ⟨o2, hb2, hr2, ⟨hb2.back, hb2.limit, ?_, ?_, hb2.alloc, ?_⟩, ?_⟩
  · simp only [List.length_take]; omega
  · intro hs; simp only [hb2.avail0 hs]; omega
  · intro hs; have := hb2.len hs; simp only [List.length_take]; omega
  · have hsz : ¬ (o2.isSlice = true ∧ size > o2.rest.length) := by
      rintro ⟨h1, h2⟩
      have := hfull (hb2.back.symm.trans h1)
      rw [hr2] at h2; omega
    rw [he, enterTail, blockView, if_pos hn, if_neg hsz]
    simp only [Int.toNat_natCast]

theorem enterBlock_ok_codec {d : Decomp} {M : Nat} {Y : Bytes} {r : Reader} {cnt size : Nat}
    {plain : Bytes} (hn : d.isNull = false) (hns : d.isSnappy = false)
    (hc : Spec.InI64 (cnt : Int)) (hs : Spec.InI64 (size : Int))
    (hbo : KOk sl M r.outer) (hor : r.outer.rest = encodeVarI64 cnt ++ (encodeVarI64 size ++ Y))
    (hfull : size ≤ Y.length) (hdec : d.decompress (Y.take size) = some plain) :
    ∃ o2, KOk sl M o2 ∧ o2.rest = Y ∧
      enterBlock d r = (.ok (),
        { r with st := .inBlock cnt, outer := o2, after := o2.rest.drop size, blkLimit := size,
                 blk := plainReader plain 8192 }) := by
  obtain ⟨o2, hb2, hr2, he⟩ := enterBlock_hdr sl (d := d) hc hs hbo hor
  refine ⟨o2, hb2, hr2, ?_⟩
  rw [he, enterTail, blockView, if_neg (by rw [hn]; exact Bool.false_ne_true),
    if_neg (by rw [hr2]; omega), plainView, if_neg (by rw [hns]; exact Bool.false_ne_true), hr2, hdec]
  simp only [Int.toNat_natCast]

end Cut

end Avro.Theorems.Stream

