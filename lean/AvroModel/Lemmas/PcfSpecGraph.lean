import AvroModel.Lemmas.PcfSpecRaw
import AvroModel.Lemmas.CanonTree
import AvroModel.Lemmas.RegisterFuel
/-
C08 (the canonical form is the specification's): second half.

`canonTree_of_reg`, by induction on the registration (`Reg`, `Lemmas/RegisterRel.lean`): registering
raw schema trees in which every reference comes after its definition builds a node graph whose
canonical tree (`CanonTree`, `Lemmas/CanonTree.lean`) is the specification's transformation of the
trees (`canonRaw`, i.e. `Spec.Pcf.canon` by `raw_of_json_spec`), of a height within the fuel the
registration needs (`rawBound`).  What the canonical-form writer outputs then is
`canonicalForm_of_canonTree`.

Invariant `Bound` between the registration state reached after a prefix of the document, the list
`D` of the fullnames defined by that prefix and the named nodes `W` written so far.  The
derivations are on the graph of the FINAL state (`graphOf stF`); `Agree stF st' lo`
links a registration to it: the nodes it allocated are already final.
-/
namespace Avro.PcfSpec
open Avro Avro.Impl Avro.Spec Avro.Spec.Pcf
open Avro.RenderPcf (CanonTree WalkJob WalkDoc fieldDocs)

def nameOf : RegularType → Option Name
  | .record nm _ => some nm | .enum nm _ => some nm | .fixed nm _ => some nm
  | _ => none

theorem nameOf_eq (ty : RegularType) : nameOf ty = RenderPcf.nameOf ty := by
  cases ty <;> rfl

/-! ### the graph, the invariant -/

def NamedAt (S : SchemaMut) (i : Nat) (text : String) : Prop :=
  ∃ node nm, S[i]? = some node ∧ nameOf node.type = some nm ∧ nm.fq = text

/-- Links the three things that advance together: the name table of the registration state, the
    fullnames `D` that `scan` has seen defined, the named nodes `W` the canonical tree has written.
    `defs`: a reference `scan` accepts is looked up to a node of `W` carrying that fullname (so rule
    `again` applies and `pending` is impossible): the converse direction of `RenderPcf.Defs`.
    `written`: the slot about to be allocated, `st.nodes.size`, is not in `W` (the side condition
    `k ∉ W` of `enum` / `fixed` / `record`). -/
structure Bound (S : SchemaMut) (st : PState) (D : List Fullname) (W : List Nat) : Prop where
  defs : ∀ fn ∈ D, ∃ i, st.names.lookup ⟨fn.1, fn.2⟩ = some i ∧ i ∈ W ∧
    NamedAt S i (fullnameText fn)
  written : ∀ i ∈ W, i < st.nodes.size

theorem Bound.mono {S : SchemaMut} {st st' : PState} {D : List Fullname} {W : List Nat}
    (h : Bound S st D W)
    (hnames : ∀ k i, st.names.lookup k = some i → st'.names.lookup k = some i)
    (hsz : st.nodes.size ≤ st'.nodes.size) : Bound S st' D W := by
  refine ⟨?_, fun i hi => Nat.lt_of_lt_of_le (h.written i hi) hsz⟩
  intro fn hfn
  obtain ⟨i, h1, h2, h3⟩ := h.defs fn hfn
  exact ⟨i, hnames _ _ h1, h2, h3⟩

theorem Bound.define {S : SchemaMut} {st st1 : PState} {D : List Fullname} {W : List Nat}
    (h : Bound S st D W) (fn : Fullname)
    (hfresh : st.names.lookup ⟨fn.1, fn.2⟩ = none)
    (hnames1 : st1.names = (⟨fn.1, fn.2⟩, st.nodes.size) :: st.names)
    (hsz : st.nodes.size < st1.nodes.size)
    (hnamed : NamedAt S st.nodes.size (fullnameText fn)) :
    Bound S st1 (fn :: D) (st.nodes.size :: W) := by
  refine ⟨?_, ?_⟩
  · intro fn' hfn'
    rcases List.mem_cons.mp hfn' with rfl | hfn'
    · exact ⟨st.nodes.size, by simp [hnames1], List.mem_cons_self, hnamed⟩
    · obtain ⟨i, h1, h2, h3⟩ := h.defs fn' hfn'
      refine ⟨i, ?_, List.mem_cons_of_mem _ h2, h3⟩
      rw [hnames1, List.lookup_cons]
      have hne : (⟨fn'.1, fn'.2⟩ : NameKey) ≠ ⟨fn.1, fn.2⟩ := by
        intro e; rw [e, hfresh] at h1; cases h1
      have : ((⟨fn'.1, fn'.2⟩ : NameKey) == ⟨fn.1, fn.2⟩) = false := by simpa using hne
      simp only [this, h1]
  · intro i hi
    rcases List.mem_cons.mp hi with rfl | hi
    · exact hsz
    · exact Nat.lt_trans (h.written i hi) hsz

/-! ### a raw schema as the node `register_node` makes of it -/

theorem asNode_spec {raw : RawSchema} {t o of oi ov} {enc : Option String} {st st1 : PState}
    {nk : Option NameKey} {b : Body} (hraw : raw.asNode = some (t, o, of, oi, ov))
    (hname : nameStep o enc st = .ok (nk, st1)) (hbody : bodyOf t o of oi ov enc nk = .ok b) :
    canonRaw enc raw = canonParts enc t (o.bind (·.name)) (o.bind (·.nsAttr))
      (o.bind (·.symbols)) (o.bind (·.size)) (fun ns => canonRawOFields ns of)
      (canonRawO enc oi) (canonRawO enc ov) ∧
    ∀ D, scanRaw enc raw D = scanParts enc t (o.bind (·.name)) (o.bind (·.nsAttr))
      (fun ns D => scanRawOFields ns of D) (scanRawO enc oi) (scanRawO enc ov) D := by
  rcases RawSchema.asNode_some hraw with ⟨rfl, rfl, rfl, rfl, rfl⟩ | ⟨a, rfl, rfl, rfl⟩
  · obtain ⟨-, -, hnk⟩ := nameStep_ok hname
    have hnk : nk = none := by
      rcases hnk with ⟨h, -⟩ | ⟨o, _, h, -⟩
      · exact h
      · cases h
    subst hnk
    cases t <;> simp only [bodyOf, reduceCtorEq] at hbody <;>
      simp [canonRaw, scanRaw, canonParts, scanParts, typeText, isPrimitive, primitiveNames]
  · exact ⟨by simp only [canonRaw, Option.bind_some], fun D => by
      simp only [scanRaw, Option.bind_some]⟩

theorem map_zip_resolve (fix : PKey → Nat) (names : List String) (ks : List PKey) :
    ((names.zip ks).map fun p => (p.1, fix p.2)) = names.zip (ks.map fix) := by
  induction names generalizing ks with
  | nil => rfl
  | cons a names ih => cases ks <;> simp [ih]

/-! ### registration builds the canonical tree -/

/-- One node, given the claim for its children (`ihk`): its canonical document, of a height
    within `rawBound raw`, and what is bound after it. -/
theorem canonTree_node {stF : PState} {raw : RawSchema} {t o of oi ov} {enc : Option String}
    {st st1 st2 : PState} {nk : Option NameKey} {b : Body} {kks : List PKey}
    {lt : Option LogicalType} {D D1 : List Fullname} {W : List Nat}
    (hraw : raw.asNode = some (t, o, of, oi, ov)) (hname : nameStep o enc st = .ok (nk, st1))
    (hbody : bodyOf t o of oi ov enc nk = .ok b) (hkids : Reg b.kids b.ns st1 kks st2)
    (ihk : ∀ {D D' : List Fullname} {W : List Nat}, scanRawList b.ns b.kids D = some D' →
      Agree stF st2 st1.nodes.size → Bound (graphOf stF) st1 D W →
      ∃ cs n W', canonRawList b.ns b.kids = some cs ∧ n ≤ rawBoundList b.kids ∧
        CanonTree (graphOf stF) n W (.list (kks.map (resolveKey stF))) (.many cs) W' ∧
        Bound (graphOf stF) st2 D' W')
    (hS : (graphOf stF)[st.nodes.size]? =
      some { logical := lt, type := resolveType (resolveKey stF) (b.build kks) })
    (hag2 : Agree stF st2 st1.nodes.size) (hB : Bound (graphOf stF) st D W)
    (hsp : scanRaw enc raw D = some D1) :
    ∃ c n1 W1, canonRaw enc raw = some c ∧ n1 ≤ rawBound raw ∧
      CanonTree (graphOf stF) n1 W (.node st.nodes.size) (.one c) W1 ∧
      Bound (graphOf stF) st2 D1 W1 := by
  obtain ⟨hcanon, hscanraw⟩ := asNode_spec hraw hname hbody
  obtain ⟨hn1, -, hnames⟩ := nameStep_ok hname
  have hle1 := nameStep_le hname
  have hsz1 : st1.nodes.size = st.nodes.size + 1 := by rw [hn1]; simp
  have hfresh : st.nodes.size ∉ W := fun hm => Nat.lt_irrefl _ (hB.written _ hm)
  have hbound : rawBound raw = 2 + bodyBound t of oi ov := by
    rcases RawSchema.asNode_some hraw with ⟨rfl, rfl, rfl, rfl, rfl⟩ | ⟨a, rfl, rfl, rfl⟩
    · simp [rawBound, bodyBound_none]
    · exact rawBound_object _ _ _ _
  rw [hcanon, hbound]
  rw [hscanraw] at hsp
  clear hcanon hscanraw hbound hraw
  cases t with
  | array | map =>
    -- the entry of the table is `Body.one enc r mk`, with `mk` one of `.array`, `.map`
    rcases bodyOf_ok hbody with ⟨_, _, ⟨⟩, -⟩ | ⟨r, mk, rfl, h, -⟩ | ⟨_, _, _, ⟨⟩, -⟩
    rcases h with ⟨⟨⟩, rfl, rfl⟩ | ⟨⟨⟩, rfl, rfl⟩
    simp only [scanParts, scanRawO] at hsp
    obtain ⟨cs, n, W1, hcs, hn, hcan, hB1⟩ :=
      ihk (D := D) (D' := D1) (by simp only [Body.one, scanRawList, hsp]) hag2
        (hB.mono hle1.names hle1.size)
    obtain ⟨ki, rfl⟩ := hkids.singleton
    obtain ⟨m, c, rfl, rfl, hnd⟩ := hcan.of_singleton
    simp only [Body.one, resolveType, List.headD_cons] at hS
    simp only [Body.one, canonRawList] at hcs
    cases hc : canonRaw enc r with
    | none => simp [hc] at hcs
    | some c' =>
      simp only [hc, Option.some.injEq, List.cons.injEq, and_true] at hcs
      subst hcs
      refine ⟨_, m + 1, W1, by simp [canonParts, canonRawO, hc]; rfl, ?_, ?_, hB1⟩
      · simp only [Body.one, rawBoundList, bodyBound, rawBoundO] at hn ⊢
        omega
      · first | exact .array hS hnd | exact .map hS hnd
  | enum | fixed =>
    rcases hnames with ⟨rfl, -, -⟩ | ⟨a, name, rfl, hname', rfl, hfr, hnames1⟩
    · simp [bodyOf] at hbody
    · simp only [bodyOf, Option.bind_some] at hbody
      split at hbody
      · rename_i k v hk hs
        cases hk
        cases hbody
        cases hkids
        simp only [scanParts, Option.bind_some, hname', Option.some.injEq] at hsp
        subst hsp
        rw [defKey_eq_spec] at hfr hnames1
        have hnamed : NamedAt (graphOf stF) st.nodes.size
            (fullnameText (fullnameOfDef name a.nsAttr enc)) :=
          ⟨_, _, hS, rfl, defKey_fq _ _ _⟩
        refine ⟨_, 1, _, by simp only [canonParts, Option.bind_some, hname', hs]; rfl,
          by omega, ?_, hB.define _ hfr hnames1 (by omega) hnamed⟩
        rw [← defKey_fq]
        first | exact .enum hS hfresh | exact .fixed hS hfresh
      · cases hbody
  | record =>
    rcases hnames with ⟨rfl, -, -⟩ | ⟨a, name, rfl, hname', rfl, hfr, hnames1⟩
    · simp [bodyOf] at hbody
    · cases of with
      | none => simp [bodyOf] at hbody
      | some fields =>
        simp only [bodyOf, Except.ok.injEq] at hbody
        subst hbody
        simp only [scanParts, Option.bind_some, hname', scanRawOFields,
          scanRawFields_eq] at hsp
        have hns : (defKey name a.nsAttr enc).ns = (fullnameOfDef name a.nsAttr enc).1 := by
          rw [defKey_eq_spec]
        rw [defKey_eq_spec] at hfr hnames1
        simp only [Body.fields, resolveType, map_zip_resolve] at hS
        have hnamed : NamedAt (graphOf stF) st.nodes.size
            (fullnameText (fullnameOfDef name a.nsAttr enc)) :=
          ⟨_, _, hS, rfl, defKey_fq _ _ _⟩
        obtain ⟨cs, n, W1, hcs, hn, hcan, hB1⟩ :=
          ihk (by simp only [Body.fields, hns]; exact hsp) hag2
            (hB.define _ hfr hnames1 (by omega) hnamed)
        have hlen : (fields.map (·.1)).length = (kks.map (resolveKey stF)).length := by
          simp [hkids.length, Body.fields]
        simp only [Body.fields, hns] at hcs
        refine ⟨_, n + 1, W1, by
            simp only [canonParts, Option.bind_some, hname', canonRawOFields,
              canonRawFields_eq, hcs, Option.map_some]; rfl, ?_, ?_, hB1⟩
        · simp only [Body.fields, bodyBound, rawBoundOF, rawBoundFields_eq_list] at hn ⊢
          omega
        · rw [← defKey_fq]
          exact .record hS hfresh (hcan.fields_of_list _ hlen)
  | null | boolean | int | long | float | double | bytes | string =>
    simp only [bodyOf, Except.ok.injEq] at hbody
    subst hbody
    cases hkids
    simp only [scanParts, Option.some.injEq] at hsp
    subst hsp
    exact ⟨_, 1, W, rfl, by omega, .prim hS rfl,
      hB.mono hle1.names hle1.size⟩

/-- **Registration without forward references builds a graph whose canonical tree is the
    specification's transformation.** -/
theorem canonTree_of_reg {stF : PState} {l : List RawSchema} {enc : Option String} {st : PState}
    {ks : List PKey} {st' : PState} (h : Reg l enc st ks st') :
    ∀ {D D' : List Fullname} {W : List Nat}, scanRawList enc l D = some D' →
      Agree stF st' st.nodes.size → Bound (graphOf stF) st D W →
      ∃ cs n W', canonRawList enc l = some cs ∧ n ≤ rawBoundList l ∧
        CanonTree (graphOf stF) n W (.list (ks.map (resolveKey stF))) (.many cs) W' ∧
        Bound (graphOf stF) st' D' W' := by
  induction h with
  | nil =>
    intro D D' W hscan _ hB
    simp only [scanRawList, Option.some.injEq] at hscan
    subst hscan
    exact ⟨[], 0, W, rfl, Nat.le_refl _, .lnil, hB⟩
  | @found r rest enc st i ks st' hl _ ih =>
    intro D D' W hscan hag hB
    simp only [scanRawList, scanRaw] at hscan
    by_cases hmem : D.contains (fullnameOfRef r enc) = true
    · simp only [hmem, if_true] at hscan
      obtain ⟨i', hl', hw, node, nm, hSi, hnm, hfq⟩ := hB.defs _ (by simpa using hmem)
      rw [← refKey_eq_spec, hl] at hl'
      cases hl'
      obtain ⟨cs, n, W', hcs, hn, hcan, hB'⟩ := ih hscan hag hB
      refine ⟨_ :: cs, _, W', by simp only [canonRawList, canonRaw, hcs, hfq], ?_,
        .lcons (.again hSi ((nameOf_eq _).symm.trans hnm) hw) hcan, hB'⟩
      simp only [rawBoundList, rawBound]; omega
    · rw [if_neg hmem] at hscan; cases hscan
  | @pending r rest enc st ks st' hl _ _ =>
    intro D D' W hscan _ hB
    simp only [scanRawList, scanRaw] at hscan
    by_cases hmem : D.contains (fullnameOfRef r enc) = true
    · obtain ⟨i', hl', -⟩ := hB.defs _ (by simpa using hmem)
      rw [← refKey_eq_spec, hl] at hl'
      cases hl'
    · rw [if_neg hmem] at hscan; cases hscan
  | @union bs rest enc st keys st2 ks st' hkids hrest ihk ih =>
    intro D D' W hscan hag hB
    simp only [scanRawList, scanRaw] at hscan
    cases hs1 : scanRawList enc bs D with
    | none => rw [hs1] at hscan; cases hscan
    | some D1 =>
      rw [hs1] at hscan
      have hle2 := hkids.le
      have hle3 := hrest.le
      have hidx : st.nodes.size < st2.nodes.size := by
        have := hle2.size; simp only [PState.reserve_size] at this; omega
      obtain ⟨hnode, hag2⟩ := hag.node (by omega) hle3
      have hS := graphOf_get hnode
      simp only [resolveType] at hS
      obtain ⟨cs1, n1, W1, hcs1, hn1, hcan1, hB1⟩ :=
        ihk hs1 (by simpa using hag2) (hB.mono (fun _ _ h => h) (by simp))
      obtain ⟨cs, n, W', hcs, hn, hcan, hB'⟩ := ih hscan
        (hag.tail (by simp only [PState.fill_size]; omega))
        (hB1.mono (fun _ _ h => h) (by simp))
      refine ⟨.arr cs1 :: cs, _, W', by simp only [canonRawList, canonRaw, hcs1, hcs,
        Option.map_some], ?_, .lcons (.union hS hcan1) hcan, hB'⟩
      simp only [rawBoundList, rawBound]; omega
  | @node raw rest enc st t o of oi ov nk st1 b kks st2 lt ks st' hraw hname hbody hkids hlog
      hrest ihk ih =>
    intro D D' W hscan hag hB
    simp only [scanRawList] at hscan
    cases hs1 : scanRaw enc raw D with
    | none => rw [hs1] at hscan; cases hscan
    | some D1 =>
      rw [hs1] at hscan
      have hsz1 : st1.nodes.size = st.nodes.size + 1 := by rw [(nameStep_ok hname).1]; simp
      have hidx : st.nodes.size < st2.nodes.size := by have := hkids.le.size; omega
      obtain ⟨hnode, hag2⟩ := hag.node (by omega) hrest.le
      rw [← hsz1] at hag2
      obtain ⟨c, n1, W1, hc, hn1, hcan1, hB1⟩ :=
        canonTree_node hraw hname hbody hkids ihk (graphOf_get hnode) hag2 hB hs1
      obtain ⟨cs, n, W', hcs, hn, hcan, hB'⟩ := ih hscan
        (hag.tail (by simp only [PState.fill_size]; omega))
        (hB1.mono (fun _ _ h => h) (by simp))
      refine ⟨c :: cs, _, W', by simp only [canonRawList, hc, hcs], ?_, .lcons hcan1 hcan, hB'⟩
      simp only [rawBoundList]; omega

theorem canonTree_of_register {raw : RawSchema} {f : Nat} {st : PState} {D' : List Fullname}
    (hreg : registerNode f raw none {} = .ok (.idx 0, st))
    (hscan : scanRaw none raw [] = some D') :
    ∃ c m W', canonRaw none raw = some c ∧ m ≤ f ∧
      CanonTree (graphOf st) m [] (.node 0) (.one c) W' := by
  obtain ⟨cs, n, W', hcs, hn, hcan, -⟩ :=
    canonTree_of_reg (stF := st) (registerNode_reg hreg) (D := []) (D' := D') (W := [])
      (by simp only [scanRawList, hscan]) (fun _ _ _ => rfl) ⟨by simp, by simp⟩
  obtain ⟨m, c, rfl, rfl, hnd⟩ := hcan.of_singleton
  have hb := registerNode_ok_bound hreg
  simp only [rawBoundList] at hn
  refine ⟨c, m, W', ?_, by omega, hnd⟩
  simp only [canonRawList] at hcs
  cases hc : canonRaw none raw with
  | none => simp [hc] at hcs
  | some c' => simpa [hc] using hcs

theorem registerNode_key {f : Nat} {raw : RawSchema} {enc : Option String} {st : PState}
    {k : PKey} {st' : PState} (h : registerNode f raw enc st = .ok (k, st')) :
    (∃ r, raw = .ref r) ∨ k = .idx st.nodes.size := by
  cases registerNode_reg h with
  | found | pending => exact .inl ⟨_, rfl⟩
  | union | node => exact .inr rfl

/-! ### the registration state and the canonical-form writer's state

`Inv S st D ps`: `Bound S st D ps.written`, and the writer has entered only nodes of `st`.  No
theorem of the development rests on it: `canonTree_of_reg` never meets `PcfState`; `Inv.unnamed`
and `Inv.define` are `Bound.mono` and `Bound.define` with the third field carried along. -/

structure Inv (S : SchemaMut) (st : PState) (D : List Fullname) (ps : PcfState) : Prop where
  defs : ∀ fn ∈ D, ∃ i, st.names.lookup ⟨fn.1, fn.2⟩ = some i ∧ i ∈ ps.written ∧
    NamedAt S i (fullnameText fn)
  written : ∀ i ∈ ps.written, i < st.nodes.size
  onPath : ∀ p ∈ ps.onPath, p.1 < st.nodes.size

theorem Inv.unnamed {S : SchemaMut} {st st' : PState} {D : List Fullname} {ps : PcfState}
    (h : Inv S st D ps)
    (hnames : ∀ k i, st.names.lookup k = some i → st'.names.lookup k = some i)
    (hsz : st.nodes.size ≤ st'.nodes.size) (idx g : Nat) (hidx : idx < st'.nodes.size)
    (o : String) (q : Nat × Nat → Bool) :
    Inv S st' D { ps with onPath := (idx, g) :: ps.onPath.filter q, out := o } :=
  have b := Bound.mono ⟨h.defs, h.written⟩ hnames hsz
  ⟨b.defs, b.written, fun p hp => by
    rcases List.mem_cons.mp hp with rfl | hp
    · exact hidx
    · exact Nat.lt_of_lt_of_le (h.onPath p (List.mem_filter.mp hp).1) hsz⟩

theorem Inv.define {S : SchemaMut} {st st1 : PState} {D : List Fullname} {ps : PcfState}
    (h : Inv S st D ps) (fn : Fullname)
    (hfresh : st.names.lookup ⟨fn.1, fn.2⟩ = none)
    (hnames1 : st1.names = (⟨fn.1, fn.2⟩, st.nodes.size) :: st.names)
    (hsz : st.nodes.size < st1.nodes.size)
    (hnamed : NamedAt S st.nodes.size (fullnameText fn)) (o : String) :
    Inv S st1 (fn :: D) { ps with written := st.nodes.size :: ps.written, out := o } :=
  have b := Bound.define ⟨h.defs, h.written⟩ fn hfresh hnames1 hsz hnamed
  ⟨b.defs, b.written, fun p hp => Nat.lt_trans (h.onPath p hp) hsz⟩

end Avro.PcfSpec
