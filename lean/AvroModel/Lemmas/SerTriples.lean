import AvroModel.Lemmas.SerSim
/-
The structures `Tr`/`TTr`/`RTr`/`RTrT` (with `Out2`, `OutT`) and the `Avro.Theorems` copies of the
base notions.

`RTr`/`RTrT` are `STr`/`STrT` (`Lemmas/SerSim.lean`) at `P := False` (`STr.rtr`), `Tr`/`TTr` their
diagonal (`STr.tr`).  Only lemmas of this module are stated in them (`ser_tr`, `ser_rel`, … and the
rules `Tr.weaken`, `Tr.ite`, `RTr.elimT`, …, most of which nothing uses); they stand as stated and
are not a calculus to extend: a proof about the serializer uses `STr` and `ser_sim`, as
`C14_pool_clean` does.

`PoolClean`, `NodeOK`, `SeqOK`, `StructOK`, `SerSim` below have the bodies of `Avro.PoolClean`
(`Lemmas/SerBase.lean`), `NodeIn`, `SeqIn`, `StructIn` (`Lemmas/SerKeys.lean`), `StateSim`
(`Lemmas/SerSim.lean`) and are definitionally equal to them.  `PoolClean` and `NodeOK` are what the
statements of C13 and C14 are written with; `SeqOK`, `StructOK`, `SerSim` only serve `serElems_tr`,
… and `RTr`.  They exist because inside `namespace Avro.Theorems` the innermost declaration of a
short name wins, and other files in that namespace write `PoolClean`, `NodeOK` for
`Avro.PoolClean`, `Avro.NodeOK`.  Those files must not import this module:
`Lemmas/RecordOrder.lean`, `Lemmas/RecordFull.lean`, `Theorems/C01*.lean`, `Theorems/C02.lean`,
`Theorems/C18full.lean`.
-/
namespace Avro.Theorems
open Avro Avro.Impl

/-- Every pooled buffer is empty, every pooled super-buffer has no slots: the state in which
    `SerializerConfig` expects to be handed back its `Buffers`. -/
def PoolClean (p : Pool) : Prop :=
  (∀ b ∈ p.buffers, b.data = []) ∧ (∀ sb ∈ p.superBuffers, sb.slots = [])

/-- The two are definitionally equal and a proof of one is accepted for the other; the conversion is
    needed only where `rw`/`simp` has to see the other name.  Likewise for `NodeOK.iff_in`, …. -/
theorem PoolClean.iff_base {p : Pool} : PoolClean p ↔ Avro.PoolClean p := Iff.rfl

theorem PoolClean.empty : PoolClean {} := PoolClean.iff_base.2 Avro.PoolClean.empty

def NodeOK (S : Schema) (n : Node) : Prop := ∀ k ∈ n.children, k < S.size

theorem NodeOK.iff_in {S : Schema} {n : Node} : NodeOK S n ↔ NodeIn S n := Iff.rfl

theorem NodeOK.of_get {S : Schema} (hk : S.keysInBounds) {k : Nat} {n : Node} (h : S[k]? = some n) :
    NodeOK S n := NodeOK.iff_in.2 (NodeIn.of_get hk h)

structure Tr {α} (P : Prop) (m : SerM α) (Q : α → Prop) : Prop where
  out : ∀ s, PoolClean s.pool →
    PoolClean (m s).2.pool ∧ (P → (m s).1 ≠ .error .panic ∧ ∀ a, (m s).1 = .ok a → Q a)

structure TTr {σ α} (P : Prop) (m : TrM σ α) (Q : α → Prop) : Prop where
  out : ∀ s, PoolClean s.pool →
    PoolClean (m s).2.pool ∧
      (P → (∀ k, (m s).1 ≠ .error (.panic, k)) ∧ ∀ a, (m s).1 = .ok a → Q a)

section rules
variable {α β : Type} {P : Prop}

theorem Tr.weaken {m : SerM α} {Q Q' : α → Prop} (hm : Tr P m Q) (h : ∀ a, Q a → Q' a) :
    Tr P m Q' := by
  refine ⟨fun s hs => ?_⟩
  have h1 := hm.out s hs
  exact ⟨h1.1, fun hp => ⟨(h1.2 hp).1, fun a ha => h a ((h1.2 hp).2 a ha)⟩⟩

theorem Tr.true {m : SerM α} {Q : α → Prop} (hm : Tr P m Q) : Tr P m (fun _ => True) :=
  hm.weaken (fun _ _ => trivial)

theorem Tr.ite {c : Prop} [Decidable c] {m1 m2 : SerM α} {Q : α → Prop}
    (h1 : c → Tr P m1 Q) (h2 : ¬ c → Tr P m2 Q) : Tr P (if c then m1 else m2) Q := by
  split
  · exact h1 ‹_›
  · exact h2 ‹_›

end rules

section pool
variable {P : Prop}

theorem pushSuperBuffer_tr {b : SuperBuffer} (hb : b.slots = []) :
    Tr P (pushSuperBuffer b) (fun _ => True) := by
  refine ⟨fun s ⟨h1, h2⟩ => ⟨⟨h1, fun x hx => ?_⟩, fun _ => ⟨nofun, fun _ _ => trivial⟩⟩⟩
  rcases List.mem_cons.mp hx with rfl | hx
  · exact hb
  · exact h2 x hx

end pool

def SeqOK (S : Schema) : SeqKind → Prop
  | .array items _ => NodeOK S items
  | _ => True

def StructOK (S : Schema) : StructKind → Prop
  | .record fields _ => ∀ f ∈ fields, f.2 < S.size
  | .map values _ => NodeOK S values
  | .duration _ => True

def SerSim (U : Prop) (o : Bytes) (s1 s2 : SerState) : Prop :=
  s1.out = o ++ s2.out ∧ s1.budget = s2.budget ∧ (U → s2.budget = none) ∧
    PoolClean s1.pool ∧ PoolClean s2.pool

theorem SerSim.iff_state {U : Prop} {o : Bytes} {s1 s2 : SerState} :
    SerSim U o s1 s2 ↔ StateSim U o s1 s2 := Iff.rfl

def Out2 {α} (U : Prop) (R : α → α → Prop) (o : Bytes) (x1 x2 : Except SerErr α × SerState) : Prop :=
  (∃ a b t1 t2, x1 = (.ok a, t1) ∧ x2 = (.ok b, t2) ∧ R a b ∧ SerSim U o t1 t2) ∨
  (∃ e t1 t2, x1 = (.error e, t1) ∧ x2 = (.error e, t2) ∧ SerSim U o t1 t2)

/-- The compound states carried by errors are unrelated: they are only dropped. -/
def OutT {σ α} (U : Prop) (R : α → α → Prop) (o : Bytes) (x1 x2 : Except (SerErr × σ) α × SerState) : Prop :=
  (∃ a b t1 t2, x1 = (.ok a, t1) ∧ x2 = (.ok b, t2) ∧ R a b ∧ SerSim U o t1 t2) ∨
  (∃ e k1 k2 t1 t2, x1 = (.error (e, k1), t1) ∧ x2 = (.error (e, k2), t2) ∧ SerSim U o t1 t2)

structure RTr {α} (U : Prop) (m1 m2 : SerM α) (R : α → α → Prop) : Prop where
  out : ∀ o s1 s2, SerSim U o s1 s2 → Out2 U R o (m1 s1) (m2 s2)

structure RTrT {σ α} (U : Prop) (m1 m2 : TrM σ α) (R : α → α → Prop) : Prop where
  out : ∀ o s1 s2, SerSim U o s1 s2 → OutT U R o (m1 s1) (m2 s2)

variable {U : Prop}

section rules
variable {α β : Type}

theorem RTr.weaken {m1 m2 : SerM α} {R R' : α → α → Prop} (hm : RTr U m1 m2 R)
    (h : ∀ a b, R a b → R' a b) : RTr U m1 m2 R' := by
  refine ⟨fun o s1 s2 hs => ?_⟩
  rcases hm.out o s1 s2 hs with ⟨a, b, t1, t2, e1, e2, hab, ht⟩ | ⟨e, t1, t2, e1, e2, ht⟩
  · exact .inl ⟨a, b, t1, t2, e1, e2, h a b hab, ht⟩
  · exact .inr ⟨e, t1, t2, e1, e2, ht⟩

end rules

theorem RTr.elimT {α} {m1 m2 : SerM α} {R : α → α → Prop} (h : RTr U m1 m2 R) {o s1 s2}
    (hs : SerSim U o s1 s2) : Out2 U R o (m1 s1) (m2 s2) := h.out o s1 s2 hs

section rules
variable {α β σ : Type} {P : Prop}

theorem STr.rtr {m1 m2 : SerM α} {R : α → α → Prop} (h : STr U False m1 m2 R) : RTr U m1 m2 R := by
  refine ⟨fun o s1 s2 hs => ?_⟩
  rcases h.out o s1 s2 (SerSim.iff_state.1 hs) with h' | ⟨e, t1, t2, e1, e2, _, ht⟩
  · exact .inl h' -- the `.ok` clauses of `Outs` and `Out2` agree up to `SerSim.iff_state`
  · exact .inr ⟨e, t1, t2, e1, e2, SerSim.iff_state.2 ht⟩

theorem STrT.rtrT {m1 m2 : TrM σ α} {R : α → α → Prop} (h : STrT U False m1 m2 R) :
    RTrT U m1 m2 R := by
  refine ⟨fun o s1 s2 hs => ?_⟩
  rcases h.out o s1 s2 (SerSim.iff_state.1 hs) with h' | ⟨e, k1, k2, t1, t2, e1, e2, _, ht⟩
  · exact .inl h'
  · exact .inr ⟨e, k1, k2, t1, t2, e1, e2, SerSim.iff_state.2 ht⟩

theorem STr.tr {m : SerM α} {R : α → α → Prop} {Q : α → Prop} (h : STr False P m m R)
    (hQ : ∀ a b, R a b → P → Q a) : Tr P m Q := by
  refine ⟨fun s hs => ?_⟩
  rcases h.out [] s s (.refl (PoolClean.iff_base.1 hs)) with ⟨a, b, t1, t2, e1, _, hab, ht⟩ | ⟨e, t1, t2, e1, _, he, ht⟩
  · rw [e1]
    exact ⟨PoolClean.iff_base.2 ht.2.2.2.1, fun hp => ⟨nofun, fun a' h' => by cases h'; exact hQ a b hab hp⟩⟩
  · rw [e1]
    exact ⟨PoolClean.iff_base.2 ht.2.2.2.1, fun hp => ⟨fun h' => he hp (by cases h'; rfl), nofun⟩⟩

theorem STrT.ttr {m : TrM σ α} {R : α → α → Prop} {Q : α → Prop} (h : STrT False P m m R)
    (hQ : ∀ a b, R a b → P → Q a) : TTr P m Q := by
  refine ⟨fun s hs => ?_⟩
  rcases h.out [] s s (.refl (PoolClean.iff_base.1 hs)) with
    ⟨a, b, t1, t2, e1, _, hab, ht⟩ | ⟨e, k1, k2, t1, t2, e1, _, he, ht⟩
  · rw [e1]
    exact ⟨PoolClean.iff_base.2 ht.2.2.2.1, fun hp => ⟨nofun, fun a' h' => by cases h'; exact hQ a b hab hp⟩⟩
  · rw [e1]
    exact ⟨PoolClean.iff_base.2 ht.2.2.2.1, fun hp => ⟨fun k h' => he hp (by cases h'; rfl), nofun⟩⟩

end rules

section main
variable {S : Schema} (ext : Ext) (allowSlow : Bool)

theorem ser_rel (sv : SV) (node : Node) :
    RTr U (ser ext allowSlow S node sv) (ser ext allowSlow S node sv) Eq :=
  (ser_sim ext allowSlow nofun sv node nofun).rtr

theorem serElems_rel : ∀ (elems : List SV) (k1 k2 : SeqKind), SeqRel k1 k2 →
    RTrT U (serElems ext allowSlow S k1 elems) (serElems ext allowSlow S k2 elems) SeqRel :=
  fun elems k1 k2 h => (serElems_sim ext allowSlow nofun elems k1 k2 h nofun).rtrT

theorem serFields_rel : ∀ (fs : List (String × SV)) (k1 k2 : StructKind), StructRel k1 k2 →
    RTrT U (serFields ext allowSlow S k1 fs) (serFields ext allowSlow S k2 fs) StructRel :=
  fun fs k1 k2 h =>
    ((serFields_sim ext allowSlow nofun fs k1 k2 h nofun).weaken fun _ _ h => h.1).rtrT

theorem serEntries_rel : ∀ (es : List (SV × SV)) (k1 k2 : StructKind), StructRel k1 k2 →
    RTrT U (serEntries ext allowSlow S k1 es) (serEntries ext allowSlow S k2 es) StructRel :=
  fun es k1 k2 h =>
    ((serEntries_sim ext allowSlow nofun es k1 k2 h nofun).weaken fun _ _ h => h.1).rtrT

end main

theorem SeqOK.iff_in {S : Schema} (k : SeqKind) : SeqOK S k ↔ SeqIn S k := by
  cases k <;> exact Iff.rfl

theorem StructOK.iff_in {S : Schema} (k : StructKind) : StructOK S k ↔ StructIn S k := by
  cases k <;> exact Iff.rfl

section main
variable {P : Prop} {S : Schema} (ext : Ext) (allowSlow : Bool) (hk : P → S.keysInBounds)
include hk

theorem ser_tr : ∀ (sv : SV) (node : Node), (P → NodeOK S node) →
    Tr P (ser ext allowSlow S node sv) (fun _ => True) :=
  fun sv node hn =>
    (ser_sim ext allowSlow hk sv node fun hp => NodeOK.iff_in.1 (hn hp)).tr fun _ _ _ _ => trivial

theorem serElems_tr : ∀ (elems : List SV) (k : SeqKind), (P → SeqOK S k) →
    TTr P (serElems ext allowSlow S k elems) (fun _ => True) :=
  fun elems k hok =>
    (serElems_sim ext allowSlow hk elems k k (.refl k) fun hp => (SeqOK.iff_in k).1 (hok hp)).ttr
      fun _ _ _ _ => trivial

theorem serFields_tr : ∀ (fs : List (String × SV)) (k : StructKind), (P → StructOK S k) →
    TTr P (serFields ext allowSlow S k fs) (StructOK S) :=
  fun fs k hok =>
    (serFields_sim ext allowSlow hk fs k k (.refl k) fun hp => (StructOK.iff_in k).1 (hok hp)).ttr
      fun _ _ h hp => (StructOK.iff_in _).2 (h.2 hp)

theorem serEntries_tr : ∀ (es : List (SV × SV)) (k : StructKind), (P → StructOK S k) →
    TTr P (serEntries ext allowSlow S k es) (StructOK S) :=
  fun es k hok =>
    (serEntries_sim ext allowSlow hk es k k (.refl k) fun hp => (StructOK.iff_in k).1 (hok hp)).ttr
      fun _ _ h hp => (StructOK.iff_in _).2 (h.2 hp)

end main
end Avro.Theorems
