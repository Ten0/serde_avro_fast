import AvroModel.Lemmas.DeM
import AvroModel.Lemmas.Varint
/-
The read primitives of `Impl/De.lean` (`fillBuf`, `readSome`, `readExact`, `readVarint`, `readSlice`,
`skipBytes`) on any well-formed state (slice, or reader with any chunk schedule): each is a function
of `rest` / `limit` only and leaves the state advanced by `k` bytes (`Adv k s s'`).  The slice/reader
agreement (C11) follows because both back-ends satisfy the same characterisation.  `readVarint`,
`readSlice` and `skipBytes` bypass the `Take` (they never touch `limit`), hence `s.limit = none` in
their statements; the model calls them only outside a big-decimal.
-/
namespace Avro.Impl
open Avro

/-- The reader's buffer never holds more than what is left (vacuous for the slice). -/
def RState.WF (s : RState) : Prop := s.isSlice = false → s.avail ≤ s.rest.length

/-- `s'` is `s` advanced by `k` bytes. -/
structure Adv (k : Nat) (s s' : RState) : Prop where
  isSlice : s'.isSlice = s.isSlice
  rest : s'.rest = s.rest.drop k
  limit : s'.limit = s.limit.map (· - k)
  maxAlloc : s'.maxAlloc = s.maxAlloc
  wf : s'.WF

theorem Adv.zero {s : RState} (h : s.WF) : Adv 0 s s := by
  refine ⟨rfl, by simp, ?_, rfl, h⟩
  cases s.limit <;> simp

theorem Adv.trans {j k : Nat} {s s' s'' : RState} (h1 : Adv j s s') (h2 : Adv k s' s'') :
    Adv (j + k) s s'' := by
  refine ⟨h2.isSlice.trans h1.isSlice, ?_, ?_, h2.maxAlloc.trans h1.maxAlloc, h2.wf⟩
  · rw [h2.rest, h1.rest, List.drop_drop]
  · rw [h2.limit, h1.limit]
    cases s.limit with
    | none => rfl
    | some l => exact congrArg some (Nat.sub_sub ..)

theorem Adv.length {k : Nat} {s s' : RState} (h : Adv k s s') :
    s'.rest.length = s.rest.length - k := by
  rw [h.rest, List.length_drop]

/-- what a `read` of `k` bytes may return at most, given the `Take` limit -/
def RState.lim (s : RState) (k : Nat) : Nat :=
  match s.limit with
  | none => k
  | some l => min k l

/-- number of bytes still readable (through the `Take` limit, if any) -/
def RState.eff (s : RState) : Nat :=
  match s.limit with
  | none => s.rest.length
  | some l => min l s.rest.length

theorem RState.eff_le_rest (s : RState) : s.eff ≤ s.rest.length := by
  unfold RState.eff
  cases s.limit <;> simp only <;> omega

theorem Adv.eff {k : Nat} {s s' : RState} (h : Adv k s s') : s'.eff = s.eff - k := by
  unfold RState.eff
  rw [h.limit, h.length]
  cases s.limit with
  | none => rfl
  | some l => exact Nat.sub_min_sub_right ..

theorem fillBuf_total (s : RState) :
    ∃ a s', fillBuf s = (.ok (s.rest.take a), s') ∧ s'.rest = s.rest ∧
      s'.isSlice = s.isSlice ∧ s'.limit = s.limit := by
  obtain ⟨n, a, sc, -, e⟩ := fillBuf_eq s
  exact ⟨n, _, e, rfl, rfl, rfl⟩

theorem fillBuf_slice {s : RState} (hs : s.isSlice = true) : fillBuf s = (.ok s.rest, s) := by
  simp [fillBuf, hs]

theorem fillBuf_spec (s : RState) (h : s.WF) :
    ∃ a s', fillBuf s = (.ok (s.rest.take a), s') ∧ a ≤ s.rest.length ∧
      (s.rest ≠ [] → 0 < a) ∧
      s'.isSlice = s.isSlice ∧ s'.rest = s.rest ∧ s'.limit = s.limit ∧
      s'.maxAlloc = s.maxAlloc ∧ (s.isSlice = false → s'.avail = a) := by
  unfold fillBuf
  by_cases hs : s.isSlice = true
  · refine ⟨s.rest.length, s, by simp [hs], Nat.le_refl _, ?_, rfl, rfl, rfl, rfl, by simp [hs]⟩
    intro hne
    cases hr : s.rest with
    | nil => exact absurd hr hne
    | cons => simp
  · have hs' : s.isSlice = false := by simpa using hs
    have hw := h hs'
    by_cases ha : s.avail > 0
    · exact ⟨s.avail, s, by simp [hs', ha], hw, fun _ => ha, rfl, rfl, rfl, rfl, fun _ => rfl⟩
    · cases hsc : s.sched with
      | nil =>
        refine ⟨min (max s.lastChunk 1) s.rest.length,
          { s with avail := min (max s.lastChunk 1) s.rest.length, sched := [] },
          by simp [hs', ha], ?_, ?_,
          rfl, rfl, rfl, rfl, fun _ => rfl⟩
        · omega
        · intro hne
          have : 0 < s.rest.length := List.length_pos_iff.2 hne
          omega
      | cons c r =>
        refine ⟨min (max c 1) s.rest.length,
          { s with avail := min (max c 1) s.rest.length, sched := r },
          by simp [hs', ha], ?_, ?_,
          rfl, rfl, rfl, rfl, fun _ => rfl⟩
        · omega
        · intro hne
          have : 0 < s.rest.length := List.length_pos_iff.2 hne
          omega

theorem readSome_eq (k : Nat) (s : RState) :
    readSome k s =
      if s.lim k = 0 then (.ok [], s) else
      match fillBuf s with
      | (.error e, s') => (.error e, s')
      | (.ok buf, s') =>
        (.ok (buf.take (min (s.lim k) buf.length)),
          { s' with rest := s'.rest.drop (min (s.lim k) buf.length),
                    avail := s'.avail - min (s.lim k) buf.length,
                    limit := s'.limit.map (· - min (s.lim k) buf.length) }) := rfl

theorem readSome_spec (k : Nat) (s : RState) (h : s.WF) :
    ∃ m s', readSome k s = (.ok (s.rest.take m), s') ∧ m ≤ s.lim k ∧ m ≤ s.rest.length ∧
      (s.lim k ≠ 0 → s.rest ≠ [] → 0 < m) ∧ Adv m s s' := by
  rw [readSome_eq]
  by_cases hk : s.lim k = 0
  · exact ⟨0, s, by simp [hk], by omega, by omega, fun h => absurd hk h, Adv.zero h⟩
  · obtain ⟨a, s1, hf, hal, hapos, h1, h2, h3, h4, h5⟩ := fillBuf_spec s h
    refine ⟨min (s.lim k) a,
      { s1 with rest := s1.rest.drop (min (s.lim k) a), avail := s1.avail - min (s.lim k) a,
                limit := s1.limit.map (· - min (s.lim k) a) }, ?_, by omega, by omega, ?_, ?_⟩
    · simp only [hk, if_false, hf, List.length_take, List.take_take]
      have e1 : min a s.rest.length = a := by omega
      have e2 : min (min (s.lim k) a) a = min (s.lim k) a := by omega
      rw [e1, e2]
    · intro _ hne
      have := hapos hne
      omega
    · refine ⟨h1, by simp [h2], by simp [h3], h4, ?_⟩
      intro hsl
      have hsl' : s.isSlice = false := by simpa [h1] using hsl
      have := h5 hsl'
      simp only [List.length_drop, h2, this]
      omega

theorem lim_pos_of_eff {s : RState} {k : Nat} (h : k + 1 ≤ s.eff) : s.lim (k + 1) ≠ 0 := by
  unfold RState.lim; unfold RState.eff at h
  cases hl : s.limit <;> simp only [hl] at h ⊢ <;> omega

theorem lim_le_eff {s : RState} {k : Nat} : min (s.lim k) s.rest.length ≤ s.eff := by
  unfold RState.lim RState.eff
  cases hl : s.limit <;> simp only <;> omega

theorem readExactR_spec (fuel : Nat) : ∀ (k : Nat) (acc : Bytes) (s : RState), s.WF → k ≤ fuel →
    (k ≤ s.eff → ∃ s', readExactR fuel k acc s = (.ok (acc ++ s.rest.take k), s') ∧ Adv k s s') ∧
    (s.eff < k → ∃ s', readExactR fuel k acc s = (.error .io, s')) := by
  induction fuel with
  | zero =>
    intro k acc s h hk
    have : k = 0 := by omega
    subst this
    exact ⟨fun _ => ⟨s, by simp [readExactR, pure], Adv.zero h⟩, fun h => by omega⟩
  | succ fuel ih =>
    intro k acc s h hk
    cases k with
    | zero => exact ⟨fun _ => ⟨s, by simp [readExactR, pure], Adv.zero h⟩, fun h => by omega⟩
    | succ k =>
      obtain ⟨m, s1, hrs, hm1, hm2, hmpos, hadv⟩ := readSome_spec (k + 1) s h
      have hlen : (s.rest.take m).length = m := by rw [List.length_take]; omega
      have hstep : readExactR (fuel + 1) (k + 1) acc s =
          if m = 0 then (.error .io, s1)
          else readExactR fuel (k + 1 - m) (acc ++ s.rest.take m) s1 := by
        simp only [readExactR, bind, hrs]
        by_cases hm0 : m = 0
        · simp [hm0, DeM.fail]
        · have : (List.take m s.rest).isEmpty = false := by
            rw [List.isEmpty_eq_false_iff]
            intro hnil
            rw [hnil] at hlen
            simp at hlen; omega
          simp [this, hm0, hlen]
      have hmle : m ≤ s.eff := by
        have := @lim_le_eff s (k + 1)
        omega
      have hmk : m ≤ k + 1 := by
        have : s.lim (k + 1) ≤ k + 1 := by
          unfold RState.lim; cases s.limit <;> simp only <;> omega
        omega
      constructor
      · intro hke
        have hne : s.rest ≠ [] := by
          intro hnil
          unfold RState.eff at hke
          rw [hnil] at hke
          cases hl : s.limit <;> simp only [hl, List.length_nil] at hke <;> omega
        have hmp := hmpos (lim_pos_of_eff hke) hne
        obtain ⟨s', hs', hadv'⟩ := (ih (k + 1 - m) (acc ++ s.rest.take m) s1 hadv.wf (by omega)).1
          (by rw [hadv.eff]; omega)
        refine ⟨s', ?_, ?_⟩
        · rw [hstep, if_neg (Nat.ne_of_gt hmp), hs', hadv.rest, List.append_assoc, ← List.take_add,
            show m + (k + 1 - m) = k + 1 by omega]
        · have := hadv.trans hadv'
          rwa [show m + (k + 1 - m) = k + 1 by omega] at this
      · intro hke
        rw [hstep]
        by_cases hm0 : m = 0
        · exact ⟨_, by rw [if_pos hm0]⟩
        · rw [if_neg hm0]
          exact (ih (k + 1 - m) (acc ++ s.rest.take m) s1 hadv.wf (by omega)).2
            (by rw [hadv.eff]; omega)

theorem readExact_spec (k : Nat) (s : RState) (h : s.WF) :
    (k ≤ s.eff → ∃ s', readExact k s = (.ok (s.rest.take k), s') ∧ Adv k s s') ∧
    (s.eff < k → ∃ s', readExact k s = (.error .io, s')) := by
  have := readExactR_spec k k [] s h (Nat.le_refl _)
  simpa [readExact] using this

/- `decode_var` only looks at the varint prefix. -/

theorem decodeVarU64Aux_cons (b : UInt8) (tl : Bytes) (r sh : Nat) :
    decodeVarU64Aux (b :: tl) r sh =
      if sh + 7 > 63 then
        (if b.toNat < 2 then some (r ||| (((b.toNat &&& 0x7F) <<< sh) % 2 ^ 64), (sh + 7) / 7)
         else none)
      else if b.toNat &&& 0x80 = 0 then
        some (r ||| (((b.toNat &&& 0x7F) <<< sh) % 2 ^ 64), (sh + 7) / 7)
      else decodeVarU64Aux tl (r ||| (((b.toNat &&& 0x7F) <<< sh) % 2 ^ 64)) (sh + 7) := by
  rw [decodeVarU64Aux]

theorem decodeVarU64Aux_append (l more : Bytes) : ∀ (r sh v k : Nat),
    decodeVarU64Aux l r sh = some (v, k) → decodeVarU64Aux (l ++ more) r sh = some (v, k) := by
  induction l with
  | nil => intro r sh v k h; simp [decodeVarU64Aux] at h
  | cons b tl ih =>
    intro r sh v k h
    rw [List.cons_append, decodeVarU64Aux_cons]
    rw [decodeVarU64Aux_cons] at h
    by_cases h1 : sh + 7 > 63 <;> by_cases h2 : b.toNat &&& 0x80 = 0 <;>
      simp only [h1, h2, if_true, if_false] at h ⊢ <;>
      first | exact h | exact ih _ _ _ _ h

theorem decodeVarU64Aux_allcont_none (l : Bytes) : ∀ (r sh : Nat),
    (∀ x ∈ l, x.toNat &&& 0x80 ≠ 0) → decodeVarU64Aux l r sh = none := by
  induction l with
  | nil => intro r sh _; simp [decodeVarU64Aux]
  | cons b tl ih =>
    intro r sh hc
    have hb : b.toNat &&& 0x80 ≠ 0 := hc b (by simp)
    have hb2 : ¬ (b.toNat < 2) := by
      intro h2
      exact hb ((and_128_eq_zero_iff b.toNat b.toNat_lt).2 (by omega))
    rw [decodeVarU64Aux_cons]
    by_cases h1 : sh + 7 > 63
    · simp only [h1, hb2, if_true, if_false]
    · simp only [h1, hb, if_false]
      exact ih _ _ (fun x hx => hc x (by simp [hx]))

/-- `70 = 7 · 10`: ten bytes at most; `sh + 7 > 63` is `decodeVarU64Aux`'s own test for the tenth
    byte. -/
theorem decodeVarU64Aux_cont_term (buf : Bytes) (b : UInt8) (tl : Bytes) : ∀ (r sh : Nat),
    (∀ x ∈ buf, x.toNat &&& 0x80 ≠ 0) → sh + 7 * (buf.length + 1) ≤ 70 →
    (b.toNat &&& 0x80 = 0 ∨ sh + 7 * (buf.length + 1) > 63) →
    decodeVarU64Aux (buf ++ b :: tl) r sh = decodeVarU64Aux (buf ++ [b]) r sh ∧
    ∀ v k, decodeVarU64Aux (buf ++ [b]) r sh = some (v, k) → k = (sh + 7 * (buf.length + 1)) / 7 := by
  induction buf with
  | nil =>
    intro r sh _ hl hb
    simp only [List.nil_append, List.length_nil, Nat.zero_add, Nat.mul_one] at hl hb ⊢
    rw [decodeVarU64Aux_cons, decodeVarU64Aux_cons]
    by_cases h1 : sh + 7 > 63
    · simp only [h1, if_true, true_and]
      intro v k h
      split at h
      · simp only [Option.some.injEq, Prod.mk.injEq] at h; exact h.2.symm
      · simp at h
    · have h2 : b.toNat &&& 0x80 = 0 := by
        rcases hb with hb | hb
        · exact hb
        · omega
      simp only [h1, h2, if_true, if_false, true_and]
      intro v k h
      simp only [Option.some.injEq, Prod.mk.injEq] at h; exact h.2.symm
  | cons c buf ih =>
    intro r sh hc hl hb
    simp only [List.length_cons] at hl hb ⊢
    have hn1 : ¬ (sh + 7 > 63) := by omega
    have hn2 : ¬ (c.toNat &&& 0x80 = 0) := hc c (by simp)
    rw [List.cons_append, List.cons_append, decodeVarU64Aux_cons, decodeVarU64Aux_cons]
    simp only [hn1, hn2, if_false]
    have := ih (r ||| (((c.toNat &&& 0x7F) <<< sh) % 2 ^ 64)) (sh + 7)
      (fun x hx => hc x (by simp [hx])) (by omega) (by omega)
    rw [show sh + 7 + 7 * (buf.length + 1) = sh + 7 * (buf.length + 1 + 1) by omega] at this
    exact this

theorem decodeVar_some {t : VarTy} {src : Bytes} {v : Int} {k : Nat}
    (h : decodeVar t src = some (v, k)) : ∃ n, decodeVarU64 src = some (n, k) := by
  cases hu : decodeVarU64 src with
  | none => cases t <;> simp [decodeVar, decodeVarI32, decodeVarI64, decodeVarU32, hu] at h
  | some p =>
    obtain ⟨n, k'⟩ := p
    refine ⟨n, ?_⟩
    cases t <;> simp [decodeVar, decodeVarI32, decodeVarI64, decodeVarU32, hu] at h
    · rw [h.2.2]
    · rw [h.2]
    · rw [h.2.2]
    · rw [h.2]

theorem decodeVar_congr (t : VarTy) {a b : Bytes} (h : decodeVarU64 a = decodeVarU64 b) :
    decodeVar t a = decodeVar t b := by
  cases t <;> simp [decodeVar, decodeVarI32, decodeVarI64, decodeVarU32, h]

theorem decodeVar_le {t : VarTy} {src : Bytes} {v : Int} {k : Nat}
    (h : decodeVar t src = some (v, k)) : k ≤ src.length := by
  obtain ⟨n, hn⟩ := decodeVar_some h
  exact (decodeVarU64_to_spec src n k hn).2.2.2.2

theorem decodeVar_append {t : VarTy} {l : Bytes} {v : Int} {k : Nat} (more : Bytes)
    (h : decodeVar t l = some (v, k)) : decodeVar t (l ++ more) = some (v, k) := by
  obtain ⟨n, hn⟩ := decodeVar_some h
  rw [← h]
  apply decodeVar_congr
  rw [hn]
  exact decodeVarU64Aux_append l more 0 0 n k hn

theorem decodeVar_pos {t : VarTy} {src : Bytes} {v : Int} {k : Nat}
    (h : decodeVar t src = some (v, k)) : 0 < k ∧ k ≤ src.length := by
  refine ⟨?_, decodeVar_le h⟩
  obtain ⟨n, hn⟩ := decodeVar_some h
  have := (decodeVarU64_to_spec src n k hn).2.2.1
  omega

theorem decodeVar_cut_none (i : Int) (hi : Spec.InI64 i) (j : Nat)
    (hj : j < (encodeVarI64 i).length) : decodeVar .i64 ((encodeVarI64 i).take j) = none := by
  cases hd : decodeVar .i64 ((encodeVarI64 i).take j) with
  | none => rfl
  | some p =>
    exfalso
    obtain ⟨v, k⟩ := p
    have h1 := decodeVar_append ((encodeVarI64 i).drop j) hd
    rw [List.take_append_drop] at h1
    have h2 : decodeVar .i64 (encodeVarI64 i ++ []) = some (i, (encodeVarI64 i).length) :=
      decodeVarI64_encode i hi []
    rw [List.append_nil, h1] at h2
    simp only [Option.some.injEq, Prod.mk.injEq] at h2
    have h3 := decodeVar_le hd
    rw [List.length_take] at h3
    omega

theorem decodeVar_allcont_none (t : VarTy) (buf : Bytes) (hc : ∀ x ∈ buf, x.toNat &&& 0x80 ≠ 0) :
    decodeVar t buf = none := by
  have : decodeVarU64 buf = none := decodeVarU64Aux_allcont_none buf 0 0 hc
  cases t <;> simp [decodeVar, decodeVarI32, decodeVarI64, decodeVarU32, this]

theorem decodeVar_cont_term (t : VarTy) (buf : Bytes) (b : UInt8) (tl : Bytes)
    (hc : ∀ x ∈ buf, x.toNat &&& 0x80 ≠ 0) (hl : buf.length + 1 ≤ 10)
    (hb : b.toNat &&& 0x80 = 0 ∨ buf.length + 1 = 10) :
    decodeVar t (buf ++ b :: tl) = decodeVar t (buf ++ [b]) ∧
    ∀ v k, decodeVar t (buf ++ [b]) = some (v, k) → k = buf.length + 1 := by
  obtain ⟨h1, h2⟩ := decodeVarU64Aux_cont_term buf b tl 0 0 hc (by omega) (by omega)
  refine ⟨decodeVar_congr t h1, ?_⟩
  intro v k h
  obtain ⟨n, hn⟩ := decodeVar_some h
  have := h2 n k hn
  omega

/-- `10`: the buffer of `varintBytewise` (`readVarint` starts it at fuel 10).  The `∀ z` clause: input
    that ends inside a decodable varint is the I/O error, not `custom`. -/
theorem varintBytewise_spec (t : VarTy) (fuel : Nat) : ∀ (buf : Bytes) (s : RState),
    s.WF → s.limit = none → buf.length + fuel = 10 → 0 < fuel →
    (∀ x ∈ buf, x.toNat &&& 0x80 ≠ 0) →
    (∀ v k, decodeVar t (buf ++ s.rest) = some (v, k) →
      ∃ j s', varintBytewise t fuel buf s = (.ok v, s') ∧ Adv j s s' ∧ buf.length + j = k) ∧
    (decodeVar t (buf ++ s.rest) = none →
      ∃ e s', varintBytewise t fuel buf s = (.error e, s') ∧
        ∀ z, (decodeVar t (buf ++ (s.rest ++ z))).isSome = true → e = .io) := by
  induction fuel with
  | zero => intros; omega
  | succ fuel ih =>
    intro buf s h hlim hlen _ hc
    obtain ⟨m, s1, hrs, hm1, hm2, hmpos, hadv⟩ := readSome_spec 1 s h
    have hl1 : s.lim 1 = 1 := by simp [RState.lim, hlim]
    cases hr : s.rest with
    | nil =>
      have hstep : varintBytewise t (fuel + 1) buf s = (.error .io, s1) := by
        simp [varintBytewise, bind, hrs, hr, DeM.fail]
      have hnone : decodeVar t (buf ++ []) = none := by
        rw [List.append_nil]; exact decodeVar_allcont_none t buf hc
      constructor
      · intro v k hd; rw [hnone] at hd; cases hd
      · intro _; exact ⟨_, _, hstep, fun _ _ => rfl⟩
    | cons b tl =>
      have hm : m = 1 := by
        have := hmpos (by omega) (by simp [hr])
        omega
      subst hm
      have hgot : s.rest.take 1 = [b] := by simp [hr]
      have hs1 : s1.rest = tl := by rw [hadv.rest, hr]; rfl
      have hs1lim : s1.limit = none := by rw [hadv.limit, hlim]; rfl
      by_cases hstop : b.toNat &&& 0x80 = 0 ∨ (buf ++ [b]).length = 10
      · have hstep : varintBytewise t (fuel + 1) buf s =
            match decodeVar t (buf ++ [b]) with
            | some (v, _) => (.ok v, s1)
            | none => (.error .custom, s1) := by
          simp only [varintBytewise, bind, hrs, hgot, hstop, if_true]
          split <;> simp [pure, DeM.fail, *]
        obtain ⟨e1, e2⟩ := decodeVar_cont_term t buf b tl hc (by omega) (by simpa using hstop)
        rw [e1]
        constructor
        · intro v k hd
          exact ⟨1, s1, by rw [hstep, hd], hadv, (e2 v k hd).symm⟩
        · intro hd
          refine ⟨_, _, by rw [hstep, hd], fun z hz => ?_⟩
          obtain ⟨e1', -⟩ :=
            decodeVar_cont_term t buf b (tl ++ z) hc (by omega) (by simpa using hstop)
          rw [List.cons_append, e1', hd] at hz
          cases hz
      · have hstep : varintBytewise t (fuel + 1) buf s =
            varintBytewise t fuel (buf ++ [b]) s1 := by
          simp only [varintBytewise, bind, hrs, hgot, hstop, if_false]
        have hstop' : ¬ (b.toNat &&& 0x80 = 0) ∧ buf.length + 1 ≠ 10 := by
          simpa [not_or] using hstop
        have hc' : ∀ x ∈ buf ++ [b], x.toNat &&& 0x80 ≠ 0 := by
          intro x hx
          rcases List.mem_append.1 hx with hx | hx
          · exact hc x hx
          · have : x = b := by simpa using hx
            rw [this]; exact hstop'.1
        have := ih (buf ++ [b]) s1 hadv.wf hs1lim (by simp; omega) (by omega) hc'
        simp only [hs1, List.append_assoc, List.singleton_append] at this
        rw [hstep]
        constructor
        · intro v k hd
          obtain ⟨j, s', h1, h2, h3⟩ := this.1 v k hd
          refine ⟨1 + j, s', h1, hadv.trans h2, ?_⟩
          simp at h3; omega
        · exact this.2

theorem readVarint_slice {t : VarTy} {s : RState} (hs : s.isSlice = true) :
    readVarint t s =
      match decodeVar t s.rest with
      | none => (.error .custom, s)
      | some (v, k) => (.ok v, { s with rest := s.rest.drop k }) := by
  unfold readVarint
  rw [if_pos hs]
  cases decodeVar t s.rest with
  | none => rfl
  | some p => obtain ⟨v, k⟩ := p; rfl

theorem readVarint_spec (t : VarTy) (s : RState) (h : s.WF) (hlim : s.limit = none) :
    (∀ v k, decodeVar t s.rest = some (v, k) →
      ∃ s', readVarint t s = (.ok v, s') ∧ Adv k s s') ∧
    (decodeVar t s.rest = none → ∃ e s', readVarint t s = (.error e, s') ∧
      (s.isSlice = false → ∀ z, (decodeVar t (s.rest ++ z)).isSome = true → e = .io)) := by
  by_cases hs : s.isSlice = true
  · constructor
    · intro v k hd
      refine ⟨{ s with rest := s.rest.drop k }, by rw [readVarint_slice hs, hd], rfl, rfl, ?_, rfl, ?_⟩
      · simp [hlim]
      · intro hsl; simp [hs] at hsl
    · intro hd
      exact ⟨.custom, s, by rw [readVarint_slice hs, hd], fun h => by rw [hs] at h; cases h⟩
  · have hs' : s.isSlice = false := by simpa using hs
    obtain ⟨a, s1, hf, hal, hapos, h1, h2, h3, h4, h5⟩ := fillBuf_spec s h
    have ha := h5 hs'
    have hwf1 : s1.WF := by intro _; rw [ha, h2]; exact hal
    cases hb : decodeVar t (s.rest.take a) with
    | some p =>
      obtain ⟨v, k⟩ := p
      have hstep : readVarint t s =
          (.ok v, { s1 with rest := s1.rest.drop k, avail := s1.avail - k }) := by
        simp [readVarint, hs', hf, hb, consume, Prod.map]
      have hfull := decodeVar_append (s.rest.drop a) hb
      rw [List.take_append_drop] at hfull
      have hk := decodeVar_le hb
      rw [List.length_take] at hk
      constructor
      · intro v' k' hd
        rw [hfull] at hd
        simp only [Option.some.injEq, Prod.mk.injEq] at hd
        obtain ⟨rfl, rfl⟩ := hd
        refine ⟨_, hstep, h1, by simp [h2], ?_, h4, ?_⟩
        · simp [h3, hlim]
        · intro _
          simp only [List.length_drop, h2, ha]
          omega
      · intro hd; rw [hfull] at hd; cases hd
    | none =>
      have hstep : readVarint t s = varintBytewise t 10 [] s1 := by
        simp [readVarint, hs', hf, hb]
      have := varintBytewise_spec t 10 [] s1 hwf1 (by rw [h3, hlim]) (by simp) (by omega)
        (by simp)
      simp only [List.nil_append, h2] at this
      rw [hstep]
      constructor
      · intro v k hd
        obtain ⟨j, s', e1, e2, e3⟩ := this.1 v k hd
        simp at e3; subst e3
        exact ⟨s', e1, h1 ▸ e2.isSlice, by rw [e2.rest, h2], by rw [e2.limit, h3], by
          rw [e2.maxAlloc, h4], e2.wf⟩
      · intro hd
        obtain ⟨e, s', e1, he⟩ := this.2 hd
        exact ⟨e, s', e1, fun _ => he⟩

theorem eff_of_limit_none {s : RState} (h : s.limit = none) : s.eff = s.rest.length := by
  simp [RState.eff, h]

/-- `hma`: the reader refuses more than `maxAlloc` bytes. -/
theorem readSlice_spec (n : Nat) (s : RState) (h : s.WF) (hlim : s.limit = none)
    (hma : s.isSlice = false → n ≤ s.rest.length → n ≤ s.maxAlloc) :
    (n ≤ s.rest.length →
      ∃ s', readSlice n s = (.ok (s.rest.take n, s.isSlice), s') ∧ Adv n s s') ∧
    (s.rest.length < n → ∃ e s', readSlice n s = (.error e, s') ∧
      (s.isSlice = false → n ≤ s.maxAlloc → e = .io)) := by
  by_cases hs : s.isSlice = true
  · constructor
    · intro hn
      refine ⟨{ s with rest := s.rest.drop n }, ?_, rfl, rfl, ?_, rfl, ?_⟩
      · simp [readSlice, hs, Nat.not_lt.2 hn]
      · simp [hlim]
      · intro hsl; simp [hs] at hsl
    · intro hn; exact ⟨.custom, s, by simp [readSlice, hs, hn], fun h => by rw [hs] at h; cases h⟩
  · have hs' : s.isSlice = false := by simpa using hs
    obtain ⟨a, s1, hf, hal, hapos, h1, h2, h3, h4, h5⟩ := fillBuf_spec s h
    have ha := h5 hs'
    by_cases hna : n ≤ a
    · have hstep : readSlice n s =
          (.ok (s.rest.take n, false), { s1 with rest := s1.rest.drop n, avail := s1.avail - n }) := by
        simp only [readSlice, hs', hf, consume, List.length_take, List.take_take]
        have e1 : n ≤ min a s.rest.length := by omega
        have e2 : min n a = n := by omega
        simp [e1, e2]
      constructor
      · intro _
        refine ⟨{ s1 with rest := s1.rest.drop n, avail := s1.avail - n },
          by rw [hstep, hs'], h1, by simp [h2], by simp [h3, hlim], h4, ?_⟩
        intro _
        simp only [List.length_drop, h2, ha]
        omega
      · intro hn; omega
    · by_cases hmx : n > s1.maxAlloc
      · have hstep : readSlice n s = (.error .custom, s1) := by
          simp only [readSlice, hs', hf, List.length_take]
          have e1 : ¬ n ≤ min a s.rest.length := by omega
          simp [e1, hmx]
        constructor
        · intro hn; have := hma hs' hn; omega
        · intro _; exact ⟨_, _, hstep, fun _ hle => by rw [h4] at hmx; omega⟩
      · let s2 : RState := { s1 with scratch := max s1.scratch n }
        have hstep : readSlice n s =
            match readExactR n n [] s2 with
            | (.ok b, s'') => (.ok (b, false), s'')
            | (.error e, s'') => (.error e, s'') := by
          simp only [readSlice, hs', hf, List.length_take]
          have e1 : ¬ n ≤ min a s.rest.length := by omega
          simp [e1, hmx, s2]
          rfl
        have hwf2 : s2.WF := by intro _; show s1.avail ≤ s1.rest.length; rw [ha, h2]; exact hal
        have heff : s2.eff = s.rest.length := by
          rw [eff_of_limit_none (show s2.limit = none by show s1.limit = none; rw [h3, hlim])]
          show s1.rest.length = _; rw [h2]
        have hsp := readExactR_spec n n [] s2 hwf2 (Nat.le_refl _)
        rw [heff] at hsp
        constructor
        · intro hn
          obtain ⟨s', e1, e2⟩ := hsp.1 hn
          refine ⟨s', ?_, e2.isSlice.trans h1, ?_, ?_, e2.maxAlloc.trans h4, e2.wf⟩
          · rw [hstep, e1, hs']; show _ = (Except.ok (List.take n s.rest, false), s')
            have : s2.rest = s.rest := h2
            simp [this]
          · rw [e2.rest]; show s1.rest.drop n = _; rw [h2]
          · rw [e2.limit]; show s1.limit.map _ = _; rw [h3]
        · intro hn
          obtain ⟨s', e1⟩ := hsp.2 hn
          exact ⟨.io, s', by rw [hstep, e1], fun _ _ => rfl⟩

theorem skipBytes_go_spec (fuel left : Nat) (s : RState) (h : s.WF) (hlim : s.limit = none)
    (hl : left ≤ fuel) (hlen : left ≤ s.rest.length) : Adv left s (skipBytes.go fuel left s) := by
  obtain ⟨s', e, a⟩ := (readExactR_spec fuel left [] s h hl).1 (by rw [eff_of_limit_none hlim]; exact hlen)
  rw [skipBytes_go_eq fuel left [], e]
  exact a

theorem skipBytes_spec (n : Nat) (s : RState) (h : s.WF) (hlim : s.limit = none) :
    (n ≤ s.rest.length → ∃ s', skipBytes n s = (.ok (), s') ∧ Adv n s s') ∧
    (s.rest.length < n → ∃ e s', skipBytes n s = (.error e, s')) := by
  by_cases hs : s.isSlice = true
  · constructor
    · intro hn
      refine ⟨{ s with rest := s.rest.drop n }, ?_, rfl, rfl, ?_, rfl, ?_⟩
      · simp [skipBytes, hs, hn]
      · simp [hlim]
      · intro hsl; simp [hs] at hsl
    · intro hn; exact ⟨.custom, s, by simp [skipBytes, hs, Nat.not_le.2 hn]⟩
  · have hs' : s.isSlice = false := by simpa using hs
    constructor
    · intro hn
      have e : min n s.rest.length = n := by omega
      refine ⟨skipBytes.go n n s, ?_, skipBytes_go_spec n n s h hlim (Nat.le_refl _) hn⟩
      simp [skipBytes, hs', e]
    · intro hn
      have e : min n s.rest.length ≠ n := by omega
      exact ⟨_, _, by simp only [skipBytes, hs', e]; rfl⟩

theorem varintProcessor_finished (t : VarTy) (fuel : Nat) (buf : Bytes)
    (hf : buf ≠ [] ∧ (buf.getLast?.getD 0).toNat &&& 0x80 = 0) :
    varintProcessor t fuel buf =
      (match decodeVar t buf with
       | some (v, _) => pure v
       | none => DeM.fail .io) := by
  cases fuel with
  | zero => rw [varintProcessor]; rfl
  | succ fuel => rw [varintProcessor, if_pos hf]; rfl

end Avro.Impl
