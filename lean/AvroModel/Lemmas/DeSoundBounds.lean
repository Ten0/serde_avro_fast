import AvroModel.Lemmas.DeSoundLayouts
/-
Soundness of the deserializer with the budgets: a value that is successfully deserialized with
depth budget `depth` and sequence limit `cfg.maxSeqSize` nests at most `depth` deep and has no array
or map longer than `cfg.maxSeqSize`. The induction is `sndS` (Lemmas/DeSoundLayouts); `SndB` is its
statement with the count `nr` of items read so far assumed within the limit (it differs in the two
loops only), `de_sound_bounds` the theorem on a slice state; used to state C12 on all layouts without
hypotheses on the decoded value.
-/
namespace Avro.Impl
open Avro Avro.Spec

structure SndB (cfg : DeConfig) (S : Schema) (fuel : Nat) : Prop where
  any : ∀ n depth bs, Inv (deAny deExtModel cfg S fuel n depth .any) bs (SoundQB cfg S n bs depth)
  de : ∀ n depth bs, Inv (de deExtModel cfg S fuel n depth false .any) bs (SoundQB cfg S n bs depth)
  seq : ∀ item depth c nr acc bs, nr ≤ cfg.maxSeqSize →
    Inv (deSeqLoop deExtModel cfg S fuel item depth false .any none ⟨c, nr⟩ acc) bs
      (fun out rest => ∃ vs1 r1 more os fS,
        decodeItemsL Limits.impl S fS item c bs = some (vs1, r1) ∧
        decodeBlocksL Limits.impl S fS item r1 = some (more, rest) ∧
        observeList S item (vs1 ++ more) = some os ∧ out = acc.reverse ++ os ∧
        depthItems (vs1 ++ more) ≤ depth ∧ maxLenItems (vs1 ++ more) ≤ cfg.maxSeqSize ∧
        nr + more.length ≤ cfg.maxSeqSize)
  map : ∀ item depth c nr acc bs, nr ≤ cfg.maxSeqSize →
    Inv (deMapLoop deExtModel cfg S fuel item depth false .any ⟨c, nr⟩ acc) bs
      (fun out rest => ∃ es1 r1 more os fS,
        decodeMapItemsL Limits.impl S fS item c bs = some (es1, r1) ∧
        decodeMapBlocksL Limits.impl S fS item r1 = some (more, rest) ∧
        observeEntries S item (es1 ++ more) = some os ∧ out = acc.reverse ++ os ∧
        depthEntries (es1 ++ more) ≤ depth ∧ maxLenEntries (es1 ++ more) ≤ cfg.maxSeqSize ∧
        nr + more.length ≤ cfg.maxSeqSize)
  fields : ∀ fields depth acc bs,
    Inv (deRecordFields deExtModel cfg S fuel fields depth .any acc) bs
      (fun out rest => ∃ vals os fS,
        decodeFieldsL Limits.impl S fS (fields.map (·.2)) bs = some (vals, rest) ∧
        observeFields S fields vals = some os ∧ out = acc.reverse ++ os ∧
        depthItems vals ≤ depth ∧ maxLenItems vals ≤ cfg.maxSeqSize)

variable (cfg : DeConfig) (S : Schema)

theorem sndB (fuel : Nat) : SndB cfg S fuel :=
  have h := sndS cfg S fuel
  ⟨h.any, h.de,
   fun item depth c nr acc bs hnr => (h.seq item depth c nr acc bs).mono
     fun _ _ ⟨vs1, r1, more, os, fS, hi, hb, hos, ho, hd, hm, hc⟩ =>
       ⟨vs1, r1, more, os, fS, hi, hb, hos, ho, hd, hm, hc hnr⟩,
   fun item depth c nr acc bs hnr => (h.map item depth c nr acc bs).mono
     fun _ _ ⟨es1, r1, more, os, fS, hi, hb, hos, ho, hd, hm, hc⟩ =>
       ⟨es1, r1, more, os, fS, hi, hb, hos, ho, hd, hm, hc hnr⟩,
   h.fields⟩

/-- **Soundness with the budgets**: whatever the deserializer accepts is a run of the limited
    specification decoder whose value respects the depth budget and the sequence limit. -/
theorem de_sound_bounds (n : Node) (depth fuel : Nat) (s s' : RState) (o : Out)
    (hs : s.isSlice = true) (hl : s.limit = none) (ha : s.avail = 0)
    (h : de deExtModel cfg S fuel n depth false .any s = (.ok o, s')) :
    ∃ v fuelS, decodeL Limits.impl S fuelS n s.rest = some (v, s'.rest) ∧
      observe S n v = some o ∧ depthOf v ≤ depth ∧ maxLen v ≤ cfg.maxSeqSize ∧
      s' = { s with rest := s'.rest } := by
  obtain ⟨r, rfl, v, fS, hv, ho, hd, hm⟩ := ((sndB cfg S fuel).de n depth s.rest).run hs hl ha h
  exact ⟨v, fS, hv, ho, hd, hm, rfl⟩

end Avro.Impl
