import AvroModel.Impl.De
/-
Equations of the mutual block `de / deTypeNameEnum / deAny / deIgnored / deSeqLoop / deMapLoop /
deRecordFields` that proofs rewrite with by name.  The out-of-fuel ones are proved by `rw [de]` and
the like on purpose: Lean then derives the equation lemmas of the seven functions here, once; a
proof that asks for them where no imported module has done so derives them again, theorem by
theorem.  For a walk over all arms of a function, `unfold` and `split` on its match is quicker to
check.
-/
namespace Avro.Impl
open Avro

variable {ext : DeExt} {cfg : DeConfig} {S : Schema}

theorem de_zero {node : Node} {depth : Nat} {favor : Bool} {h : Hint} :
    de ext cfg S 0 node depth favor h = DeM.fail .panic := by rw [de]

theorem deTypeNameEnum_zero {node : Node} {depth : Nat} {vs : List (String × VariantHint)} :
    deTypeNameEnum ext cfg S 0 node depth vs = DeM.fail .panic := by rw [deTypeNameEnum]

theorem deAny_zero {node : Node} {depth : Nat} {h : Hint} :
    deAny ext cfg S 0 node depth h = DeM.fail .panic := by rw [deAny]

theorem deIgnored_zero {node : Node} {depth : Nat} :
    deIgnored ext cfg S 0 node depth = DeM.fail .panic := by rw [deIgnored]

theorem deSeqLoop_zero {item : Node} {depth : Nat} {ign : Bool} {eh : Hint} {mi : Option Nat}
    {bs : BlockState} {acc : List Out} :
    deSeqLoop ext cfg S 0 item depth ign eh mi bs acc = DeM.fail .panic := by
  rw [deSeqLoop]

theorem deMapLoop_zero {item : Node} {depth : Nat} {ign : Bool} {h : Hint} {bs : BlockState}
    {acc : List (Out × Out)} :
    deMapLoop ext cfg S 0 item depth ign h bs acc = DeM.fail .panic := by rw [deMapLoop]

theorem deRecordFields_zero {f : String × Nat} {rest : List (String × Nat)} {depth : Nat}
    {h : Hint} {acc : List (Out × Out)} :
    deRecordFields ext cfg S 0 (f :: rest) depth h acc = DeM.fail .panic := by
  rw [deRecordFields]

theorem deRecordFields_nil {fuel depth : Nat} {h : Hint} {acc : List (Out × Out)} :
    deRecordFields ext cfg S fuel [] depth h acc = pure acc.reverse := by
  unfold deRecordFields; rfl

theorem de_any {fuel : Nat} {node : Node} {depth : Nat} {favor : Bool} :
    de ext cfg S (fuel + 1) node depth favor .any = deAny ext cfg S fuel node depth .any := by
  unfold de; rfl

theorem deAny_array {fuel k : Nat} {item : Node} {depth : Nat} {h : Hint}
    (hk : S[k]? = some item) :
    deAny ext cfg S (fuel + 1) (.array k) depth h =
      decDepth depth >>= fun depth' =>
      deSeqLoop ext cfg S fuel item depth' false h.elem h.maxItems {} [] >>= fun items =>
      pure (.seq items) := by
  unfold deAny; dsimp only; rw [hk]

theorem deAny_map {fuel k : Nat} {item : Node} {depth : Nat} {h : Hint}
    (hk : S[k]? = some item) :
    deAny ext cfg S (fuel + 1) (.map k) depth h =
      decDepth depth >>= fun depth' =>
      deMapLoop ext cfg S fuel item depth' false h {} [] >>= fun entries =>
      pure (.map entries) := by
  unfold deAny; dsimp only; rw [hk]

theorem deAny_record {fuel : Nat} {nm : Name} {fields : List (String × Nat)} {depth : Nat}
    {h : Hint} :
    deAny ext cfg S (fuel + 1) (.record nm fields) depth h =
      decDepth depth >>= fun depth' =>
      deRecordFields ext cfg S fuel fields depth' h [] >>= fun entries =>
      pure (.map entries) := by
  unfold deAny; rfl

end Avro.Impl
