import AvroModel.Impl.Ser
import AvroModel.Impl.De
import AvroModel.Impl.SchemaParse
import AvroModel.Impl.SchemaRender
import AvroModel.Impl.Derive
/-
Line protocol (DESIGN.md 4.2): whitespace-separated tokens in prefix notation with explicit
counts; strings and byte strings are hex with an `x` prefix (`x` alone is the empty string).
This file is part of the trusted correspondence machinery, not of the model.
-/
namespace Driver
open Avro Avro.Impl

abbrev P := StateT (List String) (Except String)

def tok : P String := do
  match (← get) with
  | [] => throw "unexpected end of line"
  | t :: rest => set rest; pure t

def peek : P (Option String) := do
  match (← get) with
  | [] => pure none
  | t :: _ => pure (some t)

def hexVal (c : Char) : Option Nat :=
  if '0' ≤ c ∧ c ≤ '9' then some (c.toNat - '0'.toNat)
  else if 'a' ≤ c ∧ c ≤ 'f' then some (c.toNat - 'a'.toNat + 10)
  else if 'A' ≤ c ∧ c ≤ 'F' then some (c.toNat - 'A'.toNat + 10)
  else none

def hexToBytes (s : List Char) : Option Bytes :=
  match s with
  | [] => some []
  | a :: b :: rest => do
    let x ← hexVal a
    let y ← hexVal b
    let r ← hexToBytes rest
    pure (UInt8.ofNat (x * 16 + y) :: r)
  | _ => none

def hexDigit (n : Nat) : Char :=
  if n < 10 then Char.ofNat (n + '0'.toNat) else Char.ofNat (n - 10 + 'a'.toNat)

def bytesToHex (bs : Bytes) : String :=
  String.ofList (bs.flatMap fun b => [hexDigit (b.toNat / 16), hexDigit (b.toNat % 16)])

def pBytes : P Bytes := do
  let t ← tok
  match t.toList with
  | 'x' :: rest =>
    match hexToBytes rest with
    | some bs => pure bs
    | none => throw s!"bad hex {t}"
  | _ => throw s!"expected x-hex, got {t}"

def bytesToString? (bs : Bytes) : Option String := String.fromUTF8? (ByteArray.mk bs.toArray)

def pStr : P String := do
  let bs ← pBytes
  match bytesToString? bs with
  | some s => pure s
  | none => throw "string token is not UTF-8"

def pNat : P Nat := do
  let t ← tok
  match t.toNat? with
  | some n => pure n
  | none => throw s!"expected nat, got {t}"

def pInt : P Int := do
  let t ← tok
  match t.toInt? with
  | some n => pure n
  | none => throw s!"expected int, got {t}"

def pOptNat : P (Option Nat) := do
  let t ← tok
  if t = "-" then pure none else
  match t.toNat? with
  | some n => pure (some n)
  | none => throw s!"expected nat or -, got {t}"

def pHexNat : P Nat := do
  let t ← tok
  let rec go : List Char → Nat → Option Nat
    | [], acc => some acc
    | c :: rest, acc => match hexVal c with
      | some v => go rest (acc * 16 + v)
      | none => none
  match go t.toList 0 with
  | some n => pure n
  | none => throw s!"expected hex number, got {t}"

def pList {α} (p : P α) : P (List α) := do
  let n ← pNat
  let rec go : Nat → List α → P (List α)
    | 0, acc => pure acc.reverse
    | k + 1, acc => do let a ← p; go k (a :: acc)
  go n []

def pName : P Name := do pure (Name.ofFq (← pStr))

def pRegular : P RegularType := do
  let t ← tok
  match t with
  | "null" => pure .null | "boolean" => pure .boolean | "int" => pure .int | "long" => pure .long
  | "float" => pure .float | "double" => pure .double | "bytes" => pure .bytes
  | "string" => pure .string
  | "array" => do pure (.array (← pNat))
  | "map" => do pure (.map (← pNat))
  | "union" => do pure (.union (← pList pNat))
  | "record" => do
    let nm ← pName
    let fs ← pList (do let f ← pStr; let k ← pNat; pure (f, k))
    pure (.record nm fs)
  | "enum" => do
    let nm ← pName
    let syms ← pList pStr
    pure (.enum nm syms)
  | "fixed" => do
    let nm ← pName
    pure (.fixed nm (← pNat))
  | _ => throw s!"unknown regular type {t}"

def pLogical : P (Option LogicalType) := do
  let t ← tok
  match t with
  | "-" => pure none
  | "decimal" => do let s ← pNat; let p ← pNat; pure (some (.decimal s p))
  | "uuid" => pure (some .uuid) | "date" => pure (some .date)
  | "time-millis" => pure (some .timeMillis) | "time-micros" => pure (some .timeMicros)
  | "timestamp-millis" => pure (some .timestampMillis)
  | "timestamp-micros" => pure (some .timestampMicros)
  | "duration" => pure (some .duration) | "big-decimal" => pure (some .bigDecimal)
  | "unknown" => do pure (some (.unknown (← pStr)))
  | _ => throw s!"unknown logical type {t}"

def pSchemaMut : P SchemaMut := do
  let nodes ← pList (do let r ← pRegular; let l ← pLogical; pure ({ type := r, logical := l } : RawNode))
  pure nodes.toArray

def intTyOf (t : String) : Option IntTy :=
  match t with
  | "i8" => some .i8 | "i16" => some .i16 | "i32" => some .i32 | "i64" => some .i64
  | "i128" => some .i128 | "u8" => some .u8 | "u16" => some .u16 | "u32" => some .u32
  | "u64" => some .u64 | "u128" => some .u128
  | _ => none

partial def pSV : P SV := do
  let t ← tok
  match intTyOf t with
  | some ty => do pure (.int ty (← pInt))
  | none =>
  match t with
  | "bool" => do pure (.bool ((← pNat) ≠ 0))
  | "f32" => do pure (.f32 (BitVec.ofNat 32 (← pHexNat)))
  | "f64" => do pure (.f64 (BitVec.ofNat 64 (← pHexNat)))
  | "char" => do pure (.char (Char.ofNat (← pNat)))
  | "str" => do pure (.str (← pStr))
  | "bytes" => do pure (.bytes (← pBytes))
  | "none" => pure .none
  | "some" => do pure (.some (← pSV))
  | "unit" => pure .unit
  | "ustruct" => do pure (.unitStruct (← pStr))
  | "uvar" => do let n ← pStr; let i ← pNat; let v ← pStr; pure (.unitVariant n i v)
  | "nstruct" => do let n ← pStr; let v ← pSV; pure (.newtypeStruct n v)
  | "nvar" => do let n ← pStr; let i ← pNat; let var ← pStr; let v ← pSV; pure (.newtypeVariant n i var v)
  | "seq" => do let l ← pOptNat; let es ← pList pSV; pure (.seq l es)
  | "tuple" => do pure (.tuple (← pList pSV))
  | "tstruct" => do let n ← pStr; let es ← pList pSV; pure (.tupleStruct n es)
  | "tvar" => do let n ← pStr; let i ← pNat; let var ← pStr; let es ← pList pSV; pure (.tupleVariant n i var es)
  | "map" | "mapkv" => do
    -- `mapkv`: the harness presents the entries through the split serialize_key /
    -- serialize_value calls; serde defines serialize_entry as exactly that pair
    let l ← pOptNat
    let es ← pList (do let k ← pSV; let v ← pSV; pure (k, v))
    pure (.map l es)
  | "struct" => do
    let n ← pStr
    let fs ← pList (do let k ← pStr; let v ← pSV; pure (k, v))
    pure (.struct n fs)
  | "svar" => do
    let n ← pStr; let i ← pNat; let var ← pStr
    let fs ← pList (do let k ← pStr; let v ← pSV; pure (k, v))
    pure (.structVariant n i var fs)
  | _ => throw s!"unknown serde value tag {t}"

/-- Oracle table for the external parameters, shipped with the case (DESIGN.md 4.2). -/
structure ExtTable where
  f32 : List (Nat × Nat) := []
  dparse : List (String × Option (Int × Nat)) := []
  df64 : List (Nat × Option (Int × Nat)) := []
  rescale : List ((Int × Nat × Nat) × (Int × Nat)) := []

def pOptDec : P (Option (Int × Nat)) := do
  match (← peek) with
  | some "none" => do let _ ← tok; pure none
  | _ => do let m ← pInt; let s ← pNat; pure (some (m, s))

partial def pExtEntriesRaw (t : ExtTable) : P ExtTable := do
  match (← peek) with
  | some "f32" => do
    let _ ← tok; let a ← pHexNat; let b ← pHexNat
    pExtEntriesRaw { t with f32 := (a, b) :: t.f32 }
  | some "dparse" => do
    let _ ← tok; let s ← pStr; let r ← pOptDec
    pExtEntriesRaw { t with dparse := (s, r) :: t.dparse }
  | some "df64" => do
    let _ ← tok; let a ← pHexNat; let r ← pOptDec
    pExtEntriesRaw { t with df64 := (a, r) :: t.df64 }
  | some "rescale" => do
    let _ ← tok; let m ← pInt; let s ← pNat; let target ← pNat; let m' ← pInt; let s' ← pNat
    pExtEntriesRaw { t with rescale := ((m, s, target), (m', s')) :: t.rescale }
  | _ => pure t

/-- What the serializer theorems assume of `rust_decimal` (`ExtOK`, Lemmas/SerRepr.lean),
    as a check on the shipped table: every decimal a `dparse` / `df64` entry answers has a
    mantissa in `i128` and a scale below `2^63`, every `rescale` entry answers a mantissa in
    `i128`.  (`rust_decimal` mantissas have 96 bits and scales are at most 28, so the tables the
    harness records always pass.) -/
def ExtTable.ok (t : ExtTable) : Bool :=
  t.dparse.all (fun p => match p.2 with
    | none => true
    | some d => inI128 d.1 && decide (d.2 < 2 ^ 63)) &&
  t.df64.all (fun p => match p.2 with
    | none => true
    | some d => inI128 d.1 && decide (d.2 < 2 ^ 63)) &&
  t.rescale.all (fun p => inI128 p.2.1)

/-- The table of a case, checked: a case whose table is outside the range above is refused
    (`bad-case`), so every table the driver runs the model with satisfies `ExtTable.ok`
    (`pExtEntries_ok`), hence `ExtOK` (`toExt_ExtOK`, Theorems/C01driver.lean). -/
def pExtEntries (t : ExtTable) : P ExtTable := do
  let r ← pExtEntriesRaw t
  if r.ok then pure r else throw "ext table entry outside the i128 / i64 range"

/-- `f64 as f32` through Lean's runtime floats (C cast semantics); the table, when present,
    takes precedence. -/
def asF32Native (b : BitVec 64) : BitVec 32 :=
  BitVec.ofNat 32 (Float.ofBits (UInt64.ofNat b.toNat)).toFloat32.toBits.toNat

def ExtTable.toExt (t : ExtTable) : Ext where
  asF32 b := match t.f32.lookup b.toNat with
    | some r => BitVec.ofNat 32 r
    | none => asF32Native b
  decFromF64 b := (t.df64.lookup b.toNat).join
  decParse s := (t.dparse.lookup s).join
  decRescale d target := match t.rescale.lookup (d.1, d.2, target) with
    | some r => r
    | none => d

mutual
partial def pHint : P Hint := do
  let t ← tok
  match t with
  | "any" => pure .any | "u64" => pure .u64 | "i64" => pure .i64 | "u128" => pure .u128
  | "i128" => pure .i128 | "f64" => pure .f64 | "str" => pure .str | "bytes" => pure .bytes
  | "identifier" => pure .identifier | "ignored" => pure .ignored
  | "option" => do pure (.option (← pHint))
  | "seq" => do pure (.seq (← pHint))
  | "tuple" => do let n ← pNat; let h ← pHint; pure (.tuple n h)
  | "map" => do let k ← pHint; let v ← pHint; pure (.map k v)
  | "struct" => do pure (.struct (← pList (do let k ← pStr; let h ← pHint; pure (k, h))))
  | "enum" => do pure (.enum (← pList (do let k ← pStr; let v ← pVariantHint; pure (k, v))))
  | _ => throw s!"unknown hint {t}"
partial def pVariantHint : P VariantHint := do
  let t ← tok
  match t with
  | "unit" => pure .unit
  | "newtype" => do pure (.newtype (← pHint))
  | "tuple" => do let n ← pNat; let h ← pHint; pure (.tuple n h)
  | "struct" => do pure (.struct (← pList (do let k ← pStr; let h ← pHint; pure (k, h))))
  | _ => throw s!"unknown variant hint {t}"
end

def strHex (s : String) : String := "x" ++ bytesToHex s.toUTF8.data.toList

partial def outToString : Out → String
  | .unit => "unit"
  | .bool b => s!"bool {if b then 1 else 0}"
  | .i32 i => s!"i32 {i}" | .i64 i => s!"i64 {i}" | .i128 i => s!"i128 {i}"
  | .u32 n => s!"u32 {n}" | .u64 n => s!"u64 {n}" | .u128 n => s!"u128 {n}"
  | .f32 b => "f32 " ++ String.ofList (hexPad 8 b.toNat)
  | .f64 b => "f64 " ++ String.ofList (hexPad 16 b.toNat)
  | .str s b => s!"str {strHex s} {if b then 1 else 0}"
  | .bytes bs b => s!"bytes x{bytesToHex bs} {if b then 1 else 0}"
  | .none => "none"
  | .some o => "some " ++ outToString o
  | .seq items => s!"seq {items.length}" ++ String.join (items.map fun o => " " ++ outToString o)
  | .map es => s!"map {es.length}" ++ String.join (es.map fun (k, v) => " " ++ outToString k ++ " " ++ outToString v)
  | .variant n p => "variant " ++ outToString n ++ " " ++ outToString p
where
  hexPad (w : Nat) (n : Nat) : List Char :=
    (List.range w).reverse.map fun i => hexDigit ((n / 16 ^ i) % 16)

/-- inverse of `outToString` (used to judge the implementation's own outcome) -/
partial def pOut : P Out := do
  match (← tok) with
  | "unit" => pure .unit
  | "bool" => do pure (.bool ((← pNat) ≠ 0))
  | "i32" => do pure (.i32 (← pInt))
  | "i64" => do pure (.i64 (← pInt))
  | "i128" => do pure (.i128 (← pInt))
  | "u32" => do pure (.u32 (← pNat))
  | "u64" => do pure (.u64 (← pNat))
  | "u128" => do pure (.u128 (← pNat))
  | "f32" => do pure (.f32 (BitVec.ofNat 32 (← pHexNat)))
  | "f64" => do pure (.f64 (BitVec.ofNat 64 (← pHexNat)))
  | "str" => do let s ← pStr; let b ← pNat; pure (.str s (b ≠ 0))
  | "bytes" => do let bs ← pBytes; let b ← pNat; pure (.bytes bs (b ≠ 0))
  | "none" => pure .none
  | "some" => do pure (.some (← pOut))
  | "seq" => do pure (.seq (← pList pOut))
  | "map" => do pure (.map (← pList (do let k ← pOut; let v ← pOut; pure (k, v))))
  | "variant" => do let n ← pOut; let v ← pOut; pure (.variant n v)
  | t => throw s!"unknown out token {t}"

/-- `ok <out> left <n>` | `err custom` | `err io` | `panic` -/
def pDeOutcome : P (Except DeErr (Out × Nat)) := do
  match (← tok) with
  | "ok" => do
    let o ← pOut
    let _ ← tok
    let left ← pNat
    pure (.ok (o, left))
  | "err" => do
    match (← tok) with
    | "io" => pure (.error .io)
    | _ => pure (.error .custom)
  | "panic" | "abort" => pure (.error .panic)
  | t => throw s!"unknown outcome {t}"

/-! ### Derive programs (C20) -/
section DeriveParse
open Avro.Impl.Derive

def pOptStr : P (Option String) := do
  match (← peek) with
  | some "-" => do let _ ← tok; pure none
  | _ => do pure (some (← pStr))

partial def pTy : P Ty := do
  match (← tok) with
  | "unit" => pure .unit | "bool" => pure .bool
  | "i8" => pure .i8 | "i16" => pure .i16 | "i32" => pure .i32 | "i64" => pure .i64
  | "u16" => pure .u16 | "u32" => pure .u32 | "u64" => pure .u64 | "usize" => pure .usize
  | "f32" => pure .f32 | "f64" => pure .f64
  | "string" => pure .string | "str" => pure .str
  | "bytevec" => pure .byteVec | "byteslice" => pure .byteSlice
  | "bytearray" => do pure (.byteArray (← pNat))
  | "vec" => do pure (.vec (← pTy))
  | "option" => do pure (.option (← pTy))
  | "hashmap" => do pure (.hashMap (← pTy))
  | "btreemap" => do pure (.btreeMap (← pTy))
  | "ptr" => do pure (.ptr (← pTy))
  | "named" => do let id ← pNat; let args ← pList pTy; pure (.named id args)
  | "param" => do pure (.param (← pNat))
  | t => throw s!"unknown type token {t}"

def pField : P Field := do
  let name ← pStr
  let ty ← pTy
  match (← tok) with
  | "-" => pure { name, ty }
  | "logical" => do
    let l ← pStr
    let sc ← pOptNat
    let pr ← pOptNat
    pure { name, ty, attr := { logical := some l, scale := sc, precision := pr } }
  | t => throw s!"unknown attr token {t}"

def pDecl : P Decl := do
  let ident ← pStr
  let nameOverride ← pOptStr
  let ns ← pOptStr
  let nparams ← pNat
  let modulePath ← pStr
  let body ← (do
    match (← tok) with
    | "record" => do pure (Body.record (← pList pField))
    | "newtype" => do pure (Body.newtype (← pField))
    | "unitenum" => do pure (Body.unitEnum (← pList pStr))
    | "union" => do
      let vs ← pList (do
        let ident ← pStr
        let serdeName ← pStr
        match (← tok) with
        | "unit" => pure ({ ident, serdeName, field := none } : Variant)
        | "field" => do pure ({ ident, serdeName, field := some (← pField) } : Variant)
        | t => throw s!"unknown variant token {t}")
      pure (Body.union vs)
    | t => throw s!"unknown body token {t}" : P Body)
  pure { ident, nameOverride, ns, nparams, modulePath, body }

def pProg : P Prog := do pure (← pList pDecl).toArray

end DeriveParse

/-- read back-end description: `slice` | `reader <last> <n> <sizes…> <maxAlloc>` -/
def pBackend (bytes : Bytes → RState) : P (Bytes → RState) := do
  let t ← tok
  match t with
  | "slice" => pure fun b => { bytes b with isSlice := true }
  | "reader" => do
    let last ← pNat
    let sched ← pList pNat
    let maxAlloc ← pNat
    pure fun b => { bytes b with isSlice := false, lastChunk := last, sched := sched, maxAlloc := maxAlloc }
  | _ => throw s!"unknown backend {t}"

partial def pJson : P Json := do
  let t ← tok
  match t with
  | "jnull" => pure .null
  | "jbool" => do pure (.bool ((← pNat) ≠ 0))
  | "jnat" => do pure (.nat (← pNat))
  | "jnum" => pure .numOther
  | "jstr" => do pure (.str (← pStr))
  | "jarr" => do pure (.arr (← pList pJson))
  | "jobj" => do pure (.obj (← pList (do let k ← pStr; let v ← pJson; pure (k, v))))
  | _ => throw s!"unknown json tag {t}"

partial def jsonSize : Json → Nat
  | .arr items => 1 + (items.map jsonSize).foldl (· + ·) 0
  | .obj ms => 1 + (ms.map fun m => jsonSize m.2).foldl (· + ·) 0
  | _ => 1

partial def jsonToString : Json → String
  | .null => "jnull"
  | .bool b => s!"jbool {if b then 1 else 0}"
  | .nat n => s!"jnat {n}"
  | .numOther => "jnum"
  | .str s => s!"jstr {strHex s}"
  | .arr items => s!"jarr {items.length}" ++ String.join (items.map fun j => " " ++ jsonToString j)
  | .obj ms => s!"jobj {ms.length}" ++ String.join (ms.map fun (k, v) => s!" {strHex k} " ++ jsonToString v)

def logicalToString : Option LogicalType → String
  | none => "-"
  | some (.decimal s p) => s!"decimal {s} {p}"
  | some .uuid => "uuid" | some .date => "date" | some .timeMillis => "time-millis"
  | some .timeMicros => "time-micros" | some .timestampMillis => "timestamp-millis"
  | some .timestampMicros => "timestamp-micros" | some .duration => "duration"
  | some .bigDecimal => "big-decimal"
  | some (.unknown n) => s!"unknown {strHex n}"

def schemaMutToString (S : SchemaMut) : String :=
  let node (n : RawNode) : String :=
    (match n.type with
      | .null => "null" | .boolean => "boolean" | .int => "int" | .long => "long"
      | .float => "float" | .double => "double" | .bytes => "bytes" | .string => "string"
      | .array i => s!"array {i}"
      | .map v => s!"map {v}"
      | .union vs => s!"union {vs.length}" ++ String.join (vs.map fun v => s!" {v}")
      | .record nm fs => s!"record {strHex nm.fq} {fs.length}" ++ String.join (fs.map fun (f, k) => s!" {strHex f} {k}")
      | .enum nm syms => s!"enum {strHex nm.fq} {syms.length}" ++ String.join (syms.map fun s => " " ++ strHex s)
      | .fixed nm size => s!"fixed {strHex nm.fq} {size}")
    ++ " " ++ logicalToString n.logical
  s!"{S.size}" ++ String.join (S.toList.map fun n => " " ++ node n)

def run {α} (p : P α) (toks : List String) : Except String (α × List String) := p.run toks

end Driver
